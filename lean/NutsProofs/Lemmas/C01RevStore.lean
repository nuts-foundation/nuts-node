/-
  C01 — the revocation store (NutsModel/C01/RevStore.lean): `GetRevocations` by what the documents are; RegisterRevocation as
  the conjunction of its guards, none of which reads the store, hence a history of calls in closed form (`registerAll_eq`).
-/
import NutsModel.C01.RevStore
import NutsProofs.Lemmas.Base
namespace Nuts.C01

theorem decodeAll_eq (ds : List Bool) (n : Nat) :
    decodeAll ds n = if false ∈ ds then .decodeError else .found (n + ds.length) := by
  induction ds generalizing n with
  | nil => rfl
  | cons d rest ih =>
    cases d with
    | false => simp [decodeAll]
    | true => simp [decodeAll, ih, Nat.add_assoc, Nat.add_comm 1]

theorem getRevocations_docs (ds : List Bool) :
    getRevocations (.docs ds) = if ds = [] then .notFound else if false ∈ ds then .decodeError else .found ds.length := by
  cases ds with
  | nil => rfl
  | cons d rest => simp [getRevocations, decodeAll_eq]

theorem registerRevocation_ok_iff (E : Env) (sigOK : Key → Rev → Bool) (storeOK : Bool) (store s' : List Rev) (r : Rev) :
    registerRevocation E sigOK storeOK store r = .ok s' ↔
      (r.subject ≠ "" ∧ r.fragment ≠ "") ∧ (r.hasContext = true → r.typeOK = true) ∧ r.issuer ≠ "" ∧ r.date ≠ zeroTime ∧
      r.hasProof = true ∧ beforeHash r.subject = r.issuer ∧ beforeHash r.vm = r.issuer ∧
      (∃ k, resolveKeyByID E (some r.date) r.vm = some k ∧ r.proofDecodes = true ∧ sigOK k r = true) ∧ storeOK = true ∧
        store ++ [r] = s' := by
  unfold registerRevocation
  simp only [Res.ite_err_eq_ok]
  cases resolveKeyByID E (some r.date) r.vm with
  | none => simp
  | some k => simp [Res.ite_err_eq_ok, and_assoc]

theorem registerRevocation_ok_nil {E : Env} {sigOK : Key → Rev → Bool} {ok : Bool} {store s' : List Rev} {r : Rev} :
    registerRevocation E sigOK ok store r = .ok s' ↔ registerRevocation E sigOK ok [] r = .ok [r] ∧ store ++ [r] = s' := by
  simp only [registerRevocation_ok_iff, List.nil_append, and_true, and_assoc]

theorem registerAll_cons (E : Env) (sigOK : Key → Rev → Bool) (store : List Rev) (y : Rev) (b : Bool) (rest : List (Rev × Bool)) :
    registerAll E sigOK store ((y, b) :: rest) =
      registerAll E sigOK (if registerRevocation E sigOK b [] y = .ok [y] then store ++ [y] else store) rest := by
  rw [registerAll]
  cases h : registerRevocation E sigOK b store y with
  | ok s' => obtain ⟨h0, rfl⟩ := registerRevocation_ok_nil.mp h; rw [if_pos h0]
  | err e => rw [if_neg fun h0 => nomatch h.symm.trans (registerRevocation_ok_nil.mpr ⟨h0, rfl⟩)]
  | panic p => rw [if_neg fun h0 => nomatch h.symm.trans (registerRevocation_ok_nil.mpr ⟨h0, rfl⟩)]

theorem registerAll_eq (E : Env) (sigOK : Key → Rev → Bool) (store : List Rev) (calls : List (Rev × Bool)) :
    registerAll E sigOK store calls =
      store ++ (calls.filter fun c => registerRevocation E sigOK c.2 [] c.1 = .ok [c.1]).map (·.1) := by
  induction calls generalizing store with
  | nil => simp [registerAll]
  | cons c rest ih =>
    rw [registerAll_cons, ih, List.filter_cons]
    split <;> simp [*]

theorem registerAll_append (E : Env) (sigOK : Key → Rev → Bool) (s : List Rev) (l1 l2 : List (Rev × Bool)) :
    registerAll E sigOK s (l1 ++ l2) = registerAll E sigOK (registerAll E sigOK s l1) l2 := by
  simp only [registerAll_eq, List.filter_append, List.map_append, List.append_assoc]

theorem mem_registerAll {E : Env} {sigOK : Key → Rev → Bool} {calls : List (Rev × Bool)} {store : List Rev} {x : Rev} :
    x ∈ registerAll E sigOK store calls ↔
      x ∈ store ∨ ∃ ok, (x, ok) ∈ calls ∧ registerRevocation E sigOK ok [] x = .ok [x] := by
  simp [registerAll_eq]

end Nuts.C01
