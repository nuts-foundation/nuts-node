/-
  C09 — the lemma modules: `C09Resolver` (resolver.go, keys.go), `C09Callback` (ambassador.go: callback, create, update),
  `C09Runs` (histories of deliveries, REPROCESS), `C09Validators` (validators.go), `C09Entry` (the subscription, store faults).
-/
import NutsProofs.Lemmas.C09Entry
import NutsProofs.Lemmas.C09Validators
