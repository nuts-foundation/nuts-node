/-
  C02 — the per-presentation checks both grants share (s2s_vptoken.go, validation.go, session.go): what an `.ok` of
  `checkValidity`, `validateSigner`, `checkAudience`, the two presentation loops (`codePre`; `s2sPre` = `codePre` plus the
  validity check), `verifyAll`, `fulfill` and `parseDPoP` establishes.
-/
import NutsModel.C02.Token

namespace Nuts.C02

theorem checkValidity_ok (cfg : Cfg) (vp : VP) (h : checkValidity cfg vp = .ok ()) :
    ∃ c e, vp.created = some c ∧ vp.expires = some e ∧ e ≤ c + cfg.maxValidity := by
  unfold checkValidity at h
  split at h
  · rename_i c e hc he
    split at h
    · cases h
    · exact ⟨c, e, hc, he, by omega⟩
  · cases h

theorem resolveSubject_ok (l : List (Option String)) (cur s : String) (h : resolveSubject l cur = .ok s) :
    (∀ x ∈ l, x = some s ∨ x = some "") ∧ (cur = "" ∨ cur = s) := by
  fun_induction resolveSubject l cur with
  | case1 cur => cases h; exact ⟨fun _ h => (nomatch h), .inr rfl⟩
  | case2 | case3 => cases h
  | case4 a rest cur hc ih =>
    obtain ⟨hall, ha⟩ := ih h
    have hcur : cur = "" ∨ cur = a := Decidable.or_iff_not_not_and_not.2 hc
    refine ⟨fun x hx => ?_, ?_⟩
    · rcases List.mem_cons.1 hx with rfl | hx
      · exact ha.symm.imp (congrArg some) (congrArg some)
      · exact hall x hx
    · rcases hcur with h0 | rfl
      · exact .inl h0
      · exact ha

theorem validateSigner_ok (cfg : Cfg) (vp : VP) (exp s : String) (h : validateSigner cfg vp exp = .ok s) :
    vp.signer = some s ∧ (∀ x ∈ vp.subjects, x = some s ∨ x = some "") ∧
    ((vp.subjects ≠ [] ∨ cfg.emptyVpChecked = true) → exp = "" ∨ s = exp) := by
  revert h
  fun_cases validateSigner cfg vp exp with
  | case2 hnil sg hsg hnot =>
    intro h
    cases h
    refine ⟨hsg, fun x hx => ?_, ?_⟩
    · rw [hnil] at hx; cases hx
    rintro (h | h)
    · exact absurd hnil h
    · exact Decidable.or_iff_not_imp_left.2 fun he => Decidable.not_not.mp fun hs => hnot ⟨h, he, hs⟩
  | case7 hne sg hsg sid hsid heq hnot =>
    intro h
    cases h
    cases Decidable.not_not.mp heq
    exact ⟨hsg, (resolveSubject_ok _ _ _ hsid).1,
      fun _ => Decidable.or_iff_not_imp_left.2 fun he => Decidable.not_not.mp fun hs => hnot ⟨he, hs⟩⟩
  | _ => intro h; cases h

theorem checkAudience_ok (cfg : Cfg) (subj : String) (vp : VP) (h : checkAudience cfg subj vp = .ok ()) :
    cfg.issuerURL subj ∈ vp.aud := by
  unfold checkAudience at h
  split at h
  · assumption
  · cases h

/-- what the loop of the authorize-response handler establishes for one presentation (no validity bound here) -/
structure CodePreOK (cfg : Cfg) (subj : String) (vp : VP) (s : String) : Prop where
  signer : vp.signer = some s
  subjects : ∀ x ∈ vp.subjects, x = some s ∨ x = some ""
  audience : cfg.issuerURL subj ∈ vp.aud

theorem codePre_ok (cfg : Cfg) (subj : String) (hchk : cfg.emptyVpChecked = true) :
    ∀ (vps : List VP) (cur s : String), (∀ vp ∈ vps, vp.signer ≠ some "") →
      codePre cfg subj vps cur = .ok s →
      (∀ vp ∈ vps, CodePreOK cfg subj vp s) ∧ (cur = "" ∨ s = cur) := by
  intro vps cur s hwf h
  fun_induction codePre cfg subj vps cur with
  | case1 cur => cases h; exact ⟨fun _ h => (nomatch h), .inr rfl⟩
  | case2 vp rest cur s1 hs1 u haud ih =>
    obtain ⟨hsg, hsub, hexp⟩ := validateSigner_ok cfg vp cur s1 hs1
    obtain ⟨hrest, h0 | rfl⟩ := ih (fun v hv => hwf v (List.mem_cons_of_mem _ hv)) h
    · exact absurd (h0 ▸ hsg) (hwf vp List.mem_cons_self)
    · refine ⟨fun v hv => ?_, hexp (.inr hchk)⟩
      rcases List.mem_cons.mp hv with rfl | hv
      · exact ⟨hsg, hsub, checkAudience_ok cfg subj v haud⟩
      · exact hrest v hv
  | _ => cases h

/-- what the first loop of the s2s handler establishes for one presentation -/
structure PreOK (cfg : Cfg) (subj : String) (vp : VP) (s : String) : Prop where
  validity : ∃ c e, vp.created = some c ∧ vp.expires = some e ∧ e ≤ c + cfg.maxValidity
  signer : vp.signer = some s
  subjects : ∀ x ∈ vp.subjects, x = some s ∨ x = some ""
  audience : cfg.issuerURL subj ∈ vp.aud

theorem s2sPre_codePre (cfg : Cfg) (subj : String) : ∀ (vps : List VP) (cur s : String),
    s2sPre cfg subj vps cur = .ok s →
    codePre cfg subj vps cur = .ok s ∧ ∀ vp ∈ vps, checkValidity cfg vp = .ok () := by
  intro vps cur s h
  fun_induction s2sPre cfg subj vps cur with
  | case1 => exact ⟨h, fun _ h => nomatch h⟩
  | case2 vp rest cur u hv s1 hs1 u' haud ih =>
    obtain ⟨h1, h2⟩ := ih h
    rw [codePre, hs1, haud]
    refine ⟨h1, fun v hv' => ?_⟩
    rcases List.mem_cons.mp hv' with rfl | hv'
    · exact hv
    · exact h2 v hv'
  | _ => cases h

theorem s2sPre_ok (cfg : Cfg) (subj : String) (hchk : cfg.emptyVpChecked = true) (vps : List VP) (cur s : String)
    (hwf : ∀ vp ∈ vps, vp.signer ≠ some "") (h : s2sPre cfg subj vps cur = .ok s) :
    (∀ vp ∈ vps, PreOK cfg subj vp s) ∧ (cur = "" ∨ s = cur) := by
  obtain ⟨hc, hv⟩ := s2sPre_codePre cfg subj vps cur s h
  obtain ⟨hp, hs⟩ := codePre_ok cfg subj hchk vps cur s hwf hc
  exact ⟨fun vp hvp => ⟨checkValidity_ok cfg vp (hv vp hvp), (hp vp hvp).signer, (hp vp hvp).subjects,
    (hp vp hvp).audience⟩, hs⟩

theorem ldValidAt_true (skew now c e : Nat) (h : ldValidAt skew now c (some e) = true) :
    c ≤ now + skew ∧ now ≤ e + skew := by
  unfold ldValidAt at h
  split at h
  · cases h
  · simp only at h
    split at h
    · cases h
    · omega

theorem verifyAll_ok (cfg : Cfg) (now : Nat) : ∀ vps, verifyAll cfg now vps = .ok () → ∀ vp ∈ vps, vpVerifies cfg now vp = true := by
  intro vps
  induction vps with
  | nil => intro _ vp hvp; cases hvp
  | cons v rest ih =>
    intro h vp hvp
    unfold verifyAll at h
    split at h
    · rename_i hv
      rcases List.mem_cons.mp hvp with rfl | hvp
      · exact hv
      · exact ih h vp hvp
    · cases h

theorem findDef_some (l : List (String × Def)) (id : String) (d : Def) (h : findDef l id = some d) :
    d.id = id ∧ ∃ owner, (owner, d) ∈ l := by
  induction l with
  | nil => cases h
  | cons p rest ih =>
    obtain ⟨o, d'⟩ := p
    unfold findDef at h
    split at h
    · rename_i heq
      cases h
      exact ⟨heq, o, List.mem_cons_self⟩
    · obtain ⟨h1, o', h2⟩ := ih h
      exact ⟨h1, o', List.mem_cons_of_mem _ h2⟩

theorem fulfill_ok (c c' : Consumer) (defId : String) (pex : Nat → Bool) (claims : Nat → Claims) (n : Nat)
    (h : fulfill c defId pex claims n = .ok c') :
    ∃ d, findDef c.required defId = some d ∧ defId ∉ c.fulfilled ∧ pex d.key = true ∧
      c' = { c with fulfilled := defId :: c.fulfilled, claims := claims d.key :: c.claims, vps := c.vps + n } := by
  revert h
  fun_cases fulfill c defId pex claims n with
  | case4 d hd hnf hpex => exact fun h => ⟨d, hd, hnf, Bool.of_not_eq_false hpex, (Res.ok.inj h).symm⟩
  | _ => intro h; cases h

theorem parseDPoP_ok (d : DPoPIn) (r : Option DPoP) (h : parseDPoP d = .ok r) :
    (d = .absent ∧ r = none) ∨ ∃ kid jkt, d = .valid kid jkt ∧ r = some ⟨kid, jkt⟩ := by
  cases d with
  | absent => simp only [parseDPoP, Res.ok.injEq] at h; exact Or.inl ⟨rfl, h.symm⟩
  | invalid => cases h
  | valid kid jkt => simp only [parseDPoP, Res.ok.injEq] at h; exact Or.inr ⟨kid, jkt, rfl, h.symm⟩

end Nuts.C02
