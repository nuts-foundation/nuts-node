/-
  C12 — submission requirements: the take loops of `apply` in closed form (prefixes of the selectable members), `apply`
  by cases of the rule, `SubmissionRequirement.match` by its case principle; they never panic, a selection honours the
  rule (`RuleOK`) and consists of candidates, an error means that no selection exists.
-/
import NutsModel.C12.Spec
import NutsProofs.Lemmas.Base
namespace Nuts.C12
open Nuts

theorem selectableCount_eq (list : List Member) : selectableCount list = (available list).length := by
  rw [selectableCount, available, List.length_filterMap_eq_countP, List.countP_eq_length_filter]
  rfl

theorem apply_all (cfg : Cfg) (list : List Member) (count min max : Option Nat) :
    apply cfg list "all" count min max =
      if (available list).length != list.length then .err "nocred" else .ok (flattenAll list) := by
  rw [← selectableCount_eq]; rfl

theorem apply_count {cfg : Cfg} {list : List Member} {rule : String} (hr : rule ≠ "all") (c : Nat) (min max : Option Nat) :
    apply cfg list rule (some c) min max =
      if (available list).length < c then .err "nocred" else .ok (takeLoop c 0 list) := by
  rw [← selectableCount_eq]; exact if_neg (by simpa using hr)

theorem apply_minmax {cfg : Cfg} {list : List Member} {rule : String} (hr : rule ≠ "all") (min max : Option Nat) :
    apply cfg list rule none min max =
      if cfg.minMaxCheck && minAboveMax min max then .err "nocred"
      else if belowMin min (available list).length then .err "nocred" else applyMax cfg list max := by
  rw [← selectableCount_eq]; exact if_neg (by simpa using hr)

theorem applyMax_noPanic (cfg : Cfg) (hm : cfg.maxNilCheck = true) (l : List Member) (max : Option Nat) :
    (applyMax cfg l max).isPanic = false := by
  cases max with
  | some m => rfl
  | none => unfold applyMax; rw [hm]; rfl

theorem apply_noPanic (cfg : Cfg) (hm : cfg.maxNilCheck = true) (l : List Member) (rule : String) (count min max : Option Nat) :
    (apply cfg l rule count min max).isPanic = false := by
  fun_cases apply cfg l rule count min max with
  | case7 => exact applyMax_noPanic cfg hm l max
  | _ => rfl

theorem flattenAll_eq : ∀ (list : List Member), flattenAll list = (available list).flatten
  | [] => rfl
  | some l :: ms => by simp [flattenAll, available, flattenAll_eq ms]
  | none :: ms => by simp [flattenAll, available, flattenAll_eq ms]

/-- a lemma of its own because `omega` is slow on truncated subtraction -/
theorem sub_eq_sub_succ_add_one {i n : Nat} (h : i < n) : n - i = (n - (i + 1)) + 1 :=
  (Nat.succ_pred_eq_of_pos (Nat.sub_pos_of_lt h)).symm

theorem takeLoopPre_eq (lim : Nat) (list : List Member) (i : Nat) : i ≤ lim →
    takeLoopPre lim i list = ((available list).take (lim - i)).flatten := by
  fun_induction takeLoopPre lim i list with
  | case1 => intro _; simp only [available, List.filterMap_nil, List.take_nil, List.flatten_nil]
  | case2 i l ms heq | case4 i ms heq => intro _; rw [eq_of_beq heq, Nat.sub_self]; rfl
  | case3 i l ms heq ih =>
    intro h
    have hlt := Nat.lt_of_le_of_ne h (by simpa using heq)
    rw [ih hlt, sub_eq_sub_succ_add_one hlt]; rfl
  | case5 i ms _ ih => intro h; rw [ih h]; rfl

theorem takeLoop_eq (lim : Nat) (list : List Member) (i : Nat) : i < lim →
    takeLoop lim i list = ((available list).take (lim - i)).flatten := by
  fun_induction takeLoop lim i list with
  | case1 => intro _; simp only [available, List.filterMap_nil, List.take_nil, List.flatten_nil]
  | case2 i l ms heq => intro h; rw [sub_eq_sub_succ_add_one h, ← eq_of_beq heq, Nat.sub_self]; exact (List.append_nil l).symm
  | case3 i l ms heq ih =>
    intro h
    rw [sub_eq_sub_succ_add_one h, ih (Nat.lt_of_le_of_ne h (by simpa using heq))]; rfl
  | case4 i ms heq => intro h; exact absurd (eq_of_beq heq) (Nat.ne_of_lt h)
  | case5 i ms _ ih => intro h; rw [ih h]; rfl

theorem mem_of_mem_available {list : List Member} {sel : List (List Cred)} {c : Cred}
    (hs : sel.Sublist (available list)) (hc : c ∈ sel.flatten) : ∃ l, some l ∈ list ∧ c ∈ l := by
  obtain ⟨l, hl, hcl⟩ := List.mem_flatten.1 hc
  obtain ⟨m, hm, rfl⟩ := List.mem_filterMap.1 (hs.subset hl)
  exact ⟨l, hm, hcl⟩

/-- whatever the limit and the start index, the "count" loop takes a prefix of the selectable members -/
theorem takeLoop_prefix (lim : Nat) (list : List Member) (i : Nat) : ∃ n, takeLoop lim i list = ((available list).take n).flatten := by
  fun_induction takeLoop lim i list with
  | case1 | case4 => exact ⟨0, rfl⟩
  | case2 _ l => exact ⟨1, (List.append_nil l).symm⟩
  | case3 _ _ _ _ ih => exact ih.elim fun n hn => ⟨n + 1, hn ▸ rfl⟩
  | case5 _ _ _ ih => exact ih

theorem mem_takeLoopPre {c : Cred} {lim : Nat} {ms : List Member} {i : Nat} (h : c ∈ takeLoopPre lim i ms) :
    ∃ l, some l ∈ ms ∧ c ∈ l := by
  fun_induction takeLoopPre lim i ms with
  | case1 | case2 | case4 => cases h
  | case3 _ l _ _ ih =>
    rcases List.mem_append.1 h with h | h
    · exact ⟨l, List.mem_cons_self, h⟩
    · exact (ih h).imp fun _ hl => hl.imp_left (List.mem_cons_of_mem _)
  | case5 _ _ _ ih => exact (ih h).imp fun _ hl => hl.imp_left (List.mem_cons_of_mem _)

theorem apply_prefix {cfg : Cfg} {list : List Member} {rule : String} {count min max : Option Nat} {l : List Cred} :
    apply cfg list rule count min max = .ok l → ∃ n, l = ((available list).take n).flatten := by
  fun_cases apply cfg list rule count min max with
  | case2 => intro h; cases h; exact ⟨_, by rw [List.take_length, flattenAll_eq]⟩
  | case4 _ c => intro h; cases h; exact takeLoop_prefix c list 0
  | case7 =>
    fun_cases applyMax cfg list max with
    | case1 m =>
      intro h; cases h
      split
      · exact ⟨_, takeLoopPre_eq m list 0 (Nat.zero_le m)⟩
      · exact takeLoop_prefix m list 0
    | case2 => intro h; cases h; exact ⟨_, by rw [List.take_length, flattenAll_eq]⟩
    | case3 => intro h; cases h; exact ⟨0, rfl⟩
    | case4 => exact fun h => nomatch h
  | _ => exact fun h => nomatch h

theorem apply_count_ok {cfg : Cfg} {list : List Member} {rule : String} (hr : rule ≠ "all") {c : Nat} (hc : 0 < c)
    {min max : Option Nat} {l : List Cred} (h : apply cfg list rule (some c) min max = .ok l) :
    l = ((available list).take c).flatten ∧ ((available list).take c).length = c := by
  rw [apply_count hr] at h
  split at h
  · cases h
  · next hlt =>
    cases h
    exact ⟨takeLoop_eq c list 0 hc, List.length_take.trans (Nat.min_eq_left (Nat.le_of_not_lt hlt))⟩

theorem belowMin_eq_false {min : Option Nat} {n : Nat} : belowMin min n = false ↔ ∀ a, min = some a → a ≤ n := by
  cases min <;> simp [belowMin]

theorem minAboveMax_eq_false {min max : Option Nat} :
    minAboveMax min max = false ↔ ∀ a b, min = some a → max = some b → a ≤ b := by
  cases min <;> cases max <;> simp [minAboveMax]

theorem apply_rule_ok {cfg : Cfg} (hf : cfg.maxCheckFirst = true) (hmm : cfg.minMaxCheck = true) (hmn : cfg.maxNilCheck = true)
    {list : List Member} {rule : String} {count min max : Option Nat} (hc : count ≠ some 0) {l : List Cred}
    (h : apply cfg list rule count min max = .ok l) :
    ∃ sel : List (List Cred), sel.Sublist (available list) ∧ l = sel.flatten ∧
      RuleOK rule count min max list.length (available list).length sel.length := by
  unfold RuleOK
  by_cases hr : rule = "all"
  · subst hr
    rw [apply_all] at h
    split at h
    · cases h
    · next hne =>
      cases h
      have : (available list).length = list.length := by simpa using hne
      exact ⟨available list, .refl _, flattenAll_eq list, by rw [if_pos rfl]; exact ⟨this, this⟩⟩
  · simp only [hr, if_false]
    cases count with
    | some c =>
      have ⟨h1, h2⟩ := apply_count_ok hr (Nat.pos_of_ne_zero fun h0 => hc (h0 ▸ rfl)) h
      exact ⟨_, List.take_sublist _ _, h1, h2⟩
    | none =>
      rw [apply_minmax hr, hmm, Bool.true_and] at h
      split at h
      · cases h
      · next hmm' =>
        split at h
        · cases h
        · next hbm =>
          have hmin := belowMin_eq_false.1 (Bool.not_eq_true _ ▸ hbm)
          have hmx := minAboveMax_eq_false.1 (Bool.not_eq_true _ ▸ hmm')
          cases max with
          | some m =>
            simp only [applyMax, hf, if_true] at h
            cases h
            refine ⟨(available list).take m, List.take_sublist _ _, takeLoopPre_eq m list 0 (Nat.zero_le _), ?_, ?_⟩
            · intro a ha
              exact List.length_take ▸ Nat.le_min.2 ⟨hmx a m ha rfl, hmin a ha⟩
            · intro b hb
              cases hb
              exact List.length_take ▸ Nat.min_le_left _ _
          | none =>
            simp only [applyMax, hmn, if_true] at h
            cases h
            exact ⟨available list, .refl _, flattenAll_eq list, hmin, fun _ hb => nomatch hb⟩

theorem apply_error_complete {cfg : Cfg}
    {list : List Member} {rule : String} {count min max : Option Nat} {e : String}
    (h : apply cfg list rule count min max = .err e) :
    ∀ sel : List (List Cred), sel.Sublist (available list) → ¬ RuleOK rule count min max list.length (available list).length sel.length := by
  intro sel hsub hok
  unfold RuleOK at hok
  revert h
  fun_cases apply cfg list rule count min max with
  | case1 _ hr hne =>
    rw [if_pos (eq_of_beq hr)] at hok
    exact fun _ => (by simpa [selectableCount_eq] using hne : (available list).length ≠ list.length) hok.1
  | case3 hr c hlt =>
    rw [if_neg (by simpa using hr)] at hok
    exact fun _ => Nat.not_lt.2 (hok ▸ hsub.length_le) (selectableCount_eq list ▸ hlt)
  | case5 hr hmm' =>
    rw [if_neg (by simpa using hr)] at hok
    -- `min > max`: no size lies between them
    refine fun _ => absurd (minAboveMax_eq_false.2 fun a b ha hb => Nat.le_trans (hok.1 a ha) (hok.2 b hb)) ?_
    rw [(Bool.and_eq_true_iff.1 hmm').2]; exact Bool.noConfusion
  | case6 hr _ hbm =>
    rw [if_neg (by simpa using hr)] at hok
    refine fun _ => absurd (belowMin_eq_false.2 fun a ha => Nat.le_trans (hok.1 a ha) hsub.length_le) ?_
    rw [← selectableCount_eq, hbm]; exact Bool.noConfusion
  | case7 =>
    -- without the nil test the last loop panics; it never reports an error
    fun_cases applyMax cfg list max <;> exact fun h => nomatch h
  | case2 | case4 => exact fun h => nomatch h

theorem nestedMembers_noErr (cfg : Cfg) (cands : List Cand) : ∀ (ss : List SR) (e : String), SR.nestedMembers cfg cands ss ≠ .err e
  | [], e => by unfold SR.nestedMembers; intro h; cases h
  | s :: ss, e => by
    unfold SR.nestedMembers
    have ih := nestedMembers_noErr cfg cands ss
    split
    · intro h; cases h
    · simp only
      split
      · intro h; cases h
      · next e' heq => exact absurd heq (ih e')
      · intro h; cases h

/-- case principle for `SubmissionRequirement.match`, its control flow read once: a malformed requirement, a panic
    below `from_nested`, or `apply` on the requirement's members -/
theorem matchSR_cases {motive : Res (List Cred) → Prop} (cfg : Cfg) (cands : List Cand)
    (name rule : String) (count min max : Option Nat) (frm : String) (nested : List SR)
    (malformed : ∀ e, e = "sr-both" ∨ e = "sr-missing" ∨ e = "sr-rule" → motive (.err e))
    (panic : ∀ p, SR.nestedMembers cfg cands nested = .panic p → motive (.panic p))
    (members : ∀ ms, MembersOf cfg cands (.mk name rule count min max frm nested) ms → motive (apply cfg ms rule count min max)) :
    motive (SR.matchSR cfg cands (.mk name rule count min max frm nested)) := by
  unfold SR.matchSR
  by_cases h1 : (frm != "" && !nested.isEmpty) = true
  · rw [if_pos h1]; exact malformed _ (.inl rfl)
  by_cases h2 : (frm == "" && nested.isEmpty) = true
  · rw [if_neg h1, if_pos h2]; exact malformed _ (.inr (.inl rfl))
  by_cases h3 : (!(rule == "all" || rule == "pick")) = true
  · rw [if_neg h1, if_neg h2, if_pos h3]; exact malformed _ (.inr (.inr rfl))
  rw [if_neg h1, if_neg h2, if_neg h3]
  cases nested with
  | nil =>
    have hfrm : frm ≠ "" := fun hEq => h2 (by rw [hEq]; rfl)
    exact members _ (.inl ⟨hfrm, rfl, rfl⟩)
  | cons s ss =>
    have hfrm : frm = "" := by simpa using h1
    cases hn : SR.nestedMembers cfg cands (s :: ss) with
    | ok ms => exact members ms (.inr ⟨hfrm, List.cons_ne_nil s ss, hn⟩)
    | err e => exact absurd hn (nestedMembers_noErr cfg cands _ e)
    | panic p => exact panic p hn

mutual
theorem matchSR_noPanic (cfg : Cfg) (hm : cfg.maxNilCheck = true) (cands : List Cand) :
    ∀ s, (SR.matchSR cfg cands s).isPanic = false
  | .mk name rule count min max frm nested =>
    matchSR_cases (motive := fun r => r.isPanic = false) cfg cands name rule count min max frm nested (fun _ _ => rfl)
      (fun p h => absurd h (Res.ne_panic_of_isPanic_false (nestedMembers_noPanic cfg hm cands nested) p))
      (fun ms _ => apply_noPanic cfg hm ms rule count min max)
theorem nestedMembers_noPanic (cfg : Cfg) (hm : cfg.maxNilCheck = true) (cands : List Cand) :
    ∀ ss, (SR.nestedMembers cfg cands ss).isPanic = false
  | [] => by unfold SR.nestedMembers; rfl
  | s :: ss => by
    unfold SR.nestedMembers
    have h1 := matchSR_noPanic cfg hm cands s
    have ih := nestedMembers_noPanic cfg hm cands ss
    split
    · next p heq => exact absurd heq (Res.ne_panic_of_isPanic_false h1 p)
    · simp only
      split
      · rfl
      · rfl
      · next s heq => exact absurd heq (Res.ne_panic_of_isPanic_false ih s)
end

theorem srSelect_noPanic (cfg : Cfg) (hm : cfg.maxNilCheck = true) (cands : List Cand) (ss : List SR) :
    (srSelect cfg cands ss).isPanic = false := by
  fun_induction srSelect cfg cands ss with
  | case4 _ _ _ _ p h ih => exact absurd h (Res.ne_panic_of_isPanic_false ih p)
  | case6 s _ p h => exact absurd h (Res.ne_panic_of_isPanic_false (matchSR_noPanic cfg hm cands s) p)
  | _ => rfl

theorem mem_groupMembers {cands : List Cand} {g : String} {x : Cand} (h : x ∈ groupMembers cands g) : x ∈ cands := by
  unfold groupMembers at h
  obtain ⟨c, hc, hx⟩ := List.mem_flatMap.1 h
  obtain ⟨_, _, rfl⟩ := List.mem_map.1 hx
  exact hc

theorem fromMember_some {x : Cand} {l : List Cred} (h : fromMember x = some l) : ∃ v, x.2 = some v ∧ l = [v] := by
  unfold fromMember at h
  split at h
  · next v hv =>
    split at h
    · cases h
    · injection h with h; exact ⟨v, hv, h.symm⟩
  · cases h

mutual
theorem mem_matchSR (cfg : Cfg) (cands : List Cand) :
    ∀ (s : SR) (l : List Cred) (c : Cred), SR.matchSR cfg cands s = .ok l → c ∈ l → ∃ d, (d, some c) ∈ cands
  | .mk name rule count min max frm nested, l, c, h, hc => by
    refine matchSR_cases (motive := fun r => r = .ok l → _) cfg cands name rule count min max frm nested
      (fun _ _ h => nomatch h) (fun _ _ h => nomatch h) (fun ms hms h => ?_) h
    obtain ⟨n, rfl⟩ := apply_prefix h
    obtain ⟨l', h1, h2⟩ := mem_of_mem_available (List.take_sublist n _) hc
    rcases hms with ⟨_, _, rfl⟩ | ⟨_, _, heq⟩
    · obtain ⟨x, hx, hfx⟩ := List.mem_map.1 h1
      obtain ⟨v, hv, rfl⟩ := fromMember_some hfx
      cases List.mem_singleton.1 h2
      exact ⟨x.1, hv ▸ mem_groupMembers hx⟩
    · exact mem_nestedMembers cfg cands nested ms l' c heq h1 h2
theorem mem_nestedMembers (cfg : Cfg) (cands : List Cand) :
    ∀ (ss : List SR) (ms : List Member) (l : List Cred) (c : Cred), SR.nestedMembers cfg cands ss = .ok ms → some l ∈ ms → c ∈ l →
      ∃ d, (d, some c) ∈ cands
  | [], ms, l, c, h, hl, _ => by
    unfold SR.nestedMembers at h
    injection h with h; subst h; cases hl
  | s :: ss, ms, l, c, h, hl, hc => by
    unfold SR.nestedMembers at h
    split at h
    · cases h
    · next r hnp =>
      simp only at h
      split at h
      · next ms' heq =>
        injection h with h; subst h
        rcases List.mem_cons.1 hl with hm | h'
        · cases hr : SR.matchSR cfg cands s with
          | ok l0 =>
            rw [hr] at hm
            cases l0 with
            | nil => simp at hm
            | cons a as =>
              simp only at hm
              injection hm with hm
              subst hm
              exact mem_matchSR cfg cands s (a :: as) c hr hc
          | err e => rw [hr] at hm; simp at hm
          | panic p => rw [hr] at hm; simp at hm
        · exact mem_nestedMembers cfg cands ss ms' l c heq h' hc
      · cases h
      · cases h
end

theorem mem_srSelect {cfg : Cfg} {cands : List Cand} {ss : List SR} {l : List Cred} {c : Cred} :
    srSelect cfg cands ss = .ok l → c ∈ l → ∃ d, (d, some c) ∈ cands := by
  fun_induction srSelect cfg cands ss generalizing l with
  | case1 => intro h hc; cases h; cases hc
  | case2 s ss l1 heq r heq2 ih =>
    intro h hc; cases h
    exact (List.mem_append.1 hc).elim (mem_matchSR cfg cands s l1 c heq) (ih heq2)
  | _ => exact fun h => nomatch h

theorem sr_rule_ok (cfg : Cfg) (hf : cfg.maxCheckFirst = true) (hmm : cfg.minMaxCheck = true) (hmn : cfg.maxNilCheck = true)
    (cands : List Cand) (s : SR) (hc : s.count ≠ some 0) (l : List Cred) (h : SR.matchSR cfg cands s = .ok l) :
    ∃ members, MembersOf cfg cands s members ∧
      ∃ sel : List (List Cred), sel.Sublist (available members) ∧ l = sel.flatten ∧
        RuleOK s.rule s.count s.min s.max members.length (available members).length sel.length := by
  obtain ⟨name, rule, count, min, max, frm, nested⟩ := s
  exact matchSR_cases (motive := fun r => r = .ok l → _) cfg cands name rule count min max frm nested
    (fun _ _ h => nomatch h) (fun _ _ h => nomatch h)
    (fun ms hms h => ⟨ms, hms, apply_rule_ok hf hmm hmn hc h⟩) h

theorem sr_error_complete (cfg : Cfg) (cands : List Cand) (s : SR) (e : String)
    (h : SR.matchSR cfg cands s = .err e) :
    (e = "sr-both" ∨ e = "sr-missing" ∨ e = "sr-rule") ∨
    ∃ members, MembersOf cfg cands s members ∧
      ∀ sel : List (List Cred), sel.Sublist (available members) →
        ¬ RuleOK s.rule s.count s.min s.max members.length (available members).length sel.length := by
  obtain ⟨name, rule, count, min, max, frm, nested⟩ := s
  exact matchSR_cases (motive := fun r => r = .err e → _) cfg cands name rule count min max frm nested
    (fun _ hk h => by cases h; exact .inl hk) (fun _ _ h => nomatch h)
    (fun ms hms h => .inr ⟨ms, hms, apply_error_complete h⟩) h

theorem srSelect_ok {cfg : Cfg} {cands : List Cand} {ss : List SR} {sel : List Cred} :
    srSelect cfg cands ss = .ok sel → ∃ ls, SelectedBy cfg cands ss ls ∧ sel = ls.flatten := by
  fun_induction srSelect cfg cands ss generalizing sel with
  | case1 => intro h; cases h; exact ⟨[], trivial, rfl⟩
  | case2 s ss l heq r heq2 ih =>
    intro h; cases h
    obtain ⟨ls, h1, h2⟩ := ih heq2
    exact ⟨l :: ls, ⟨heq, h1⟩, by simp [h2]⟩
  | _ => exact fun h => nomatch h

theorem srSelect_err {cfg : Cfg} {cands : List Cand} {ss : List SR} {e : String} :
    srSelect cfg cands ss = .err e → ∃ s ∈ ss, SR.matchSR cfg cands s = .err e := by
  fun_induction srSelect cfg cands ss generalizing e with
  | case3 _ _ _ _ _ heq2 ih => intro h; cases h; exact (ih heq2).imp fun _ hx => hx.imp_left (List.mem_cons_of_mem _)
  | case5 s _ _ heq => intro h; cases h; exact ⟨s, List.mem_cons_self, heq⟩
  | _ => exact fun h => nomatch h

end Nuts.C12
