/-
  C14 — the retry budget as an invariant: without a restart (Run replays every job once more) a typed subscriber
  is called at most `maxRetries` times for one event, over ALL op sequences (duplicate payload writes, stops,
  storage faults, timers in any order).  Potential function: calls made + attempts left in live retry loops
  + maxRetries for every notification still pending / every admission still to come.  A restart raises the bound by
  `maxRetries` per Run of the subscriber (`Bud.restart`, `runCost`).
-/
import NutsProofs.Lemmas.C14Run

namespace Nuts.C14

def leftSum (s r : Nat) : List Task → Nat
  | [] => 0
  | t :: l => (if t.isFor s r then t.left else 0) + leftSum s r l

def pendCount (e : Nat × EvType) : List (Nat × EvType) → Nat
  | [] => 0
  | x :: l => (if x = e then 1 else 0) + pendCount e l

/-- 1 while the admission that creates event (r, t) has not happened yet -/
def unadm (σ : St) (r : Nat) : EvType → Nat
  | .tx => if r ∈ σ.dag then 0 else 1
  | .payload => if r ∈ σ.evented then 0 else 1

def spent (σ : St) (s r : Nat) : Nat := attemptNo σ s r + leftSum s r σ.running

structure Bud (c : Cfg) (B : Nat) (s r : Nat) (t : EvType) (σ : St) : Prop where
  pot : spent σ s r + c.maxRetries * (pendCount (r, t) σ.pending + unadm σ r t) ≤ B
  leftPos : ∀ x, x ∈ σ.running → 1 ≤ x.left
  evDag : ∀ x, x ∈ σ.evented → x ∈ σ.dag

theorem leftSum_append (s r : Nat) (l l' : List Task) : leftSum s r (l ++ l') = leftSum s r l + leftSum s r l' := by
  induction l with
  | nil => simp [leftSum]
  | cons a l ih => simp only [List.cons_append, leftSum, ih]; omega

theorem leftSum_erase (s r : Nat) (t : Task) (l : List Task) (h : t ∈ l) :
    leftSum s r (l.erase t) + (if t.isFor s r then t.left else 0) = leftSum s r l := by
  induction l with
  | nil => cases h
  | cons a l ih =>
    rw [List.erase_cons]
    by_cases hat : a = t
    · subst hat; simp only [beq_self_eq_true, if_true, leftSum]; omega
    · have hne : (a == t) = false := by simp [hat]
      rw [hne]; simp only [Bool.false_eq_true, if_false, leftSum]
      have hm : t ∈ l := by
        rcases List.mem_cons.mp h with h | h
        · exact absurd h.symm hat
        · exact h
      have := ih hm; omega

theorem pendCount_append (e : Nat × EvType) (l l' : List (Nat × EvType)) :
    pendCount e (l ++ l') = pendCount e l + pendCount e l' := by
  induction l with
  | nil => simp [pendCount]
  | cons a l ih => simp only [List.cons_append, pendCount, ih]; omega

/-- what one `notifyNow` on (s', r') does to the quantities of (s, r) -/
structure NowFrame (σ σ' : St) (s r s' r' : Nat) : Prop where
  calls : attemptNo σ' s r ≤ attemptNo σ s r + (if s' = s ∧ r' = r then 1 else 0)
  running : σ'.running = σ.running
  pending : σ'.pending = σ.pending
  dag : σ'.dag = σ.dag
  evented : σ'.evented = σ.evented

theorem length_filter_isCallOf_call (s r s' r' : Nat) (ty : EvType) (k : Nat) (o : Outcome) (l : List Entry) :
    (((Entry.call s' r' ty k o) :: l).filter (Entry.isCallOf s r)).length =
      (l.filter (Entry.isCallOf s r)).length + (if s' = s ∧ r' = r then 1 else 0) := by
  rw [List.filter_cons]
  show (if (s' == s && r' == r) = true then _ else _ : List Entry).length = _
  simp only [key_beq]; split <;> rfl

theorem length_filter_isCallOf_fin (s r s' r' : Nat) (l : List Entry) :
    (((Entry.fin s' r') :: l).filter (Entry.isCallOf s r)).length = (l.filter (Entry.isCallOf s r)).length := by
  rw [List.filter_cons]; rfl

theorem notifyNow_frame (c : Cfg) (σ : St) (s' r' s r : Nat) : NowFrame σ (notifyNow c σ s' r').1 s r s' r' := by
  cases notifyNow_step c σ s' r' with
  | skip _ e => rw [e]; exact ⟨by omega, rfl, rfl, rfl, rfl⟩
  | call j o _ e =>
    rw [e]
    refine ⟨?_, rfl, rfl, rfl, rfl⟩
    show ((entriesAfter s' r' j o ++ σ.ledger).filter _).length ≤ _
    unfold entriesAfter attemptNo
    split <;> simp only [List.cons_append, List.nil_append]
    · rw [length_filter_isCallOf_fin, length_filter_isCallOf_call]; omega
    · rw [length_filter_isCallOf_call]; omega

theorem spawn_frame (c : Cfg) (σ : St) (s' r' k s r : Nat) (hl : ∀ x, x ∈ σ.running → 1 ≤ x.left) :
    leftSum s r (spawn c σ s' r' k).running ≤ leftSum s r σ.running + (if s' = s ∧ r' = r then c.maxRetries - (k + 1) else 0) ∧
    (∀ x, x ∈ (spawn c σ s' r' k).running → 1 ≤ x.left) ∧
    attemptNo (spawn c σ s' r' k) s r = attemptNo σ s r ∧ (spawn c σ s' r' k).pending = σ.pending ∧
    (spawn c σ s' r' k).dag = σ.dag ∧ (spawn c σ s' r' k).evented = σ.evented := by
  rw [spawn_eq]
  refine ⟨?_, fun x hx => ?_, rfl, rfl, rfl, rfl⟩
  · show leftSum s r (σ.running ++ _) ≤ _
    rw [leftSum_append]
    split
    · simp only [leftSum, Task.isFor, key_beq]; omega
    · exact Nat.le_add_right _ _
  · rcases List.mem_append.mp hx with hx | hx
    · exact hl x hx
    · split at hx
      · rw [List.mem_singleton.mp hx]; show 1 ≤ c.maxRetries - (k + 1); omega
      · cases hx

/-- the effect of a delivery on the budget of (s, r): at most `credit` more calls and attempts in retry loops -/
structure NotifyFrame (c : Cfg) (σ σ' : St) (s r : Nat) (credit : Nat) : Prop where
  spent : spent σ' s r ≤ spent σ s r + credit
  pending : σ'.pending = σ.pending
  dag : σ'.dag = σ.dag
  evented : σ'.evented = σ.evented
  leftPos : ∀ x, x ∈ σ'.running → 1 ≤ x.left

/-- quantities of (s, r) across the first loop of Run of subscriber s0: at most `k` more calls, nothing else moves -/
structure CallsFrame (σ σ' : St) (s r s0 : Nat) (k : Nat) : Prop where
  calls : attemptNo σ' s r ≤ attemptNo σ s r + (if s0 = s then k else 0)
  running : σ'.running = σ.running
  pending : σ'.pending = σ.pending
  dag : σ'.dag = σ.dag
  evented : σ'.evented = σ.evented

/-- what an action may add to `spent · s r` -/
def Act.cost (c : Cfg) (s r : Nat) : Act → Nat
  | .now s' r' => if s' = s ∧ r' = r then 1 else 0
  | .spawn s' r' k => if s' = s ∧ r' = r then c.maxRetries - (k + 1) else 0

def cost (c : Cfg) (s r : Nat) (tr : List Act) : Nat := (tr.map (Act.cost c s r)).sum

theorem cost_append (c : Cfg) (s r : Nat) (t1 t2 : List Act) : cost c s r (t1 ++ t2) = cost c s r t1 + cost c s r t2 := by
  simp [cost]

theorem cost_sublist {c : Cfg} {s r : Nat} {t1 t2 : List Act} (h : t1.Sublist t2) : cost c s r t1 ≤ cost c s r t2 := by
  induction h with
  | slnil => exact Nat.le_refl _
  | cons a _ ih => exact Nat.le_trans ih (by simp [cost])
  | cons_cons a _ ih => simp only [cost, List.map_cons, List.sum_cons] at ih ⊢; omega

theorem NotifyFrame.refl (c : Cfg) (σ : St) (s r : Nat) (hl : ∀ x, x ∈ σ.running → 1 ≤ x.left) : NotifyFrame c σ σ s r 0 :=
  ⟨Nat.le_refl _, rfl, rfl, rfl, hl⟩

theorem NotifyFrame.trans {c : Cfg} {a b d : St} {s r k1 k2 : Nat} (h1 : NotifyFrame c a b s r k1) (h2 : NotifyFrame c b d s r k2) :
    NotifyFrame c a d s r (k1 + k2) :=
  ⟨by have := h1.spent; have := h2.spent; omega, h2.pending.trans h1.pending, h2.dag.trans h1.dag, h2.evented.trans h1.evented, h2.leftPos⟩

theorem Run.frame {c : Cfg} {σ σ' : St} {tr : List Act} {b : Bool} (d : Run c σ tr σ' b) (s r : Nat)
    (hl : ∀ x, x ∈ σ.running → 1 ≤ x.left) : NotifyFrame c σ σ' s r (cost c s r tr) := by
  induction d with
  | nil σ => exact .refl c σ s r hl
  | now σ s' r' =>
    have f := notifyNow_frame c σ s' r' s r
    exact ⟨by have := f.calls; simp only [spent, f.running, cost, List.map_cons, List.map_nil, List.sum_cons, List.sum_nil, Act.cost]; omega,
      f.pending, f.dag, f.evented, by rw [f.running]; exact hl⟩
  | spawn σ s' r' k =>
    obtain ⟨g1, g2, g3, g4, g5, g6⟩ := spawn_frame c σ s' r' k s r hl
    exact ⟨by simp only [spent, g3, cost, List.map_cons, List.map_nil, List.sum_cons, List.sum_nil, Act.cost]; omega, g4, g5, g6, g2⟩
  | trans _ _ ih1 ih2 =>
    rw [cost_append]
    exact (ih1 hl).trans (ih2 (ih1 hl).leftPos)

/-- a duplicate-free Range order visits subscriber `s` once: one call and one fresh retry loop for the key of the event -/
theorem cost_plan_le (c : Cfg) (hM : 1 ≤ c.maxRetries) (ev : Nat × EvType) (s r : Nat) (order : List Nat) (hnd : order.Nodup) :
    cost c s r (order.flatMap (plan c ev)) ≤ if s ∈ order ∧ ev.1 = r ∧ c.sel s r ev.2 = true then c.maxRetries else 0 := by
  induction order with
  | nil => simp [cost]
  | cons s' rest ih =>
    obtain ⟨hn, hnd'⟩ := List.nodup_cons.mp hnd
    have ih := ih hnd'
    rw [List.flatMap_cons, cost_append]
    by_cases hk : s' = s ∧ ev.1 = r
    · obtain ⟨rfl, rfl⟩ := hk
      have : ¬(s' ∈ rest ∧ ev.1 = ev.1 ∧ c.sel s' ev.1 ev.2 = true) := fun h => hn h.1
      rw [if_neg this] at ih
      have e0 : cost c s' ev.1 (rest.flatMap (plan c ev)) = 0 := Nat.le_zero.mp ih
      rw [e0, Nat.add_zero]
      unfold plan; split
      · next hsel =>
        rw [if_pos ⟨List.mem_cons_self, rfl, hsel⟩]
        show (if s' = s' ∧ ev.1 = ev.1 then 1 else 0) + ((if s' = s' ∧ ev.1 = ev.1 then c.maxRetries - (0 + 1) else 0) + 0) ≤ _
        rw [if_pos ⟨rfl, rfl⟩, if_pos ⟨rfl, rfl⟩]; omega
      · exact Nat.zero_le _
    · have h0 : cost c s r (plan c ev s') = 0 := by
        unfold plan; split
        · simp [cost, Act.cost, hk]
        · rfl
      rw [h0, Nat.zero_add]
      refine Nat.le_trans ih ?_
      split
      · next h => rw [if_pos ⟨List.mem_cons_of_mem _ h.1, h.2⟩]; exact Nat.le_refl _
      · exact Nat.zero_le _

theorem pot_of {M B sp sp' W W' k : Nat} (h : sp + M * W ≤ B) (h1 : sp' ≤ sp + M * k) (h2 : W' + k ≤ W) : sp' + M * W' ≤ B := by
  have h3 : M * (W' + k) ≤ M * W := Nat.mul_le_mul_left M h2
  rw [Nat.mul_add] at h3
  omega

theorem unadm_congr {σ σ' : St} (r : Nat) (t : EvType) (hd : σ'.dag = σ.dag) (he : σ'.evented = σ.evented) :
    unadm σ' r t = unadm σ r t := by
  cases t <;> simp [unadm, hd, he]

/-- the potential does not rise: `k` pending notifications pay for `k` budgets spent, admissions are as they were -/
theorem Bud.of_le {c : Cfg} {B : Nat} {s r : Nat} {t : EvType} {σ σ' : St} (h : Bud c B s r t σ) {k : Nat}
    (hsp : spent σ' s r ≤ spent σ s r + c.maxRetries * k) (hpen : pendCount (r, t) σ'.pending + k ≤ pendCount (r, t) σ.pending)
    (hd : σ'.dag = σ.dag) (he : σ'.evented = σ.evented) (hl : ∀ x, x ∈ σ'.running → 1 ≤ x.left) : Bud c B s r t σ' :=
  ⟨by rw [unadm_congr r t hd he]; exact pot_of h.pot hsp (by omega), hl, by rw [he, hd]; exact h.evDag⟩

theorem Bud.crash {c : Cfg} {B : Nat} {s r : Nat} {t : EvType} {σ : St} (h : Bud c B s r t σ) : Bud c B s r t (crashSt σ) :=
  h.of_le (k := 0) (Nat.le_trans (Nat.add_le_add_left (Nat.zero_le _) _) (Nat.le_add_right _ _)) (Nat.zero_le _) rfl rfl
    (fun _ hx => nomatch hx)

theorem Bud.settle {c : Cfg} {B : Nat} {s r : Nat} {t : EvType} {p : St × Bool} (h : Bud c B s r t p.1) : Bud c B s r t (settle p) := by
  unfold Nuts.C14.settle; split
  · exact h.crash
  · exact h

theorem Bud.afterCommit {c : Cfg} {B : Nat} {s r : Nat} {t : EvType} {σ : St} (hM : 1 ≤ c.maxRetries) (htyp : Typed c s t)
    (h : Bud c B s r t σ) (order : List Nat) (hnd : order.Nodup) : Bud c B s r t (afterCommit c σ order) := by
  rcases afterCommit_spec c σ order with e | ⟨ev, rest, hp, e⟩ <;> rw [e]
  · exact h
  · obtain ⟨tr, hs, hr⟩ := notifyAll_run c ev order { σ with pending := rest }
    have f := hr.frame s r h.leftPos
    have hcost := Nat.le_trans (cost_sublist (c := c) (s := s) (r := r) hs) (cost_plan_le c hM ev s r order hnd)
    have hpot : pendCount (r, t) σ.pending = (if ev = (r, t) then 1 else 0) + pendCount (r, t) rest := by rw [hp]; rfl
    have hsp : spent _ s r ≤ spent σ s r + _ := f.spent
    apply Bud.settle
    -- the notification taken off the queue pays for the call and the loop it starts
    split at hcost
    · next hc =>
      rw [if_pos (Prod.ext hc.2.1 (htyp _ _ hc.2.2) : ev = (r, t))] at hpot
      exact h.of_le (k := 1) (by omega) (by rw [f.pending]; show pendCount (r, t) rest + 1 ≤ _; omega) f.dag f.evented f.leftPos
    · exact h.of_le (k := 0) (by omega) (by rw [f.pending]; show pendCount (r, t) rest + 0 ≤ _; omega) f.dag f.evented f.leftPos

theorem isFor_iff (s r : Nat) (t : Task) : t.isFor s r = true ↔ t.sub = s ∧ t.ref = r := key_beq

theorem Bud.fire {c : Cfg} {B : Nat} {s r : Nat} {t : EvType} {σ : St} (h : Bud c B s r t σ) (s' r' : Nat) :
    Bud c B s r t (Nuts.C14.fire c σ s' r') := by
  rcases fire_spec c σ s' r' with ⟨_, e⟩ | ⟨tk, hfind, hf⟩
  · rw [e]; exact h
  have hmem : tk ∈ σ.running := List.mem_of_find?_eq_some hfind
  have hfor := (isFor_iff s' r' tk).mp (List.find?_some hfind)
  have hle := h.leftPos tk hmem
  have he := leftSum_erase s r tk σ.running hmem
  have hiff : tk.isFor s r = true ↔ s' = s ∧ r' = r := by rw [isFor_iff, hfor.1, hfor.2]
  simp only [hiff] at he
  have hpos0 : ∀ x, x ∈ σ.running.erase tk → 1 ≤ x.left := fun x hx => h.leftPos x (List.mem_of_mem_erase hx)
  have f := notifyNow_frame c { σ with running := σ.running.erase tk } s' r' s r
  generalize hp : notifyNow c { σ with running := σ.running.erase tk } s' r' = p at f
  obtain ⟨σ1, res⟩ := p
  have hf := hf σ1 res hp
  have hc : attemptNo σ1 s r ≤ attemptNo σ s r + (if s' = s ∧ r' = r then 1 else 0) := f.calls
  have hrun : σ1.running = σ.running.erase tk := f.running
  -- whatever loops are left afterwards: the task that was taken off the list pays for the call
  have core : ∀ run', leftSum s r run' + (if s' = s ∧ r' = r then 1 else 0) ≤ leftSum s r σ.running →
      (∀ x, x ∈ run' → 1 ≤ x.left) → Bud c B s r t { σ1 with running := run' } := fun run' h1 h2 =>
    h.of_le (k := 0) (by show attemptNo σ1 s r + leftSum s r run' ≤ attemptNo σ s r + leftSum s r σ.running + _; omega)
      (by show pendCount (r, t) σ1.pending + 0 ≤ _; rw [f.pending]; exact Nat.le_refl _) f.dag f.evented h2
  have plain : Bud c B s r t σ1 :=
    core σ1.running (by
      rw [hrun]
      split at he
      · next hsr => rw [if_pos hsr]; omega
      · next hsr => rw [if_neg hsr]; omega) (by rw [hrun]; exact hpos0)
  rcases hf with ⟨_, e⟩ | ⟨_, hag, e⟩ | ⟨_, _, e⟩ <;> rw [e]
  · exact plain.crash
  · refine core _ ?_ ?_
    · rw [leftSum_append, hrun]
      show _ + ((if tk.isFor s r = true then tk.left - 1 else 0) + 0) + _ ≤ _
      simp only [hiff]
      have := hag.1
      split at he
      · next hsr => simp only [if_pos hsr]; omega
      · next hsr => simp only [if_neg hsr]; omega
    · intro x hx
      rcases List.mem_append.mp hx with hx | hx
      · rw [hrun] at hx; exact hpos0 x hx
      · rw [List.mem_singleton.mp hx]; show 1 ≤ tk.left - 1; have := hag.1; omega
  · exact plain

theorem unadm_anti {σ σ' : St} (r : Nat) (t : EvType) (hd : σ.dag ⊆ σ'.dag) (he : σ.evented ⊆ σ'.evented) :
    unadm σ' r t ≤ unadm σ r t := by
  cases t
  · show (if r ∈ σ'.dag then 0 else 1) ≤ (if r ∈ σ.dag then 0 else 1)
    by_cases h : r ∈ σ.dag
    · rw [if_pos (hd h)]; exact Nat.zero_le _
    · rw [if_neg h]; split <;> omega
  · show (if r ∈ σ'.evented then 0 else 1) ≤ (if r ∈ σ.evented then 0 else 1)
    by_cases h : r ∈ σ.evented
    · rw [if_pos (he h)]; exact Nat.zero_le _
    · rw [if_neg h]; split <;> omega

/-- admitting event (x, ty): its marker (the DAG for a transaction event, `evented` for a payload event) was not set and is set
    now, no marker is lost. The event's share of the potential moves from `unadm` to the queue; no other event's share rises. -/
theorem unadm_admit {σ σ' : St} (r : Nat) (t : EvType) (x : Nat) (ty : EvType)
    (hd : σ.dag ⊆ σ'.dag) (he : σ.evented ⊆ σ'.evented)
    (hnew : unadm σ x ty = 1) (hset : unadm σ' x ty = 0) :
    pendCount (r, t) [(x, ty)] + unadm σ' r t ≤ unadm σ r t := by
  show (if (x, ty) = (r, t) then 1 else 0) + 0 + unadm σ' r t ≤ unadm σ r t
  split
  · next h => cases h; omega
  · have := unadm_anti r t hd he; omega

/-- a write transaction that only queues notifications and sets markers -/
theorem Bud.queue {c : Cfg} {B : Nat} {s r : Nat} {t : EvType} {σ σ' : St} (h : Bud c B s r t σ) (hl : σ'.ledger = σ.ledger)
    (hr : σ'.running = σ.running) (new : List (Nat × EvType)) (hp : σ'.pending = σ.pending ++ new)
    (hw : pendCount (r, t) new + unadm σ' r t ≤ unadm σ r t) (hev : ∀ x, x ∈ σ'.evented → x ∈ σ'.dag) : Bud c B s r t σ' := by
  refine ⟨?_, by rw [hr]; exact h.leftPos, hev⟩
  have hsp : spent σ' s r = spent σ s r := by unfold spent attemptNo; rw [hl, hr]
  rw [hsp, hp, pendCount_append]
  exact pot_of (k := 0) h.pot (by omega) (by omega)

theorem Bud.addTx {c : Cfg} {B : Nat} {s r : Nat} {t : EvType} {σ : St} (h : Bud c B s r t σ) (a : AddArgs) : Bud c B s r t (Nuts.C14.addTx c σ a).1 := by
  rcases addTx_spec c σ a with ⟨e, _, he⟩ | ⟨he, _, hnd, _⟩ <;> rw [he]
  · exact h
  have hd := addCommit_dag c σ a
  have hev := addCommit_evented c σ a
  have hp := addCommit_pending c σ a
  have hsub : σ.dag ⊆ (addCommit c σ a).dag := hd ▸ List.subset_cons_self _ _
  -- the transaction event first, up to the state in which the transaction is on the DAG and nothing else has changed
  have a1 := unadm_admit (σ := σ) (σ' := { σ with dag := a.ref :: σ.dag }) r t a.ref .tx (List.subset_cons_self _ _)
    (List.Subset.refl _) (if_neg hnd) (if_pos List.mem_cons_self)
  cases hw : a.withPayload <;> simp only [hw, Bool.false_eq_true, if_false, if_true] at hev hp
  · refine h.queue (addCommit_ledger c σ a) (addCommit_running c σ a) _ hp ?_ fun x hx => hsub (h.evDag x (hev ▸ hx))
    rw [unadm_congr (σ := { σ with dag := a.ref :: σ.dag }) r t hd hev]; exact a1
  · have a2 := unadm_admit (σ := { σ with dag := a.ref :: σ.dag }) (σ' := addCommit c σ a) r t a.ref .payload
      (hd ▸ List.Subset.refl _) (hev ▸ List.subset_cons_self _ _) (if_neg fun hx => hnd (h.evDag _ hx))
      (by rw [unadm, hev]; exact if_pos List.mem_cons_self)
    refine h.queue (addCommit_ledger c σ a) (addCommit_running c σ a) _ hp ?_ fun x hx => ?_
    · have := pendCount_append (r, t) [(a.ref, EvType.tx)] [(a.ref, EvType.payload)]
      simp only [List.cons_append, List.nil_append] at this
      show _ + unadm (addCommit c σ a) r t ≤ _
      omega
    · rcases List.mem_cons.mp (hev ▸ hx) with rfl | hx
      · exact hd ▸ List.mem_cons_self
      · exact hsub (h.evDag x hx)

theorem Bud.writePayload {c : Cfg} {B : Nat} {s r : Nat} {t : EvType} {σ : St} (hskip : c.skipPresent = true) (hg : c.notifyGuarded = true)
    (h : Bud c B s r t σ) (ref : Nat) (cf : Bool) : Bud c B s r t (Nuts.C14.writePayload c σ ref cf).1 := by
  rcases writePayload_spec c σ ref cf with ⟨e, _, _, he, _⟩ | ⟨_, p, he, _, hp⟩ | ⟨he, hd', hns⟩ <;> rw [he]
  · exact h
  · rw [hp hg]; exact h
  have hd := payloadCommit_dag c σ ref
  have hev := payloadCommit_evented c σ ref
  refine h.queue (payloadCommit_ledger c σ ref) (payloadCommit_running c σ ref) _ (payloadCommit_pending c σ ref)
    (unadm_admit r t ref .payload (hd ▸ List.Subset.refl _) (hev ▸ List.subset_cons_self _ _) (if_neg fun hp => hns ⟨hskip, hp⟩)
      (by rw [unadm, hev]; exact if_pos List.mem_cons_self)) fun x hx => ?_
  rw [hd]
  rcases List.mem_cons.mp (hev ▸ hx) with rfl | hx
  · exact hd'
  · exact h.evDag x hx

theorem Bud.finishedExt {c : Cfg} {B : Nat} {s r : Nat} {t : EvType} {σ : St} (h : Bud c B s r t σ) (s' r' : Nat) (fail : Bool) :
    Bud c B s r t (finishedExt σ s' r' fail) := by
  rcases finishedExt_spec σ s' r' fail with e | ⟨_, _, e⟩ <;> rw [e]
  · exact h
  refine h.of_le (k := 0) ?_ (Nat.le_refl _) rfl rfl h.leftPos
  show ((Entry.fin s' r' :: σ.ledger).filter _).length + _ ≤ _
  rw [length_filter_isCallOf_fin]; exact Nat.le_add_right _ _

/-- an op of a run of the node between two restarts; `sync.Map.Range` visits every notifier once -/
def NoRestart : Op → Prop
  | .restart _ => False
  | .afterCommit order => order.Nodup
  | _ => True

theorem Bud.init (c : Cfg) (s r : Nat) (t : EvType) : Bud c c.maxRetries s r t init := by
  refine ⟨?_, (by intro x hx; cases hx), (by intro x hx; cases hx)⟩
  cases t <;> simp [spent, attemptNo, leftSum, pendCount, unadm, Nuts.C14.init]

theorem Bud.mono {c : Cfg} {B B' : Nat} {s r : Nat} {t : EvType} {σ : St} (h : Bud c B s r t σ) (hb : B ≤ B') : Bud c B' s r t σ :=
  ⟨Nat.le_trans h.pot hb, h.leftPos, h.evDag⟩

theorem cost_runPlan_le (c : Cfg) (hM : 1 ≤ c.maxRetries) (s0 s r : Nat) (snap : List (Nat × Nat)) (h : snap.Pairwise (fun a b => a.1 < b.1)) :
    cost c s r (runPlan s0 snap) ≤ if s0 = s then c.maxRetries else 0 := by
  have key : cost c s r (runPlan s0 snap) ≤ (if s0 = s then (snap.map Prod.fst).count r else 0) * c.maxRetries := by
    unfold runPlan
    rw [cost_append]
    clear h
    induction snap with
    | nil => simp [cost]
    | cons p rest ih =>
      simp only [cost, List.map_cons, List.sum_cons, Act.cost, List.count_cons, beq_iff_eq] at ih ⊢
      by_cases hs : s0 = s <;> by_cases hr : p.1 = r <;> simp only [hs, hr, and_self, and_false, false_and, if_true, if_false, Nat.zero_add] at ih ⊢
      · rw [Nat.add_mul]; omega
      all_goals omega
  -- the snapshot is in key order: a transaction occurs in it at most once
  have := List.nodup_iff_count.mp (h.map Prod.fst fun _ _ hab => Nat.ne_of_lt hab) r
  split at key
  · next hs => rw [if_pos hs]; exact Nat.le_trans key (by rcases Nat.le_one_iff_eq_zero_or_eq_one.mp this with h | h <;> simp [h])
  · next hs => rw [if_neg hs]; simpa using key

theorem pot_add {M B sp sp' W d : Nat} (h : sp + M * W ≤ B) (h1 : sp' ≤ sp + d) : sp' + M * W ≤ B + d := by omega

/-- Run of subscriber s0: for (s, r) at most one synchronous call and one retry loop of at most maxRetries - 1 attempts -/
theorem Bud.runSub {c : Cfg} {B : Nat} {s r : Nat} {t : EvType} {σ : St} (hM : 1 ≤ c.maxRetries) (h : Bud c B s r t σ) (s0 : Nat) :
    Bud c (B + (if s0 = s then c.maxRetries else 0)) s r t (Nuts.C14.runSub c σ s0).1 := by
  obtain ⟨tr, hs, hr⟩ := runSub_run c σ s0
  have f := hr.frame s r h.leftPos
  have hcost := Nat.le_trans (cost_sublist (c := c) (s := s) (r := r) hs) (cost_runPlan_le c hM s0 s r _ (snapshot_pairwise c σ s0))
  refine ⟨?_, f.leftPos, by rw [f.evented, f.dag]; exact h.evDag⟩
  rw [unadm_congr r t f.dag f.evented, f.pending]
  exact pot_add h.pot (Nat.le_trans f.spent (Nat.add_le_add_left hcost _))

/-- how often subscriber `s` is run by one Network.Start (once: `Notifiers()` lists every notifier once) -/
def cnt (s : Nat) : List Nat → Nat
  | [] => 0
  | x :: l => (if x = s then 1 else 0) + cnt s l

theorem cnt_eq_count (s : Nat) (l : List Nat) : cnt s l = l.count s := by
  induction l with
  | nil => rfl
  | cons x l ih => rw [cnt, ih, List.count_cons, Nat.add_comm]; simp only [beq_iff_eq]

theorem Bud.runAll {c : Cfg} {s r : Nat} {t : EvType} (hM : 1 ≤ c.maxRetries) (order : List Nat) :
    ∀ {B : Nat} {σ : St}, Bud c B s r t σ → Bud c (B + c.maxRetries * cnt s order) s r t (Nuts.C14.runAll c order σ).1 := by
  intro B σ h
  fun_induction Nuts.C14.runAll c order σ generalizing B with
  | case1 σ => exact h.mono (by simp [cnt])
  | case2 s0 _ σ _ hq =>
    have h1 := hq ▸ h.runSub hM s0
    refine h1.mono ?_
    by_cases hs : s0 = s <;> simp [cnt, hs, Nat.mul_add]
  | case3 s0 _ σ _ hq ih =>
    have h1 := hq ▸ h.runSub hM s0
    refine (ih h1).mono ?_
    by_cases hs : s0 = s <;> simp [cnt, hs, Nat.mul_add] <;> omega

theorem Bud.restart {c : Cfg} {B : Nat} {s r : Nat} {t : EvType} {σ : St} (hM : 1 ≤ c.maxRetries) (h : Bud c B s r t σ) (order : List Nat) :
    Bud c (B + c.maxRetries * cnt s order) s r t (Nuts.C14.restart c σ order) := by
  rw [restart_spec]
  exact (Bud.runAll hM order h).settle

/-- the ops of a history with restarts: only the Range orders of state.notify have to be duplicate-free -/
def OkOp : Op → Prop
  | .afterCommit order => order.Nodup
  | _ => True

/-- what an op adds to the budget of subscriber `s` -/
def opCost (c : Cfg) (s : Nat) : Op → Nat
  | .restart order => c.maxRetries * cnt s order
  | _ => 0

def runCost (c : Cfg) (s : Nat) (ops : List Op) : Nat := (ops.map (opCost c s)).sum

theorem Bud.stepR {c : Cfg} {B : Nat} {s r : Nat} {t : EvType} {σ : St} (hM : 1 ≤ c.maxRetries) (hskip : c.skipPresent = true)
    (hg : c.notifyGuarded = true) (htyp : Typed c s t) (h : Bud c B s r t σ) (op : Op) (hop : OkOp op) :
    Bud c (B + opCost c s op) s r t (Nuts.C14.step c σ op) := by
  cases op with
  | restart order => exact h.restart hM order
  | add a => exact h.addTx a
  | afterCommit order => exact h.afterCommit hM htyp order hop
  | writePayload ref cf => exact h.writePayload hskip hg ref cf
  | finishedExt s' r' f => exact h.finishedExt s' r' f
  | fire s' r' => exact h.fire s' r'
  | crash => exact h.crash

theorem Bud.runR {c : Cfg} {s r : Nat} {t : EvType} (hM : 1 ≤ c.maxRetries) (hskip : c.skipPresent = true)
    (hg : c.notifyGuarded = true) (htyp : Typed c s t) (ops : List Op) (hops : ∀ op, op ∈ ops → OkOp op) :
    ∀ {B : Nat} (σ : St), Bud c B s r t σ → Bud c (B + runCost c s ops) s r t (Nuts.C14.run c σ ops) := by
  induction ops with
  | nil => intro B σ h; exact h
  | cons op ops ih =>
    intro B σ h
    have h1 := h.stepR hM hskip hg htyp op (hops op List.mem_cons_self)
    have h2 := ih (fun o ho => hops o (List.mem_cons_of_mem _ ho)) _ h1
    refine h2.mono ?_
    simp [runCost, Nat.add_assoc]

end Nuts.C14
