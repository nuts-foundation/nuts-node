/-
  C08 — the stored graph: clock index, downward-closed clocks (from the prev verifier), metadata; `dag.add` as a root
  check followed by `Disk.store`, which keeps the invariant. Independent of the trees.  Core Lean only.
-/
import NutsProofs.Lemmas.C08Spec
import NutsProofs.Lemmas.C08Shelf

namespace Nuts.C08

variable {n : Nat}

structure GInv (d : Disk n) : Prop where
  idx : ∀ c, (getSorted c d.clocks).getD [] = (d.txs.filter (fun t => t.clock == c)).map (·.ref)
  closed : ∀ t ∈ d.txs, t.clock ≠ 0 → ∃ t' ∈ d.txs, t'.clock + 1 = t.clock
  count : d.count = d.txs.length
  lc : d.lcHigh = maxClock d.txs
  head : (d.txs = [] ∧ d.head = none) ∨ (∃ t ∈ d.txs, d.head = some t.ref ∧ t.clock = maxClock d.txs)
  nodup : (d.txs.map (·.ref)).Nodup
  keys : d.clocks.map (·.1) = if d.txs = [] then [] else List.range' 0 (maxClock d.txs + 1)

/-- the graph invariant does not look at the leaf shelves -/
theorem GInv.of_eq {d d' : Disk n} (g : GInv d) (ht : d'.txs = d.txs) (hc : d'.clocks = d.clocks)
    (hn : d'.count = d.count) (hl : d'.lcHigh = d.lcHigh) (hh : d'.head = d.head) : GInv d' := by
  obtain ⟨idx, closed, count, lc, head, nodup, keys⟩ := g
  rw [← ht, ← hc] at idx keys
  rw [← ht] at closed nodup
  rw [← ht, ← hn] at count
  rw [← ht, ← hl] at lc
  rw [← ht, ← hh] at head
  exact ⟨idx, closed, count, lc, head, nodup, keys⟩

theorem GInv.empty : GInv ({} : Disk n) where
  idx := fun _ => rfl
  closed := fun _ h => (by cases h)
  count := rfl
  lc := rfl
  head := Or.inl ⟨rfl, rfl⟩
  nodup := List.nodup_nil
  keys := rfl

def clockEntry (S : List Tx) (c : Nat) : Nat × List Ref := (c, (S.filter (fun t => t.clock == c)).map (·.ref))

/-- the clocks that occur, in shelf order -/
def clockKeys (d : Disk n) : List Nat := if d.txs = [] then [] else List.range' 0 (maxClock d.txs + 1)

theorem clockKeys_nodup (d : Disk n) : (clockKeys d).Nodup := by
  unfold clockKeys; split
  · exact List.nodup_nil
  · exact List.nodup_range'

theorem GInv.clocks_eq {d : Disk n} (g : GInv d) : d.clocks = (clockKeys d).map (clockEntry d.txs) :=
  assoc_eq_of_keys (fun c => (clockEntry d.txs c).2) [] d.clocks (clockKeys d) g.keys (clockKeys_nodup d) (fun c _ => g.idx c)

theorem getTx_mem {d : Disk n} {r : Ref} {t : Tx} (h : d.getTx r = some t) : t ∈ d.txs ∧ t.ref = r := by
  unfold Disk.getTx at h
  exact ⟨List.mem_of_find?_eq_some h, by simpa using List.find?_some h⟩

theorem not_present {d : Disk n} {r : Ref} (h : d.isPresent r = false) : ∀ t ∈ d.txs, t.ref ≠ r := by
  intro t ht e
  unfold Disk.isPresent at h
  rw [List.any_eq_false] at h
  have := h t ht
  simp [e] at this

theorem verifyPrevsLoop_spec (d : Disk n) (prevs : List Ref) (hi1 h : Nat) :
    d.verifyPrevsLoop prevs hi1 = .ok h →
    (prevs = [] ∧ h = hi1) ∨ (prevs ≠ [] ∧ 1 ≤ h ∧ (h = hi1 ∨ ∃ t ∈ d.txs, t.clock + 1 = h)) := by
  fun_induction Disk.verifyPrevsLoop d prevs hi1 with
  | case1 hi1 => exact fun e => .inl ⟨rfl, (Res.ok.inj e).symm⟩
  | case2 p rest hi1 hg => exact nofun
  | case3 p rest hi1 pt hg ih =>
    intro e
    have hm := (getTx_mem hg).1
    have key : h = (if pt.clock + 1 ≥ hi1 then pt.clock + 1 else hi1) →
        1 ≤ h ∧ (h = hi1 ∨ ∃ t ∈ d.txs, t.clock + 1 = h) := by
      intro e2; split at e2
      · exact ⟨by omega, .inr ⟨pt, hm, e2.symm⟩⟩
      · exact ⟨by omega, .inl e2⟩
    refine .inr ⟨nofun, ?_⟩
    rcases ih e with ⟨_, e2⟩ | ⟨_, h1, e2 | e2⟩
    · exact key e2
    · exact key e2
    · exact ⟨h1, .inr e2⟩

theorem verifyPrevs_spec {d : Disk n} {tx : Tx} (h : d.verifyPrevs tx = .ok ()) :
    (tx.prevs = [] ∧ tx.clock = 0) ∨ (tx.prevs ≠ [] ∧ ∃ t ∈ d.txs, t.clock + 1 = tx.clock) := by
  unfold Disk.verifyPrevs at h
  cases hl : d.verifyPrevsLoop tx.prevs 0 with
  | err e => rw [hl] at h; cases h
  | panic e => rw [hl] at h; cases h
  | ok hi1 =>
    rw [hl] at h
    by_cases hc : tx.clock ≠ hi1
    · simp [hc] at h
    · have hc' : tx.clock = hi1 := by omega
      rcases verifyPrevsLoop_spec d _ _ _ hl with ⟨e1, e2⟩ | ⟨e1, h1, e2⟩
      · exact Or.inl ⟨e1, by omega⟩
      · rcases e2 with e2 | e2
        · omega
        · exact Or.inr ⟨e1, by rw [hc']; exact e2⟩

theorem exists_clock_zero {S : List Tx} (closed : ∀ t ∈ S, t.clock ≠ 0 → ∃ t' ∈ S, t'.clock + 1 = t.clock) :
    ∀ (k : Nat) (t : Tx), t ∈ S → t.clock = k → ∃ t0 ∈ S, t0.clock = 0 := by
  intro k
  induction k with
  | zero => intro t ht hc; exact ⟨t, ht, hc⟩
  | succ k ih =>
    intro t ht hc
    obtain ⟨t', ht', e⟩ := closed t ht (by omega)
    exact ih t' ht' (by omega)

theorem filter_clock_snoc (S : List Tx) (tx : Tx) (c : Nat) :
    ((S ++ [tx]).filter (fun t => t.clock == c)).map (·.ref) =
      (S.filter (fun t => t.clock == c)).map (·.ref) ++ (if tx.clock = c then [tx.ref] else []) := by
  rw [List.filter_append, List.map_append]
  by_cases h : tx.clock = c <;> simp [h]

/-- the disk image `dag.add` writes when it stores `tx` (`addSingle` + metadata) -/
def Disk.store (d : Disk n) (tx : Tx) : Disk n :=
  { d with
    clocks := putSorted tx.clock ((getSorted tx.clock d.clocks).getD [] ++ [tx.ref]) d.clocks
    txs := d.txs ++ [tx]
    lcHigh := if tx.clock > d.lcHigh || tx.clock == 0 then tx.clock else d.lcHigh
    head := if tx.clock > d.lcHigh || tx.clock == 0 then some tx.ref else d.head
    count := d.count + 1 }

theorem graphAdd_eq {d : Disk n} (g : GInv d) {tx : Tx} (hnp : d.isPresent tx.ref = false) :
    d.graphAdd tx = if tx.prevs.isEmpty && !((getSorted 0 d.clocks).getD []).isEmpty then .err "root-exists"
      else .ok (d.store tx) := by
  have hcont : ((getSorted tx.clock d.clocks).getD []).contains tx.ref = false := by
    rw [g.idx, List.contains_eq_any_beq, List.any_eq_false]
    intro r hr
    obtain ⟨t, ht, rfl⟩ := List.mem_map.mp hr
    simpa using fun e => not_present hnp t (List.mem_filter.mp ht).1 e.symm
  simp only [Disk.graphAdd, hnp, Bool.false_eq_true, if_false, Disk.indexClock, hcont]
  by_cases hr : (tx.prevs.isEmpty && !((getSorted 0 d.clocks).getD []).isEmpty) = true
  · rw [if_pos hr, if_pos hr]
  · rw [if_neg hr, if_neg hr]; rfl

theorem GInv.store {d : Disk n} (g : GInv d) {tx : Tx} (hnp : d.isPresent tx.ref = false) (hv : d.verifyPrevs tx = .ok ())
    (hroot : (tx.prevs.isEmpty && !((getSorted 0 d.clocks).getD []).isEmpty) = false) :
    GInv (d.store tx) ∧ (d.store tx).lcHigh = max d.lcHigh tx.clock ∧ tx.clock ≤ maxClock d.txs + 1 ∧
    (d.txs = [] → tx.clock = 0) := by
  have hfresh := not_present hnp
  obtain ⟨hle, hempty, hzero, hclosed⟩ : tx.clock ≤ maxClock d.txs + 1 ∧ (d.txs = [] → tx.clock = 0) ∧
      (tx.clock = 0 → d.txs = []) ∧ (tx.clock ≠ 0 → ∃ t' ∈ d.txs, t'.clock + 1 = tx.clock) := by
    rcases verifyPrevs_spec hv with ⟨hp, hc⟩ | ⟨hp, t, ht, hc⟩
    · refine ⟨by omega, fun _ => hc, fun _ => ?_, fun h => absurd hc h⟩
      -- a root: the root check passed, so no stored transaction has clock 0, so nothing is stored
      have hz : (getSorted 0 d.clocks).getD [] = [] := by simpa [hp] using hroot
      rw [g.idx 0] at hz
      cases hS : d.txs with
      | nil => rfl
      | cons x xs =>
        obtain ⟨t0, ht0, hc0⟩ := exists_clock_zero g.closed x.clock x (by rw [hS]; simp) rfl
        have : t0.ref ∈ (d.txs.filter (fun t => t.clock == 0)).map (·.ref) :=
          List.mem_map.mpr ⟨t0, List.mem_filter.mpr ⟨ht0, by simp [hc0]⟩, rfl⟩
        rw [hz] at this; cases this
    · have := le_maxClock ht
      exact ⟨by omega, fun e => (by rw [e] at ht; cases ht), fun h => (by omega), fun _ => ⟨t, ht, hc⟩⟩
  -- the head moves exactly when the clock is a new maximum (a root is the first transaction)
  have hnew : (decide (tx.clock > d.lcHigh) || tx.clock == 0) = decide (d.lcHigh < tx.clock ∨ d.txs = []) := by
    rw [Bool.eq_iff_iff]
    simp only [Bool.or_eq_true, decide_eq_true_eq, beq_iff_eq]
    exact ⟨fun h => h.imp id hzero, fun h => h.imp id hempty⟩
  have hlc : (d.store tx).lcHigh = max d.lcHigh tx.clock := by
    show (if decide (tx.clock > d.lcHigh) || tx.clock == 0 then tx.clock else d.lcHigh) = _
    rw [hnew]
    by_cases h : d.lcHigh < tx.clock ∨ d.txs = []
    · rw [if_pos (by simpa using h)]
      rcases h with h | h
      · omega
      · rw [g.lc, h]; exact (Nat.zero_max _).symm
    · rw [if_neg (by simpa using h)]; omega
  refine ⟨⟨?_, ?_, ?_, ?_, ?_, ?_, ?_⟩, hlc, hle, hempty⟩
  · intro c
    show (getSorted c (putSorted tx.clock _ d.clocks)).getD [] = ((d.txs ++ [tx]).filter _).map _
    rw [getSorted_putSorted, filter_clock_snoc]
    by_cases hc : c = tx.clock
    · subst hc; simp [g.idx]
    · have : tx.clock ≠ c := fun e => hc e.symm
      simp [hc, this, g.idx]
  · intro t ht hne
    show ∃ t' ∈ d.txs ++ [tx], _
    rcases List.mem_append.mp ht with h | h
    · obtain ⟨t', ht', e⟩ := g.closed t h hne
      exact ⟨t', List.mem_append.mpr (Or.inl ht'), e⟩
    · simp at h; subst h
      obtain ⟨t', ht', e⟩ := hclosed hne
      exact ⟨t', List.mem_append.mpr (Or.inl ht'), e⟩
  · show d.count + 1 = (d.txs ++ [tx]).length
    simp [g.count]
  · show (d.store tx).lcHigh = maxClock (d.txs ++ [tx])
    rw [hlc, maxClock_snoc, g.lc]
  · right
    show ∃ t ∈ d.txs ++ [tx], (if decide (tx.clock > d.lcHigh) || tx.clock == 0 then some tx.ref else d.head) = some t.ref ∧
      t.clock = maxClock (d.txs ++ [tx])
    rw [maxClock_snoc, ← g.lc, hnew]
    by_cases h : d.lcHigh < tx.clock ∨ d.txs = []
    · refine ⟨tx, by simp, by rw [if_pos (by simpa using h)], ?_⟩
      rcases h with h | h
      · omega
      · rw [g.lc, h]; exact (Nat.zero_max _).symm
    · rcases g.head with ⟨he, _⟩ | ⟨t, ht, e1, e2⟩
      · exact absurd (.inr he) h
      · refine ⟨t, List.mem_append.mpr (Or.inl ht), by rw [if_neg (by simpa using h), e1], ?_⟩
        rw [e2, ← g.lc]; omega
  · show ((d.txs ++ [tx]).map (·.ref)).Nodup
    rw [List.map_append]
    refine nodup_snoc g.nodup fun ha => ?_
    obtain ⟨t, ht, e⟩ := List.mem_map.mp ha
    exact hfresh t ht e
  · show (putSorted tx.clock _ d.clocks).map (·.1) = if d.txs ++ [tx] = [] then [] else List.range' 0 (maxClock (d.txs ++ [tx]) + 1)
    rw [if_neg (by simp), maxClock_snoc]
    by_cases hS : d.txs = []
    · rw [putSorted_keys _ _ _ 0 0 (g.keys.trans (if_pos hS)) (Nat.zero_le _) (by have := hempty hS; omega), hS, hempty hS]
      rfl
    · rw [putSorted_keys _ _ _ 0 _ (g.keys.trans (if_neg hS)) (Nat.zero_le _) (by omega)]
      congr 1; omega

theorem graphAdd_spec {d : Disk n} (g : GInv d) {tx : Tx} (hnp : d.isPresent tx.ref = false)
    (hv : d.verifyPrevs tx = .ok ()) :
    d.graphAdd tx = .err "root-exists" ∨
    ∃ d', d.graphAdd tx = .ok d' ∧ GInv d' ∧ d'.txs = d.txs ++ [tx] ∧ d'.xorLeaves = d.xorLeaves ∧
      d'.ibltLeaves = d.ibltLeaves ∧ d'.lcHigh = max d.lcHigh tx.clock ∧ tx.clock ≤ maxClock d.txs + 1 ∧
      (d.txs = [] → tx.clock = 0) := by
  rw [graphAdd_eq g hnp]
  cases hroot : tx.prevs.isEmpty && !((getSorted 0 d.clocks).getD []).isEmpty with
  | true => exact .inl rfl
  | false =>
    obtain ⟨gi, hlc, hle, he⟩ := g.store hnp hv hroot
    exact .inr ⟨_, rfl, gi, rfl, rfl, rfl, hlc, hle, he⟩

end Nuts.C08
