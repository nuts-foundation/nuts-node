/-
  C05 — the session store as a map: what `stFind` / `stGet` see after `stErase` / `stPut`, and after time has passed.
-/
import NutsModel.C05.OneTime

namespace Nuts.C05

theorem stFind_erase_self (s : Store) (k : Key) : stFind (stErase s k) k = none := by
  fun_induction stErase s k with
  | case1 => rfl
  | case2 _ _ _ ih => exact ih
  | case3 _ _ _ _ h ih => rw [stFind, if_neg h]; exact ih

theorem stFind_erase_ne (s : Store) (k k' : Key) (h : k' ≠ k) : stFind (stErase s k) k' = stFind s k' := by
  fun_induction stErase s k with
  | case1 => rfl
  | case2 _ _ k ih => rw [ih h, stFind, if_neg (Ne.symm h)]
  | case3 k'' _ _ _ _ ih => simp only [stFind, ih h]

theorem stFind_put_self (s : Store) (k : Key) (e : Entry) : stFind (stPut s k e) k = some e := by
  simp [stPut, stFind]

theorem stFind_put_ne (s : Store) (k k' : Key) (e : Entry) (h : k' ≠ k) : stFind (stPut s k e) k' = stFind s k' := by
  simp [stPut, stFind, stFind_erase_ne s k k' h]
  intro h2; exact absurd h2.symm h

theorem stGet_none_of_find_none (incl : Bool) (s : Store) (now : Nat) (k : Key) (h : stFind s k = none) :
    stGet incl s now k = none := by simp [stGet, h]

theorem stGet_some (incl : Bool) (s : Store) (now : Nat) (k : Key) (v : String) (h : stGet incl s now k = some v) :
    ∃ e, stFind s k = some e ∧ alive incl now e.exp = true ∧ e.val = v := by
  unfold stGet at h
  split at h
  · rename_i e he
    split at h
    · rename_i ha
      exact ⟨e, he, ha, by simpa using h⟩
    · cases h
  · cases h

theorem stGet_none_find_some (incl : Bool) (s : Store) (now : Nat) (k : Key) (e : Entry)
    (h : stGet incl s now k = none) (he : stFind s k = some e) : e.exp ≤ now := by
  simp [stGet, he, alive] at h
  omega

theorem stGet_isSome_find (incl : Bool) (s : Store) (now : Nat) (k : Key) (h : (stGet incl s now k).isSome = true) :
    ∃ e, stFind s k = some e := by
  cases hg : stGet incl s now k with
  | none => simp [hg] at h
  | some v => obtain ⟨e, he, _⟩ := stGet_some incl s now k v hg; exact ⟨e, he⟩

theorem stGet_none_erase (incl : Bool) (s : Store) (now : Nat) (k k' : Key) (h : stGet incl s now k = none) :
    stGet incl (stErase s k') now k = none := by
  by_cases hk : k = k'
  · subst hk; exact stGet_none_of_find_none incl _ now k (stFind_erase_self s k)
  · unfold stGet at *; rw [stFind_erase_ne s k' k hk]; exact h

theorem stGet_erase_self (incl : Bool) (s : Store) (now : Nat) (k : Key) : stGet incl (stErase s k) now k = none :=
  stGet_none_of_find_none incl _ now k (stFind_erase_self s k)

theorem stGet_put_ne (incl : Bool) (s : Store) (now : Nat) (k k' : Key) (e : Entry) (hk : k ≠ k') :
    stGet incl (stPut s k' e) now k = stGet incl s now k := by
  unfold stGet; rw [stFind_put_ne s k' k e hk]

theorem stGet_none_put_ne (incl : Bool) (s : Store) (now : Nat) (k k' : Key) (e : Entry) (hk : k ≠ k')
    (h : stGet incl s now k = none) : stGet incl (stPut s k' e) now k = none := by
  rw [stGet_put_ne incl s now k k' e hk]; exact h

theorem alive_of_lt (incl : Bool) (now exp : Nat) (h : now < exp) : alive incl now exp = true := by
  simp [alive, h]

theorem stGet_of_find_live (incl : Bool) (s : Store) (now : Nat) (k : Key) (e : Entry) (hf : stFind s k = some e) (h : now < e.exp) :
    stGet incl s now k = some e.val := by
  unfold stGet; simp [hf, alive_of_lt incl now e.exp h]

theorem stGet_put_self (incl : Bool) (s : Store) (now : Nat) (k : Key) (e : Entry) (h : now < e.exp) :
    stGet incl (stPut s k e) now k = some e.val :=
  stGet_of_find_live incl _ now k e (stFind_put_self s k e) h

theorem alive_mono (incl : Bool) (now dt exp : Nat) (h : alive incl (now + dt) exp = true) : alive incl now exp = true := by
  simp [alive] at *
  rcases h with h | h
  · left; omega
  · by_cases hd : dt = 0
    · right; exact ⟨h.1, by omega⟩
    · left; omega

theorem stGet_none_later (incl : Bool) (s : Store) (now dt : Nat) (k : Key) (h : stGet incl s now k = none) :
    stGet incl s (now + dt) k = none := by
  unfold stGet at *
  cases hf : stFind s k with
  | none => simp
  | some e =>
    simp only [hf] at h ⊢
    cases ha : alive incl (now + dt) e.exp with
    | false => simp
    | true => have := alive_mono incl now dt e.exp ha; simp [this] at h

theorem stGet_none_of_find_eq (incl : Bool) (s s' : Store) (now : Nat) (k : Key)
    (h : stFind s' k = stFind s k ∨ stFind s' k = none) (hd : stGet incl s now k = none) : stGet incl s' now k = none := by
  rcases h with h | h
  · simp only [stGet] at hd ⊢; rw [h]; exact hd
  · exact stGet_none_of_find_none _ _ _ _ h

end Nuts.C05
