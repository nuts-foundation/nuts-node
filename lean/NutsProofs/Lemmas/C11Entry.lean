/- C11, concurrent `Entry` calls: the invariant `EInvX` of the issuer node with its threads and row locks is kept by every
   step of every schedule (`eRun_inv`). The steps are composed of three elementary changes — a thread's phase (`EInvX.setPhase`),
   a rewrite of the page rows (`EInvX.map_pages`), anything that leaves pages and threads alone (`EInvX.of_pages`); the two
   that add something (a page in `applyOut_inv`, a thread in `eStep_inv`) are checked field by field. -/
import NutsProofs.Lemmas.C11Ops
namespace Nuts.C11

theorem setPhase_get (w : EWorld) (tid : Nat) (p : EPhase) (t : Nat) (th' : EThread)
    (h : (w.setPhase tid p).threads[t]? = some th') :
    (t ≠ tid ∧ w.threads[t]? = some th') ∨ (t = tid ∧ ∃ th, w.threads[tid]? = some th ∧ th' = { th with phase := p }) := by
  unfold EWorld.setPhase at h
  simp only [List.getElem?_modify] at h
  by_cases e : tid = t
  · subst e
    right
    cases hh : w.threads[tid]? with
    | none => rw [hh] at h; simp at h
    | some th => rw [hh] at h; simp at h; exact ⟨rfl, th, rfl, h.symm⟩
  · left
    refine ⟨fun x => e x.symm, ?_⟩
    cases hh : w.threads[t]? with
    | none => rw [hh] at h; simp at h
    | some th => rw [hh] at h; simp [e] at h; rw [h]

theorem setPhase_node (w : EWorld) (tid : Nat) (p : EPhase) : (w.setPhase tid p).node = w.node := rfl

theorem setPhase_now (w : EWorld) (tid : Nat) (p : EPhase) : (w.setPhase tid p).now = w.now := rfl

/-- invariant of the issuer node with running `Entry` calls; `x` = a thread whose row lock is not claimed (none: all are) -/
structure EInvX (E : Env) (w : EWorld) (x : Option Nat) : Prop where
  fn : ∀ r1 r2, r1 ∈ w.node.pages → r2 ∈ w.node.pages → r1.id = r2.id → r1 = r2
  le : ∀ r, r ∈ w.node.pages → r.last ≤ E.maxIndex
  done : ∀ (t : Nat) (th : EThread) l i, w.threads[t]? = some th → th.phase = .done l i → ∃ r, r ∈ w.node.pages ∧ r.id = l ∧ i ≤ r.last
  lock : ∀ (t : Nat) (th : EThread) r, some t ≠ x → w.threads[t]? = some th → th.phase = .locked (some r) →
    ∃ r', r' ∈ w.node.pages ∧ r'.id = r.id ∧ r'.lock = some t ∧ r'.last = r.last
  uniq : ∀ (t1 t2 : Nat) (th1 th2 : EThread) l i, t1 ≠ t2 → w.threads[t1]? = some th1 → w.threads[t2]? = some th2 →
    th1.phase = .done l i → th2.phase ≠ .done l i

abbrev EInv (E : Env) (w : EWorld) : Prop := EInvX E w none

theorem EInvX.weaken {E : Env} {w : EWorld} (h : EInv E w) (x : Option Nat) : EInvX E w x :=
  { fn := h.fn, le := h.le, done := h.done, uniq := h.uniq,
    lock := fun t th r _ h1 h2 => h.lock t th r (by simp) h1 h2 }

/-- thread `tid`, whose row lock is the unclaimed one, moves to phase `p`: all claims hold again, provided a `done` result
    is backed by a row that has reached it and is new among the results, and a `locked` row is locked by `tid` -/
theorem EInvX.setPhase {E : Env} {w : EWorld} {tid : Nat} (h : EInvX E w (some tid)) (p : EPhase)
    (hd : ∀ l i, p = .done l i → (∃ r, r ∈ w.node.pages ∧ r.id = l ∧ i ≤ r.last) ∧
      ∀ t th, t ≠ tid → w.threads[t]? = some th → th.phase ≠ .done l i)
    (hl : ∀ r, p = .locked (some r) → ∃ r', r' ∈ w.node.pages ∧ r'.id = r.id ∧ r'.lock = some tid ∧ r'.last = r.last) :
    EInv E (w.setPhase tid p) := by
  refine { fn := h.fn, le := h.le, done := ?_, lock := ?_, uniq := ?_ }
  · intro t th l i ht hp
    rcases setPhase_get w tid p t th ht with ⟨_, h1⟩ | ⟨_, th0, _, e⟩
    · exact h.done t th l i h1 hp
    · subst e; exact (hd l i hp).1
  · intro t th r _ ht hp
    rcases setPhase_get w tid p t th ht with ⟨hne, h1⟩ | ⟨e', th0, _, e⟩
    · exact h.lock t th r (by simp [hne]) h1 hp
    · subst e; subst e'; exact hl r hp
  · intro t1 t2 th1 th2 l i hne h1 h2 hp1
    rcases setPhase_get w tid p t1 th1 h1 with ⟨n1, g1⟩ | ⟨e1, th0, _, e⟩
    · rcases setPhase_get w tid p t2 th2 h2 with ⟨_, g2⟩ | ⟨_, th0, _, e⟩
      · exact h.uniq t1 t2 th1 th2 l i hne g1 g2 hp1
      · subst e; intro hp2; exact (hd l i hp2).2 t1 th1 n1 g1 hp1
    · subst e
      rcases setPhase_get w tid p t2 th2 h2 with ⟨n2, g2⟩ | ⟨e2, _, _, _⟩
      · exact (hd l i hp1).2 t2 th2 n2 g2
      · exact absurd (e1.trans e2.symm) hne

theorem EInvX.setPhase_inert {E : Env} {w : EWorld} {tid : Nat} (h : EInvX E w (some tid)) (p : EPhase)
    (hd : ∀ l i, p ≠ .done l i) (hl : ∀ r, p ≠ .locked (some r)) : EInv E (w.setPhase tid p) :=
  h.setPhase p (fun l i e => absurd e (hd l i)) (fun r e => absurd e (hl r))

theorem EInvX.map_pages {E : Env} {w : EWorld} {x : Option Nat} (h : EInvX E w x) (g : PageRow → PageRow)
    (gid : ∀ r, (g r).id = r.id) (glast : ∀ r, r ∈ w.node.pages → r.last ≤ (g r).last ∧ (g r).last ≤ E.maxIndex)
    (glock : ∀ r t, some t ≠ x → r ∈ w.node.pages → r.lock = some t → (g r).lock = some t ∧ (g r).last = r.last) :
    EInvX E { w with node := { w.node with pages := w.node.pages.map g } } x := by
  refine { fn := ?_, le := ?_, done := ?_, lock := ?_, uniq := h.uniq }
  · intro r1 r2 h1 h2 hid
    obtain ⟨a, ha, rfl⟩ := List.mem_map.mp h1
    obtain ⟨b, hb, rfl⟩ := List.mem_map.mp h2
    rw [gid, gid] at hid
    rw [h.fn a b ha hb hid]
  · intro r hr
    obtain ⟨a, ha, rfl⟩ := List.mem_map.mp hr
    exact (glast a ha).2
  · intro t th l i ht hp
    obtain ⟨a, ha, hal, hai⟩ := h.done t th l i ht hp
    exact ⟨g a, List.mem_map.mpr ⟨a, ha, rfl⟩, (gid a).trans hal, Nat.le_trans hai (glast a ha).1⟩
  · intro t th r hx ht hp
    obtain ⟨a, ha, haid, halock, halast⟩ := h.lock t th r hx ht hp
    obtain ⟨h1, h2⟩ := glock a t hx ha halock
    exact ⟨g a, List.mem_map.mpr ⟨a, ha, rfl⟩, (gid a).trans haid, h1, h2.trans halast⟩

theorem eRead_inv {E : Env} {w : EWorld} (h : EInv E w) (tid : Nat) (sel : Option Url) : EInv E (eRead E w tid sel) := by
  fun_cases eRead E w tid sel with
  | case1 | case2 => exact (h.weaken _).setPhase_inert _ (by intros; simp) (by intros; simp)
  | case3 th hth pin hph kid _ u r hfind =>
    have hr_mem := List.mem_of_find?_eq_some hfind
    have hr_p := List.find?_some hfind
    simp only [Bool.and_eq_true, beq_iff_eq, Option.isNone_iff_eq_none] at hr_p
    obtain ⟨⟨hrid, _⟩, hrlock⟩ := hr_p
    refine ((h.weaken (some tid)).map_pages _ ?_ ?_ ?_).setPhase _ (by intro l i e; cases e) ?_
    · intro x; split <;> rfl
    · intro x hx; have := h.le x hx; split <;> exact ⟨Nat.le_refl _, this⟩
    · -- a row locked by another thread is not the free row `r` of list `u`
      intro x t _ hx hlk
      have : ¬ x.id = u := fun e => by
        rw [h.fn x r hx hr_mem (e.trans hrid.symm), hrlock] at hlk; cases hlk
      simp [this, hlk]
    · intro r0 e; cases e
      exact ⟨{ r with lock := some tid }, List.mem_map.mpr ⟨r, hr_mem, by simp [hrid]⟩, rfl, rfl, rfl⟩
  | _ => exact h

theorem unlock_inv {E : Env} {w : EWorld} (h : EInv E w) (tid : Nat) (th : EThread) (row : Option PageRow)
    (hth : w.threads[tid]? = some th) (hph : th.phase = .locked row) :
    EInvX E { w with node := w.node.unlock tid } (some tid) ∧
    (∀ r, row = some r → ∃ r', r' ∈ (w.node.unlock tid).pages ∧ r'.id = r.id ∧ r'.last = r.last ∧ r'.lock = none) := by
  constructor
  · refine (h.weaken (some tid)).map_pages _ ?_ ?_ ?_
    · intro x; split <;> rfl
    · intro x hx; have := h.le x hx; split <;> exact ⟨Nat.le_refl _, this⟩
    · intro x t ht _ hlk
      have : ¬ t = tid := fun e => ht (by rw [e])
      simp [hlk, this]
  · intro r hr
    subst hr
    obtain ⟨a, ha, haid, halock, halast⟩ := h.lock tid th r (by simp) hth hph
    exact ⟨{ a with lock := none }, List.mem_map.mpr ⟨a, ha, by simp [halock]⟩, haid, halast, rfl⟩

/-- commit / rollback of the write step, on the node whose lock held by `tid` has been released -/
theorem applyOut_inv {E : Env} {w : EWorld} {tid : Nat} {th : EThread} {row : Option PageRow} {kid : String}
    (h : EInvX E w (some tid))
    (hsnap : ∀ r, row = some r → ∃ r', r' ∈ w.node.pages ∧ r'.id = r.id ∧ r'.last = r.last ∧ r'.lock = none) :
    EInv E ({ w with node := (w.node.applyOut (entryDecide E w.now w.node th.issuer kid row)).1 }.setPhase tid
      (w.node.applyOut (entryDecide E w.now w.node th.issuer kid row)).2) := by
  cases hout : entryDecide E w.now w.node th.issuer kid row with
  | retry pin => exact h.setPhase_inert (.start (some pin)) (by intros; simp) (by intros; simp)
  | fail e => exact h.setPhase_inert (.failed e) (by intros; simp) (by intros; simp)
  | update id last =>
    obtain ⟨r, hrow, hid, hlast, hle⟩ := entryDecide_update hout
    obtain ⟨r', hr'mem, hr'id, hr'last, hr'lock⟩ := hsnap r hrow
    have hr'id' : r'.id = id := hr'id.trans hid.symm
    -- the unlocked row `r'` the select saw is the only row of list `id`
    have only : ∀ x, x ∈ w.node.pages → x.id = id → x = r' := fun x hx e => h.fn x r' hx hr'mem (e.trans hr'id'.symm)
    simp only [Node.applyOut]
    refine (h.map_pages _ ?_ ?_ ?_).setPhase _ ?_ (by intro r e; cases e)
    · intro x; split <;> rfl
    · intro x hx
      split
      · next e => rw [only x hx (by simpa using e)]; exact ⟨by simp only; omega, hle⟩
      · exact ⟨Nat.le_refl _, h.le x hx⟩
    · intro x t _ hx hlk
      have : ¬ x.id = id := fun e => by rw [only x hx e, hr'lock] at hlk; cases hlk
      simp [this, hlk]
    · intro l i e; cases e
      refine ⟨⟨_, List.mem_map.mpr ⟨r', hr'mem, rfl⟩, by simp [hr'id'], by simp [hr'id']⟩, ?_⟩
      -- every earlier result on this list is at most `r'.last`
      intro t' th' _ ht' hd
      obtain ⟨a, ha, hal, hai⟩ := h.done t' th' id last ht' hd
      rw [only a ha hal] at hai; omega
  | create nr rec =>
    obtain ⟨_, _, hnr0, hnm, _, _⟩ := entryDecide_create hout
    have hfresh := isManaged_false hnm
    simp only [Node.applyOut]
    have h' : EInvX E { w with node := { w.node with pages := nr :: w.node.pages, creds := rec :: w.node.creds } } (some tid) := by
      refine { fn := ?_, le := ?_, done := ?_, lock := ?_, uniq := h.uniq }
      · intro r1 r2 h1 h2 hid
        rcases List.mem_cons.mp h1 with rfl | m1 <;> rcases List.mem_cons.mp h2 with rfl | m2
        · rfl
        · exact absurd hid.symm (hfresh r2 m2)
        · exact absurd hid (hfresh r1 m1)
        · exact h.fn r1 r2 m1 m2 hid
      · intro x hx
        rcases List.mem_cons.mp hx with rfl | hx
        · omega
        · exact h.le x hx
      · intro t th' l i ht hd
        obtain ⟨a, ha, hal, hai⟩ := h.done t th' l i ht hd
        exact ⟨a, List.mem_cons_of_mem _ ha, hal, hai⟩
      · intro t th' r0 hx ht hl
        obtain ⟨a, ha, hrest⟩ := h.lock t th' r0 hx ht hl
        exact ⟨a, List.mem_cons_of_mem _ ha, hrest⟩
    refine h'.setPhase _ ?_ (by intro r e; cases e)
    intro l i e; cases e
    refine ⟨⟨nr, List.mem_cons_self, rfl, Nat.zero_le _⟩, ?_⟩
    intro t' th' _ ht' hd
    obtain ⟨a, ha, hal, _⟩ := h.done t' th' nr.id 0 ht' hd
    exact hfresh a ha hal

theorem eWrite_inv {E : Env} {w : EWorld} (h : EInv E w) (tid : Nat) : EInv E (eWrite E w tid) := by
  unfold eWrite
  split
  · rename_i th hth
    split
    · rename_i row hph
      split
      · exact (h.weaken _).setPhase_inert _ (by intros; simp) (by intros; simp)
      · rename_i kid _
        obtain ⟨h0, hsnap⟩ := unlock_inv h tid th row hth hph
        exact applyOut_inv (w := { w with node := w.node.unlock tid }) (kid := kid) h0 hsnap
    all_goals exact h
  · exact h

theorem EInvX.of_pages {E : Env} {w w' : EWorld} {x : Option Nat} (h : EInvX E w x) (hp : w'.node.pages = w.node.pages)
    (ht : w'.threads = w.threads) : EInvX E w' x :=
  { fn := by rw [hp]; exact h.fn, le := by rw [hp]; exact h.le, done := by rw [hp, ht]; exact h.done,
    lock := by rw [hp, ht]; exact h.lock, uniq := by rw [ht]; exact h.uniq }

theorem eStep_inv {E : Env} {w : EWorld} (h : EInv E w) (a : EAct) : EInv E (eStep E w a) := by
  cases a with
  | spawn issuer =>
    have key : ∀ (t : Nat) (th : EThread), (w.threads ++ [({ issuer := issuer } : EThread)])[t]? = some th →
        w.threads[t]? = some th ∨ th.phase = .start none := by
      intro t th ht
      rw [List.getElem?_append] at ht
      split at ht
      · exact Or.inl ht
      · right
        cases hh : t - w.threads.length with
        | zero => rw [hh] at ht; simp at ht; rw [← ht]
        | succ k => rw [hh] at ht; simp at ht
    refine { fn := h.fn, le := h.le, done := ?_, lock := ?_, uniq := ?_ }
    · intro t th l i ht hd
      rcases key t th ht with h1 | h1
      · exact h.done t th l i h1 hd
      · rw [h1] at hd; cases hd
    · intro t th r hx ht hl
      rcases key t th ht with h1 | h1
      · exact h.lock t th r hx h1 hl
      · rw [h1] at hl; cases hl
    · intro t1 t2 th1 th2 l i hne h1 h2 hp1
      rcases key t1 th1 h1 with g1 | g1
      · rcases key t2 th2 h2 with g2 | g2
        · exact h.uniq t1 t2 th1 th2 l i hne g1 g2 hp1
        · rw [g2]; simp
      · rw [g1] at hp1; cases hp1
  | read tid sel => exact eRead_inv h tid sel
  | write tid => exact eWrite_inv h tid
  | revoke credId e =>
    simp only [eStep]
    split
    · rename_i n hn; exact h.of_pages (revoke_pages hn) rfl
    · exact h
  | serve issuer page =>
    simp only [eStep]
    split
    · rename_i vc n hn; exact h.of_pages (credential_pages hn) rfl
    · exact h
  | tick d => exact h.of_pages rfl rfl
  | rebase b => exact h.of_pages rfl rfl

theorem eRun_inv {E : Env} (acts : List EAct) : ∀ {w : EWorld}, EInv E w → EInv E (eRun E w acts) := by
  induction acts with
  | nil => intro w h; exact h
  | cons a rest ih => intro w h; exact ih (eStep_inv h a)

end Nuts.C11
