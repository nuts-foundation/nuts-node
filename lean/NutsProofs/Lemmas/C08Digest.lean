/-
  C08 — what a tree and its shelf must hold in terms of the stored references: `pageVal` (the content of a page),
  `Digest` (the tree against the specification folds) and `TreeOK`, kept by `treeStore.write` and by `Load`; what
  `XOR(req)` / `IBLT(req)` read off such a tree.  Core Lean only.
-/
import NutsProofs.Lemmas.C08Store
import NutsProofs.Lemmas.C08Spec

namespace Nuts.C08

variable {R G : Type}

def refClocks (S : List Tx) : List (Ref × Nat) := S.map fun t => (t.ref, t.clock)

def keyClocks (S : List Tx) : List (IKey × Nat) := S.map fun t => (t.ikey, t.clock)

theorem refClocks_snoc (S : List Tx) (tx : Tx) : refClocks (S ++ [tx]) = refClocks S ++ [(tx.ref, tx.clock)] := by
  simp [refClocks]

theorem keyClocks_snoc (S : List Tx) (tx : Tx) : keyClocks (S ++ [tx]) = keyClocks S ++ [(tx.ikey, tx.clock)] := by
  simp [keyClocks]

def pageVal (o : Ops R G) (ls : Nat) (l : List (R × Nat)) (p : Nat) : G :=
  specAll o (l.filter (fun rc => rc.2 / ls == p))

theorem pageVal_snoc (o : Ops R G) (ls : Nat) (l : List (R × Nat)) (rc : R × Nat) :
    pageVal o ls (l ++ [rc]) = upd (pageVal o ls l) (rc.2 / ls) (o.ins (pageVal o ls l (rc.2 / ls)) rc.1) := by
  funext p
  unfold pageVal upd
  rw [List.filter_append]
  by_cases h : p = rc.2 / ls
  · subst h; simp [specAll_snoc]
  · have : (rc.2 / ls == p) = false := by simp; omega
    simp [h, this]

theorem pageVal_nil (o : Ops R G) (ls : Nat) : pageVal o ls ([] : List (R × Nat)) = fun _ => o.zero := rfl

theorem pageVal_beyond (o : Ops R G) {ls : Nat} (l : List (R × Nat)) (M p : Nat)
    (hM : ∀ rc ∈ l, rc.2 ≤ M) (hp : M / ls < p) : pageVal o ls l p = o.zero := by
  unfold pageVal
  rw [List.filter_eq_nil_iff.mpr]
  · rfl
  · intro rc hrc
    have := Nat.div_le_div_right (c := ls) (hM rc hrc)
    simp; omega

theorem max_div (a b ls : Nat) : (max a b) / ls = max (a / ls) (b / ls) := by
  by_cases h : a ≤ b
  · have := Nat.div_le_div_right (c := ls) h
    rw [Nat.max_eq_right h, Nat.max_eq_right this]
  · have h' : b ≤ a := by omega
    have := Nat.div_le_div_right (c := ls) h'
    rw [Nat.max_eq_left h', Nat.max_eq_left this]

theorem succ_div_le (M ls : Nat) (hls : 0 < ls) : (M + 1) / ls ≤ M / ls + 1 := by
  have h1 : (M + 1) / ls ≤ (M + ls) / ls := Nat.div_le_div_right (by omega)
  rw [Nat.add_div_right M hls] at h1
  exact h1

def Digest (o : Ops R G) (ls : Nat) (l : List (R × Nat)) (t : Tree G) : Prop :=
  ∀ q : Nat → Bool, fsum o ls q t.root.leaves = specAll o (l.filter (fun rc => q (rc.2 / ls)))

/-- tree and shelf are what the stored references `l` (highest clock `M`) imply -/
def TreeOK (o : Ops R G) (ls : Nat) (l : List (R × Nat)) (M : Nat) (t : Tree G) (shelf : List (Nat × G)) : Prop :=
  (l = [] ∧ Fresh o ls t shelf) ∨ (l ≠ [] ∧ Sync o ls t shelf (M / ls + 1) (pageVal o ls l) ∧ Digest o ls l t)

theorem Digest.new {o : Ops R G} (L : Lawful o) (ls : Nat) : Digest o ls [] (Tree.new o ls) :=
  fun q => fsum_single_zero L ls q _

theorem TreeOK.inv {o : Ops R G} (L : Lawful o) {ls : Nat} (hls : 0 < ls) {l : List (R × Nat)} {M : Nat} {t : Tree G}
    {shelf : List (Nat × G)} (h : TreeOK o ls l M t shelf) : TInv o t ∧ t.leafSize = ls ∧ Digest o ls l t := by
  rcases h with ⟨rfl, rfl, _⟩ | ⟨_, s, d⟩
  · exact ⟨TInv.new o hls, rfl, Digest.new L ls⟩
  · exact ⟨s.holds.inv, s.holds.ls_eq, d⟩

theorem TreeOK.holds {o : Ops R G} {ls : Nat} (hls : 0 < ls) {l : List (R × Nat)} {M : Nat} {t : Tree G}
    {shelf : List (Nat × G)} (h : TreeOK o ls l M t shelf) (hM : l = [] → M = 0) :
    ∃ val, Holds o ls t (M / ls + 1) val := by
  rcases h with ⟨e, rfl, _⟩ | ⟨_, s, _⟩
  · rw [hM e, Nat.zero_div]
    exact ⟨_, Holds.new o hls⟩
  · exact ⟨_, s.holds⟩

/-- A tree that is what the stored transactions `S` imply (their references taken by `key`), read both ways: its sums
    are the specification folds, and it holds the pages up to that of the highest clock with the folds of the pages'
    references. The new tree of the empty DAG is the case of one page holding zero. -/
theorem TreeOK.view {o : Ops R G} (L : Lawful o) {ls : Nat} (hls : 0 < ls) {key : Tx → R} {S : List Tx} {t : Tree G}
    {shelf : List (Nat × G)} (h : TreeOK o ls (S.map fun t => (key t, t.clock)) (maxClock S) t shelf) :
    TInv o t ∧ t.leafSize = ls ∧ Digest o ls (S.map fun t => (key t, t.clock)) t ∧
    Holds o ls t (maxClock S / ls + 1) (pageVal o ls (S.map fun t => (key t, t.clock))) := by
  rcases h with ⟨e, rfl, _⟩ | ⟨_, s, d⟩
  · rw [List.map_eq_nil_iff.mp e]
    exact ⟨TInv.new o hls, rfl, Digest.new L ls, by rw [maxClock_nil, Nat.zero_div]; exact Holds.new o hls⟩
  · exact ⟨s.holds.inv, s.holds.ls_eq, d, s.holds⟩

theorem TreeOK.write {o : Ops R G} (L : Lawful o) {ls : Nat} (hls : 0 < ls) {key : Tx → R} {S : List Tx} {t : Tree G}
    {shelf : List (Nat × G)} (h : TreeOK o ls (S.map fun t => (key t, t.clock)) (maxClock S) t shelf) (tx : Tx)
    (hc : tx.clock ≤ maxClock S + 1) (he : S = [] → tx.clock = 0) :
    TreeOK o ls ((S ++ [tx]).map fun t => (key t, t.clock)) (maxClock (S ++ [tx]))
      (persist (t.insert o (key tx) tx.clock) shelf).1 (persist (t.insert o (key tx) tx.clock) shelf).2 := by
  obtain ⟨i, els, dg, H⟩ := h.view L hls
  rw [List.map_append, maxClock_snoc, List.map_cons, List.map_nil]
  refine Or.inr ⟨by simp, ?_, ?_⟩
  · rw [max_div, pageVal_snoc, show max (maxClock S / ls) (tx.clock / ls) + 1 = max (maxClock S / ls + 1) (tx.clock / ls + 1) by omega]
    have hP : tx.clock / ls ≤ maxClock S / ls + 1 := by
      have := Nat.div_le_div_right (c := ls) hc
      have := succ_div_le (maxClock S) ls hls
      omega
    have hz := fun p (hp : maxClock S / ls + 1 ≤ p) => pageVal_beyond o _ (maxClock S) p (mem_map_clock_le (key := key)) hp
    rcases h with ⟨e, rfl, rfl⟩ | ⟨_, s, _⟩
    · -- the empty DAG: the tree's only leaf is dirty and not on the shelf yet
      obtain rfl := List.map_eq_nil_iff.mp e
      have h0 : tx.clock / ls = 0 := by rw [he rfl, Nat.zero_div]
      exact H.write L (k := 0) (key tx) tx.clock (by rw [h0]; intro x hx; simpa [Tree.new, keyOf] using hx) rfl
        (by omega) (by rw [h0, maxClock_nil, Nat.zero_div]; rfl) hP hz
    · exact H.write L (key tx) tx.clock (by rw [s.clean]; nofun) s.shelf_eq hP rfl hP hz
  · intro q
    show fsum o ls q (t.insert o (key tx) tx.clock).root.leaves = _
    have := (insert_spec L t i (key tx) tx.clock).2.2 q
    rw [els] at this
    rw [this, dg q, List.filter_append]
    by_cases hq : q (tx.clock / ls) = true
    · simp [hq, specAll_snoc]
    · simp [hq]

theorem TreeOK.load {o : Ops R G} (L : Lawful o) {ls : Nat} (heven : ls % 2 = 0) {l : List (R × Nat)} {M : Nat} {t : Tree G}
    {shelf : List (Nat × G)} (h : TreeOK o ls l M t shelf) (t0 : Tree G) (h0 : t0.leafSize = ls) :
    TreeOK o ls l M (Tree.load o true t0 shelf) shelf := by
  rcases h with ⟨e, f⟩ | ⟨hne, s, d⟩
  · obtain ⟨_, rfl⟩ := f
    exact Or.inl ⟨e, Fresh.load t0 h0⟩
  · have s' := Sync.load L s.holds.ls_pos heven true t0 s.holds.m_pos s.shelf_eq
    refine Or.inr ⟨hne, s', ?_⟩
    intro q
    rw [s'.holds.leaves, ← s.holds.leaves]
    exact d q

/-- inserting (reference, clock) pairs one by one, in any order, as `checkPage` builds its scratch tree -/
theorem insert_fold {o : Ops R G} (L : Lawful o) (ls : Nat) : ∀ (l l0 : List (R × Nat)) (t0 : Tree G), TInv o t0 →
    t0.leafSize = ls → Digest o ls l0 t0 →
    TInv o (l.foldl (fun t rc => t.insert o rc.1 rc.2) t0) ∧
    (l.foldl (fun t rc => t.insert o rc.1 rc.2) t0).leafSize = ls ∧
    Digest o ls (l0 ++ l) (l.foldl (fun t rc => t.insert o rc.1 rc.2) t0) := by
  intro l
  induction l with
  | nil => intro l0 t0 i e h; simpa using ⟨i, e, h⟩
  | cons rc l ih =>
    intro l0 t0 i e h
    have s := insert_spec L t0 i rc.1 rc.2
    have := ih (l0 ++ [rc]) (t0.insert o rc.1 rc.2) s.1 (by rw [s.2.1, e]) (by
      intro q
      have := s.2.2 q
      rw [e] at this
      rw [this, h q, List.filter_append]
      by_cases hq : q (rc.2 / ls) = true
      · simp [hq, specAll_snoc]
      · simp [hq])
    simpa [List.append_assoc] using this

theorem insert_fold_new {o : Ops R G} (L : Lawful o) {ls : Nat} (hls : 0 < ls) (l : List (R × Nat)) :
    TInv o (l.foldl (fun t rc => t.insert o rc.1 rc.2) (Tree.new o ls)) ∧
    (l.foldl (fun t rc => t.insert o rc.1 rc.2) (Tree.new o ls)).leafSize = ls ∧
    Digest o ls l (l.foldl (fun t rc => t.insert o rc.1 rc.2) (Tree.new o ls)) := by
  have := insert_fold L ls l [] (Tree.new o ls) (TInv.new o hls) rfl (Digest.new L ls)
  simpa using this

/-- the blocks of references of the selected pages are together the references on a selected page -/
theorem fsum_pl_pageVal {o : Ops R G} (L : Lawful o) {ls : Nat} (hls : 0 < ls) (q : Nat → Bool) (l : List (R × Nat)) (m : Nat) :
    fsum o ls q (pl ls 0 m (pageVal o ls l)) =
      specAll o (l.filter (fun rc => q (rc.2 / ls) && decide (rc.2 / ls < m))) := by
  rw [fsum_pl L hls]
  unfold pageVal
  rw [specAll_flatMap L, specAll_perm L (blocks_perm (fun rc => rc.2 / ls) l _ (List.nodup_range.filter _))]
  congr 1
  apply List.filter_congr
  intro rc _
  rw [Bool.eq_iff_iff]
  simp [List.mem_filter, and_comm]

theorem le_page_end (c ls : Nat) (hls : 0 < ls) : c ≤ (c / ls + 1) * ls - 1 := by
  rw [Nat.succ_mul]; exact ((Nat.div_eq_iff hls).mp rfl).2

/-- what `XOR(req)` / `IBLT(req)` compute from a tree that is what the stored transactions imply -/
theorem digest_at {o : Ops R G} (L : Lawful o) {ls : Nat} (hls : 0 < ls) {key : Tx → R} {S : List Tx}
    {t : Tree G} {shelf : List (Nat × G)} (h : TreeOK o ls (S.map fun t => (key t, t.clock)) (maxClock S) t shelf) (req : Nat) :
    (if req < maxClock S then ((t.zeroTo o req).1, if (t.zeroTo o req).2 < maxClock S then (t.zeroTo o req).2 else maxClock S)
     else (t.rootData o, maxClock S)) = (specUpTo o ls (S.map fun t => (key t, t.clock)) req, specClock ls S req) := by
  obtain ⟨i, els, dg, H⟩ := h.view L hls
  have hend := le_page_end req ls hls
  unfold specClock
  by_cases hr : req < maxClock S
  · simp only [hr, if_true]
    have hdata : (t.zeroTo o req).1 = specUpTo o ls (S.map fun t => (key t, t.clock)) req := by
      rw [Tree.zeroTo_data L t i req, els, dg]; rfl
    obtain ⟨hh, sh, _⟩ := H.shape
    have hclock : (t.zeroTo o req).2 = (req / ls + 1) * ls - 1 := by
      unfold Tree.zeroTo
      rw [zeroTo_clock hls req sh _ (Nat.zero_le _)]
      have h0 : req / ls ≤ maxClock S / ls := Nat.div_le_div_right (by omega)
      rw [Nat.zero_add, Nat.add_sub_cancel, Nat.min_eq_left h0, Nat.mul_comm]
    rw [hdata, hclock]
    congr 1
    by_cases hc : (req / ls + 1) * ls - 1 < maxClock S <;> simp [hc] <;> omega
  · simp only [hr, if_false]
    have hdata : t.rootData o = specUpTo o ls (S.map fun t => (key t, t.clock)) req := by
      rw [Tree.root_data L t i, els, dg]
      unfold specUpTo
      congr 1
      apply List.filter_congr
      intro rc hrc
      have := mem_map_clock_le rc hrc
      have : rc.2 / ls ≤ req / ls := Nat.div_le_div_right (by omega)
      simp [this]
    rw [hdata]
    congr 1
    omega

end Nuts.C08
