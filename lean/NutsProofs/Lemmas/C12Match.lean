/-
  C12 — `Match` (by its case principle: never a panic, the descriptor map is aligned with the selected credentials and every
  entry `MapsTo` a satisfying wallet credential, errors mean what they say), `Build` over the wallets, and the variants on
  definitions with nil entries.
-/
import NutsProofs.Lemmas.C12Constraint
import NutsProofs.Lemmas.C12Requirement
namespace Nuts.C12
open Nuts

/-- case principle for `Match`, its control flow read once: an error (of the constraints, a descriptor without
    candidate, an unknown group, a failing requirement), a panic (of the constraints or of a requirement), or the
    mappings of the candidates (no requirements) resp. of the de-duplicated selections of the requirements -/
theorem pdMatch_cases {motive : Res (List Mapping × List Cred) → Prop} (cfg : Cfg) (re : Regex) (pd : PD) (w : List Cred)
    (err : ∀ e, (matchConstraints cfg re pd w pd.descs = .err e ∨ ∃ cands, matchConstraints cfg re pd w pd.descs = .ok cands ∧
        ((pd.srs = [] ∧ cands.any (fun c => c.2.isNone) = true) ∨
         (pd.srs ≠ [] ∧ (e = "group" ∨ srSelect cfg cands pd.srs = .err e)))) → motive (.err e))
    (panic : ∀ s, (matchConstraints cfg re pd w pd.descs = .panic s ∨ ∃ cands, srSelect cfg cands pd.srs = .panic s) →
        motive (.panic s))
    (basic : ∀ cands, matchConstraints cfg re pd w pd.descs = .ok cands → pd.srs = [] →
        cands.any (fun c => c.2.isNone) = false → motive (.ok (basicMappings 0 cands)))
    (sr : ∀ cands sel, matchConstraints cfg re pd w pd.descs = .ok cands → pd.srs ≠ [] → srSelect cfg cands pd.srs = .ok sel →
        motive (.ok (srMappings cands 0 (dedup [] sel), dedup [] sel))) :
    motive (pdMatch cfg re pd w) := by
  unfold pdMatch matchSubmissionRequirements matchBasic
  cases hc : matchConstraints cfg re pd w pd.descs with
  | err e => rw [ite_self]; exact err e (.inl hc)
  | panic s => rw [ite_self]; exact panic s (.inl hc)
  | ok cands =>
    cases hs : pd.srs with
    | nil =>
      rw [if_neg nofun]
      dsimp only
      by_cases hany : cands.any (fun c => c.2.isNone) = true
      · rw [if_pos hany]; exact err _ (.inr ⟨cands, hc, .inl ⟨hs, hany⟩⟩)
      · rw [if_neg hany]; exact basic cands hc hs (Bool.not_eq_true _ ▸ hany)
    | cons s ss =>
      have hne : pd.srs ≠ [] := hs ▸ List.cons_ne_nil s ss
      rw [if_pos (show (!(s :: ss).isEmpty) = true from rfl), ← hs]
      dsimp only
      split
      · exact err _ (.inr ⟨cands, hc, .inr ⟨hne, .inl rfl⟩⟩)
      · cases hsel : srSelect cfg cands pd.srs with
        | ok sel => exact sr cands sel hc hne hsel
        | err e => exact err e (.inr ⟨cands, hc, .inr ⟨hne, .inr hsel⟩⟩)
        | panic p => exact panic p (.inr ⟨cands, hsel⟩)

theorem pdMatch_basic {cfg : Cfg} {re : Regex} {pd : PD} {w : List Cred} {cands : List Cand} (hsr : pd.srs = [])
    (hc : matchConstraints cfg re pd w pd.descs = .ok cands) :
    pdMatch cfg re pd w = if cands.any (fun c => c.2.isNone) then .err "nocred" else .ok (basicMappings 0 cands) := by
  unfold pdMatch matchBasic
  rw [hsr, hc]
  rfl

theorem pdMatch_noPanic (cfg : Cfg) (hg : cfg.arrayGuard = true) (hm : cfg.maxNilCheck = true) (re : Regex) (pd : PD) (w : List Cred) :
    (pdMatch cfg re pd w).isPanic = false := by
  refine pdMatch_cases (motive := fun r => r.isPanic = false) cfg re pd w (fun _ _ => rfl) (fun s h => ?_) (fun _ _ _ _ => rfl)
    (fun _ _ _ _ _ => rfl)
  rcases h with h | ⟨cands, h⟩
  · exact absurd h (Res.ne_panic_of_isPanic_false (matchConstraints_noPanic cfg hg re pd w pd.descs) s)
  · exact absurd h (Res.ne_panic_of_isPanic_false (srSelect_noPanic cfg hm cands pd.srs) s)

theorem matchBasic_complete (cfg : Cfg) (hg : cfg.arrayGuard = true) (re : Regex) (pd : PD) (w : List Cred)
    (hs : ∀ c ∈ w, ∀ p v, getValueAtPath p c.tree = some v → EnumErrorsHideNothing cfg re v)
    (hsr : pd.srs = []) (e : String) (h : pdMatch cfg re pd w = .err e) :
    (∃ d ∈ pd.descs, ∀ c ∈ w, ¬ Satisfies re pd d c) ∨ ∃ ds, matchConstraints cfg re pd w pd.descs = .err ds := by
  refine pdMatch_cases (motive := fun r => r = .err e → _) cfg re pd w (fun e' hc h => ?_) (fun _ _ h => nomatch h)
    (fun _ _ _ _ h => nomatch h) (fun _ _ _ _ _ h => nomatch h) h
  rcases hc with hc | ⟨cands, heq, ⟨_, hany⟩ | ⟨hne, _⟩⟩
  · exact .inr ⟨e', hc⟩
  · obtain ⟨⟨d, oc⟩, hx, hxn⟩ := List.any_eq_true.1 hany
    cases oc with
    | some _ => cases hxn
    | none =>
      exact .inl ⟨d, (matchConstraints_sound hg heq).1 ▸ List.mem_map.2 ⟨(d, none), hx, rfl⟩,
        matchConstraints_complete hg hs heq d hx⟩
  · exact absurd hsr hne

theorem basicMappings_len (cands : List Cand) (i : Nat) : (basicMappings i cands).1.length = (basicMappings i cands).2.length := by
  fun_induction basicMappings i cands with
  | case1 => rfl
  | case2 _ _ _ _ _ ih => exact congrArg (· + 1) ih
  | case3 _ _ _ ih => exact ih

theorem srMappings_len (cands : List Cand) (us : List Cred) (i : Nat) : (srMappings cands i us).length ≤ us.length := by
  fun_induction srMappings cands i us with
  | case1 => exact Nat.le_refl 0
  | case2 _ _ _ _ _ _ ih => exact Nat.succ_le_succ ih
  | case3 _ _ _ _ ih => exact Nat.le_succ_of_le ih

theorem basicMappings_aligned (R : Nat → Mapping → Cred → Prop) (cands : List Cand) (i : Nat) :
    cands.any (fun c => c.2.isNone) = false →
      (∀ d c j, (d, some c) ∈ cands → R j (mkMapping d.id c.fmt j) c) →
      AlignedBy R i (basicMappings i cands).1 (basicMappings i cands).2 ∧
      (basicMappings i cands).1.map (·.id) = cands.map (·.1.id) := by
  fun_induction basicMappings i cands with
  | case1 => exact fun _ _ => ⟨trivial, rfl⟩
  | case2 i d c rest r ih =>
    intro h1 h2
    have ih := ih h1 fun d c j hm => h2 d c j (List.mem_cons_of_mem _ hm)
    exact ⟨⟨h2 d c i List.mem_cons_self, ih.1⟩, congrArg (d.id :: ·) ih.2⟩
  | case3 => exact fun h1 => nomatch h1

theorem mem_dedup {c : Cred} : ∀ {l acc : List Cred}, c ∈ dedup acc l → c ∈ acc ∨ c ∈ l
  | [], acc, h => by unfold dedup at h; exact Or.inl h
  | x :: xs, acc, h => by
    unfold dedup at h
    split at h
    · rcases mem_dedup h with h | h
      · exact Or.inl h
      · exact Or.inr (List.mem_cons_of_mem _ h)
    · rcases mem_dedup h with h | h
      · rcases List.mem_append.1 h with h | h
        · exact Or.inl h
        · simp only [List.mem_singleton] at h; subst h; exact Or.inr List.mem_cons_self
      · exact Or.inr (List.mem_cons_of_mem _ h)

theorem srMappings_aligned (cands : List Cand) (R : Nat → Mapping → Cred → Prop)
    (hR : ∀ d v u j, (d, some v) ∈ cands → v.key = u.key → R j (mkMapping d.id v.fmt j) u) :
    ∀ (us : List Cred) (i : Nat), (∀ u ∈ us, ∃ d, (d, some u) ∈ cands) → AlignedBy R i (srMappings cands i us) us
  | [], i, _ => by simp [srMappings, AlignedBy]
  | u :: us, i, h => by
    unfold srMappings
    obtain ⟨d0, hd0⟩ := h u List.mem_cons_self
    have ih := fun j => srMappings_aligned cands R hR us j (fun u' hu' => h u' (List.mem_cons_of_mem _ hu'))
    cases hf : cands.find? (fun c => match c.2 with | some v => v.key == u.key | none => false) with
    | none =>
      have := List.find?_eq_none.1 hf (d0, some u) hd0
      simp at this
    | some x =>
      obtain ⟨d, ov⟩ := x
      have hmem := List.mem_of_find?_eq_some hf
      have hp := List.find?_some hf
      cases ov with
      | none => simp at hp
      | some v =>
        simp only at hp
        simp only [AlignedBy]
        exact ⟨hR d v u i hmem (by simpa using hp), ih (i + 1)⟩

theorem pdMatch_sound {cfg : Cfg} (hg : cfg.arrayGuard = true) {re : Regex} {pd : PD} {w : List Cred}
    {ms : List Mapping} {vcs : List Cred} (h : pdMatch cfg re pd w = .ok (ms, vcs)) :
    AlignedBy (MapsTo re pd w) 0 ms vcs ∧ (pd.srs = [] → ms.map (·.id) = pd.descs.map (·.id)) := by
  have maps : ∀ cands, matchConstraints cfg re pd w pd.descs = .ok cands → ∀ d v u j, (d, some v) ∈ cands → v.key = u.key →
      MapsTo re pd w j (mkMapping d.id v.fmt j) u := fun cands heq d v u j hm hk =>
    have hc := matchConstraints_sound hg heq
    ⟨d, v, hc.1 ▸ List.mem_map.2 ⟨(d, some v), hm, rfl⟩, (hc.2 d v hm).1, (hc.2 d v hm).2, hk, rfl⟩
  refine pdMatch_cases (motive := fun r => r = .ok (ms, vcs) → _) cfg re pd w (fun _ _ h => nomatch h) (fun _ _ h => nomatch h)
    (fun cands heq _ hany h => ?_) (fun cands sel heq hsr hsel h => ?_) h
  · have := basicMappings_aligned (MapsTo re pd w) cands 0 hany (fun d c j hm => maps cands heq d c c j hm rfl)
    rw [Res.ok.inj h] at this
    exact ⟨this.1, fun _ => by rw [this.2, ← (matchConstraints_sound hg heq).1, List.map_map]; rfl⟩
  · cases h
    refine ⟨srMappings_aligned cands _ (maps cands heq) _ 0 fun u hu => ?_, fun hs => absurd hs hsr⟩
    exact (mem_dedup hu).elim (fun h => nomatch h) (mem_srSelect hsel)

theorem alignedBy_length {R : Nat → Mapping → Cred → Prop} : ∀ {ms : List Mapping} {vcs : List Cred} {i : Nat},
    AlignedBy R i ms vcs → ms.length = vcs.length
  | [], [], _, _ => rfl
  | [], _ :: _, _, h => nomatch h
  | _ :: _, [], _, h => nomatch h
  | _ :: _, _ :: _, _, h => congrArg (· + 1) (alignedBy_length h.2)

theorem alignedBy_mem {R : Nat → Mapping → Cred → Prop} : ∀ (ms : List Mapping) (vcs : List Cred) (i : Nat),
    AlignedBy R i ms vcs → ∀ u ∈ vcs, ∃ j m, m ∈ ms ∧ R j m u
  | [], [], _, _, u, hu => by cases hu
  | [], _ :: _, _, h, _, _ => by simp [AlignedBy] at h
  | _ :: _, [], _, h, _, _ => by simp [AlignedBy] at h
  | m :: ms, c :: cs, i, h, u, hu => by
    simp only [AlignedBy] at h
    cases hu with
    | head => exact ⟨i, m, List.mem_cons_self, h.1⟩
    | tail _ hu' =>
      obtain ⟨j, m', hm', hr⟩ := alignedBy_mem ms cs (i + 1) h.2 u hu'
      exact ⟨j, m', List.mem_cons_of_mem _ hm', hr⟩

theorem pdMatch_len {cfg : Cfg} (hg : cfg.arrayGuard = true) {re : Regex} {pd : PD} {w : List Cred}
    {ms : List Mapping} {vcs : List Cred} (h : pdMatch cfg re pd w = .ok (ms, vcs)) : ms.length = vcs.length :=
  alignedBy_length (pdMatch_sound hg h).1

theorem basicMappings_mem (cands : List Cand) (i : Nat) (u : Cred) : u ∈ (basicMappings i cands).2 → ∃ d, (d, some u) ∈ cands := by
  fun_induction basicMappings i cands with
  | case1 => exact fun h => nomatch h
  | case2 i d c rest r ih =>
    intro h
    cases h with
    | head => exact ⟨d, List.mem_cons_self⟩
    | tail _ h' => exact (ih h').imp fun _ hd => List.mem_cons_of_mem _ hd
  | case3 i d rest ih => exact fun h => (ih h).imp fun _ hd => List.mem_cons_of_mem _ hd

theorem pdMatch_vcs_mem {cfg : Cfg} {re : Regex} {pd : PD} {w : List Cred}
    {ms : List Mapping} {vcs : List Cred} (h : pdMatch cfg re pd w = .ok (ms, vcs)) : ∀ u ∈ vcs, u ∈ w := by
  intro u hu
  refine pdMatch_cases (motive := fun r => r = .ok (ms, vcs) → _) cfg re pd w (fun _ _ h => nomatch h) (fun _ _ h => nomatch h)
    (fun cands heq _ _ h => ?_) (fun cands sel heq _ hsel h => ?_) h
  · obtain ⟨d, hd⟩ := basicMappings_mem cands 0 u (Res.ok.inj h ▸ hu)
    exact (firstMatch_some ((matchConstraints_ok heq).2 (d, some u) hd)).1
  · cases h
    obtain ⟨d, hd⟩ := (mem_dedup hu).elim (fun h => nomatch h) (mem_srSelect hsel)
    exact (firstMatch_some ((matchConstraints_ok heq).2 (d, some u) hd)).1

theorem pdMatch_sr_ok (cfg : Cfg) (re : Regex) (pd : PD) (w : List Cred) (ms : List Mapping) (vcs : List Cred)
    (hsr : pd.srs ≠ []) (h : pdMatch cfg re pd w = .ok (ms, vcs)) :
    ∃ cands ls, matchConstraints cfg re pd w pd.descs = .ok cands ∧ SelectedBy cfg cands pd.srs ls ∧ vcs = dedup [] ls.flatten := by
  refine pdMatch_cases (motive := fun r => r = .ok (ms, vcs) → _) cfg re pd w (fun _ _ h => nomatch h) (fun _ _ h => nomatch h)
    (fun _ _ hs => absurd hs hsr) (fun cands sel heq _ hsel h => ?_) h
  cases h
  obtain ⟨ls, hl1, hl2⟩ := srSelect_ok hsel
  exact ⟨cands, ls, heq, hl1, hl2 ▸ rfl⟩

theorem pdMatch_sr_err (cfg : Cfg) (re : Regex) (pd : PD) (w : List Cred) (e : String)
    (hsr : pd.srs ≠ []) (h : pdMatch cfg re pd w = .err e) :
    matchConstraints cfg re pd w pd.descs = .err e ∨
    ∃ cands, matchConstraints cfg re pd w pd.descs = .ok cands ∧ (e = "group" ∨ ∃ s ∈ pd.srs, SR.matchSR cfg cands s = .err e) := by
  refine pdMatch_cases (motive := fun r => r = .err e → _) cfg re pd w (fun e' hc h => ?_) (fun _ _ h => nomatch h)
    (fun _ _ _ _ h => nomatch h) (fun _ _ _ _ _ h => nomatch h) h
  cases h
  rcases hc with hc | ⟨cands, heq, ⟨hs, _⟩ | ⟨_, hc⟩⟩
  · exact .inl hc
  · exact absurd hs hsr
  · exact .inr ⟨cands, heq, hc.imp_right srSelect_err⟩

theorem rewriteSingle_len (ms : List Mapping) : (rewriteSingle ms).length = ms.length := by
  unfold rewriteSingle; split <;> simp

theorem rewriteSingle_ids (ms : List Mapping) : (rewriteSingle ms).map (·.id) = ms.map (·.id) := by
  unfold rewriteSingle
  split <;> rfl

theorem firstWallet_noPanic (cfg : Cfg) (hg : cfg.arrayGuard = true) (hm : cfg.maxNilCheck = true) (re : Regex) (pd : PD)
    (ws : List (List Cred)) : (firstWallet cfg re pd ws).isPanic = false := by
  fun_induction firstWallet cfg re pd ws with
  | case1 => rfl
  | case2 => rfl
  | case3 _ _ _ _ ih => exact ih
  | case4 w _ s h => exact absurd h (Res.ne_panic_of_isPanic_false (pdMatch_noPanic cfg hg hm re pd w) s)

/-- `Build` can only panic on `b.holders[0]`, i.e. when no wallet was added -/
theorem build_noPanic (cfg : Cfg) (hg : cfg.arrayGuard = true) (hm : cfg.maxNilCheck = true) (re : Regex) (pd : PD)
    (ws : List (List Cred)) (hne : ws ≠ []) : (build cfg re pd ws).isPanic = false := by
  fun_cases build cfg re pd ws with
  | case3 _ _ hemp => exact absurd (List.isEmpty_iff.1 hemp) hne
  | case6 s h => exact absurd h (Res.ne_panic_of_isPanic_false (firstWallet_noPanic cfg hg hm re pd ws) s)
  | _ => rfl

theorem firstWallet_mem {cfg : Cfg} {re : Regex} {pd : PD} {ws : List (List Cred)} {ms : List Mapping} {vcs : List Cred}
    (h : firstWallet cfg re pd ws = .ok (some (ms, vcs))) : ∃ w ∈ ws, pdMatch cfg re pd w = .ok (ms, vcs) := by
  fun_induction firstWallet cfg re pd ws with
  | case1 => cases h
  | case2 w ws r hw => cases h; exact ⟨w, List.mem_cons_self, hw⟩
  | case3 _ _ _ _ ih => exact (ih h).imp fun _ hx => hx.imp_left (List.mem_cons_of_mem _)
  | case4 => cases h

theorem build_ok {cfg : Cfg} {re : Regex} {pd : PD} {ws : List (List Cred)} {ms : List Mapping} {vcs : List Cred} :
    build cfg re pd ws = .ok (ms, vcs) →
    (∃ w ∈ ws, ∃ ms', pdMatch cfg re pd w = .ok (ms', vcs) ∧ ms = rewriteSingle ms') ∨ (ms = [] ∧ vcs = []) := by
  fun_cases build cfg re pd ws with
  | case1 ms' vcs' heq =>
    intro h; cases h
    obtain ⟨w, hw, hm⟩ := firstWallet_mem heq
    exact .inl ⟨w, hw, ms', hm, rfl⟩
  | case4 => intro h; cases h; exact .inr ⟨rfl, rfl⟩
  | _ => exact fun h => nomatch h

theorem build_vcs_mem {cfg : Cfg} {re : Regex} {pd : PD} {ws : List (List Cred)}
    {ms : List Mapping} {vcs : List Cred} (h : build cfg re pd ws = .ok (ms, vcs)) : ∀ u ∈ vcs, ∃ w ∈ ws, u ∈ w := by
  intro u hu
  rcases build_ok h with ⟨w, hw, ms', hm, _⟩ | ⟨_, rfl⟩
  · exact ⟨w, hw, pdMatch_vcs_mem hm u hu⟩
  · cases hu

theorem build_len {cfg : Cfg} (hg : cfg.arrayGuard = true) {re : Regex} {pd : PD} {ws : List (List Cred)}
    {ms : List Mapping} {vcs : List Cred} (h : build cfg re pd ws = .ok (ms, vcs)) : ms.length = vcs.length := by
  rcases build_ok h with ⟨w, _, ms', hm, rfl⟩ | ⟨rfl, rfl⟩
  · exact (rewriteSingle_len ms').trans (pdMatch_len hg hm)
  · rfl

theorem pdMatchRaw_noPanic (cfg : Cfg) (hg : cfg.arrayGuard = true) (hm : cfg.maxNilCheck = true) (hn : cfg.nilCheck = true)
    (re : Regex) (r : RawPD) (w : List Cred) : (pdMatchRaw cfg re r w).isPanic = false := by
  unfold pdMatchRaw
  split
  · exact pdMatch_noPanic cfg hg hm re _ w
  · simp [hn, Res.isPanic]

theorem credentialsRequiredRawGo_noPanic (cfg : Cfg) (hn : cfg.nilCheck = true) :
    ∀ ss, (credentialsRequiredRawGo cfg ss).isPanic = false
  | [] => by unfold credentialsRequiredRawGo; rfl
  | none :: ss => by
    unfold credentialsRequiredRawGo
    simp only [hn, if_true]
    exact credentialsRequiredRawGo_noPanic cfg hn ss
  | some s :: ss => by
    unfold credentialsRequiredRawGo
    have ih := credentialsRequiredRawGo_noPanic cfg hn ss
    split
    · rfl
    · split
      · split
        · rfl
        · exact ih
      · simp only [Bool.and_false, Bool.false_eq_true, if_false]
        exact ih

theorem credentialsRequiredRaw_noPanic (cfg : Cfg) (hn : cfg.nilCheck = true) (r : RawPD) :
    (credentialsRequiredRaw cfg r).isPanic = false := by
  unfold credentialsRequiredRaw
  have h := credentialsRequiredRawGo_noPanic cfg hn r.srs
  split
  · rfl
  · rfl
  · rfl
  · next s heq => exact absurd heq (Res.ne_panic_of_isPanic_false h s)

theorem firstWalletRaw_noPanic (cfg : Cfg) (hg : cfg.arrayGuard = true) (hm : cfg.maxNilCheck = true) (hn : cfg.nilCheck = true)
    (re : Regex) (r : RawPD) : ∀ ws, (firstWalletRaw cfg re r ws).isPanic = false
  | [] => by unfold firstWalletRaw; rfl
  | w :: ws => by
    unfold firstWalletRaw
    have h1 := pdMatchRaw_noPanic cfg hg hm hn re r w
    split
    · rfl
    · exact firstWalletRaw_noPanic cfg hg hm hn re r ws
    · next s heq => exact absurd heq (Res.ne_panic_of_isPanic_false h1 s)

theorem buildRaw_noPanic (cfg : Cfg) (hg : cfg.arrayGuard = true) (hm : cfg.maxNilCheck = true) (hn : cfg.nilCheck = true)
    (re : Regex) (r : RawPD) (ws : List (List Cred)) (hne : ws ≠ []) : (buildRaw cfg re r ws).isPanic = false := by
  fun_cases buildRaw cfg re r ws with
  | case3 _ _ hemp => exact absurd (List.isEmpty_iff.1 hemp) hne
  | case6 _ s h => exact absurd h (Res.ne_panic_of_isPanic_false (credentialsRequiredRaw_noPanic cfg hn r) s)
  | case8 s h => exact absurd h (Res.ne_panic_of_isPanic_false (firstWalletRaw_noPanic cfg hg hm hn re r ws) s)
  | _ => rfl

theorem resolveFieldsRaw_noPanic (cfg : Cfg) (hg : cfg.arrayGuard = true) (hn : cfg.nilCheck = true)
    (re : Regex) (r : RawPD) (cm : List (String × Cred)) : (resolveFieldsRaw cfg re r cm).isPanic = false := by
  unfold resolveFieldsRaw
  split
  · exact resolveFields_noPanic cfg hg re _ cm []
  · simp [hn, Res.isPanic]

end Nuts.C12
