/-
  C12 — the verifier side: `Resolve`, the expected map, the comparison loop in closed form, `Validate` by its case
  principle (never a panic; what an accepted submission looks like; the wallet's own submission is accepted when
  re-matching is stable), and array envelopes.
-/
import NutsProofs.Lemmas.C12Match
namespace Nuts.C12
open Nuts

theorem resolveStep_noPanic (decode : Decoder) (lv : Level) (v : J) : (resolveStep decode lv v).isPanic = false := by
  unfold resolveStep
  split
  · rfl
  · split
    · rfl
    · simp only
      split <;> rfl

theorem resolveLevels_noPanic (decode : Decoder) : ∀ (rest : List Level) (lv : Level) (v : J), (resolveLevels decode rest lv v).isPanic = false
  | [], lv, v => by
    unfold resolveLevels
    have h1 := resolveStep_noPanic decode lv v
    split
    · split <;> rfl
    · rfl
    · next s heq => exact absurd heq (Res.ne_panic_of_isPanic_false h1 s)
  | nx :: rest, lv, v => by
    unfold resolveLevels
    have h1 := resolveStep_noPanic decode lv v
    split
    · exact resolveLevels_noPanic decode rest nx _
    · rfl
    · next s heq => exact absurd heq (Res.ne_panic_of_isPanic_false h1 s)

theorem resolve_noPanic (cfg : Cfg) (decode : Decoder) (env : J) (ms : List Mapping) (acc : List (String × Cred)) :
    (resolve cfg decode env acc ms).isPanic = false := by
  fun_induction resolve cfg decode env acc ms with
  | case3 _ _ _ _ _ _ ih => exact ih
  | case5 _ m _ _ s h => exact absurd h (Res.ne_panic_of_isPanic_false (resolveLevels_noPanic decode m.nested m.top env) s)
  | _ => rfl

theorem expectedMap_noPanic : ∀ (ms : List Mapping) (vcs : List Cred) (acc : List (String × Cred)), ms.length ≤ vcs.length →
    (expectedMap acc ms vcs).isPanic = false
  | [], _, acc, _ => by unfold expectedMap; rfl
  | _ :: _, [], _, h => by simp at h
  | m :: ms, c :: cs, acc, h => by
    unfold expectedMap
    exact expectedMap_noPanic ms cs _ (by simpa using h)

theorem resolve_mem (cfg : Cfg) (decode : Decoder) (env : J) (sub : List Mapping) (acc actual : List (String × Cred)) :
    resolve cfg decode env acc sub = .ok actual →
      ∀ e ∈ actual, e ∈ acc ∨ ∃ mp ∈ sub, mp.id = e.1 ∧ resolveCredential decode mp env = .ok e.2 := by
  fun_induction resolve cfg decode env acc sub with
  | case1 acc => intro h; cases h; exact fun _ he => .inl he
  | case2 | case4 | case5 => exact fun h => nomatch h
  | case3 acc m ms _ c hc ih =>
    intro h e he
    rcases ih h e he with h1 | ⟨mp, hmp, h2⟩
    · rcases mem_alPut h1 with h1 | h1
      · subst h1; exact .inr ⟨m, List.mem_cons_self, rfl, hc⟩
      · exact .inl h1
    · exact .inr ⟨mp, List.mem_cons_of_mem _ hmp, h2⟩

theorem resolve_spec {cfg : Cfg} (hd : cfg.dupCheck = true) {decode : Decoder} {env : J}
    {sub : List Mapping} {acc actual : List (String × Cred)} : resolve cfg decode env acc sub = .ok actual →
      actual.length = acc.length + sub.length ∧
      (∀ mp ∈ sub, ∃ c, resolveCredential decode mp env = .ok c ∧ alGet actual mp.id = some c) ∧
      (∀ k c, alGet acc k = some c → alGet actual k = some c) ∧
      (sub.map (·.id)).Nodup ∧ (∀ mp ∈ sub, alGet acc mp.id = none) := by
  fun_induction resolve cfg decode env acc sub with
  | case1 acc =>
    intro h; cases h
    exact ⟨by simp, fun _ h => (nomatch h), fun _ _ h => h, List.nodup_nil, fun _ h => (nomatch h)⟩
  | case2 | case4 | case5 => exact fun h => nomatch h
  | case3 acc m ms hdup c hc ih =>
    intro h
    have hfresh : alGet acc m.id = none := by
      cases hg : alGet acc m.id with
      | none => rfl
      | some _ => simp [hd, hg] at hdup
    rw [alPut_fresh c hfresh] at ih h
    obtain ⟨h1, h2, h3, h5, h6⟩ := ih h
    have hne : ∀ mp ∈ ms, mp.id ≠ m.id := by
      intro mp hmp hEq
      have := h6 mp hmp
      rw [alGet_cons] at this
      simp [hEq] at this
    refine ⟨by simp only [List.length_cons] at h1 ⊢; omega, ?_, ?_, ?_, ?_⟩
    · intro mp hmp
      cases hmp with
      | head => exact ⟨c, hc, h3 m.id c (by rw [alGet_cons]; simp)⟩
      | tail _ h' => exact h2 mp h'
    · intro k c' hk
      apply h3
      rw [alGet_cons]
      have : m.id ≠ k := by intro hEq; rw [← hEq, hfresh] at hk; cases hk
      simp [this, hk]
    · simp only [List.map_cons, List.nodup_cons]
      refine ⟨?_, h5⟩
      intro hmem
      obtain ⟨mp, hmp, hid⟩ := List.mem_map.1 hmem
      exact hne mp hmp hid
    · intro mp hmp
      cases hmp with
      | head => exact hfresh
      | tail _ h' =>
        have := h6 mp h'
        rw [alGet_cons] at this
        split at this
        · cases this
        · exact this

theorem expectedMap_spec : ∀ {ms : List Mapping} {vcs : List Cred} {acc m : List (String × Cred)},
    expectedMap acc ms vcs = .ok m → (acc.map (·.1)).Nodup →
      (m.map (·.1)).Nodup ∧ ∀ e ∈ m, e ∈ acc ∨ e.2 ∈ vcs
  | [], vcs, acc, m, h, hnd => by
    unfold expectedMap at h; injection h with h; subst h; exact ⟨hnd, fun e he => Or.inl he⟩
  | _ :: _, [], acc, m, h, _ => by unfold expectedMap at h; cases h
  | mp :: ms, c :: cs, acc, m, h, hnd => by
    unfold expectedMap at h
    obtain ⟨h1, h2⟩ := expectedMap_spec h (nodup_keys_alPut mp.id c hnd)
    refine ⟨h1, fun e he => ?_⟩
    rcases h2 e he with h | h
    · rcases mem_alPut h with h | h
      · exact Or.inr (by rw [h]; exact List.mem_cons_self)
      · exact Or.inl h
    · exact Or.inr (List.mem_cons_of_mem _ h)

/-- a missing entry of the actual map reads as Go's zero value, the empty `Raw()` -/
theorem sameMapping_eq_all (actual : List (String × Cred)) : ∀ (expected : List (String × Cred)),
    sameMapping actual expected = expected.all fun e => ((alGet actual e.1).map (·.raw)).getD "" == e.2.raw
  | [] => rfl
  | (id, c) :: rest => by
    rw [sameMapping, sameMapping_eq_all actual rest, List.all_cons]
    cases alGet actual id <;> rfl

theorem sameMapping_spec {actual expected : List (String × Cred)} (h : sameMapping actual expected = true) :
    ∀ e ∈ expected, (∃ a, alGet actual e.1 = some a ∧ a.raw = e.2.raw) ∨ (alGet actual e.1 = none ∧ e.2.raw = "") := by
  intro e he
  have := List.all_eq_true.1 (sameMapping_eq_all actual expected ▸ h) e he
  cases hg : alGet actual e.1 with
  | some a => rw [hg] at this; exact .inl ⟨a, rfl, eq_of_beq this⟩
  | none => rw [hg] at this; exact .inr ⟨rfl, (eq_of_beq this).symm⟩

/-- case principle for `Validate`, its control flow read once: an error; a panic of `Resolve`, `Build` or the
    expected-map loop; or every stage succeeds and the two maps agree -/
theorem validate_cases {motive : Res (List (String × Cred)) → Prop}
    (cfg : Cfg) (re : Regex) (decode : Decoder) (pd : PD) (env : Envelope) (sub : List Mapping)
    (err : ∀ e, motive (.err e))
    (panic : ∀ s, (resolve cfg decode env.asInterface [] sub = .panic s ∨
       (env.presentations ≠ [] ∧ (build cfg re pd env.presentations = .panic s ∨
          ∃ ms vcs, build cfg re pd env.presentations = .ok (ms, vcs) ∧ expectedMap [] ms vcs = .panic s))) → motive (.panic s))
    (ok : ∀ m actual, resolve cfg decode env.asInterface [] sub = .ok actual →
      ((env.presentations = [] ∧ credentialsRequired pd = false ∧ m = []) ∨
       (env.presentations ≠ [] ∧ env.signerOK.any (fun b => !b) = false ∧
        ∃ ms vcs, build cfg re pd env.presentations = .ok (ms, vcs) ∧ expectedMap [] ms vcs = .ok m ∧
          actual.length = m.length ∧ sameMapping actual m = true)) → motive (.ok m)) :
    motive (validate cfg re decode pd env sub) := by
  unfold validate
  cases hres : resolve cfg decode env.asInterface [] sub with
  | err e => exact err _
  | panic s => exact panic s (.inl hres)
  | ok actual =>
    cases hp : env.presentations with
    | nil =>
      cases hcr : credentialsRequired pd with
      | true => exact err _
      | false => exact ok [] actual hres (.inl ⟨hp, hcr, rfl⟩)
    | cons p ps =>
      have hne : env.presentations ≠ [] := hp ▸ List.cons_ne_nil p ps
      cases hsig : env.signerOK.any (fun b => !b) with
      | true => exact err _
      | false =>
        cases hb : build cfg re pd (p :: ps) with
        | err e => exact err _
        | panic s => exact panic s (.inr ⟨hne, .inl (hp ▸ hb)⟩)
        | ok r =>
          obtain ⟨ms, vcs⟩ := r
          simp only [List.isEmpty_cons, Bool.false_eq_true, if_false]
          cases hexp : expectedMap [] ms vcs with
          | err e => exact err _
          | panic s => exact panic s (.inr ⟨hne, .inr ⟨ms, vcs, hp ▸ hb, hexp⟩⟩)
          | ok expected =>
            dsimp only
            by_cases hlen : (actual.length != expected.length) = true
            · rw [if_pos hlen]; exact err _
            · by_cases hsame : (!sameMapping actual expected) = true
              · rw [if_neg hlen, if_pos hsame]; exact err _
              · rw [if_neg hlen, if_neg hsame]
                exact ok expected actual hres (.inr ⟨hne, hsig, ms, vcs, hp ▸ hb, hexp, by simpa using hlen, by simpa using hsame⟩)

theorem validate_ok {cfg : Cfg} {re : Regex} {decode : Decoder} {pd : PD} {env : Envelope} {sub : List Mapping}
    {m : List (String × Cred)} (h : validate cfg re decode pd env sub = .ok m) :
    ∃ actual, resolve cfg decode env.asInterface [] sub = .ok actual ∧
      ((env.presentations = [] ∧ credentialsRequired pd = false ∧ m = []) ∨
       (env.presentations ≠ [] ∧ env.signerOK.any (fun b => !b) = false ∧
        ∃ ms vcs, build cfg re pd env.presentations = .ok (ms, vcs) ∧ expectedMap [] ms vcs = .ok m ∧
          actual.length = m.length ∧ sameMapping actual m = true)) :=
  validate_cases (motive := fun r => r = .ok m → _) cfg re decode pd env sub (fun _ h => nomatch h) (fun _ _ h => nomatch h)
    (fun _ actual hres hc h => by cases h; exact ⟨actual, hres, hc⟩) h

theorem validate_noPanic (cfg : Cfg) (hg : cfg.arrayGuard = true) (hm : cfg.maxNilCheck = true) (re : Regex) (decode : Decoder)
    (pd : PD) (env : Envelope) (sub : List Mapping) : (validate cfg re decode pd env sub).isPanic = false := by
  refine validate_cases (motive := fun r => r.isPanic = false) cfg re decode pd env sub (fun _ => rfl) (fun s h => ?_) (fun _ _ _ _ => rfl)
  rcases h with h | ⟨hne, h | ⟨ms, vcs, hb, h⟩⟩
  · exact absurd h (Res.ne_panic_of_isPanic_false (resolve_noPanic cfg decode env.asInterface sub []) s)
  · exact absurd h (Res.ne_panic_of_isPanic_false (build_noPanic cfg hg hm re pd env.presentations hne) s)
  · exact absurd h (Res.ne_panic_of_isPanic_false (expectedMap_noPanic ms vcs [] (Nat.le_of_eq (build_len hg hb))) s)

/-- pigeonhole on lists: a duplicate-free list contained in a list that is not longer contains it (an element outside it
    would make a longer duplicate-free list inside the other) -/
theorem subset_of_nodup_subset_length {l1 l2 : List String} (hnd : l1.Nodup) (hsub : l1 ⊆ l2) (hlen : l2.length ≤ l1.length) :
    l2 ⊆ l1 := fun _ hx => Decidable.by_contra fun hn =>
  Nat.not_succ_le_self _ (Nat.le_trans ((List.nodup_cons.2 ⟨hn, hnd⟩).length_le_of_subset (List.cons_subset.2 ⟨hx, hsub⟩)) hlen)

theorem validate_spec (cfg : Cfg) (hd : cfg.dupCheck = true) (re : Regex) (decode : Decoder)
    (pd : PD) (env : Envelope) (sub : List Mapping) (m : List (String × Cred))
    (hraw : ∀ p ∈ env.presentations, ∀ c ∈ p, c.raw ≠ "") (hne : env.presentations ≠ [])
    (h : validate cfg re decode pd env sub = .ok m) :
    ∃ ms vcs, build cfg re pd env.presentations = .ok (ms, vcs) ∧ expectedMap [] ms vcs = .ok m ∧
      (sub.map (·.id)).Nodup ∧ sub.length = m.length ∧
      (∀ mp ∈ sub, ∃ c e, resolveCredential decode mp env.asInterface = .ok c ∧ alGet m mp.id = some e ∧ e.raw = c.raw) ∧
      (∀ e ∈ m, ∃ mp ∈ sub, mp.id = e.1) := by
  obtain ⟨actual, hres, hc⟩ := validate_ok h
  obtain ⟨_, _, ms, vcs, hb, hexp, hlen', hsame'⟩ := hc.resolve_left (fun hc => hne hc.1)
  obtain ⟨r1, r2, _, r5, _⟩ := resolve_spec hd hres
  obtain ⟨e1, e2⟩ := expectedMap_spec hexp List.nodup_nil
  have hvraw : ∀ e ∈ m, e.2.raw ≠ "" := by
    intro e he
    rcases e2 e he with h | h
    · cases h
    · obtain ⟨w, hw, hu⟩ := build_vcs_mem hb e.2 h
      exact hraw w hw e.2 hu
  have hs := sameMapping_spec hsame'
  have hkeys : m.map (·.1) ⊆ sub.map (·.id) := by
    intro k hk
    obtain ⟨e, he, rfl⟩ := List.mem_map.1 hk
    rcases hs e he with ⟨a, ha, _⟩ | ⟨_, hr⟩
    · rcases resolve_mem cfg decode _ sub [] actual hres (e.1, a) (mem_of_alGet_eq_some ha) with h | ⟨mp, hmp, hid, _⟩
      · cases h
      · exact List.mem_map.2 ⟨mp, hmp, hid⟩
    · exact absurd hr (hvraw e he)
  have hlen2 : (sub.map (·.id)).length ≤ (m.map (·.1)).length := by
    simp only [List.length_map]; simp at r1; omega
  have hback := subset_of_nodup_subset_length e1 hkeys hlen2
  refine ⟨ms, vcs, hb, hexp, r5, by simp at r1; omega, ?_, ?_⟩
  · intro mp hmp
    obtain ⟨c, hc, hac⟩ := r2 mp hmp
    have hk : mp.id ∈ m.map (·.1) := hback (List.mem_map.2 ⟨mp, hmp, rfl⟩)
    obtain ⟨e', he'⟩ := Option.isSome_iff_exists.1 (alGet_isSome_iff.2 hk)
    refine ⟨c, e', hc, he', ?_⟩
    rcases hs (mp.id, e') (mem_of_alGet_eq_some he') with ⟨a, ha, har⟩ | ⟨hn, _⟩
    · simp only at ha har
      rw [hac] at ha; injection ha with ha; subst ha; exact har.symm
    · simp only at hn; rw [hac] at hn; cases hn
  · intro e he
    have := hkeys (List.mem_map.2 ⟨e, he, rfl⟩)
    obtain ⟨mp, hmp, hid⟩ := List.mem_map.1 this
    exact ⟨mp, hmp, hid⟩

/-- Resolve (verifier, over the envelope) and the expected map (verifier's own matching) advance in lockstep: both succeed,
    and the two maps have the same size and the same `Raw()` under every key -/
theorem lockstep (cfg : Cfg) {decode : Decoder} {envJ : J} :
    ∀ {sub : List Mapping} {vcs : List Cred} (acc1 acc2 : List (String × Cred)), Carries decode envJ sub vcs →
      (sub.map (·.id)).Nodup → (∀ mp ∈ sub, alGet acc2 mp.id = none) → acc1.length = acc2.length →
      (∀ k, (alGet acc1 k).map (·.raw) = (alGet acc2 k).map (·.raw)) →
      ∃ actual expected, resolve cfg decode envJ acc1 sub = .ok actual ∧ expectedMap acc2 sub vcs = .ok expected ∧
        actual.length = expected.length ∧ ∀ k, (alGet actual k).map (·.raw) = (alGet expected k).map (·.raw)
  | [], [], acc1, acc2, _, _, _, hlen, hrel => ⟨acc1, acc2, by unfold resolve; rfl, by unfold expectedMap; rfl, hlen, hrel⟩
  | [], _ :: _, _, _, h, _, _, _, _ => by cases h
  | _ :: _, [], _, _, h, _, _, _, _ => by cases h
  | mp :: ms, c :: cs, acc1, acc2, hcar, hnd, hfresh, hlen, hrel => by
    obtain ⟨⟨c', hc', hraw⟩, hcar'⟩ := hcar
    rw [List.map_cons, List.nodup_cons] at hnd
    have hf2 : alGet acc2 mp.id = none := hfresh mp List.mem_cons_self
    have hf1 : alGet acc1 mp.id = none := by simpa [hf2] using hrel mp.id
    obtain ⟨actual, expected, h1, h2, h3⟩ := lockstep cfg (alPut acc1 mp.id c') (alPut acc2 mp.id c) hcar' hnd.2
      (fun mp' hmp' => by
        rw [alGet_alPut_of_ne _ _ fun hEq => hnd.1 (List.mem_map.2 ⟨mp', hmp', hEq⟩)]
        exact hfresh mp' (List.mem_cons_of_mem _ hmp'))
      (by rw [alPut_fresh c' hf1, alPut_fresh c hf2, List.length_cons, List.length_cons, hlen])
      (fun k => by
        rw [alGet_alPut, alGet_alPut]
        split
        · exact congrArg some hraw
        · exact hrel k)
    refine ⟨actual, expected, ?_, ?_, h3⟩
    · unfold resolve
      rw [hf1, Option.isSome_none, Bool.and_false, if_neg Bool.false_ne_true, hc']
      exact h1
    · unfold expectedMap
      exact h2

theorem validate_own_submission (cfg : Cfg) (re : Regex) (decode : Decoder) (pd : PD) (env : Envelope)
    (ms : List Mapping) (vcs : List Cred)
    (hpres : env.presentations = [vcs]) (hsig : env.signerOK.any (fun b => !b) = false)
    (hstable : pdMatch cfg re pd vcs = .ok (ms, vcs))
    (hids : (ms.map (·.id)).Nodup)
    (hcar : Carries decode env.asInterface (rewriteSingle ms) vcs) :
    ∃ m, validate cfg re decode pd env (rewriteSingle ms) = .ok m ∧ expectedMap [] (rewriteSingle ms) vcs = .ok m := by
  obtain ⟨actual, expected, h1, h2, hlen, hrel⟩ := lockstep cfg [] [] hcar (rewriteSingle_ids ms ▸ hids)
    (fun _ _ => alGet_nil _) rfl fun _ => rfl
  have hb : build cfg re pd [vcs] = .ok (rewriteSingle ms, vcs) := by
    unfold build firstWallet; rw [hstable]
  obtain ⟨e1, _⟩ := expectedMap_spec h2 List.nodup_nil
  have hsm : sameMapping actual expected = true := by
    rw [sameMapping_eq_all, List.all_eq_true]
    intro e he
    rw [hrel, alGet_of_mem_of_nodup e1 he]
    exact beq_self_eq_true _
  refine ⟨expected, ?_, h2⟩
  unfold validate
  rw [h1]
  simp only [hpres, List.isEmpty_cons, Bool.false_eq_true, if_false, hsig, hb, h2]
  simp [hlen, hsm]

theorem parseArrayEnvelope_spec (parseVP : J → Option EntryVP) (l : List J) (r : List EntryVP) :
    parseArrayEnvelope parseVP l = .ok r → l.map parseVP = r.map some := by
  fun_induction parseArrayEnvelope parseVP l generalizing r with
  | case1 => intro h; cases h; rfl
  | case3 e es p hp r' hr ih => intro h; cases h; simp [hp, ih r' hr]
  | _ => exact fun h => nomatch h

theorem parseArrayEnvelope_junk (parseVP : J → Option EntryVP) (l : List J) (e : J) (he : e ∈ l) (hn : parseVP e = none)
    (r : List EntryVP) : parseArrayEnvelope parseVP l ≠ .ok r := by
  intro h
  have hmem : parseVP e ∈ l.map parseVP := List.mem_map.2 ⟨e, he, rfl⟩
  rw [parseArrayEnvelope_spec parseVP l r h, hn] at hmem
  obtain ⟨_, _, hc⟩ := List.mem_map.1 hmem
  cases hc

theorem parseArrayEnvelope_noPanic (parseVP : J → Option EntryVP) (l : List J) : (parseArrayEnvelope parseVP l).isPanic = false := by
  fun_induction parseArrayEnvelope parseVP l with
  | case5 _ _ _ _ x h ih => exact absurd h (Res.ne_panic_of_isPanic_false ih x)
  | _ => rfl

end Nuts.C12
