/-
  C05 — a step of a consumer is analysed once, path by path (`BurnStep`, `MarkStep`: one constructor per path through `stepBurn` /
  `stepMark`); what the invariants over schedules need of a step of any thread is read off these lists (`stepThread_*`), and
  `run_threads` is the induction over schedules for facts about single threads.
-/
import NutsProofs.Lemmas.C05Store

namespace Nuts.C05

def BurnPc.took : BurnPc → Bool | .atExt o => o.took | .atBurn o => o.took | .done o => o.took | _ => false
def BurnPc.inCrit : BurnPc → Bool | .atCall => true | .atDel _ => true | _ => false
def BurnPc.idle : BurnPc → Bool | .atDel _ => false | pc => !pc.took
def BurnPc.deleteOnly : BurnPc → Bool | .start => true | .atBurn _ => true | .done _ => true | _ => false
def MarkPc.inCrit : MarkPc → Bool | .atCall => true | .atPut _ => true | _ => false
def Thread.inCrit (cfg : Cfg) : Thread → Bool
  | .burn _ pc _ => cfg.gadLocks && pc.inCrit
  | .mark r pc _ => cfg.markLocks r.kind && pc.inCrit

theorem BurnPc.idle_iff (pc : BurnPc) : pc.idle = true ↔ pc.took = false ∧ ∀ v, pc ≠ .atDel v := by
  cases pc <;> simp [BurnPc.idle, BurnPc.took]

theorem finishBurn_inCrit (r : BurnReq) (o : Outcome) : (finishBurn r o).inCrit = false := by
  unfold finishBurn; split <;> rfl

theorem finishBurn_took (r : BurnReq) (o : Outcome) : (finishBurn r o).took = o.took := by
  unfold finishBurn; split <;> rfl

theorem finishBurn_ne_atDel (r : BurnReq) (o : Outcome) (v : String) : finishBurn r o ≠ .atDel v := by
  unfold finishBurn; split <;> simp

theorem afterGad_ne_atDel (cfg : Cfg) (r : BurnReq) (x : Option String) (v : String) : afterGad cfg r x ≠ .atDel v := by
  unfold afterGad; split
  · simp
  · exact finishBurn_ne_atDel _ _ _

theorem afterGad_inCrit (cfg : Cfg) (r : BurnReq) (v : Option String) : (afterGad cfg r v).inCrit = false := by
  unfold afterGad; split
  · rfl
  · exact finishBurn_inCrit _ _

theorem verdict_took (r : BurnReq) (v : Option String) : (verdict r v).took = v.isSome := by
  cases v with
  | none => rfl
  | some x =>
    simp only [verdict]
    split
    · rfl
    · split
      · rfl
      · split <;> rfl

theorem afterGad_took (cfg : Cfg) (r : BurnReq) (v : Option String) : (afterGad cfg r v).took = v.isSome := by
  unfold afterGad; split
  · next h =>
    simp only [Bool.and_eq_true, decide_eq_true_eq] at h
    rw [← verdict_took r v, h.1]; rfl
  · rw [finishBurn_took, verdict_took]

/-- what one step does to the lock, for a consumer that runs its two calls under the mutex (`L`) or not; `c`, `c'`: the thread
    is inside the locked section before / after the step -/
inductive LockMove (L : Bool) (i : Nat) (lock : Option Nat) : Bool → Bool → Option Nat → Prop
  | stay (c : Bool) : LockMove L i lock c c lock
  | enter : lock = none → LockMove L i lock false true (some i)
  | leave : LockMove L i lock true false (unlock L lock)
  | nolock (c c' : Bool) : L = false → LockMove L i lock c c' lock

/-- a thread inside the locked section holds the lock; the lock changes hands only to or from the stepping thread -/
theorem LockMove.locks {L : Bool} {i : Nat} {lock : Option Nat} {c c' : Bool} {lock' : Option Nat} (h : LockMove L i lock c c' lock')
    (hL : L = true → c = true → lock = some i) :
    (L = true → c' = true → lock' = some i) ∧ (lock' = lock ∨ (lock = none ∧ lock' = some i) ∨ (lock = some i ∧ lock' = none)) := by
  cases h with
  | stay => exact ⟨hL, .inl rfl⟩
  | enter h0 => exact ⟨fun _ _ => rfl, .inr (.inl ⟨h0, rfl⟩)⟩
  | leave =>
    refine ⟨fun _ h => (by cases h), ?_⟩
    cases L with
    | false => exact .inl rfl
    | true => exact .inr (.inr ⟨hL rfl rfl, rfl⟩)
  | nolock _ _ h0 => exact ⟨fun h1 => (by rw [h0] at h1; cases h1), .inl rfl⟩

/-- the request runs the unconditional Delete of its key before it finishes, and that Delete reaches the store: `code` with its
    deferred Delete, and every request whose pre-checks fail -/
def BurnReq.wipes (r : BurnReq) : Prop := (r.kind = .code ∨ r.pre = false) ∧ r.failDel = false

inductive BurnStep (cfg : Cfg) (st : Store) (now : Nat) (lock : Option Nat) (i : Nat) (r : BurnReq) :
    BurnPc → BurnPc × Store × Option Nat → Prop
  | refuse : r.pre = false → BurnStep cfg st now lock i r .start (.atBurn .missingParam, st, lock)
  | free : r.pre = true → cfg.gadLocks = false → BurnStep cfg st now lock i r .start (.atCall, st, lock)
  | enter pc : (pc = .start ∧ r.pre = true ∧ cfg.gadLocks = true) ∨ pc = .wantLock → lock = none →
      BurnStep cfg st now lock i r pc (.atCall, st, some i)
  | block pc j : (pc = .start ∧ r.pre = true ∧ cfg.gadLocks = true) ∨ pc = .wantLock → lock = some j →
      BurnStep cfg st now lock i r pc (.wantLock, st, lock)
  | miss : r.failGet = true ∨ stGet cfg.expInclusive st now r.key = none →
      BurnStep cfg st now lock i r .atCall (afterGad cfg r none, st, unlock cfg.gadLocks lock)
  | single : cfg.gad = .singleCall → r.failGet = false →
      BurnStep cfg st now lock i r .atCall (afterGad cfg r (stGet cfg.expInclusive st now r.key), stErase st r.key, lock)
  | hit v : cfg.gad ≠ .singleCall → r.failGet = false → stGet cfg.expInclusive st now r.key = some v →
      BurnStep cfg st now lock i r .atCall (.atDel v, st, lock)
  | delFail v : BurnStep cfg st now lock i r (.atDel v) (afterGad cfg r none, st, unlock cfg.gadLocks lock)
  | del v : r.failDel = false → BurnStep cfg st now lock i r (.atDel v)
      (afterGad cfg r (if cfg.gadRawDelete && cfg.strictDelete && (stGet cfg.expInclusive st now r.key).isNone then none else some v),
        stErase st r.key, unlock cfg.gadLocks lock)
  | ext o : BurnStep cfg st now lock i r (.atExt o) (finishBurn r o, st, lock)
  | burnFail o : r.failDel = true → BurnStep cfg st now lock i r (.atBurn o) (.done o, st, lock)
  | burn o : r.failDel = false → BurnStep cfg st now lock i r (.atBurn o) (.done o, stErase st r.key, lock)
  | done o : BurnStep cfg st now lock i r (.done o) (.done o, st, lock)

theorem stepBurn_path (cfg : Cfg) (st : Store) (now : Nat) (lock : Option Nat) (i : Nat) (r : BurnReq) (pc : BurnPc) :
    BurnStep cfg st now lock i r pc (stepBurn cfg st now lock i r pc) := by
  cases pc with
  | start =>
    simp only [stepBurn]
    cases hp : r.pre
    · exact .refuse hp
    · cases hl : cfg.gadLocks
      · exact .free hp hl
      · cases lock with
        | none => exact .enter _ (.inl ⟨rfl, hp, hl⟩) rfl
        | some j => exact .block _ j (.inl ⟨rfl, hp, hl⟩) rfl
  | wantLock =>
    cases lock with
    | none => exact .enter _ (.inr rfl) rfl
    | some j => exact .block _ j (.inr rfl) rfl
  | atCall =>
    simp only [stepBurn]
    cases hf : r.failGet
    · cases hg : cfg.gad with
      | singleCall => exact .single hg hf
      | _ =>
        cases hv : stGet cfg.expInclusive st now r.key with
        | none => exact .miss (.inr hv)
        | some v => exact .hit v (by simp [hg]) hf hv
    · exact .miss (.inl hf)
  | atDel v =>
    simp only [stepBurn]
    cases hf : r.failDel
    · exact .del v hf
    · exact .delFail v
  | atExt o => exact .ext o
  | atBurn o =>
    simp only [stepBurn]
    cases hf : r.failDel
    · exact .burn o hf
    · exact .burnFail o hf
  | done o => exact .done o

namespace BurnStep
variable {cfg : Cfg} {st : Store} {now : Nat} {lock : Option Nat} {i : Nat} {r : BurnReq} {pc : BurnPc}
  {x : BurnPc × Store × Option Nat} (h : BurnStep cfg st now lock i r pc x)
include h

theorem lockMove : LockMove cfg.gadLocks i lock pc.inCrit x.1.inCrit x.2.2 := by
  cases h with
  | refuse | hit | burnFail | burn | done => exact .stay _
  | free _ h0 => exact .nolock _ _ h0
  | enter pc hpc h0 =>
    have : pc.inCrit = false := by rcases hpc with ⟨rfl, _⟩ | rfl <;> rfl
    rw [this]; exact .enter h0
  | block pc j hpc =>
    have : pc.inCrit = false := by rcases hpc with ⟨rfl, _⟩ | rfl <;> rfl
    rw [this]; exact .stay _
  | miss | delFail | del => rw [afterGad_inCrit]; exact .leave
  | single hg => exact .nolock _ _ (by simp [Cfg.gadLocks, hg])
  | ext => rw [finishBurn_inCrit]; exact .stay _

theorem store : x.2.1 = st ∨ x.2.1 = stErase st r.key := by
  cases h <;> simp

/-- a request obtains the value only in a step that erases the key, inside the locked section if there is one, and either
    the key was visible just before (single atomic call, or a Delete that reports a missing key) or the request was past
    its Get; at its first call only if its Get works -/
theorem newTaker (h0 : pc.took = false) (h1 : x.1.took = true) :
    x.2.1 = stErase st r.key ∧ (cfg.gadLocks = true → pc.inCrit = true) ∧
    ((stGet cfg.expInclusive st now r.key).isSome = true ∨
     (∃ v, pc = .atDel v ∧ ¬(cfg.gadRawDelete = true ∧ cfg.strictDelete = true))) ∧
    (r.failGet = false ∨ ∃ v, pc = .atDel v) := by
  cases h with
  -- the value is handed out by the single atomic call or by the Delete; every other path keeps `took` or ends where it is false
  | single _ hf => rw [afterGad_took] at h1; exact ⟨rfl, fun _ => rfl, .inl h1, .inl hf⟩
  | del v =>
    rw [afterGad_took] at h1
    refine ⟨rfl, fun _ => rfl, ?_, .inr ⟨v, rfl⟩⟩
    cases hm : (stGet cfg.expInclusive st now r.key).isNone
    · exact .inl (by cases hg : stGet cfg.expInclusive st now r.key <;> simp_all)
    · exact .inr ⟨v, rfl, fun ⟨hr, hs⟩ => by simp [hr, hs, hm] at h1⟩
  | miss | delFail => rw [afterGad_took] at h1; cases h1
  | ext o => rw [finishBurn_took] at h1; exact absurd (h0.symm.trans h1) nofun
  | burnFail | burn | done => exact absurd (h0.symm.trans h1) nofun
  | refuse | free | enter | block | hit => cases h1

theorem newMid (v : String) (h1 : x.1 = .atDel v) :
    r.failGet = false ∧ stGet cfg.expInclusive st now r.key = some v ∧ cfg.gad ≠ .singleCall := by
  cases h <;> simp_all [afterGad_ne_atDel, finishBurn_ne_atDel]

/-- a request whose Get fails or misses does not get past it: it neither obtains the value (`newTaker`) nor parks before the
    Delete (`newMid`) -/
theorem idle (hd : r.failGet = true ∨ stGet cfg.expInclusive st now r.key = none) (hi : pc.idle = true) : x.1.idle = true := by
  have hmiss : ¬(r.failGet = false ∧ (stGet cfg.expInclusive st now r.key).isSome = true) := fun ⟨h1, h2⟩ => by
    rcases hd with hd | hd
    · rw [h1] at hd; cases hd
    · rw [hd] at h2; cases h2
  rw [BurnPc.idle_iff] at hi ⊢
  refine ⟨?_, fun v hx => ?_⟩
  · cases ht : x.1.took with
    | false => rfl
    | true =>
      obtain ⟨_, _, h3, h4⟩ := h.newTaker hi.1 ht
      rcases h3, h4 with ⟨h3 | ⟨v, hv, _⟩, h4 | ⟨v, hv⟩⟩
      · exact absurd ⟨h4, h3⟩ hmiss
      all_goals exact absurd hv (hi.2 v)
  · obtain ⟨h1, h2, _⟩ := h.newMid v hx
    exact hmiss ⟨h1, by rw [h2]; rfl⟩

theorem code_done (hc : r.kind = .code) (hf : r.failDel = false) (o : Outcome) (h1 : x.1 = .done o) :
    pc = .done o ∨ x.2.1 = stErase st r.key := by
  have hfb : ∀ o', finishBurn r o' ≠ .done o := by intro o'; simp [finishBurn, hc]
  have ha : ∀ v, afterGad cfg r v ≠ .done o := by
    intro v; unfold afterGad; split
    · simp
    · exact hfb _
  cases h <;> simp_all

/-- a wiping request whose pre-checks fail stays on the Delete-only path, and any wiping request reaches `done` only from
    `done` or in a step that erases its key (`code`: `finishBurn` parks it before the deferred Delete) -/
theorem wiped (hw : r.wipes) (hp : r.pre = false → pc.deleteOnly = true) :
    (r.pre = false → x.1.deleteOnly = true) ∧ ∀ o, x.1 = .done o → pc = .done o ∨ x.2.1 = stErase st r.key := by
  obtain ⟨hk, hf⟩ := hw
  cases hpre : r.pre
  · -- pre-checks failed: `start`, then the Delete, then `done`
    have hd := hp hpre
    cases h with
    | refuse => exact ⟨fun _ => rfl, nofun⟩
    | free h1 => rw [hpre] at h1; cases h1
    | enter _ h1 | block _ _ h1 =>
      rcases h1 with ⟨_, h1, _⟩ | rfl
      · rw [hpre] at h1; cases h1
      · cases hd
    | burnFail _ h1 => rw [hf] at h1; cases h1
    | burn => exact ⟨fun _ => rfl, fun _ _ => .inr rfl⟩
    | done => exact ⟨fun _ => rfl, fun _ e => .inl e⟩
    | _ => cases hd
  · exact ⟨nofun, h.code_done (hk.resolve_right (by simp [hpre])) hf⟩

end BurnStep

def markEntry (cfg : Cfg) (now : Nat) (m : MarkKind) : Entry := ⟨markVal m, now + cfg.ttl (.mark m)⟩

inductive MarkStep (cfg : Cfg) (st : Store) (now : Nat) (lock : Option Nat) (i : Nat) (r : MarkReq) :
    MarkPc → MarkPc × Store × Option Nat → Prop
  | free : cfg.markLocks r.kind = false → MarkStep cfg st now lock i r .start (.atCall, st, lock)
  | enter pc : pc = .start ∨ pc = .wantLock → lock = none → MarkStep cfg st now lock i r pc (.atCall, st, some i)
  | block pc j : pc = .start ∨ pc = .wantLock → lock = some j → MarkStep cfg st now lock i r pc (.wantLock, st, lock)
  | getFail : r.failGet = true →
      MarkStep cfg st now lock i r .atCall (.done .storeErr, st, unlock (cfg.markLocks r.kind) lock)
  | pifFail : cfg.mark r.kind = .putIfAbsent → r.failSet = true → MarkStep cfg st now lock i r .atCall (.done .storeErr, st, lock)
  | pifUsed v : cfg.mark r.kind = .putIfAbsent → stGet cfg.expInclusive st now r.key = some v →
      MarkStep cfg st now lock i r .atCall (.done .used, st, lock)
  | pifOk : cfg.mark r.kind = .putIfAbsent → r.failGet = false → r.failSet = false →
      stGet cfg.expInclusive st now r.key = none →
      MarkStep cfg st now lock i r .atCall (.done .ok, stPut st r.key (markEntry cfg now r.kind), lock)
  | used v : cfg.mark r.kind ≠ .putIfAbsent → stGet cfg.expInclusive st now r.key = some v →
      MarkStep cfg st now lock i r .atCall (.done .used, st, unlock (cfg.markLocks r.kind) lock)
  | missed : cfg.mark r.kind ≠ .putIfAbsent → r.failGet = false → stGet cfg.expInclusive st now r.key = none →
      MarkStep cfg st now lock i r .atCall (.atPut true, st, lock)
  | putFail fresh : r.failSet = true →
      MarkStep cfg st now lock i r (.atPut fresh) (.done .storeErr, st, unlock (cfg.markLocks r.kind) lock)
  | put fresh : r.failSet = false → MarkStep cfg st now lock i r (.atPut fresh)
      (.done (if fresh then .ok else .used), stPut st r.key (markEntry cfg now r.kind), unlock (cfg.markLocks r.kind) lock)
  | done o : MarkStep cfg st now lock i r (.done o) (.done o, st, lock)

theorem stepMark_path (cfg : Cfg) (st : Store) (now : Nat) (lock : Option Nat) (i : Nat) (r : MarkReq) (pc : MarkPc) :
    MarkStep cfg st now lock i r pc (stepMark cfg st now lock i r pc) := by
  cases pc with
  | start =>
    simp only [stepMark]
    cases hl : cfg.markLocks r.kind
    · exact .free hl
    · cases lock with
      | none => exact .enter _ (.inl rfl) rfl
      | some j => exact .block _ j (.inl rfl) rfl
  | wantLock =>
    cases lock with
    | none => exact .enter _ (.inr rfl) rfl
    | some j => exact .block _ j (.inr rfl) rfl
  | atCall =>
    simp only [stepMark]
    cases hf : r.failGet
    · cases hg : cfg.mark r.kind with
      | putIfAbsent =>
        cases hs : r.failSet
        · cases hv : stGet cfg.expInclusive st now r.key with
          | none => exact .pifOk hg hf hs hv
          | some v => exact .pifUsed v hg hv
        · exact .pifFail hg hs
      | _ =>
        cases hv : stGet cfg.expInclusive st now r.key with
        | none => exact .missed (by simp [hg]) hf hv
        | some v => exact .used v (by simp [hg]) hv
    · exact .getFail hf
  | atPut fresh =>
    simp only [stepMark]
    cases hf : r.failSet
    · exact .put fresh hf
    · exact .putFail fresh hf
  | done o => exact .done o

namespace MarkStep
variable {cfg : Cfg} {st : Store} {now : Nat} {lock : Option Nat} {i : Nat} {r : MarkReq} {pc : MarkPc}
  {x : MarkPc × Store × Option Nat} (h : MarkStep cfg st now lock i r pc x)
include h

theorem lockMove : LockMove (cfg.markLocks r.kind) i lock pc.inCrit x.1.inCrit x.2.2 := by
  cases h with
  | missed | done => exact .stay _
  | free h0 => exact .nolock _ _ h0
  | enter pc hpc h0 =>
    have : pc.inCrit = false := by rcases hpc with rfl | rfl <;> rfl
    rw [this]; exact .enter h0
  | block pc j hpc =>
    have : pc.inCrit = false := by rcases hpc with rfl | rfl <;> rfl
    rw [this]; exact .stay _
  | getFail | used | putFail | put => exact .leave
  | pifFail hg | pifUsed _ hg | pifOk hg => exact .nolock _ _ (by simp [Cfg.markLocks, hg])

theorem store : x.2.1 = st ∨ x.2.1 = stPut st r.key (markEntry cfg now r.kind) := by
  cases h <;> simp

/-- a mark consumer is honoured only in a step that stores the secret, inside the locked section if there is one, and
    either the secret was not visible in that very step (one atomic call) or the request was past a Get that missed -/
theorem newWinner (h0 : pc ≠ .done .ok) (h1 : x.1 = .done .ok) :
    x.2.1 = stPut st r.key (markEntry cfg now r.kind) ∧ (cfg.markLocks r.kind = true → pc.inCrit = true) ∧
    ((pc = .atCall ∧ stGet cfg.expInclusive st now r.key = none) ∨ pc = .atPut true) := by
  cases h with
  -- honoured by the atomic put-if-absent that found nothing, or by the Put after a Get that missed; every other path ends elsewhere
  | pifOk _ _ _ hv => exact ⟨rfl, fun _ => rfl, .inl ⟨rfl, hv⟩⟩
  | put fresh =>
    cases fresh with
    | true => exact ⟨rfl, fun _ => rfl, .inr rfl⟩
    | false => cases h1
  | done => exact absurd h1 h0
  | free | enter | block | missed | getFail | pifFail | putFail | pifUsed | used => cases h1

theorem newMid (h1 : x.1 = .atPut true) :
    pc = .atCall ∧ stGet cfg.expInclusive st now r.key = none ∧ cfg.mark r.kind ≠ .putIfAbsent := by
  cases h <;> simp_all

end MarkStep

theorem stepMark_done (cfg : Cfg) (st : Store) (now : Nat) (lock : Option Nat) (i : Nat) (r : MarkReq) (o : Outcome) :
    stepMark cfg st now lock i r (.done o) = (.done o, st, lock) := rfl

theorem stepBurn_done (cfg : Cfg) (st : Store) (now : Nat) (lock : Option Nat) (i : Nat) (r : BurnReq) (o : Outcome) :
    stepBurn cfg st now lock i r (.done o) = (.done o, st, lock) := rfl

theorem Thread.took_burn (r : BurnReq) (pc : BurnPc) (f : Nat) : (Thread.burn r pc f).took = pc.took := by cases pc <;> rfl

theorem took_burnKey (t : Thread) (h : t.took = true) : ∃ b, t.key.ns = .burn b := by
  cases t with
  | burn r pc f => exact ⟨r.kind, rfl⟩
  | mark r pc f => cases h

theorem markKey_kind (a b : MarkReq) (h : a.key = b.key) : a.kind = b.kind := by
  injection h with h; injection h

theorem stepThread_key (cfg : Cfg) (st : Store) (now : Nat) (lock : Option Nat) (i : Nat) (t : Thread) :
    (stepThread cfg st now lock i t).1.key = t.key := by cases t <;> rfl

theorem stepThread_locks (cfg : Cfg) (st : Store) (now : Nat) (lock : Option Nat) (i : Nat) (t : Thread)
    (hL : t.inCrit cfg = true → lock = some i) :
    ((stepThread cfg st now lock i t).1.inCrit cfg = true → (stepThread cfg st now lock i t).2.2 = some i) ∧
    ((stepThread cfg st now lock i t).2.2 = lock ∨ (lock = none ∧ (stepThread cfg st now lock i t).2.2 = some i) ∨
      (lock = some i ∧ (stepThread cfg st now lock i t).2.2 = none)) := by
  cases t with
  | burn r pc f =>
    have hl := (stepBurn_path cfg st now lock i r pc).lockMove.locks fun h1 h2 => hL (by simp only [Thread.inCrit, h1, h2, Bool.and_self])
    exact ⟨fun h => by simp only [stepThread, Thread.inCrit, Bool.and_eq_true] at h; exact hl.1 h.1 h.2, hl.2⟩
  | mark r pc f =>
    have hl := (stepMark_path cfg st now lock i r pc).lockMove.locks fun h1 h2 => hL (by simp only [Thread.inCrit, h1, h2, Bool.and_self])
    exact ⟨fun h => by simp only [stepThread, Thread.inCrit, Bool.and_eq_true] at h; exact hl.1 h.1 h.2, hl.2⟩

theorem stepThread_burnKey (cfg : Cfg) (st : Store) (now : Nat) (lock : Option Nat) (i : Nat) (t : Thread) (k : Key) (b : BurnKind)
    (hk : k.ns = .burn b) :
    stFind (stepThread cfg st now lock i t).2.1 k = stFind st k ∨ stFind (stepThread cfg st now lock i t).2.1 k = none := by
  cases t with
  | burn r pc f =>
    simp only [stepThread]
    rcases (stepBurn_path cfg st now lock i r pc).store with hs | hs <;> rw [hs]
    · exact Or.inl rfl
    · by_cases hkk : k = r.key
      · right; rw [hkk]; exact stFind_erase_self _ _
      · left; exact stFind_erase_ne _ _ _ hkk
  | mark r pc f =>
    simp only [stepThread]
    rcases (stepMark_path cfg st now lock i r pc).store with hs | hs <;> rw [hs]
    · exact Or.inl rfl
    · left
      have hkk : k ≠ r.key := by intro h; rw [h] at hk; cases hk
      exact stFind_put_ne _ _ _ _ hkk

theorem stepThread_absent (cfg : Cfg) (st : Store) (now : Nat) (lock : Option Nat) (i : Nat) (t : Thread) (k : Key) (b : BurnKind)
    (hk : k.ns = .burn b) (hn : stFind st k = none) : stFind (stepThread cfg st now lock i t).2.1 k = none :=
  (stepThread_burnKey cfg st now lock i t k b hk).elim (· ▸ hn) id

theorem stepThread_markKey (cfg : Cfg) (st : Store) (now : Nat) (lock : Option Nat) (i : Nat) (t : Thread) (k : Key) (m : MarkKind)
    (hk : k.ns = .mark m) :
    stFind (stepThread cfg st now lock i t).2.1 k = stFind st k ∨
      (k = t.key ∧ stFind (stepThread cfg st now lock i t).2.1 k = some (markEntry cfg now m)) := by
  cases t with
  | burn r pc f =>
    left
    simp only [stepThread]
    rcases (stepBurn_path cfg st now lock i r pc).store with hs | hs <;> rw [hs]
    exact stFind_erase_ne _ _ _ fun h => by rw [h] at hk; cases hk
  | mark r pc f =>
    simp only [stepThread]
    rcases (stepMark_path cfg st now lock i r pc).store with hs | hs <;> rw [hs]
    · exact .inl rfl
    · by_cases hkk : k = r.key
      · subst hkk
        injection hk with hk
        exact .inr ⟨rfl, by rw [stFind_put_self, hk]⟩
      · exact .inl (stFind_put_ne _ _ _ _ hkk)

theorem getElem?_set_cases {α} (l : List α) (i j : Nat) (a b : α) (h : (l.set i a)[j]? = some b) :
    (j = i ∧ b = a) ∨ (j ≠ i ∧ l[j]? = some b) := by
  by_cases hij : i = j
  · subst hij
    rw [List.getElem?_set] at h
    simp at h
    exact Or.inl ⟨rfl, h.2.symm⟩
  · rw [List.getElem?_set_ne hij] at h
    exact Or.inr ⟨fun h' => hij h'.symm, h⟩

theorem lockd_stepW (cfg : Cfg) (w : World) (i : Nat)
    (hl : ∀ (j : Nat) (t : Thread), w.ths[j]? = some t → t.inCrit cfg = true → w.lock = some j) :
    ∀ (j : Nat) (t : Thread), (stepW cfg w i).ths[j]? = some t → t.inCrit cfg = true → (stepW cfg w i).lock = some j := by
  unfold stepW
  cases hi : w.ths[i]? with
  | none => exact hl
  | some t =>
    intro j tj h hc
    obtain ⟨h1, h2⟩ := stepThread_locks cfg w.store w.now w.lock i t (hl i t hi)
    rcases getElem?_set_cases _ _ _ _ _ h with ⟨hj, he⟩ | ⟨hj, he⟩
    · subst hj; subst he; exact h1 hc
    · have hlj := hl j tj he hc
      rcases h2 with h2 | ⟨h2, _⟩ | ⟨h2, _⟩
      · exact h2.trans hlj
      · rw [h2] at hlj; cases hlj
      · rw [h2] at hlj; injection hlj with hh; exact absurd hh.symm hj

theorem run_threads (cfg : Cfg) (Q : Nat → Store → Nat → Thread → Prop)
    (tick : ∀ st now dt j u, Q j st now u → Q j st (now + dt) u)
    (frame : ∀ st now lock i t j u, Q j st now u → Q j (stepThread cfg st now lock i t).2.1 now u)
    (own : ∀ st now lock i t, Q i st now t → Q i (stepThread cfg st now lock i t).2.1 now (stepThread cfg st now lock i t).1)
    (s : List Ev) (w : World) (h : ∀ j t, w.ths[j]? = some t → Q j w.store w.now t) :
    ∀ j t, (run cfg s w).ths[j]? = some t → Q j (run cfg s w).store (run cfg s w).now t := by
  induction s generalizing w with
  | nil => exact h
  | cons ev s ih =>
    apply ih
    cases ev with
    | tick dt => exact fun j t ht => tick _ _ dt j t (h j t ht)
    | step i =>
      simp only [applyEv, stepW]
      cases hi : w.ths[i]? with
      | none => exact h
      | some t =>
        intro j u hu
        rcases getElem?_set_cases _ _ _ _ _ hu with ⟨rfl, rfl⟩ | ⟨_, he⟩
        · exact own _ _ _ _ t (h _ t hi)
        · exact frame _ _ _ i t j u (h j u he)

theorem init_thread (st : Store) (reqs : List Req) (i : Nat) (t : Thread) (h : (init st reqs).ths[i]? = some t) :
    ∃ r, t = Req.thread r := by
  simp [init] at h
  obtain ⟨r, _, hr⟩ := h
  exact ⟨r, hr.symm⟩

end Nuts.C05
