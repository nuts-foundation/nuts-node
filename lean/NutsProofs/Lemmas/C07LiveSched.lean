/-
  A pull round is a schedule of the adversarial network: a gossip tick followed by `inject` steps of messages the partner sent.
-/
import NutsProofs.Lemmas.C07LiveAbsorb
open Nuts.Proto Nuts Nuts.Proto.L

namespace Nuts.Proto.Live

theorem run_append (cfg : Cfg) (w : World) (s1 s2 : List Step) : w.run cfg (s1 ++ s2) = (w.run cfg s1).run cfg s2 := by
  unfold World.run; rw [List.foldl_append]

theorem absorb_is_run (cfg : Cfg) (env : Env) (i : Nat) (p : Peer) : ∀ (msgs : List Msg) (w : World) (n : Node),
    w.nodes[i]? = some n → peerOf n p.key = some p →
    (w.run cfg (msgs.map (fun m => Step.inject p.key i m env))).nodes = w.nodes.set i (absorb cfg env n p msgs).1 := by
  intro msgs
  induction msgs with
  | nil =>
    intro w n hn _
    simp only [List.map_nil, World.run, List.foldl_nil, absorb]
    obtain ⟨hlt, heq⟩ := List.getElem?_eq_some_iff.mp hn
    rw [← heq, List.set_getElem_self hlt]
  | cons m ms ih =>
    intro w n hn hp
    simp only [List.map_cons, World.run, List.foldl_cons]
    have hstep : (w.step cfg (.inject p.key i m env)).nodes = w.nodes.set i (handle cfg env n p m).node := by
      simp only [World.step, World.stepR, World.recv, hn, hp, World.post]
    have hlt := (List.getElem?_eq_some_iff.mp hn).1
    have hn' : (w.step cfg (.inject p.key i m env)).nodes[i]? = some (handle cfg env n p m).node := by
      rw [hstep]; simp [hlt]
    have hp' : peerOf (handle cfg env n p m).node p.key = some p := by
      unfold peerOf; rw [(handle_shape ..).1]; exact hp
    have := ih (w.step cfg (.inject p.key i m env)) _ hn' hp'
    simp only [World.run] at this
    rw [this, hstep, absorb_cons]
    simp

def Sched (cfg : Cfg) (ns ns' : List Node) : Prop := ∀ w : World, w.nodes = ns → ∃ sched, (w.run cfg sched).nodes = ns'

theorem Sched.refl (cfg : Cfg) (ns : List Node) : Sched cfg ns ns := fun _ hw => ⟨[], hw⟩

theorem Sched.trans {cfg : Cfg} {a b c : List Node} (h1 : Sched cfg a b) (h2 : Sched cfg b c) : Sched cfg a c := fun w hw =>
  let ⟨s1, e1⟩ := h1 w hw
  let ⟨s2, e2⟩ := h2 _ e1
  ⟨s1 ++ s2, by rw [run_append]; exact e2⟩

theorem Sched.absorb (cfg : Cfg) (env : Env) (i : Nat) (p : Peer) (msgs : List Msg) (ns : List Node) (n : Node)
    (hn : ns[i]? = some n) (hp : peerOf n p.key = some p) : Sched cfg ns (ns.set i (absorb cfg env n p msgs).1) :=
  fun w hw => ⟨_, hw ▸ absorb_is_run cfg env i p msgs w n (hw ▸ hn) hp⟩

theorem pingPong_is_run (cfg : Cfg) (env : Env) (pA pB : Peer) (fuel : Nat) (a b : Node) (toB : List Msg) :
    peerOf a pB.key = some pB → peerOf b pA.key = some pA →
      Sched cfg [a, b] [(pingPong cfg env pA pB fuel a b toB).1, (pingPong cfg env pA pB fuel a b toB).2] := by
  fun_induction pingPong cfg env pA pB fuel a b toB with
  | case3 f a b toB _ rb ra ih =>
    -- deliver the batch to b (index 1), then b's replies to a (index 0), then continue
    exact fun hpa hpb => (Sched.absorb cfg env 1 pA toB [a, b] b rfl hpb).trans
      ((Sched.absorb cfg env 0 pB rb.2 [a, _] a rfl hpa).trans
        (ih (by unfold peerOf; rw [(absorb_shape ..).1]; exact hpa) (by unfold peerOf; rw [(absorb_shape ..).1]; exact hpb)))
  | _ => exact fun _ _ => .refl cfg _

/-- **a pull round is a schedule of the adversarial network**: one gossip tick followed by `inject` steps carrying the
    messages the partner sent — so everything proved for ALL schedules (`safety_any_schedule`) holds along rounds, and the
    convergence theorem speaks about executions of the network model -/
theorem pullRound_is_run (cfg : Cfg) (env : Env) (pA pB : Peer) (fuel : Nat) (a b : Node)
    (hpa : peerOf a pB.key = some pB) (hpb : peerOf b pA.key = some pA) :
    Sched cfg [a, b] [(pullRound cfg env pA pB fuel a b).1, (pullRound cfg env pA pB fuel a b).2] := by
  unfold pullRound
  simp only
  have htick : Sched cfg [a, b] [a, (gossipTick b pA.key).node] := fun w hw =>
    ⟨[.tick 1 pA.key], by simp only [World.run, List.foldl, World.step, World.stepR, hw]; rfl⟩
  have hpb1 : peerOf (gossipTick b pA.key).node pA.key = some pA := by
    have : (gossipTick b pA.key).node.peers = b.peers := by fun_cases gossipTick b pA.key <;> rfl
    unfold peerOf; rw [this]; exact hpb
  exact htick.trans ((Sched.absorb cfg env 0 pB (toPeer pA.key (gossipTick b pA.key).out) [a, _] a rfl hpa).trans
    (pingPong_is_run cfg env pA pB fuel _ _ _ (by unfold peerOf; rw [(absorb_shape ..).1]; exact hpa) hpb1))

end Nuts.Proto.Live
