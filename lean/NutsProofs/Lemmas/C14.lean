/-
  C14 — what the statements about the notifier are written in (`completedIn`, `okLedger`, `Typed`), and the operations of the model
  read once: one `notifyNow` (`notifyNow_some`, `NowStep`), `saveEvent` (`SaveSpec`), `addTx` / `writePayload` / `finishedExt` by cases
  (`*_spec`), `spawn`, `runSnapshot`, `failedEvents`; the change of one job that a receiver call and a `Finished` have in common
  (`JobUpd`), and the durable effect of every operation as a sequence of such changes, commits and steps that leave the durable
  part as it is (`DStep`, `SameDurable`).
-/
import NutsModel.C14.Notifier
namespace Nuts.C14

def completedIn (l : List Entry) (s r : Nat) : Bool := l.any (Entry.completes s r)

/-- newest-first ledger: no call of (s, r) is newer than a completion record of (s, r) -/
def okLedger (s r : Nat) : List Entry → Bool
  | [] => true
  | e :: older => (!(e.isCallOf s r) || !(completedIn older s r)) && okLedger s r older

/-- every event the filters of subscriber `s` accept has type `ty` -/
def Typed (c : Cfg) (s : Nat) (ty : EvType) : Prop := ∀ r ty', c.sel s r ty' = true → ty' = ty

/-- the part of the state that survives a stop -/
structure SameDurable (σ σ' : St) : Prop where
  dag : σ'.dag = σ.dag
  payloads : σ'.payloads = σ.payloads
  shelf : σ'.shelf = σ.shelf
  admitted : σ'.admitted = σ.admitted
  ledger : σ'.ledger = σ.ledger
  evented : σ'.evented = σ.evented

theorem SameDurable.refl (σ : St) : SameDurable σ σ := ⟨rfl, rfl, rfl, rfl, rfl, rfl⟩

theorem SameDurable.trans {a b d : St} (h1 : SameDurable a b) (h2 : SameDurable b d) : SameDurable a d :=
  ⟨h2.dag.trans h1.dag, h2.payloads.trans h1.payloads, h2.shelf.trans h1.shelf, h2.admitted.trans h1.admitted, h2.ledger.trans h1.ledger,
   h2.evented.trans h1.evented⟩

theorem spawn_eq (c : Cfg) (σ : St) (s r k : Nat) : spawn c σ s r k = { σ with running := σ.running ++
    if k + 1 < c.maxRetries then [{ sub := s, ref := r, left := c.maxRetries - (k + 1), n := 0, base := k + 1 }] else [] } := by
  unfold spawn retryAttempts
  by_cases h : k + 1 < c.maxRetries
  · rw [if_pos h, if_pos h]
  · rw [if_neg h, if_neg h, List.append_nil]

theorem spawn_same (c : Cfg) (σ : St) (s r k : Nat) : SameDurable σ (spawn c σ s r k) := by
  rw [spawn_eq]; exact ⟨rfl, rfl, rfl, rfl, rfl, rfl⟩

theorem crashSt_same (σ : St) : SameDurable σ (crashSt σ) := ⟨rfl, rfl, rfl, rfl, rfl, rfl⟩

theorem setJob_self (σ : St) (s r : Nat) (j : Job) (h : σ.shelf s r = some j) : setJob σ s r (some j) = σ := by
  cases σ; simp only [setJob] at *; congr; funext s' r'; split
  · next hh => rw [hh.1, hh.2, h]
  · rfl

def jobAfter (c : Cfg) (j : Job) : Outcome → Option Job
  | .done => none
  | .doneFinishFail => some j
  | .notDone => some { j with retries := j.retries + 1, err := .incomplete }
  | .notDoneFin => if c.writeBackSkipsGone then none else some { j with retries := j.retries + 1, err := .incomplete }
  | .fail => some { j with retries := j.retries + 1, err := .generic }
  | .failCtx => some { j with retries := j.retries + 1, err := .ctx }
  | .fatal => some { j with retries := c.maxRetries + 1, err := .fatal }
  | .crash => some j
  | .readFault => some j
  | .notDoneWriteFail => some j
  | .failWriteFail => some j

def resAfter : Outcome → NRes
  | .done => .nil
  | .doneFinishFail => .err
  | .notDone => .err
  | .notDoneFin => .err
  | .fail => .err
  | .failCtx => .err
  | .fatal => .fatal
  | .crash => .crashed
  | .readFault => .unrec
  | .notDoneWriteFail => .unrec
  | .failWriteFail => .unrec

/-- what one receiver call writes to the ledger, newest first: the call, and the `Finished` record when it happened during the call -/
def entriesAfter (s r : Nat) (j : Job) (o : Outcome) : List Entry :=
  (if o = .notDoneFin then [.fin s r] else []) ++ [.call s r j.type j.retries o]

def logAfter (σ : St) (s r : Nat) (j : Job) (o : Outcome) : St := { σ with ledger := entriesAfter s r j o ++ σ.ledger }

@[simp] theorem logAfter_shelf (σ : St) (s r : Nat) (j : Job) (o : Outcome) : (logAfter σ s r j o).shelf = σ.shelf := rfl
@[simp] theorem logAfter_running (σ : St) (s r : Nat) (j : Job) (o : Outcome) : (logAfter σ s r j o).running = σ.running := rfl
@[simp] theorem logAfter_pending (σ : St) (s r : Nat) (j : Job) (o : Outcome) : (logAfter σ s r j o).pending = σ.pending := rfl
@[simp] theorem logAfter_ledger (σ : St) (s r : Nat) (j : Job) (o : Outcome) :
    (logAfter σ s r j o).ledger = entriesAfter s r j o ++ σ.ledger := rfl

theorem notifyNow_none {c : Cfg} {σ : St} {s r : Nat} (h : σ.shelf s r = none) : notifyNow c σ s r = (σ, .nil) := by
  unfold notifyNow; rw [h]

theorem notifyNow_some {c : Cfg} {σ : St} {s r : Nat} {j : Job} (h : σ.shelf s r = some j) :
    notifyNow c σ s r =
      (setJob (logAfter σ s r j (c.beh s r (attemptNo σ s r))) s r (jobAfter c j (c.beh s r (attemptNo σ s r))),
       resAfter (c.beh s r (attemptNo σ s r))) := by
  unfold notifyNow; rw [h]; simp only
  generalize c.beh s r (attemptNo σ s r) = o
  cases o <;> simp only [jobAfter, resAfter, setJob_self (logAfter σ s r j _) s r j h] <;> rfl

theorem mem_entriesAfter {s r : Nat} {j : Job} {o : Outcome} {e : Entry} (h : e ∈ entriesAfter s r j o) :
    (∃ k o', e = .call s r j.type k o') ∨ e = .fin s r := by
  rw [entriesAfter, List.mem_append] at h
  rcases h with h | h
  · split at h
    · exact .inr (List.mem_singleton.mp h)
    · cases h
  · exact .inl ⟨_, _, List.mem_singleton.mp h⟩

theorem jobAfter_some {c : Cfg} {j j' : Job} {o : Outcome} (h : jobAfter c j o = some j') :
    j'.type = j.type ∧ (j.retries ≤ j'.retries ∨ c.maxRetries + 1 ≤ j'.retries) := by
  cases o <;> simp only [jobAfter] at h
  case notDoneFin => split at h <;> cases h; simp
  all_goals cases h
  all_goals simp

theorem completedIn_entriesAfter {s r : Nat} {j : Job} {o : Outcome} :
    completedIn (entriesAfter s r j o) s r = true ↔ o = .done ∨ o = .notDoneFin := by
  unfold entriesAfter
  split
  · next h => simp [completedIn, Entry.completes, h]
  · next h => simp [completedIn, Entry.completes, h]

theorem okLedger_entriesAfter (s r : Nat) (j : Job) (o : Outcome) : okLedger s r (entriesAfter s r j o) = true := by
  unfold entriesAfter
  split <;> simp [okLedger, completedIn, Entry.isCallOf]

theorem jobAfter_none {c : Cfg} {j : Job} {o : Outcome} (h : jobAfter c j o = none) : o = .done ∨ o = .notDoneFin := by
  cases o <;> simp [jobAfter] at h ⊢

inductive NowStep (c : Cfg) (s r : Nat) (σ σ' : St) : Prop where
  | skip (h : σ.shelf s r = none) (e : σ' = σ)
  | call (j : Job) (o : Outcome) (h : σ.shelf s r = some j) (e : σ' = setJob (logAfter σ s r j o) s r (jobAfter c j o))

theorem notifyNow_step (c : Cfg) (σ : St) (s r : Nat) : NowStep c s r σ (notifyNow c σ s r).1 := by
  cases h : σ.shelf s r with
  | none => rw [notifyNow_none h]; exact .skip h rfl
  | some j => rw [notifyNow_some h]; exact .call j _ h rfl

theorem NowStep.frame {c : Cfg} {s r s0 r0 : Nat} {σ σ' : St} (st : NowStep c s0 r0 σ σ') (h : ¬(s = s0 ∧ r = r0)) :
    σ'.shelf s r = σ.shelf s r := by
  cases st with
  | skip _ e => rw [e]
  | call j o _ e => rw [e]; exact if_neg h

@[simp] theorem setJob_shelf (σ : St) (s r : Nat) (nj : Option Job) (s' r' : Nat) :
    (setJob σ s r nj).shelf s' r' = if s' = s ∧ r' = r then nj else σ.shelf s' r' := rfl

@[simp] theorem setJob_dag (σ : St) (s r : Nat) (nj : Option Job) : (setJob σ s r nj).dag = σ.dag := rfl
@[simp] theorem setJob_payloads (σ : St) (s r : Nat) (nj : Option Job) : (setJob σ s r nj).payloads = σ.payloads := rfl
@[simp] theorem setJob_admitted (σ : St) (s r : Nat) (nj : Option Job) : (setJob σ s r nj).admitted = σ.admitted := rfl
@[simp] theorem setJob_ledger (σ : St) (s r : Nat) (nj : Option Job) : (setJob σ s r nj).ledger = σ.ledger := rfl
@[simp] theorem setJob_running (σ : St) (s r : Nat) (nj : Option Job) : (setJob σ s r nj).running = σ.running := rfl
@[simp] theorem setJob_pending (σ : St) (s r : Nat) (nj : Option Job) : (setJob σ s r nj).pending = σ.pending := rfl
@[simp] theorem log_shelf (σ : St) (e : Entry) : (log σ e).shelf = σ.shelf := rfl
@[simp] theorem log_dag (σ : St) (e : Entry) : (log σ e).dag = σ.dag := rfl
@[simp] theorem log_payloads (σ : St) (e : Entry) : (log σ e).payloads = σ.payloads := rfl
@[simp] theorem log_admitted (σ : St) (e : Entry) : (log σ e).admitted = σ.admitted := rfl
@[simp] theorem log_ledger (σ : St) (e : Entry) : (log σ e).ledger = e :: σ.ledger := rfl
@[simp] theorem log_running (σ : St) (e : Entry) : (log σ e).running = σ.running := rfl
@[simp] theorem log_pending (σ : St) (e : Entry) : (log σ e).pending = σ.pending := rfl

theorem completedIn_cons (e : Entry) (l : List Entry) (s r : Nat) :
    completedIn (e :: l) s r = (e.completes s r || completedIn l s r) := List.any_cons

theorem completedIn_append (a b : List Entry) (s r : Nat) : completedIn (a ++ b) s r = (completedIn a s r || completedIn b s r) :=
  List.any_append

theorem completes_call_iff (s r s' r' : Nat) (ty : EvType) (k : Nat) (o : Outcome) :
    (Entry.call s' r' ty k o).completes s r = true ↔ s' = s ∧ r' = r ∧ o = .done := by
  simp [Entry.completes, and_assoc]

theorem completes_fin_iff (s r s' r' : Nat) :
    (Entry.fin s' r').completes s r = true ↔ s' = s ∧ r' = r := by
  simp [Entry.completes]

theorem completedIn_iff (l : List Entry) (s r : Nat) :
    completedIn l s r = true ↔ (∃ ty k, Entry.call s r ty k .done ∈ l) ∨ Entry.fin s r ∈ l := by
  unfold completedIn
  rw [List.any_eq_true]
  constructor
  · rintro ⟨e, he, hc⟩
    cases e with
    | call s' r' ty k o =>
      rw [completes_call_iff] at hc
      obtain ⟨rfl, rfl, rfl⟩ := hc
      exact .inl ⟨ty, k, he⟩
    | fin s' r' =>
      rw [completes_fin_iff] at hc
      obtain ⟨rfl, rfl⟩ := hc
      exact .inr he
  · rintro (⟨ty, k, he⟩ | he)
    · exact ⟨_, he, by simp [Entry.completes]⟩
    · exact ⟨_, he, by simp [Entry.completes]⟩

theorem key_beq {a b s r : Nat} : (a == s && b == r) = true ↔ a = s ∧ b = r := by
  rw [Bool.and_eq_true, beq_iff_eq, beq_iff_eq]

theorem Entry.other_key {s r s' r' : Nat} {ty : EvType} {e : Entry} (he : (∃ k o, e = .call s r ty k o) ∨ e = .fin s r)
    (hne : ¬(s' = s ∧ r' = r)) : e.completes s' r' = false ∧ e.isCallOf s' r' = false := by
  have hb : (s == s' && r == r') = false :=
    Bool.eq_false_iff.mpr fun h => hne ⟨(key_beq.mp h).1.symm, (key_beq.mp h).2.symm⟩
  rcases he with ⟨k, o, rfl⟩ | rfl
  · exact ⟨by rw [Entry.completes, hb]; rfl, hb⟩
  · exact ⟨hb, rfl⟩

theorem call_mem_entriesAfter (s r : Nat) (j : Job) (o : Outcome) : Entry.call s r j.type j.retries o ∈ entriesAfter s r j o :=
  List.mem_append_right _ List.mem_cons_self

def newJob (ty : EvType) : Job := { type := ty, retries := 0, err := .none }

structure SaveSpec (c : Cfg) (ev : Nat × EvType) (n : Nat) (σ σ' : St) : Prop where
  dag : σ'.dag = σ.dag
  payloads : σ'.payloads = σ.payloads
  admitted : σ'.admitted = σ.admitted
  ledger : σ'.ledger = σ.ledger
  running : σ'.running = σ.running
  pending : σ'.pending = σ.pending
  shelf : ∀ s r, σ'.shelf s r =
    if s < n ∧ r = ev.1 ∧ c.sel s r ev.2 = true ∧ σ.shelf s r = none then some (newJob ev.2) else σ.shelf s r
  evented : σ'.evented = σ.evented

theorem save_fields (c : Cfg) (ev : Nat × EvType) (σ : St) (n : Nat) :
    save c ev σ n = { σ with shelf := (save c ev σ n).shelf } := by
  fun_cases save c ev σ n <;> rfl

theorem save_shelf (c : Cfg) (ev : Nat × EvType) (σ : St) (n s r : Nat) : (save c ev σ n).shelf s r =
    if s = n ∧ r = ev.1 ∧ c.sel s r ev.2 = true ∧ σ.shelf s r = none then some (newJob ev.2) else σ.shelf s r := by
  fun_cases save c ev σ n with
  | case1 hsel hsh =>
    show (if s = n ∧ r = ev.1 then some (newJob ev.2) else σ.shelf s r) = _
    by_cases hk : s = n ∧ r = ev.1
    · rw [if_pos hk, if_pos]; obtain ⟨rfl, rfl⟩ := hk; exact ⟨rfl, rfl, hsel, hsh⟩
    · rw [if_neg hk, if_neg fun h => hk ⟨h.1, h.2.1⟩]
  | case2 _ j hsh => exact (if_neg fun h => by rw [h.1, h.2.1, hsh] at h; cases h.2.2.2).symm
  | case3 hsel => exact (if_neg fun h => hsel (by rw [← h.1, ← h.2.1]; exact h.2.2.1)).symm

theorem save_fold_spec (c : Cfg) (ev : Nat × EvType) (n : Nat) (σ : St) :
    SaveSpec c ev n σ ((List.range n).foldl (save c ev) σ) := by
  induction n with
  | zero => exact ⟨rfl, rfl, rfl, rfl, rfl, rfl, fun s r => (if_neg fun h => Nat.not_lt_zero _ h.1).symm, rfl⟩
  | succ n ih =>
    rw [List.range_succ, List.foldl_append]
    generalize (List.range n).foldl (save c ev) σ = σ1 at ih
    obtain ⟨h1, h2, h3, h4, h5, h6, h7, h8⟩ := ih
    show SaveSpec c ev (n + 1) σ (save c ev σ1 n)
    rw [save_fields]
    refine ⟨h1, h2, h3, h4, h5, h6, fun s r => ?_, h8⟩
    show (save c ev σ1 n).shelf s r = _
    rw [save_shelf, h7]
    -- the key (n, ev.1) was not reached by the first n subscribers; for every other subscriber `s < n + 1` means `s < n`
    by_cases hs : s = n
    · subst hs; simp
    · have : s < n + 1 ↔ s < n := by omega
      simp [hs, this]

theorem saveEvent_spec (c : Cfg) (σ : St) (ev : Nat × EvType) : SaveSpec c ev c.nSubs σ (saveEvent c σ ev) :=
  save_fold_spec c ev c.nSubs σ

theorem saveEvent_dag (c : Cfg) (σ : St) (ev : Nat × EvType) : (saveEvent c σ ev).dag = σ.dag := (saveEvent_spec c σ ev).dag
theorem saveEvent_ledger (c : Cfg) (σ : St) (ev : Nat × EvType) : (saveEvent c σ ev).ledger = σ.ledger := (saveEvent_spec c σ ev).ledger
theorem saveEvent_admitted (c : Cfg) (σ : St) (ev : Nat × EvType) : (saveEvent c σ ev).admitted = σ.admitted := (saveEvent_spec c σ ev).admitted
theorem saveEvent_running (c : Cfg) (σ : St) (ev : Nat × EvType) : (saveEvent c σ ev).running = σ.running := (saveEvent_spec c σ ev).running
theorem saveEvent_pending (c : Cfg) (σ : St) (ev : Nat × EvType) : (saveEvent c σ ev).pending = σ.pending := (saveEvent_spec c σ ev).pending
theorem saveEvent_evented (c : Cfg) (σ : St) (ev : Nat × EvType) : (saveEvent c σ ev).evented = σ.evented := (saveEvent_spec c σ ev).evented

/-- the state `addTx` commits when no guard refuses the transaction -/
def addCommit (c : Cfg) (σ : St) (a : AddArgs) : St :=
  let σ1 := if a.withPayload then
      saveEvent c { σ with dag := a.ref :: σ.dag, payloads := c.phash a.ref :: σ.payloads, evented := a.ref :: σ.evented,
                           admitted := (a.ref, .payload) :: σ.admitted } (a.ref, .payload)
    else { σ with dag := a.ref :: σ.dag }
  let σ2 := saveEvent c { σ1 with admitted := (a.ref, .tx) :: σ1.admitted } (a.ref, .tx)
  { σ2 with pending := σ2.pending ++ ((a.ref, EvType.tx) :: (if a.withPayload then [(a.ref, EvType.payload)] else [])) }

/-- Each guard is decided on its own and the `if` rewritten away, so the committed state is never expanded. -/
theorem addTx_spec (c : Cfg) (σ : St) (a : AddArgs) :
    (∃ e, e ≠ .ok ∧ addTx c σ a = (σ, e)) ∨
    (addTx c σ a = (addCommit c σ a, .ok) ∧ a.ref < c.nRefs ∧ a.ref ∉ σ.dag ∧
      shelfFaultHits c a.failShelf a.ref .tx ≠ true) := by
  unfold addTx
  by_cases h1 : a.ref ≥ c.nRefs
  · rw [if_pos h1]; exact .inl ⟨_, by decide, rfl⟩
  rw [if_neg h1]
  by_cases h2 : a.ref ∈ σ.dag
  · rw [if_pos h2]; exact .inl ⟨_, by decide, rfl⟩
  rw [if_neg h2]
  by_cases h3 : a.reject = true
  · rw [if_pos h3]; exact .inl ⟨_, by decide, rfl⟩
  rw [if_neg h3]
  by_cases h4 : (a.withPayload && a.mismatch) = true
  · rw [if_pos h4]; exact .inl ⟨_, by decide, rfl⟩
  rw [if_neg h4]
  by_cases h5 : (a.withPayload && shelfFaultHits c a.failShelf a.ref .payload) = true
  · rw [if_pos h5]; exact .inl ⟨_, by decide, rfl⟩
  rw [if_neg h5]
  by_cases h6 : (c.root a.ref && σ.dag.any c.root) = true
  · rw [if_pos h6]; exact .inl ⟨_, by decide, rfl⟩
  rw [if_neg h6]
  by_cases h7 : shelfFaultHits c a.failShelf a.ref .tx = true
  · rw [if_pos h7]; exact .inl ⟨_, by decide, rfl⟩
  rw [if_neg h7]
  by_cases h8 : a.commitFail = true
  · rw [if_pos h8]; exact .inl ⟨_, by decide, rfl⟩
  rw [if_neg h8]
  exact .inr ⟨rfl, Nat.lt_of_not_ge h1, h2, h7⟩

theorem addCommit_ledger (c : Cfg) (σ : St) (a : AddArgs) : (addCommit c σ a).ledger = σ.ledger := by
  unfold addCommit; split <;> simp only [saveEvent_ledger]

theorem addCommit_running (c : Cfg) (σ : St) (a : AddArgs) : (addCommit c σ a).running = σ.running := by
  unfold addCommit; split <;> simp only [saveEvent_running]

theorem addCommit_pending (c : Cfg) (σ : St) (a : AddArgs) : (addCommit c σ a).pending =
    σ.pending ++ ((a.ref, EvType.tx) :: (if a.withPayload then [(a.ref, EvType.payload)] else [])) := by
  unfold addCommit; split <;> simp only [saveEvent_pending]

theorem addCommit_dag (c : Cfg) (σ : St) (a : AddArgs) : (addCommit c σ a).dag = a.ref :: σ.dag := by
  unfold addCommit; split <;> simp only [saveEvent_dag]

theorem addCommit_evented (c : Cfg) (σ : St) (a : AddArgs) :
    (addCommit c σ a).evented = if a.withPayload then a.ref :: σ.evented else σ.evented := by
  unfold addCommit; split <;> simp only [saveEvent_evented]

theorem addCommit_admitted (c : Cfg) (σ : St) (a : AddArgs) :
    (addCommit c σ a).admitted = (a.ref, .tx) :: (if a.withPayload then (a.ref, .payload) :: σ.admitted else σ.admitted) := by
  unfold addCommit; split <;> simp only [saveEvent_admitted]

/-- the state `writePayload` commits when it saves the payload event -/
def payloadCommit (c : Cfg) (σ : St) (ref : Nat) : St :=
  let σ1 := saveEvent c { σ with payloads := c.phash ref :: σ.payloads, evented := ref :: σ.evented,
                                 admitted := (ref, .payload) :: σ.admitted } (ref, .payload)
  { σ1 with pending := σ1.pending ++ [(ref, EvType.payload)] }

theorem writePayload_spec (c : Cfg) (σ : St) (ref : Nat) (cf : Bool) :
    (∃ e, e ≠ .ok ∧ e ≠ .skipped ∧ writePayload c σ ref cf = (σ, e) ∧ (ref ∉ σ.dag ∨ cf = true)) ∨
    (ref ∈ σ.evented ∧ ∃ p, writePayload c σ ref cf = ({ σ with pending := p }, .skipped) ∧
      (∀ x, x ∈ σ.pending → x ∈ p) ∧ (c.notifyGuarded = true → p = σ.pending)) ∨
    (writePayload c σ ref cf = (payloadCommit c σ ref, .ok) ∧ ref ∈ σ.dag ∧ ¬(c.skipPresent = true ∧ ref ∈ σ.evented)) := by
  unfold writePayload
  by_cases h1 : ref ∉ σ.dag
  · rw [if_pos h1]; exact .inl ⟨_, by decide, by decide, rfl, .inl h1⟩
  rw [if_neg h1]
  by_cases h2 : cf = true
  · rw [if_pos h2]; exact .inl ⟨_, by decide, by decide, rfl, .inr h2⟩
  rw [if_neg h2]
  by_cases h3 : c.skipPresent = true ∧ ref ∈ σ.evented
  · rw [if_pos h3]
    refine .inr (.inl ⟨h3.2, ?_⟩)
    by_cases hg : c.notifyGuarded = true
    · rw [if_pos hg]; exact ⟨σ.pending, rfl, fun _ hx => hx, fun _ => rfl⟩
    · rw [if_neg hg]; exact ⟨_, rfl, fun _ hx => List.mem_append_left _ hx, fun h => absurd h hg⟩
  rw [if_neg h3]
  exact .inr (.inr ⟨rfl, Classical.not_not.mp h1, h3⟩)

theorem payloadCommit_ledger (c : Cfg) (σ : St) (ref : Nat) : (payloadCommit c σ ref).ledger = σ.ledger :=
  saveEvent_ledger c _ _

theorem payloadCommit_running (c : Cfg) (σ : St) (ref : Nat) : (payloadCommit c σ ref).running = σ.running :=
  saveEvent_running c _ _

theorem payloadCommit_pending (c : Cfg) (σ : St) (ref : Nat) :
    (payloadCommit c σ ref).pending = σ.pending ++ [(ref, EvType.payload)] := by
  unfold payloadCommit; simp only [saveEvent_pending]

theorem payloadCommit_admitted (c : Cfg) (σ : St) (ref : Nat) :
    (payloadCommit c σ ref).admitted = (ref, .payload) :: σ.admitted := saveEvent_admitted c _ _

theorem payloadCommit_dag (c : Cfg) (σ : St) (ref : Nat) : (payloadCommit c σ ref).dag = σ.dag := saveEvent_dag c _ _

theorem payloadCommit_evented (c : Cfg) (σ : St) (ref : Nat) : (payloadCommit c σ ref).evented = ref :: σ.evented :=
  saveEvent_evented c _ _

theorem finishedExt_spec (σ : St) (s r : Nat) (f : Bool) :
    finishedExt σ s r f = σ ∨
    ∃ j, σ.shelf s r = some j ∧ finishedExt σ s r f = setJob { σ with ledger := [.fin s r] ++ σ.ledger } s r none := by
  unfold finishedExt
  split
  · exact .inl rfl
  · split
    · exact .inl rfl
    · next j hj => exact .inr ⟨j, hj, rfl⟩

/-- the elementary change of one job: the ledger grows by `new`, entries of the key (s, r) that holds job `j`, and the job is replaced
    by `nj` — same type, failure count not lowered unless to the fatal mark — or removed once `new` records its completion
    (and, with the write-back that skips a removed event, is removed whenever `new` records one) -/
structure JobUpd (c : Cfg) (s r : Nat) (j : Job) (new : List Entry) (nj : Option Job) : Prop where
  entries : ∀ e, e ∈ new → (∃ k o, e = .call s r j.type k o) ∨ e = .fin s r
  ok : okLedger s r new = true
  job : ∀ j', nj = some j' → j'.type = j.type ∧ (j.retries ≤ j'.retries ∨ c.maxRetries + 1 ≤ j'.retries)
  done : nj = none → completedIn new s r = true
  gone : c.writeBackSkipsGone = true → completedIn new s r = true → nj = none

theorem JobUpd.call (c : Cfg) (s r : Nat) (j : Job) (o : Outcome) : JobUpd c s r j (entriesAfter s r j o) (jobAfter c j o) := by
  refine ⟨fun _ => mem_entriesAfter, okLedger_entriesAfter s r j o, fun _ => jobAfter_some,
    fun h => completedIn_entriesAfter.mpr (jobAfter_none h), fun hwb hc => ?_⟩
  rcases completedIn_entriesAfter.mp hc with rfl | rfl
  · rfl
  · exact if_pos hwb

theorem JobUpd.fin (c : Cfg) (s r : Nat) (j : Job) : JobUpd c s r j [.fin s r] none :=
  ⟨fun _ he => .inr (List.mem_singleton.mp he), rfl, (fun _ h => nomatch h), fun _ => by simp [completedIn, Entry.completes],
    fun _ _ => rfl⟩

/-- what an operation does to the durable state: volatile changes, changes of one job (`notifyNow`, a `Finished` from outside),
    the commit of an `Add` or of a `WritePayload`, in any sequence -/
inductive DStep (c : Cfg) : St → St → Prop where
  | vol {σ σ' : St} : SameDurable σ σ' → DStep c σ σ'
  | upd {σ : St} (s r : Nat) (j : Job) (new : List Entry) (nj : Option Job) : σ.shelf s r = some j → JobUpd c s r j new nj →
      DStep c σ (setJob { σ with ledger := new ++ σ.ledger } s r nj)
  | add {σ : St} (a : AddArgs) : a.ref < c.nRefs → a.ref ∉ σ.dag → DStep c σ (addCommit c σ a)
  | payload {σ : St} (r : Nat) : r ∈ σ.dag → ¬(c.skipPresent = true ∧ r ∈ σ.evented) → DStep c σ (payloadCommit c σ r)
  | trans {a b d : St} : DStep c a b → DStep c b d → DStep c a d

theorem DStep.refl (c : Cfg) (σ : St) : DStep c σ σ := .vol (SameDurable.refl σ)

theorem NowStep.dstep {c : Cfg} {s r : Nat} {σ σ' : St} (st : NowStep c s r σ σ') : DStep c σ σ' := by
  cases st with
  | skip _ e => rw [e]; exact .refl c σ
  | call j o hj e => rw [e]; exact .upd s r j _ _ hj (.call c s r j o)

theorem addTx_dstep (c : Cfg) (σ : St) (a : AddArgs) : DStep c σ (addTx c σ a).1 := by
  rcases addTx_spec c σ a with ⟨e, _, he⟩ | ⟨he, hlt, hnd, _⟩ <;> rw [he]
  · exact .refl c σ
  · exact .add a hlt hnd

theorem writePayload_dstep (c : Cfg) (σ : St) (r : Nat) (cf : Bool) : DStep c σ (writePayload c σ r cf).1 := by
  rcases writePayload_spec c σ r cf with ⟨e, _, _, he, _⟩ | ⟨_, p, he, _⟩ | ⟨he, hd, hns⟩ <;> rw [he]
  · exact .refl c σ
  · exact .vol ⟨rfl, rfl, rfl, rfl, rfl, rfl⟩
  · exact .payload r hd hns

theorem finishedExt_dstep (c : Cfg) (σ : St) (s r : Nat) (f : Bool) : DStep c σ (finishedExt σ s r f) := by
  rcases finishedExt_spec σ s r f with e | ⟨j, hj, e⟩ <;> rw [e]
  · exact .refl c σ
  · exact .upd s r j _ _ hj (.fin c s r j)

def Grows (σ σ' : St) : Prop := ∃ new, σ'.ledger = new ++ σ.ledger

theorem Grows.refl (σ : St) : Grows σ σ := ⟨[], rfl⟩

theorem Grows.trans {a b d : St} (h1 : Grows a b) (h2 : Grows b d) : Grows a d := by
  obtain ⟨n1, e1⟩ := h1; obtain ⟨n2, e2⟩ := h2
  exact ⟨n2 ++ n1, by rw [e2, e1, List.append_assoc]⟩

theorem DStep.grows {c : Cfg} {σ σ' : St} (d : DStep c σ σ') : Grows σ σ' := by
  induction d with
  | vol e => exact ⟨[], by rw [e.ledger]; rfl⟩
  | upd s r j new nj _ _ => exact ⟨new, rfl⟩
  | add a _ _ => exact ⟨[], addCommit_ledger c _ a⟩
  | payload r _ _ => exact ⟨[], payloadCommit_ledger c _ r⟩
  | trans _ _ ih1 ih2 => exact ih1.trans ih2

theorem attemptNo_mono {σ σ' : St} (h : Grows σ σ') (s r : Nat) : attemptNo σ s r ≤ attemptNo σ' s r := by
  obtain ⟨new, e⟩ := h
  unfold attemptNo
  rw [e, List.filter_append, List.length_append]
  omega

theorem notifyNow_running (c : Cfg) (σ : St) (s r : Nat) : (notifyNow c σ s r).1.running = σ.running := by
  cases hj : σ.shelf s r with
  | none => rw [notifyNow_none hj]
  | some j => rw [notifyNow_some hj]; simp

theorem notifyNow_pending (c : Cfg) (σ : St) (s r : Nat) : (notifyNow c σ s r).1.pending = σ.pending := by
  cases hj : σ.shelf s r with
  | none => rw [notifyNow_none hj]
  | some j => rw [notifyNow_some hj]; simp

theorem spawn_running_sub (c : Cfg) (σ : St) (s r k : Nat) : ∀ t, t ∈ σ.running → t ∈ (spawn c σ s r k).running := by
  intro t ht; rw [spawn_eq]; exact List.mem_append_left _ ht

theorem spawn_shelf (c : Cfg) (σ : St) (s r k : Nat) : (spawn c σ s r k).shelf = σ.shelf := (spawn_same c σ s r k).shelf

theorem spawn_pending (c : Cfg) (σ : St) (s r k : Nat) : (spawn c σ s r k).pending = σ.pending := by
  rw [spawn_eq]

theorem spawn_ledger (c : Cfg) (σ : St) (s r k : Nat) : (spawn c σ s r k).ledger = σ.ledger := (spawn_same c σ s r k).ledger

theorem spawn_mem {c : Cfg} {σ : St} {s r k : Nat} (h : k + 1 < c.maxRetries) :
    ∃ t, t ∈ (spawn c σ s r k).running ∧ t.sub = s ∧ t.ref = r ∧ t.left = c.maxRetries - (k + 1) := by
  rw [spawn_eq, if_pos h]
  exact ⟨_, List.mem_append_right _ List.mem_cons_self, rfl, rfl, rfl⟩

theorem runSnapshot_spec (c : Cfg) (σ : St) (s : Nat) : ∃ f : Nat → Option (Nat × Nat),
    runSnapshot c σ s = (List.range c.nRefs).filterMap f ∧
    ∀ a b, f a = some b ↔ b.1 = a ∧ ∃ j, σ.shelf s a = some j ∧ j.retries = b.2 ∧ j.err ≠ .ctx := by
  refine ⟨_, rfl, fun a b => ?_⟩
  cases hj : σ.shelf s a with
  | none => simp
  | some j =>
    by_cases hc : j.err = .ctx
    · simp [hc]
    · simp only [hc, if_false, Option.some.injEq]
      constructor
      · rintro rfl; exact ⟨rfl, j, rfl, rfl, hc⟩
      · rintro ⟨rfl, j', e, h, _⟩; cases e; rw [h]

theorem mem_runSnapshot_iff {c : Cfg} {σ : St} {s : Nat} {p : Nat × Nat} :
    p ∈ runSnapshot c σ s ↔ p.1 < c.nRefs ∧ ∃ j, σ.shelf s p.1 = some j ∧ j.retries = p.2 ∧ j.err ≠ .ctx := by
  obtain ⟨f, e, hf⟩ := runSnapshot_spec c σ s
  rw [e, List.mem_filterMap]
  constructor
  · rintro ⟨a, ha, h⟩
    obtain ⟨rfl, h⟩ := (hf a p).mp h
    exact ⟨List.mem_range.mp ha, h⟩
  · rintro ⟨hr, h⟩
    exact ⟨p.1, List.mem_range.mpr hr, (hf _ p).mpr ⟨rfl, h⟩⟩

theorem snapshot_pairwise (c : Cfg) (σ : St) (s : Nat) : (runSnapshot c σ s).Pairwise (fun a b => a.1 < b.1) := by
  obtain ⟨f, e, hf⟩ := runSnapshot_spec c σ s
  rw [e]
  refine List.Pairwise.filterMap _ (fun a a' hlt b hb b' hb' => ?_) List.pairwise_lt_range
  rw [((hf a b).mp hb).1, ((hf a' b').mp hb').1]; exact hlt

theorem mem_failedEvents_iff (c : Cfg) (σ : St) (s r : Nat) :
    r ∈ failedEvents c σ s ↔ r < c.nRefs ∧ ∃ j, σ.shelf s r = some j ∧ c.failedThreshold ≤ j.retries := by
  unfold failedEvents
  rw [List.mem_filter, List.mem_range]
  constructor
  · rintro ⟨hr, h⟩
    refine ⟨hr, ?_⟩
    cases hj : σ.shelf s r with
    | none => simp [hj] at h
    | some j => simp only [hj, decide_eq_true_eq] at h; exact ⟨j, rfl, h⟩
  · rintro ⟨hr, j, hj, ht⟩
    exact ⟨hr, by simp only [hj, decide_eq_true_eq]; exact ht⟩

end Nuts.C14
