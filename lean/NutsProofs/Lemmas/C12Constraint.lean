/-
  C12 — constraint fields, constraints, the credential loop (through `accepts`, the verdict on one credential) and the
  descriptor loop: they never panic, a match satisfies `FieldSat` / `Satisfies` of NutsModel/C12/Spec.lean, a "no match"
  is right; and the field values `ResolveConstraintsFields` reports are faithful.
-/
import NutsModel.C12.Agree
import NutsProofs.Lemmas.C12Filter
namespace Nuts.C12
open Nuts

theorem firstMatch_cons (cfg : Cfg) (re : Regex) (pd : PD) (d : Desc) (c : Cred) (cs : List Cred) :
    firstMatch cfg re pd d (c :: cs) =
      match accepts cfg re pd d c with
      | .ok true => .ok (some c)
      | .ok false => firstMatch cfg re pd d cs
      | .err e => .err e
      | .panic s => .panic s := by
  rw [firstMatch]
  unfold accepts
  cases matchCredential cfg re d c with
  | ok b =>
    cases b with
    | true => cases matchFormat pd.format c && matchFormat d.format c <;> rfl
    | false => rfl
  | err e => rfl
  | panic s => rfl

theorem firstMatch_some {cfg : Cfg} {re : Regex} {pd : PD} {d : Desc} {c : Cred} :
    ∀ {w : List Cred}, firstMatch cfg re pd d w = .ok (some c) → c ∈ w ∧ accepts cfg re pd d c = .ok true
  | [], h => nomatch h
  | c0 :: cs, h => by
    rw [firstMatch_cons] at h
    cases ha : accepts cfg re pd d c0 with
    | ok b =>
      rw [ha] at h
      cases b with
      | true => cases h; exact ⟨List.mem_cons_self, ha⟩
      | false => exact (firstMatch_some h).imp_left (List.mem_cons_of_mem _)
    | err e => rw [ha] at h; cases h
    | panic s => rw [ha] at h; cases h

theorem firstMatch_none {cfg : Cfg} {re : Regex} {pd : PD} {d : Desc} :
    ∀ {w : List Cred}, firstMatch cfg re pd d w = .ok none → ∀ x ∈ w, accepts cfg re pd d x = .ok false
  | [], _, _, hx => nomatch hx
  | c0 :: cs, h, x, hx => by
    rw [firstMatch_cons] at h
    cases ha : accepts cfg re pd d c0 with
    | ok b =>
      rw [ha] at h
      cases b with
      | true => cases h
      | false =>
        cases hx with
        | head => exact ha
        | tail _ hx' => exact firstMatch_none h x hx'
    | err e => rw [ha] at h; cases h
    | panic s => rw [ha] at h; cases h

theorem firstMatch_skip_prefix {cfg : Cfg} {re : Regex} {pd : PD} {d : Desc} (rest : List Cred) :
    ∀ (pre : List Cred), (∀ x ∈ pre, accepts cfg re pd d x = .ok false) →
      firstMatch cfg re pd d (pre ++ rest) = firstMatch cfg re pd d rest
  | [], _ => rfl
  | x :: pre, h => by
    rw [List.cons_append, firstMatch_cons, h x List.mem_cons_self]
    exact firstMatch_skip_prefix rest pre (fun y hy => h y (List.mem_cons_of_mem _ hy))

theorem matchConstraints_ok {cfg : Cfg} {re : Regex} {pd : PD} {w : List Cred} {ds : List Desc} {cands : List Cand} :
    matchConstraints cfg re pd w ds = .ok cands →
      cands.map (·.1) = ds ∧ ∀ x ∈ cands, firstMatch cfg re pd x.1 w = .ok x.2 := by
  fun_induction matchConstraints cfg re pd w ds generalizing cands with
  | case1 => intro h; cases h; exact ⟨rfl, fun _ hx => nomatch hx⟩
  | case2 d ds c heq r heq2 ih =>
    intro h; cases h
    have ih := ih heq2
    refine ⟨congrArg (d :: ·) ih.1, fun x hx => ?_⟩
    cases hx with
    | head => exact heq
    | tail _ h' => exact ih.2 x h'
  | _ => exact fun h => nomatch h

theorem matchConstraints_of {cfg : Cfg} {re : Regex} {pd : PD} {w : List Cred} :
    ∀ {cands : List Cand}, (∀ x ∈ cands, firstMatch cfg re pd x.1 w = .ok x.2) →
      matchConstraints cfg re pd w (cands.map (·.1)) = .ok cands
  | [], _ => rfl
  | x :: r, h => by
    rw [List.map_cons, matchConstraints, h x List.mem_cons_self,
      matchConstraints_of fun y hy => h y (List.mem_cons_of_mem _ hy)]

section
variable (cfg : Cfg) (hg : cfg.arrayGuard = true) (re : Regex)
include hg

theorem matchFieldLoop_noPanic (f : Field) (tree : J) (ps : List (Option Path)) (inv : Bool) :
    (matchFieldLoop cfg re f tree inv ps).isPanic = false := by
  fun_induction matchFieldLoop cfg re f tree inv ps with
  | case4 _ _ _ _ ih | case7 _ _ _ _ _ _ _ _ ih => exact ih
  | case9 _ _ _ v _ flt _ s h => exact absurd h (Res.ne_panic_of_isPanic_false (matchFilter_noPanic cfg hg re flt v) s)
  | _ => rfl

theorem matchField_noPanic (f : Field) (tree : J) :
    (matchField cfg re f tree).isPanic = false := matchFieldLoop_noPanic cfg hg re f tree _ _

theorem matchConstraintLoop_noPanic (tree : J) (fs : List Field) (vals : Values) :
    (matchConstraintLoop cfg re tree vals fs).isPanic = false := by
  fun_induction matchConstraintLoop cfg re tree vals fs with
  | case3 _ _ _ _ _ ih => exact ih
  | case5 _ f _ s h => exact absurd h (Res.ne_panic_of_isPanic_false (matchField_noPanic cfg hg re f tree) s)
  | _ => rfl

theorem matchCredential_noPanic (d : Desc) (c : Cred) :
    (matchCredential cfg re d c).isPanic = false := by
  fun_cases matchCredential cfg re d c with
  | case4 fields _ s h =>
    exact absurd h (Res.ne_panic_of_isPanic_false (matchConstraintLoop_noPanic cfg hg re c.tree fields []) s)
  | _ => rfl

theorem accepts_noPanic (pd : PD) (d : Desc) (c : Cred) : (accepts cfg re pd d c).isPanic = false := by
  unfold accepts
  have h := matchCredential_noPanic cfg hg re d c
  cases hm : matchCredential cfg re d c with
  | ok b => cases b <;> rfl
  | err e => rfl
  | panic s => rw [hm] at h; cases h

theorem firstMatch_noPanic (pd : PD) (d : Desc) :
    ∀ w, (firstMatch cfg re pd d w).isPanic = false
  | [] => rfl
  | c :: cs => by
    rw [firstMatch_cons]
    have h := accepts_noPanic cfg hg re pd d c
    cases ha : accepts cfg re pd d c with
    | ok b =>
      cases b with
      | true => rfl
      | false => exact firstMatch_noPanic pd d cs
    | err e => rfl
    | panic s => rw [ha] at h; cases h

theorem matchConstraints_noPanic (pd : PD) (w : List Cred) (ds : List Desc) :
    (matchConstraints cfg re pd w ds).isPanic = false := by
  fun_induction matchConstraints cfg re pd w ds with
  | case4 _ _ _ _ s h ih => exact absurd h (Res.ne_panic_of_isPanic_false ih s)
  | case6 d _ s h => exact absurd h (Res.ne_panic_of_isPanic_false (firstMatch_noPanic cfg hg re pd d w) s)
  | _ => rfl

end

section
variable {cfg : Cfg} (hg : cfg.arrayGuard = true) {re : Regex}
include hg

theorem matchFieldLoop_sound {f : Field} {tree : J} {ps : List (Option Path)} {inv : Bool} {r : Option J} :
    matchFieldLoop cfg re f tree inv ps = .ok (.yes r) →
      match r with
      | some x => ∃ p, some p ∈ ps ∧ ∃ v, getValueAtPath p tree = some v ∧
                    (∀ flt, f.filter = some flt → FilterMatches re flt v ∧ ValueRel re flt.pattern v x) ∧ (f.filter = none → x = v)
      | none => f.optional = true ∧ inv = false ∧ ∀ p, some p ∈ ps → getValueAtPath p tree = none := by
  fun_induction matchFieldLoop cfg re f tree inv ps with
  | case1 inv hc =>
    intro h; cases h
    simp only [Bool.and_eq_true, Bool.not_eq_true'] at hc
    exact ⟨hc.1, hc.2, fun _ hp => nomatch hp⟩
  | case2 | case3 | case8 | case9 => exact fun h => nomatch h
  | case4 inv p ps hnone ih =>
    intro h
    have ih := ih h
    cases r with
    | some x =>
      obtain ⟨p', hp', rest⟩ := ih
      exact ⟨p', List.mem_cons_of_mem _ hp', rest⟩
    | none =>
      refine ⟨ih.1, ih.2.1, fun p' hp' => ?_⟩
      cases hp' with
      | head => exact hnone
      | tail _ h' => exact ih.2.2 p' h'
  | case5 inv p ps v hv hflt =>
    intro h; cases h
    exact ⟨p, List.mem_cons_self, v, hv, fun flt hf => (by rw [hflt] at hf; cases hf), fun _ => rfl⟩
  | case6 inv p ps v hv flt hflt x heq =>
    intro h; cases h
    refine ⟨p, List.mem_cons_self, v, hv, fun flt' hf => ?_, fun hn => by rw [hflt] at hn; cases hn⟩
    rw [hflt] at hf; cases hf
    exact matchFilter_sound hg heq
  | case7 inv p ps v hv flt hflt heq ih =>
    intro h
    have ih := ih h
    cases r with
    | some x =>
      obtain ⟨p', hp', rest⟩ := ih
      exact ⟨p', List.mem_cons_of_mem _ hp', rest⟩
    | none => exact absurd ih.2.1 (by simp)

theorem matchField_sound {f : Field} {tree : J} {r : Option J}
    (h : matchField cfg re f tree = .ok (.yes r)) : FieldSat re f tree ∧ FaithfulValue re f tree r := by
  have := matchFieldLoop_sound hg h
  cases r with
  | none =>
    exact ⟨Or.inr ⟨this.1, this.2.2⟩, ⟨this.1, this.2.2⟩⟩
  | some x =>
    obtain ⟨p, hp, v, hv, hflt, hnof⟩ := this
    refine ⟨Or.inl ⟨p, hp, v, hv, fun flt hf => (hflt flt hf).1⟩, p, hp, v, hv, ?_⟩
    cases hf : f.filter with
    | none => exact Or.inl (hnof hf)
    | some flt =>
      rcases (hflt flt hf).2 with h | ⟨s, pat, m, h1, h2, h3, h4⟩
      · exact Or.inl h
      · exact Or.inr ⟨s, pat, flt, m, h1, rfl, h2, h3, h4⟩

theorem matchConstraintLoop_sound {tree : J} {fs : List Field} {acc vals : Values} :
    matchConstraintLoop cfg re tree acc fs = .ok (some vals) →
      (∀ f ∈ fs, FieldSat re f tree) ∧
      (∀ e ∈ vals, e ∈ acc ∨ ∃ f ∈ fs, f.id = some e.1 ∧ FaithfulValue re f tree e.2) := by
  fun_induction matchConstraintLoop cfg re tree acc fs with
  | case1 acc => intro h; cases h; exact ⟨fun _ hf => (nomatch hf), fun _ he => .inl he⟩
  | case2 | case4 | case5 => exact fun h => nomatch h
  | case3 acc f fs v heq ih =>
    intro h
    have hf := matchField_sound hg heq
    have ih := ih h
    refine ⟨fun f' hf' => ?_, fun e he => ?_⟩
    · cases hf' with
      | head => exact hf.1
      | tail _ h' => exact ih.1 f' h'
    · rcases ih.2 e he with h1 | ⟨f', hf', h2⟩
      · cases hid : f.id with
        | none => rw [hid] at h1; exact Or.inl h1
        | some i =>
          rw [hid] at h1
          rcases mem_alPut h1 with h1 | h1
          · exact Or.inr ⟨f, List.mem_cons_self, by rw [hid, h1], by rw [h1]; exact hf.2⟩
          · exact Or.inl h1
      · exact Or.inr ⟨f', List.mem_cons_of_mem _ hf', h2⟩

theorem matchCredential_sound {d : Desc} {c : Cred}
    (h : matchCredential cfg re d c = .ok true) : ∀ fields, d.constraints = some fields → ∀ f ∈ fields, FieldSat re f c.tree := by
  intro fields hfs f hf
  unfold matchCredential at h
  rw [hfs] at h
  simp only at h
  unfold matchConstraint at h
  split at h
  · next r heq =>
    injection h with h
    cases r with
    | none => simp at h
    | some vals => exact (matchConstraintLoop_sound hg heq).1 f hf
  · cases h
  · cases h

theorem accepts_sound {pd : PD} {d : Desc} {c : Cred} (h : accepts cfg re pd d c = .ok true) : Satisfies re pd d c := by
  unfold accepts at h
  split at h
  · next hm => exact ⟨matchCredential_sound hg hm, Bool.and_eq_true_iff.1 (Res.ok.inj h)⟩
  all_goals cases h

theorem firstMatch_sound {pd : PD} {d : Desc} {w : List Cred} {c : Cred}
    (h : firstMatch cfg re pd d w = .ok (some c)) : c ∈ w ∧ Satisfies re pd d c :=
  (firstMatch_some h).imp_right (accepts_sound hg)

theorem matchConstraints_sound {pd : PD} {w : List Cred} {ds : List Desc} {cands : List Cand}
    (h : matchConstraints cfg re pd w ds = .ok cands) :
    cands.map (·.1) = ds ∧ ∀ d c, (d, some c) ∈ cands → c ∈ w ∧ Satisfies re pd d c :=
  ⟨(matchConstraints_ok h).1, fun d c hm => firstMatch_sound hg ((matchConstraints_ok h).2 (d, some c) hm)⟩

theorem matchFieldLoop_complete {f : Field} {tree : J}
    (hs : ∀ p v, getValueAtPath p tree = some v → EnumErrorsHideNothing cfg re v)
    {ps : List (Option Path)} {inv : Bool} : matchFieldLoop cfg re f tree inv ps = .ok .no →
      (∀ p, some p ∈ ps → ∀ v, getValueAtPath p tree = some v → ∃ flt, f.filter = some flt ∧ ¬ FilterMatches re flt v) ∧
      (f.optional = true → inv = true ∨ ∃ p, some p ∈ ps ∧ getValueAtPath p tree ≠ none) := by
  fun_induction matchFieldLoop cfg re f tree inv ps with
  | case1 | case3 | case5 | case6 | case8 | case9 => exact fun h => nomatch h
  | case2 inv hc =>
    intro _
    refine ⟨fun _ hp => (nomatch hp), fun hopt => Or.inl ?_⟩
    cases inv with
    | true => rfl
    | false => simp [hopt] at hc
  | case4 inv p ps hnone ih =>
    intro h
    have ih := ih h
    refine ⟨fun p' hp' v hv => ?_, fun hopt => ?_⟩
    · cases hp' with
      | head => rw [hnone] at hv; cases hv
      | tail _ h' => exact ih.1 p' h' v hv
    · exact (ih.2 hopt).imp_right fun ⟨p', hp', hne⟩ => ⟨p', List.mem_cons_of_mem _ hp', hne⟩
  | case7 inv p ps v hv flt hflt heq ih =>
    intro h
    have ih := ih h
    have hnm := matchFilter_complete hg (hs p v hv) heq
    refine ⟨fun p' hp' v' hv' => ?_, fun _ => Or.inr ⟨p, List.mem_cons_self, by rw [hv]; simp⟩⟩
    cases hp' with
    | head => rw [hv] at hv'; cases hv'; exact ⟨flt, hflt, hnm⟩
    | tail _ h' => exact ih.1 p' h' v' hv'

theorem matchField_complete {f : Field} {tree : J}
    (hs : ∀ p v, getValueAtPath p tree = some v → EnumErrorsHideNothing cfg re v)
    (h : matchField cfg re f tree = .ok .no) : ¬ FieldSat re f tree := by
  have := matchFieldLoop_complete hg hs h
  intro hsat
  rcases hsat with ⟨p, hp, v, hv, hflt⟩ | ⟨hopt, hall⟩
  · obtain ⟨flt, hf, hnm⟩ := this.1 p hp v hv
    exact hnm (hflt flt hf)
  · rcases this.2 hopt with h1 | ⟨p, hp, hne⟩
    · cases h1
    · exact hne (hall p hp)

theorem matchConstraintLoop_complete {tree : J}
    (hs : ∀ p v, getValueAtPath p tree = some v → EnumErrorsHideNothing cfg re v) {fs : List Field} {acc : Values} :
    matchConstraintLoop cfg re tree acc fs = .ok none → ∃ f ∈ fs, ¬ FieldSat re f tree := by
  fun_induction matchConstraintLoop cfg re tree acc fs with
  | case1 | case4 | case5 => exact fun h => nomatch h
  | case2 _ f _ heq => exact fun _ => ⟨f, List.mem_cons_self, matchField_complete hg hs heq⟩
  | case3 _ _ _ _ _ ih => exact fun h => (ih h).imp fun _ hx => hx.imp_left (List.mem_cons_of_mem _)

theorem accepts_complete {pd : PD} {d : Desc} {c : Cred}
    (hs : ∀ p v, getValueAtPath p c.tree = some v → EnumErrorsHideNothing cfg re v)
    (h : accepts cfg re pd d c = .ok false) : ¬ Satisfies re pd d c := by
  intro hsat
  unfold accepts at h
  split at h
  · rw [hsat.2.1, hsat.2.2] at h; cases h
  · next hm =>
    unfold matchCredential matchConstraint at hm
    split at hm
    · cases hm
    · next fields hfs =>
      split at hm
      · next r hr =>
        cases r with
        | some _ => cases hm
        | none =>
          obtain ⟨f, hf, hn⟩ := matchConstraintLoop_complete hg hs hr
          exact hn (hsat.1 fields hfs f hf)
      · cases hm
      · cases hm
  · cases h
  · cases h

theorem firstMatch_complete {pd : PD} {d : Desc} {w : List Cred}
    (hs : ∀ c ∈ w, ∀ p v, getValueAtPath p c.tree = some v → EnumErrorsHideNothing cfg re v)
    (h : firstMatch cfg re pd d w = .ok none) : ∀ c ∈ w, ¬ Satisfies re pd d c :=
  fun c hc => accepts_complete hg (hs c hc) (firstMatch_none h c hc)

theorem matchConstraints_complete {pd : PD} {w : List Cred}
    (hs : ∀ c ∈ w, ∀ p v, getValueAtPath p c.tree = some v → EnumErrorsHideNothing cfg re v)
    {ds : List Desc} {cands : List Cand} (h : matchConstraints cfg re pd w ds = .ok cands) (d : Desc) (hd : (d, none) ∈ cands) :
    ∀ c ∈ w, ¬ Satisfies re pd d c :=
  firstMatch_complete hg hs ((matchConstraints_ok h).2 (d, none) hd)

end

theorem resolveFields_noPanic (cfg : Cfg) (hg : cfg.arrayGuard = true) (re : Regex) (pd : PD)
    (cm : List (String × Cred)) (acc : Values) : (resolveFields cfg re pd acc cm).isPanic = false := by
  fun_induction resolveFields cfg re pd acc cm with
  | case1 | case6 => rfl
  | case2 _ _ _ _ _ ih | case3 _ _ _ _ _ _ _ ih | case4 _ _ _ _ _ _ _ _ _ _ ih | case5 _ _ _ _ _ _ _ _ _ ih => exact ih
  | case7 _ _ c _ _ _ fields _ s h =>
    exact absurd h (Res.ne_panic_of_isPanic_false (matchConstraintLoop_noPanic cfg hg re c.tree fields []) s)

theorem mem_foldr_alPut {acc : Values} : ∀ {vals : Values} {e : String × Option J},
    e ∈ vals.foldr (fun kv a => alPut a kv.1 kv.2) acc → e ∈ vals ∨ e ∈ acc
  | [], e, h => Or.inr h
  | kv :: vals, e, h => by
    simp only [List.foldr_cons] at h
    rcases mem_alPut h with h | h
    · exact Or.inl (by rw [h]; exact List.mem_cons_self)
    · rcases mem_foldr_alPut h with h | h
      · exact Or.inl (List.mem_cons_of_mem _ h)
      · exact Or.inr h

theorem FieldSource.cons {re : Regex} {pd : PD} {cm : List (String × Cred)} {e : String × Option J} (x : String × Cred) :
    FieldSource re pd cm e → FieldSource re pd (x :: cm) e :=
  fun ⟨id, c, d, fields, f, h1, h2⟩ => ⟨id, c, d, fields, f, List.mem_cons_of_mem _ h1, h2⟩

theorem resolveFields_faithful {cfg : Cfg} (hg : cfg.arrayGuard = true) {re : Regex} {pd : PD}
    {cm : List (String × Cred)} {acc vals : Values} :
    resolveFields cfg re pd acc cm = .ok vals → ∀ e ∈ vals, e ∈ acc ∨ FieldSource re pd cm e := by
  fun_induction resolveFields cfg re pd acc cm with
  | case1 acc => intro h e he; cases h; exact .inl he
  | case6 | case7 => exact fun h => nomatch h
  | case2 _ _ _ _ _ ih | case3 _ _ _ _ _ _ _ ih | case5 _ _ _ _ _ _ _ _ _ ih =>
    exact fun h e he => (ih h e he).imp_right (.cons _)
  | case4 acc id c rest d hd fields hfs vs heq ih =>
    intro h e he
    rcases ih h e he with h | h
    · rcases mem_foldr_alPut h with h | h
      · rcases (matchConstraintLoop_sound hg heq).2 e h with h | ⟨f, hf, h1, h2⟩
        · cases h
        · exact .inr ⟨id, c, d, fields, f, List.mem_cons_self, List.mem_of_find?_eq_some hd,
            by simpa using List.find?_some hd, hfs, hf, h1, h2⟩
      · exact .inl h
    · exact .inr (.cons _ h)

end Nuts.C12
