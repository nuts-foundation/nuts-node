/-
  The node invariant `NI` (sound payload store, gossip queues in sync with the DAG) is kept by every handler, hence by
  the pull rounds; it is what lets a node serve its own transactions (`PayloadsOK`) and gossip (`QueueOK`).
-/
import NutsProofs.Lemmas.C07LivePull
open Nuts.Proto Nuts Nuts.Proto.L

namespace Nuts.Proto.Live

/-- every stored payload is non-empty and stored under its own hash -/
def StoreInv (n : Node) : Prop := ∀ h p, Nuts.alGet n.payloads h = some p → p.sha = h ∧ p.len ≠ 0
/-- every public transaction has its payload -/
def PubHave (n : Node) : Prop := ∀ t ∈ n.dag, t.pal = [] → (readPayload n t.payloadHash).isSome = true
/-- gossip queues are in sync with the DAG -/
def QSync (n : Node) : Prop :=
  ∀ q ∈ n.queues, q.xor = xorOf n.dag ∧ q.clock = lcOf n.dag ∧ ∀ r ∈ q.queue, present n.dag r = true
def NI (n : Node) : Prop := StoreInv n ∧ PubHave n ∧ QSync n
theorem NI.store {n : Node} (h : NI n) : StoreInv n := h.1
theorem NI.pub {n : Node} (h : NI n) : PubHave n := h.2.1
theorem NI.sync {n : Node} (h : NI n) : QSync n := h.2.2
def MsgOK : Msg → Prop
  | .txList _ _ _ txs => ∀ e ∈ txs, ∀ p, e.payload = some p → p.len ≠ 0
  | _ => True

theorem payloadsOK_of_NI {n : Node} (h : NI n) : PayloadsOK n := by
  intro t ht hp
  have := h.pub t ht hp
  cases hr : readPayload n t.payloadHash with
  | none => rw [hr] at this; cases this
  | some p => exact ⟨p, rfl, (h.store _ _ hr).1, (h.store _ _ hr).2⟩

theorem NI_convOnly {n n' : Node} (h : ConvOnly n n') (hn : NI n) : NI n' := by
  obtain ⟨h1, h2, h3, _⟩ := h
  refine ⟨?_, ?_, ?_⟩
  · intro k p hp; rw [h2] at hp; exact hn.store k p hp
  · intro t ht hp; rw [h1] at ht; unfold readPayload; rw [h2]; exact hn.pub t ht hp
  · intro q hq; rw [h3] at hq; rw [h1]; exact hn.sync q hq

theorem NI_gossipReceived (cfg : Cfg) (n : Node) (peer : Nat) (refs : List Ref) (hn : NI n) :
    NI (gossipReceived cfg n peer refs) := by
  refine ⟨hn.store, hn.pub, fun q hq => ?_⟩
  simp only [gossipReceived, List.mem_map] at hq
  obtain ⟨q0, hq0, rfl⟩ := hq
  obtain ⟨h1, h2, h3⟩ := hn.sync q0 hq0
  split
  · obtain ⟨_, b2, b3, b4⟩ := logReceived_keeps cfg refs q0
    exact ⟨b2.trans h1, b3.trans h2, fun r hr => h3 r (b4 r hr)⟩
  · exact ⟨h1, h2, h3⟩

theorem NI_putPayload (n : Node) (p : Payload) (hlen : p.len ≠ 0) (hn : NI n) :
    NI { n with payloads := Nuts.alPut n.payloads p.sha p } := by
  refine ⟨fun k p' hp' => ?_, fun t ht hpal => ?_, hn.sync⟩
  · by_cases hk : k = p.sha
    · rw [hk, show Nuts.alGet _ p.sha = some p from alGet_alPut_self ..] at hp'
      cases hp'
      exact ⟨hk.symm, hlen⟩
    · exact hn.store k p' ((alGet_alPut_of_ne _ _ hk).symm.trans hp')
  · show (Nuts.alGet (Nuts.alPut n.payloads p.sha p) t.payloadHash).isSome = true
    by_cases hk : t.payloadHash = p.sha
    · rw [hk, alGet_alPut_self]; rfl
    · rw [alGet_alPut_of_ne _ _ hk]; exact hn.pub t ht hpal

theorem NI_commit (cfg : Cfg) (n : Node) (tx : Tx) (pl : Option Payload) (hn : NI n) (hadd : addCheck n.dag tx pl = .added)
    (hpub : tx.pal = [] → pl.isSome = true) (hlen : ∀ p, pl = some p → p.len ≠ 0) :
    NI (commitTx cfg n tx pl) := by
  obtain ⟨_, _, _, _, _, hsha⟩ := addCheck_added hadd
  have hput : NI { n with payloads := putPayload n.payloads pl } := by
    cases pl with
    | none => exact hn
    | some p0 => exact NI_putPayload n p0 (hlen p0 rfl) hn
  refine ⟨hput.store, ?_, ?_⟩
  · intro t ht hp
    rcases List.mem_cons.mp ht with rfl | h
    · cases hpl : pl with
      | none => have := hpub hp; rw [hpl] at this; cases this
      | some p0 =>
        show (Nuts.alGet (Nuts.alPut n.payloads p0.sha p0) t.payloadHash).isSome = true
        rw [← hsha p0 hpl, alGet_alPut_self]; rfl
    · exact hput.pub t h hp
  · intro q hq
    simp only [commitTx, transactionRegistered, List.mem_map] at hq
    obtain ⟨q0, hq0, rfl⟩ := hq
    obtain ⟨_, e2, e3, e4⟩ := enqueue_keeps cfg q0 (lcOf (tx :: n.dag)) (xorOf (tx :: n.dag)) tx.ref
    refine ⟨e2, e3, fun r hr => ?_⟩
    rcases e4 r hr with h | rfl
    · exact present_mono (fun t ht => List.mem_cons_of_mem _ ht) ((hn.sync q0 hq0).2.2 r h)
    · exact present_iff.mpr ⟨tx, List.mem_cons_self, rfl⟩

theorem NI_addLoop (cfg : Cfg) (env : Env) : ∀ (l : List (Tx × Option Payload)) (n : Node), NI n →
    (∀ x ∈ l, ∀ p, x.2 = some p → p.len ≠ 0) →
    NI (addLoop cfg env n l).node := by
  intro l
  induction l with
  | nil => intro n hn _; exact hn
  | cons x xs ih =>
    intro n hn hl
    obtain ⟨tx, pl⟩ := x
    have hxs : ∀ x ∈ xs, ∀ p, x.2 = some p → p.len ≠ 0 := fun x hx => hl x (List.mem_cons_of_mem _ hx)
    rcases addLoop_cons_node cfg env n tx pl xs with h | h | ⟨hc, hnp, h⟩ <;> rw [h]
    · exact hn
    · exact ih _ hn hxs
    · have hpub : tx.pal = [] → pl.isSome = true := by
        intro hp
        cases pl with
        | none => simp [hp, payloadEmpty] at hnp
        | some _ => rfl
      exact ih _ (NI_commit cfg n tx pl hn hc hpub (hl (tx, pl) List.mem_cons_self)) hxs

theorem msgOK_request {m : Msg} (h : isRequest m = true) : MsgOK m := by
  cases m <;> simp [isRequest] at h <;> exact trivial

theorem msgOK_reply (cfg : Cfg) (n : Node) (hs : StoreInv n) (l : List Tx) (r : List NetTx) (hc : collect n l = some r)
    (key : Nat) (cid : Cid) (o : Nat × Msg) (ho : o ∈ sendTransactionList cfg key cid r) : MsgOK o.2 := by
  obtain ⟨_, k, total, c, heq, hsub⟩ := sendTransactionList_mem cfg key cid r o ho
  rw [heq]
  intro e he p hp
  obtain ⟨t, _, _, hcase⟩ := collect_elems n l r hc e (hsub e he)
  rcases hcase with ⟨_, hread, _⟩ | ⟨_, hnone⟩
  · rw [hp] at hread
    exact (hs _ _ hread.symm).2
  · rw [hnone] at hp; cases hp

theorem handle_NI (cfg : Cfg) (env : Env) (n : Node) (peer : Peer) (m : Msg) (hn : NI n) (hm : MsgOK m) :
    NI (handle cfg env n peer m).node ∧ ∀ o ∈ (handle cfg env n peer m).out, MsgOK o.2 := by
  obtain ⟨n1, hcore, hco, hout⟩ := handle_spec cfg env n peer m
  have h1 : NI n1 := by
    cases hcore with
    | same => exact hn
    | logged x lc refs => exact NI_gossipReceived cfg n peer.key refs hn
    | stored ref d p hlen => exact NI_putPayload n p (by simpa using hlen) hn
    | added cid num total txs ps _ hps =>
      exact NI_addLoop cfg env ps n hn fun x hx p hp =>
        hm (wireOf x) (parseAll_eq_some hps ▸ List.mem_map_of_mem hx) p hp
  refine ⟨NI_convOnly hco h1, fun o ho => ?_⟩
  cases hout o ho with
  | request _ _ h => exact msgOK_request h
  | refused => exact trivial
  | released => exact trivial
  | reply _ _ cid l r _ hc hso => exact msgOK_reply cfg n hn.store l r hc peer.key cid o hso

theorem absorb_NI (cfg : Cfg) (env : Env) (p : Peer) : ∀ (msgs : List Msg) (n : Node), NI n → (∀ m ∈ msgs, MsgOK m) →
    NI (absorb cfg env n p msgs).1 ∧ ∀ m ∈ (absorb cfg env n p msgs).2, MsgOK m := by
  intro msgs
  induction msgs with
  | nil => intro n hn _; exact ⟨hn, fun _ h => nomatch h⟩
  | cons m ms ih =>
    intro n hn hm
    rw [absorb_cons]
    obtain ⟨h1, h3⟩ := handle_NI cfg env n p m hn (hm m List.mem_cons_self)
    obtain ⟨i1, i3⟩ := ih _ h1 (fun x hx => hm x (List.mem_cons_of_mem _ hx))
    refine ⟨i1, fun x hx => ?_⟩
    rcases List.mem_append.mp hx with h | h
    · obtain ⟨o, ho, rfl⟩ := toPeer_sub _ _ x h
      exact h3 o ho
    · exact i3 x h

theorem pingPong_NI (cfg : Cfg) (env : Env) (pA pB : Peer) (fuel : Nat) (a b : Node) (toB : List Msg) :
    NI a → NI b → (∀ m ∈ toB, MsgOK m) →
    NI (pingPong cfg env pA pB fuel a b toB).1 ∧ NI (pingPong cfg env pA pB fuel a b toB).2 ∧
    SameShape a (pingPong cfg env pA pB fuel a b toB).1 ∧ SameShape b (pingPong cfg env pA pB fuel a b toB).2 := by
  fun_induction pingPong cfg env pA pB fuel a b toB with
  | case3 f a b toB _ rb ra ih =>
    intro ha hb hm
    obtain ⟨b1, b3⟩ := absorb_NI cfg env pA toB b hb hm
    obtain ⟨a1, a3⟩ := absorb_NI cfg env pB _ a ha b3
    obtain ⟨r1, r2, r3, r4⟩ := ih a1 b1 a3
    exact ⟨r1, r2, (absorb_shape ..).trans r3, (absorb_shape ..).trans r4⟩
  | _ => exact fun ha hb _ => ⟨ha, hb, .refl _, .refl _⟩

theorem gossipTick_NI (n : Node) (key : Nat) (hn : NI n) :
    NI (gossipTick n key).node ∧ SameShape n (gossipTick n key).node ∧ ∀ o ∈ (gossipTick n key).out, MsgOK o.2 := by
  fun_cases gossipTick n key with
  | case2 q _ _ =>
    refine ⟨⟨hn.store, hn.pub, ?_⟩, ⟨rfl, ?_⟩, ?_⟩
    · intro q hq
      obtain ⟨q0, hq0, rfl⟩ := List.mem_map.mp hq
      obtain ⟨h1, h2, h3⟩ := hn.sync q0 hq0
      split
      · exact ⟨h1, h2, by simp⟩
      · exact ⟨h1, h2, h3⟩
    · simp only [List.map_map]
      apply List.map_congr_left
      intro q _
      simp only [Function.comp]
      split <;> rfl
    · exact fun o ho => List.mem_singleton.mp ho ▸ trivial
  | _ => exact ⟨hn, .refl n, fun _ h => nomatch h⟩

theorem pullRound_NI (cfg : Cfg) (env : Env) (pA pB : Peer) (fuel : Nat) (a b : Node) (ha : NI a) (hb : NI b) :
    NI (pullRound cfg env pA pB fuel a b).1 ∧ NI (pullRound cfg env pA pB fuel a b).2 ∧
    SameShape a (pullRound cfg env pA pB fuel a b).1 ∧ SameShape b (pullRound cfg env pA pB fuel a b).2 := by
  unfold pullRound
  simp only
  obtain ⟨t1, t2, t3⟩ := gossipTick_NI b pA.key hb
  obtain ⟨a1, a3⟩ := absorb_NI cfg env pB (toPeer pA.key (gossipTick b pA.key).out) a ha (fun m hm => by
    obtain ⟨o, ho, rfl⟩ := toPeer_sub _ _ m hm
    exact t3 o ho)
  obtain ⟨r1, r2, r3, r4⟩ := pingPong_NI cfg env pA pB fuel _ _ _ a1 t1 a3
  exact ⟨r1, r2, (absorb_shape ..).trans r3, t2.trans r4⟩

theorem expireAll_facts (n : Node) :
    (expireAll n).convs = [] ∧ (expireAll n).dag = n.dag ∧ (NI n → NI (expireAll n)) ∧ SameShape n (expireAll n) := by
  refine ⟨?_, rfl, fun h => ⟨h.store, h.pub, h.sync⟩, ⟨rfl, rfl⟩⟩
  unfold expireAll evict
  simp only
  apply List.filter_eq_nil_iff.mpr
  intro c hc
  have := (foldl_max_key (·.expiry) (fun _ _ => rfl) n.convs 0).2.1 c hc
  simp only [decide_eq_true_eq]
  omega

end Nuts.Proto.Live
