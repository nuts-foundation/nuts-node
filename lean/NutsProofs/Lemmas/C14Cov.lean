/-
  C14 — coverage: while the receivers are calm, every job below the retry budget has a live retry loop with enough attempts
  left or a pending notification; at rest only jobs that spent the budget are left.
-/
import NutsProofs.Lemmas.C14Run
namespace Nuts.C14

def Outcome.calm : Outcome → Bool
  | .done | .notDone | .notDoneFin | .fail | .fatal => true
  | _ => false

/-- from this state on no receiver call stops the node, hits a storage fault of the notifier (reading the job, writing the
    failure count back, the Finished write), or returns the context error; everything else (done, incomplete, error, fatal, Finished during the call) is allowed in any pattern -/
def CalmFrom (c : Cfg) (σ : St) : Prop := ∀ s r k, attemptNo σ s r ≤ k → (c.beh s r k).calm = true

theorem CalmFrom.mono {c : Cfg} {σ σ' : St} (h : CalmFrom c σ) (g : Grows σ σ') : CalmFrom c σ' :=
  fun s r k hk => h s r k (Nat.le_trans (attemptNo_mono g s r) hk)

theorem CalmFrom.now {c : Cfg} {σ : St} (h : CalmFrom c σ) (s r : Nat) : (c.beh s r (attemptNo σ s r)).calm = true :=
  h s r _ (Nat.le_refl _)

def CovAt (c : Cfg) (sh : Nat → Nat → Option Job) (run : List Task) (pen : List (Nat × EvType)) (s r : Nat) : Prop :=
  ∀ j, sh s r = some j → j.retries < c.maxRetries →
    (∃ t, t ∈ run ∧ t.sub = s ∧ t.ref = r ∧ 1 ≤ t.left ∧ c.maxRetries ≤ t.left + j.retries) ∨
    (∃ ty, (r, ty) ∈ pen ∧ c.sel s r ty = true)

def Cov (c : Cfg) (σ : St) (s r : Nat) : Prop := CovAt c σ.shelf σ.running σ.pending s r

def Covered (c : Cfg) (σ : St) : Prop := ∀ s r, s < c.nSubs → r < c.nRefs → Cov c σ s r

theorem CovAt.keep {c : Cfg} {sh sh' : Nat → Nat → Option Job} {run run' : List Task} {pen pen' : List (Nat × EvType)} {s r : Nat}
    (h : CovAt c sh run pen s r)
    (hsh : ∀ j', sh' s r = some j' → j'.retries < c.maxRetries → ∃ j, sh s r = some j ∧ j.retries ≤ j'.retries)
    (hrun : ∀ t, t ∈ run → t.sub = s → t.ref = r → t ∈ run')
    (hpen : ∀ ty, (r, ty) ∈ pen → c.sel s r ty = true → (r, ty) ∈ pen') : CovAt c sh' run' pen' s r := by
  intro j' hj' hlt
  obtain ⟨j, hj, hle⟩ := hsh j' hj' hlt
  rcases h j hj (by omega) with ⟨t, ht, h1, h2, h3, h4⟩ | ⟨ty, hp, hs⟩
  · exact .inl ⟨t, hrun t ht h1 h2, h1, h2, h3, by omega⟩
  · exact .inr ⟨ty, hpen ty hp hs, hs⟩

theorem jobAfter_calm {c : Cfg} (j : Job) {o : Outcome} (ho : o.calm = true) :
    (jobAfter c j o = none ∧ resAfter o ≠ .crashed) ∨
    (∃ e, e ≠ JErr.ctx ∧ jobAfter c j o = some { j with retries := j.retries + 1, err := e } ∧ resAfter o = .err) ∨
    (jobAfter c j o = some { j with retries := c.maxRetries + 1, err := .fatal } ∧ resAfter o = .fatal) := by
  cases o with
  | done => exact .inl ⟨rfl, by decide⟩
  | notDone => exact .inr (.inl ⟨.incomplete, by decide, rfl, rfl⟩)
  | notDoneFin =>
    by_cases hwb : c.writeBackSkipsGone = true
    · exact .inl ⟨if_pos hwb, by decide⟩
    · exact .inr (.inl ⟨.incomplete, by decide, if_neg hwb, rfl⟩)
  | fail => exact .inr (.inl ⟨.generic, by decide, rfl, rfl⟩)
  | fatal => exact .inr (.inr ⟨rfl, rfl⟩)
  | doneFinishFail | failCtx | crash | readFault | notDoneWriteFail | failWriteFail => cases ho

theorem jobAfter_calm_retries {c : Cfg} {j j' : Job} {o : Outcome} (ho : o.calm = true) (h : jobAfter c j o = some j') :
    j'.err ≠ .ctx ∧ (j'.retries < c.maxRetries → j'.retries = j.retries + 1 ∧ resAfter o = .err) := by
  rcases jobAfter_calm j ho with ⟨h0, _⟩ | ⟨e, he, h0, e2⟩ | ⟨h0, _⟩ <;> rw [h0] at h
  · cases h
  · cases h; exact ⟨he, fun _ => ⟨rfl, e2⟩⟩
  · cases h; exact ⟨(fun e => nomatch e), fun hlt => absurd hlt (by show ¬c.maxRetries + 1 < c.maxRetries; omega)⟩

/-- a change of one job keeps every key covered: running and pending are untouched, and a job still below the budget has not lost
    a recorded failure -/
theorem JobUpd.keeps {c : Cfg} {σ : St} {s r : Nat} {j : Job} {new : List Entry} {nj : Option Job} (u : JobUpd c s r j new nj)
    (hj : σ.shelf s r = some j) {s' r' : Nat} (h : Cov c σ s' r') : Cov c (setJob { σ with ledger := new ++ σ.ledger } s r nj) s' r' := by
  refine CovAt.keep h (fun j' hj' hlt => ?_) (fun t ht _ _ => ht) (fun ty hp _ => hp)
  rw [setJob_shelf] at hj'
  split at hj'
  · next heq =>
    rw [heq.1, heq.2]
    exact ⟨j, hj, (u.job j' hj').2.resolve_right fun hf => by omega⟩
  · exact ⟨j', hj', Nat.le_refl _⟩

theorem notifyNow_not_crashed {c : Cfg} {σ : St} (hc : CalmFrom c σ) (s r : Nat) : (notifyNow c σ s r).2 ≠ .crashed := by
  cases hj : σ.shelf s r with
  | none => rw [notifyNow_none hj]; exact fun e => nomatch e
  | some j =>
    rw [notifyNow_some hj]
    show resAfter _ ≠ .crashed
    rcases jobAfter_calm (c := c) j (hc.now s r) with ⟨_, h⟩ | ⟨_, _, _, h⟩ | ⟨_, h⟩
    · exact h
    · rw [h]; decide
    · rw [h]; decide

def NoCtx (σ : St) : Prop := ∀ s r j, σ.shelf s r = some j → j.err ≠ .ctx

theorem notifyNow_noCtx {c : Cfg} {σ : St} (hc : CalmFrom c σ) (s r : Nat) (h : NoCtx σ) : NoCtx (notifyNow c σ s r).1 := by
  cases hj : σ.shelf s r with
  | none => rw [notifyNow_none hj]; exact h
  | some j =>
    rw [notifyNow_some hj]
    intro s' r' j' hj'
    simp only [setJob_shelf, logAfter_shelf] at hj'
    split at hj'
    · exact (jobAfter_calm_retries (hc.now s r) hj').1
    · exact h _ _ _ hj'

theorem spawn_keeps {c : Cfg} {σ : St} (s r k s' r' : Nat) (h : Cov c σ s' r') : Cov c (spawn c σ s r k) s' r' := by
  unfold Cov; rw [spawn_shelf, spawn_pending]
  exact CovAt.keep h (fun j' hj' _ => ⟨j', hj', Nat.le_refl _⟩) (fun t ht _ _ => spawn_running_sub c σ s r k t ht) (fun ty hp _ => hp)

theorem spawn_noCtx {c : Cfg} {σ : St} (s r k : Nat) (h : NoCtx σ) : NoCtx (spawn c σ s r k) := by
  unfold NoCtx; rw [spawn_shelf]; exact h

theorem notifyNow_below_budget {c : Cfg} {σ : St} (hc : CalmFrom c σ) (s r : Nat) {j' : Job}
    (hj' : (notifyNow c σ s r).1.shelf s r = some j') (hlt : j'.retries < c.maxRetries) :
    ∃ j, σ.shelf s r = some j ∧ j'.retries = j.retries + 1 ∧ (notifyNow c σ s r).2 = .err := by
  cases hj : σ.shelf s r with
  | none => rw [notifyNow_none hj, hj] at hj'; cases hj'
  | some j =>
    rw [notifyNow_some hj] at hj' ⊢
    obtain ⟨h1, h3⟩ := (jobAfter_calm_retries (hc.now s r) ((if_pos ⟨rfl, rfl⟩).symm.trans hj')).2 hlt
    exact ⟨j, rfl, h1, h3⟩

/-- a calm `Notify` of a selected event leaves its own key covered: a job still below the budget means a recoverable error,
    so a loop with the full budget was started -/
theorem notify_covers {c : Cfg} {σ : St} (hc : CalmFrom c σ) (s r : Nat) (ty : EvType) (hsel : c.sel s r ty = true) :
    Cov c (notify c σ s (r, ty)).1 s r := by
  intro j' hj' hlt
  rw [notify_shelf c σ s (r, ty) hsel] at hj'
  obtain ⟨j, _, e, he⟩ := notifyNow_below_budget hc s r hj' hlt
  rw [(notify_of_err (ev := (r, ty)) hsel (.inl he)).1]
  obtain ⟨t, ht, a, b, d⟩ := spawn_mem (c := c) (σ := (notifyNow c σ s r).1) (s := s) (r := r) (k := 0) (by omega)
  exact .inl ⟨t, ht, a, b, by omega, by omega⟩

structure NotifyOk (c : Cfg) (σ σ' : St) : Prop where
  grows : Grows σ σ'
  keeps : ∀ s' r', Cov c σ s' r' → Cov c σ' s' r'
  pending : σ'.pending = σ.pending
  noCtx : NoCtx σ → NoCtx σ'

theorem NotifyOk.trans {c : Cfg} {a b d : St} (h1 : NotifyOk c a b) (h2 : NotifyOk c b d) : NotifyOk c a d :=
  ⟨h1.grows.trans h2.grows, fun s r h => h2.keeps s r (h1.keeps s r h), h2.pending.trans h1.pending, fun h => h2.noCtx (h1.noCtx h)⟩

theorem NotifyOk.refl (c : Cfg) (σ : St) : NotifyOk c σ σ := ⟨Grows.refl _, fun _ _ h => h, rfl, fun h => h⟩

theorem Run.ok {c : Cfg} {σ σ' : St} {tr : List Act} {b : Bool} (d : Run c σ tr σ' b) (hc : CalmFrom c σ) :
    b = false ∧ NotifyOk c σ σ' := by
  induction d with
  | nil σ => exact ⟨rfl, .refl c σ⟩
  | now σ s r =>
    refine ⟨decide_eq_false (notifyNow_not_crashed hc s r),
      (Run.now σ s r).dstep.grows, fun s' r' h => ?_, notifyNow_pending c σ s r, notifyNow_noCtx hc s r⟩
    cases notifyNow_step c σ s r with
    | skip _ e => rw [e]; exact h
    | call j o hj e => rw [e]; exact (JobUpd.call c s r j o).keeps hj h
  | spawn σ s r k =>
    exact ⟨rfl, (Run.spawn σ s r k).dstep.grows, fun _ _ => spawn_keeps s r k _ _, spawn_pending c σ s r k, spawn_noCtx s r k⟩
  | trans _ _ ih1 ih2 =>
    obtain ⟨_, h1⟩ := ih1 hc
    obtain ⟨e, h2⟩ := ih2 (hc.mono h1.grows)
    exact ⟨e, h1.trans h2⟩

theorem notifyAll_ok {c : Cfg} (ev : Nat × EvType) (order : List Nat) {σ : St} (hc : CalmFrom c σ) :
    (notifyAll c ev order σ).2 = false ∧ NotifyOk c σ (notifyAll c ev order σ).1 ∧
    (∀ s, s ∈ order → c.sel s ev.1 ev.2 = true → Cov c (notifyAll c ev order σ).1 s ev.1) := by
  fun_induction notifyAll c ev order σ with
  | case1 σ => exact ⟨rfl, .refl c σ, fun _ hs => nomatch hs⟩
  | case2 s0 _ σ _ hq => obtain ⟨_, _, h1⟩ := hq ▸ notify_run c σ s0 ev; exact nomatch (h1.ok hc).1
  | case3 s0 _ σ _ hq ih =>
    obtain ⟨_, _, h1⟩ := hq ▸ notify_run c σ s0 ev
    have hok := (h1.ok hc).2
    have h2 : _ → Cov c (notify c σ s0 ev).1 s0 ev.1 := notify_covers hc s0 ev.1 ev.2
    rw [hq] at h2
    obtain ⟨i1, i2, i3⟩ := ih (hc.mono hok.grows)
    refine ⟨i1, hok.trans i2, fun s hs hsel => ?_⟩
    rcases List.mem_cons.mp hs with rfl | hs
    · exact i2.keeps _ _ (h2 hsel)
    · exact i3 s hs hsel

theorem Covered.afterCommit {c : Cfg} {σ : St} (h : Covered c σ) (hc : CalmFrom c σ) (order : List Nat)
    (hord : ∀ s, s < c.nSubs → s ∈ order) :
    Covered c (afterCommit c σ order) ∧ Grows σ (afterCommit c σ order) ∧ (NoCtx σ → NoCtx (afterCommit c σ order)) := by
  rcases afterCommit_spec c σ order with e | ⟨ev, rest, hp, e⟩ <;> rw [e]
  · exact ⟨h, Grows.refl _, fun h => h⟩
  · obtain ⟨i1, i2, i3⟩ := notifyAll_ok ev order (σ := { σ with pending := rest }) hc
    rw [settle_of_false i1]
    refine ⟨?_, i2.grows, i2.noCtx⟩
    intro s r hs hr
    by_cases hk : r = ev.1 ∧ c.sel s ev.1 ev.2 = true
    · rw [hk.1]; exact i3 s (hord s hs) hk.2
    · apply i2.keeps
      refine CovAt.keep (h s r hs hr) (fun j' hj' _ => ⟨j', hj', Nat.le_refl _⟩) (fun t ht _ _ => ht) ?_
      intro ty hm hsel
      rw [hp] at hm
      rcases List.mem_cons.mp hm with he | hm
      · exfalso; apply hk
        rw [← he]; exact ⟨rfl, hsel⟩
      · exact hm

/-- coverage after the retry task `t` of (s, r) was taken off the list and made one attempt: the other keys keep their
    witnesses; the key itself, when its job is still below the budget, has counted one failure and is covered by the
    task that was put back with one attempt less -/
theorem fire_cov {c : Cfg} {σ σ' : St} {t : Task} {s r : Nat} (h : Covered c σ) (htk : t.sub = s ∧ t.ref = r)
    (hsh : ∀ s' r', ¬(s' = s ∧ r' = r) → σ'.shelf s' r' = σ.shelf s' r') (hpen : σ'.pending = σ.pending)
    (run' : List Task) (hrun : ∀ w, w ∈ σ.running.erase t → w ∈ run')
    (hkey : ∀ j', σ'.shelf s r = some j' → j'.retries < c.maxRetries → ∃ j, σ.shelf s r = some j ∧
      j'.retries = j.retries + 1 ∧ (2 ≤ t.left → { t with left := t.left - 1, n := t.n + 1 } ∈ run')) :
    Covered c { σ' with running := run' } := by
  intro s' r' hs hr j' hj' hlt
  show (∃ w, w ∈ run' ∧ _) ∨ (∃ ty, (r', ty) ∈ σ'.pending ∧ _)
  rw [hpen]
  by_cases hk : s' = s ∧ r' = r
  · obtain ⟨rfl, rfl⟩ := hk
    obtain ⟨j, hj, h1, hadd⟩ := hkey j' hj' hlt
    rcases h s' r' hs hr j hj (by omega) with ⟨w, hw, a, b, d, f⟩ | hp
    · by_cases hwt : w = t
      · subst hwt
        exact .inl ⟨_, hadd (by omega), a, b, by simp only; omega, by simp only; omega⟩
      · exact .inl ⟨w, hrun w ((List.mem_erase_of_ne hwt).mpr hw), a, b, d, by omega⟩
    · exact .inr hp
  · rw [show σ'.shelf s' r' = σ.shelf s' r' from hsh s' r' hk] at hj'
    rcases h s' r' hs hr j' hj' hlt with ⟨w, hw, a, b, d, f⟩ | hp
    · have hwt : w ≠ t := fun e => hk ⟨by rw [← a, e, htk.1], by rw [← b, e, htk.2]⟩
      exact .inl ⟨w, hrun w ((List.mem_erase_of_ne hwt).mpr hw), a, b, d, f⟩
    · exact .inr hp

theorem Covered.fire {c : Cfg} {σ : St} (h : Covered c σ) (hc : CalmFrom c σ) (s r : Nat) : Covered c (fire c σ s r) := by
  rcases fire_spec c σ s r with ⟨_, e⟩ | ⟨t, ht, hf⟩
  · rw [e]; exact h
  have htk : t.sub = s ∧ t.ref = r := by simpa [Task.isFor] using List.find?_some ht
  have hc0 : CalmFrom c { σ with running := σ.running.erase t } := hc
  have hn := notifyNow_not_crashed hc0 s r
  have hrun := notifyNow_running c { σ with running := σ.running.erase t } s r
  have hpen := notifyNow_pending c { σ with running := σ.running.erase t } s r
  have hsh := fun s' r' (hk : ¬(s' = s ∧ r' = r)) => (notifyNow_step c { σ with running := σ.running.erase t } s r).frame hk
  have hkey := fun j' => notifyNow_below_budget hc0 s r (j' := j')
  generalize hp : notifyNow c { σ with running := σ.running.erase t } s r = p at hn hrun hpen hsh hkey
  obtain ⟨σ', res⟩ := p
  have keep : ∀ w, w ∈ σ.running.erase t → w ∈ σ'.running := fun w hw => hrun ▸ hw
  -- a job still below the budget means a recoverable error: with attempts left the task was put back
  rcases hf σ' res hp with ⟨e, _⟩ | ⟨_, _, e⟩ | ⟨_, hna, e⟩
  · exact absurd e hn
  · rw [e]
    refine fire_cov h htk hsh hpen _ (fun w hw => List.mem_append_left _ (keep w hw)) fun j' a b => ?_
    obtain ⟨j, hj, e, _⟩ := hkey j' a b
    exact ⟨j, hj, e, fun _ => List.mem_append_right _ List.mem_cons_self⟩
  · rw [e]
    refine fire_cov (σ' := σ') h htk hsh hpen σ'.running keep fun j' a b => ?_
    obtain ⟨j, hj, e, he⟩ := hkey j' a b
    exact ⟨j, hj, e, fun h2 => absurd ⟨by omega, .inl he⟩ hna⟩

theorem Covered.finishedExt {c : Cfg} {σ : St} (h : Covered c σ) (s r : Nat) (f : Bool) :
    Covered c (Nuts.C14.finishedExt σ s r f) := by
  rcases finishedExt_spec σ s r f with e | ⟨j, hj, e⟩ <;> rw [e]
  · exact h
  · exact fun s' r' hs hr => (JobUpd.fin c s r j).keeps hj (h s' r' hs hr)

theorem covAt_save {c : Cfg} {σa : St} {run : List Task} {pen : List (Nat × EvType)} (ev : Nat × EvType) (hev : ev ∈ pen)
    {s r : Nat} (h : CovAt c σa.shelf run pen s r) : CovAt c (saveEvent c σa ev).shelf run pen s r := by
  intro j' hj' hlt
  rw [(saveEvent_spec c σa ev).shelf] at hj'
  split at hj'
  · next hcond =>
    obtain ⟨_, rfl, hsel, _⟩ := hcond
    exact .inr ⟨ev.2, hev, hsel⟩
  · exact h j' hj' hlt

theorem noCtx_save {c : Cfg} {σa : St} (ev : Nat × EvType) (h : NoCtx σa) : NoCtx (saveEvent c σa ev) := by
  intro s r j hj
  rw [(saveEvent_spec c σa ev).shelf] at hj
  split at hj
  · injection hj with hj; subst hj; simp [newJob]
  · exact h _ _ _ hj

theorem Covered.addTx {c : Cfg} {σ : St} (h : Covered c σ) (a : AddArgs) : Covered c (addTx c σ a).1 := by
  rcases addTx_spec c σ a with ⟨e, _, he⟩ | ⟨he, _⟩ <;> rw [he]
  · exact h
  intro s r hs hr
  have h0 : CovAt c σ.shelf σ.running (addCommit c σ a).pending s r :=
    CovAt.keep (h s r hs hr) (fun j' hj' _ => ⟨j', hj', Nat.le_refl _⟩) (fun t ht _ _ => ht)
      (fun ty hp _ => by rw [addCommit_pending]; exact List.mem_append_left _ hp)
  have htx : (a.ref, EvType.tx) ∈ (addCommit c σ a).pending := by
    rw [addCommit_pending]; exact List.mem_append_right _ List.mem_cons_self
  unfold Cov
  rw [addCommit_running]
  apply covAt_save (a.ref, EvType.tx) htx
  split
  · next hp =>
    refine covAt_save (a.ref, EvType.payload) ?_ h0
    rw [addCommit_pending, hp]
    exact List.mem_append_right _ (List.mem_cons_of_mem _ List.mem_cons_self)
  · exact h0

theorem Covered.writePayload {c : Cfg} {σ : St} (h : Covered c σ) (r : Nat) (cf : Bool) :
    Covered c (writePayload c σ r cf).1 ∧ Grows σ (writePayload c σ r cf).1 ∧ (NoCtx σ → NoCtx (writePayload c σ r cf).1) := by
  rcases writePayload_spec c σ r cf with ⟨e, _, _, he, _⟩ | ⟨_, p, he, hsub, _⟩ | ⟨he, _⟩ <;> rw [he]
  · exact ⟨h, Grows.refl _, fun h => h⟩
  · exact ⟨fun s r' hs hr => CovAt.keep (h s r' hs hr) (fun j' hj' _ => ⟨j', hj', Nat.le_refl _⟩) (fun t ht _ _ => ht)
      (fun ty hp _ => hsub _ hp), Grows.refl _, fun h => h⟩
  refine ⟨?_, ⟨[], payloadCommit_ledger c σ r⟩, fun hn => noCtx_save _ hn⟩
  intro s r' hs hr
  unfold Cov
  rw [payloadCommit_running, payloadCommit_pending]
  apply covAt_save (r, EvType.payload) (List.mem_append_right _ List.mem_cons_self)
  exact CovAt.keep (h s r' hs hr) (fun j' hj' _ => ⟨j', hj', Nat.le_refl _⟩) (fun t ht _ _ => ht)
    (fun ty hp _ => List.mem_append_left _ hp)

structure RunCallsOk (c : Cfg) (s : Nat) (l : List (Nat × Nat)) (σ : St) (acc : List (Nat × Nat))
    (res : St × List (Nat × Nat) × Bool) : Prop where
  notCrashed : res.2.2 = false
  ok : NotifyOk c σ res.1
  running : res.1.running = σ.running
  accSub : ∀ p, p ∈ acc → p ∈ res.2.1
  frame : ∀ r, (∀ p, p ∈ l → p.1 ≠ r) → res.1.shelf s r = σ.shelf s r
  main : ∀ p, p ∈ l → ∀ j', res.1.shelf s p.1 = some j' → j'.retries < c.maxRetries →
    1 ≤ j'.retries ∧ (p.1, j'.retries - 1) ∈ res.2.1

theorem runCalls_ok {c : Cfg} (s : Nat) (l : List (Nat × Nat)) : ∀ (σ : St) (acc : List (Nat × Nat)),
    CalmFrom c σ → l.Pairwise (fun a b => a.1 < b.1) →
    (∀ p, p ∈ l → ∃ j, σ.shelf s p.1 = some j ∧ j.retries = p.2) →
    RunCallsOk c s l σ acc (runCalls c s l σ acc) := by
  induction l with
  | nil =>
    intro σ acc _ _ _
    exact ⟨rfl, .refl c σ, rfl, fun p hp => hp, fun r _ => rfl, fun p hp => by cases hp⟩
  | cons p0 rest ih =>
    intro σ acc hc hpw hpre
    obtain ⟨r0, ret0⟩ := p0
    obtain ⟨j, hj, hret⟩ := hpre (r0, ret0) List.mem_cons_self
    simp only at hj hret
    rw [runCalls_cons, if_neg (notifyNow_not_crashed hc s r0)]
    have hpw' := List.pairwise_cons.mp hpw
    have ok1 := ((Run.now (c := c) σ s r0).ok hc).2
    have hsh1 : ∀ r, r ≠ r0 → (notifyNow c σ s r0).1.shelf s r = σ.shelf s r :=
      fun r hr => (notifyNow_step c σ s r0).frame fun e => hr e.2
    have hkey := fun j' => notifyNow_below_budget hc s r0 (j' := j')
    have hrun1 := notifyNow_running c σ s r0
    generalize notifyNow c σ s r0 = q at ok1 hsh1 hkey hrun1
    obtain ⟨σ1, res⟩ := q
    simp only at ok1 hsh1 hkey hrun1 ⊢
    generalize hacc : (if res = NRes.nil then acc else if ret0 < c.maxRetries then acc ++ [(r0, ret0)] else acc) = acc1
    have hne : ∀ p, p ∈ rest → p.1 ≠ r0 := fun p hp => by have := hpw'.1 p hp; simp only at this; omega
    have hI := ih σ1 acc1 (hc.mono ok1.grows) hpw'.2 (by
      intro p hp
      obtain ⟨j', hj', hr'⟩ := hpre p (List.mem_cons_of_mem _ hp)
      exact ⟨j', (hsh1 _ (hne p hp)).trans hj', hr'⟩)
    generalize runCalls c s rest σ1 acc1 = res' at hI
    obtain ⟨h1, h2, h3, h4, h5, h6⟩ := hI
    have haccsub : ∀ p, p ∈ acc → p ∈ acc1 := by
      intro p hp; rw [← hacc]; split
      · exact hp
      · split
        · exact List.mem_append_left _ hp
        · exact hp
    refine ⟨h1, ok1.trans h2, h3.trans hrun1, fun p hp => h4 p (haccsub p hp), ?_, ?_⟩
    · intro r hr
      have hr0 : r ≠ r0 := fun e => hr (r0, ret0) List.mem_cons_self e.symm
      rw [h5 r (fun p hp => hr p (List.mem_cons_of_mem _ hp)), hsh1 r hr0]
    · intro p hp j' hj' hlt
      rcases List.mem_cons.mp hp with rfl | hp
      · simp only at hj' ⊢
        rw [h5 r0 hne] at hj'
        -- still below the budget: one failure was counted and reported, so the job is on the list for a retry loop
        obtain ⟨j0, hj0, e1, eres⟩ := hkey j' hj' hlt
        rw [hj] at hj0; cases hj0
        refine ⟨by omega, h4 _ ?_⟩
        rw [← hacc, eres, if_neg (by decide), if_pos (by omega), show j'.retries - 1 = ret0 by omega]
        exact List.mem_append_right _ List.mem_cons_self
      · exact h6 p hp j' hj' hlt

theorem spawnAll_spec (c : Cfg) (s : Nat) (failed : List (Nat × Nat)) (σ : St) :
    (∀ t, t ∈ σ.running → t ∈ (spawnAll c s failed σ).running) ∧
    (∀ p, p ∈ failed → p.2 + 1 < c.maxRetries →
      ∃ t, t ∈ (spawnAll c s failed σ).running ∧ t.sub = s ∧ t.ref = p.1 ∧ t.left = c.maxRetries - (p.2 + 1)) := by
  unfold spawnAll
  induction failed generalizing σ with
  | nil => exact ⟨fun t ht => ht, fun p hp => by cases hp⟩
  | cons p0 rest ih =>
    simp only [List.foldl_cons]
    obtain ⟨i1, i2⟩ := ih (spawn c σ s p0.1 p0.2)
    refine ⟨fun t ht => i1 t (spawn_running_sub c σ s _ _ t ht), ?_⟩
    intro p hp hlt
    rcases List.mem_cons.mp hp with rfl | hp
    · obtain ⟨t, ht, a, b, d⟩ := spawn_mem (c := c) (σ := σ) (s := s) (r := p.1) (k := p.2) hlt
      exact ⟨t, i1 t ht, a, b, d⟩
    · exact i2 p hp hlt

theorem runSub_ok {c : Cfg} {σ : St} (hc : CalmFrom c σ) (s : Nat) :
    (runSub c σ s).2 = false ∧ NotifyOk c σ (runSub c σ s).1 ∧
    (NoCtx σ → ∀ r, r < c.nRefs → Cov c (runSub c σ s).1 s r) := by
  have h := runCalls_ok (c := c) s (runSnapshot c σ s) σ [] hc (snapshot_pairwise c σ s) fun p hp => (mem_runSnapshot_iff.mp hp).2.imp fun _ h => ⟨h.1, h.2.1⟩
  fun_cases runSub c σ s with
  | case1 _ _ hq => rw [hq] at h; cases h.notCrashed
  | case2 σ1 failed hq =>
    rw [hq] at h
    obtain ⟨_, h2, h3, _, h5, h6⟩ := h
    simp only at h2 h3 h5 h6
    obtain ⟨sp1, sp2⟩ := spawnAll_spec c s failed σ1
    have hsame := spawnAll_same c s failed σ1
    have ok2 := ((spawnAll_run c s failed σ1).ok (hc.mono h2.grows)).2
    refine ⟨rfl, h2.trans ok2, ?_⟩
    intro hn r hr j' hj' hlt
    rw [hsame.shelf] at hj'
    cases hj0 : σ.shelf s r with
    | none =>
      have : σ1.shelf s r = σ.shelf s r := h5 r (fun p hp e => by
        obtain ⟨_, j, hj, _⟩ := mem_runSnapshot_iff.mp hp; rw [e, hj0] at hj; cases hj)
      rw [this, hj0] at hj'; cases hj'
    | some j0 =>
      have hm := (mem_runSnapshot_iff (p := (r, j0.retries))).mpr ⟨hr, j0, hj0, rfl, hn s r j0 hj0⟩
      obtain ⟨g1, g2⟩ := h6 _ hm j' hj' hlt
      simp only at g2
      obtain ⟨t, ht, a, b, d⟩ := sp2 _ g2 (by simp only; omega)
      simp only at b d
      exact .inl ⟨t, ht, a, b, by omega, by omega⟩

theorem runAll_ok {c : Cfg} (order : List Nat) {σ : St} (hc : CalmFrom c σ) :
    (runAll c order σ).2 = false ∧ NotifyOk c σ (runAll c order σ).1 ∧
    (NoCtx σ → ∀ s, s ∈ order → ∀ r, r < c.nRefs → Cov c (runAll c order σ).1 s r) := by
  fun_induction runAll c order σ with
  | case1 σ => exact ⟨rfl, .refl c σ, fun _ _ hs => nomatch hs⟩
  | case2 s0 _ σ _ hq => exact nomatch hq ▸ (runSub_ok hc s0).1
  | case3 s0 _ σ _ hq ih =>
    obtain ⟨_, h2, h3⟩ := hq ▸ runSub_ok hc s0
    obtain ⟨i1, i2, i3⟩ := ih (hc.mono h2.grows)
    refine ⟨i1, h2.trans i2, ?_⟩
    intro hn s hs r hr
    rcases List.mem_cons.mp hs with rfl | hs
    · exact i2.keeps _ _ (h3 hn r hr)
    · exact i3 (h2.noCtx hn) s hs r hr

theorem restart_ok {c : Cfg} {σ : St} (hc : CalmFrom c σ) (order : List Nat) :
    NotifyOk c σ (restart c σ order) ∧
    (NoCtx σ → ∀ s, s ∈ order → ∀ r, r < c.nRefs → Cov c (restart c σ order) s r) := by
  obtain ⟨h1, h2, h3⟩ := runAll_ok order hc
  rw [restart_spec, settle_of_false h1]
  exact ⟨h2, h3⟩

/-- ops of a calm suffix: no stop; AfterCommit reaches every registered notifier -/
def CalmOp (c : Cfg) : Op → Prop
  | .afterCommit order => ∀ s, s < c.nSubs → s ∈ order
  | .crash => False
  | _ => True

theorem Covered.step {c : Cfg} {σ : St} (h : Covered c σ) (hc : CalmFrom c σ) (op : Op) (hop : CalmOp c op) :
    Covered c (step c σ op) := by
  cases op with
  | add a => exact h.addTx a
  | afterCommit order => exact (h.afterCommit hc order hop).1
  | writePayload r cf => exact (h.writePayload r cf).1
  | finishedExt s r f => exact h.finishedExt s r f
  | fire s r => exact h.fire hc s r
  | crash => exact absurd hop id
  | restart order => exact fun s r hs hr => (restart_ok hc order).1.keeps s r (h s r hs hr)

theorem Covered.run {c : Cfg} {σ : St} (h : Covered c σ) (hc : CalmFrom c σ) (ops : List Op) (hops : ∀ op, op ∈ ops → CalmOp c op) :
    Covered c (run c σ ops) := by
  induction ops generalizing σ with
  | nil => exact h
  | cons op rest ih =>
    exact ih (h.step hc op (hops op List.mem_cons_self)) (hc.mono (step_dstep c σ op).grows) (fun o ho => hops o (List.mem_cons_of_mem _ ho))

theorem Covered.quiescent {c : Cfg} {σ : St} (h : Covered c σ) (hr : σ.running = []) (hp : σ.pending = [])
    (s r : Nat) (j : Job) (hs : s < c.nSubs) (hrr : r < c.nRefs) (hj : σ.shelf s r = some j) : c.maxRetries ≤ j.retries := by
  cases Nat.lt_or_ge j.retries c.maxRetries with
  | inr h' => exact h'
  | inl hlt =>
    rcases h s r hs hrr j hj hlt with ⟨t, ht, _⟩ | ⟨ty, hm, _⟩
    · rw [hr] at ht; cases ht
    · rw [hp] at hm; cases hm

end Nuts.C14
