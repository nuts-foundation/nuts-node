/-
  C04 — the bearer-token decision (NutsModel/C04/Token.lean) for any policy: what a granted decision went through, stage by
  stage. C17 reads its bearer-token consumer off these.
-/
import NutsModel.C04.Token

namespace Nuts.C04

theorem keyLoop_granted {P : Policy} {aud : String} {now : Int} {c : Claims} {l : List (AuthKey × Bool)} {u : String}
    (h : keyLoop P aud now c l = .granted u) :
    ∃ k, (k, true) ∈ l ∧ validate aud now c = true ∧ bestPractices P c = true ∧ c.iss = some u ∧ k.comment = u := by
  fun_induction keyLoop P aud now c l with
  | case2 k v rest _ ih => exact (ih h).imp fun _ => And.imp_left (List.mem_cons_of_mem _)
  | case5 k v rest hv hval hbp hiss =>
    cases h
    simp only [Bool.not_eq_true, Bool.not_eq_false'] at hv hval hbp
    exact ⟨k, hv ▸ List.mem_cons_self, hval, hbp, hiss, rfl⟩
  | _ => cases h

theorem sigSecure_true {P : Policy} {s : SigHdr} :
    sigSecure P s = true ↔ s.alg ∈ P.acceptableAlgs ∧ ∀ x ∈ P.forbiddenHdrs, x ∉ s.hdrs := by
  simp [sigSecure]

theorem credentialIsSecure_true {P : Policy} {n : Nat} {a : Analysis} :
    credentialIsSecure P n a = true ↔
      n ≤ P.maxCredLen ∧ a.parses = true ∧ (∀ s ∈ a.sigs, sigSecure P s = true) ∧ sigCountOK P a.sigs.length = true := by
  simp only [credentialIsSecure, Bool.and_eq_true, decide_eq_true_eq, List.all_eq_true, and_assoc]

theorem sigCountOK_pos {P : Policy} {n : Nat} (h : sigCountOK P n = true) : 1 ≤ n := by
  unfold sigCountOK at h
  cases hr : P.sigRule <;> rw [hr] at h <;> simp at h <;> omega

theorem tokenDecision_granted {P : Policy} {aud : String} {keys : List AuthKey} {now : Int} {hdr : Str} {a : Analysis} {u : String}
    (h : tokenDecision P aud keys now hdr a = .granted u) :
    authenticationCredential hdr ≠ [] ∧ credentialIsSecure P (authenticationCredential hdr).length a = true ∧
    ∃ k, (k, true) ∈ keys.zip a.verifies ∧ validate aud now a.claims = true ∧ bestPractices P a.claims = true ∧
      a.claims.iss = some u ∧ k.comment = u := by
  revert h
  fun_cases tokenDecision P aud keys now hdr a with
  | case3 _ hcred hsec => exact fun h => ⟨hcred, by simpa using hsec, keyLoop_granted h⟩
  | _ => nofun

end Nuts.C04
