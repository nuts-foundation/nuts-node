/-
  Composition C06 ∘ C08 (∘ C07); the maps are in NutsModel/Compose/Dag.lean.  Every lemma here speaks of two of the three
  models or of the maps between them (`embRef`, `embTx`, `viewTx`, `Delivery`, `Node`); what is about one model alone is in that
  model's lemma files.  Both other models see a FUNCTION of C06's admitted list — C08 its image on the shelf (`Rel`, `embList`),
  C07 its view (`viewL`) — and each operation is compared once per model:
    lookup `Rel.getTx`, `Rel.fresh`/`present` | `getTx_viewL`, `present_viewL`;  root rule `Rel.rootCond` | `root_view`;
    prev verifier `Rel.verifyPrevs_agree` | `verifyPrevs_iff`;  the decision of `Add` `Rel.add_ok_iff`, `feed_admitted`,
    `add8_stores_iff` | `admissible_view_iff` (under `dagOK_view_iff`, `addCheck_added_iff`);  XOR `specAll_xor_embList` |
    `xorOf_view`;  highest clock `maxClock_embList` | `lcOf_view`;  C07 against C08 directly: `iblt_of_ibltSet`, `skeleton_view`,
    `listing_view` (`lt6`/`win6` are the common form of the two listing orders).
  At the end the composition in two statements: `built` (what feeding a valid chain to C08 yields) and `Sim`/`sim_run` (the
  invariant of the composed node).
-/
import NutsModel.Compose.Dag
import NutsProofs.Lemmas.C06
import NutsProofs.Lemmas.C08Inv
import NutsProofs.Lemmas.C07LiveN
import NutsProofs.Lemmas.C08Order
import NutsProofs.Lemmas.Sort
import NutsProofs.Props.C08

namespace Nuts.Compose.Dag

/-- a ref is a SHA-256 value -/
def Small (r : Nat) : Prop := r < 2 ^ 256

instance (r : Nat) : Decidable (Small r) := by unfold Small; exact inferInstance

theorem embRef_inj {a b : Nat} (ha : Small a) (hb : Small b) (h : embRef a = embRef b) : a = b := by
  unfold embRef at h
  have := congrArg BitVec.toNat h
  simp only [BitVec.toNat_ofNat] at this
  unfold Small at ha hb
  rwa [Nat.mod_eq_of_lt ha, Nat.mod_eq_of_lt hb] at this

theorem embRef_toNat {a : Nat} (ha : Small a) : (embRef a).toNat = a := by
  unfold embRef Small at *
  simp only [BitVec.toNat_ofNat]
  exact Nat.mod_eq_of_lt ha

@[simp] theorem embTx_ref (w : Wire) (t : C06.Tx) : (embTx w t).ref = embRef t.ref := rfl
@[simp] theorem embTx_clock (w : Wire) (t : C06.Tx) : (embTx w t).clock = t.clock := rfl
@[simp] theorem embTx_prevs (w : Wire) (t : C06.Tx) : (embTx w t).prevs = t.prevs.map embRef := rfl
@[simp] theorem embTx_ikey (w : Wire) (t : C06.Tx) : (embTx w t).ikey = ikeyOf w t.ref := rfl

structure Rel {n : Nat} (w : Wire) (l : List C06.Tx) (d : C08.Disk n) : Prop where
  txs : d.txs = embList w l
  small : ∀ t ∈ l, Small t.ref
  nodup : (C06.refsOf l).Nodup

theorem mem_embList {w : Wire} {l : List C06.Tx} {y : C08.Tx} : y ∈ embList w l ↔ ∃ t ∈ l, y = embTx w t := by
  simp only [embList, List.mem_map, List.mem_reverse, eq_comm]

theorem embList_cons (w : Wire) (t : C06.Tx) (l : List C06.Tx) : embList w (t :: l) = embList w l ++ [embTx w t] := by
  simp [embList]

variable {n : Nat}

theorem Rel.of_ref {w : Wire} {l : List C06.Tx} {d : C08.Disk n} (R : Rel w l d) {p : Nat} (hs : Small p) {y : C08.Tx}
    (hy : y ∈ d.txs) (hq : (y.ref == embRef p) = true) : ∃ t ∈ l, t.ref = p ∧ y = embTx w t := by
  rw [R.txs] at hy
  obtain ⟨t, ht, rfl⟩ := mem_embList.mp hy
  exact ⟨t, ht, embRef_inj (R.small t ht) hs (eq_of_beq hq), rfl⟩

theorem Rel.getTx {w : Wire} {l : List C06.Tx} {d : C08.Disk n} (R : Rel w l d) {p : Nat} (hs : Small p) :
    d.getTx (embRef p) = (C06.findTx l p).map (embTx w) := by
  unfold C08.Disk.getTx
  cases hf : C06.findTx l p with
  | none =>
    rw [Option.map_none, List.find?_eq_none]
    intro y hy hq
    obtain ⟨t, ht, hr, _⟩ := R.of_ref hs hy hq
    exact C06.findTx_none_iff.mp hf (List.mem_map.mpr ⟨t, ht, hr⟩)
  | some t =>
    obtain ⟨hr, hm⟩ := C06.findTx_some_ref hf
    -- the shelf holds the image of `t`, so the lookup finds something; what it finds has ref `p`, so it is that image
    cases hg : d.txs.find? (·.ref == embRef p) with
    | none =>
      have := List.find?_eq_none.mp hg (embTx w t) (R.txs ▸ mem_embList.mpr ⟨t, hm, rfl⟩)
      simp [hr] at this
    | some y =>
      have hq := List.find?_some hg
      obtain ⟨t', ht', hr', rfl⟩ := R.of_ref hs (List.mem_of_find?_eq_some hg) hq
      rw [C06.eq_of_ref R.nodup ht' hm (hr'.trans hr.symm)]; rfl

theorem Rel.fresh {w : Wire} {l : List C06.Tx} {d : C08.Disk n} (R : Rel w l d) {r : Nat} (hs : Small r)
    (hf : r ∉ C06.refsOf l) : d.isPresent (embRef r) = false := by
  unfold C08.Disk.isPresent
  rw [List.any_eq_false]
  intro y hy hq
  obtain ⟨t, ht, hr, _⟩ := R.of_ref hs hy hq
  exact hf (List.mem_map.mpr ⟨t, ht, hr⟩)

theorem Rel.present {w : Wire} {l : List C06.Tx} {d : C08.Disk n} (R : Rel w l d) {r : Nat}
    (hf : r ∈ C06.refsOf l) : d.isPresent (embRef r) = true := by
  unfold C08.Disk.isPresent
  rw [R.txs, List.any_eq_true]
  unfold C06.refsOf at hf
  obtain ⟨t, ht, rfl⟩ := List.mem_map.mp hf
  exact ⟨embTx w t, mem_embList.mpr ⟨t, ht, rfl⟩, by simp⟩

/-- how C08 names the two errors of the prev verifier that C06 calls "prev-missing" and "clock" -/
def prevErr8 : Res Unit → Res Unit
  | .ok u => .ok u
  | .err e => .err (if e = "prev-missing" then "missing-prev" else "bad-clock")
  | .panic p => .panic p

/-- the prev loops run in step: C06 counts the highest prev clock from −1 in `Int`, C08 its successor from 0 in `Nat` -/
theorem Rel.loop_agree {w : Wire} {l : List C06.Tx} {d : C08.Disk n} (R : Rel w l d) :
    ∀ (ps : List Nat) (h : Int), -1 ≤ h → (∀ p ∈ ps, Small p) →
      (∃ h', C06.highest l ps h = .ok h' ∧ d.verifyPrevsLoop (ps.map embRef) (h + 1).toNat = .ok (h' + 1).toNat) ∨
      (C06.highest l ps h = .err "prev-missing" ∧ d.verifyPrevsLoop (ps.map embRef) (h + 1).toNat = .err "missing-prev") := by
  intro ps
  induction ps with
  | nil => intro h _ _; exact Or.inl ⟨h, rfl, rfl⟩
  | cons p ps ih =>
    intro h hh hs
    simp only [List.map_cons, C08.Disk.verifyPrevsLoop, C06.highest, R.getTx (hs p List.mem_cons_self)]
    cases C06.findTx l p with
    | none => exact Or.inr ⟨rfl, rfl⟩
    | some t =>
      have hk : (if t.clock + 1 ≥ (h + 1).toNat then t.clock + 1 else (h + 1).toNat) =
          ((if (t.clock : Int) ≥ h then (t.clock : Int) else h) + 1).toNat := by
        split <;> split <;> omega
      have := ih (if (t.clock : Int) ≥ h then t.clock else h) (by split <;> omega) (fun q hq => hs q (List.mem_cons_of_mem _ hq))
      rw [← hk] at this
      exact this

/-- **the two models of `NewPrevTransactionsVerifier` agree** on related stores, outcome by outcome -/
theorem Rel.verifyPrevs_agree {w : Wire} {l : List C06.Tx} {d : C08.Disk n} (R : Rel w l d) (tx : C06.Tx)
    (hs : ∀ p ∈ tx.prevs, Small p) : d.verifyPrevs (embTx w tx) = prevErr8 (C06.verifyPrevs l tx) := by
  unfold C08.Disk.verifyPrevs C06.verifyPrevs
  rcases R.loop_agree tx.prevs (-1) (Int.le_refl _) hs with ⟨h', e, e8⟩ | ⟨e, e8⟩
  · rw [embTx_prevs, show (0 : Nat) = ((-1 : Int) + 1).toNat from rfl, e8, e]
    have hge : (-1 : Int) ≤ h' := (C06.highest_ok e).2 ▸ (foldl_max_spec _ _).1
    by_cases hc : (tx.clock : Int) ≠ h' + 1
    · have : tx.clock ≠ (h' + 1).toNat := by omega
      simp [hc, this, prevErr8]
    · have : ¬ tx.clock ≠ (h' + 1).toNat := by omega
      simp [hc, this, prevErr8]
  · rw [embTx_prevs, show (0 : Nat) = ((-1 : Int) + 1).toNat from rfl, e8, e]; rfl

theorem Rel.rootCond {w : Wire} {l : List C06.Tx} {d : C08.Disk n} (R : Rel w l d) (g : C08.GInv d) :
    (!((C08.getSorted 0 d.clocks).getD []).isEmpty) = C06.hasRoot l := by
  -- both ask whether some stored transaction has clock 0
  rw [g.idx 0, R.txs, Bool.eq_iff_iff]
  simp [C06.hasRoot, List.filter_eq_nil_iff, embList]

theorem Rel.small_prevs {w : Wire} {l : List C06.Tx} {d : C08.Disk n} (R : Rel w l d) {tx : C06.Tx}
    (h : C06.verifyPrevs l tx = .ok ()) : ∀ p ∈ tx.prevs, Small p := by
  intro p hp
  obtain ⟨u, hu, rfl, _⟩ := (C06.verifyPrevs_spec h).1 p hp
  exact R.small u hu

theorem Rel.add_ok_iff (cfg : C08.Cfg) {w : Wire} {l : List C06.Tx} {s : C08.State n} (R : Rel w l s.disk)
    (g : C08.GInv s.disk) {tx : C06.Tx} (hs : Small tx.ref) (hps : ∀ p ∈ tx.prevs, Small p) (hf : tx.ref ∉ C06.refsOf l) :
    (C08.add cfg s (embTx w tx) {}).2 = .ok () ↔
      (C06.verifyPrevs l tx = .ok () ∧ (tx.prevs = [] → C06.hasRoot l = false)) := by
  rw [(C08.add_free g (R.fresh hs hf)).1, R.verifyPrevs_agree tx hps, R.rootCond g]
  refine and_congr ?_ ?_
  · cases C06.verifyPrevs l tx <;> simp [prevErr8]
  · rw [embTx_prevs]
    cases tx.prevs <;> simp

theorem feed_admitted {cfg : C08.Cfg} (G : C08.Good cfg) {w : Wire} {l : List C06.Tx} {s : C08.State n}
    (h : C08.SInv cfg s) (R : Rel w l s.disk) {tx : C06.Tx} (hs : Small tx.ref) (hf : tx.ref ∉ C06.refsOf l)
    (hv : C06.verifyPrevs l tx = .ok ()) (hroot : tx.prevs = [] → C06.hasRoot l = false) :
    (C08.add cfg s (embTx w tx) {}).2 = .ok () ∧ C08.SInv cfg (feed cfg s (embTx w tx)) ∧
    Rel w (tx :: l) (feed cfg s (embTx w tx)).disk := by
  have hok := (R.add_ok_iff cfg h.g hs (R.small_prevs hv) hf).mpr ⟨hv, hroot⟩
  have a := h.add G (embTx w tx) {}
  refine ⟨hok, a.1, ?_⟩
  rcases a.2.2 hok with ⟨_, hpres⟩ | ⟨htxs, _⟩
  · rw [show s.disk.isPresent (embTx w tx).ref = false from R.fresh hs hf] at hpres; cases hpres
  · refine ⟨?_, ?_, ?_⟩
    · show (C08.add cfg s (embTx w tx) {}).1.disk.txs = _
      rw [htxs, R.txs, embList_cons]
    · intro t ht
      rcases List.mem_cons.mp ht with rfl | ht
      · exact hs
      · exact R.small t ht
    · exact List.nodup_cons.mpr ⟨hf, R.nodup⟩

theorem feed_head {cfg : C08.Cfg} {w : Wire} {l : List C06.Tx} {s : C08.State n}
    (h : C08.SInv cfg s) (R : Rel w l s.disk) {tx : C06.Tx} (hs : Small tx.ref) (hf : tx.ref ∉ C06.refsOf l)
    (hv : C06.verifyPrevs l tx = .ok ()) (hroot : tx.prevs = [] → C06.hasRoot l = false) :
    (feed cfg s (embTx w tx)).disk.head =
      if tx.clock > s.disk.lcHigh ∨ tx.clock = 0 then some (embRef tx.ref) else s.disk.head :=
  (C08.add_free h.g (R.fresh hs hf)).2 ((R.add_ok_iff cfg h.g hs (R.small_prevs hv) hf).mpr ⟨hv, hroot⟩)

theorem add8_stores_iff {cfg : C08.Cfg} (G : C08.Good cfg) {w : Wire} {l : List C06.Tx} {s : C08.State n}
    (h : C08.SInv cfg s) (R : Rel w l s.disk) (tx : C06.Tx) (hs : Small tx.ref) (hps : ∀ p ∈ tx.prevs, Small p) :
    (C08.add cfg s (embTx w tx) {}).1.disk.txs = s.disk.txs ++ [embTx w tx] ↔
      (tx.ref ∉ C06.refsOf l ∧ C06.verifyPrevs l tx = .ok () ∧ (tx.prevs = [] → C06.hasRoot l = false)) := by
  constructor
  · intro happ
    have a := h.add G (embTx w tx) {}
    have hne : s.disk.txs ≠ s.disk.txs ++ [embTx w tx] := fun e => by simpa using congrArg List.length e
    -- the shelf grew, so the call neither failed nor found the transaction present
    have hok : (C08.add cfg s (embTx w tx) {}).2 = .ok () :=
      Classical.byContradiction fun hn => hne (by rw [a.2.1 hn] at happ; exact happ)
    rcases a.2.2 hok with ⟨e, _⟩ | ⟨_, hnp⟩
    · rw [e] at happ; exact absurd happ hne
    · have hf : tx.ref ∉ C06.refsOf l := fun hin => by
        rw [show s.disk.isPresent (embTx w tx).ref = true from R.present hin] at hnp; cases hnp
      exact ⟨hf, (R.add_ok_iff cfg h.g hs hps hf).mp hok⟩
  · rintro ⟨h1, h2, h3⟩
    exact (feed_admitted G h R hs h1 h2 h3).2.2.txs.trans (by rw [R.txs, embList_cons])

def build {n : Nat} (cfg : C08.Cfg) (w : Wire) (l : List C06.Tx) : C08.State n :=
  (embList w l).foldl (feed cfg) (C08.State.init cfg)

theorem build_cons (cfg : C08.Cfg) (w : Wire) (t : C06.Tx) (l : List C06.Tx) :
    (build cfg w (t :: l) : C08.State n) = feed cfg (build cfg w l) (embTx w t) := by
  simp [build, embList_cons, List.foldl_append]

theorem digests_eq_build (cfg : C08.Cfg) (w : Wire) (s : C06.St) : (digests cfg w s : C08.State n) = build cfg w s.txs := rfl

theorem build_chain {cfg : C08.Cfg} (G : C08.Good cfg) (w : Wire) {env : C06.Env} : ∀ (l : List C06.Tx),
    C06.ChainOK env l → (∀ t ∈ l, Small t.ref) →
    C08.SInv cfg (build cfg w l : C08.State n) ∧ Rel w l (build cfg w l : C08.State n).disk := by
  intro l
  induction l with
  | nil =>
    intro _ _
    exact ⟨C08.SInv.init cfg, ⟨rfl, fun _ h => (by cases h), by simp [C06.refsOf]⟩⟩
  | cons t rest ih =>
    intro hc hs
    obtain ⟨c1, c2, c3, _, c5⟩ := hc
    obtain ⟨i1, i2⟩ := ih c1 (fun x hx => hs x (List.mem_cons_of_mem _ hx))
    rw [build_cons]
    have := feed_admitted G i1 i2 (hs t List.mem_cons_self) c2 c3 c5
    exact ⟨this.2.1, this.2.2⟩

theorem deliver6_cases (a : Adm) (s : C06.St) (d : Delivery) :
    (deliver6 a s d).1 = s ∨
    ∃ tx p, tx.ref = d.ref ∧ (deliver6 a s d).2 = .ok () ∧ C06.Admitted a.env s tx p (deliver6 a s d).1 := by
  cases d with
  | bytes hd p =>
    rcases C06.offer_adds a.cfg a.b64 a.env a.subs s hd p with h | ⟨tx, htx, e⟩
    · exact Or.inl h
    · simp only [deliver6, e]
      exact C06.add_cases.imp_right fun h => ⟨tx, p, (C06.parse_wellFormed htx).ref, h.1, h.2⟩
  | tx tx p => exact C06.add_cases.imp_right fun h => ⟨tx, p, rfl, h.1, h.2⟩

theorem deliver6_not_ok (a : Adm) (s : C06.St) (d : Delivery) (h : (deliver6 a s d).2 ≠ .ok ()) : (deliver6 a s d).1 = s := by
  rcases deliver6_cases a s d with e | ⟨_, _, _, hok, _⟩
  · exact e
  · exact absurd hok h

theorem deliver6_dup (a : Adm) (s : C06.St) (d : Delivery) (h : d.ref ∈ C06.refsOf s.txs) : (deliver6 a s d).1 = s := by
  rcases deliver6_cases a s d with e | ⟨tx, _, hr, _, ha⟩
  · exact e
  · exact absurd (hr ▸ h) ha.fresh

theorem inv_deliver6 (a : Adm) {s : C06.St} (hi : C06.Inv a.env s) (d : Delivery) : C06.Inv a.env (deliver6 a s d).1 := by
  rcases deliver6_cases a s d with e | ⟨_, _, _, _, ha⟩
  · rw [e]; exact hi
  · exact C06.inv_admitted hi ha

structure Inv6 (a : Adm) (s : C06.St) : Prop where
  inv : C06.Inv a.env s
  small : ∀ t ∈ s.txs, Small t.ref

theorem Inv6.step {a : Adm} {s : C06.St} (h : Inv6 a s) (d : Delivery) (hd : Small d.ref) : Inv6 a (step6 a s d) := by
  refine ⟨inv_deliver6 a h.inv d, ?_⟩
  unfold step6
  rcases deliver6_cases a s d with e | ⟨tx, p, hr, _, ha⟩
  · rw [e]; exact h.small
  · rw [ha.txs]
    intro t ht
    rcases List.mem_cons.mp ht with rfl | ht
    · rw [hr]; exact hd
    · exact h.small t ht

theorem Inv6.run {a : Adm} (ds : List Delivery) {s : C06.St} (h : Inv6 a s) (hs : ∀ d ∈ ds, Small d.ref) :
    Inv6 a (ds.foldl (step6 a) s) :=
  foldl_invariant _ _ ds s (fun d hd _ h' => h'.step d (hs d hd)) h

theorem Inv6.empty (a : Adm) : Inv6 a {} := ⟨C06.inv_empty a.env, fun _ h => (by cases h)⟩

theorem inv6_run6 (a : Adm) (ds : List Delivery) (hs : ∀ d ∈ ds, Small d.ref) : Inv6 a (run6 a ds) :=
  Inv6.run ds (Inv6.empty a) hs

theorem adds_eq_deliveries (a : Adm) (s : C06.St) (cs : List C06.Call) :
    C06.adds a.env a.subs s cs = (cs.map fun c => Delivery.tx c.tx c.payload).foldl (step6 a) s := by
  rw [List.foldl_map]; rfl

theorem handleList_prefix (a : Adm) (items : List C06.Item) (s : C06.St) :
    ∃ k, k ≤ items.length ∧
      (C06.handleList a.env a.subs s items).1 = ((items.take k).map (fun it => Delivery.tx it.tx it.payload)).foldl (step6 a) s := by
  obtain ⟨k, hk, e⟩ := C06.handleList_adds a.env a.subs items s
  exact ⟨k, hk, by rw [e, adds_eq_deliveries, List.map_map]; rfl⟩

theorem newTxs_same {old new : C06.St} (h : new = old) : newTxs old new = [] := by
  subst h; simp [newTxs]

theorem newTxs_cons {old new : C06.St} {tx : C06.Tx} (h : new.txs = tx :: old.txs) : newTxs old new = [tx] := by
  simp [newTxs, h]

theorem Node.step_st (a : Adm) (cfg8 : C08.Cfg) (w : Wire) (nd : Node n) (d : Delivery) :
    (nd.step a cfg8 w d).st = step6 a nd.st d := rfl

theorem Node.step_same {a : Adm} {cfg8 : C08.Cfg} {w : Wire} {nd : Node n} {d : Delivery}
    (e : (deliver6 a nd.st d).1 = nd.st) : nd.step a cfg8 w d = nd := by
  show ({ st := _, dg := (embList w (newTxs nd.st (deliver6 a nd.st d).1)).foldl (feed cfg8) nd.dg } : Node n) = nd
  rw [newTxs_same e, e]; rfl

theorem Node.step_cases (a : Adm) (cfg8 : C08.Cfg) (w : Wire) (nd : Node n) (d : Delivery) :
    nd.step a cfg8 w d = nd ∨
    ∃ tx p, tx.ref = d.ref ∧ (deliver6 a nd.st d).2 = .ok () ∧ C06.Admitted a.env nd.st tx p (nd.step a cfg8 w d).st ∧
      (nd.step a cfg8 w d).dg = feed cfg8 nd.dg (embTx w tx) := by
  rcases deliver6_cases a nd.st d with e | ⟨tx, p, hr, hok, ha⟩
  · exact Or.inl (Node.step_same e)
  · refine Or.inr ⟨tx, p, hr, hok, ha, ?_⟩
    show (embList w (newTxs nd.st (deliver6 a nd.st d).1)).foldl (feed cfg8) nd.dg = _
    rw [newTxs_cons ha.txs]; rfl

theorem run_st (a : Adm) (cfg8 : C08.Cfg) (w : Wire) (ds : List Delivery) (nd : Node n) :
    (ds.foldl (Node.step a cfg8 w) nd).st = ds.foldl (step6 a) nd.st :=
  (List.foldl_hom Node.st fun x d => (Node.step_st a cfg8 w x d).symm).symm

section ProtoView
open Nuts.Proto Nuts.Proto.L

@[simp] theorem viewTx_ref (w : Wire) (env : C06.Env) (t : C06.Tx) : (viewTx w env t).ref = t.ref := rfl
@[simp] theorem viewTx_clock (w : Wire) (env : C06.Env) (t : C06.Tx) : (viewTx w env t).clock = t.clock := rfl
@[simp] theorem viewTx_prevs (w : Wire) (env : C06.Env) (t : C06.Tx) : (viewTx w env t).prevs = t.prevs := rfl
@[simp] theorem viewTx_sigOK (w : Wire) (env : C06.Env) (t : C06.Tx) :
    (viewTx w env t).sigOK = decide (C06.verifySig env t = .ok ()) := rfl

def viewL (w : Wire) (env : C06.Env) (l : List C06.Tx) : List Proto.Tx := l.map (viewTx w env)

theorem getTx_viewL (w : Wire) (env : C06.Env) (p : Nat) (l : List C06.Tx) :
    Proto.getTx (viewL w env l) p = (C06.findTx l p).map (viewTx w env) := by
  unfold Proto.getTx C06.findTx viewL
  rw [List.find?_map]; rfl

theorem present_viewL (w : Wire) (env : C06.Env) (r : Nat) (l : List C06.Tx) :
    Proto.present (viewL w env l) r = decide (r ∈ C06.refsOf l) := by
  unfold Proto.present viewL C06.refsOf
  rw [List.any_map, Bool.eq_iff_iff]
  simp

theorem root_view (w : Wire) (env : C06.Env) (l : List C06.Tx) :
    (∀ x ∈ viewL w env l, x.clock ≠ 0) ↔ C06.hasRoot l = false := by
  rw [C06.hasRoot_false_iff]
  simp [viewL]

/-- C07's fold over the views of the found prevs is the maximum of C06's closed form (C07 counts in `Nat` from 0, C06 in
    `Int` from −1): `Int.toNat` carries one running maximum to the other -/
theorem lcStep_fold (w : Wire) (env : C06.Env) (ts : List C06.Tx) (h : Int) :
    (viewL w env ts).foldl Proto.lcStep h.toNat = ((ts.map fun t => (t.clock : Int)).foldl max h).toNat := by
  rw [viewL, List.foldl_map, List.foldl_map]
  refine List.foldl_hom Int.toNat fun x t => ?_
  unfold Proto.lcStep
  rw [viewTx_clock]
  split <;> omega

theorem expectedClock_viewL (w : Wire) (env : C06.Env) (l : List C06.Tx) (ps : List Nat) :
    Proto.expectedClock (viewL w env l) ps = ((C06.prevClocks l ps).foldl max (-1) + 1).toNat := by
  have hf : ps.filterMap (Proto.getTx (viewL w env l)) = viewL w env (ps.filterMap (C06.findTx l)) := by
    rw [show Proto.getTx (viewL w env l) = fun p => (C06.findTx l p).map (viewTx w env) from
      funext fun p => getTx_viewL w env p l, viewL, List.map_filterMap]
  have hc : C06.prevClocks l ps = (ps.filterMap (C06.findTx l)).map fun t => (t.clock : Int) := by
    unfold C06.prevClocks
    rw [List.map_filterMap]
  unfold Proto.expectedClock
  rw [hf, hc]
  cases ps.filterMap (C06.findTx l) with
  | nil => rfl
  | cons t ts =>
    show Proto.lcOf (viewL w env (t :: ts)) + 1 = _
    have hge := (foldl_max_spec ((t :: ts).map fun t => (t.clock : Int)) (-1)).2.1 t.clock (by simp)
    unfold Proto.lcOf
    rw [show (0 : Nat) = (-1 : Int).toNat from rfl, lcStep_fold w env (t :: ts) (-1)]
    omega

theorem verifyPrevs_iff (w : Wire) (env : C06.Env) (l : List C06.Tx) (tx : C06.Tx) :
    C06.verifyPrevs l tx = .ok () ↔
      ((∀ p ∈ tx.prevs, Proto.present (viewL w env l) p = true) ∧ tx.clock = Proto.expectedClock (viewL w env l) tx.prevs) := by
  rw [C06.verifyPrevs_ok_iff, expectedClock_viewL]
  have hge := (foldl_max_spec (C06.prevClocks l tx.prevs) (-1)).1
  refine and_congr (forall₂_congr fun p _ => ?_) (by omega)
  rw [present_viewL, decide_eq_true_eq, C06.findTx_isSome_iff]

theorem admissible_view_iff (w : Wire) (env : C06.Env) (l : List C06.Tx) (t : C06.Tx) :
    (t.ref ∉ C06.refsOf l ∧ C06.verifyPrevs l t = .ok () ∧ C06.verifySig env t = .ok () ∧
      (t.prevs = [] → C06.hasRoot l = false)) ↔
    ((viewTx w env t).sigOK = true ∧ Proto.present (viewL w env l) t.ref = false ∧
      (∀ p ∈ t.prevs, Proto.present (viewL w env l) p = true) ∧ t.clock = Proto.expectedClock (viewL w env l) t.prevs ∧
      (t.prevs = [] → ∀ x ∈ viewL w env l, x.clock ≠ 0)) := by
  rw [verifyPrevs_iff w env, root_view, present_viewL, viewTx_sigOK, decide_eq_true_eq, decide_eq_false_iff_not]
  exact ⟨fun ⟨a, ⟨b, c⟩, d, e⟩ => ⟨d, a, b, c, e⟩, fun ⟨d, a, b, c, e⟩ => ⟨a, ⟨b, c⟩, d, e⟩⟩

theorem dagOK_view_iff (w : Wire) (env : C06.Env) : ∀ (l : List C06.Tx), DagOK (viewL w env l) ↔ C06.ChainOK env l
  | [] => ⟨fun _ => trivial, fun _ => DagOK.nil⟩
  | t :: rest => by
    show DagOK (viewTx w env t :: viewL w env rest) ↔ C06.ChainOK env rest ∧ _
    rw [← dagOK_view_iff w env rest, admissible_view_iff w env]
    exact ⟨fun h => by cases h with | cons _ _ h0 h1 h2 h3 h4 h5 => exact ⟨h0, h1, h2, h3, h4, h5⟩,
      fun ⟨h0, h1, h2, h3, h4, h5⟩ => .cons _ _ h0 h1 h2 h3 h4 h5⟩

/-- **The two models of `state.Add`'s decision agree.** C07's `addCheck` on the protocol's view says `added` exactly when
    C06's `add` stores the transaction. -/
theorem addCheck_added_iff (w : Wire) (env : C06.Env) (subs : List C06.Sub) (s : C06.St) (tx : C06.Tx) (p : Option Nat) :
    Proto.addCheck (viewL w env s.txs) (viewTx w env tx) (p.map (viewPayload env.sha)) = .added ↔
      (C06.add env subs s tx p).1.txs = tx :: s.txs := by
  -- C06 stores exactly when the transaction is admissible and the payload hashes to the declared hash; so does C07
  have h6 : (C06.add env subs s tx p).1.txs = tx :: s.txs ↔
      (tx.ref ∉ C06.refsOf s.txs ∧ C06.verifyPrevs s.txs tx = .ok () ∧ C06.verifySig env tx = .ok () ∧
        (tx.prevs = [] → C06.hasRoot s.txs = false)) ∧ ∀ x, p = some x → env.sha x = tx.payloadHash := by
    constructor
    · intro h
      rcases @C06.add_cases env subs s tx p with e | ⟨_, ha⟩
      · rw [e] at h; simpa using congrArg List.length h
      · exact ⟨⟨ha.fresh, ha.prevsOK, ha.sigOK, ha.rootOK⟩, ha.payloadOK⟩
    · rintro ⟨⟨c1, c2, c3, c4⟩, c5⟩
      exact (C06.add_success c1 c2 c3 c4 c5).2
  have hp : (∀ q, p.map (viewPayload env.sha) = some q → q.sha = (viewTx w env tx).payloadHash) ↔
      ∀ x, p = some x → env.sha x = tx.payloadHash := by
    cases p with
    | none => simp
    | some x => simp [viewPayload, viewTx]
  rw [h6, admissible_view_iff w env, Proto.L.addCheck_added_iff, hp]
  simp only [viewTx_ref, viewTx_prevs, viewTx_clock, and_assoc]

theorem xorOf_view_fold (w : Wire) (env : C06.Env) : ∀ (l : List C06.Tx) (a : Nat),
    (viewL w env l).foldl Proto.xorStep a = a ^^^ C06.xorAll l := by
  intro l
  induction l with
  | nil => intro a; simp [viewL, C06.xorAll]
  | cons t r ih =>
    intro a
    show (viewL w env r).foldl Proto.xorStep (Proto.xorStep a (viewTx w env t)) = _
    rw [ih]
    simp only [Proto.xorStep, viewTx_ref, C06.xorAll]
    rw [Nat.xor_assoc, Nat.xor_comm t.ref]

theorem xorOf_view (w : Wire) (env : C06.Env) (l : List C06.Tx) : Proto.xorOf (viewL w env l) = C06.xorAll l := by
  unfold Proto.xorOf
  rw [xorOf_view_fold]; simp

theorem specAll_xor_embList (w : Wire) : ∀ (l : List C06.Tx),
    C08.specAll C08.xorOps (C08.refClocks (embList w l)) = embRef (C06.xorAll l) := by
  intro l
  induction l with
  | nil => rfl
  | cons t r ih =>
    rw [embList_cons, C08.refClocks_snoc, C08.specAll_snoc, ih]
    simp only [C06.xorAll, embRef, BitVec.ofNat_xor]
    rfl

theorem lcOf_view_fold (w : Wire) (env : C06.Env) : ∀ (l : List C06.Tx) (a : Nat),
    (viewL w env l).foldl Proto.lcStep a = max a (C06.maxClock l) := by
  intro l
  induction l with
  | nil => intro a; simp [viewL, C06.maxClock]
  | cons t r ih =>
    intro a
    show (viewL w env r).foldl Proto.lcStep (Proto.lcStep a (viewTx w env t)) = _
    rw [ih]
    simp only [Proto.lcStep, viewTx_clock, C06.maxClock]
    by_cases hlt : a < t.clock <;> simp only [hlt, if_true, if_false] <;> omega

theorem lcOf_view (w : Wire) (env : C06.Env) (l : List C06.Tx) : Proto.lcOf (viewL w env l) = C06.maxClock l := by
  unfold Proto.lcOf
  rw [lcOf_view_fold]; simp

theorem maxClock_embList (w : Wire) : ∀ (l : List C06.Tx), C08.maxClock (embList w l) = C06.maxClock l := by
  intro l
  induction l with
  | nil => rfl
  | cons t r ih =>
    rw [embList_cons, C08.maxClock_snoc, ih]
    simp only [C06.maxClock, embTx_clock]
    omega

theorem iblt_of_ibltSet (n : Nat) (w : Wire) (env : C06.Env) (cfg7 : Proto.Cfg) (c : Nat) : ∀ (l : List C06.Tx),
    C08.specUpTo (C08.ibltOps n) cfg7.pageSize (C08.keyClocks (embList w l)) c =
      ibltOfSet n w (Proto.ibltSet cfg7 (viewL w env l) c) := by
  intro l
  induction l with
  | nil => rfl
  | cons t r ih =>
    rw [embList_cons, C08.keyClocks_snoc, C08.specUpTo_snoc, ih]
    simp only [embTx_clock, embTx_ikey, Proto.ibltSet, viewL, List.map_cons, List.filter_cons, viewTx_clock, Proto.pageOf]
    by_cases h : t.clock / cfg7.pageSize ≤ c / cfg7.pageSize
    · simp [h, ibltOfSet]
    · simp [h]

theorem skeleton_view (w : Wire) (env : C06.Env) {l : List C06.Tx} {s : C08.State n} (R : Rel w l s.disk)
    (hp : ∀ t ∈ l, ∀ p ∈ t.prevs, Small p) :
    (viewOfDigests s).map skeleton = (viewL w env l).map skeleton := by
  unfold viewOfDigests viewL
  rw [R.txs, embList, ← List.map_reverse, List.reverse_reverse, List.map_map, List.map_map, List.map_map]
  apply List.map_congr_left
  intro t ht
  simp only [Function.comp, skeleton, embTx_ref, embTx_clock, embTx_prevs, viewTx_ref, viewTx_clock, viewTx_prevs]
  rw [embRef_toNat (R.small t ht), List.map_map]
  congr 2
  exact (List.map_congr_left fun p hp' => embRef_toNat (hp t ht p hp')).trans (List.map_id _)

def lt6 (x y : C06.Tx) : Bool := x.clock < y.clock || (x.clock == y.clock && x.ref < y.ref)
def win6 (a b : Nat) (t : C06.Tx) : Bool := decide (a ≤ t.clock ∧ t.clock < b)

theorem lt6_asymm (a b : C06.Tx) (h : lt6 a b = true) : lt6 b a = false := lexLt_asymm h

theorem lt6_trans (a b c : C06.Tx) (h1 : lt6 b a = false) (h2 : lt6 c b = false) : lt6 c a = false := lexLt_trans h1 h2

theorem listing_view (w : Wire) (env : C06.Env) {l : List C06.Tx} (hs : ∀ t ∈ l, Small t.ref) (nd : (C06.refsOf l).Nodup)
    (a b : Nat) :
    C08.specListing (embList w l) a b = (Proto.findBetween (viewL w env l) a b).map (fun t => embRef t.ref) := by
  have hsub : ∀ x ∈ l.filter (win6 a b), x ∈ l := fun x hx => (List.mem_filter.mp hx).1
  have h8 : C08.specListing (embList w l) a b = ((sortBy lt6 ((l.filter (win6 a b)).reverse)).map (embTx w)).map (·.ref) := by
    unfold C08.specListing embList
    rw [List.filter_map, List.filter_reverse]
    congr 1
    have : ((fun t : C08.Tx => decide (a ≤ t.clock ∧ t.clock < b)) ∘ embTx w) = win6 a b := rfl
    rw [this]
    apply C08.sortBy_map
    intro x hx y hy
    have hx' := hsub x (List.mem_reverse.mp hx)
    have hy' := hsub y (List.mem_reverse.mp hy)
    simp only [C08.txLt, embTx_clock, embTx_ref, embRef_toNat (hs x hx'), embRef_toNat (hs y hy')]
    rfl
  have h7 : Proto.findBetween (viewL w env l) a b = (sortBy lt6 (l.filter (win6 a b))).map (viewTx w env) := by
    unfold Proto.findBetween viewL
    rw [List.filter_map]
    have : ((fun t : Proto.Tx => decide (a ≤ t.clock) && decide (t.clock < b)) ∘ viewTx w env) = win6 a b := by
      funext t; simp only [win6, Function.comp, viewTx_clock, Bool.decide_and]; rfl
    rw [this]
    apply C08.sortBy_map
    intro x _ y _
    rfl
  rw [h8, h7]
  have hperm : sortBy lt6 ((l.filter (win6 a b)).reverse) = sortBy lt6 (l.filter (win6 a b)) := by
    apply sortBy_eq_of_perm lt6 lt6_asymm lt6_trans (List.reverse_perm _)
    intro x hx y hy h1 h2
    have hx' := hsub x (List.mem_reverse.mp hx)
    have hy' := hsub y (List.mem_reverse.mp hy)
    apply C06.eq_of_ref nd hx' hy'
    simp only [lt6, Bool.or_eq_false_iff, Bool.and_eq_false_iff, decide_eq_false_iff_not, beq_eq_false_iff_ne] at h1 h2
    omega
  rw [hperm, List.map_map, List.map_map]
  rfl

theorem preimage_of_view (w : Wire) (env : C06.Env) (U6 : List C06.Tx) : ∀ (d : List Proto.Tx),
    (∀ t ∈ d, t ∈ U6.map (viewTx w env)) → ∃ l, d = viewL w env l ∧ ∀ u ∈ l, u ∈ U6 := by
  intro d
  induction d with
  | nil => intro _; exact ⟨[], rfl, fun _ h => (by cases h)⟩
  | cons t rest ih =>
    intro h
    obtain ⟨l, hl, hu⟩ := ih (fun x hx => h x (List.mem_cons_of_mem _ hx))
    obtain ⟨u, hu6, rfl⟩ := List.mem_map.mp (h t List.mem_cons_self)
    refine ⟨u :: l, by rw [hl]; rfl, ?_⟩
    intro x hx
    rcases List.mem_cons.mp hx with rfl | hx
    · exact hu6
    · exact hu x hx

theorem small_xorAll : ∀ (l : List C06.Tx), (∀ t ∈ l, Small t.ref) → Small (C06.xorAll l) := by
  intro l
  induction l with
  | nil => intro _; show (0 : Nat) < 2 ^ 256; exact Nat.two_pow_pos 256
  | cons t r ih =>
    intro h
    exact Nat.xor_lt_two_pow (ih (fun x hx => h x (List.mem_cons_of_mem _ hx))) (h t List.mem_cons_self)

end ProtoView

def HeadOK (nd : Node n) : Prop :=
  (nd.st.txs = [] ∧ nd.dg.disk.head = none) ∨ (nd.st.txs ≠ [] ∧ nd.dg.disk.head = some (embRef nd.st.head))

theorem HeadOK.step {a : Adm} {cfg8 : C08.Cfg} {w : Wire} {nd : Node n} (hsinv : C08.SInv cfg8 nd.dg)
    (hrel : Rel w nd.st.txs nd.dg.disk) (hinv : C06.Inv a.env nd.st) (hh : HeadOK nd) (d : Delivery) (hd : Small d.ref) :
    HeadOK (nd.step a cfg8 w d) := by
  rcases Node.step_cases a cfg8 w nd d with e | ⟨tx, p, hr, _, ha, hdg⟩
  · rw [e]; exact hh
  · have hlc : nd.dg.disk.lcHigh = nd.st.lcHigh := by
      rw [hsinv.g.lc, hrel.txs, maxClock_embList, hinv.lcHigh]
    right
    refine ⟨by rw [ha.txs]; simp, ?_⟩
    rw [hdg, feed_head hsinv hrel (hr ▸ hd) ha.fresh ha.prevsOK ha.rootOK, ha.head, hlc]
    by_cases hc : tx.clock > nd.st.lcHigh ∨ tx.clock = 0
    · simp only [hc, if_true]
    · simp only [hc, if_false]
      rcases hh with ⟨he, _⟩ | ⟨_, hh⟩
      · -- on the empty store every prev is missing, so an admitted transaction is a root and has clock 0
        have hp : tx.prevs = [] := List.eq_nil_iff_forall_not_mem.mpr fun q hq => by
          obtain ⟨u, hu, _⟩ := (C06.verifyPrevs_spec ha.prevsOK).1 q hq
          rw [he] at hu; cases hu
        exact absurd (Or.inr ((C06.verifyPrevs_spec ha.prevsOK).2.1 hp)) hc
      · exact hh

section Sim
open Nuts.C08.Props (cfg NB cfg_good Observables Reachable)

theorem reachable_build (w : Wire) : ∀ (l : List C06.Tx), Reachable (build cfg w l : C08.State NB)
  | [] => .init
  | t :: rest => by rw [build_cons]; exact .add _ _ (reachable_build w rest)

/-- what feeding a valid chain with SHA-256 refs to C08 from the empty store yields: C08's invariant, the image of the chain
    on the shelf (so no `add` was refused), a state C08 can reach, every observable C08's reference fold over it -/
structure Built (w : Wire) (l : List C06.Tx) (s : C08.State NB) : Prop where
  sinv : C08.SInv cfg s
  rel : Rel w l s.disk
  reach : Reachable s
  obs : Observables s (embList w l)

theorem built {env : C06.Env} (w : Wire) {l : List C06.Tx} (hc : C06.ChainOK env l) (hs : ∀ t ∈ l, Small t.ref) :
    Built w l (build cfg w l) := by
  obtain ⟨i, r⟩ := build_chain (n := NB) cfg_good w l hc hs
  exact ⟨i, r, reachable_build w l, r.txs ▸ C08.Props.observables_of_sinv i⟩

/-- the invariant of the composed node: C06's invariant with SHA-256 refs, the digest state is a FUNCTION of the admitted
    list (everything else about it is `built`), and the two layers record the same head -/
structure Sim (a : Adm) (w : Wire) (nd : Node NB) : Prop where
  inv : Inv6 a nd.st
  dg : nd.dg = build cfg w nd.st.txs
  head : HeadOK nd

theorem Sim.built {a : Adm} {w : Wire} {nd : Node NB} (h : Sim a w nd) : Built w nd.st.txs nd.dg :=
  h.dg ▸ Dag.built w h.inv.inv.chain h.inv.small

theorem Sim.step {a : Adm} {w : Wire} {nd : Node NB} (h : Sim a w nd) (d : Delivery) (hd : Small d.ref) :
    Sim a w (nd.step a cfg w d) := by
  rcases Node.step_cases a cfg w nd d with e | ⟨tx, p, _, _, ha, hdg⟩
  · rw [e]; exact h
  · exact ⟨h.inv.step d hd, by rw [hdg, ha.txs, build_cons, ← h.dg],
      h.head.step h.built.sinv h.built.rel h.inv.inv d hd⟩

theorem sim_run (a : Adm) (w : Wire) (ds : List Delivery) (hs : ∀ d ∈ ds, Small d.ref) : Sim a w (Node.run a cfg w ds) :=
  foldl_invariant _ _ ds _ (fun d hd _ h => h.step d (hs d hd)) ⟨Inv6.empty a, rfl, Or.inl ⟨rfl, rfl⟩⟩

end Sim

end Nuts.Compose.Dag
