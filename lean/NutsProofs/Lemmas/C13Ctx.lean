/-
  An operation leaves the rows of every OTHER subject exactly as they were.
-/
import NutsProofs.Lemmas.C13Op

namespace Nuts.C13
open Nuts

def ofSubject (s : String) (r : DidRow) : Bool := decide (r.subject = s)

theorem listDIDs_eq (w : World) (s : String) : listDIDs w s = w.dids.filter (ofSubject s) := rfl

theorem pushRow_subject (o : Op) (base now : Nat) (r : DidRow) : (pushRow o base now r).subject = r.subject := by
  unfold pushRow
  split <;> rfl

theorem tx1_other {cfg : Cfg} {w w1 : World} {o : Op} {chs : List Change} (ht : tx1 cfg w o = .ok (w1, chs))
    (s : String) (hs : s ≠ o.subject) :
    w1.dids.filter (ofSubject s) = w.dids.filter (ofSubject s) ∧ (∀ r ∈ w1.dids, r.subject = s → r ∈ w.dids) := by
  rcases tx1_cases ht with ⟨_, _, _, ⟨s', rfl, hd, _⟩ | ⟨hd, _⟩⟩ <;> rw [hd]
  · have hnew : ∀ r ∈ cfg.methods.map (newDid w.next w.now s'), ofSubject s r = false := by
      intro r hr
      rcases List.mem_map.1 hr with ⟨m, _, rfl⟩
      exact decide_eq_false fun he => hs he.symm
    constructor
    · have hnil : (cfg.methods.map (newDid w.next w.now s')).filter (ofSubject s) = [] :=
        List.filter_eq_nil_iff.2 (fun r hr => by rw [hnew r hr]; exact Bool.false_ne_true)
      rw [List.filter_append, hnil, List.append_nil]
    · intro r hr hrs
      rcases List.mem_append.1 hr with h | h
      · exact h
      · exact absurd hrs (of_decide_eq_false (hnew r h))
  · constructor
    · apply filter_map_other
      · intro r _ hp
        simp only [ofSubject, decide_eq_true_eq] at hp
        exact pushRow_other o _ _ r (by rw [hp]; exact hs)
      · intro r _
        simp only [ofSubject, pushRow_subject]
    · intro r1 hr1 hrs
      rcases List.mem_map.1 hr1 with ⟨r, hr, rfl⟩
      rw [pushRow_subject] at hrs
      rw [pushRow_other o _ _ r (by rw [hrs]; exact hs)]
      exact hr

theorem stepOp_other {cfg : Cfg} {w : World} (o : Op) (order : List Method) (f : Fault)
    (hms : cfg.methods.Nodup) (h : Inv w.dids w.next) (hc : Clean w.dids o.subject) (s : String) (hs : s ≠ o.subject) :
    listDIDs (stepOp cfg w o order f).1 s = listDIDs w s := by
  rcases stepOp_settle o order f hms h hc with he | ⟨w1, chs, d, ht, hd0, hd, _⟩
  · rw [he]
  · have ho := tx1_other ht s hs
    rw [listDIDs_eq, listDIDs_eq, hd, ← ho.1]
    -- the rows of another subject are rows from before: their change records belong to older transactions
    apply filter_filterMap_other
    · intro r hr hp
      simp only [ofSubject, decide_eq_true_eq] at hp
      exact settleRow_older h (ho.2 r hr hp) hd0
    · intro r _ r' hg
      simp only [ofSubject, (settleRow_ids hg).2.1]

end Nuts.C13
