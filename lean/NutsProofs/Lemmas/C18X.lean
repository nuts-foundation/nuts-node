import NutsModel.C18.X509
import NutsProofs.Lemmas.C18Bytes
namespace Nuts.C18

theorem splitDC_ne_nil : ∀ s : Bytes, splitDC s ≠ [] := by
  intro s
  induction s using splitDC.induct with
  | case1 => simp [splitDC]
  | case2 x => simp [splitDC]
  | case3 x y rest h ih => unfold splitDC; simp [h]
  | case4 x y rest h hs ih => exact absurd hs ih
  | case5 x y rest h p ps hs ih => unfold splitDC; simp [h, hs]

theorem joinDC_cons_cons (p q : Bytes) (ps : List Bytes) : joinDC (p :: q :: ps) = p ++ 58 :: 58 :: joinDC (q :: ps) := by
  simp [joinDC]

theorem joinDC_cons_head (x : Nat) (p : Bytes) (ps : List Bytes) : joinDC ((x :: p) :: ps) = x :: joinDC (p :: ps) := by
  cases ps <;> simp [joinDC]

theorem joinDC_splitDC : ∀ s : Bytes, joinDC (splitDC s) = s := by
  intro s
  induction s using splitDC.induct with
  | case1 => simp [splitDC, joinDC]
  | case2 x => simp [splitDC, joinDC]
  | case3 x y rest h ih =>
    unfold splitDC; simp only [h, and_self, if_true]
    cases hs : splitDC rest with
    | nil => exact absurd hs (splitDC_ne_nil rest)
    | cons q qs => rw [hs] at ih; rw [joinDC_cons_cons, ih]; simp
  | case4 x y rest h hs ih => exact absurd hs (splitDC_ne_nil _)
  | case5 x y rest h p ps hs ih =>
    unfold splitDC; simp only [h, if_false, hs]
    rw [hs] at ih; rw [joinDC_cons_head, ih]

/-- the text of one policy element of the identifier -/
def polText (p : XPolicy) : Bytes := p.name ++ 58 :: p.value

theorem parsePolicies_shape (l : List Bytes) : ∀ ps : List XPolicy, parsePolicies l = .ok ps → l = ps.map polText := by
  fun_induction parsePolicies l with
  | case1 => exact fun ps h => Res.ok.inj h ▸ rfl
  | case2 s rest name v vs hs l hl ih =>
    intro ps h
    cases h
    have hj := join_splitOn 58 s
    rw [hs, joinWith_cons_cons] at hj
    simp [polText, hj, ← ih l hl]
  | case3 _ _ _ _ _ _ hl => exact fun ps h => (hl ps h).elim
  | case4 => nofun

/-- the text of a parsed reference -/
def refText (r : XRef) : Bytes := joinDC (([48] ++ 58 :: (r.method ++ 58 :: r.root)) :: r.policies.map polText)

theorem parseX509Did_shape (id : Bytes) (r : XRef) (h : parseX509Did id = .ok r) : id = refText r := by
  revert h
  fun_cases parseX509Did id with
  | case3 didString policyStrings hs v m rt hsp hv ps hps =>
    intro h
    cases h
    have hj := joinDC_splitDC id
    have hd := join_splitOn 58 didString
    rw [hsp] at hd
    simp [joinWith] at hd
    rw [hs] at hj
    simp only [refText]
    rw [← parsePolicies_shape _ _ hps, ← hj, ← hd, Decidable.not_not.mp hv]
  | _ => nofun

abbrev XTbl := List ((Bytes × Bytes) × XAttr)

/-- what an accepted key/value list means: every pair names a known attribute of the certificate and matches it -/
def pairsHold (tbl : XTbl) (name : Bytes) (c : XCert) : List Bytes → Prop
  | k :: v :: rest => validEscapes v = true ∧ (∃ a, lookupValidator tbl name k = some a ∧ attrMatches c a (unescapeQ v) = .ok true) ∧ pairsHold tbl name c rest
  | [_] => False
  | [] => True

theorem validatePairs_sound (tbl : XTbl) (name : Bytes) (c : XCert) (kv : List Bytes) :
    validatePairs tbl name c kv = .ok () → pairsHold tbl name c kv := by
  fun_induction validatePairs tbl name c kv with
  | case3 k v rest hv a hl hm ih => exact fun h => ⟨by simpa using hv, ⟨a, hl, hm⟩, ih h⟩
  | case8 => exact fun _ => trivial
  | _ => nofun

/-- what an accepted policy means -/
def policyHolds (tbl : XTbl) (c : XCert) (p : XPolicy) : Prop :=
  (p.name = sSubject ∨ p.name = sSan) ∧ pairsHold tbl p.name c (splitOn 58 p.value)

theorem validate_sound (tbl : XTbl) (p : XPolicy) (c : XCert) (h : validate tbl p c = .ok ()) :
    pairsHold tbl p.name c (splitOn 58 p.value) := by
  unfold validate at h
  simp only at h
  split at h
  · simp at h
  · exact validatePairs_sound tbl p.name c _ h

def policyStep (tbl : XTbl) (c : XCert) (p : XPolicy) : Res Unit :=
  if p.name = sSubject ∨ p.name = sSan then validate tbl p c else .err "unknown-policy"

theorem validatePolicy_cons (tbl : XTbl) (c : XCert) (p : XPolicy) (ps : List XPolicy) :
    validatePolicy tbl c (p :: ps) = .ok () ↔ (policyStep tbl c p = .ok () ∧ validatePolicy tbl c ps = .ok ()) := by
  rw [validatePolicy]
  show (match policyStep tbl c p with | .ok () => validatePolicy tbl c ps | r => r) = .ok () ↔ _
  cases h : policyStep tbl c p with
  | ok u => cases u; simp
  | err e => simp
  | panic q => simp

theorem validatePolicy_sound (tbl : XTbl) (c : XCert) :
    ∀ ps : List XPolicy, validatePolicy tbl c ps = .ok () → ∀ p ∈ ps, policyHolds tbl c p
  | [], _ => by simp
  | q :: qs, h => by
    rw [validatePolicy_cons] at h
    intro p hp
    rcases List.mem_cons.mp hp with rfl | hp
    · have hq := h.1
      unfold policyStep at hq
      by_cases hn : p.name = sSubject ∨ p.name = sSan
      · rw [if_pos hn] at hq; exact ⟨hn, validate_sound tbl p c hq⟩
      · rw [if_neg hn] at hq; simp at hq
    · exact validatePolicy_sound tbl c qs h.2 p hp

theorem validatePolicy_append (tbl : XTbl) (c : XCert) : ∀ ps qs : List XPolicy,
    validatePolicy tbl c (ps ++ qs) = .ok () ↔ (validatePolicy tbl c ps = .ok () ∧ validatePolicy tbl c qs = .ok ())
  | [], qs => by simp [validatePolicy]
  | p :: ps, qs => by
    have ih := validatePolicy_append tbl c ps qs
    simp only [List.cons_append, validatePolicy_cons, ih, and_assoc]

theorem findLoop_sound (t : XTarget) (alg : Bytes) (ids : List Nat) : ∀ c : Nat,
    findLoop t alg ids = .ok c → c ∈ ids ∧ t = .hashOf c alg ∧ hashAlgs.contains alg = true := by
  fun_induction findLoop t alg ids with
  | case1 | case2 => nofun
  | case3 x xs ha ht => exact fun c h => Res.ok.inj h ▸ ⟨List.mem_cons_self, ht, by simpa using ha⟩
  | case4 x xs ha ht ih => exact fun c h => ⟨List.mem_cons_of_mem _ (ih c h).1, (ih c h).2⟩

theorem findByHash_sound (ids : List Nat) (t : XTarget) (alg : Bytes) (c : Nat) (h : findByHash ids t alg = .ok c) :
    c ∈ ids ∧ t = .hashOf c (lower alg) := by
  unfold findByHash at h
  split at h
  · split at h
    · simp at h
    · have := findLoop_sound _ _ _ _ h; exact ⟨this.1, this.2.1⟩
  · have := findLoop_sound _ _ _ _ h; exact ⟨this.1, this.2.1⟩

theorem lower_sha1 : lower sSha1 = sSha1 := by decide
theorem lower_sha256 : lower sSha256 = sSha256 := by decide

theorem findValidationCert_sound (ids : List Nat) (x5t x5s : Option XTarget) (c : Nat)
    (h : findValidationCert ids x5t x5s = .ok c) :
    c ∈ ids ∧ (x5t = none ∨ x5t = some (.hashOf c sSha1)) ∧ (x5s = none ∨ x5s = some (.hashOf c sSha256)) ∧
      (x5t ≠ none ∨ x5s ≠ none) := by
  unfold findValidationCert at h
  cases x5t with
  | none =>
    cases x5s with
    | none => simp at h
    | some t2 =>
      simp only at h
      cases h2 : findByHash ids t2 sSha256 with
      | ok o =>
        rw [h2] at h; simp at h; subst h
        have := findByHash_sound _ _ _ _ h2
        rw [lower_sha256] at this
        exact ⟨this.1, Or.inl rfl, Or.inr (by rw [this.2]), Or.inr (by simp)⟩
      | err e => rw [h2] at h; simp at h
      | panic p => rw [h2] at h; simp at h
  | some t1 =>
    simp only at h
    cases h1 : findByHash ids t1 sSha1 with
    | ok v =>
      rw [h1] at h
      have s1 := findByHash_sound _ _ _ _ h1
      rw [lower_sha1] at s1
      cases x5s with
      | none => simp at h; subst h; exact ⟨s1.1, Or.inr (by rw [s1.2]), Or.inl rfl, Or.inl (by simp)⟩
      | some t2 =>
        simp only at h
        cases h2 : findByHash ids t2 sSha256 with
        | ok o =>
          rw [h2] at h
          have s2 := findByHash_sound _ _ _ _ h2
          rw [lower_sha256] at s2
          by_cases hov : o = v
          · simp [hov] at h; subst h; subst hov
            exact ⟨s1.1, Or.inr (by rw [s1.2]), Or.inr (by rw [s2.2]), Or.inl (by simp)⟩
          · simp [hov] at h
        | err e => rw [h2] at h; simp at h
        | panic p => rw [h2] at h; simp at h
    | err e => rw [h1] at h; simp at h
    | panic p => rw [h1] at h; simp at h

/-- everything a did:x509 resolution that returns a document has established -/
structure X509Accepted (tbl : XTbl) (method id : Bytes) (inp : XInput) (doc : Bytes) : Prop where
  idBound : doc = sDid ++ method ++ 58 :: id
  method : method = sX509
  parsed : ∃ ref ids root v, parseX509Did id = .ok ref ∧ id = refText ref ∧ inp.chain = .chain ids ∧
    root ∈ ids ∧ targetOf ref.root = .hashOf root (lower ref.method) ∧
    v ∈ ids ∧ (inp.x5t = none ∨ inp.x5t = some (.hashOf v sSha1)) ∧ (inp.x5tS256 = none ∨ inp.x5tS256 = some (.hashOf v sSha256)) ∧
    (inp.x5t ≠ none ∨ inp.x5tS256 ≠ none) ∧
    (∀ p ∈ ref.policies, policyHolds tbl (inp.certs v) p) ∧ inp.crlOK = true

end Nuts.C18
