/-
  What a valid DAG (`DagOK`) knows: refs identify its transactions and none occurs twice, every prev is a member with a
  lower clock, clocks are contiguous; the highest clock and `FindBetweenLC` as functions of the set of transactions.
-/
import NutsProofs.Lemmas.C07
import NutsProofs.Lemmas.Base
open Nuts.Proto Nuts Nuts.Proto.L

namespace Nuts.Proto.Live

theorem present_iff {d : List Tx} {r : Ref} : present d r = true ↔ ∃ t ∈ d, t.ref = r := by
  unfold present
  simp [List.any_eq_true]

theorem present_false_iff {d : List Tx} {r : Ref} : present d r = false ↔ ∀ t ∈ d, t.ref ≠ r := by
  rw [← Bool.not_eq_true, present_iff]
  constructor
  · intro h t ht he; exact h ⟨t, ht, he⟩
  · rintro h ⟨t, ht, he⟩; exact h t ht he

theorem present_mono {d d' : List Tx} (h : ∀ t ∈ d, t ∈ d') {r : Ref} (hp : present d r = true) : present d' r = true := by
  obtain ⟨t, ht, hr⟩ := present_iff.mp hp
  exact present_iff.mpr ⟨t, h t ht, hr⟩

theorem lcStep_ge (a : Nat) (t : Tx) : a ≤ lcStep a t ∧ t.clock ≤ lcStep a t := by
  unfold lcStep; split <;> omega

theorem lcOf_spec (d : List Tx) : (∀ t ∈ d, t.clock ≤ lcOf d) ∧ (lcOf d = 0 ∨ ∃ t ∈ d, t.clock = lcOf d) :=
  (foldl_max_key (·.clock) (fun a t => by unfold lcStep; split <;> omega) d 0).2

theorem lcOf_ge (d : List Tx) : ∀ t ∈ d, t.clock ≤ lcOf d := (lcOf_spec d).1

theorem getTx_some_of_mem_nodup {d : List Tx} (hu : ∀ t ∈ d, ∀ t' ∈ d, t.ref = t'.ref → t = t') {t : Tx} (ht : t ∈ d) :
    getTx d t.ref = some t := by
  unfold getTx
  cases hf : d.find? (fun x => x.ref == t.ref) with
  | none =>
    have := List.find?_eq_none.mp hf t ht
    simp at this
  | some x =>
    have hx := List.mem_of_find?_eq_some hf
    have hr := List.find?_some hf
    simp only [beq_iff_eq] at hr
    rw [hu x hx t ht hr]

theorem dagOK_refs_nodup {d : List Tx} (h : DagOK d) : (d.map (·.ref)).Nodup := by
  induction h with
  | nil => exact List.nodup_nil
  | cons tx d _ _ hnp _ _ _ ih =>
    rw [List.map_cons, List.nodup_cons]
    refine ⟨?_, ih⟩
    intro hm
    obtain ⟨t, ht, hr⟩ := List.mem_map.mp hm
    have : present d tx.ref = true := present_iff.mpr ⟨t, ht, hr⟩
    rw [hnp] at this; cases this

theorem dagOK_unique {d : List Tx} (h : DagOK d) : ∀ t ∈ d, ∀ t' ∈ d, t.ref = t'.ref → t = t' :=
  fun _ ht _ ht' => pairwise_ne_inj (List.pairwise_map.mp (dagOK_refs_nodup h)) ht ht'

/-- what a valid DAG knows about each member: the part of the DAG that was there when it was added -/
theorem dagOK_mem : ∀ {d : List Tx}, DagOK d → ∀ t ∈ d, ∃ suf, (∀ x ∈ suf, x ∈ d) ∧ DagOK suf ∧ t.sigOK = true ∧
    present suf t.ref = false ∧ (∀ p ∈ t.prevs, present suf p = true) ∧ t.clock = expectedClock suf t.prevs ∧
    (t.prevs = [] → ∀ x ∈ suf, x.clock ≠ 0) := by
  intro d h
  induction h with
  | nil => intro t ht; cases ht
  | cons tx d hd hs hnew hp hc hr ih =>
    intro t ht
    rcases List.mem_cons.mp ht with rfl | h1
    · exact ⟨d, fun x hx => List.mem_cons_of_mem _ hx, hd, hs, hnew, hp, hc, hr⟩
    · obtain ⟨suf, h1, h2⟩ := ih t h1
      exact ⟨suf, fun x hx => List.mem_cons_of_mem _ (h1 x hx), h2⟩

theorem getTx_of_present {d : List Tx} {r : Ref} (h : present d r = true) : ∃ t, getTx d r = some t ∧ t ∈ d ∧ t.ref = r := by
  obtain ⟨t, ht, hr⟩ := present_iff.mp h
  unfold getTx
  cases hf : d.find? (fun x => x.ref == r) with
  | none =>
    have := List.find?_eq_none.mp hf t ht
    simp [hr] at this
  | some x =>
    exact ⟨x, rfl, List.mem_of_find?_eq_some hf, by simpa using List.find?_some hf⟩

theorem dagOK_prev {d : List Tx} (h : DagOK d) {t : Tx} (ht : t ∈ d) {p : Ref} (hp : p ∈ t.prevs) :
    ∃ t' ∈ d, t'.ref = p ∧ t'.clock < t.clock := by
  obtain ⟨suf, hsub, _, _, _, hpres, hclk, _⟩ := dagOK_mem h t ht
  obtain ⟨t', hg, hm, hr⟩ := getTx_of_present (hpres p hp)
  refine ⟨t', hsub t' hm, hr, ?_⟩
  rw [hclk]
  unfold expectedClock
  have hin : t' ∈ t.prevs.filterMap (getTx suf) := List.mem_filterMap.mpr ⟨p, hp, hg⟩
  split
  · rename_i hnil; rw [hnil] at hin; cases hin
  · rename_i ps hne
    have := lcOf_ge _ t' hin
    omega

theorem expectedClock_congr {d d' : List Tx} {prevs : List Ref} (h : ∀ p ∈ prevs, getTx d p = getTx d' p) :
    expectedClock d prevs = expectedClock d' prevs := by
  unfold expectedClock
  rw [filterMap_congr' h]

theorem have_present (d : List Tx) : ∀ r ∈ d.map (·.ref), present d r = true := by
  intro r hr
  obtain ⟨t, ht, rfl⟩ := List.mem_map.mp hr
  exact present_iff.mpr ⟨t, ht, rfl⟩

theorem dagOK_nodup {d : List Tx} (h : DagOK d) : d.Nodup :=
  List.Pairwise.of_map (·.ref) (fun _ _ hne he => hne (he ▸ rfl)) (dagOK_refs_nodup h)

theorem dag_eq_of_no_new {added d : List Tx} (h : DagOK (added ++ d)) (hno : ∀ t ∈ added ++ d, t ∈ d) : added = [] := by
  cases added with
  | nil => rfl
  | cons t rest =>
    exact absurd (List.mem_append_right rest (hno t List.mem_cons_self)) (List.nodup_cons.mp (dagOK_nodup h)).1

theorem dagOK_clock_below {d : List Tx} (h : DagOK d) : ∀ (n : Nat) (t : Tx), t ∈ d → t.clock = n → ∀ c, c < n → ∃ t' ∈ d, t'.clock = c := by
  intro n
  induction n using Nat.strongRecOn with
  | _ n ih =>
    intro t ht hc c hlt
    obtain ⟨suf, hsub, _, _, _, hpres, hclk, _⟩ := dagOK_mem h t ht
    -- the clock of t is 1 + the maximal clock of its prevs, which is attained
    unfold expectedClock at hclk
    split at hclk
    · omega
    · rename_i ps hne
      rcases (lcOf_spec (t.prevs.filterMap (getTx suf))).2 with hlc | ⟨tp, htp, hcp⟩
      · -- maximum is 0: some prev has clock 0 (list non-empty)
        cases hps : t.prevs.filterMap (getTx suf) with
        | nil => exact absurd hps hne
        | cons x xs =>
          have hx : x ∈ t.prevs.filterMap (getTx suf) := by rw [hps]; exact List.mem_cons_self
          have hxc := lcOf_ge _ x hx
          obtain ⟨r, _, hr⟩ := List.mem_filterMap.mp hx
          have hxm : x ∈ d := hsub x (getTx_mem hr)
          have : c = 0 := by rw [hlc] at hclk; omega
          exact ⟨x, hxm, by rw [hlc] at hxc; omega⟩
      · obtain ⟨r, _, hr⟩ := List.mem_filterMap.mp htp
        have htpm : tp ∈ d := hsub tp (getTx_mem hr)
        have hcp' : tp.clock + 1 = n := by rw [← hcp] at hclk; omega
        by_cases hceq : c = tp.clock
        · exact ⟨tp, htpm, hceq.symm⟩
        · exact ih tp.clock (by omega) tp htpm rfl c (by omega)

theorem lcOf_le_of_sub {d u : List Tx} (h : ∀ t ∈ d, t ∈ u) : lcOf d ≤ lcOf u := by
  rcases (lcOf_spec d).2 with h0 | ⟨t, ht, hc⟩
  · omega
  · rw [← hc]; exact lcOf_ge u t (h t ht)

theorem length_lt_of_new {d d' : List Tx} (hd : DagOK d) (hsub : ∀ t ∈ d, t ∈ d') (hnew : ∃ t ∈ d', t ∉ d) :
    d.length < d'.length := by
  obtain ⟨t, ht, hn⟩ := hnew
  have hnd : (t :: d).Nodup := List.nodup_cons.mpr ⟨hn, dagOK_nodup hd⟩
  have := hnd.length_le_of_subset (l₂ := d') (fun x hx => by
    rcases List.mem_cons.mp hx with rfl | h
    · exact ht
    · exact hsub x h)
  simp only [List.length_cons] at this
  omega

theorem length_le_of_sub {d d' : List Tx} (hd : DagOK d) (hsub : ∀ t ∈ d, t ∈ d') : d.length ≤ d'.length :=
  (dagOK_nodup hd).length_le_of_subset hsub

theorem findBetween_iff {d : List Tx} {s e : Nat} {t : Tx} : t ∈ findBetween d s e ↔ t ∈ d ∧ s ≤ t.clock ∧ t.clock < e := by
  unfold findBetween
  rw [(sortBy_perm txLt _).mem_iff]
  simp [List.mem_filter]

theorem findBetween_sorted (d : List Tx) (s e : Nat) : (findBetween d s e).Pairwise (fun x y => x.clock ≤ y.clock) := by
  unfold findBetween
  have hp := sortBy_pairwise txLt (fun _ _ => lexLt_asymm) (fun _ _ _ => lexLt_trans) (d.filter (fun t => s ≤ t.clock && t.clock < e))
  refine hp.imp ?_
  intro x y hle
  unfold leOf txLt at hle
  simp only [Bool.or_eq_false_iff, decide_eq_false_iff_not] at hle
  omega

end Nuts.Proto.Live
