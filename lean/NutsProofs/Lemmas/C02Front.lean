/-
  C02 — the public endpoints (NutsModel/C02/Jar.lean dispatchers, NutsModel/C02/Front.lean): the `response_type` and
  `grant_type` switches by cases, and the invariant of the session stores over all request sequences: any property of
  sessions that holds when the authorization endpoint creates one and does not depend on the `consumer` bookkeeping
  holds for every session in the client-state store and in the code store, forever.
-/
import NutsModel.C02.Front
import NutsProofs.Lemmas.C02S2S
import NutsProofs.Lemmas.C02Code
import NutsProofs.Lemmas.C02Parsers

namespace Nuts.C02

theorem authorizeRequest_err_unchanged (cfg : Cfg) (w w' : World) (now : Nat) (r : AuthReq) (e : String)
    (h : authorizeRequest cfg w now r = (w', .err e)) : w' = w := by
  rcases authorizeRequest_cases cfg w now r _ h with ⟨_, hx⟩ | ⟨_, _, _, _, _, _, ⟨_, hx⟩ | ⟨_, hx⟩⟩
  · exact congrArg Prod.fst hx
  · cases hx
  · cases hx

theorem authorizeDispatch_cases (cfg : Cfg) (w : World) (now : Nat) (subject : String) (p : Params) :
    (∃ e, authorizeDispatch cfg w now subject p = (w, .err e)) ∨
    (∃ s, authorizeDispatch cfg w now subject p = (w, .panic s)) ∨
    (pget p "response_type" = "code" ∧
      authorizeDispatch cfg w now subject p = authorizeRequest cfg w now (toAuthReq subject p)) := by
  fun_cases authorizeDispatch cfg w now subject p with
  | case1 hc => exact .inr (.inr ⟨hc, rfl⟩)
  | case4 => exact .inr (.inl ⟨_, rfl⟩)
  | case2 | case3 | case5 => exact .inl ⟨_, rfl⟩

theorem authorizeEndpoint_cases (cfg : Cfg) (enabled : Bool) (env : JarEnv) (w : World) (now : Nat) (r : AuthzHttp) :
    (∃ calls x, authorizeEndpoint cfg enabled env w now r = (w, calls, x) ∧ x.isOk = false) ∨
    ∃ calls p, enabled = true ∧ r.subject ∈ cfg.subjects ∧ jarParse env r.query = (calls, .ok p) ∧
      pget p "response_type" = "code" ∧
      authorizeEndpoint cfg enabled env w now r =
        ((authorizeRequest cfg w now (toAuthReq r.subject p)).1, calls,
         (authorizeRequest cfg w now (toAuthReq r.subject p)).2) := by
  fun_cases authorizeEndpoint cfg enabled env w now r with
  | case1 | case2 | case3 | case4 => exact .inl ⟨_, _, rfl, rfl⟩
  | case5 hen hsub calls p hjar w' res hd =>
    rcases authorizeDispatch_cases cfg w now r.subject p with ⟨_, hx⟩ | ⟨_, hx⟩ | ⟨hc, hx⟩
    · cases hd.symm.trans hx; exact .inl ⟨_, _, rfl, rfl⟩
    · cases hd.symm.trans hx; exact .inl ⟨_, _, rfl, rfl⟩
    · exact .inr ⟨calls, p, Bool.of_not_eq_false hen, Decidable.not_not.mp hsub, hjar, hc, by rw [← hx, hd]⟩

theorem classifyGrant_cases (n : GrantNames) (g : String) :
    (g = n.authorizationCode ∧ classifyGrant n g = .authorizationCode) ∨
    (g ≠ n.authorizationCode ∧ g = n.preAuthorizedCode ∧ classifyGrant n g = .preAuthorizedCode) ∨
    (g ≠ n.authorizationCode ∧ g ≠ n.preAuthorizedCode ∧ g = n.vpToken ∧ classifyGrant n g = .vpToken) ∨
    (g ≠ n.authorizationCode ∧ g ≠ n.preAuthorizedCode ∧ g ≠ n.vpToken ∧ classifyGrant n g = .other) := by
  unfold classifyGrant
  by_cases h1 : g = n.authorizationCode
  · exact .inl ⟨h1, if_pos h1⟩
  rw [if_neg h1]
  by_cases h2 : g = n.preAuthorizedCode
  · exact .inr (.inl ⟨h1, h2, if_pos h2⟩)
  rw [if_neg h2]
  by_cases h3 : g = n.vpToken
  · exact .inr (.inr (.inl ⟨h1, h2, h3, if_pos h3⟩))
  · exact .inr (.inr (.inr ⟨h1, h2, h3, if_neg h3⟩))

theorem tokenEndpoint_cases (cfg : Cfg) (n : GrantNames) (sha : String → String) (w : World) (now : Nat)
    (subject g : String) (s2s : S2SReq) (code : CodeReq) (out : World × Res TokenResponse)
    (h : tokenEndpoint cfg n sha w now subject g s2s code = out) :
    (∃ e, out = (w, .err e)) ∨
    subject ∈ cfg.subjects ∧
      ((g = n.authorizationCode ∧ out = issueCode cfg sha w now { code with subject := subject }) ∨
       (g ≠ n.authorizationCode ∧ g ≠ n.preAuthorizedCode ∧ g = n.vpToken ∧
          out = issueS2S cfg w now { s2s with subject := subject })) := by
  unfold tokenEndpoint at h
  rcases ite_eq_cases h with ⟨_, h⟩ | ⟨hs, h⟩
  · exact .inl ⟨_, h.symm⟩
  rcases classifyGrant_cases n g with ⟨hg, hc⟩ | ⟨_, _, hc⟩ | ⟨h1, h2, h3, hc⟩ | ⟨_, _, _, hc⟩ <;> rw [hc] at h
  · exact .inr ⟨Decidable.not_not.mp hs, .inl ⟨hg, h.symm⟩⟩
  · exact .inl ⟨_, h.symm⟩
  · exact .inr ⟨Decidable.not_not.mp hs, .inr ⟨h1, h2, h3, h.symm⟩⟩
  · exact .inl ⟨_, h.symm⟩

/-- both stores that hold authorization-code sessions -/
def SessOK (P : Session → Prop) (w : World) : Prop := AllVals P w.states ∧ AllVals P w.codes

theorem issueCode_sess (P : Session → Prop) (cfg : Cfg) (sha : String → String) (w : World) (t : Nat) (r : CodeReq)
    (h : SessOK P w) : SessOK P (issueCode cfg sha w t r).1 := by
  obtain ⟨_, hc, hm⟩ := issueCode_world cfg sha w t r
  obtain ⟨_, hcodes, _, hstates⟩ := hm.others
  refine ⟨hstates ▸ h.1, hcodes ▸ ?_⟩
  rcases hc with ⟨rfl, _⟩ | ⟨code, _, _, rfl⟩
  · exact h.2
  · exact allVals_del P _ _ h.2

theorem authorizeResponse_sess (P : Session → Prop) (hP : ∀ (s : Session) (c : Consumer), P s → P { s with consumer := c })
    (cfg : Cfg) (w : World) (t : Nat) (r : AuthResp) (h : SessOK P w) : SessOK P (authorizeResponse cfg w t r).1 := by
  rcases authorizeResponse_cases cfg w t r _ rfl with ⟨_, _, hw, _⟩ | ⟨state, session, _, _, d, _, _, hget, heff, _⟩
  · rw [hw]; exact h
  have hs : P (session.fulfilledWith r d) := hP _ _ (allVals_get P w.states t state session h.1 hget)
  cases heff with
  | code _ hw => rw [hw]; exact ⟨allVals_put P _ _ _ _ _ h.1 hs, allVals_put P _ _ _ _ _ h.2 hs⟩
  | next _ _ hw => rw [hw]; exact ⟨allVals_put P _ _ _ _ _ h.1 hs, h.2⟩

/-- a session that stems from a signed authorization request of the history `h` which the authorization endpoint accepted -/
def FromSignedRequest (cfg : Cfg) (h : List (Nat × Req)) (s : Session) : Prop :=
  ∃ t env r p, (t, Req.authz true env r) ∈ h ∧ r.subject ∈ cfg.subjects ∧ JarAccepted env r.query p ∧
    pget p "response_type" = "code" ∧ pget p "aud" = cfg.issuerURL r.subject ∧
    s.clientId = r.query.clientId ∧ s.ownSubject = r.subject ∧ s.scope = pget p "scope" ∧
    s.challenge = pget p "code_challenge" ∧ s.challenge ≠ "" ∧ s.method = "S256" ∧
    pget p "code_challenge_method" = "S256" ∧
    s.clientState = pget p "state" ∧ (cfg.definitions s.scope).isSome = true

theorem authorizeEndpoint_sess (cfg : Cfg) (enabled : Bool) (env : JarEnv) (w : World) (t : Nat) (r : AuthzHttp) :
    (authorizeEndpoint cfg enabled env w t r).1.codes = w.codes ∧
    ((authorizeEndpoint cfg enabled env w t r).1.states = w.states ∨
     ∃ state s, FromSignedRequest cfg [(t, .authz enabled env r)] s ∧
       (authorizeEndpoint cfg enabled env w t r).1.states = w.states.put t cfg.stateTtl state s) := by
  rcases authorizeEndpoint_cases cfg enabled env w t r with ⟨_, _, hx, _⟩ | ⟨calls, p, rfl, hsub, hjar, hrt, hx⟩
  · rw [hx]; exact ⟨rfl, .inl rfl⟩
  rw [hx]
  have hacc := jarParse_ok env r.query calls p hjar
  have hcid : pget p "client_id" = r.query.clientId := by
    obtain ⟨_, _, _, _, _, _, hc, _⟩ := hacc
    exact hc
  rcases authorizeRequest_cases cfg w t (toAuthReq r.subject p) _ rfl with
    ⟨_, hq⟩ | ⟨defs, _, haud, hch, hm, hdefs, ⟨_, hq⟩ | ⟨_, hq⟩⟩
  · rw [hq]; exact ⟨rfl, .inl rfl⟩
  all_goals
    rw [hq]
    exact ⟨rfl, .inr ⟨_, _, ⟨t, env, r, p, List.mem_cons_self, hsub, hacc, hrt, haud, hcid, rfl, rfl, rfl, hch, rfl, hm,
      rfl, Option.isSome_iff_exists.2 ⟨_, hdefs⟩⟩, rfl⟩⟩

theorem serve_sess (P : Session → Prop) (hP : ∀ (s : Session) (c : Consumer), P s → P { s with consumer := c })
    (cfg : Cfg) (n : GrantNames) (sha : String → String) (w : World) (t : Nat) (q : Req) (h : SessOK P w)
    (hnew : ∀ s, FromSignedRequest cfg [(t, q)] s → P s) : SessOK P (serve cfg n sha w t q) := by
  cases q with
  | authz en env r =>
    obtain ⟨hc, hs⟩ := authorizeEndpoint_sess cfg en env w t r
    show SessOK P (authorizeEndpoint cfg en env w t r).1
    refine ⟨?_, by rw [hc]; exact h.2⟩
    rcases hs with hs | ⟨state, s, hf, hs⟩
    · rw [hs]; exact h.1
    · rw [hs]; exact allVals_put P _ _ _ _ _ h.1 (hnew s hf)
  | authresp r =>
    show SessOK P (authorizeResponse cfg w t r).1
    exact authorizeResponse_sess P hP cfg w t r h
  | token s g a c =>
    show SessOK P (tokenEndpoint cfg n sha w t s g a c).1
    rcases tokenEndpoint_cases cfg n sha w t s g a c _ rfl with ⟨_, hx⟩ | ⟨_, ⟨_, hx⟩ | ⟨_, _, _, hx⟩⟩ <;> rw [hx]
    · exact h
    · exact issueCode_sess P cfg sha w t _ h
    · obtain ⟨_, _, hm⟩ := issueS2S_world cfg w t { a with subject := s }
      obtain ⟨_, hcodes, _, hstates⟩ := hm.others
      exact ⟨hstates ▸ h.1, hcodes ▸ h.2⟩

theorem serveAll_sess (cfg : Cfg) (n : GrantNames) (sha : String → String) (h : List (Nat × Req)) :
    ∀ (suf : List (Nat × Req)) (w : World), (∀ x ∈ suf, x ∈ h) → SessOK (FromSignedRequest cfg h) w →
      SessOK (FromSignedRequest cfg h) (serveAll cfg n sha suf w) := by
  intro suf
  induction suf with
  | nil => intro w _ hw; exact hw
  | cons x rest ih =>
    intro w hsub hw
    obtain ⟨t, q⟩ := x
    unfold serveAll
    apply ih
    · intro y hy; exact hsub y (List.mem_cons_of_mem _ hy)
    · refine serve_sess (FromSignedRequest cfg h) (fun _ _ hs => hs) cfg n sha w t q hw ?_
      rintro s ⟨t', env, r, p, hm, hb⟩
      cases List.mem_singleton.1 hm
      exact ⟨t, env, r, p, hsub _ List.mem_cons_self, hb⟩

end Nuts.C02
