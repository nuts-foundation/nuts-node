import NutsModel.C17.TokenPolicy
import NutsProofs.Lemmas.C04Token

namespace Nuts.C17
open Nuts.C04

/-! ### what acceptance implies, consumer by consumer

Every consumer is a chain of guards `if g then .reject else …` ending in `.accept`; an accepted token passed each guard.
A consumer's `X_accept` reads the accepting leaf of the consumer's own case principle (`fun_cases`, which hands over a passed
guard `if !b` as `¬(!b) = true`: `of_not_bnot`); a consumer that wraps `parseJWT` in further guards (`jarValidate`,
`vcJwtSignature`, `authzV1`) is read down to the inner `parseJWT … = .accept vs`, so what it adds stands beside `parseJWT_accept`. -/

theorem of_not_bnot {b : Bool} (h : ¬(!b) = true) : b = true := by
  cases b
  · exact absurd rfl h
  · rfl

theorem of_accept_or_reject {c : Prop} [Decidable c] {us vs : List Verified}
    (h : (if c then .accept us else .reject) = Outcome.accept vs) : c ∧ vs = us := by
  by_cases hc : c
  · rw [if_pos hc] at h; injection h with h; exact ⟨hc, h.symm⟩
  · rw [if_neg hc] at h; cases h

theorem parseJWT_accept {sup : List String} {E : Env} {j : Jws} {vs : List Verified}
    (h : parseJWT sup E j = .accept vs) :
    ∃ s k, j.sigs = [s] ∧ vs = [{ key := k, src := .resolver s.kid, alg := s.alg, idx := 0, overSigningInput := true }] ∧
      E.resolve s.kid = some k ∧ s.alg ∈ sup ∧ E.verifies k s.alg 0 = true ∧ E.fits k s.alg = true ∧ j.parses = true := by
  revert h
  fun_cases parseJWT sup E j with
  | case5 hp s hs k hk hsup hfit hver =>
    intro h
    injection h with h
    exact ⟨s, k, hs, h.symm, hk, List.contains_iff_mem.1 (of_not_bnot hsup), hver, of_not_bnot hfit, of_not_bnot hp⟩
  | _ => nofun

/-- the same guards; only the allow-list test stands before the key lookup here and after it in ParseJWT -/
theorem parseJWS_eq_parseJWT (sup : List String) (E : Env) (j : Jws) :
    parseJWS sup .exactlyOne .library E j = parseJWT sup E j := by
  unfold parseJWS parseJWT
  match j.sigs with
  | [] | _ :: _ :: _ => cases j.parses <;> rfl
  | [s] =>
    cases hk : E.resolve s.kid with
    | none => simp only [jwsLoop, hk]; cases j.parses <;> cases sup.contains s.alg <;> rfl
    | some k =>
      simp only [jwsLoop, hk]
      cases j.parses <;> cases sup.contains s.alg <;> cases E.fits k s.alg <;> cases E.verifies k s.alg 0 <;> rfl

theorem dpop_accept {sup : List String} {typ : String} {E : Env} {c : Bool} {j : Jws} {vs : List Verified}
    (h : dpopParse sup typ E c j = .accept vs) :
    ∃ s k, j.sigs = [s] ∧ vs = [{ key := k, src := .embedded 0, alg := s.alg, idx := 0, overSigningInput := true }] ∧
      s.alg ∈ sup ∧ s.typ = typ ∧ s.jwk ≠ .absent ∧ s.jwk ≠ .priv ∧ E.embeddedKey 0 = some k ∧ E.verifies k s.alg 0 = true ∧ E.fits k s.alg = true := by
  revert h
  fun_cases dpopParse sup typ E c j with
  | case10 hp s hs hsup htyp hj1 hj2 k hk hfit hver hc =>
    intro h
    injection h with h
    exact ⟨s, k, hs, h.symm, List.contains_iff_mem.1 (of_not_bnot hsup), Decidable.not_not.1 htyp, hj1, hj2, hk, of_not_bnot hver, of_not_bnot hfit⟩
  | _ => nofun

theorem dagTx_accept {allowed : List String} {rej strict : Bool} {E : Env} {o fr : Bool} {j : Jws} {vs : List Verified}
    (h : dagTx allowed rej strict E o fr j = .accept vs) :
    (strict = true → fr = true) ∧ ∃ s k src, j.sigs = [s] ∧ vs = [{ key := k, src := src, alg := s.alg, idx := 0, overSigningInput := true }] ∧
      s.alg ∈ allowed ∧ E.verifies k s.alg 0 = true ∧ E.fits k s.alg = true ∧
      ((src = .embedded 0 ∧ E.embeddedKey 0 = some k ∧ s.jwk ≠ .absent ∧ s.kid = "") ∨
       (src = .resolver s.kid ∧ E.resolve s.kid = some k ∧ s.jwk = .absent ∧ s.kid ≠ "")) ∧
      (rej = true → s.jwk ≠ .priv) := by
  revert h
  fun_cases dagTx allowed rej strict E o fr j with
  | case10 hp hfr s hs hal ho hxor hpriv key k src hk hfit hver =>
    intro h
    injection h with h
    refine ⟨fun hst => ?_, s, k, src, hs, h.symm, List.contains_iff_mem.1 (of_not_bnot hal), hver, of_not_bnot hfit, ?_,
      fun hr hp => hpriv (by rw [hr, hp]; rfl)⟩
    · cases fr
      · exact absurd (by rw [hst]; rfl) hfr
      · rfl
    -- the key: embedded when a jwk header is present, else the resolver's for the kid
    by_cases hj : s.jwk = .absent
    · simp only [key, if_neg (not_not_intro hj), Option.map_eq_some_iff, Prod.mk.injEq] at hk
      obtain ⟨_, hr, rfl, rfl⟩ := hk
      exact .inr ⟨rfl, hr, hj, fun hk0 => hxor (by simp [hj, hk0])⟩
    · simp only [key, if_pos hj, Option.map_eq_some_iff, Prod.mk.injEq] at hk
      obtain ⟨_, hr, rfl, rfl⟩ := hk
      exact .inl ⟨rfl, hr, hj, Decidable.byContradiction fun hk0 => hxor (by simp [hj, hk0])⟩
  | _ => nofun

theorem jar_accept {sup : List String} {E : Env} {J : JarEnv} {j : Jws} {vs : List Verified}
    (h : jarValidate sup E J j = .accept vs) :
    parseJWT sup E j = .accept vs ∧ J.clientIdMatches = true ∧
      (∀ s v, j.sigs = [s] → vs = [v] → v.src = .resolver s.kid → J.clientKey s.kid = some v.key) := by
  revert h
  fun_cases jarValidate sup E J j with
  | case5 hcid _ v kid hsrc hp hck =>
    intro h
    injection h with h
    subst h
    refine ⟨hp, of_not_bnot hcid, fun s v' _ hv hsrc' => ?_⟩
    cases hv
    cases hsrc.symm.trans hsrc'
    exact hck
  | _ => nofun

theorem vcJwt_accept {sup : List String} {E : Env} {issuer : String} {didOf : String → String} {j : Jws} {vs : List Verified}
    (h : vcJwtSignature sup E issuer didOf j = .accept vs) :
    parseJWT sup { E with resolve := fun kid => E.resolve (if kid = "" then issuer else kid) } j = .accept vs ∧
      ∀ s, j.sigs = [s] → s.kid ≠ "" → didOf s.kid = issuer := by
  revert h
  fun_cases vcJwtSignature sup E issuer didOf j with
  | case3 E' a hp s hs hk =>
    intro h
    injection h with h
    subst h
    refine ⟨hp, fun s' hs' hne => ?_⟩
    cases hs.symm.trans hs'
    simpa [hne] using hk
  | _ => nofun

theorem authzV1_accept {sup : List String} {E : Env} {issuer : String} {ip : Bool} {didOf : String → String} {j : Jws}
    {vs : List Verified} (h : authzV1 sup true E issuer ip didOf j = .accept vs) :
    parseJWT sup E j = .accept vs ∧ ip = true ∧ ∀ s, j.sigs = [s] → didOf s.kid = issuer := by
  revert h
  fun_cases authzV1 sup true E issuer ip didOf j with
  | case4 a hp hip s hs hk =>
    intro h
    injection h with h
    subst h
    refine ⟨hp, of_not_bnot hip, fun s' hs' => ?_⟩
    cases hs.symm.trans hs'
    simpa using hk
  | _ => nofun

theorem firstVerifying_eq (n : Nat) : ∀ l : List Bool, firstVerifying n l = (l.findIdx? id).map (n + ·)
  | [] => rfl
  | b :: r => by
    rw [firstVerifying, List.findIdx?_cons, firstVerifying_eq (n + 1) r]
    cases b
    · simp only [id, Bool.false_eq_true, if_false, Option.map_map]
      exact congrArg (Option.map · _) (funext fun m => by simp only [Function.comp]; omega)
    · rfl

theorem firstVerifying_spec {n i : Nat} {l : List Bool} (h : firstVerifying n l = some i) :
    ∃ m, i = n + m ∧ l[m]? = some true := by
  rw [firstVerifying_eq, Option.map_eq_some_iff] at h
  obtain ⟨m, hm, rfl⟩ := h
  obtain ⟨hlt, hp, _⟩ := List.findIdx?_eq_some_iff_getElem.1 hm
  exact ⟨m, rfl, by rw [List.getElem?_eq_getElem hlt]; exact congrArg some hp⟩

theorem firstVerifying_some_of_mem {n : Nat} {l : List Bool} (h : true ∈ l) : ∃ i, firstVerifying n l = some i := by
  rw [firstVerifying_eq]
  cases hf : l.findIdx? id with
  | none => exact absurd (List.findIdx?_eq_none_iff.1 hf true h) (by decide)
  | some m => exact ⟨_, rfl⟩

theorem apiToken_accept {P : Policy} {aud : String} {keys : List AuthKey} {now : Int} {hdr : Str} {a : Analysis} {vs : List Verified}
    (hrule : P.sigRule = .exactlyOne) (hforb : P.forbiddenHdrs = ["jwk", "jku", "x5c", "x5u"])
    (h : apiToken P aud keys now hdr a = .accept vs) :
    ∃ s i u, a.sigs = [s] ∧
      vs = [{ key := "authorized-key", src := .authorizedKeys i, alg := (a.sigs.head?.map (·.alg)).getD "", idx := 0,
              overSigningInput := true }] ∧
      s.alg ∈ P.acceptableAlgs ∧ (∀ x ∈ ["jwk", "jku", "x5c", "x5u"], x ∉ s.hdrs) ∧ a.verifies[i]? = some true ∧
      ∃ k, (k, true) ∈ keys.zip a.verifies ∧ k.comment = u ∧ a.claims.iss = some u := by
  unfold apiToken at h
  split at h; · cases h
  next u hd =>
  obtain ⟨_, hsec, k, hk, _, _, hiss, hcom⟩ := tokenDecision_granted hd
  obtain ⟨_, _, hsigs, hcount⟩ := credentialIsSecure_true.mp hsec
  obtain ⟨i, hi⟩ := firstVerifying_some_of_mem (n := 0) (List.of_mem_zip hk).2
  rw [hi] at h
  injection h with h
  obtain ⟨m, hm, hl⟩ := firstVerifying_spec hi
  obtain rfl : i = m := by omega
  simp only [sigCountOK, hrule, decide_eq_true_eq] at hcount
  match hs : a.sigs, hcount with
  | [s], _ =>
    obtain ⟨hal, hno⟩ := sigSecure_true.mp (hsigs s (by simp [hs]))
    exact ⟨s, i, u, rfl, by rw [← h, hs], hal, hforb ▸ hno, hl, k, hk, hcom, hiss⟩

theorem apiToken_forbidden_header {P : Policy} {aud : String} {keys : List AuthKey} {now : Int} {hdr : Str} {a : Analysis}
    {s : SigHdr} {x : String} (hforb : P.forbiddenHdrs = ["jwk", "jku", "x5c", "x5u"])
    (hs : s ∈ a.sigs) (hx : x ∈ s.hdrs) (hf : x ∈ ["jwk", "jku", "x5c", "x5u"]) :
    apiToken P aud keys now hdr a = .reject := by
  unfold apiToken
  cases hd : tokenDecision P aud keys now hdr a with
  | denied => rfl
  | granted u =>
    -- a granted token passed `sigSecure` for every signature, `s` included
    obtain ⟨_, hsec, _⟩ := tokenDecision_granted hd
    exact absurd hx ((sigSecure_true.mp ((credentialIsSecure_true.mp hsec).2.2.1 s hs)).2 x (hforb ▸ hf))

theorem ldProof_accept {L : LdEnv} {key : Key} {canon : Bool} {parts : Nat} {dec : Bool} {vs : List Verified}
    (h : ldProofVerify L key canon parts dec = .accept vs) :
    ∃ alg, vs = [{ key := key, src := .caller, alg := alg, idx := 0, overSigningInput := true }] ∧
      L.keyAlg key = some alg ∧ L.verifiesDetached key alg = true ∧ parts = 2 ∧ L.fits key alg = true ∧
      canon = true ∧ dec = true := by
  revert h
  fun_cases ldProofVerify L key canon parts dec with
  | case6 hcanon alg hka hfit hparts hdec hver =>
    intro h
    injection h with h
    exact ⟨alg, h.symm, hka, hver, Decidable.not_not.1 hparts, of_not_bnot hfit, of_not_bnot hcanon, of_not_bnot hdec⟩
  | _ => nofun

end Nuts.C17
