/-
  C20 — `http/client` on the bytes (NutsModel/C20/Outbound.lean): the response cap for any cap, and the byte-level `Do` as a
  refinement of C18's `strictDo`.
-/
import NutsModel.C20.Outbound

namespace Nuts.C20
open Nuts Nuts.C18

theorem limitedReadAll_exact (cap : Nat) (wire : Bytes) :
    limitedReadAll (cap + 1) (fun n => decide (n > cap)) wire =
      if wire.length ≤ cap then .ok wire else .err "http:toolarge" := by
  simp only [limitedReadAll, limitRead]
  by_cases h : wire.length ≤ cap
  · simp [h, List.take_of_length_le (Nat.le_succ_of_le h), Nat.not_lt.mpr h]
  · simp [h, List.length_take, Nat.min_eq_left (Nat.lt_of_not_le h)]

theorem clientLoopB_refines (cap : Nat) (pol : Policy) (strict : Bool) (srv : Nat → Req → Option (Resp × Bytes)) (first : Req) :
    ∀ (fuel : Nat) (reqs : List Req) (cur : Req),
      clientLoop pol strict (absSrv cap srv) first fuel reqs cur =
        ((clientLoopB pol strict srv first fuel reqs cur).1, absRes cap (clientLoopB pol strict srv first fuel reqs cur).2) := by
  intro fuel
  induction fuel with
  | zero => intro reqs cur; simp [clientLoop, clientLoopB, absRes]
  | succ n ih =>
    intro reqs cur
    unfold clientLoop clientLoopB
    simp only [absSrv]
    cases hs : srv reqs.length cur with
    | none => simp [absRes]
    | some rw =>
      obtain ⟨resp, wire⟩ := rw
      simp only [Option.map, absResp]
      by_cases h1 : isRedirect resp.status
      · by_cases h2 : resp.loc = []
        · simp [h1, h2, absRes, absResp]
        · simp only [h1, h2]
          cases ht : redirectTarget cur resp.loc with
          | err e => simp [absRes]
          | panic p => simp [absRes]
          | ok nxt =>
            simp only
            cases hc : checkRedirect pol strict first nxt (reqs ++ [cur]).length with
            | err e => simp [absRes]
            | panic p => simp [absRes]
            | ok u => simpa using ih (reqs ++ [cur]) nxt
      · simp [h1, absRes, absResp]

theorem strictDoBytes_refines (cap : Nat) (pol : Policy) (strict : Bool) (srv : Nat → Req → Option (Resp × Bytes)) (req : Req) :
    strictDo pol strict (absSrv cap srv) req =
      ((strictDoBytes pol strict (cap + 1) (fun n => decide (n > cap)) srv req).1,
       absRes cap (strictDoBytes pol strict (cap + 1) (fun n => decide (n > cap)) srv req).2) := by
  unfold strictDo
  rw [clientLoopB_refines]
  fun_cases strictDoBytes pol strict (cap + 1) (fun n => decide (n > cap)) srv req with
  | case1 h => rw [if_pos h]; rfl
  | case2 h reqs resp wire hl _ hb | case3 h reqs resp wire hl _ hb | case4 h reqs resp wire hl _ hb =>
    rw [limitedReadAll_exact] at hb
    rw [if_neg h, hl]
    by_cases hw : wire.length ≤ cap <;> simp [hw] at hb <;> simp [← hb, absRes, absResp, hw]
  | case5 h hno =>
    rw [if_neg h]
    rcases hr : clientLoopB pol strict srv req (pol.maxRedirects + 2) [] req with ⟨reqs, _ | _ | _⟩
    · cases hno _ _ _ hr
    all_goals rfl

theorem strictDoBytes_ok (cap : Nat) (pol : Policy) (strict : Bool) (srv : Nat → Req → Option (Resp × Bytes)) (req : Req)
    (reqs : List Req) (resp : Resp) (body : Bytes)
    (h : strictDoBytes pol strict (cap + 1) (fun n => decide (n > cap)) srv req = (reqs, .ok (resp, body))) :
    body.length ≤ cap ∧ clientLoopB pol strict srv req (pol.maxRedirects + 2) [] req = (reqs, .ok (resp, body)) := by
  revert h
  fun_cases strictDoBytes pol strict (cap + 1) (fun n => decide (n > cap)) srv req with
  | case2 _ reqs' resp' wire hl body' hb =>
    intro h
    cases h
    rw [limitedReadAll_exact] at hb
    by_cases hw : wire.length ≤ cap
    · rw [if_pos hw] at hb; cases hb; exact ⟨hw, hl⟩
    · rw [if_neg hw] at hb; cases hb
  | case5 _ hno => exact fun h => (hno _ _ _ h).elim
  | _ => nofun

end Nuts.C20
