/-
  C16 — the node around the lists: what `Module.Configure` loads (its two loops in closed form), where a request is routed,
  the one store of all lists under `Register`, and what holds of every list of a node.
-/
import NutsModel.C16.Node
import NutsModel.C16.Spec
import NutsProofs.Lemmas.C16Hist
import NutsProofs.Lemmas.Base

namespace Nuts.C16

/-! ### association lists -/

theorem nalGet_nil {ν} (k : String) : alGet ([] : List (String × ν)) k = none := rfl

theorem nalGet_append_single {ν} (m : List (String × ν)) (k' : String) (v : ν) (k : String) :
    alGet (m ++ [(k', v)]) k = match alGet m k with
      | some x => some x
      | none => if k' = k then some v else none := by
  induction m with
  | nil => simp only [List.nil_append, alGet_cons, alGet_nil, beq_iff_eq]
  | cons p m ih =>
    rw [List.cons_append, alGet_cons, alGet_cons, ih]
    split <;> rfl

theorem DefMap.get_nil (k : String) : DefMap.get [] k = none := rfl

/-! ### `loadDefinitions(directory)` and the loop over the server ids in `Module.loadDefinitions` -/

/-- the definition `s` was read from an eligible, readable, parseable file of the directory -/
def FromEntry (isDefFile : String → Bool) (entries : List DirEntry) (s : Service) : Prop :=
  ∃ e ∈ entries, e.isDir = false ∧ isDefFile e.name = true ∧ e.readOk = true ∧ e.parsed = some s

/-- an entry the loop does not skip -/
def DirEntry.eligible (isDefFile : String → Bool) (e : DirEntry) : Bool := !e.isDir && isDefFile e.name

theorem loadDir_ok (f : String → Bool) : ∀ (es : List DirEntry) (acc all : DefMap), loadDir f acc es = .ok all →
    (∀ e ∈ es, e.eligible f = true → e.readOk = true ∧ e.parsed.isSome = true) ∧
    all = acc ++ ((es.filter (·.eligible f)).filterMap (·.parsed)).map (fun s => (s.d.id, s)) ∧
    ((acc.map (·.1)).Nodup → (all.map (·.1)).Nodup) := by
  intro es acc all h
  have hel : ∀ e : DirEntry, e.eligible f = !(e.isDir || !(f e.name)) := fun e => by
    unfold DirEntry.eligible; cases e.isDir <;> cases f e.name <;> rfl
  fun_induction loadDir f acc es with
  | case1 acc => cases h; exact ⟨fun _ h => (nomatch h), (List.append_nil _).symm, id⟩
  | case2 acc e es hskip ih =>
    obtain ⟨a, b, c⟩ := ih h
    have hel : e.eligible f = false := by rw [hel, hskip]; rfl
    refine ⟨fun e' he' hel' => ?_, by rw [List.filter_cons_of_neg (by rw [hel]; exact Bool.false_ne_true)]; exact b, c⟩
    rcases List.mem_cons.mp he' with rfl | he'
    · rw [hel] at hel'; cases hel'
    · exact a e' he' hel'
  | case6 acc e es hskip hr s hp hg ih =>
    obtain ⟨a, b, c⟩ := ih h
    have hel : e.eligible f = true := by rw [hel, Bool.of_not_eq_true hskip]; rfl
    refine ⟨fun e' he' hel' => ?_, ?_, fun hn => c ?_⟩
    · rcases List.mem_cons.mp he' with rfl | he'
      · exact ⟨Bool.of_not_eq_false fun hb => hr (by rw [hb]; rfl), by rw [hp]; rfl⟩
      · exact a e' he' hel'
    · rw [b, List.filter_cons_of_pos hel, List.filterMap_cons_some hp, List.append_assoc]; rfl
    · rw [List.map_append]
      exact nodup_snoc hn (alGet_eq_none_iff.mp hg)
  | _ => cases h

theorem serverDefs_ok (all : DefMap) : ∀ (ids : List String) (acc srv : DefMap), serverDefs all acc ids = .ok srv →
    (∀ k ∈ ids, alGet all k ≠ none) ∧ ∀ k, alGet srv k = if k ∈ ids then alGet all k else alGet acc k := by
  intro ids
  induction ids with
  | nil => intro acc srv h; cases h; exact ⟨fun _ h => (nomatch h), fun _ => rfl⟩
  | cons id ids ih =>
    intro acc srv h
    rw [serverDefs] at h
    cases hg : DefMap.get all id <;> simp only [hg] at h
    · cases h
    rename_i s
    obtain ⟨a, b⟩ := ih _ _ h
    refine ⟨fun k hk => ?_, fun k => ?_⟩
    · rcases List.mem_cons.mp hk with rfl | hk
      · exact fun h0 => nomatch hg.symm.trans h0
      · exact a k hk
    · rw [b k]
      by_cases hki : k = id
      · subst hki
        rw [alGet_alPut_self, if_pos List.mem_cons_self, ← hg]; exact ite_self _
      · rw [alGet_alPut_of_ne _ _ hki]
        simp only [List.mem_cons, hki, false_or]

/-! ### what `Module.Configure` guarantees -/

structure DefsOK (isDefFile : String → Bool) (c : NodeCfg) (entries : List DirEntry) (defs : Defs) : Prop where
  /-- one definition per id; the key is the definition's own id -/
  nodup : (defs.all.map (·.1)).Nodup
  keyId : ∀ k s, defs.all.get k = some s → s.d.id = k
  /-- every definition was read from an eligible file of the directory -/
  fromFile : ∀ k s, defs.all.get k = some s → FromEntry isDefFile entries s
  /-- and every eligible file is there -/
  complete : ∀ e ∈ entries, e.eligible isDefFile = true → ∃ s, e.parsed = some s ∧ defs.all.get s.d.id = some s
  /-- the served lists are exactly the configured ids, each WITH its definition -/
  served : ∀ k s, defs.server.get k = some s → defs.all.get k = some s ∧ k ∈ c.serverIds
  servedAll : ∀ k ∈ c.serverIds, defs.server.get k ≠ none

theorem defsOK_empty (isDefFile : String → Bool) (c : NodeCfg) (entries : List DirEntry)
    (hc : ∀ e ∈ entries, e.eligible isDefFile = false) (hs : c.serverIds = []) :
    DefsOK isDefFile c entries {} where
  nodup := List.nodup_nil
  keyId := fun k _ h => nomatch (DefMap.get_nil k).symm.trans h
  fromFile := fun k _ h => nomatch (DefMap.get_nil k).symm.trans h
  complete := by intro e he h; rw [hc e he] at h; cases h
  served := fun k _ h => nomatch (DefMap.get_nil k).symm.trans h
  servedAll := by intro k hk; rw [hs] at hk; cases hk

/-- `Module.loadDefinitions` succeeds in two ways: nothing is configured (or the default directory is missing) and nothing
    is loaded — the configured server ids are then ignored —, or the directory is read and both loops succeed (the test
    `len(ids) > 0` only spares the second loop a run over no ids) -/
theorem configure_ok {f : String → Bool} {dd : String} {c : NodeCfg} {stat : DirStat} {rd : Bool} {es : List DirEntry} {defs : Defs}
    (h : configure f dd c stat rd es = .ok defs) :
    (defs.all = [] ∧ defs.server = [] ∧ (c.dir = "" ∨ (stat = .absent ∧ c.dir = dd))) ∨
    (c.dir ≠ "" ∧ stat = .present ∧ rd = true ∧ loadDir f [] es = .ok defs.all ∧
      serverDefs defs.all [] c.serverIds = .ok defs.server) := by
  revert h
  fun_cases configure f dd c stat rd es with
  | case1 stat hd => rintro ⟨⟩; exact .inl ⟨rfl, rfl, .inl hd⟩
  | case2 hd hdd => rintro ⟨⟩; exact .inl ⟨rfl, rfl, .inr ⟨rfl, hdd⟩⟩
  | case10 hd hrd all hl hlen srv hs =>
    rintro ⟨⟩; exact .inr ⟨hd, rfl, by simpa using hrd, hl, hs⟩
  | case11 hd hrd all hl hlen =>
    rintro ⟨⟩
    refine .inr ⟨hd, rfl, by simpa using hrd, hl, ?_⟩
    rw [show c.serverIds = [] from List.eq_nil_of_length_eq_zero (Nat.eq_zero_of_not_pos hlen)]; rfl
  | _ => exact fun h => nomatch h

theorem defsOK_of_loaded {f : String → Bool} {c : NodeCfg} {es : List DirEntry} {defs : Defs} (hl : loadDir f [] es = .ok defs.all)
    (hs : serverDefs defs.all [] c.serverIds = .ok defs.server) : DefsOK f c es defs := by
  obtain ⟨hread, hall, hn⟩ := loadDir_ok f es [] defs.all hl
  replace hn := hn List.nodup_nil
  rw [List.nil_append] at hall
  have hmem : ∀ k s, (k, s) ∈ defs.all ↔ s.d.id = k ∧ ∃ e ∈ es, e.eligible f = true ∧ e.parsed = some s := by
    intro k s
    rw [hall]
    simp only [List.mem_map, List.mem_filterMap, List.mem_filter, Prod.mk.injEq]
    exact ⟨fun ⟨_, ⟨e, he, hp⟩, e1, e2⟩ => ⟨e2 ▸ e1, e, he.1, he.2, e2 ▸ hp⟩, fun ⟨e1, e, he, hel, hp⟩ => ⟨s, ⟨e, ⟨he, hel⟩, hp⟩, e1, rfl⟩⟩
  have hkey : ∀ k s, alGet defs.all k = some s → s.d.id = k ∧ FromEntry f es s := by
    intro k s hk
    obtain ⟨e1, e, he, hel, hp⟩ := (hmem k s).mp (mem_of_alGet_eq_some hk)
    have hel' : (!e.isDir && f e.name) = true := hel
    rw [Bool.and_eq_true, Bool.not_eq_true'] at hel'
    exact ⟨e1, e, he, hel'.1, hel'.2, (hread e he hel).1, hp⟩
  have hget := serverDefs_ok defs.all c.serverIds [] defs.server hs
  refine ⟨hn, fun k s hk => (hkey k s hk).1, fun k s hk => (hkey k s hk).2, fun e he hel => ?_, fun k s hk => ?_, fun k hk => ?_⟩
  · obtain ⟨s, hp⟩ := Option.isSome_iff_exists.mp (hread e he hel).2
    exact ⟨s, hp, alGet_of_mem_of_nodup hn ((hmem _ s).mpr ⟨rfl, e, he, hel, hp⟩)⟩
  · have := hget.2 k
    rw [show alGet defs.server k = some s from hk] at this
    split at this
    · exact ⟨this.symm, ‹_›⟩
    · cases this
  · show alGet defs.server k ≠ none
    rw [hget.2 k, if_pos hk]
    exact hget.1 k hk

/-! ### routing -/

theorem route_cases (defs : Defs) (sid : String) (f : Fwd) :
    (∃ s x, defs.server.get sid = some x ∧ defs.all.get sid = some s ∧ route defs sid f = .serve s) ∨
    (∃ x, defs.server.get sid = some x ∧ defs.all.get sid = none ∧ route defs sid f = .inconsistent) ∨
    (defs.server.get sid = none ∧ defs.all.get sid = none ∧ route defs sid f = .notFound) ∨
    (∃ s, defs.server.get sid = none ∧ defs.all.get sid = some s ∧ cycleDetected f s = true ∧ route defs sid f = .cycle) ∨
    (∃ s, defs.server.get sid = none ∧ defs.all.get sid = some s ∧ cycleDetected f s = false ∧ route defs sid f = .forward s) := by
  fun_cases route defs sid f with
  | case1 x h1 s h2 => exact .inl ⟨s, x, h1, h2, rfl⟩
  | case2 x h1 h2 => exact .inr (.inl ⟨x, h1, h2, rfl⟩)
  | case3 h1 h2 => exact .inr (.inr (.inl ⟨h1, h2, rfl⟩))
  | case4 h1 s h2 h3 => exact .inr (.inr (.inr (.inl ⟨s, h1, h2, h3, rfl⟩)))
  | case5 h1 s h2 h3 => exact .inr (.inr (.inr (.inr ⟨s, h1, h2, Bool.of_not_eq_true h3, rfl⟩)))

theorem route_serve_or (defs : Defs) (sid : String) (f : Fwd) :
    (∃ s x, defs.server.get sid = some x ∧ defs.all.get sid = some s ∧ route defs sid f = .serve s) ∨
    ∀ svc, route defs sid f ≠ .serve svc := by
  rcases route_cases defs sid f with h | ⟨_, _, _, h⟩ | ⟨_, _, h⟩ | ⟨_, _, _, _, h⟩ | ⟨_, _, _, _, h⟩
  · exact .inl h
  all_goals exact .inr fun svc hr => by rw [h] at hr; cases hr

theorem resolveStatus_mem (table : List (String × Nat)) (dflt : Nat) (k : ErrKind) :
    resolveStatus table dflt k = dflt ∨ ∃ p ∈ table, resolveStatus table dflt k = p.2 := by
  unfold resolveStatus
  split
  · exact .inr ⟨_, List.mem_of_find?_eq_some ‹_›, rfl⟩
  · exact .inl rfl

/-! ### the node's store -/

theorem node_register_served (n : Node) (now fresh : Nat) (sid : String) (f : Fwd) (vp : VP) (svc : Service)
    (hr : route n.defs sid f = .serve svc) :
    (n.register now fresh sid f vp).2 = .done (register svc.d (n.stores sid) now fresh vp).2 ∧
    (n.register now fresh sid f vp).1.stores sid = (register svc.d (n.stores sid) now fresh vp).1 ∧
    (n.register now fresh sid f vp).1.defs = n.defs ∧
    ∀ k, k ≠ sid → (n.register now fresh sid f vp).1.stores k =
      if (register svc.d (n.stores sid) now fresh vp).2 = .ok () then (n.stores k).prune now else n.stores k := by
  unfold Node.register
  rw [hr]
  simp only
  cases hv : verify svc.d (n.stores sid) now .server vp with
  | err e => simp [register, hv]
  | panic p => simp [register, hv]
  | ok u =>
    obtain ⟨subj, e, hA⟩ := (verify_ok_acceptable svc.d .server (n.stores sid) now vp).mp hv
    obtain ⟨id, hid⟩ := hA.hasId
    obtain ⟨m, hsig, _⟩ := hA.signer
    cases hk : (n.stores sid).hasKey subj id with
    | true => simp [register, hv, hsig, hid, hk]
    | false =>
      -- the node's `add` runs on the pruned list, which `add` prunes anyway
      have h2 := add_eq (n.stores sid) now vp 0 0 fresh subj m id e hsig hid hA.exp hA.jwt hA.credsHaveId
      have h1 := (add_prune (n.stores sid) now vp 0 0 fresh subj m hsig).trans h2
      simp [register, hv, hsig, hid, hk, Node.pruneAll, Node.setStore, h1, h2]
      intro k h1 h2; exact absurd h2 h1

theorem node_register_unserved (n : Node) (now fresh : Nat) (sid : String) (f : Fwd) (vp : VP)
    (hr : ∀ svc, route n.defs sid f ≠ .serve svc) :
    (n.register now fresh sid f vp).1 = n ∧
    ((n.register now fresh sid f vp).2 = .notFound ∨ (n.register now fresh sid f vp).2 = .cycle ∨
     (n.register now fresh sid f vp).2 = .inconsistent ∨ ∃ s, n.defs.all.get sid = some s ∧
        (n.register now fresh sid f vp).2 = .forwarded s.endpoint) := by
  unfold Node.register
  rcases route_cases n.defs sid f with ⟨s, x, _, _, h⟩ | ⟨x, _, _, h⟩ | ⟨_, _, h⟩ | ⟨s, _, _, _, h⟩ | ⟨s, _, h2, _, h⟩
  · exact absurd h (hr s)
  · rw [h]; simp
  · rw [h]; simp
  · rw [h]; simp
  · rw [h]; simp [h2]

/-! ### every list of the node, over all node histories -/

structure NodeOK (defs : Defs) (w : NWorld) : Prop where
  same : w.n.defs = defs
  lists : ∀ sid svc, defs.all.get sid = some svc → StoreOK svc.d w.t (w.n.stores sid)
  unserved : ∀ sid, defs.server.get sid = none → (w.n.stores sid).rows = []

theorem nodeOK_init (defs : Defs) (t : Nat) : NodeOK defs { n := { defs := defs }, t := t } :=
  ⟨rfl, fun _ svc _ => storeOK_empty svc.d t, fun _ _ => rfl⟩

theorem nodeOK_step (defs : Defs) (w : NWorld) (e : NEv) (h : NodeOK defs w) : NodeOK defs (nstep w e).1 := by
  cases e with
  | tick d =>
    exact ⟨h.same, fun sid svc hs => storeOK_mono (h.lists sid svc hs) (by show w.t ≤ w.t + d; omega), h.unserved⟩
  | restart => exact h
  | register sid f vp =>
    show NodeOK defs { w with n := (w.n.register w.t (w.ctr + 1) sid f vp).1, ctr := w.ctr + 1 }
    rcases route_serve_or w.n.defs sid f with ⟨s, x, hsv, hal, hrt⟩ | hne
    · obtain ⟨_, h2, h3, h4⟩ := node_register_served w.n w.t (w.ctr + 1) sid f vp s hrt
      rw [h.same] at hsv hal
      refine ⟨h3.trans h.same, ?_, ?_⟩
      · intro k svc hk
        show StoreOK svc.d w.t ((w.n.register w.t (w.ctr + 1) sid f vp).1.stores k)
        by_cases hks : k = sid
        · subst hks
          rw [h2]
          have : svc = s := by rw [hal] at hk; exact (Option.some.inj hk).symm
          subst this
          exact storeOK_register (h.lists k svc hk) _ _
        · rw [h4 k hks]
          split
          · exact storeOK_prune (h.lists k svc hk) _
          · exact h.lists k svc hk
      · intro k hk
        show ((w.n.register w.t (w.ctr + 1) sid f vp).1.stores k).rows = []
        have hks : k ≠ sid := by
          intro e; subst e; rw [hsv] at hk; cases hk
        rw [h4 k hks]
        split
        · exact prune_rows_nil _ (h.unserved k hk)
        · exact h.unserved k hk
    · rw [(node_register_unserved w.n w.t (w.ctr + 1) sid f vp hne).1]
      exact ⟨h.same, h.lists, h.unserved⟩

theorem nodeOK_run (defs : Defs) (evs : List NEv) : ∀ w, NodeOK defs w → NodeOK defs (nrun w evs) := by
  induction evs with
  | nil => intro w h; exact h
  | cons e es ih => intro w h; exact ih _ (nodeOK_step defs w e h)

end Nuts.C16
