/-
  C05: a consumer that runs alone, in closed form (`soloBurn`, `soloMark`: outcome and store after its five steps under the mutex),
  and the handlers that stand for ONE thread computing exactly that, up to the outcome class of their answer (`handleX_eq_solo`).
-/
import NutsModel.C05.Threads
import NutsProofs.Lemmas.C05Vci

namespace Nuts.C05

/-- outcome and store after a burn consumer ran alone through GetAndDelete-under-the-mutex: failed pre-checks → only the
    unconditional Delete; `code` → its deferred Delete on top of whatever GetAndDelete did -/
def soloBurn (cfg : Cfg) (st : Store) (now : Nat) (r : BurnReq) : Outcome × Store :=
  if !r.pre then (.missingParam, stErase st r.key)
  else match stGet cfg.expInclusive st now r.key with
    | none => (.notFound, if r.kind = .code then stErase st r.key else st)
    | some v => (verdict r (some v), if r.kind = .code then stErase (stErase st r.key) r.key else stErase st r.key)

def soloSched : List Ev := [.step 0, .step 0, .step 0, .step 0, .step 0]

/-- failed pre-checks: the unconditional Delete and nothing else, whatever shape GetAndDelete has -/
theorem solo_nopre_run (cfg : Cfg) (r : BurnReq) (hpre : r.pre = false) (hfd : r.failDel = false) (st : Store) (now : Nat) :
    let w := run cfg soloSched { store := st, now := now, lock := none, ths := [.burn r .start 0] }
    (w.ths[0]?.bind Thread.outcome) = some .missingParam ∧ w.store = stErase st r.key ∧ w.lock = none := by
  simp [run, soloSched, applyEv, stepW, stepThread, stepBurn, hpre, Thread.outcome, hfd]

/-- a burn consumer running alone: (lock, Get, Delete, unlock,) unconditional Delete -/
theorem solo_burn_run (cfg : Cfg) (hl : cfg.gad = .locked) (r : BurnReq) (hx : cfg.ext r.kind = false)
    (hfg : r.failGet = false) (hfd : r.failDel = false) (st : Store) (now : Nat) :
    let w := run cfg soloSched { store := st, now := now, lock := none, ths := [.burn r .start 0] }
    (w.ths[0]?.bind Thread.outcome) = some (soloBurn cfg st now r).1 ∧ w.store = (soloBurn cfg st now r).2 ∧ w.lock = none := by
  cases hpre : r.pre with
  | false => simpa [soloBurn, hpre] using solo_nopre_run cfg r hpre hfd st now
  | true =>
    by_cases hk : r.kind = .code
    · rw [hk] at hx
      cases hget : stGet cfg.expInclusive st now r.key with
      | none =>
        simp [run, soloSched, applyEv, stepW, stepThread, stepBurn, soloBurn, hpre, hget, Thread.outcome, Cfg.gadLocks, hl,
          afterGad, verdict, finishBurn, hk, hx, unlock, hfg, hfd]
      | some v =>
        simp [run, soloSched, applyEv, stepW, stepThread, stepBurn, soloBurn, hpre, hget, Thread.outcome, Cfg.gadLocks, hl,
          afterGad, finishBurn, hk, hx, unlock, hfg, hfd]
    · have hfin : ∀ o, finishBurn r o = .done o := by
        intro o; unfold finishBurn; cases hkk : r.kind <;> simp_all
      cases hget : stGet cfg.expInclusive st now r.key with
      | none =>
        simp [run, soloSched, applyEv, stepW, stepThread, stepBurn, soloBurn, hpre, hget, Thread.outcome, Cfg.gadLocks, hl,
          afterGad, verdict, hfin, hk, unlock, hfg]
      | some v =>
        simp [run, soloSched, applyEv, stepW, stepThread, stepBurn, soloBurn, hpre, hget, Thread.outcome, Cfg.gadLocks, hl,
          afterGad, hfin, hk, hx, unlock, hfg, hfd]

/-- outcome and store after a mark consumer ran alone through PutIfAbsent-under-the-mutex -/
def soloMark (cfg : Cfg) (st : Store) (now : Nat) (r : MarkReq) : Outcome × Store :=
  match stGet cfg.expInclusive st now r.key with
  | some _ => (.used, st)
  | none => (.ok, stPut st r.key ⟨markVal r.kind, now + cfg.ttl (.mark r.kind)⟩)

theorem solo_mark_run (cfg : Cfg) (r : MarkReq) (hl : cfg.mark r.kind = .locked) (hfg : r.failGet = false) (hfs : r.failSet = false)
    (st : Store) (now : Nat) :
    let w := run cfg soloSched { store := st, now := now, lock := none, ths := [.mark r .start 0] }
    (w.ths[0]?.bind Thread.outcome) = some (soloMark cfg st now r).1 ∧ w.store = (soloMark cfg st now r).2 ∧ w.lock = none := by
  cases hget : stGet cfg.expInclusive st now r.key with
  | none =>
    simp [run, soloSched, applyEv, stepW, stepThread, stepMark, soloMark, hget, Thread.outcome, Cfg.markLocks, hl, unlock, hfg, hfs]
  | some v =>
    simp [run, soloSched, applyEv, stepW, stepThread, stepMark, soloMark, hget, Thread.outcome, Cfg.markLocks, hl, unlock, hfg]

theorem codeOutcome_ok : codeOutcome .ok = some .ok := by decide

theorem codeOutcome_errs :
    let E := errAt Facts.C05.errs_handleAccessTokenRequest
    codeOutcome (E 1) = some .missingParam ∧ codeOutcome (E 2) = some .missingParam ∧ codeOutcome (E 3) = some .notFound ∧
    codeOutcome (E 4) = some .mismatch ∧ codeOutcome (E 5) = some .postCheck ∧
    codeOutcome (errAt Facts.C05.errs_dpopFromRequest 0) = some .postCheck := by decide +kernel

theorem toBurn_props (pk : Pkce) (f : TokenForm) (r : BurnReq) (h : f.toBurn pk = some r) :
    r.kind = .code ∧ r.failGet = false ∧ r.failDel = false := by
  unfold TokenForm.toBurn at h
  cases hc : f.code with
  | none => simp [hc] at h
  | some code => simp only [hc, Option.some.injEq] at h; subst h; exact ⟨rfl, rfl, rfl⟩

theorem toBurn_none (pk : Pkce) (f : TokenForm) (h : f.toBurn pk = none) : f.code = none := by
  unfold TokenForm.toBurn at h
  cases hc : f.code with
  | none => rfl
  | some code => simp [hc] at h

theorem handleCode_eq_solo (cfg : Cfg) (ttl : Kind → Nat) (pk : Pkce) (now : Nat) (st : Store) (f : TokenForm) (r : BurnReq)
    (hr : f.toBurn pk = some r) :
    codeOutcome (handleCode ⟨cfg.expInclusive, now, ttl⟩ pk st f).1 = some (soloBurn cfg st now r).1 ∧
    (handleCode ⟨cfg.expInclusive, now, ttl⟩ pk st f).2 = (soloBurn cfg st now r).2 := by
  unfold TokenForm.toBurn at hr
  cases hc : f.code with
  | none => simp [hc] at hr
  | some code =>
    simp only [hc, Option.some.injEq] at hr
    subst hr
    unfold handleCode soloBurn
    simp only [hc, BurnReq.key]
    cases hv : f.codeVerifier with
    | none => simp [codeOutcome_errs.1, codeKey]
    | some ver =>
      cases hi : f.clientId with
      | none => simp [codeOutcome_errs.2.1, codeKey]
      | some cid =>
        simp only [Option.isSome_some, Bool.and_self, Bool.not_true, Bool.false_eq_true, if_false, Option.getD_some]
        unfold gadSeq
        simp only [codeKey]
        cases hg : stGet cfg.expInclusive st now ⟨.burn .code, code⟩ with
        | none => simp [codeOutcome_errs.2.2.1]
        | some v =>
          simp only [verdict]
          by_cases hm : v = cid
          · subst hm
            cases hp : validatePKCE pk ver with
            | false => simp [codeOutcome_errs.2.2.2.2.1]
            | true =>
              cases hd : f.dpop with
              | bad => simp [dpopCheck, codeOutcome_errs.2.2.2.2.2]
              | absent => simp [dpopCheck, codeOutcome_ok]
              | good => simp [dpopCheck, codeOutcome_ok]
          · simp [hm, codeOutcome_errs.2.2.2.1]

/-- answer classes: not found / consumed-and-refused (either comparison) / honoured -/
def reqObjOutcome (r : ReqObjFetch) (a : Ans) : Option Outcome :=
  let E := errAt (if r.post then Facts.C05.errs_RequestJWTByPost else Facts.C05.errs_RequestJWTByGet)
  if a = .ok then some .ok
  else if a = E 0 then some .notFound
  else if a = E 1 || a = E 2 then some .postCheck
  else none

theorem reqObjOutcome_facts (p : Bool) :
    let E := errAt (if p then Facts.C05.errs_RequestJWTByPost else Facts.C05.errs_RequestJWTByGet)
    E 0 ≠ .ok ∧ E 1 ≠ .ok ∧ E 2 ≠ .ok ∧ E 1 ≠ E 0 ∧ E 2 ≠ E 0 := by
  cases p <;> decide

/-- `v`: the value the store holds for the id (any value if it holds none) -/
theorem handleReqObj_eq_solo (cfg : Cfg) (ttl : Kind → Nat) (now : Nat) (st : Store) (r : ReqObjFetch) (v : String)
    (hv : ∀ x, stGet cfg.expInclusive st now (reqObjKey r.id) = some x → x = v) :
    reqObjOutcome r (handleReqObj ⟨cfg.expInclusive, now, ttl⟩ st r).1 = some (soloBurn cfg st now (reqObjReq r v)).1 ∧
    (handleReqObj ⟨cfg.expInclusive, now, ttl⟩ st r).2 = (soloBurn cfg st now (reqObjReq r v)).2 := by
  have hf := reqObjOutcome_facts r.post
  simp only at hf
  unfold handleReqObj soloBurn gadSeq
  simp only [reqObjReq, BurnReq.key, reqObjKey] at hv ⊢
  cases hg : stGet cfg.expInclusive st now ⟨.burn .reqObj, r.id⟩ with
  | none => simp [reqObjOutcome, hf.1]
  | some x =>
    have hxv := hv x hg
    subst hxv
    simp only [verdict]
    by_cases h1 : roClient x = r.subject
    · by_cases h2 : roMethod x = (if r.post then "post" else "get")
      · simp [h1, h2, reqObjOutcome]
      · simp [h1, h2, reqObjOutcome, hf.2.2.1, hf.2.2.2.2]
    · simp [h1, reqObjOutcome, hf.2.1, hf.2.2.2.1]

def landingReq (t : String) : BurnReq := { kind := .redirect, id := t }

def landingOutcome (a : Ans) : Option Outcome :=
  if a = .ok then some .ok else if a = .err "403" "token not found in store" then some .notFound else none

theorem handleLanding_eq_solo (cfg : Cfg) (ttl : Kind → Nat) (now : Nat) (st : Store) (t : String) (ht : t ≠ "") :
    landingOutcome (handleLanding ⟨cfg.expInclusive, now, ttl⟩ st t).1 = some (soloBurn cfg st now (landingReq t)).1 ∧
    (handleLanding ⟨cfg.expInclusive, now, ttl⟩ st t).2 = (soloBurn cfg st now (landingReq t)).2 := by
  unfold handleLanding soloBurn gadSeq
  simp only [ht, if_false, landingReq, BurnReq.key, redirectKey]
  cases hg : stGet cfg.expInclusive st now ⟨.burn .redirect, t⟩ with
  | none => simp [landingOutcome]
  | some v => simp [landingOutcome, verdict]

theorem handlePreAuth_eq_solo (cfg : Cfg) (ttl : Kind → Nat) (now : Nat) (s : VciSt) (issuer code tok cn : String) :
    (handlePreAuth ⟨cfg.expInclusive, now, ttl⟩ s issuer code tok cn).st.codes
      = (soloBurn cfg s.codes now (preAuthReq ⟨cfg.expInclusive, now, ttl⟩ s issuer code tok cn)).2 ∧
    ((soloBurn cfg s.codes now (preAuthReq ⟨cfg.expInclusive, now, ttl⟩ s issuer code tok cn)).1 = .ok ↔
      (handlePreAuth ⟨cfg.expInclusive, now, ttl⟩ s issuer code tok cn).ans = .ok) ∧
    ((soloBurn cfg s.codes now (preAuthReq ⟨cfg.expInclusive, now, ttl⟩ s issuer code tok cn)).1 = .notFound ↔
      stGet cfg.expInclusive s.codes now (preAuthKey code) = none) := by
  rw [handlePreAuth_codes]
  unfold soloBurn gadSeq
  simp only [preAuthReq, BurnReq.key, preAuthKey, Bool.not_true, Bool.false_eq_true, if_false, reduceCtorEq]
  cases hg : stGet cfg.expInclusive s.codes now ⟨.burn .preAuth, code⟩ with
  | none =>
    refine ⟨rfl, ?_, by simp⟩
    have := handlePreAuth_not_ok_of_dead ⟨cfg.expInclusive, now, ttl⟩ s issuer code tok cn hg
    simp [this]
  | some v =>
    simp only [verdict, Option.getD_some]
    refine ⟨trivial, ?_, ?_⟩
    · by_cases h : (handlePreAuth ⟨cfg.expInclusive, now, ttl⟩ s issuer code tok cn).ans = .ok <;> simp [h]
    · by_cases h : (handlePreAuth ⟨cfg.expInclusive, now, ttl⟩ s issuer code tok cn).ans = .ok <;> simp [h]

end Nuts.C05
