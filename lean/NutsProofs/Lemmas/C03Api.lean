/-
  C03 — helper lemmas for NutsProofs/Props/C03Api.lean: Go-map (association list) membership through
  `dedup` / `hput`, and what package-level SignJWS does with a header map whose values all came out of encoding/json.
-/
import NutsModel.C03.Api
import NutsProofs.Lemmas.C03KeyStore

namespace Nuts.C03

theorem mem_foldl_hput (h acc : Headers) (p : String × HVal)
    (hp : p ∈ h.foldl (fun acc q => hput acc q.1 q.2) acc) : p ∈ h ∨ p ∈ acc :=
  foldl_invariant (fun s => p ∈ s → p ∈ h ∨ p ∈ acc) _ h acc
    (fun _ hq _ hs hp => (mem_alPut hp).elim (fun e => .inl (e ▸ hq)) hs) .inr hp

theorem mem_dedup (h : Headers) (p : String × HVal) (hp : p ∈ dedup h) : p ∈ h := by
  rcases mem_foldl_hput h [] p hp with hm | hn
  · exact hm
  · cases hn

def AllJson (h : Headers) : Prop := ∀ p ∈ h, p.2.isJson = true

theorem allJson_dedup (h : Headers) (hj : AllJson h) : AllJson (dedup h) := fun p hp => hj p (mem_dedup h p hp)

theorem allJson_hput_str (h : Headers) (k s : String) (hj : AllJson h) : AllJson (hput h k (.str s)) := by
  intro p hp
  rcases mem_alPut hp with e | hm
  · rw [e]; rfl
  · exact hj p hm

/-- package-level SignJWS on a map of JSON-decoded values: no `jwk` can be signed (a JSON value is never a `jwk.Key`,
    `Headers.Set("jwk", v)` refuses it), and the result is the input without `alg` -/
theorem signJWSHeaders_json (h out : Headers) (hj : AllJson h) (hok : signJWSHeaders h = .ok out) :
    out = alDel h "alg" ∧ hget h "jwk" = none := by
  unfold signJWSHeaders at hok
  split at hok
  · cases hok
  · rename_i hset
    have hnone : hget h "jwk" = none := by
      cases hg : hget h "jwk" with
      | none => rfl
      | some v =>
        exfalso
        have hm := mem_of_alGet_eq_some hg
        have hjs := hj _ hm
        apply hset
        rw [List.any_eq_true]
        refine ⟨("jwk", v), hm, ?_⟩
        cases v <;> simp [HVal.isJson] at hjs <;> simp [settable]
    rw [hnone] at hok
    simp only at hok
    cases hok
    exact ⟨rfl, hnone⟩

theorem same_errDetail (keyDir : String) {s t : Store} (h : SameButKeys s t) (q : Req) (e : KErr) :
    errDetail keyDir s q e = errDetail keyDir t q e := by
  unfold errDetail
  rw [same_errText keyDir h]

end Nuts.C03
