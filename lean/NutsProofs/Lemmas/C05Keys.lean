/-
  C05 — full keys of the session database: store paths that are not a prefix of one another never share a full key.
-/
namespace Nuts.C05

theorem fullKey_disjoint (p q k1 k2 : List Char) (h1 : p.isPrefixOf q = false) (h2 : q.isPrefixOf p = false) :
    p ++ k1 ≠ q ++ k2 := by
  intro h
  rcases List.append_eq_append_iff.mp h with ⟨a, ha, _⟩ | ⟨c, hc, _⟩
  · have : p <+: q := ⟨a, ha.symm⟩
    rw [← List.isPrefixOf_iff_prefix] at this
    simp [this] at h1
  · have : q <+: p := ⟨c, hc.symm⟩
    rw [← List.isPrefixOf_iff_prefix] at this
    simp [this] at h2

def pairwiseNonPrefix (l : List (List Char)) : Bool :=
  l.all fun p => l.all fun q => p == q || !(p.isPrefixOf q)

theorem pairwiseNonPrefix_disjoint (l : List (List Char)) (h : pairwiseNonPrefix l = true)
    (p q : List Char) (hp : p ∈ l) (hq : q ∈ l) (hne : p ≠ q) (k1 k2 : List Char) : p ++ k1 ≠ q ++ k2 := by
  unfold pairwiseNonPrefix at h
  rw [List.all_eq_true] at h
  have h1 := h p hp
  have h2 := h q hq
  rw [List.all_eq_true] at h1 h2
  have a := h1 q hq
  have b := h2 p hp
  simp only [Bool.or_eq_true, beq_iff_eq, Bool.not_eq_true'] at a b
  apply fullKey_disjoint
  · rcases a with a | a
    · exact absurd a hne
    · exact a
  · rcases b with b | b
    · exact absurd b.symm hne
    · exact b

/-- `strings.Join(elems, sep)` on character lists, literally: no normalisation, no escaping -/
def stringsJoin (sep : Char) : List (List Char) → List Char
  | [] => []
  | [a] => a
  | a :: b :: rest => a ++ sep :: stringsJoin sep (b :: rest)

/-- `getFullKey`: strings.Join(append(prefixes, key), sep) -/
def joinKey (sep : Char) (prefixes : List (List Char)) (key : List Char) : List Char :=
  stringsJoin sep (prefixes ++ [key])

/-- what every full key of a store starts with: each prefix segment followed by the separator -/
def storePath (sep : Char) (prefixes : List (List Char)) : List Char :=
  prefixes.flatMap (fun seg => seg ++ [sep])

theorem joinKey_eq (sep : Char) (prefixes : List (List Char)) (key : List Char) :
    joinKey sep prefixes key = storePath sep prefixes ++ key := by
  induction prefixes with
  | nil => simp [joinKey, stringsJoin, storePath]
  | cons a rest ih =>
    cases rest with
    | nil => simp [joinKey, stringsJoin, storePath]
    | cons b rest' =>
      simp only [joinKey, storePath, List.cons_append, stringsJoin, List.flatMap_cons] at ih ⊢
      rw [ih]
      simp

/-- two stores whose paths are not a prefix of one another never produce the same full key — for ANY keys,
    including keys that contain the separator or `..` segments (the join does not interpret them) -/
theorem joinKey_disjoint (sep : Char) (l : List (List (List Char))) (h : pairwiseNonPrefix (l.map (storePath sep)) = true)
    (p q : List (List Char)) (hp : p ∈ l) (hq : q ∈ l) (hne : storePath sep p ≠ storePath sep q) (k1 k2 : List Char) :
    joinKey sep p k1 ≠ joinKey sep q k2 := by
  rw [joinKey_eq, joinKey_eq]
  exact pairwiseNonPrefix_disjoint _ h _ _ (List.mem_map_of_mem hp) (List.mem_map_of_mem hq) hne k1 k2

end Nuts.C05
