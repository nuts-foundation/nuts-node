/-
  Generic lemmas about `insertSorted` / `sortBy` (NutsModel.Base): the result is a sorted permutation
  and therefore does not depend on the order of the input (Go: `sort.Slice` after ranging over a map).
-/
import NutsModel.Base

namespace Nuts

section
variable {α : Type} (lt : α → α → Bool)

theorem insertSorted_perm (x : α) (l : List α) : (insertSorted lt x l).Perm (x :: l) := by
  fun_induction insertSorted lt x l with
  | case1 => exact .refl _
  | case2 => exact .refl _
  | case3 y ys _ ih => exact (ih.cons y).trans (.swap x y ys)

theorem sortBy_perm (l : List α) : (sortBy lt l).Perm l := by
  induction l with
  | nil => exact List.Perm.refl _
  | cons x xs ih =>
    show (insertSorted lt x (sortBy lt xs)).Perm (x :: xs)
    exact (insertSorted_perm lt x _).trans (List.Perm.cons x ih)

def leOf (a b : α) : Prop := lt b a = false

variable (hasym : ∀ a b, lt a b = true → lt b a = false)
variable (htrans : ∀ a b c, lt b a = false → lt c b = false → lt c a = false)

include hasym htrans in
theorem insertSorted_pairwise (x : α) (l : List α) (h : l.Pairwise (leOf lt)) :
    (insertSorted lt x l).Pairwise (leOf lt) := by
  fun_induction insertSorted lt x l with
  | case1 => simp
  | case2 y ys hxy =>
    refine List.pairwise_cons.mpr ⟨?_, h⟩
    intro z hz
    rcases List.mem_cons.mp hz with rfl | hz
    · exact hasym _ _ hxy
    · exact htrans _ _ _ (hasym _ _ hxy) ((List.pairwise_cons.mp h).1 z hz)
  | case3 y ys hxy ih =>
    have hy := List.pairwise_cons.mp h
    refine List.pairwise_cons.mpr ⟨?_, ih hy.2⟩
    intro z hz
    rcases List.mem_cons.mp ((insertSorted_perm lt x ys).subset hz) with rfl | hz
    · exact Bool.eq_false_iff.mpr hxy
    · exact hy.1 z hz

include hasym htrans in
theorem sortBy_pairwise (l : List α) : (sortBy lt l).Pairwise (leOf lt) := by
  induction l with
  | nil => exact List.Pairwise.nil
  | cons x xs ih => exact insertSorted_pairwise lt hasym htrans x _ ih

include hasym htrans in
theorem sortBy_eq_of_perm {l₁ l₂ : List α} (hp : l₁.Perm l₂)
    (hanti : ∀ a ∈ l₁, ∀ b ∈ l₁, lt a b = false → lt b a = false → a = b) :
    sortBy lt l₁ = sortBy lt l₂ := by
  have p₁ := sortBy_perm lt l₁
  have p₂ := sortBy_perm lt l₂
  apply List.Perm.eq_of_pairwise (le := leOf lt) _ (sortBy_pairwise lt hasym htrans l₁)
    (sortBy_pairwise lt hasym htrans l₂) (p₁.trans (hp.trans p₂.symm))
  intro a b ha hb hab hba
  exact hanti a (p₁.subset ha) b (hp.symm.subset (p₂.subset hb)) hba hab

end

/-! the lexicographic (clock, ref) order that the transaction listings sort by -/

theorem lexLt_asymm {c r c' r' : Nat} (h : (decide (c < c') || (c == c' && decide (r < r'))) = true) :
    (decide (c' < c) || (c' == c && decide (r' < r))) = false := by
  simp only [Bool.or_eq_true, Bool.and_eq_true, decide_eq_true_eq, beq_iff_eq] at h
  simp only [Bool.or_eq_false_iff, Bool.and_eq_false_iff, decide_eq_false_iff_not, beq_eq_false_iff_ne]
  omega

theorem lexLt_trans {c₁ r₁ c₂ r₂ c₃ r₃ : Nat}
    (h1 : (decide (c₂ < c₁) || (c₂ == c₁ && decide (r₂ < r₁))) = false)
    (h2 : (decide (c₃ < c₂) || (c₃ == c₂ && decide (r₃ < r₂))) = false) :
    (decide (c₃ < c₁) || (c₃ == c₁ && decide (r₃ < r₁))) = false := by
  simp only [Bool.or_eq_false_iff, Bool.and_eq_false_iff, decide_eq_false_iff_not, beq_eq_false_iff_ne] at *
  omega

/-! string order facts used for `strings.Compare(a, b) == -1` sort functions -/

theorem decide_str_lt_asymm (a b : String) (h : decide (a < b) = true) : decide (b < a) = false :=
  decide_eq_false (String.lt_asymm (of_decide_eq_true h))

theorem decide_str_le_trans (a b c : String) (h₁ : decide (b < a) = false) (h₂ : decide (c < b) = false) :
    decide (c < a) = false :=
  decide_eq_false (String.le_trans (of_decide_eq_false h₁) (of_decide_eq_false h₂))

end Nuts
