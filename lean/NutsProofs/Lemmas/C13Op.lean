/-
  C13 — one operation, row by row: nothing, or the first transaction followed by ONE decision about that transaction
  (`stepOp_settle`); the commit loop method by method, and the worlds a stop and a failed Commit leave behind.
-/
import NutsProofs.Lemmas.C13Settle

namespace Nuts.C13
open Nuts

theorem restore_push {cfg : Cfg} {dids : List DidRow} {n : Nat} (o : Op) (now : Nat) (h : Inv dids n) :
    settle cfg (only n false) (dids.map (pushRow o n now)) = dids := by
  unfold settle
  rw [List.filterMap_map]
  refine filterMap_eq_self _ _ fun r hr => ?_
  simp only [Function.comp]
  rcases pushRow_cases o n now r with he | ⟨_, hct, c, he⟩ <;> rw [he]
  · exact settleRow_older h hr fun _ hne => if_neg hne
  · simp [settleRow, only, hct]

theorem restore_create {cfg : Cfg} {dids : List DidRow} {n : Nat} (ms : List Method) (now : Nat) (s : String)
    (hfix : Fixed cfg) (h : Inv dids n) :
    settle cfg (only n false) (dids ++ ms.map (newDid n now s)) = dids := by
  unfold settle
  rw [List.filterMap_append, filterMap_eq_self _ dids, List.filterMap_eq_nil_iff.2, List.append_nil]
  · intro r hr
    rcases List.mem_map.1 hr with ⟨m, _, rfl⟩
    simp [settleRow, only, newDid, hfix.delDid]
  · exact fun r hr => settleRow_older h hr fun _ hne => if_neg hne

theorem tx1_restore {cfg : Cfg} {w w1 : World} {o : Op} {chs : List Change} (hfix : Fixed cfg)
    (h : Inv w.dids w.next) (ht : tx1 cfg w o = .ok (w1, chs)) :
    settle cfg (only w.next false) w1.dids = w.dids := by
  rcases tx1_cases ht with ⟨_, _, _, ⟨s, rfl, hd, _⟩ | ⟨hd, _⟩⟩ <;> rw [hd]
  · exact restore_create _ _ _ hfix h
  · exact restore_push o _ h

theorem stepOpCore_cases (cfg : Cfg) (w : World) (o : Op) (order : List Method) (f : Fault) :
    (stepOpCore cfg w o order f).1 = w ∨
    ∃ w1 chs, tx1 cfg w o = .ok (w1, chs) ∧
      ((stepOpCore cfg w o order f).1 = { w1 with pub := (commitLoop f chs order 0 w1.pub).1 } ∨
       ∃ b, (stepOpCore cfg w o order f).1 = tx2 cfg { w1 with pub := (commitLoop f chs order 0 w1.pub).1 } chs b) := by
  unfold stepOpCore
  split
  · exact .inl rfl
  · exact .inl rfl
  · rename_i w1 chs ht
    refine .inr ⟨w1, chs, ht, ?_⟩
    split <;> rename_i hcl <;> rw [hcl]
    · exact .inl rfl
    · exact .inr ⟨true, rfl⟩
    · split
      · split
        · exact .inl rfl
        · exact .inr ⟨false, rfl⟩
      · exact .inr ⟨false, rfl⟩

theorem tx2_true (cfg : Cfg) (w : World) (chs : List Change) : tx2 cfg w chs true = deleteChanges cfg chs w := rfl

theorem tx2_false_cases (cfg : Cfg) (w : World) (chs : List Change) :
    tx2 cfg w chs false = w ∨ ∃ ch ∈ chs, tx2 cfg w chs false = deleteLogTx ch.tx w := by
  cases chs with
  | nil => exact .inl rfl
  | cons ch _ => exact .inr ⟨ch, List.mem_cons_self .., rfl⟩

theorem stepOp_unchanged_or_core (cfg : Cfg) (w : World) (o : Op) (order : List Method) (f : Fault) :
    (stepOp cfg w o order f).1 = w ∨ stepOp cfg w o order f = stepOpCore cfg w o order f := by
  unfold stepOp
  split
  · split
    · exact Or.inl rfl
    · exact Or.inr rfl
  · exact Or.inr rfl

theorem stepOp_eq_core {cfg : Cfg} {w : World} {o : Op} {order : List Method} {f : Fault} (hf : ∀ n, f.inTx1 n = none) :
    stepOp cfg w o order f = stepOpCore cfg w o order f := by
  unfold stepOp
  split
  · rw [hf]
  · rfl

theorem stepOp_create_taken (cfg : Cfg) (w : World) (s : String) (order : List Method) (f : Fault)
    (hex : subjectExists w s = true) : stepOp cfg w (.create s) order f = (w, "err:exists") := by
  have ht : tx1 cfg w (.create s) = .err "exists" := if_pos hex
  simp only [stepOp, stepOpCore, ht]
  exact congrArg _ (ofList_append_eq rfl).symm

/-- the decision is none when the process stopped or the first transaction wrote no change, abandoned when a Commit
    failed, committed otherwise -/
theorem stepOp_settle {cfg : Cfg} {w : World} (o : Op) (order : List Method) (f : Fault)
    (hms : cfg.methods.Nodup) (h : Inv w.dids w.next) (hc : Clean w.dids o.subject) :
    (stepOp cfg w o order f).1 = w ∨
    ∃ w1 chs d, tx1 cfg w o = .ok (w1, chs) ∧ (∀ t, t ≠ w.next → d t = none) ∧
      (stepOp cfg w o order f).1.dids = settle cfg d w1.dids ∧ (stepOp cfg w o order f).1.next = w1.next := by
  rcases stepOp_unchanged_or_core cfg w o order f with he | he <;> rw [he]
  · exact .inl rfl
  rcases stepOpCore_cases cfg w o order f with he | ⟨w1, chs, ht, hcase⟩
  · exact .inl he
  have t1 := tx1_inv hms h hc ht
  refine .inr ⟨w1, chs, ?_⟩
  rcases hcase with he | ⟨b, he⟩ <;> rw [he]
  · exact ⟨fun _ => none, ht, fun _ _ => rfl, (settle_of_none fun _ _ _ _ => rfl).symm, rfl⟩
  · cases b with
    | true => exact ⟨only w.next false, ht, fun t hne => if_neg hne, deleteChanges_settle (w := { w1 with pub := _ }) t1 (tx1_groupOf (w1 := w1) h ht), rfl⟩
    | false =>
      rcases tx2_false_cases cfg { w1 with pub := (commitLoop f chs order 0 w1.pub).1 } chs with he | ⟨ch, hch, he⟩ <;> rw [he]
      · exact ⟨fun _ => none, ht, fun _ _ => rfl, (settle_of_none fun _ _ _ _ => rfl).symm, rfl⟩
      · rw [(tx1_fresh ht ch hch).1]
        exact ⟨only w.next true, ht, fun t hne => if_neg hne, deleteLogTx_settle (w := { w1 with pub := _ }) _ t1, rfl⟩

theorem stepOp_spec {cfg : Cfg} {w : World} (o : Op) (order : List Method) (f : Fault) (hfix : Fixed cfg)
    (hms : cfg.methods.Nodup) (h : Inv w.dids w.next) (hc : Clean w.dids o.subject) :
    Inv (stepOp cfg w o order f).1.dids (stepOp cfg w o order f).1.next ∧ Keeps w.dids (stepOp cfg w o order f).1.dids := by
  rcases stepOp_settle o order f hms h hc with he | ⟨w1, chs, d, ht, _, hd, hn⟩
  · rw [he]; exact ⟨h, Keeps.refl _⟩
  · have t1 := tx1_inv hms h hc ht
    rw [hd, hn]
    exact ⟨inv_settle hfix d t1, Keeps.trans (keeps_tx1 ht) (keeps_settle d t1)⟩

theorem stepOp_inv {cfg : Cfg} {w : World} (o : Op) (order : List Method) (f : Fault) (hfix : Fixed cfg)
    (hms : cfg.methods.Nodup) (h : Inv w.dids w.next) (hc : Clean w.dids o.subject) :
    Inv (stepOp cfg w o order f).1.dids (stepOp cfg w o order f).1.next :=
  (stepOp_spec o order f hfix hms h hc).1

theorem commitLoop_skip {f : Fault} {chs : List Change} {m : Method} {ms : List Method} {i : Nat} {pub : Nat → List Content}
    (h : chs.find? (fun ch => ch.method = m) = none) : commitLoop f chs (m :: ms) i pub = commitLoop f chs ms i pub := by
  rw [commitLoop, h]

theorem commitLoop_stop {chs : List Change} {m : Method} {ms : List Method} {i : Nat} {pub : Nat → List Content} {ch : Change}
    (h : chs.find? (fun ch => ch.method = m) = some ch) : commitLoop (.stop i) chs (m :: ms) i pub = (pub, .stopped) := by
  rw [commitLoop, h]; exact if_pos rfl

theorem commitLoop_web {f : Fault} {chs : List Change} {ms : List Method} {i : Nat} {pub : Nat → List Content} {ch : Change}
    (h : chs.find? (fun ch => ch.method = .web) = some ch) (hf : f ≠ .stop i) :
    commitLoop f chs (.web :: ms) i pub = commitLoop f chs ms (i + 1) pub := by
  rw [commitLoop, h]; exact if_neg hf

theorem commitLoop_nuts {f : Fault} {chs : List Change} {ms : List Method} {i : Nat} {pub : Nat → List Content} {ch : Change}
    (h : chs.find? (fun ch => ch.method = .nuts) = some ch) (hf : f ≠ .stop i) :
    commitLoop f chs (.nuts :: ms) i pub =
      if f = .failNuts then (pub, .failed "injected")
      else match commitNuts pub ch with
        | .ok pub' => commitLoop f chs ms (i + 1) pub'
        | .err e => (pub, .failed e)
        | .panic s => (pub, .failed ("panic:" ++ s)) := by
  rw [commitLoop, h]; exact if_neg hf

theorem commitLoop_failNuts_pub (chs : List Change) (order : List Method) (i : Nat) (pub : Nat → List Content) :
    (commitLoop .failNuts chs order i pub).1 = pub := by
  fun_induction commitLoop .failNuts chs order i pub <;> simp_all

theorem commitLoop_stop_self (chs : List Change) (i : Nat) (pub : Nat → List Content) : ∀ ms : List Method,
    commitLoop (.stop i) chs ms i pub = (pub, .stopped) ∨ commitLoop (.stop i) chs ms i pub = (pub, .completed i)
  | [] => .inr rfl
  | m :: ms => by
    cases hfind : chs.find? (fun ch => ch.method = m) with
    | none => rw [commitLoop_skip hfind]; exact commitLoop_stop_self chs i pub ms
    | some ch => exact .inl (commitLoop_stop hfind)

theorem stepOpCore_stopped {cfg : Cfg} {w w1 : World} {o : Op} {chs : List Change} (order : List Method) (k : Nat)
    (ht : tx1 cfg w o = .ok (w1, chs))
    (hph : (commitLoop (.stop k) chs order 0 w1.pub).2 = .stopped ∨
           ∃ i, (commitLoop (.stop k) chs order 0 w1.pub).2 = .completed i ∧ i ≤ k) :
    (stepOpCore cfg w o order (.stop k)).1 = { w1 with pub := (commitLoop (.stop k) chs order 0 w1.pub).1 } := by
  unfold stepOpCore
  rw [ht]
  simp only
  rcases hcl : commitLoop (.stop k) chs order 0 w1.pub with ⟨pub, ph⟩
  rw [hcl] at hph
  simp only at hph
  rcases hph with rfl | ⟨i, rfl, hik⟩
  · rfl
  · simp [hik]

theorem stepOpCore_failed {cfg : Cfg} {w w1 : World} {o : Op} {chs : List Change} {order : List Method} {f : Fault}
    {e : String} (ht : tx1 cfg w o = .ok (w1, chs)) (hph : (commitLoop f chs order 0 w1.pub).2 = .failed e) :
    stepOpCore cfg w o order f =
      (tx2 cfg { w1 with pub := (commitLoop f chs order 0 w1.pub).1 } chs true, "err:" ++ e) := by
  unfold stepOpCore
  rw [ht]
  simp only
  rcases hcl : commitLoop f chs order 0 w1.pub with ⟨pub, ph⟩
  rw [hcl] at hph
  cases hph
  rfl

end Nuts.C13
