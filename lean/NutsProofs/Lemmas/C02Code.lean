/-
  C02 — the authorization-code grant (openid4vp.go): `validatePresentationNonce`, the authorize-response handler by cases
  (`AuthChecked` / `AuthEffect`; one presentation, one acceptance), the token request (`issueCode`: `CodeChecked` /
  `CodeEffect`, the code is burnt whatever the answer) and the authorization request that creates the session.
-/
import NutsProofs.Lemmas.C02Gates
import NutsProofs.Lemmas.C02Token

namespace Nuts.C02

theorem mem_collectNonces (x : String) : ∀ (vps : List VP) (acc : List String),
    x ∈ collectNonces vps acc ↔ x ∈ acc ∨ x ≠ "" ∧ x ∈ vps.map vpChallenge
  | [], acc => ⟨.inl, fun h => h.elim id fun h => nomatch h.2⟩
  | v :: rest, acc => by
    rw [collectNonces, mem_collectNonces x rest, List.map_cons, List.mem_cons]
    by_cases hc : vpChallenge v ≠ "" ∧ vpChallenge v ∉ acc
    · rw [if_pos hc, List.mem_append, List.mem_singleton]
      constructor
      · rintro ((h | rfl) | ⟨hx, h⟩)
        · exact .inl h
        · exact .inr ⟨hc.1, .inl rfl⟩
        · exact .inr ⟨hx, .inr h⟩
      · rintro (h | ⟨hx, rfl | h⟩)
        · exact .inl (.inl h)
        · exact .inl (.inr rfl)
        · exact .inr ⟨hx, h⟩
    · rw [if_neg hc]
      constructor
      · rintro (h | ⟨hx, h⟩)
        · exact .inl h
        · exact .inr ⟨hx, .inr h⟩
      · rintro (h | ⟨hx, rfl | h⟩)
        · exact .inl h
        · exact .inl (Decidable.not_not.1 fun hn => hc ⟨hx, hn⟩)
        · exact .inr ⟨hx, h⟩

theorem validatePresentationNonce_ok (now : Nat) (vps : List VP) (state : String) (st st' : Store String)
    (h : validatePresentationNonce now vps state st = (st', .ok ())) :
    ∃ n, n ≠ "" ∧ (∀ vp ∈ vps, vpChallenge vp = n) ∧ st.get now n = some state ∧ st' = st.del n := by
  revert h
  fun_cases validatePresentationNonce now vps state st with
  | case5 nonces allPresent hcond n rest hn s stx hgd heq =>
    intro h
    obtain ⟨hv, rfl⟩ := Store.getAndDelete_some st now n s stx hgd
    cases Decidable.not_not.mp heq
    have hrest : rest = [] := by
      cases rest with
      | nil => rfl
      | cons a b => exact absurd (by rw [hn]; simp) fun hh => hcond (.inl hh)
    subst hrest
    have hn : collectNonces vps [] = [n] := hn
    refine ⟨n, ?_, fun vp hvp => ?_, hv, (Prod.mk.inj h).1.symm⟩
    · rintro rfl
      rcases (mem_collectNonces "" vps []).1 (hn ▸ List.mem_cons_self) with h0 | ⟨h0, _⟩
      · cases h0
      · exact h0 rfl
    · have hne : vpChallenge vp ≠ "" := by
        simpa using List.all_eq_true.mp (Bool.of_not_eq_false fun hb => hcond (.inr hb)) vp hvp
      have := (mem_collectNonces _ vps []).2 (.inr ⟨hne, List.mem_map_of_mem hvp⟩)
      rw [hn] at this
      exact List.mem_singleton.mp this
  | _ => intro h; cases h

/-- everything the authorize-response (direct_post) handler has established when it accepts a submission -/
structure AuthChecked (cfg : Cfg) (w : World) (now : Nat) (r : AuthResp) (state : String) (session : Session)
    (n s : String) (d : Def) : Prop where
  stateGiven : r.state = some state
  sessionFound : w.states.get now state = some session
  tenant : r.subject = session.ownSubject
  wellformed : r.vpToken = true ∧ r.envelopeOK = true ∧ r.vps ≠ [] ∧ r.submission = true ∧ r.submissionOK = true
  challenge : n ≠ "" ∧ ∀ vp ∈ r.vps, vpChallenge vp = n
  bound : w.oauthNonces.get now n = some state
  pre : ∀ vp ∈ r.vps, CodePreOK cfg r.subject vp s
  verified : ∀ vp ∈ r.vps, vpVerifies cfg now vp = true
  required : findDef session.consumer.required r.subDefId = some d
  notYet : r.subDefId ∉ session.consumer.fulfilled
  pex : r.pex d.key = true

def Session.fulfilledWith (session : Session) (r : AuthResp) (d : Def) : Session :=
  { session with consumer := { session.consumer with
      fulfilled := r.subDefId :: session.consumer.fulfilled,
      claims := r.claims d.key :: session.consumer.claims,
      vps := session.consumer.vps + r.vps.length } }

/-- state change of an accepted submission: the nonce is deleted, the session is updated, and either a code is
    stored (everything fulfilled) or a fresh nonce for the next wallet -/
inductive AuthEffect (cfg : Cfg) (w w' : World) (now : Nat) (r : AuthResp) (state : String) (session : Session)
    (n : String) (d : Def) : AuthOut → Prop where
  | code :
      (session.fulfilledWith r d).consumer.next = none →
      w' = { w with oauthNonces := w.oauthNonces.del n,
                    states := w.states.put now cfg.stateTtl state (session.fulfilledWith r d),
                    codes := w.codes.put now cfg.codeTtl (codeName w.nextCode) (session.fulfilledWith r d),
                    nextCode := w.nextCode + 1 } →
      AuthEffect cfg w w' now r state session n d (.code (codeName w.nextCode) session.clientState)
  | next (owner : String) :
      (session.fulfilledWith r d).consumer.next = some owner →
      w' = { w with oauthNonces := (w.oauthNonces.del n).put now cfg.oauthNonceTtl (nonceName w.nextNonce) state,
                    states := w.states.put now cfg.stateTtl state (session.fulfilledWith r d),
                    nextNonce := w.nextNonce + 1 } →
      AuthEffect cfg w w' now r state session n d (.next owner (nonceName w.nextNonce))

/-- The last three conjuncts are in `AuthChecked` too. They stand apart because they hold without the two side
    conditions of the signer check, which `authresp_nonce_once` does not have. -/
theorem authorizeResponse_cases (cfg : Cfg) (w : World) (now : Nat) (r : AuthResp) (out : World × Res AuthOut)
    (h : authorizeResponse cfg w now r = out) :
    (∃ on x, out = ({ w with oauthNonces := on }, x) ∧ x.isOk = false) ∨
    ∃ state session n s d o, out.2 = .ok o ∧ w.states.get now state = some session ∧
      AuthEffect cfg w out.1 now r state session n d o ∧
      (cfg.emptyVpChecked = true → (∀ vp ∈ r.vps, vp.signer ≠ some "") →
        AuthChecked cfg w now r state session n s d) ∧
      r.vps ≠ [] ∧ (∀ vp ∈ r.vps, vpChallenge vp = n) ∧ w.oauthNonces.get now n = some state := by
  subst h
  fun_cases authorizeResponse cfg w now r with
  | case1 | case2 | case3 | case4 | case5 => exact .inl ⟨w.oauthNonces, _, rfl, rfl⟩
  | case6 | case7 | case8 | case9 | case10 | case11 | case12 | case13 | case14 | case15 => exact .inl ⟨_, _, rfl, rfl⟩
  | case16 state hstate hvp henv session hsess htenant on u w1 hsubm hsubok s hpre u' hver consumer hful session' w2 owner hnext nn hvn
  | case17 state hstate hvp henv session hsess htenant on u w1 hsubm hsubok s hpre u' hver consumer hful session' w2 hnext name hvn =>
    obtain ⟨nc, hnne, hall, hbound, rfl⟩ := validatePresentationNonce_ok now r.vps state w.oauthNonces on hvn
    obtain ⟨d, hd, hnf, hpex, rfl⟩ := fulfill_ok _ _ _ _ _ _ hful
    exact .inr ⟨state, session, nc, s, d, _, rfl, hsess, by constructor; exact hnext; rfl, fun hchk hwf =>
      { stateGiven := hstate, sessionFound := hsess, tenant := Decidable.not_not.mp htenant
        wellformed := ⟨Bool.of_not_eq_false hvp, Bool.of_not_eq_false (fun hb => henv (.inl hb)),
          fun hnil => henv (.inr hnil), Bool.of_not_eq_false hsubm, Bool.of_not_eq_false hsubok⟩
        challenge := ⟨hnne, hall⟩, bound := hbound
        pre := (codePre_ok cfg r.subject hchk r.vps "" s hwf hpre).1
        verified := verifyAll_ok cfg now r.vps hver
        required := hd, notYet := hnf, pex := hpex }, fun hnil => henv (.inr hnil), hall, hbound⟩

/-- after an accepted response the nonce is gone, and the fresh nonce of a next leg has another name (`hfresh`). No side
    condition on signers: only what the handler does with the nonce is used. -/
theorem authresp_nonce_once (cfg : Cfg) (w w₁ : World) (t t' : Nat) (r r' : AuthResp) (out : AuthOut)
    (hfresh : ∀ vp ∈ r.vps, vpChallenge vp ≠ nonceName w.nextNonce)
    (h : authorizeResponse cfg w t r = (w₁, .ok out))
    (hsame : ∀ vp' ∈ r'.vps, ∃ vp ∈ r.vps, vpChallenge vp' = vpChallenge vp) :
    ∀ out', (authorizeResponse cfg w₁ t' r').2 ≠ .ok out' := by
  intro out' hok
  rcases authorizeResponse_cases cfg w t r _ h with ⟨_, x, hx, hno⟩ | ⟨state, _, n, _, _, o, ho, _, heff, _, _, hall, _⟩
  · cases hx; cases hno
  rcases authorizeResponse_cases cfg w₁ t' r' _ rfl with ⟨_, x, hx, hno⟩ | ⟨_, _, n', _, _, _, _, _, _, _, hne', hall', hbound⟩
  · rw [hx] at hok; cases hok; cases hno
  obtain ⟨vp', hvp'⟩ := List.exists_mem_of_ne_nil _ hne'
  obtain ⟨vp, hvp, heq⟩ := hsame vp' hvp'
  have hne : n ≠ nonceName w.nextNonce := by rw [← hall vp hvp]; exact hfresh vp hvp
  rw [← hall' vp' hvp', heq, hall vp hvp] at hbound
  cases ho
  cases heff with
  | code _ hw =>
    rw [show w₁ = _ from hw] at hbound
    rw [Store.get_del_same] at hbound
    cases hbound
  | next owner _ hw =>
    rw [show w₁ = _ from hw] at hbound
    rw [Store.get_put_ne _ _ _ _ _ _ _ (fun e => hne e.symm), Store.get_del_same] at hbound
    cases hbound

/-- everything the authorization_code token request has established when it answers 200 -/
structure CodeChecked (cfg : Cfg) (sha : String → String) (w : World) (now : Nat) (r : CodeReq)
    (code verifier : String) (session : Session) : Prop where
  subject : r.subject ∈ cfg.subjects
  codeGiven : r.code = some code
  verifierGiven : r.verifier = some verifier
  known : w.codes.get now code = some session
  client : r.clientId = some session.clientId
  method : session.method = "S256"
  pkce : sha verifier = session.challenge
  dpop : r.dpop ≠ .invalid

structure CodeEffect (cfg : Cfg) (w w' : World) (now : Nat) (r : CodeReq) (code : String) (session : Session)
    (resp : TokenResponse) : Prop where
  token : resp.token = tokName w.nextTok
  scope : resp.scope = session.scope
  record : ∃ claims dpop, mergeClaims session.consumer.claims [] = .ok claims ∧ parseDPoP r.dpop = .ok dpop ∧
    w'.tokens = w.tokens.put now cfg.tokenTtl (tokName w.nextTok)
      { issuer := cfg.issuerURL session.ownSubject, clientId := session.clientId, scope := session.scope, issuedAt := now,
        expiration := now + cfg.tokenValidity, dpop := dpop, claims := claims, defs := session.consumer.required,
        submissions := session.consumer.fulfilled, vps := session.consumer.vps }
  next : w'.nextTok = w.nextTok + 1
  burned : w'.codes = w.codes.del code
  others : w'.states = w.states ∧ w'.oauthNonces = w.oauthNonces ∧ w'.s2sNonces = w.s2sNonces ∧
    w'.nextCode = w.nextCode ∧ w'.nextNonce = w.nextNonce

/-- The answer of the last case is tied to `createAccessToken`'s by `.ok resp ↔ .ok resp` and not by an equation:
    `issueCode` prefixes the text of an error. -/
theorem issueCode_cases (cfg : Cfg) (sha : String → String) (w : World) (now : Nat) (r : CodeReq)
    (out : World × Res TokenResponse) (h : issueCode cfg sha w now r = out) :
    (∃ x, out = (w, x) ∧ x.isOk = false ∧ (r.subject ∉ cfg.subjects ∨ r.code = none)) ∨
    ∃ code, r.subject ∈ cfg.subjects ∧ r.code = some code ∧
      ((∃ x, out = ({ w with codes := w.codes.del code }, x) ∧ x.isOk = false) ∨
       ∃ verifier session dpop, r.verifier = some verifier ∧ r.clientId = some session.clientId ∧
         w.codes.get now code = some session ∧ pkceOK sha session verifier = true ∧ parseDPoP r.dpop = .ok dpop ∧
         out.1 = (createAccessToken cfg { w with codes := w.codes.del code } now (cfg.issuerURL session.ownSubject)
           session.clientId session.scope session.consumer dpop).1 ∧
         ∀ resp, out.2 = .ok resp ↔
           (createAccessToken cfg { w with codes := w.codes.del code } now (cfg.issuerURL session.ownSubject)
             session.clientId session.scope session.consumer dpop).2 = .ok resp) := by
  unfold issueCode at h
  rcases ite_eq_cases h with ⟨hs, h⟩ | ⟨hs, h⟩
  · exact .inl ⟨_, h.symm, rfl, .inl hs⟩
  generalize r.code = ocode at h ⊢
  cases ocode with
  | none => exact .inl ⟨_, h.symm, rfl, .inr rfl⟩
  | some code =>
  refine .inr ⟨code, Decidable.not_not.mp hs, rfl, ?_⟩
  dsimp only at h
  generalize r.verifier = over at h ⊢
  cases over with
  | none => exact .inl ⟨_, h.symm, rfl⟩
  | some verifier =>
  generalize r.clientId = ocid at h ⊢
  cases ocid with
  | none => exact .inl ⟨_, h.symm, rfl⟩
  | some clientId =>
  dsimp only at h
  have hdel := Store.getAndDelete_del w.codes now code
  generalize hgd : w.codes.getAndDelete now code = gd at h hdel
  obtain ⟨osession, cs⟩ := gd
  cases osession with
  | none => dsimp only at h hdel; rw [hdel] at h; exact .inl ⟨_, h.symm, rfl⟩
  | some session =>
  dsimp only at h hdel
  rw [hdel] at h
  rcases ite_eq_cases h with ⟨_, h⟩ | ⟨hcid, h⟩
  · exact .inl ⟨_, h.symm, rfl⟩
  rcases ite_eq_cases h with ⟨_, h⟩ | ⟨hpk, h⟩
  · exact .inl ⟨_, h.symm, rfl⟩
  generalize parseDPoP r.dpop = pd at h ⊢
  cases pd
  case err | panic => exact .inl ⟨_, h.symm, rfl⟩
  rename_i dpop
  refine .inr ⟨verifier, session, dpop, rfl, by rw [Decidable.not_not.mp hcid],
    (Store.getAndDelete_some w.codes now code session cs hgd).1, Bool.of_not_eq_false hpk, rfl, ?_⟩
  dsimp only at h
  generalize createAccessToken cfg { w with codes := w.codes.del code } now (cfg.issuerURL session.ownSubject)
    session.clientId session.scope session.consumer dpop = ca at h ⊢
  obtain ⟨w2, res⟩ := ca
  subst h
  cases res with
  | ok resp => exact ⟨rfl, fun _ => Iff.rfl⟩
  | err e => exact ⟨rfl, fun _ => ⟨nofun, nofun⟩⟩
  | panic p => exact ⟨rfl, fun _ => Iff.rfl⟩

theorem issueCode_ok (cfg : Cfg) (sha : String → String) (w w' : World) (now : Nat) (r : CodeReq) (resp : TokenResponse)
    (h : issueCode cfg sha w now r = (w', .ok resp)) :
    ∃ code verifier session, CodeChecked cfg sha w now r code verifier session ∧
      CodeEffect cfg w w' now r code session resp := by
  rcases issueCode_cases cfg sha w now r _ h with ⟨x, hx, hno, _⟩ | ⟨code, hsubj, hcode, ⟨x, hx, hno⟩ |
    ⟨verifier, session, dpop, hverifier, hclient, hget, hpk, hdpop, hw, hres⟩⟩
  · cases hx; cases hno
  · cases hx; cases hno
  obtain ⟨claims, hclaims, htok, hscope, _, _, _, hw'⟩ :=
    createAccessToken_ok _ _ _ _ _ _ _ _ _ _ (Prod.ext hw.symm ((hres resp).mp rfl))
  unfold pkceOK at hpk
  split at hpk
  · rename_i hm
    subst hw'
    exact ⟨code, verifier, session,
      { subject := hsubj, codeGiven := hcode, verifierGiven := hverifier, known := hget, client := hclient
        method := hm, pkce := of_decide_eq_true hpk
        dpop := by intro hi; rw [hi] at hdpop; cases hdpop },
      { token := htok, scope := hscope, record := ⟨claims, dpop, hclaims, hdpop, rfl⟩, next := rfl, burned := rfl
        others := ⟨rfl, rfl, rfl, rfl, rfl⟩ }⟩
  · cases hpk

theorem issueCode_world (cfg : Cfg) (sha : String → String) (w : World) (t : Nat) (r : CodeReq) :
    ∃ codes, ((codes = w.codes ∧ (r.subject ∉ cfg.subjects ∨ r.code = none)) ∨
        ∃ code, r.subject ∈ cfg.subjects ∧ r.code = some code ∧ codes = w.codes.del code) ∧
      MintOrNot cfg t { w with codes := codes } (issueCode cfg sha w t r) := by
  rcases issueCode_cases cfg sha w t r _ rfl with ⟨x, hx, hno, hnone⟩ | ⟨code, hsubj, hcode, ⟨x, hx, hno⟩ |
    ⟨_, session, dpop, _, _, _, _, _, hw, hres⟩⟩
  · rw [hx]; exact ⟨_, .inl ⟨rfl, hnone⟩, .inl ⟨rfl, hno⟩⟩
  · rw [hx]; exact ⟨_, .inr ⟨code, hsubj, hcode, rfl⟩, .inl ⟨rfl, hno⟩⟩
  · refine ⟨_, .inr ⟨code, hsubj, hcode, rfl⟩, ?_⟩
    rcases createAccessToken_mint cfg { w with codes := w.codes.del code } t (cfg.issuerURL session.ownSubject)
      session.clientId session.scope session.consumer dpop with ⟨h1, h2⟩ | ⟨rec, resp, hc, hr⟩
    · refine .inl ⟨hw.trans h1, ?_⟩
      -- only the text of an error differs from `createAccessToken`'s answer
      cases ho : (issueCode cfg sha w t r).2 with
      | ok resp => rw [(hres resp).mp ho] at h2; cases h2
      | err _ => rfl
      | panic _ => rfl
    · exact .inr ⟨rec, resp, Prod.ext (hw.trans (congrArg Prod.fst hc)) ((hres resp).mpr (congrArg Prod.snd hc)), hr⟩

theorem issueCode_burns (cfg : Cfg) (sha : String → String) (w : World) (now : Nat) (r : CodeReq) (code : String)
    (hs : r.subject ∈ cfg.subjects) (hc : r.code = some code) :
    (issueCode cfg sha w now r).1.codes.find code = none := by
  obtain ⟨codes, ⟨_, hno⟩ | ⟨code', _, hc', rfl⟩, hm⟩ := issueCode_world cfg sha w now r
  · rcases hno with hno | hno
    · exact absurd hs hno
    · rw [hc] at hno; cases hno
  · rw [hm.others.2.1, Option.some.inj (hc.symm.trans hc')]
    exact Store.find_del_same _ _

/-- The `.panic` case is `nextOpenID4VPFlow` on a scope whose definitions leave no wallet to ask: the session is
    stored all the same. -/
theorem authorizeRequest_cases (cfg : Cfg) (w : World) (now : Nat) (r : AuthReq) (out : World × Res AuthReqOut)
    (h : authorizeRequest cfg w now r = out) :
    (∃ e, out = (w, .err e)) ∨
    ∃ defs, r.redirectURI ≠ "" ∧ r.aud = cfg.issuerURL r.subject ∧ r.challenge ≠ "" ∧ r.method = "S256" ∧
      cfg.definitions r.scope = some defs ∧
      ((∃ p, out = ({ w with
            states := w.states.put now cfg.stateTtl (stateName w.nextState)
              { clientId := r.clientId, scope := r.scope, ownSubject := r.subject, challenge := r.challenge,
                method := "S256", clientState := r.clientState, consumer := ⟨defs, [], [], 0⟩ },
            nextState := w.nextState + 1 }, .panic p)) ∨
       ∃ owner, out = ({ w with
            states := w.states.put now cfg.stateTtl (stateName w.nextState)
              { clientId := r.clientId, scope := r.scope, ownSubject := r.subject, challenge := r.challenge,
                method := "S256", clientState := r.clientState, consumer := ⟨defs, [], [], 0⟩ },
            nextState := w.nextState + 1,
            oauthNonces := w.oauthNonces.put now cfg.oauthNonceTtl (nonceName w.nextNonce) (stateName w.nextState),
            nextNonce := w.nextNonce + 1 }, .ok ⟨stateName w.nextState, nonceName w.nextNonce, owner⟩)) := by
  subst h
  fun_cases authorizeRequest cfg w now r with
  | case1 | case2 | case3 | case4 | case5 => exact .inl ⟨_, rfl⟩
  | case6 h1 h2 h3 h4 defs hdefs =>
    have hm : r.method = "S256" := Decidable.not_not.mp fun hne => h4 (.inr hne)
    exact .inr ⟨defs, h1, Decidable.not_not.mp h2, h3, hm, hdefs, by rw [← hm]; exact .inl ⟨_, rfl⟩⟩
  | case7 h1 h2 h3 h4 defs hdefs =>
    have hm : r.method = "S256" := Decidable.not_not.mp fun hne => h4 (.inr hne)
    exact .inr ⟨defs, h1, Decidable.not_not.mp h2, h3, hm, hdefs, by rw [← hm]; exact .inr ⟨_, rfl⟩⟩

end Nuts.C02
