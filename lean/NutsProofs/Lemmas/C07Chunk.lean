/-
  `chunkTransactionList` (NutsModel/C07/Handlers): the chunks are the list cut into pieces, nothing lost or reordered, and
  every piece fits the message size limit unless it is a single transaction; what `sendTransactionList` sends.
-/
import NutsModel.C07.Handlers

namespace Nuts.Proto.L

/-- the size `chunkTransactionList` accounts for a chunk -/
def csize (cfg : Cfg) : List NetTx → Nat
  | [] => 0
  | t :: ts => netSize cfg t + csize cfg ts

theorem csize_append (cfg : Cfg) (l1 l2 : List NetTx) : csize cfg (l1 ++ l2) = csize cfg l1 + csize cfg l2 := by
  induction l1 with
  | nil => simp [csize]
  | cons x xs ih => simp [csize, ih]; omega

theorem csize_reverse (cfg : Cfg) (l : List NetTx) : csize cfg l.reverse = csize cfg l := by
  induction l with
  | nil => rfl
  | cons x xs ih => simp [csize, csize_append, ih]; omega

def ChunkOK (cfg : Cfg) (c : List NetTx) : Prop := csize cfg c ≤ cfg.maxMsg - cfg.msgOverhead ∨ c.length ≤ 1

def ChunkInv (cfg : Cfg) (l : List NetTx) (st : List (List NetTx) × List NetTx × Nat) : Prop :=
  st.1.reverse.flatten ++ st.2.1.reverse = l ∧ st.2.2 = csize cfg st.2.1 ∧ ChunkOK cfg st.2.1.reverse ∧ ∀ c ∈ st.1, ChunkOK cfg c

theorem chunkStep_inv (cfg : Cfg) (l : List NetTx) (st : List (List NetTx) × List NetTx × Nat) (t : NetTx)
    (h : ChunkInv cfg l st) : ChunkInv cfg (l ++ [t]) (chunkStep cfg st t) := by
  obtain ⟨done, cur, size⟩ := st
  obtain ⟨h0, h1, h2, h3⟩ := h
  simp only at h0 h1 h2 h3
  subst h0 h1
  unfold chunkStep ChunkInv
  simp only
  split
  · exact ⟨by simp, by simp [csize], .inr (by simp), fun c hc => (List.mem_cons.mp hc).elim (· ▸ h2) (h3 c)⟩
  · refine ⟨by simp, by simp [csize]; omega, .inl ?_, h3⟩
    rw [csize_reverse]; simp only [csize]; omega

theorem chunk_fold_inv (cfg : Cfg) : ∀ (l p : List NetTx) (st : List (List NetTx) × List NetTx × Nat),
    ChunkInv cfg p st → ChunkInv cfg (p ++ l) (l.foldl (chunkStep cfg) st) := by
  intro l
  induction l with
  | nil => intro p st h; simpa using h
  | cons t ts ih =>
    intro p st h
    have := ih (p ++ [t]) _ (chunkStep_inv cfg p st t h)
    simpa using this

theorem chunks_spec (cfg : Cfg) (l : List NetTx) :
    (chunkTransactionList cfg l).flatten = l ∧ ∀ c ∈ chunkTransactionList cfg l, ChunkOK cfg c := by
  have h := chunk_fold_inv cfg l [] ([], [], 0) ⟨rfl, rfl, .inl (Nat.zero_le _), by simp⟩
  unfold chunkTransactionList
  generalize l.foldl (chunkStep cfg) ([], [], 0) = st at h
  obtain ⟨done, cur, size⟩ := st
  obtain ⟨h0, _, h2, h3⟩ := h
  simp only [List.nil_append] at h0 h2 h3 ⊢
  split
  · rename_i hc
    have : cur = [] := by simpa using hc
    subst this
    exact ⟨by simpa using h0, fun c hc => h3 c (List.mem_reverse.mp hc)⟩
  · exact ⟨by simpa using h0, fun c hc => (List.mem_cons.mp (List.mem_reverse.mp hc)).elim (· ▸ h2) (h3 c)⟩

theorem chunks_flatten (cfg : Cfg) (l : List NetTx) : (chunkTransactionList cfg l).flatten = l := (chunks_spec cfg l).1

theorem chunks_bounded (cfg : Cfg) (l : List NetTx) : ∀ c ∈ chunkTransactionList cfg l, ChunkOK cfg c := (chunks_spec cfg l).2

theorem numberChunks_mem (cid : Cid) (total : Nat) : ∀ (chunks : List (List NetTx)) (i : Nat) (m : Msg),
    m ∈ numberChunks cid total i chunks → ∃ k c, m = .txList cid k total c ∧ c ∈ chunks := by
  intro chunks
  induction chunks with
  | nil => intro i m h; simp [numberChunks] at h
  | cons c cs ih =>
    intro i m h
    simp only [numberChunks, List.mem_cons] at h
    rcases h with rfl | h
    · exact ⟨i + 1, c, rfl, List.mem_cons_self⟩
    · obtain ⟨k, c', h1, h2⟩ := ih (i + 1) m h
      exact ⟨k, c', h1, List.mem_cons_of_mem _ h2⟩

theorem chunk_elems_mem (cfg : Cfg) (l : List NetTx) (c : List NetTx) (hc : c ∈ chunkTransactionList cfg l) : ∀ t ∈ c, t ∈ l := by
  intro t ht
  have : t ∈ (chunkTransactionList cfg l).flatten := List.mem_flatten.mpr ⟨c, hc, ht⟩
  rwa [chunks_flatten] at this

theorem sendTransactionList_mem (cfg : Cfg) (peer : Nat) (cid : Cid) (l : List NetTx) (o : Nat × Msg)
    (h : o ∈ sendTransactionList cfg peer cid l) :
    o.1 = peer ∧ ∃ k total c, o.2 = .txList cid k total c ∧ ∀ e ∈ c, e ∈ l := by
  unfold sendTransactionList at h
  simp only [List.mem_map] at h
  obtain ⟨m, hm, rfl⟩ := h
  obtain ⟨k, c, h1, h2⟩ := numberChunks_mem cid _ _ _ m hm
  exact ⟨rfl, k, _, c, h1, chunk_elems_mem cfg l c h2⟩

theorem chunks_fit (cfg : Cfg) (l : List NetTx) (hfit : ∀ t ∈ l, netSize cfg t ≤ cfg.maxMsg - cfg.msgOverhead) :
    ∀ c ∈ chunkTransactionList cfg l, csize cfg c ≤ cfg.maxMsg - cfg.msgOverhead := by
  intro c hc
  rcases chunks_bounded cfg l c hc with h | h
  · exact h
  · match c, h, hc with
    | [], _, _ => simp [csize]
    | [t], _, hc =>
      have := hfit t (chunk_elems_mem cfg l [t] hc t List.mem_cons_self)
      simp only [csize]; omega
    | _ :: _ :: _, h, _ => simp at h

end Nuts.Proto.L
