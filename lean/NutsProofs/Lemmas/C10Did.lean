/-
  C10 — one DID: `Inv` says that a stored state is the materialisation of its sorted event list (`derive`); `addDid` keeps it
  (`addDid_inv`: the chain before the insertion point is kept, the rest is re-applied), so after any arrival sequence (`addDidAll`)
  the state holds exactly the arrived events, and two states that satisfy `Inv` over the same set of events are equal
  (`didstate_determined`).
-/
import NutsProofs.Lemmas.C10Chain

namespace Nuts.C10

structure Inv (cfg : Cfg) (st : DidState) : Prop where
  sorted : Sorted st.events
  nodup : (refs st.events).Nodup
  chain : derive cfg st.events = .ok st.chain
  flag : st.conflicted = (match st.chain.getLast? with | some p => p.2.isConflicted | none => false)

theorem inv_empty (cfg : Cfg) : Inv cfg {} :=
  ⟨List.Pairwise.nil, List.nodup_nil, rfl, rfl⟩

theorem contains_false_iff {l : List Event} {e : Event} :
    contains l e = false ↔ ∀ y ∈ l, y.ref ≠ e.ref := by
  unfold contains
  rw [List.any_eq_false]
  constructor
  · intro h y hy; have := h y hy; simpa using this
  · intro h y hy; have := h y hy; simpa using this

theorem base_eq_lastMeta (cpre csuf : List (Doc × Meta)) :
    (if cpre.length > 0 then ((cpre ++ csuf)[cpre.length - 1]?).map (·.2) else none) = lastMeta none cpre := by
  unfold lastMeta
  by_cases h : cpre.length > 0
  · simp only [h, if_true]
    rw [List.getElem?_append_left (by omega), ← List.getLast?_eq_getElem?]
    cases cpre.getLast? <;> rfl
  · have : cpre = [] := List.eq_nil_of_length_eq_zero (by omega)
    subst this; rfl

theorem addDid_some {cfg : Cfg} {st st' : DidState} {e : Event} (h : addDid cfg st e = .ok (some st')) :
    contains st.events e = false ∧ ∃ suffix last,
      applyAll cfg (insert e st.events).1
        (if (insert e st.events).2 > 0 then (st.chain[(insert e st.events).2 - 1]?).map (·.2) else none)
        ((insert e st.events).1.drop (insert e st.events).2) = .ok suffix ∧
      (st.chain.take (insert e st.events).2 ++ suffix).getLast? = some last ∧
      st' = { events := (insert e st.events).1, chain := st.chain.take (insert e st.events).2 ++ suffix,
              conflicted := last.2.isConflicted } := by
  revert h
  fun_cases addDid cfg st e with
  | case5 hc _ _ _ _ suffix hs _ last hl =>
    exact fun h => ⟨Bool.eq_false_iff.mpr hc, suffix, last, hs, hl, (Option.some.inj (Res.ok.inj h)).symm⟩
  | _ => nofun

theorem addDid_none {cfg : Cfg} {st : DidState} {e : Event} (h : addDid cfg st e = .ok none) :
    contains st.events e = true := by
  revert h
  fun_cases addDid cfg st e with
  | case1 hc => exact fun _ => hc
  | _ => nofun

theorem addDid_mono (cfg : Cfg) (st st' : DidState) (e : Event) (h : addDid cfg st e = .ok (some st')) :
    e ∈ st'.events ∧ ∀ x, x ∈ st.events → x ∈ st'.events := by
  obtain ⟨_, _, _, _, _, rfl⟩ := addDid_some h
  have hp := insert_perm e st.events
  exact ⟨hp.mem_iff.mpr List.mem_cons_self, fun x hx => hp.mem_iff.mpr (List.mem_cons_of_mem _ hx)⟩

theorem addDid_inv (cfg : Cfg) (st : DidState) (e : Event) (h : Inv cfg st) (st' : DidState)
    (hadd : addDid cfg st e = .ok (some st')) :
    Inv cfg st' ∧ st'.events.Perm (e :: st.events) := by
  obtain ⟨hc', suffix, last, hs, hlast, rfl⟩ := addDid_some hadd
  have hfresh := contains_false_iff.mp hc'
  obtain ⟨pre, suf, hl, hi, _⟩ := insert_split e st.events
  rw [hi] at hs hlast ⊢
  simp only [List.drop_left'] at hs
  -- old derivation splits at `pre`
  have hch := h.chain
  unfold derive at hch
  rw [hl] at hch
  obtain ⟨cpre, csuf, h1, _, h3⟩ := applyAll_append_iff.mp hch
  have hlen : cpre.length = pre.length := applyAll_length h1
  -- lookups among old refs are unchanged by inserting e
  have hR : ∀ r ∈ refs (pre ++ suf), docOfTx (pre ++ e :: suf) r = docOfTx (pre ++ suf) r := by
    intro r hr
    apply docOfTx_insert
    intro heq
    obtain ⟨y, hy, hyr⟩ := List.mem_map.mp hr
    exact hfresh y (hl ▸ hy) (hyr.trans heq)
  have h1' : applyAll cfg (pre ++ e :: suf) none pre = .ok cpre := by
    rw [applyAll_ctx hR (cur := none) (fun _ h => nomatch h)
      (fun x hx => List.mem_map.mpr ⟨x, List.mem_append_left _ hx, rfl⟩)]
    exact h1
  have htake : st.chain.take pre.length = cpre := by
    rw [h3, ← hlen]; simp
  have hbase : (if pre.length > 0 then (st.chain[pre.length - 1]?).map (·.2) else none) = lastMeta none cpre := by
    rw [h3, ← hlen]; exact base_eq_lastMeta cpre csuf
  rw [hbase] at hs
  rw [htake] at hlast ⊢
  have hp : (pre ++ e :: suf).Perm (e :: st.events) := by rw [hl]; exact List.perm_middle
  refine ⟨⟨?_, ?_, applyAll_append_iff.mpr ⟨cpre, suffix, h1', hs, rfl⟩, ?_⟩, hp⟩
  · have := insert_sorted e st.events h.sorted hfresh
    rw [hi] at this; exact this
  · apply (List.Perm.nodup_iff (hp.map _)).mpr
    simp only [List.map_cons, List.nodup_cons]
    refine ⟨?_, h.nodup⟩
    intro hm
    obtain ⟨y, hy, hyr⟩ := List.mem_map.mp hm
    exact hfresh y hy hyr
  · simp only [hlast]

def addDidAll (cfg : Cfg) : DidState → List Event → Res DidState
  | st, [] => .ok st
  | st, e :: es =>
    match addDid cfg st e with
    | .ok none => addDidAll cfg st es
    | .ok (some st') => addDidAll cfg st' es
    | .err x => .err x
    | .panic x => .panic x

/-- within the universe `U` a ref identifies the event (a transaction ref is the hash of the transaction) -/
def RefFun (U : List Event) : Prop := ∀ a ∈ U, ∀ b ∈ U, a.ref = b.ref → a = b

theorem addDid_none_mem (cfg : Cfg) (st : DidState) (e : Event) (U : List Event) (hU : RefFun U)
    (hst : ∀ x ∈ st.events, x ∈ U) (he : e ∈ U) (h : addDid cfg st e = .ok none) : e ∈ st.events := by
  obtain ⟨y, hy, hyr⟩ := List.any_eq_true.mp (addDid_none h)
  rw [← hU y (hst y hy) e he (beq_iff_eq.mp hyr)]
  exact hy

theorem addDidAll_nil (cfg : Cfg) (st : DidState) : addDidAll cfg st [] = .ok st := rfl

theorem addDidAll_cons (cfg : Cfg) (st : DidState) (e : Event) (es : List Event) :
    addDidAll cfg st (e :: es) = (addDid cfg st e).bind fun r => addDidAll cfg (r.getD st) es := by
  rw [addDidAll]
  rcases addDid cfg st e with (_ | _) | _ | _ <;> rfl

theorem addDidAll_inv (cfg : Cfg) (U : List Event) (hU : RefFun U) :
    ∀ (l : List Event) (st s : DidState), Inv cfg st → (∀ x ∈ st.events, x ∈ U) → (∀ x ∈ l, x ∈ U) →
      addDidAll cfg st l = .ok s →
      Inv cfg s ∧ ∀ x, x ∈ s.events ↔ (x ∈ st.events ∨ x ∈ l) := by
  intro l
  induction l with
  | nil =>
    intro st s hinv _ _ h
    cases h
    exact ⟨hinv, by simp⟩
  | cons e es ih =>
    intro st s hinv hst hl h
    have hes := fun x hx => hl x (List.mem_cons_of_mem _ hx)
    rw [addDidAll_cons] at h
    obtain ⟨r, hadd, h⟩ := Res.bind_eq_ok.mp h
    cases r with
    | none =>
      -- a duplicate is already listed
      have hmem := addDid_none_mem cfg st e U hU hst (hl e List.mem_cons_self) hadd
      obtain ⟨hi, hm⟩ := ih st s hinv hst hes h
      refine ⟨hi, fun x => (hm x).trans ⟨fun h => h.imp_right (List.mem_cons_of_mem _), fun h => ?_⟩⟩
      rcases h with h | h
      · exact Or.inl h
      · rcases List.mem_cons.mp h with rfl | h
        · exact Or.inl hmem
        · exact Or.inr h
    | some st' =>
      obtain ⟨hinv', hperm⟩ := addDid_inv cfg st e hinv st' hadd
      have hst' : ∀ x ∈ st'.events, x ∈ U := by
        intro x hx
        rcases List.mem_cons.mp (hperm.subset hx) with rfl | hx'
        · exact hl _ List.mem_cons_self
        · exact hst x hx'
      obtain ⟨hi, hm⟩ := ih st' s hinv' hst' hes h
      refine ⟨hi, fun x => ?_⟩
      rw [hm x, hperm.mem_iff, List.mem_cons, List.mem_cons, or_assoc, or_left_comm]

theorem didstate_determined (cfg : Cfg) (s₁ s₂ : DidState) (h₁ : Inv cfg s₁) (h₂ : Inv cfg s₂)
    (hm : ∀ x, x ∈ s₁.events ↔ x ∈ s₂.events) : s₁ = s₂ := by
  have n₁ : s₁.events.Nodup :=
    List.Pairwise.of_map (·.ref) (fun a b hab heq => hab (congrArg _ heq)) h₁.nodup
  have n₂ : s₂.events.Nodup :=
    List.Pairwise.of_map (·.ref) (fun a b hab heq => hab (congrArg _ heq)) h₂.nodup
  have hp : s₁.events.Perm s₂.events := (List.perm_ext_iff_of_nodup n₁ n₂).mpr hm
  have he : s₁.events = s₂.events := sorted_perm_eq h₁.sorted h₂.sorted hp
  have hc : s₁.chain = s₂.chain := by
    have a := h₁.chain; have b := h₂.chain
    rw [he] at a; rw [a] at b; exact Res.ok.inj b
  have hf : s₁.conflicted = s₂.conflicted := by rw [h₁.flag, h₂.flag, hc]
  cases s₁; cases s₂; simp_all

theorem inv_last (cfg : Cfg) (st : DidState) (hinv : Inv cfg st) (hne : st.events ≠ []) :
    ∃ p, st.chain.getLast? = some p ∧ p.2.version + 1 = st.events.length := by
  have hlen := applyAll_length hinv.chain
  cases hl : st.chain.getLast? with
  | none =>
    rw [List.getLast?_eq_none_iff.mp hl] at hlen
    exact absurd (List.eq_nil_of_length_eq_zero hlen.symm) hne
  | some p => exact ⟨p, rfl, by rw [applyAll_last_version hinv.chain hl, hlen]; rfl⟩

theorem inv_nil {cfg : Cfg} {st : DidState} (h : Inv cfg st) (hnil : st.events = []) :
    st.chain = [] ∧ st.conflicted = false := by
  have hc : st.chain = [] := List.eq_nil_of_length_eq_zero ((applyAll_length h.chain).trans (hnil ▸ rfl))
  exact ⟨hc, by rw [h.flag, hc]; rfl⟩

theorem inv_conflicted {cfg : Cfg} {st : DidState} (h : Inv cfg st) (hc : st.conflicted = true) :
    ∃ p, st.chain.getLast? = some p ∧ p.2.isConflicted = true := by
  have hf := h.flag
  cases hl : st.chain.getLast? with
  | none => rw [hl, hc] at hf; cases hf
  | some p => rw [hl, hc] at hf; exact ⟨p, rfl, hf.symm⟩

theorem inv_versions (cfg : Cfg) (a : DidState) (h : Inv cfg a) :
    ∀ (j : Nat) (p : Doc × Meta), a.chain[j]? = some p → p.2.version = j := by
  intro j p hp
  have := applyAll_versions h.chain hp
  simpa [nextVersion] using this

theorem inv_chain_sources (cfg : Cfg) (st : DidState) (hinv : Inv cfg st) (p : Doc × Meta) (hp : p ∈ st.chain) :
    p.2.sourceTx ≠ [] ∧ ∀ r ∈ p.2.sourceTx, ∃ e ∈ st.events, e.ref = r := by
  have := (applyAll_src (R := refs st.events) (cur := none) (fun _ h => nomatch h)
    (fun e he => List.mem_map.mpr ⟨e, he, rfl⟩) hinv.chain).2 p hp
  exact ⟨this.1, fun r hr => List.mem_map.mp (this.2 r hr)⟩

theorem sorted_last_of_all_before (l : List Event) (hs : Sorted l) (top : Event) (htop : top ∈ l)
    (hb : ∀ e ∈ l, e ≠ top → before e top = true) : ∃ pre, l = pre ++ [top] := by
  have hne : l ≠ [] := fun h => by rw [h] at htop; cases htop
  obtain ⟨x, hx⟩ : ∃ x, l.getLast? = some x := by
    cases h : l.getLast? with
    | none => exact absurd (List.getLast?_eq_none_iff.mp h) hne
    | some x => exact ⟨x, rfl⟩
  obtain ⟨pre, hpre⟩ := List.getLast?_eq_some_iff.mp hx
  by_cases hxt : x = top
  · subst hxt; exact ⟨pre, hpre⟩
  · exfalso
    have hxl : x ∈ l := by rw [hpre]; simp
    have h1 := hb x hxl hxt
    have htp : top ∈ pre := by
      rw [hpre] at htop
      rcases List.mem_append.mp htop with h | h
      · exact h
      · simp only [List.mem_singleton] at h; exact absurd h.symm hxt
    have h2 : before top x = true := by
      unfold Sorted at hs
      rw [hpre] at hs
      exact (List.pairwise_append.mp hs).2.2 top htp x (by simp)
    rw [before_asymm h1] at h2
    cases h2

theorem inv_covering_last (cfg : Cfg) (st : DidState) (hinv : Inv cfg st) (top : Event) (htop : top ∈ st.events)
    (hcov : ∀ e ∈ st.events, e ≠ top → before e top = true ∧ e.ref ∈ top.prevs) :
    ∃ m, st.chain.getLast? = some (top.doc, m) ∧ m.sourceTx = [top.ref] ∧ m.hash = top.payloadHash ∧
      st.conflicted = false := by
  obtain ⟨pre, hpre⟩ := sorted_last_of_all_before st.events hinv.sorted top htop (fun e he hne => (hcov e he hne).1)
  have hsplit : applyAll cfg st.events none (pre ++ [top]) = .ok st.chain := hpre ▸ hinv.chain
  obtain ⟨ca, cb, hca, hcb, hcat⟩ := applyAll_append_iff.mp hsplit
  have hnd : (refs (pre ++ [top])).Nodup := hpre ▸ hinv.nodup
  -- the sources of the version before `top` are refs of `pre`, all listed by `top`
  have hcover : SrcIn top.prevs (lastMeta none ca) := fun c hc r hr => by
    obtain ⟨e, he, rfl⟩ := List.mem_map.mp
      ((applyAll_src (cur := none) (fun _ h => nomatch h) (fun e he => List.mem_map.mpr ⟨e, he, rfl⟩) hca).1 c hc r hr)
    refine (hcov e (hpre ▸ List.mem_append_left _ he) fun heq => ?_).2
    rw [refs, List.map_append] at hnd
    exact (List.nodup_append.mp hnd).2.2 e.ref (List.mem_map.mpr ⟨e, he, rfl⟩) top.ref (by simp) (heq ▸ rfl)
  obtain ⟨m, hm, hs, hh, _⟩ := applyEvent_of_covered (cfg := cfg) (evs := st.events) hcover
  obtain ⟨_, _, _, he, hr, rfl⟩ := applyAll_cons_iff.mp hcb
  cases hm.symm.trans he
  cases hr
  have hl : st.chain.getLast? = some (top.doc, m) := by rw [hcat]; simp
  refine ⟨m, hl, hs, hh, ?_⟩
  rw [hinv.flag, hl]
  simp [Meta.isConflicted, hs]

end Nuts.C10
