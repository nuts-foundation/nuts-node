/-
  C02 — histories (NutsModel/C02/History.lean): what one operation does to the stores the history theorems speak of
  (`step_world`), and what therefore holds after any history: a remembered nonce stays remembered, a burnt code stays
  gone, an issued token stays under its name, and every token in the store was issued.
-/
import NutsProofs.Lemmas.C02S2S
import NutsProofs.Lemmas.C02Code
import NutsModel.C02.History
import Std.Data.String.ToNat

namespace Nuts.C02

theorem tokName_inj (a b : Nat) (h : tokName a = tokName b) : a = b :=
  Nat.repr_injective ((String.append_right_inj _).mp h)

theorem codeName_inj (a b : Nat) (h : codeName a = codeName b) : a = b :=
  Nat.repr_injective ((String.append_right_inj _).mp h)

/-- a token is issued by operation `op` at time `t` in world `w` under the name `name` with record `rec` -/
def Issued (cfg : Cfg) (sha : String → String) (w : World) (t : Nat) (op : Op) (name : String) (rec : TokenRec) : Prop :=
  ∃ resp, (step cfg sha w t op).2 = .token (.ok resp) ∧ resp.token = name ∧ name = tokName w.nextTok ∧
    (step cfg sha w t op).1.tokens = w.tokens.put t cfg.tokenTtl name rec ∧
    (step cfg sha w t op).1.nextTok = w.nextTok + 1 ∧
    rec.issuedAt = t ∧ rec.expiration = t + cfg.tokenValidity

section
variable {cfg : Cfg} {sha : String → String} {w : World} {t : Nat} {op : Op} {name : String} {rec : TokenRec}
  (h : Issued cfg sha w t op name rec)
include h

theorem Issued.name_eq : name = tokName w.nextTok := h.elim fun _ h => h.2.2.1

theorem Issued.tokens_eq : (step cfg sha w t op).1.tokens = w.tokens.put t cfg.tokenTtl name rec :=
  h.elim fun _ h => h.2.2.2.1

theorem Issued.nextTok_eq : (step cfg sha w t op).1.nextTok = w.nextTok + 1 := h.elim fun _ h => h.2.2.2.2.1

theorem Issued.times : rec.issuedAt = t ∧ rec.expiration = t + cfg.tokenValidity := h.elim fun _ h => h.2.2.2.2.2

end

theorem MintOrNot.issued {cfg : Cfg} {sha : String → String} {w w₀ : World} {t : Nat} {op : Op}
    {out : World × Res TokenResponse} (hm : MintOrNot cfg t w₀ out) (hs : step cfg sha w t op = (out.1, .token out.2))
    (h₀ : w₀.tokens = w.tokens ∧ w₀.nextTok = w.nextTok) :
    ((step cfg sha w t op).1.tokens = w.tokens ∧ (step cfg sha w t op).1.nextTok = w.nextTok) ∨
    ∃ rec, Issued cfg sha w t op (tokName w.nextTok) rec := by
  unfold Issued
  rw [hs]
  rcases hm with ⟨h1, _⟩ | ⟨rec, resp, rfl, hn, hr⟩
  · rw [h1]; exact .inl h₀
  · rw [← h₀.1, ← h₀.2]; exact .inr ⟨rec, resp, rfl, hn, rfl, rfl, rfl, hr⟩

theorem step_world (cfg : Cfg) (sha : String → String) (w : World) (t : Nat) (op : Op) :
    ((step cfg sha w t op).1.s2sNonces = w.s2sNonces ∨
      ∃ vps, (step cfg sha w t op).1.s2sNonces = (s2sNonceLoop cfg t vps w.s2sNonces).1) ∧
    (((step cfg sha w t op).1.tokens = w.tokens ∧ (step cfg sha w t op).1.nextTok = w.nextTok) ∨
      ∃ rec, Issued cfg sha w t op (tokName w.nextTok) rec) ∧
    (((step cfg sha w t op).1.nextCode = w.nextCode ∧
        ((step cfg sha w t op).1.codes = w.codes ∨ ∃ c, (step cfg sha w t op).1.codes = w.codes.del c)) ∨
      ∃ s, (step cfg sha w t op).1.codes = w.codes.put t cfg.codeTtl (codeName w.nextCode) s ∧
        (step cfg sha w t op).1.nextCode = w.nextCode + 1) := by
  cases op with
  | s2s r =>
    obtain ⟨_, hn, hm⟩ := issueS2S_world cfg w t r
    obtain ⟨h1, h2, h3, _⟩ := hm.others
    refine ⟨?_, ?_, .inl ⟨h3, .inl h2⟩⟩
    · rcases hn with rfl | rfl
      · exact .inl h1
      · exact .inr ⟨r.vps, h1⟩
    · exact hm.issued rfl ⟨rfl, rfl⟩
  | code r =>
    obtain ⟨_, hc, hm⟩ := issueCode_world cfg sha w t r
    obtain ⟨h1, h2, h3, _⟩ := hm.others
    refine ⟨.inl h1, ?_, .inl ⟨h3, ?_⟩⟩
    · exact hm.issued rfl ⟨rfl, rfl⟩
    · rcases hc with ⟨rfl, _⟩ | ⟨c, _, _, rfl⟩
      · exact .inl h2
      · exact .inr ⟨c, h2⟩
  | seed state nonce session => exact ⟨.inl rfl, .inl ⟨rfl, rfl⟩, .inl ⟨rfl, .inl rfl⟩⟩
  | auth r =>
    simp only [step]
    rcases authorizeResponse_cases cfg w t r _ rfl with ⟨_, _, hw, _⟩ | ⟨_, _, _, _, _, _, _, _, heff, _⟩
    · rw [hw]; exact ⟨.inl rfl, .inl ⟨rfl, rfl⟩, .inl ⟨rfl, .inl rfl⟩⟩
    · cases heff with
      | code _ hw => rw [hw]; exact ⟨.inl rfl, .inl ⟨rfl, rfl⟩, .inr ⟨_, rfl, rfl⟩⟩
      | next _ _ hw => rw [hw]; exact ⟨.inl rfl, .inl ⟨rfl, rfl⟩, .inl ⟨rfl, .inl rfl⟩⟩
  | authreq r =>
    simp only [step]
    rcases authorizeRequest_cases cfg w t r _ rfl with ⟨_, hw⟩ | ⟨_, _, _, _, _, _, ⟨_, hw⟩ | ⟨_, hw⟩⟩
    all_goals rw [hw]; exact ⟨.inl rfl, .inl ⟨rfl, rfl⟩, .inl ⟨rfl, .inl rfl⟩⟩

theorem issueS2S_issued (cfg : Cfg) (sha : String → String) (w w' : World) (t : Nat) (r : S2SReq) (resp : TokenResponse)
    (h : issueS2S cfg w t r = (w', .ok resp)) :
    ∃ rec, Issued cfg sha w t (.s2s r) resp.token rec ∧ w'.tokens = w.tokens.put t cfg.tokenTtl resp.token rec := by
  obtain ⟨_, _, hm⟩ := issueS2S_world cfg w t r
  rw [h] at hm
  rcases hm with ⟨_, hno⟩ | ⟨rec, _, heq, hn, hr⟩
  · cases hno
  · cases (Prod.mk.inj heq).2
    have hw := (Prod.mk.inj heq).1
    have hs : step cfg sha w t (.s2s r) = (w', .token (.ok resp)) := by simp only [step]; rw [h]
    exact ⟨rec, ⟨resp, by rw [hs], rfl, hn, by rw [hs, hw, hn], by rw [hs, hw], hr⟩, by rw [hw, hn]⟩

theorem after_cons (cfg : Cfg) (sha : String → String) (t : Nat) (op : Op) (rest : List (Nat × Op)) (w : World) :
    after cfg sha ((t, op) :: rest) w = after cfg sha rest (step cfg sha w t op).1 := by
  simp [after, run]

theorem after_append (cfg : Cfg) (sha : String → String) (a b : List (Nat × Op)) (w : World) :
    after cfg sha (a ++ b) w = after cfg sha b (after cfg sha a w) := by
  induction a generalizing w with
  | nil => simp [after, run]
  | cons x rest ih =>
    obtain ⟨t, op⟩ := x
    rw [List.cons_append, after_cons, after_cons, ih]

theorem after_induct (cfg : Cfg) (sha : String → String) (P : World → Prop) :
    ∀ (hist : List (Nat × Op)) (w : World), (∀ x ∈ hist, ∀ w, P w → P (step cfg sha w x.1 x.2).1) → P w →
      P (after cfg sha hist w) := by
  intro hist
  induction hist with
  | nil => intro w _ h; exact h
  | cons x rest ih =>
    intro w hstep h
    rw [after_cons]
    exact ih _ (fun y hy => hstep y (List.mem_cons_of_mem _ hy)) (hstep x List.mem_cons_self w h)

/-- well-formedness of a history: DIDs that parse are non-empty -/
def HistWF (h : List (Nat × Op)) : Prop :=
  ∀ t r, (t, Op.s2s r) ∈ h → ∀ vp ∈ r.vps, vp.signer ≠ some ""

theorem token_in_store_was_issued (cfg : Cfg) (sha : String → String) (httl' : cfg.tokenTtl ≠ 0) :
    ∀ (hist : List (Nat × Op)) (w : World) (now : Nat) (tok : String) (rec : TokenRec),
      (after cfg sha hist w).tokens.get now tok = some rec →
      w.tokens.get now tok = some rec ∨
      ∃ pre t op post, hist = pre ++ (t, op) :: post ∧ Issued cfg sha (after cfg sha pre w) t op tok rec ∧
        now ≤ t + cfg.tokenTtl := by
  intro hist
  induction hist with
  | nil => intro w now tok rec h; exact .inl h
  | cons x rest ih =>
    obtain ⟨t, op⟩ := x
    intro w now tok rec h
    rw [after_cons] at h
    rcases ih _ now tok rec h with h1 | ⟨pre, t', op', post, heq, hiss, hle⟩
    · rcases (step_world cfg sha w t op).2.1 with ⟨hsame, _⟩ | ⟨rec', hiss⟩
      · exact .inl (hsame ▸ h1)
      · rw [hiss.tokens_eq] at h1
        by_cases hk : tok = tokName w.nextTok
        · subst hk
          rw [Store.get_put_same _ _ _ _ _ _ httl'] at h1
          rcases ite_eq_cases h1 with ⟨hle, h1⟩ | ⟨_, h1⟩
          · cases h1; exact .inr ⟨[], t, op, rest, rfl, hiss, hle⟩
          · cases h1
        · rw [Store.get_put_ne _ _ _ _ _ _ _ (fun e => hk e.symm)] at h1
          exact .inl h1
    · exact .inr ⟨(t, op) :: pre, t', op', post, by rw [heq]; rfl, by rw [after_cons]; exact hiss, hle⟩

theorem token_entry_stable (cfg : Cfg) (sha : String → String) (hist : List (Nat × Op)) (w : World) :
    w.nextTok ≤ (after cfg sha hist w).nextTok ∧
    ∀ n < w.nextTok, (after cfg sha hist w).tokens.find (tokName n) = w.tokens.find (tokName n) := by
  refine after_induct cfg sha (fun w' => w.nextTok ≤ w'.nextTok ∧
    ∀ n < w.nextTok, w'.tokens.find (tokName n) = w.tokens.find (tokName n)) hist w ?_ ⟨Nat.le_refl _, fun _ _ => rfl⟩
  intro x _ w' ⟨hle, hst⟩
  rcases (step_world cfg sha w' x.1 x.2).2.1 with ⟨hs, hn⟩ | ⟨rec, hiss⟩
  · rw [hs, hn]; exact ⟨hle, hst⟩
  · rw [hiss.tokens_eq, hiss.nextTok_eq]
    refine ⟨by omega, fun n hn => ?_⟩
    rw [Store.find_put_ne _ _ _ _ _ _ (fun e => by have := tokName_inj _ _ e; omega)]
    exact hst n hn

theorem tokName_ne_empty (n : Nat) : tokName n ≠ "" := by
  unfold tokName
  intro h
  have := congrArg String.length h
  simp at this

theorem issued_token_stays (cfg : Cfg) (sha : String → String) (httl' : cfg.tokenTtl ≠ 0)
    (pre post : List (Nat × Op)) (w : World) (t : Nat) (op : Op) (name : String) (rec : TokenRec)
    (hiss : Issued cfg sha (after cfg sha pre w) t op name rec) (now : Nat) :
    (after cfg sha (pre ++ (t, op) :: post) w).tokens.get now name =
      if now ≤ t + cfg.tokenTtl then some rec else none := by
  rw [after_append, after_cons]
  have hstable := (token_entry_stable cfg sha post _).2 (after cfg sha pre w).nextTok (by rw [hiss.nextTok_eq]; omega)
  rw [← hiss.name_eq] at hstable
  exact Store.get_of_find_some (hstable.trans (hiss.tokens_eq ▸ Store.find_put_same _ _ _ _ _ httl')) now

theorem introspect_issued (cfg : Cfg) (sha : String → String) (httl' : cfg.tokenTtl ≠ 0)
    (pre post : List (Nat × Op)) (w : World) (t : Nat) (op : Op) (name : String) (rec : TokenRec)
    (hiss : Issued cfg sha (after cfg sha pre w) t op name rec) (now : Nat) :
    introspect cfg (after cfg sha (pre ++ (t, op) :: post) w) now name =
      if now ≤ t + cfg.tokenTtl ∧ now ≤ t + cfg.tokenValidity then
        (match firstReserved cfg.reserved rec.claims with
         | some k => .err ("reserved-claim:" ++ k)
         | none => .ok (some
            { active := true, cnf := rec.dpop.map (fun d => "{\"jkt\":" ++ jstr d.jkt ++ "}"),
              iat := some (t / cfg.second), exp := some ((t + cfg.tokenValidity) / cfg.second),
              iss := some (jstr rec.issuer), clientId := some (jstr rec.clientId), scope := some (jstr rec.scope),
              vps := some (toString rec.vps), pds := some (renderDefs rec.defs),
              pss := some (renderSubs rec.submissions), additional := rec.claims }))
      else .ok none := by
  have hget := issued_token_stays cfg sha httl' pre post w t op name rec hiss now
  obtain ⟨hia, hex⟩ := hiss.times
  unfold introspect
  rw [if_neg (by rw [hiss.name_eq]; exact tokName_ne_empty _), hget]
  by_cases h1 : now ≤ t + cfg.tokenTtl
  · rw [if_pos h1]
    by_cases h2 : now ≤ t + cfg.tokenValidity
    · rw [if_pos ⟨h1, h2⟩]
      dsimp only
      rw [if_neg (hex ▸ Nat.not_lt.mpr h2), hia, hex]
      cases firstReserved cfg.reserved rec.claims <;> rfl
    · rw [if_neg (fun h => h2 h.2)]
      dsimp only
      rw [if_pos (hex ▸ Nat.not_le.mp h2)]
  · rw [if_neg h1, if_neg (fun h => h1 h.1)]

theorem after_live (cfg : Cfg) (sha : String → String) (httl : cfg.nonceTtl ≠ 0) (n : String) (b : Nat)
    (hist : List (Nat × Op)) (w : World) (ht : ∀ x ∈ hist, b ≤ x.1 + cfg.nonceTtl) (h : Live w.s2sNonces n b) :
    Live (after cfg sha hist w).s2sNonces n b := by
  refine after_induct cfg sha (fun w => Live w.s2sNonces n b) hist w (fun x hx w h => ?_) h
  rcases (step_world cfg sha w x.1 x.2).1 with hs | ⟨vps, hs⟩
  · rw [hs]; exact h
  · rw [hs]; exact nonceLoop_live cfg x.1 httl n b (ht x hx) vps _ h

/-- the replay window. No side condition on signers: only the validity bound, the verification at `t₁` and the
    remembered nonce are used. -/
theorem s2s_replay_refused (cfg : Cfg) (sha : String → String)
    (hwin : cfg.maxValidity + 2 * cfg.verifierSkew ≤ cfg.nonceTtl) (httl : cfg.nonceTtl ≠ 0)
    (w w₁ : World) (t₁ : Nat) (r₁ : S2SReq) (resp₁ : TokenResponse) (h₁ : issueS2S cfg w t₁ r₁ = (w₁, .ok resp₁))
    (vp : VP) (hvp : vp ∈ r₁.vps) (hld : vp.ld = true)
    (between : List (Nat × Op)) (hlater : ∀ x ∈ between, t₁ ≤ x.1)
    (t₂ : Nat) (r₂ : S2SReq) (vp' : VP) (hvp' : vp' ∈ r₂.vps) (hsame : vp'.nonce = vp.nonce)
    (hstill : ∀ c e, vp.created = some c → vp.expires = some e → ldValidAt cfg.verifierSkew t₂ c (some e) = true) :
    ∀ resp, (issueS2S cfg (after cfg sha between w₁) t₂ r₂).2 ≠ .ok resp := by
  obtain ⟨hval, hv, hlive⟩ := issueS2S_ok_window cfg w w₁ t₁ r₁ resp₁ httl h₁ vp hvp
  obtain ⟨c, e, hcr, hex, hval⟩ := checkValidity_ok cfg vp hval
  -- accepted at t₁: created ≤ t₁ + skew; still valid at t₂: t₂ ≤ expires + skew
  unfold vpVerifies at hv
  rw [hcr, hex, hld] at hv
  simp only [Bool.and_eq_true, if_true] at hv
  have hc1 := (ldValidAt_true _ _ _ _ hv.2).1
  have hc2 := (ldValidAt_true _ _ _ _ (hstill c e hcr hex)).2
  have hlive' := after_live cfg sha httl vp.nonce (t₁ + cfg.nonceTtl) between w₁
    (fun x hx => by have := hlater x hx; omega) hlive
  rw [← hsame] at hlive'
  exact issueS2S_rejects_live cfg _ t₂ r₂ httl vp' hvp' _ hlive' (by omega)

theorem race_at_most_one (cfg : Cfg) (w : World) (t : Nat) (r : AuthResp) (firstIsA : Bool)
    (hfresh : ∀ vp ∈ r.vps, vpChallenge vp ≠ nonceName w.nextNonce) :
    ¬ ((raceAuthorize cfg w t r firstIsA).2.1.isOk = true ∧ (raceAuthorize cfg w t r firstIsA).2.2.isOk = true) := by
  intro ⟨ha, hb⟩
  unfold raceAuthorize at ha hb
  generalize h1 : authorizeResponse cfg w t r = p1 at ha hb
  obtain ⟨w1, o1⟩ := p1
  dsimp only at ha hb
  generalize h2 : authorizeResponse cfg w1 t r = p2 at ha hb
  obtain ⟨w2, o2⟩ := p2
  have hboth : o1.isOk = true ∧ o2.isOk = true := by
    cases firstIsA
    · exact ⟨hb, ha⟩
    · exact ⟨ha, hb⟩
  obtain ⟨out1, rfl⟩ := Res.exists_ok_of_isOk hboth.1
  obtain ⟨out2, rfl⟩ := Res.exists_ok_of_isOk hboth.2
  exact authresp_nonce_once cfg w w1 t t r r out1 hfresh h1 (fun vp' hvp' => ⟨vp', hvp', rfl⟩) out2 (by rw [h2])

/-- the authorization code `c` is not in the store and can never be issued again -/
def CodeGone (w : World) (c : String) : Prop := w.codes.find c = none ∧ ∃ n, c = codeName n ∧ n < w.nextCode

theorem after_codeGone (cfg : Cfg) (sha : String → String) (c : String) (hist : List (Nat × Op)) (w : World)
    (h : CodeGone w c) : CodeGone (after cfg sha hist w) c := by
  refine after_induct cfg sha (CodeGone · c) hist w (fun x _ w ⟨hf, n, hn, hlt⟩ => ?_) h
  rcases (step_world cfg sha w x.1 x.2).2.2 with ⟨hnc, hs | ⟨k, hs⟩⟩ | ⟨s, hs, hnc⟩
  · exact ⟨hs ▸ hf, n, hn, hnc ▸ hlt⟩
  · exact ⟨hs ▸ Store.find_del_none _ _ _ hf, n, hn, hnc ▸ hlt⟩
  · refine ⟨?_, n, hn, by rw [hnc]; omega⟩
    rw [hs, Store.find_put_ne _ _ _ _ _ _ (fun e => by rw [hn] at e; have := codeName_inj _ _ e; omega)]
    exact hf

theorem issueCode_rejects_gone (cfg : Cfg) (sha : String → String) (w : World) (t : Nat) (r : CodeReq) (c : String)
    (hc : r.code = some c) (h : w.codes.find c = none) : ∀ resp, (issueCode cfg sha w t r).2 ≠ .ok resp := by
  intro resp hok
  have hh : issueCode cfg sha w t r = ((issueCode cfg sha w t r).1, .ok resp) := by rw [← hok]
  obtain ⟨code, verifier, session, hchk, _⟩ := issueCode_ok cfg sha w _ t r resp hh
  have : code = c := by have := hchk.codeGiven; rw [hc] at this; exact (Option.some.inj this).symm
  subst this
  cases (Store.get_of_find_none h t).symm.trans hchk.known

end Nuts.C02
