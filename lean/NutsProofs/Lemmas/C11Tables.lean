/- C11, one node's status list tables: the invariant `NInv` (every managed list has a stored record, signed, whose bits are the
   list's revocation rows), the relation `NStep` listing what a committed transaction does to the tables, and what a served
   list says (`Served`, `credential_served`). Every invariant is proved over `NStep`, once. -/
import NutsProofs.Lemmas.C11Bits
import NutsProofs.Lemmas.C11Ops
namespace Nuts.C11

structure EnvOK (E : Env) : Prop where
  idx : E.maxIndex + 1 = 8 * E.lenBytes
  min : E.minLeft ≤ E.validity
  sign : ∀ issuer kid body, E.keyOf issuer = some kid → body.issuer = issuer →
    E.verify { body := body, proof := some (E.sign kid body) } = true

/-- the stored record is a credential this node built and signed with the list issuer's key -/
def Signed (E : Env) (rec : CredRec) : Prop :=
  ∃ kid row t, E.keyOf row.issuer = some kid ∧ row.id = rec.id ∧
    rec.raw = { body := listBody E t row rec.bits, proof := some (E.sign kid (listBody E t row rec.bits)) } ∧
    rec.expires = some (t + E.validity) ∧ rec.purpose = "revocation"

theorem updateCredential_ok (E : Env) (hE : EnvOK E) (hs : E.signFails = false) (now : Nat) (row : PageRow) (idxs : List Nat) (kid : String)
    (hr : ∀ i, i ∈ idxs → i ≤ E.maxIndex) : ∃ vc rec, updateCredential E now row idxs kid = .ok (vc, rec) := by
  have hlen : (newBits E.lenBytes).length = E.lenBytes := by simp [newBits]
  obtain ⟨bs, h, _, _⟩ := setAll_spec idxs (newBits E.lenBytes) (by intro i hi; rw [hlen]; have := hr i hi; have := hE.idx; omega)
  unfold updateCredential
  rw [h]
  simp only [hs]
  exact ⟨_, _, rfl⟩

theorem updateCredential_ne_panic (E : Env) (now : Nat) (row : PageRow) (idxs : List Nat) (kid s : String) :
    updateCredential E now row idxs kid ≠ .panic s := by
  fun_cases updateCredential E now row idxs kid with
  | case4 x h => exact absurd h (setAll_ne_panic x _ _)
  | _ => nofun

theorem updateCredential_signed {E : Env} {now : Nat} {row : PageRow} {idxs : List Nat} {kid : String} {vc : VC} {rec : CredRec}
    (hk : E.keyOf row.issuer = some kid) (h : updateCredential E now row idxs kid = .ok (vc, rec)) : Signed E rec := by
  obtain ⟨_, hid, hraw, hp, he, _, hvc⟩ := updateCredential_inv h
  exact ⟨kid, row, now, hk, hid.symm, by rw [hraw, hvc], he, hp⟩

/-- the stored credential names the list it is stored under and its bitstring is the one stored next to it -/
def Named (rec : CredRec) : Prop := ∃ s, rec.raw.body.subjects = [s] ∧ s.id = rec.id ∧ s.enc = .ok rec.bits

theorem updateCredential_named {E : Env} {now : Nat} {row : PageRow} {idxs : List Nat} {kid : String} {vc : VC} {rec : CredRec}
    (h : updateCredential E now row idxs kid = .ok (vc, rec)) : Named rec := by
  obtain ⟨_, hid, hraw, _, _, _, hvc⟩ := updateCredential_inv h
  exact ⟨{ id := row.id, purpose := "revocation", enc := .ok rec.bits }, by rw [hraw, hvc]; rfl, hid.symm, rfl⟩

theorem Named.stored {rec : CredRec} (h : Named rec) (n : Node) : Named (n.stored rec) := by
  obtain ⟨s, h1, h2, h3⟩ := h
  exact ⟨s, by simpa using h1, by simpa using h2, by simpa using h3⟩

theorem Signed.stored {E : Env} {rec : CredRec} (h : Signed E rec) (n : Node) : Signed E (n.stored rec) := by
  obtain ⟨kid, row, t, h1, h2, h3, h4, h5⟩ := h
  exact ⟨kid, row, t, h1, by simpa using h2, by simpa using h3, by simpa using h4, by simpa using h5⟩

structure NInv (E : Env) (n : Node) : Prop where
  own : ∀ r, r ∈ n.pages → r.id = n.url r.issuer r.page
  le : ∀ r, r ∈ n.pages → r.last ≤ E.maxIndex
  rng : ∀ rv, rv ∈ n.revs → rv.idx ≤ E.maxIndex
  fk : ∀ rv, rv ∈ n.revs → n.isManaged rv.list = true
  has : ∀ u, n.isManaged u = true → ∃ rec, n.cred? u = some rec
  crec : ∀ u rec, n.isManaged u = true → n.cred? u = some rec →
    setAll (newBits E.lenBytes) (n.revsOf u) = .ok rec.bits ∧ Signed E rec
  named : ∀ u rec, n.cred? u = some rec → Named rec

theorem NInv.empty (E : Env) (base : String) (dids : List String) : NInv E { base := base, dids := dids } := by
  refine { own := ?_, le := ?_, rng := ?_, fk := ?_, has := ?_, crec := ?_, named := ?_ }
  · intro r hr; cases hr
  · intro r hr; cases hr
  · intro r hr; cases hr
  · intro r hr; cases hr
  · intro u hu; simp [Node.isManaged, Node.page?] at hu
  · intro u rec hu; simp [Node.isManaged, Node.page?] at hu
  · intro u rec hc; simp [Node.cred?] at hc

theorem NInv.revsOf_le {E : Env} {n : Node} (h : NInv E n) (u : Url) : ∀ i, i ∈ n.revsOf u → i ≤ E.maxIndex := by
  intro i hi
  obtain ⟨rv, h1, _, h3⟩ := revsOf_mem.mp hi
  rw [← h3]; exact h.rng rv h1

/-- upserting a record that names its list into `m` keeps the table invariant, where `m` is a node satisfying it (`n`) with
    page or revocation rows added for the list `rec.id` only — provided that, if the list is managed, `rec` is the signed
    record of the list's revocations. (The state between the row insert and the upsert of one transaction does not satisfy
    `NInv`: the stored record of that one list is out of date, or missing.) -/
theorem NInv.putCred_of {E : Env} {n m : Node} (h : NInv E n) {rec : CredRec} (hn : Named rec)
    (own : ∀ r, r ∈ m.pages → r.id = m.url r.issuer r.page) (le : ∀ r, r ∈ m.pages → r.last ≤ E.maxIndex)
    (rng : ∀ rv, rv ∈ m.revs → rv.idx ≤ E.maxIndex) (fk : ∀ rv, rv ∈ m.revs → m.isManaged rv.list = true)
    (hcreds : m.creds = n.creds)
    (hold : ∀ u, rec.id ≠ u → m.isManaged u = true → n.isManaged u = true ∧ m.revsOf u = n.revsOf u)
    (hc : m.isManaged rec.id = true → setAll (newBits E.lenBytes) (m.revsOf rec.id) = .ok rec.bits ∧ Signed E rec) :
    NInv E (m.putCred rec) := by
  have hcred : ∀ u, m.cred? u = n.cred? u := fun u => by unfold Node.cred?; rw [hcreds]
  refine { own := own, le := le, rng := rng, fk := fk, has := ?_, crec := ?_, named := ?_ }
  · intro u hu
    rw [cred?_putCred]
    split
    · exact ⟨_, rfl⟩
    · next hne => rw [hcred]; exact h.has u (hold u hne hu).1
  · intro u rec0 hu hc0
    rw [cred?_putCred] at hc0
    split at hc0
    · next heq =>
      cases hc0; subst heq
      exact ⟨by rw [stored_bits]; exact (hc hu).1, (hc hu).2.stored _⟩
    · next hne =>
      rw [hcred] at hc0
      obtain ⟨hm, hr⟩ := hold u hne hu
      rw [show (m.putCred rec).revsOf u = m.revsOf u from rfl, hr]
      exact h.crec u rec0 hm hc0
  · intro u rec0 hc0
    rw [cred?_putCred] at hc0
    split at hc0
    · cases hc0; exact hn.stored _
    · rw [hcred] at hc0; exact h.named u rec0 hc0

theorem NInv.putCred {E : Env} {n : Node} (h : NInv E n) {rec : CredRec} (hn : Named rec)
    (hc : n.isManaged rec.id = true → setAll (newBits E.lenBytes) (n.revsOf rec.id) = .ok rec.bits ∧ Signed E rec) :
    NInv E (n.putCred rec) :=
  h.putCred_of hn h.own h.le h.rng h.fk rfl (fun _ _ hm => ⟨hm, rfl⟩) hc

theorem NInv.issue {E : Env} {now : Nat} {n : Node} (h : NInv E n) {issuer kid : String} {page : Nat} {row : PageRow} {vc : VC}
    {rec : CredRec} (hrow : n.page? (n.url issuer page) = some row) (hk : E.keyOf issuer = some kid)
    (hup : updateCredential E now row (n.revsOf (n.url issuer page)) kid = .ok (vc, rec)) : NInv E (n.putCred rec) := by
  obtain ⟨hrmem, hrid⟩ := page?_some hrow
  obtain ⟨hbits, hrecid, _⟩ := updateCredential_inv hup
  have hiss : row.issuer = issuer := by
    have := h.own row hrmem
    rw [hrid] at this
    simp only [Node.url, Url.sl.injEq] at this
    exact this.2.1.symm
  exact h.putCred (updateCredential_named hup) fun _ =>
    ⟨by rw [hrecid, hrid]; exact hbits, updateCredential_signed (by rw [hiss]; exact hk) hup⟩

structure NMono (n n' : Node) : Prop where
  base : n'.base = n.base
  managed : ∀ u, n.isManaged u = true → n'.isManaged u = true
  revs : ∀ u j, j ∈ n.revsOf u → j ∈ n'.revsOf u
  net : ∀ r, r ∈ n.netRevs → r ∈ n'.netRevs

theorem NMono.refl (n : Node) : NMono n n := ⟨rfl, fun _ h => h, fun _ _ h => h, fun _ h => h⟩

theorem NMono.trans {a b c : Node} (h1 : NMono a b) (h2 : NMono b c) : NMono a c :=
  ⟨h2.base.trans h1.base, fun u h => h2.managed u (h1.managed u h), fun u j h => h2.revs u j (h1.revs u j h),
   fun r h => h2.net r (h1.net r h)⟩

/-- the effects of the node operations on the tables, one constructor per kind of committed transaction, with the committed
    state written out: every invariant below is proved over these and never opens an operation. `F` is what is known of a
    record that came from outside (a downloaded list). -/
inductive NStep (E : Env) (K : KeyEnv) (F : CredRec → Prop) (n : Node) : Node → Prop where
  | refl : NStep E K F n n
  | bump (id : Url) (last : Nat) (hle : last ≤ E.maxIndex) :
      NStep E K F n { n with pages := n.pages.map fun r => if r.id == id then { r with last := last } else r }
  | create (nr : PageRow) (rec : CredRec) (kid : String) (now : Nat) (vc : VC)
      (hown : nr.id = n.url nr.issuer nr.page) (h0 : nr.last = 0) (hnm : n.isManaged nr.id = false)
      (hk : E.keyOf nr.issuer = some kid) (hup : updateCredential E now nr [] kid = .ok (vc, rec)) :
      NStep E K F n (({ n with pages := nr :: n.pages } : Node).putCred rec)
  | revoke (rv : RevRow) (row : PageRow) (rec : CredRec) (kid : String) (now : Nat) (vc : VC)
      (hrow : n.page? rv.list = some row) (hi : rv.idx ≤ row.last) (hk : E.keyOf row.issuer = some kid)
      (hup : updateCredential E now row (({ n with revs := n.revs ++ [rv] } : Node).revsOf rv.list) kid = .ok (vc, rec)) :
      NStep E K F n (({ n with revs := n.revs ++ [rv] } : Node).putCred rec)
  | issue (issuer : String) (page : Nat) (row : PageRow) (rec : CredRec) (kid : String) (now : Nat) (vc : VC)
      (hrow : n.page? (n.url issuer page) = some row) (hk : E.keyOf issuer = some kid)
      (hup : updateCredential E now row (n.revsOf (n.url issuer page)) kid = .ok (vc, rec)) : NStep E K F n (n.putCred rec)
  | fetch (rec : CredRec) (hn : Named rec) (hu : n.cred? rec.id = none ∨ n.isManaged rec.id = false) (hf : F rec) :
      NStep E K F n (n.putCred rec)
  | net (r : Revocation) (h : Accepted K r) : NStep E K F n { n with netRevs := n.netRevs ++ [r] }

theorem entryWrite_step {E : Env} {K : KeyEnv} {F : CredRec → Prop} (now : Nat) (n : Node) {issuer kid : String}
    (row : Option PageRow) (hk : E.keyOf issuer = some kid) : NStep E K F n (entryWrite E now n issuer kid row).1 := by
  unfold entryWrite
  cases hout : entryDecide E now n issuer kid row with
  | retry pin => exact .refl
  | fail e => exact .refl
  | update id last =>
    obtain ⟨_, _, _, _, hle⟩ := entryDecide_update hout
    exact .bump id last hle
  | create nr rec =>
    obtain ⟨hown, hiss, h0, hnm, ⟨vc, hup⟩, hnc⟩ := entryDecide_create hout
    have hid := (updateCredential_inv hup).2.1
    simp only [Node.applyOut]
    rw [← putCred_fresh (by rw [hid]; exact hnc)]
    exact .create nr rec kid now vc hown h0 hnm (by rw [hiss]; exact hk) hup

theorem revoke_step {E : Env} {K : KeyEnv} {F : CredRec → Prop} {now : Nat} {n n' : Node} {credId : String} {e : StatusEntry}
    (h : revoke E now n credId e = .ok n') : NStep E K F n n' := by
  obtain ⟨i, row, kid, vc, rec, _, _, hrow, hkid, _, hile, hup, rfl⟩ := revoke_ok h
  exact .revoke { list := e.list, idx := i, credId := credId } row rec kid now vc hrow hile hkid hup

theorem credential_step {E : Env} {K : KeyEnv} {F : CredRec → Prop} {now : Nat} {n n' : Node} {issuer : String} {page : Nat}
    {vc : VC} (h : credential E now n issuer page = .ok (vc, n')) : NStep E K F n n' := by
  obtain ⟨row, hrow, h1 | h1⟩ := credential_ok h
  · obtain ⟨_, _, _, _, _, _, rfl⟩ := h1; exact .refl
  · obtain ⟨kid, rec, hkid, hup, rfl⟩ := h1
    exact .issue issuer page row rec kid now vc hrow hkid hup

theorem register_step {E : Env} {K : KeyEnv} {F : CredRec → Prop} {n n' : Node} {r : Revocation}
    (h : registerRevocation K n r = .ok n') : NStep E K F n n' := by
  obtain ⟨rfl, hacc⟩ := registerRevocation_ok h
  exact .net r hacc

theorem NStep.mono {E : Env} {K : KeyEnv} {F : CredRec → Prop} {n n' : Node} (h : NStep E K F n n') : NMono n n' := by
  cases h with
  | refl => exact .refl n
  | bump id last hle =>
    exact ⟨rfl, fun u h => by rw [isManaged_map n _ (fun x => by split <;> rfl)]; exact h, fun _ _ h => h, fun _ h => h⟩
  | create nr rec =>
    refine ⟨rfl, fun u h => ?_, fun _ _ h => h, fun _ h => h⟩
    obtain ⟨r, hr, e⟩ := isManaged_iff.mp h
    exact isManaged_iff.mpr ⟨r, List.mem_cons_of_mem _ hr, e⟩
  | revoke rv =>
    refine ⟨rfl, fun _ h => h, fun u j hj => ?_, fun _ h => h⟩
    rw [revsOf_putCred, revsOf_append]
    split
    · exact List.mem_append_left _ hj
    · exact hj
  | issue => exact ⟨rfl, fun _ h => h, fun _ _ h => h, fun _ h => h⟩
  | fetch => exact ⟨rfl, fun _ h => h, fun _ _ h => h, fun _ h => h⟩
  | net r => exact ⟨rfl, fun _ h => h, fun _ _ h => h, fun _ h => List.mem_append_left _ h⟩

theorem NStep.netRevs {E : Env} {K : KeyEnv} {F : CredRec → Prop} {n n' : Node} (h : NStep E K F n n') :
    ∀ r, r ∈ n'.netRevs → r ∈ n.netRevs ∨ Accepted K r := by
  intro r hr
  cases h with
  | net r' hacc => exact (List.mem_append.mp hr).imp_right fun e => by rw [List.mem_singleton.mp e]; exact hacc
  | _ => exact .inl hr

/-- issuer-side operations only write records of the node's own status list URLs: a record under any other URL changes
    only by a `fetch` -/
theorem NStep.cred? {E : Env} {K : KeyEnv} {F : CredRec → Prop} {n n' : Node} (h : NStep E K F n n') (hn : NInv E n) {u : Url}
    (hu : ∀ iss p, u ≠ n.url iss p) :
    n'.cred? u = n.cred? u ∨ ∃ rec, rec.id = u ∧ F rec ∧ n'.cred? u = some (n.stored rec) := by
  -- a record built by `updateCredential` for a row is stored under the row's id, an own URL
  have built : ∀ {now : Nat} {row : PageRow} {idxs : List Nat} {kid : String} {vc : VC} {rec : CredRec} {m : Node},
      row.id = n.url row.issuer row.page → updateCredential E now row idxs kid = .ok (vc, rec) → m.creds = n.creds →
      (m.putCred rec).cred? u = n.cred? u := by
    intro now row idxs kid vc rec m hid hup hm
    rw [cred?_putCred, if_neg (by rw [(updateCredential_inv hup).2.1, hid]; exact fun e => hu _ _ e.symm)]
    unfold Node.cred?; rw [hm]
  cases h with
  | refl => exact .inl rfl
  | bump => exact .inl rfl
  | net => exact .inl rfl
  | create nr rec kid now vc hown _ _ _ hup => exact .inl (built hown hup rfl)
  | revoke rv row rec kid now vc hrow _ _ hup => exact .inl (built (hn.own _ (page?_some hrow).1) hup rfl)
  | issue iss pg row rec kid now vc hrow _ hup => exact .inl (built (hn.own _ (page?_some hrow).1) hup rfl)
  | fetch rec _ _ hf =>
    rw [cred?_putCred]
    by_cases e : rec.id = u
    · exact .inr ⟨rec, e, hf, by rw [if_pos e]⟩
    · exact .inl (by rw [if_neg e])

theorem NStep.inv {E : Env} {K : KeyEnv} {F : CredRec → Prop} {n n' : Node} (h : NStep E K F n n') (hn : NInv E n) : NInv E n' := by
  cases h with
  | refl => exact hn
  | net r => exact { own := hn.own, le := hn.le, rng := hn.rng, fk := hn.fk, has := hn.has, crec := hn.crec, named := hn.named }
  | issue issuer page row rec kid now vc hrow hk hup => exact hn.issue hrow hk hup
  | fetch rec hnamed hu =>
    refine hn.putCred hnamed fun hm => ?_
    rcases hu with hu | hu
    · obtain ⟨r, hr⟩ := hn.has _ hm; rw [hu] at hr; cases hr
    · rw [hu] at hm; cases hm
  | bump id last hle =>
    have hman := isManaged_map n _ (fun x => by split <;> rfl : ∀ x : PageRow, (if x.id == id then { x with last := last } else x).id = x.id)
    refine { own := ?_, le := ?_, rng := hn.rng, fk := ?_, has := ?_, crec := ?_, named := hn.named }
    · intro x hx
      obtain ⟨a, ha, rfl⟩ := List.mem_map.mp hx
      have := hn.own a ha
      split <;> exact this
    · intro x hx
      obtain ⟨a, ha, rfl⟩ := List.mem_map.mp hx
      split
      · exact hle
      · exact hn.le a ha
    · intro rv hrv; rw [hman]; exact hn.fk rv hrv
    · intro u hu; rw [hman] at hu; exact hn.has u hu
    · intro u rec hu hc; rw [hman] at hu; exact hn.crec u rec hu hc
  | create nr rec kid now vc hown h0 hnm hk hup =>
    obtain ⟨hbits, hrecid, _⟩ := updateCredential_inv hup
    -- the new page has no revocation rows yet: they would point at a managed list
    have hnorev : n.revsOf nr.id = [] := List.eq_nil_iff_forall_not_mem.mpr fun i hi => by
      obtain ⟨rv, h1, h2, _⟩ := revsOf_mem.mp hi
      have := hn.fk rv h1
      rw [h2, hnm] at this; cases this
    have old : ∀ u, ({ n with pages := nr :: n.pages } : Node).isManaged u = true → u = nr.id ∨ n.isManaged u = true := by
      intro u hu
      obtain ⟨r, hr, e⟩ := isManaged_iff.mp hu
      rcases List.mem_cons.mp hr with rfl | hr
      · exact .inl e.symm
      · exact .inr (isManaged_iff.mpr ⟨r, hr, e⟩)
    refine hn.putCred_of (updateCredential_named hup) ?_ ?_ hn.rng ?_ rfl ?_ fun _ => ?_
    · intro x hx
      rcases List.mem_cons.mp hx with rfl | hx
      · exact hown
      · exact hn.own x hx
    · intro x hx
      rcases List.mem_cons.mp hx with rfl | hx
      · omega
      · exact hn.le x hx
    · intro rv hrv
      obtain ⟨r, hr, e⟩ := isManaged_iff.mp (hn.fk rv hrv)
      exact isManaged_iff.mpr ⟨r, List.mem_cons_of_mem _ hr, e⟩
    · intro u hne hu
      exact ⟨(old u hu).resolve_left fun e => hne (hrecid.trans e.symm), rfl⟩
    · exact ⟨by rw [hrecid]; show setAll _ (n.revsOf nr.id) = _; rw [hnorev]; exact hbits, updateCredential_signed hk hup⟩
  | revoke rv row rec kid now vc hrow hile hkid hup =>
    obtain ⟨hrmem, hrid⟩ := page?_some hrow
    obtain ⟨hbits, hrecid, _⟩ := updateCredential_inv hup
    refine hn.putCred_of (updateCredential_named hup) hn.own hn.le ?_ ?_ rfl ?_ fun _ => ?_
    · intro rv' hrv
      rcases List.mem_append.mp hrv with hrv | hrv
      · exact hn.rng rv' hrv
      · rw [List.mem_singleton.mp hrv]; exact Nat.le_trans hile (hn.le row hrmem)
    · intro rv' hrv
      rcases List.mem_append.mp hrv with hrv | hrv
      · exact hn.fk rv' hrv
      · rw [List.mem_singleton.mp hrv]; exact isManaged_iff.mpr ⟨row, hrmem, hrid⟩
    · intro u hne hu
      exact ⟨hu, by rw [revsOf_append, if_neg (by rw [← hrid, ← hrecid]; exact hne)]⟩
    · exact ⟨by rw [hrecid, hrid]; exact hbits, updateCredential_signed hkid hup⟩

theorem bits_exact {E : Env} (hE : EnvOK E) {idxs : List Nat} {bits : Bits} (hr : ∀ i, i ∈ idxs → i ≤ E.maxIndex)
    (h : setAll (newBits E.lenBytes) idxs = .ok bits) :
    bits.length = E.lenBytes ∧ ∀ j, j ≤ E.maxIndex → getB bits j = decide (j ∈ idxs) := by
  have hlen : (newBits E.lenBytes).length = E.lenBytes := by simp [newBits]
  obtain ⟨bs, h', hl, hb⟩ := setAll_spec idxs (newBits E.lenBytes) (by intro i hi; rw [hlen]; have := hr i hi; have := hE.idx; omega)
  rw [h] at h'
  cases h'
  refine ⟨by rw [hl, hlen], ?_⟩
  intro j hj
  rw [hb j (by rw [hlen]; have := hE.idx; omega), getB_newBits]
  simp

/-- `v` is a status list credential for list `u` whose bit set is exactly the revocations of `u` on node `n` -/
def Served (n : Node) (u : Url) (v : VC) : Prop :=
  ∃ bits, v.body.subjects = [{ id := u, purpose := "revocation", enc := .ok bits }] ∧
    (∀ j, getB bits j = true ↔ j ∈ n.revsOf u)

theorem bits_iff {E : Env} (hE : EnvOK E) {idxs : List Nat} {bits : Bits} (hr : ∀ i, i ∈ idxs → i ≤ E.maxIndex)
    (h : setAll (newBits E.lenBytes) idxs = .ok bits) : ∀ j, getB bits j = true ↔ j ∈ idxs := by
  obtain ⟨hl, hb⟩ := bits_exact hE hr h
  intro j
  by_cases hj : j ≤ E.maxIndex
  · rw [hb j hj]; simp
  · have : getB bits j = false := getB_oob (by rw [hl]; have := hE.idx; omega)
    rw [this]
    constructor
    · intro h; cases h
    · intro h; exact absurd (hr j h) hj

theorem signed_served {E : Env} (hE : EnvOK E) {n : Node} (h : NInv E n) {u : Url} {rec : CredRec}
    (hu : n.isManaged u = true) (hc : n.cred? u = some rec) :
    E.verify rec.raw = true ∧ Served n u rec.raw ∧ rec.raw.body.expires = rec.expires ∧ rec.purpose = "revocation" ∧
    (∀ j, getB rec.bits j = true ↔ j ∈ n.revsOf u) ∧ rec.raw.proof.isSome = true := by
  obtain ⟨hbits, kid, row, t, hk, hid, hraw, hexp, hp⟩ := h.crec u rec hu hc
  have hrid : rec.id = u := (cred?_some hc).2
  have hiff := bits_iff hE (h.revsOf_le u) hbits
  refine ⟨?_, ?_, ?_, hp, hiff, by rw [hraw]; rfl⟩
  · rw [hraw]; exact hE.sign row.issuer kid _ hk rfl
  · rw [hraw]; exact ⟨rec.bits, by simp [listBody, hid, hrid], hiff⟩
  · rw [hraw, hexp]; rfl

theorem credential_served {E : Env} (hE : EnvOK E) {now : Nat} {n n' : Node} (h : NInv E n) {issuer : String} {page : Nat} {vc : VC}
    (hc : credential E now n issuer page = .ok (vc, n')) :
    E.verify vc = true ∧ (∃ e, vc.body.expires = some e ∧ now + E.minLeft ≤ e) ∧ Served n' (n.url issuer page) vc ∧
    vc.proof.isSome = true ∧ n'.revs = n.revs := by
  obtain ⟨row, hrow, h1⟩ := credential_ok hc
  obtain ⟨hrmem, hrid⟩ := page?_some hrow
  have hu : n'.isManaged (n.url issuer page) = true := isManaged_iff.mpr ⟨row, by rw [credential_pages hc]; exact hrmem, hrid⟩
  rcases h1 with h1 | h1
  · obtain ⟨rec, e, hrec, he, hlt, rfl, rfl⟩ := h1
    obtain ⟨hv, hs, hx, _, _, hpr⟩ := signed_served hE h hu hrec
    exact ⟨hv, ⟨e, by rw [hx, he], by omega⟩, hs, hpr, rfl⟩
  · obtain ⟨kid, rec, hkid, hup, rfl⟩ := h1
    obtain ⟨_, hid, hraw, _, hexp, _⟩ := updateCredential_inv hup
    obtain ⟨hv, hs, hx, _, _, hpr⟩ := signed_served hE (h.issue hrow hkid hup) hu (by rw [cred?_putCred, if_pos (hid.trans hrid)])
    simp only [stored_raw, stored_expires, hraw, hexp] at hv hs hx hpr
    exact ⟨hv, ⟨_, hx, by have := hE.min; omega⟩, hs, hpr, rfl⟩

theorem revoke_again {E : Env} {n : Node} (hn : NInv E n) {e : StatusEntry} {i : Nat} (hi : e.idx = some (i : Int))
    (hp : e.purpose = "revocation") (hmem : i ∈ n.revsOf e.list)
    (hkey : ∀ row, n.page? e.list = some row → ∃ kid, E.keyOf row.issuer = some kid) (now : Nat) (credId : String) :
    revoke E now n credId e = .err "revoked" := by
  obtain ⟨rv, hrv, hl, hx⟩ := revsOf_mem.mp hmem
  have hm : n.isManaged e.list = true := by rw [← hl]; exact hn.fk rv hrv
  unfold Node.isManaged at hm
  cases hrow : n.page? e.list with
  | none => rw [hrow] at hm; cases hm
  | some row =>
    obtain ⟨kid, hk⟩ := hkey row hrow
    have hany : (n.revs.any fun r => r.list == e.list && (r.idx : Int) == (i : Int)) = true := by
      rw [List.any_eq_true]
      exact ⟨rv, hrv, by simp [hl, hx]⟩
    simp [revoke, hi, hp, hrow, hk, hany]

theorem page_issuer {E : Env} {n n' : Node} (hn : NInv E n) (hn' : NInv E n') {u : Url} {row row' : PageRow}
    (h : n.page? u = some row) (h' : n'.page? u = some row') : row'.issuer = row.issuer := by
  obtain ⟨hm, hid⟩ := page?_some h
  obtain ⟨hm', hid'⟩ := page?_some h'
  have h1 := hn.own row hm
  have h2 := hn'.own row' hm'
  rw [hid] at h1
  rw [hid', h1] at h2
  simp only [Node.url, Url.sl.injEq] at h2
  exact h2.2.1.symm

end Nuts.C11
