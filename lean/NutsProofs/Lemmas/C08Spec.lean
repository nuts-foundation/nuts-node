/-
  C08 — the specification folds (NutsModel/C08/Spec.lean): `specAll` is a group sum, hence invariant under permutation
  and additive over blocks; a list filtered by a set of keys is the concatenation of its blocks per key (used per clock
  for the listing, per page for the digests); `maxClock`.  Core Lean only.
-/
import NutsModel.C08.Spec
import NutsProofs.Lemmas.C08Tree
import NutsProofs.Lemmas.Base

namespace Nuts.C08

variable {R G : Type}

theorem specAll_snoc (o : Ops R G) (l : List (R × Nat)) (rc : R × Nat) :
    specAll o (l ++ [rc]) = o.ins (specAll o l) rc.1 := by
  simp [specAll, List.foldl_append]

theorem specUpTo_snoc (o : Ops R G) (ls : Nat) (l : List (R × Nat)) (rc : R × Nat) (c : Nat) :
    specUpTo o ls (l ++ [rc]) c = if rc.2 / ls ≤ c / ls then o.ins (specUpTo o ls l c) rc.1 else specUpTo o ls l c := by
  unfold specUpTo
  rw [List.filter_append]
  by_cases h : rc.2 / ls ≤ c / ls
  · simp [h, specAll_snoc]
  · simp [h]

theorem foldl_ins_eq {o : Ops R G} (L : Lawful o) (l : List (R × Nat)) (g0 : G) :
    l.foldl (fun g rc => o.ins g rc.1) g0 = o.add g0 (gsum o (l.map fun rc => o.ins o.zero rc.1)) := by
  induction l generalizing g0 with
  | nil => simp [gsum, L.add_zero]
  | cons rc l ih => simp only [List.foldl_cons, List.map_cons, gsum, ih, L.ins_eq g0 rc.1, L.add_assoc]

theorem specAll_eq_gsum {o : Ops R G} (L : Lawful o) (l : List (R × Nat)) :
    specAll o l = gsum o (l.map fun rc => o.ins o.zero rc.1) := by
  unfold specAll; rw [foldl_ins_eq L, zero_add L]

theorem specAll_perm {o : Ops R G} (L : Lawful o) {l₁ l₂ : List (R × Nat)} (h : l₁.Perm l₂) :
    specAll o l₁ = specAll o l₂ := by
  rw [specAll_eq_gsum L, specAll_eq_gsum L]; exact gsum_perm L (h.map _)

theorem specAll_append {o : Ops R G} (L : Lawful o) (l₁ l₂ : List (R × Nat)) :
    specAll o (l₁ ++ l₂) = o.add (specAll o l₁) (specAll o l₂) := by
  rw [specAll_eq_gsum L, specAll_eq_gsum L, specAll_eq_gsum L, List.map_append, gsum_append L]

theorem specAll_flatMap {o : Ops R G} (L : Lawful o) (f : Nat → List (R × Nat)) :
    ∀ K : List Nat, gsum o (K.map fun p => specAll o (f p)) = specAll o (K.flatMap f)
  | [] => rfl
  | p :: K => by rw [List.map_cons, gsum, specAll_flatMap L f K, List.flatMap_cons, specAll_append L]

theorem blocks_perm {α : Type} (key : α → Nat) (S : List α) : ∀ (K : List Nat), K.Nodup →
    (K.flatMap (fun c => S.filter (fun t => key t == c))).Perm (S.filter (fun t => K.contains (key t))) := by
  intro K
  induction K with
  | nil => intro _; simp
  | cons c K ih =>
    intro nd
    have hnd := List.nodup_cons.mp nd
    simp only [List.flatMap_cons]
    refine ((List.Perm.refl _).append (ih hnd.2)).trans ?_
    refine (filter_or_perm _ _ S ?_).trans ?_
    · intro t _ ⟨h1, h2⟩
      simp at h1 h2
      exact hnd.1 (h1 ▸ h2)
    · apply List.Perm.of_eq
      apply List.filter_congr
      intro t _
      by_cases hc : key t = c
      · simp [hc]
      · simp [hc]

theorem flatten_map_perm {α : Type} (f : List α → List α) (hf : ∀ l, (f l).Perm l) :
    ∀ X : List (List α), (X.map f).flatten.Perm X.flatten := by
  intro X
  induction X with
  | nil => simp
  | cons x xs ih => simp only [List.map_cons, List.flatten_cons]; exact (hf x).append ih

theorem le_maxClock {S : List Tx} {t : Tx} (h : t ∈ S) : t.clock ≤ maxClock S :=
  (foldl_max_key (·.clock) (fun _ _ => rfl) S 0).2.1 t h

theorem mem_map_clock_le {key : Tx → R} {S : List Tx} : ∀ rc ∈ S.map (fun t => (key t, t.clock)), rc.2 ≤ maxClock S := by
  intro rc hrc
  obtain ⟨t, ht, rfl⟩ := List.mem_map.mp hrc
  exact le_maxClock ht

theorem maxClock_snoc (S : List Tx) (t : Tx) : maxClock (S ++ [t]) = max (maxClock S) t.clock := by
  simp [maxClock, List.foldl_append]

theorem maxClock_nil : maxClock [] = 0 := rfl

end Nuts.C08
