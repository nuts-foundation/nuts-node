/-
  C04 — the echo router and the auth guard (NutsModel/C04/HttpGuard.lean): a route matched under a literal first segment
  engages the guard for that segment, on every request the parser can produce; and the bind table `Configure` builds.
-/
import NutsModel.C04.HttpGuard
import NutsProofs.Lemmas.Sort

namespace Nuts.C04

theorem stripPrefix_eq {s t r : Str} (h : stripPrefix s t = some r) : t = s ++ r := by
  fun_induction stripPrefix s t with
  | case1 => cases h; rfl
  | case3 as b bs ih => rw [ih h]; rfl
  | _ => cases h

theorem matchPat_lit_head {leaf : Bool} {s : Str} {ps : List Seg} {p : Str}
    (h : matchPat leaf (.lit s :: ps) p = true) : ∃ r', p = '/' :: (s ++ r') ∧ atBoundary r' = true := by
  unfold matchPat at h
  split at h
  · next rest =>
    split at h
    · next r' hs =>
      simp only [Bool.and_eq_true] at h
      exact ⟨r', by rw [stripPrefix_eq hs], h.1⟩
    · simp at h
  · simp at h

theorem walkCands_mem {all : List Route} {m : String} {l : List Route} {r : Route}
    (h : walkCands all m l = some r) : r ∈ all ∧ r.method = m := by
  fun_induction walkCands all m l with
  | case2 a _ q hq =>
    cases h
    have := List.find?_some hq
    simp only [Bool.and_eq_true, decide_eq_true_eq] at this
    exact ⟨List.mem_of_find?_eq_some hq, this.2⟩
  | case4 _ _ _ _ ih => exact ih h
  | _ => cases h

theorem findRoute_handler {rs : List Route} {m : String} {p : Str} {r : Route}
    (h : findRoute rs m p = .handler r) : r ∈ rs ∧ pathMatches rs p r = true ∧ r.method = m := by
  unfold findRoute at h
  simp only at h
  split at h
  · next r' hb =>
    have hr : r' = r := by simpa using h
    subst hr
    obtain ⟨hmem, hm⟩ := walkCands_mem hb
    have hmem' := (sortBy_perm _ _).mem_iff.mp hmem
    simp only [List.mem_filter] at hmem'
    exact ⟨hmem'.1, hmem'.2, hm⟩
  · split at h <;> simp at h

theorem unescapeSt_zero_irrel (a b : Char) (r : Str) : unescapeSt 0 a r = unescapeSt 0 b r := by
  cases r <;> simp [unescapeSt]

theorem unescape_cons_ne {c : Char} (hc : c ≠ '%') (r : Str) : unescape (c :: r) = (unescape r).map (c :: ·) := by
  simp only [unescape, unescapeSt, hc, if_false]
  rw [unescapeSt_zero_irrel c ' ' r]

theorem unescape_lit_prefix (s r : Str) (hs : ∀ c ∈ s, c ≠ '%') :
    unescape (s ++ r) = (unescape r).map (s ++ ·) := by
  induction s with
  | nil => simp
  | cons a as ih =>
    have ha : a ≠ '%' := hs a (by simp)
    have has : ∀ c ∈ as, c ≠ '%' := fun c hc => hs c (by simp [hc])
    rw [List.cons_append, unescape_cons_ne ha, ih has]
    cases unescape r <;> simp

theorem unescape_boundary {r q : Str} (hb : atBoundary r = true) (h : unescape r = some q) : atBoundary q = true := by
  cases r with
  | nil => simp [unescape, unescapeSt] at h; subst h; rfl
  | cons c t =>
    simp [atBoundary] at hb
    subst hb
    rw [unescape_cons_ne (by decide)] at h
    cases hu : unescape t with
    | none => simp [hu] at h
    | some q' => simp [hu] at h; subst h; simp [atBoundary]

theorem matchesPath_of_boundary (path r' : Str) (hb : atBoundary r' = true) : matchesPath (path ++ r') path = true := by
  unfold matchesPath
  split
  · rfl
  · cases r' with
    | nil => simp
    | cons c t =>
      obtain rfl : c = '/' := by simpa [atBoundary] using hb
      -- each side gets at most one `/` appended, so the guarded path (with its `/`) stays a prefix
      simp only [Bool.or_eq_true]
      right
      split <;> split <;> simp

def internalLit : Str := ['i', 'n', 't', 'e', 'r', 'n', 'a', 'l']
def internalPath : Str := '/' :: internalLit

theorem matchesPath_internal (r' : Str) (hb : atBoundary r' = true) :
    matchesPath ('/' :: (internalLit ++ r')) internalPath = true :=
  matchesPath_of_boundary internalPath r' hb

/-! ### requests produced by the parser: RawPath, when set, unescapes to Path -/

def ReqWF (r : Req) : Prop := r.rawPath = [] ∨ unescape r.rawPath = some r.path

theorem setPath_wf {uri p : Str} {r : Req} (h : setPath uri p = some r) : ReqWF r := by
  unfold setPath at h
  split at h
  · simp at h
  · next path hu =>
    simp at h
    subst h
    simp only [ReqWF]
    split
    · exact Or.inl rfl
    · exact Or.inr hu

theorem parseURL_wf {authOK : Str → Bool} {uri rawurl : Str} {r : Req} (h : parseURL authOK uri rawurl = some r) : ReqWF r := by
  revert h
  fun_cases parseURL authOK uri rawurl with
  | case3 => rintro ⟨⟩; exact .inl rfl
  | case5 => exact setPath_wf
  | case7 => exact setPath_wf
  | case9 => exact setPath_wf
  | case10 => rintro ⟨⟩; exact .inl rfl
  | _ => nofun

theorem parseTarget_wf {authOK : Str → Bool} {m : String} {t : Str} {r : Req} (h : parseTarget authOK m t = some r) : ReqWF r := by
  unfold parseTarget at h
  split at h
  · simp at h
  · exact parseURL_wf h

/-- THE key fact for the repaired selector: whenever the router (which dispatches on RawPath if set, else Path)
    matched a pattern whose first segment is a literal without `%`, `matchesPath(URL.Path, "/" + literal)` holds -/
theorem guard_covers_lit {l : Str} (hl : ∀ c ∈ '/' :: l, c ≠ '%') {r : Req} (hwf : ReqWF r) {leaf : Bool} {ps : List Seg}
    (hm : matchPat leaf (.lit l :: ps) (routerPath r) = true) : guardEngaged .urlPath ('/' :: l) r = true := by
  obtain ⟨r', hp, hb⟩ := matchPat_lit_head hm
  have hp : routerPath r = ('/' :: l) ++ r' := hp
  simp only [guardEngaged, Selector.get]
  unfold routerPath at hp
  split at hp
  · rw [hp]; exact matchesPath_of_boundary _ r' hb
  · next hne =>
    have hu := hwf.resolve_left hne
    rw [hp, unescape_lit_prefix _ _ hl] at hu
    cases hq : unescape r' with
    | none => simp [hq] at hu
    | some q =>
      simp only [hq, Option.map_some, Option.some.injEq] at hu
      rw [← hu]
      exact matchesPath_of_boundary _ q (unescape_boundary hb hq)

theorem guard_covers_router {r : Req} (hwf : ReqWF r) {leaf : Bool} {ps : List Seg}
    (hm : matchPat leaf (.lit internalLit :: ps) (routerPath r) = true) :
    guardEngaged .urlPath internalPath r = true :=
  guard_covers_lit (by decide) hwf hm

/-- a route registered under `/internal`: its echo pattern starts with the literal segment `internal` -/
def Props.underInternal (r : Route) : Prop := ∃ ps, r.pat = .lit internalLit :: ps

theorem routed_guarded {r : Req} (hwf : ReqWF r) {rs : List Route} {r0 : Route} (hu : Props.underInternal r0)
    (hm : pathMatches rs (routerPath r) r0 = true) : guardEngaged .urlPath internalPath r = true := by
  obtain ⟨ps, hps⟩ := hu
  rw [pathMatches, hps] at hm
  exact guard_covers_router hwf hm

theorem runRouted_ran {method : String} {user : Option String} {x : Routed} {i : Nat}
    (h : (runRouted method user x).ran = some i) :
    ∃ r0, x = .handler r0 ∧ r0.id = i ∧ (runRouted method user x).user = user := by
  cases x with
  | handler r0 => exact ⟨r0, rfl, Option.some.inj h, rfl⟩
  | notFound => cases h
  | methodNotAllowed => cases h

theorem bind_new {binds : List (Str × Addr)} {path : Str} {addr : Addr} (ha : addr ≠ "")
    (hf : binds.find? (·.1 = getBindFromPath path) = none) :
    bind binds path addr = some (binds ++ [(getBindFromPath path, addr)]) := by
  simp only [bind, ha, hf, if_false, Option.isSome_none, Bool.false_eq_true]

theorem foldl_bind {int : Addr} (hi : int ≠ "") (ps : List Str) (acc : List (Str × Addr))
    (hnd : (acc.map (·.1) ++ ps.map getBindFromPath).Nodup) :
    ps.foldl (fun acc p => acc.bind (fun b => bind b p int)) (some acc) =
      some (acc ++ (ps.map getBindFromPath).map (·, int)) := by
  induction ps generalizing acc with
  | nil => simp
  | cons p ps ih =>
    have hfresh : acc.find? (·.1 = getBindFromPath p) = none := by
      rw [List.find?_eq_none]
      intro x hx hp
      exact (List.nodup_append.mp hnd).2.2 x.1 (List.mem_map_of_mem hx) _ (by simp) (of_decide_eq_true hp)
    rw [List.foldl_cons, Option.bind_some, bind_new hi hfresh, ih _ (by simpa using hnd)]
    simp

theorem configureBinds_eq {pub int : Addr} (hp : pub ≠ "") (hi : int ≠ "") (ibs : List Str)
    (hnd : (['/'] :: ibs.map getBindFromPath).Nodup) :
    configureBinds ibs pub int = some ((['/'], pub) :: (ibs.map getBindFromPath).map (·, int)) := by
  rw [configureBinds, bind_new hp rfl]
  exact foldl_bind hi ibs _ hnd

theorem lookupBind_cons (k : Str) (v : Addr) (r : List (Str × Addr)) (b : Str) :
    lookupBind ((k, v) :: r) b = if k = b then some v else lookupBind r b := by
  unfold lookupBind
  rw [List.find?_cons]
  by_cases h : k = b <;> simp [h]

theorem lookupBind_map {a : Addr} {b : Str} {bs : List Str} (h : b ∈ bs) : lookupBind (bs.map (·, a)) b = some a := by
  induction bs with
  | nil => cases h
  | cons x r ih =>
    rw [List.map_cons, lookupBind_cons]
    by_cases hx : x = b
    · rw [if_pos hx]
    · rw [if_neg hx, ih ((List.mem_cons.1 h).resolve_left (Ne.symm hx))]

/-- in the table `Configure` builds, a path whose bind is listed goes to the internal address -/
theorem addrOf_internal {pub int : Addr} (hi : int ≠ "") {bs : List Str} (hroot : ['/'] ∉ bs) {p : Str}
    (hm : getBindFromPath p ∈ bs) : addrOf ((['/'], pub) :: bs.map (·, int)) p = some int := by
  unfold addrOf
  have hne : ['/'] ≠ getBindFromPath p := fun h => hroot (h ▸ hm)
  rw [lookupBind_cons, if_neg hne, lookupBind_map hm]
  exact if_neg hi

theorem lookupBind_mem {binds : List (Str × Addr)} {b : Str} {x : Addr} (h : lookupBind binds b = some x) : ∃ k, (k, x) ∈ binds := by
  unfold lookupBind at h
  cases hf : binds.find? (·.1 = b) with
  | none => simp [hf] at h
  | some e =>
    simp [hf] at h
    have := List.mem_of_find?_eq_some hf
    exact ⟨e.1, by rw [← h]; exact this⟩

theorem addrOf_all_same {binds : List (Str × Addr)} {a : Addr} (hall : ∀ e ∈ binds, e.2 = a)
    (hroot : lookupBind binds ['/'] = some a) (p : Str) : addrOf binds p = some a := by
  unfold addrOf
  cases h : lookupBind binds (getBindFromPath p) with
  | none => simpa using hroot
  | some x =>
    obtain ⟨k, hk⟩ := lookupBind_mem h
    have hx : x = a := hall _ hk
    subst hx
    simp only
    split
    · exact hroot
    · rfl

end Nuts.C04
