/-
  C14 — "an undelivered event stays visible as failed rather than vanishing", as a relation between ANY two states of a
  history (no calm suffix, restarts / crashes / faults allowed): a job that is listed by GetFailedEvents stays listed until a
  completion of exactly that (subscriber, transaction) is put on record.  And: `Run` leaves the jobs it decides not to replay
  (error text ends in ContextURLNotAllowedErr) as they are and calls nobody for them (`*_keeps_parked`).
-/
import NutsProofs.Lemmas.C14Run
namespace Nuts.C14

/-- the job of (s, r) is on the shelf with at least `thr` recorded failures (what GetFailedEvents lists for `thr = retriesFailedThreshold`) -/
def VisAt (thr : Nat) (σ : St) (s r : Nat) : Prop := ∃ j, σ.shelf s r = some j ∧ thr ≤ j.retries

/-- from σ to σ' the ledger only grew by `new`, and a visible failed job of (s, r) is still visible or its completion is in `new` -/
def VisRel (thr : Nat) (s r : Nat) (σ σ' : St) : Prop :=
  ∃ new, σ'.ledger = new ++ σ.ledger ∧ (VisAt thr σ s r → VisAt thr σ' s r ∨ completedIn new s r = true)

theorem VisRel.refl (thr s r : Nat) (σ : St) : VisRel thr s r σ σ := ⟨[], rfl, fun h => .inl h⟩

theorem VisRel.trans {thr s r : Nat} {a b d : St} (h1 : VisRel thr s r a b) (h2 : VisRel thr s r b d) : VisRel thr s r a d := by
  obtain ⟨n1, e1, v1⟩ := h1
  obtain ⟨n2, e2, v2⟩ := h2
  refine ⟨n2 ++ n1, by rw [e2, e1, List.append_assoc], fun hv => ?_⟩
  rcases v1 hv with hb | hc
  · rcases v2 hb with hd | hc2
    · exact .inl hd
    · exact .inr (by rw [completedIn_append, hc2]; rfl)
  · exact .inr (by rw [completedIn_append, hc]; simp)

theorem VisRel.of_keeps {thr s r : Nat} {σ σ' : St} (hs : ∀ j, σ.shelf s r = some j → σ'.shelf s r = some j) (hl : σ'.ledger = σ.ledger) :
    VisRel thr s r σ σ' :=
  ⟨[], by rw [hl]; rfl, fun ⟨j, hj, ht⟩ => .inl ⟨j, hs j hj, ht⟩⟩

theorem saveEvent_keeps_job (c : Cfg) (σ : St) (ev : Nat × EvType) (s r : Nat) (j : Job) (h : σ.shelf s r = some j) :
    (saveEvent c σ ev).shelf s r = some j := by
  rw [(saveEvent_spec c σ ev).shelf s r, if_neg (by rw [h]; simp), h]

theorem addCommit_keeps_job (c : Cfg) (σ : St) (a : AddArgs) (s r : Nat) (j : Job) (hj : σ.shelf s r = some j) :
    (addCommit c σ a).shelf s r = some j := by
  refine saveEvent_keeps_job c _ (a.ref, .tx) s r j ?_
  show (if a.withPayload = true then _ else _ : St).shelf s r = some j
  split
  · exact saveEvent_keeps_job _ _ _ _ _ _ hj
  · exact hj

theorem addTx_keeps_job (c : Cfg) (σ : St) (a : AddArgs) (s r : Nat) (j : Job) (hj : σ.shelf s r = some j) :
    (addTx c σ a).1.shelf s r = some j := by
  rcases addTx_spec c σ a with ⟨e, _, he⟩ | ⟨he, _⟩ <;> rw [he]
  · exact hj
  · exact addCommit_keeps_job c σ a s r j hj

theorem saveEvent_vis (c : Cfg) (thr s r : Nat) (σ : St) (ev : Nat × EvType) : VisRel thr s r σ (saveEvent c σ ev) :=
  ⟨[], by rw [saveEvent_ledger]; rfl, fun ⟨j, hj, ht⟩ => .inl ⟨j, saveEvent_keeps_job c σ ev s r j hj, ht⟩⟩

theorem DStep.vis {c : Cfg} {thr s r : Nat} {σ σ' : St} (hthr : thr ≤ c.maxRetries + 1) (d : DStep c σ σ') : VisRel thr s r σ σ' := by
  induction d with
  | vol e => exact VisRel.of_keeps (fun j hj => e.shelf ▸ hj) e.ledger
  | upd s0 r0 j new nj hj u =>
    -- the recorded failures of a job never fall below the listing threshold
    refine ⟨new, rfl, fun ⟨j0, hj0, ht0⟩ => ?_⟩
    by_cases hsr : s = s0 ∧ r = r0
    · obtain ⟨rfl, rfl⟩ := hsr
      rw [hj] at hj0; cases hj0
      cases hnj : nj with
      | none => exact .inr (u.done hnj)
      | some j' =>
        refine .inl ⟨j', if_pos ⟨rfl, rfl⟩, ?_⟩
        rcases (u.job j' hnj).2 with h | h <;> omega
    · exact .inl ⟨j0, (if_neg hsr).trans hj0, ht0⟩
  | @add σ a _ _ => exact VisRel.of_keeps (addCommit_keeps_job c σ a s r) (addCommit_ledger c σ a)
  | @payload σ r0 _ _ => exact VisRel.of_keeps (fun j hj => saveEvent_keeps_job _ _ _ _ _ _ hj) (payloadCommit_ledger c σ r0)
  | trans _ _ ih1 ih2 => exact ih1.trans ih2

theorem run_vis (c : Cfg) {thr : Nat} (hthr : thr ≤ c.maxRetries + 1) (s r : Nat) (ops : List Op) (σ : St) : VisRel thr s r σ (run c σ ops) := by
  induction ops generalizing σ with
  | nil => exact VisRel.refl _ _ _ _
  | cons op rest ih => exact ((step_dstep c σ op).vis hthr).trans (ih (step c σ op))

theorem runSub_keeps_parked (c : Cfg) (σ : St) (s0 s r : Nat) (j : Job) (hj : σ.shelf s r = some j) (hctx : j.err = .ctx) :
    (runSub c σ s0).1.shelf s r = some j ∧ attemptNo (runSub c σ s0).1 s r = attemptNo σ s r := by
  obtain ⟨tr, hsub, hrun⟩ := runSub_run c σ s0
  rw [← hj]
  refine hrun.untouched fun hm => ?_
  obtain ⟨rfl, p, hp, rfl⟩ := now_mem_runPlan (hsub.subset hm)
  obtain ⟨_, j', hj', _, hne⟩ := mem_runSnapshot_iff.mp hp
  rw [hj] at hj'; cases hj'; exact hne hctx

theorem runAll_keeps_parked (c : Cfg) (order : List Nat) (σ : St) (s r : Nat) (j : Job) (hj : σ.shelf s r = some j) (hctx : j.err = .ctx) :
    (runAll c order σ).1.shelf s r = some j ∧ attemptNo (runAll c order σ).1 s r = attemptNo σ s r := by
  fun_induction runAll c order σ with
  | case1 σ => exact ⟨hj, rfl⟩
  | case2 s0 _ σ _ h => exact h ▸ runSub_keeps_parked c σ s0 s r j hj hctx
  | case3 s0 _ σ _ h ih =>
    have := h ▸ runSub_keeps_parked c σ s0 s r j hj hctx
    exact ⟨(ih this.1).1, (ih this.1).2.trans this.2⟩

theorem restart_keeps_parked (c : Cfg) (σ : St) (order : List Nat) (s r : Nat) (j : Job) (hj : σ.shelf s r = some j) (hctx : j.err = .ctx) :
    (restart c σ order).shelf s r = some j ∧ attemptNo (restart c σ order) s r = attemptNo σ s r := by
  rw [restart_spec]
  unfold attemptNo
  rw [(settle_same _).shelf, (settle_same _).ledger]
  exact runAll_keeps_parked c order σ s r j hj hctx

end Nuts.C14
