/-
  C08 — the persisted leaves (sorted shelves) follow the tree: `Sync` says a contiguous tree has nothing dirty and the
  shelf holds exactly its leaves; it is established by insert+persist (`treeStore.write`), kept by `Replace`+persist (the
  repair write) and by `Load`.  Core Lean only.
-/
import NutsModel.C08.State
import NutsProofs.Lemmas.C08Load
import NutsProofs.Lemmas.C08Shelf

namespace Nuts.C08

variable {R G : Type}

theorem putSorted_pl {ls : Nat} (hls : 0 < ls) (P : Nat) (x : G) (m a : Nat) (val : Nat → G) (h1 : a ≤ P) (h2 : P ≤ a + m) :
    putSorted (keyOf ls P) x (pl ls a m val) = pl ls a (max m (P - a + 1)) (upd val P x) := by
  have e : ∀ m (val : Nat → G), pl ls a m val = (List.range' a m).map fun i => (keyOf ls i, val i) := fun m val => by
    rw [List.range'_eq_map_range, List.map_map]; rfl
  rw [e, e]
  exact putSorted_run (keyOf ls) (fun _ _ => keyOf_lt hls) P x m a val h1 h2

theorem contains_all_eq {D : List Nat} {k : Nat} (hne : D ≠ []) (hall : ∀ x ∈ D, x = k) (y : Nat) :
    D.contains y = decide (y = k) := by
  cases D with
  | nil => exact absurd rfl hne
  | cons d ds =>
    by_cases hy : y = k
    · subst hy
      have : d = y := hall d (by simp)
      simp [this]
    · have : ∀ x ∈ d :: ds, ¬ (y = x) := fun x hx e => hy (by rw [e]; exact hall x hx)
      simp only [hy, decide_false]
      rw [List.contains_eq_any_beq, List.any_eq_false]
      intro x hx; simp; exact this x hx

theorem filter_pl_dirty {ls : Nat} (hls : 0 < ls) (D : List Nat) (P : Nat) (hne : D ≠ []) (hall : ∀ x ∈ D, x = keyOf ls P) :
    ∀ (m : Nat) (val : Nat → G),
    (pl ls 0 m val).filter (fun kv => D.contains kv.1) = if P < m then [(keyOf ls P, val P)] else [] := by
  intro m
  induction m with
  | zero => intro val; simp [pl_zero]
  | succ m ih =>
    intro val
    rw [pl_succ, List.filter_append, ih val]
    simp only [Nat.zero_add, List.filter_cons, List.filter_nil, contains_all_eq hne hall]
    by_cases h1 : P < m
    · have : keyOf ls m ≠ keyOf ls P := fun e => by have := keyOf_inj hls e; omega
      have h2 : P < m + 1 := by omega
      simp [h1, h2, this]
    · by_cases h3 : P = m
      · subst h3; simp
      · have : keyOf ls m ≠ keyOf ls P := fun e => by have := keyOf_inj hls e; omega
        have h2 : ¬ P < m + 1 := by omega
        simp [h1, h2, this]

theorem fsum_pl {o : Ops R G} (L : Lawful o) {ls : Nat} (hls : 0 < ls) (q : Nat → Bool) (val : Nat → G) :
    ∀ m, fsum o ls q (pl ls 0 m val) = gsum o (((List.range m).filter q).map val)
  | 0 => rfl
  | m + 1 => by
    rw [pl_succ, fsum_append L, fsum_pl L hls q val m, List.range_succ, List.filter_append, List.map_append, gsum_append L]
    simp only [fsum, List.filter_cons, List.filter_nil, Nat.zero_add, keyOf_page hls]
    split <;> rfl

theorem fsum_pl_page {o : Ops R G} (L : Lawful o) {ls : Nat} (hls : 0 < ls) (p : Nat) (val : Nat → G) (m : Nat) :
    fsum o ls (fun q => q == p) (pl ls 0 m val) = if p < m then val p else o.zero := by
  rw [fsum_pl L hls, List.filter_beq, List.count_range]
  split <;> simp [gsum, L.add_zero]

structure Sync (o : Ops R G) (ls : Nat) (t : Tree G) (shelf : List (Nat × G)) (m : Nat) (val : Nat → G) : Prop where
  holds : Holds o ls t m val
  clean : t.dirty = []
  orph : t.orphaned = []
  shelf_eq : shelf = pl ls 0 m val

/-- the empty DAG: a new tree (its only leaf marked dirty), an empty shelf -/
def Fresh (o : Ops R G) (ls : Nat) (t : Tree G) (shelf : List (Nat × G)) : Prop :=
  t = Tree.new o ls ∧ shelf = []

theorem Holds.persist_eq {o : Ops R G} {ls : Nat} {t : Tree G} {m : Nat} {val : Nat → G} (H : Holds o ls t m val) {P : Nat}
    (hP : P < m) (hne : t.dirty ≠ []) (hd : ∀ x ∈ t.dirty, x = keyOf ls P) (shelf : List (Nat × G)) :
    Holds o ls (persist t shelf).1 m val ∧ (persist t shelf).1.dirty = [] ∧ (persist t shelf).1.orphaned = [] ∧
    (persist t shelf).2 = putSorted (keyOf ls P) (val P) shelf := by
  refine ⟨⟨H.ls_pos, H.ls_eq, H.shape, H.wf, H.leaves⟩, rfl, rfl, ?_⟩
  unfold persist Tree.updates
  rw [H.leaves, filter_pl_dirty H.ls_pos _ P hne hd, if_pos hP]
  rfl

/-- `treeStore.write` (Insert + writeWithoutLock) at a held page or the next one, on a tree whose dirty leaves — if any —
    are the leaf being written and whose shelf holds its first `k` pages: afterwards tree and shelf are in sync. The synced
    tree has `k = m` and nothing dirty; the new tree of the empty DAG has its only leaf dirty and `k = 0`. -/
theorem Holds.write {o : Ops R G} (L : Lawful o) {ls : Nat} {t : Tree G} {shelf : List (Nat × G)} {m k : Nat} {val : Nat → G}
    (H : Holds o ls t m val) (r : R) (clock : Nat)
    (hd : ∀ x ∈ t.dirty, x = keyOf ls (clock / ls)) (hs : shelf = pl ls 0 k val) (hk : clock / ls ≤ k)
    (hkm : max k (clock / ls + 1) = max m (clock / ls + 1)) (hP : clock / ls ≤ m) (hz : ∀ p, m ≤ p → val p = o.zero) :
    Sync o ls (persist (t.insert o r clock) shelf).1 (persist (t.insert o r clock) shelf).2
      (max m (clock / ls + 1)) (upd val (clock / ls) (o.ins (val (clock / ls)) r)) := by
  have hls := H.ls_pos
  obtain ⟨H', dk, hdk, hne, hall, _⟩ := H.updatePath L clock (fun d => o.ins d r) (o.ins o.zero r) (fun d => L.ins_eq d r) hP hz
  obtain ⟨h1, h2, h3, h4⟩ := H'.persist_eq (P := clock / ls) (by omega) (by rw [hdk]; simp [hne])
    (by rw [hdk]; intro x hx; exact (List.mem_append.mp hx).elim (hd x) (hall x)) shelf
  refine ⟨h1, h2, h3, h4.trans ?_⟩
  rw [hs, putSorted_pl hls _ _ k 0 val (Nat.zero_le _) (by omega), Nat.sub_zero, hkm]
  simp [upd]

theorem Sync.replace {o : Ops R G} (L : Lawful o) {ls : Nat} {t : Tree G} {shelf : List (Nat × G)} {m : Nat} {val : Nat → G}
    (S : Sync o ls t shelf m val) (p : Nat) (x : G) (hp : p < m) :
    Sync o ls (persist (t.replace o (p * ls) x) shelf).1 (persist (t.replace o (p * ls) x) shelf).2 m (upd val p x) := by
  have hls := S.holds.ls_pos
  have r := S.holds.replace L (p * ls) x (by rwa [Nat.mul_div_cancel _ hls])
  rw [Nat.mul_div_cancel _ hls, S.clean, List.nil_append] at r
  obtain ⟨h1, h2, h3, h4⟩ := r.1.persist_eq hp (by simp [r.2.1]) (by simp [r.2.1]) shelf
  refine ⟨h1, h2, h3, h4.trans ?_⟩
  rw [S.shelf_eq, putSorted_pl hls _ _ _ 0 val (Nat.zero_le _) (by omega), Nat.max_eq_left (by omega)]
  simp [upd]

theorem Sync.load {o : Ops R G} (L : Lawful o) {ls : Nat} (hls : 0 < ls) (heven : ls % 2 = 0) (b : Bool) (t0 : Tree G)
    {shelf : List (Nat × G)} {m : Nat} {val : Nat → G} (hm : 1 ≤ m) (hs : shelf = pl ls 0 m val) :
    Sync o ls (Tree.load o b t0 shelf) shelf m val := by
  subst hs
  have h := Holds.load L hls heven b t0 m val hm
  exact ⟨h.1, h.2.1, h.2.2, rfl⟩

/-- Load of the empty shelf (with the repaired `tree.Load`): the empty tree, whatever the tree object held before -/
theorem Fresh.load {o : Ops R G} {ls : Nat} (t0 : Tree G) (h0 : t0.leafSize = ls) :
    Fresh o ls (Tree.load o true t0 []) [] := by
  simp [Fresh, Tree.load, h0]

end Nuts.C08
