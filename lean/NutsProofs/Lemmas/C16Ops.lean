/-
  C16 — each operation of the list and of the replica by outcome (`verify`, `add`, `register`, one round of the client
  loop, `clientApply`, the server side of `step`), and what an accepted `add` does to the rows.
-/
import NutsModel.C16.Discovery
import NutsModel.C16.Spec
import NutsProofs.Lemmas.Base

namespace Nuts.C16

/-! ### the registration predicate of the property text -/

theorem hasKey_iff (s : Store) (subj id : String) :
    s.hasKey subj id = true ↔ ∃ r ∈ s.rows, r.subject = subj ∧ r.id = id := by
  simp [Store.hasKey, List.any_eq_true]

theorem Acceptable.credsHaveId {d : Def} {side : Side} {s : Store} {now : Nat} {vp : VP} {subj : String} {e : Nat}
    (h : Acceptable d side s now vp subj e) : vp.creds.any (fun c => !c.hasId) = false := by
  cases hr : vp.retraction with
  | true => rw [(h.retraction hr).1]; rfl
  | false => exact (h.registration hr).1

theorem Acceptable.vpwf {d : Def} {side : Side} {s : Store} {now : Nat} {vp : VP} {subj : String} {e : Nat} {id : String}
    (h : Acceptable d side s now vp subj e) (hid : vp.id = some id) : VPWF vp subj id e :=
  ⟨h.signer.imp fun _ hm => hm.1, hid, h.exp, h.jwt, h.credsHaveId⟩

theorem validateRetraction_cases (s : Store) (subj : String) (vp : VP) :
    (∃ x, validateRetraction s subj vp = .err x) ∨
    (validateRetraction s subj vp = .ok () ∧
      vp.creds = [] ∧ ∃ j, vp.retractJti = some j ∧ j ≠ "" ∧ ∃ r ∈ s.rows, r.subject = subj ∧ r.id = j) := by
  fun_cases validateRetraction s subj vp with
  | case4 hl j hj hne hk =>
    exact .inr ⟨rfl, List.eq_nil_of_length_eq_zero (Nat.eq_zero_of_not_pos hl), j, hj, hne, (hasKey_iff s subj j).mp hk⟩
  | _ => exact .inl ⟨_, rfl⟩

theorem validateRegistration_cases (e : Nat) (vp : VP) :
    (∃ x, validateRegistration e vp = .err x) ∨
    (validateRegistration e vp = .ok () ∧ vp.creds.any (fun c => !c.hasId) = false ∧
      (∀ c ∈ vp.creds, ∀ ce, c.exp = some ce → e ≤ ce) ∧ vp.pex = .matched vp.creds.length) := by
  fun_cases validateRegistration e vp with
  | case5 hid hany n hp hn =>
    refine .inr ⟨rfl, Bool.of_not_eq_true hid, fun c hc ce hce => Nat.le_of_not_lt fun hlt => ?_,
      by rw [hp, Decidable.not_not.mp hn]⟩
    have := List.any_eq_false.mp (Bool.of_not_eq_true hany) c hc
    simp [Cred.expiresBefore, hce, hlt] at this
  | _ => exact .inl ⟨_, rfl⟩

theorem verify_cases (d : Def) (side : Side) (s : Store) (now : Nat) (vp : VP) :
    (∃ x, verify d s now side vp = .err x) ∨
    (verify d s now side vp = .ok () ∧ ∃ subj e, Acceptable d side s now vp subj e) := by
  fun_cases verify d s now side vp with
  | case9 hj i hid haud e hexp hlong subj m hsig hmeth p hp =>
    -- neither validator panics
    cases hr : vp.retraction <;> rw [hr] at hp
    · rcases validateRegistration_cases e vp with ⟨_, hx⟩ | ⟨hx, _⟩ <;> exact nomatch hx.symm.trans hp
    · rcases validateRetraction_cases s subj vp with ⟨_, hx⟩ | ⟨hx, _⟩ <;> exact nomatch hx.symm.trans hp
  | case10 hj i hid haud e hexp hlong subj m hsig hmeth hb hv =>
    have hm : d.didMethods = [] ∨ m ∈ d.didMethods := by
      cases hc : d.didMethods.contains m with
      | true => exact .inr (List.contains_iff_mem.mp hc)
      | false => exact .inl (List.eq_nil_of_length_eq_zero (Nat.eq_zero_of_not_pos fun hp => hmeth ⟨hp, by rw [hc]; rfl⟩))
    have hv := Bool.and_eq_true_iff.mp hv
    refine .inr ⟨rfl, subj, e, Bool.of_not_eq_false hj, ⟨i, hid⟩,
      List.contains_iff_mem.mp (Bool.of_not_eq_false fun hb => haud (by rw [hb]; rfl)), hexp, Nat.le_of_not_lt hlong,
      ⟨m, hsig, hm⟩, hv.1, hv.2,
      fun hr => ?_, fun hr => ?_⟩ <;> rw [hr] at hb
    · rcases validateRegistration_cases e vp with ⟨_, hx⟩ | ⟨_, h⟩
      · exact nomatch hx.symm.trans hb
      · exact h
    · rcases validateRetraction_cases s subj vp with ⟨_, hx⟩ | ⟨_, h⟩
      · exact nomatch hx.symm.trans hb
      · exact h
  | _ => exact .inl ⟨_, rfl⟩

theorem validateRegistration_ok (e : Nat) (vp : VP) :
    validateRegistration e vp = .ok () ↔
      (vp.creds.any (fun c => !c.hasId) = false ∧
       (∀ c ∈ vp.creds, ∀ ce, c.exp = some ce → e ≤ ce) ∧ vp.pex = .matched vp.creds.length) := by
  refine ⟨fun h => ?_, fun ⟨h0, h1, h2⟩ => ?_⟩
  · rcases validateRegistration_cases e vp with ⟨x, hx⟩ | ⟨_, hs⟩
    · rw [hx] at h; cases h
    · exact hs
  · have hany : vp.creds.any (fun c => c.expiresBefore e) = false := by
      refine List.any_eq_false.mpr fun c hc hx => ?_
      cases hce : c.exp with
      | none => simp [Cred.expiresBefore, hce] at hx
      | some ce =>
        simp only [Cred.expiresBefore, hce, decide_eq_true_eq] at hx
        exact absurd (h1 c hc ce hce) (Nat.not_le.mpr hx)
    simp [validateRegistration, h0, hany, h2]

theorem validateRetraction_ok (s : Store) (subj : String) (vp : VP) :
    validateRetraction s subj vp = .ok () ↔
      (vp.creds = [] ∧ ∃ j, vp.retractJti = some j ∧ j ≠ "" ∧ ∃ r ∈ s.rows, r.subject = subj ∧ r.id = j) := by
  refine ⟨fun h => ?_, fun ⟨hc, j, hj, hne, hr⟩ => ?_⟩
  · rcases validateRetraction_cases s subj vp with ⟨x, hx⟩ | ⟨_, hs⟩
    · rw [hx] at h; cases h
    · exact hs
  · simp [validateRetraction, hc, hj, hne, (hasKey_iff s subj j).mpr hr]

theorem verify_ok_acceptable (d : Def) (side : Side) (s : Store) (now : Nat) (vp : VP) :
    verify d s now side vp = .ok () ↔ ∃ subj e, Acceptable d side s now vp subj e := by
  refine ⟨fun h => ?_, fun ⟨subj, e, hA⟩ => ?_⟩
  · rcases verify_cases d side s now vp with ⟨x, hx⟩ | ⟨_, hs⟩
    · rw [hx] at h; cases h
    · exact hs
  obtain ⟨i, hid⟩ := hA.hasId
  obtain ⟨m, hsig, hmeth⟩ := hA.signer
  have hbody : (if vp.retraction then validateRetraction s subj vp else validateRegistration e vp) = .ok () := by
    cases hr : vp.retraction with
    | true => simpa using (validateRetraction_ok s subj vp).mpr (hA.retraction hr)
    | false => simpa using (validateRegistration_ok e vp).mpr (hA.registration hr)
  have hm : 0 < d.didMethods.length → m ∈ d.didMethods := by
    intro h1
    rcases hmeth with h | h
    · simp [h] at h1
    · exact h
  have hl : ¬ (now + d.maxValidity < e) := by have := hA.within; omega
  unfold verify
  simp [hA.jwt, hid, hA.addressed, hA.exp, hl, hsig, hbody, hA.verifiable, hA.available]
  exact hm

/-! ### `add` and `Register` -/

/-- the successful branch of `sqlStore.add` -/
def addOk (s : Store) (now : Nat) (vp : VP) (subj id : String) (e seed ts : Nat) : Store × Row :=
  let s1 := s.prune now
  let row : Row := { pk := s1.nextPk, ts := ts, subject := subj, id := id, exp := e, vp := vp }
  ({ s1 with seed := seed, lastTs := ts, rows := s1.rows.filter (fun r => !(r.subject == subj)) ++ [row],
             nextPk := s1.nextPk + 1 }, row)

/-- the seed and timestamp `add` gives the list: server mode (`ts = 0`) draws / increments, client mode takes the response's -/
def seedOf (c : Store) (seed ts fresh : Nat) : Nat :=
  if ts = 0 then (if c.seed = 0 then (if seed = 0 then fresh else seed) else c.seed) else seed

def tsOf (c : Store) (ts : Nat) : Nat := if ts = 0 then c.lastTs + 1 else ts

theorem seedOf_tsOf (c : Store) (seed ts fresh : Nat) :
    (ts ≠ 0 ∧ seedOf c seed ts fresh = seed ∧ tsOf c ts = ts) ∨
    (ts = 0 ∧ tsOf c ts = c.lastTs + 1 ∧
      ((c.seed ≠ 0 ∧ seedOf c seed ts fresh = c.seed) ∨ (c.seed = 0 ∧ seed ≠ 0 ∧ seedOf c seed ts fresh = seed) ∨
       (c.seed = 0 ∧ seed = 0 ∧ seedOf c seed ts fresh = fresh))) := by
  unfold seedOf tsOf
  by_cases h1 : ts = 0 <;> by_cases h2 : c.seed = 0 <;> by_cases h3 : seed = 0 <;> simp [h1, h2, h3]

theorem add_cases (s : Store) (now : Nat) (vp : VP) (seed ts fresh : Nat) :
    (∃ x s', ((vp.signer = none ∧ s' = s) ∨ (vp.creds.any (fun c => !c.hasId) = true ∧ s' = s.prune now)) ∧
      s.add now vp seed ts fresh = (s', .err x)) ∨
    (∃ p, (vp.id = none ∨ vp.jwt = false) ∧ s.add now vp seed ts fresh = (s.prune now, .panic p)) ∨
    ∃ subj m id, vp.signer = some (subj, m) ∧ vp.id = some id ∧ vp.jwt = true ∧ vp.creds.any (fun c => !c.hasId) = false ∧
      s.add now vp seed ts fresh = ((addOk s now vp subj id (vp.exp.getD 0) (seedOf s seed ts fresh) (tsOf s ts)).1,
        .ok (addOk s now vp subj id (vp.exp.getD 0) (seedOf s seed ts fresh) (tsOf s ts)).2) := by
  fun_cases Store.add s now vp seed ts fresh with
  | case1 hs => exact .inl ⟨_, _, .inl ⟨hs, rfl⟩, rfl⟩
  | case2 subj m hs s1 hi => exact .inr (.inl ⟨_, .inl hi, rfl⟩)
  | case3 subj m hs s1 id hi hj => exact .inr (.inl ⟨_, .inr hj, rfl⟩)
  | case4 subj m hs s1 id hi hj hc => exact .inl ⟨_, _, .inr ⟨hc, rfl⟩, rfl⟩
  | case5 subj m hs s1 id hi hj hc exp =>
    refine .inr (.inr ⟨subj, m, id, hs, hi, Bool.of_not_eq_false hj, Bool.of_not_eq_true hc, ?_⟩)
    revert exp
    cases vp.exp <;> rfl

theorem add_eq (s : Store) (now : Nat) (vp : VP) (seed ts fresh : Nat) (subj m id : String) (e : Nat)
    (hs : vp.signer = some (subj, m)) (hi : vp.id = some id) (he : vp.exp = some e) (hj : vp.jwt = true)
    (hc : vp.creds.any (fun c => !c.hasId) = false) :
    s.add now vp seed ts fresh =
      ((addOk s now vp subj id e (seedOf s seed ts fresh) (tsOf s ts)).1,
       .ok (addOk s now vp subj id e (seedOf s seed ts fresh) (tsOf s ts)).2) := by
  rcases add_cases s now vp seed ts fresh with ⟨_, _, ⟨h, _⟩ | ⟨h, _⟩, _⟩ | ⟨_, h | h, _⟩ | ⟨_, _, _, hs', hi', _, _, h⟩
  · exact nomatch hs.symm.trans h
  · exact nomatch hc.symm.trans h
  · exact nomatch hi.symm.trans h
  · exact nomatch hj.symm.trans h
  · cases hs.symm.trans hs'; cases hi.symm.trans hi'
    rw [h, he]; rfl

theorem add_seed_cases (s : Store) (now : Nat) (vp : VP) (seed ts fresh : Nat) :
    (s.add now vp seed ts fresh).1.seed = s.seed ∨ (s.add now vp seed ts fresh).1.seed = seed ∨
    (s.add now vp seed ts fresh).1.seed = fresh := by
  rcases add_cases s now vp seed ts fresh with ⟨_, _, hs', h⟩ | ⟨_, _, h⟩ | ⟨_, _, _, _, _, _, _, h⟩
  · rw [h]; rcases hs' with ⟨_, rfl⟩ | ⟨_, rfl⟩ <;> exact .inl rfl
  · rw [h]; exact .inl rfl
  · rw [h]
    show seedOf s seed ts fresh = _ ∨ seedOf s seed ts fresh = _ ∨ seedOf s seed ts fresh = _
    have := seedOf_tsOf s seed ts fresh
    omega

theorem add_no_panic (s : Store) (now : Nat) (vp : VP) (seed ts fresh : Nat) (id : String)
    (hj : vp.jwt = true) (hi : vp.id = some id) (p : String) : (s.add now vp seed ts fresh).2 ≠ .panic p := by
  rcases add_cases s now vp seed ts fresh with ⟨_, _, _, h⟩ | ⟨_, h', _⟩ | ⟨_, _, _, _, _, _, _, h⟩
  · rw [h]; exact fun h => nomatch h
  · rw [hi, hj] at h'
    rcases h' with h' | h' <;> cases h'
  · rw [h]; exact fun h => nomatch h

theorem register_cases (d : Def) (s : Store) (now fresh : Nat) (vp : VP) :
    (∃ x, (verify d s now .server vp = .err x ∨
        ∃ subj m id, vp.signer = some (subj, m) ∧ vp.id = some id ∧ s.hasKey subj id = true) ∧
      register d s now fresh vp = (s, .err x)) ∨
    (∃ subj e id, Acceptable d .server s now vp subj e ∧ vp.id = some id ∧ s.hasKey subj id = false ∧
      register d s now fresh vp =
        (((addOk s now vp subj id e (if s.seed = 0 then fresh else s.seed) (s.lastTs + 1)).1).setValidated s.nextPk, .ok ())) := by
  rcases verify_cases d .server s now vp with ⟨x, hx⟩ | ⟨hv, subj, e, hA⟩
  · exact Or.inl ⟨x, .inl hx, by rw [register, hx]⟩
  obtain ⟨id, hid⟩ := hA.hasId
  obtain ⟨m, hsig, _⟩ := hA.signer
  cases hk : s.hasKey subj id with
  | true => exact Or.inl ⟨"exists", .inr ⟨subj, m, id, hsig, hid, hk⟩, by simp [register, hv, hsig, hid, hk]⟩
  | false =>
    refine Or.inr ⟨subj, e, id, hA, hid, hk, ?_⟩
    have := add_eq s now vp 0 0 fresh subj m id e hsig hid hA.exp hA.jwt hA.credsHaveId
    simp only [seedOf, tsOf, if_true] at this
    simp [register, hv, hsig, hid, hk, this, addOk, Store.prune]

theorem register_seed (d : Def) (s : Store) (now fresh : Nat) (vp : VP) :
    (register d s now fresh vp).1.seed = s.seed ∨
    ((register d s now fresh vp).1.seed = fresh ∧ s.seed = 0 ∧ (register d s now fresh vp).2 = .ok ()) := by
  rcases register_cases d s now fresh vp with ⟨x, _, ho⟩ | ⟨subj, e, id, _, _, _, hreg⟩
  · left; rw [ho]
  · rw [hreg]
    by_cases h : s.seed = 0
    · right; exact ⟨by simp [addOk, Store.setValidated, h], h, rfl⟩
    · left; simp [addOk, Store.setValidated, h]

theorem step_server (cfg : Cfg) (d : Def) (w : World) (e : Ev) :
    ((step cfg d w e).1.S = w.S ∧ w.t ≤ (step cfg d w e).1.t) ∨
    ((step cfg d w e).1.S = {} ∧ (step cfg d w e).1.t = w.t) ∨
    (∃ vp, (step cfg d w e).1.S = (register d w.S w.t (w.ctr + 1) vp).1 ∧ (step cfg d w e).1.t = w.t) := by
  fun_cases step cfg d w e with
  | case1 n => exact .inl ⟨rfl, Nat.le_add_right _ _⟩  -- tick
  | case2 vp s' r hreg => exact .inr (.inr ⟨vp, (congrArg Prod.fst hreg).symm, rfl⟩)
  | case3 => exact .inr (.inl ⟨rfl, rfl⟩)  -- reset
  | _ => exact .inl ⟨rfl, Nat.le_refl _⟩

/-! ### the rows after `prune` and after an accepted `add` -/

theorem mem_prune {s : Store} {now : Nat} {r : Row} : r ∈ (s.prune now).rows ↔ r ∈ s.rows ∧ ¬ r.exp < now := by
  simp [Store.prune, List.mem_filter]

theorem mem_kept {s : Store} {now : Nat} {subj : String} {r : Row} :
    r ∈ ((s.prune now).rows.filter (fun r => !(r.subject == subj))) ↔ r ∈ s.rows ∧ ¬ r.exp < now ∧ r.subject ≠ subj := by
  simp only [Store.prune, List.mem_filter, beq_eq_false_iff_ne, ne_eq, decide_eq_false_iff_not, Bool.not_eq_eq_eq_not, Bool.not_true]
  constructor
  · rintro ⟨⟨a, b⟩, c⟩; exact ⟨a, by simpa using b, c⟩
  · rintro ⟨a, b, c⟩; exact ⟨⟨a, by simpa using b⟩, c⟩

theorem mem_addOk {s : Store} {now : Nat} {vp : VP} {subj id : String} {e seed ts : Nat} {r : Row} :
    r ∈ (addOk s now vp subj id e seed ts).1.rows ↔
      (r ∈ s.rows ∧ ¬ r.exp < now ∧ r.subject ≠ subj) ∨ r = (addOk s now vp subj id e seed ts).2 := by
  unfold addOk
  simp only [List.mem_append, List.mem_singleton]
  rw [mem_kept]

theorem forall_addOk {P : Row → Prop} {s : Store} {now : Nat} {vp : VP} {subj id : String} {e seed ts : Nat}
    (h : ∀ r ∈ s.rows, P r) (hnew : P (addOk s now vp subj id e seed ts).2) :
    ∀ r ∈ (addOk s now vp subj id e seed ts).1.rows, P r := by
  intro r hr
  rcases mem_addOk.mp hr with ⟨h1, _, _⟩ | rfl
  · exact h r h1
  · exact hnew

theorem pairwise_addOk {R : Row → Row → Prop} {s : Store} {now : Nat} {vp : VP} {subj id : String} {e seed ts : Nat}
    (h : s.rows.Pairwise R) (hnew : ∀ a ∈ s.rows, a.subject ≠ subj → R a (addOk s now vp subj id e seed ts).2) :
    (addOk s now vp subj id e seed ts).1.rows.Pairwise R := by
  show (_ ++ [_]).Pairwise _
  rw [List.pairwise_append]
  refine ⟨h.sublist (List.filter_sublist.trans List.filter_sublist), List.pairwise_singleton _ _, fun a ha b hb => ?_⟩
  rw [List.mem_singleton.mp hb]
  exact hnew a (mem_kept.mp ha).1 (mem_kept.mp ha).2.2

theorem prune_prune (s : Store) (now : Nat) : (s.prune now).prune now = s.prune now := by
  unfold Store.prune
  simp [List.filter_filter]

theorem prune_rows_nil {s : Store} (now : Nat) (h : s.rows = []) : (s.prune now).rows = [] := by
  simp [Store.prune, h]

theorem add_prune (s : Store) (now : Nat) (vp : VP) (seed ts fresh : Nat) (subj m : String)
    (hs : vp.signer = some (subj, m)) :
    (s.prune now).add now vp seed ts fresh = s.add now vp seed ts fresh := by
  simp only [Store.add, hs, prune_prune]

theorem search_prune (s : Store) (now : Nat) : (s.prune now).search now = s.search now := by
  simp only [Store.search, Store.prune, Store.isValidated, List.filter_filter]
  apply List.filter_congr
  intro r _
  by_cases h1 : r.exp < now
  · have h2 : r.exp ≤ now := Nat.le_of_lt h1
    simp [h1, h2]
  · simp [h1]

theorem liveKeys_prune (s : Store) (now : Nat) : (s.prune now).liveKeys now = s.liveKeys now := by
  simp only [Store.liveKeys, Store.prune, Row.live, List.filter_filter]
  congr 1
  apply List.filter_congr
  intro r _
  by_cases h1 : r.exp < now
  · have h2 : ¬ now < r.exp := by omega
    simp [h1, h2]
  · simp [h1]

/-! ### the client loop as an iteration -/

theorem RowWF.vpwf {r : Row} (h : RowWF r) : VPWF r.vp r.subject r.id r.exp := h

theorem clientLoop_cons_cases (d : Def) (now seed ts : Nat) (c : Store) (ctr : Nat) (vp : VP) (rest : List VP) :
    (∃ x, ((vp.jwt = false ∧ x = "format") ∨ (vp.id = none ∧ x = "no-id") ∨
        (vp.jwt = true ∧ (∃ id, vp.id = some id) ∧ vp.signer = none ∧ x = "signer")) ∧
      clientLoop d now seed ts c ctr (vp :: rest) = (c, ctr, .err x)) ∨
    ∃ subj m id, vp.jwt = true ∧ vp.id = some id ∧ vp.signer = some (subj, m) ∧
      ((c.hasKey subj id = true ∧ clientLoop d now seed ts c ctr (vp :: rest) = clientLoop d now seed ts c ctr rest) ∨
       (c.hasKey subj id = false ∧
         ((∃ c' row, c.add now vp seed ts (ctr + 1) = (c', .ok row) ∧
            clientLoop d now seed ts c ctr (vp :: rest) =
              clientLoop d now seed ts (if verify d c' now .client vp = .ok () then c'.setValidated row.pk else c') (ctr + 1) rest) ∨
          (∃ c' x, c.add now vp seed ts (ctr + 1) = (c', .err x) ∧
            clientLoop d now seed ts c ctr (vp :: rest) = (c', ctr + 1, .err x)) ∨
          (∃ c' p, c.add now vp seed ts (ctr + 1) = (c', .panic p) ∧
            clientLoop d now seed ts c ctr (vp :: rest) = (c', ctr + 1, .panic p))))) := by
  rw [clientLoop]
  cases hj : vp.jwt with
  | false => exact .inl ⟨_, .inl ⟨rfl, rfl⟩, rfl⟩
  | true =>
  cases hi : vp.id with
  | none => exact .inl ⟨_, .inr (.inl ⟨rfl, rfl⟩), rfl⟩
  | some id =>
  cases hs : vp.signer with
  | none => exact .inl ⟨_, .inr (.inr ⟨rfl, ⟨_, rfl⟩, rfl, rfl⟩), rfl⟩
  | some sm =>
  obtain ⟨subj, m⟩ := sm
  refine .inr ⟨subj, m, id, rfl, rfl, rfl, ?_⟩
  dsimp only
  cases hk : c.hasKey subj id with
  | true => exact .inl ⟨rfl, rfl⟩
  | false =>
    refine .inr ⟨rfl, ?_⟩
    rcases hadd : c.add now vp seed ts (ctr + 1) with ⟨c', r⟩
    cases r with
    | err x => exact .inr (.inl ⟨c', x, rfl, rfl⟩)
    | panic p => exact .inr (.inr ⟨c', p, rfl, rfl⟩)
    | ok row =>
      refine .inl ⟨c', row, rfl, ?_⟩
      dsimp only
      cases hv : verify d c' now .client vp with
      | ok u => cases u; rfl
      | err x => rfl
      | panic p => rfl

theorem clientLoop_inv (d : Def) (now seed ts : Nat) (P : Store → Nat → Prop) (resp : List VP)
    (hadd : ∀ c ctr vp c' o, vp ∈ resp → P c ctr → c.add now vp seed ts (ctr + 1) = (c', o) →
      P c' (ctr + 1) ∧ ∀ row, o = .ok row → verify d c' now .client vp = .ok () → P (c'.setValidated row.pk) (ctr + 1)) :
    ∀ (c : Store) (ctr : Nat), P c ctr →
      P (clientLoop d now seed ts c ctr resp).1 (clientLoop d now seed ts c ctr resp).2.1 := by
  intro c ctr
  fun_induction clientLoop d now seed ts c ctr resp
  case case5 ih => exact ih fun c ctr v c' o hv => hadd c ctr v c' o (List.mem_cons_of_mem _ hv)
  case case6 c' row ha c'' ih =>
    intro h
    have h' := hadd _ _ _ _ _ List.mem_cons_self h ha
    refine ih (fun c ctr v c' o hv => hadd c ctr v c' o (List.mem_cons_of_mem _ hv)) ?_
    revert c''
    cases hv : verify d c' now .client _ with
    | ok u => cases u; exact fun _ => h'.2 row rfl hv
    | _ => exact fun _ => h'.1
  case case7 ha => exact fun h => (hadd _ _ _ _ _ List.mem_cons_self h ha).1
  case case8 ha => exact fun h => (hadd _ _ _ _ _ List.mem_cons_self h ha).1
  all_goals exact id

/-- one round of the loop in `updateService` for a well-formed presentation -/
def clientIter (d : Def) (now seed ts : Nat) (c : Store) (ctr : Nat) (vp : VP) (subj id : String) (e : Nat) : Store × Nat :=
  if c.hasKey subj id then (c, ctr) else
    let a := addOk c now vp subj id e (seedOf c seed ts (ctr + 1)) (tsOf c ts)
    (if verify d a.1 now .client vp = .ok () then a.1.setValidated a.2.pk else a.1, ctr + 1)

theorem clientLoop_cons (d : Def) (now seed ts : Nat) (c : Store) (ctr : Nat) (vp : VP) (rest : List VP)
    (subj id : String) (e : Nat) (h : VPWF vp subj id e) :
    clientLoop d now seed ts c ctr (vp :: rest) =
      clientLoop d now seed ts (clientIter d now seed ts c ctr vp subj id e).1 (clientIter d now seed ts c ctr vp subj id e).2 rest := by
  obtain ⟨⟨m, hs⟩, hi, he, hj, hcr⟩ := h
  have hadd := add_eq c now vp seed ts (ctr + 1) subj m id e hs hi he hj hcr
  rcases clientLoop_cons_cases d now seed ts c ctr vp rest with ⟨_, hbad, _⟩ | ⟨subj', m', id', _, hi', hs', hh⟩
  · rcases hbad with ⟨hb, _⟩ | ⟨hb, _⟩ | ⟨_, _, hb, _⟩
    · exact nomatch hj.symm.trans hb
    · exact nomatch hi.symm.trans hb
    · exact nomatch hs.symm.trans hb
  · rw [hi] at hi'; rw [hs] at hs'
    cases hi'; cases hs'
    unfold clientIter
    rcases hh with ⟨hk, e1⟩ | ⟨hk, hh⟩
    · rw [e1, if_pos hk]
    · rw [hadd] at hh
      rcases hh with ⟨c', row, ha, e1⟩ | ⟨c', x, ha, _⟩ | ⟨c', p, ha, _⟩ <;> cases ha
      rw [e1]
      simp only [hk, Bool.false_eq_true, if_false]

theorem clientIter_skip {d : Def} {now seed ts : Nat} {c : Store} {ctr : Nat} {vp : VP} {subj id : String} {e : Nat}
    (hk : c.hasKey subj id = true) : clientIter d now seed ts c ctr vp subj id e = (c, ctr) := by
  simp [clientIter, hk]

theorem iter_rows_add {d : Def} {now seed ts : Nat} {c : Store} {ctr : Nat} {vp : VP} {subj id : String} {e : Nat}
    (hk : c.hasKey subj id = false) :
    (clientIter d now seed ts c ctr vp subj id e).1.rows =
      (addOk c now vp subj id e (seedOf c seed ts (ctr + 1)) (tsOf c ts)).1.rows := by
  simp only [clientIter, hk, Bool.false_eq_true, if_false]
  split <;> rfl

theorem clientLoop_ok_of_wf (d : Def) (now seed ts : Nat) :
    ∀ (resp : List VP) (c : Store) (ctr : Nat), (∀ vp ∈ resp, ∃ subj id e, VPWF vp subj id e) →
      (clientLoop d now seed ts c ctr resp).2.2 = .ok () := by
  intro resp
  induction resp with
  | nil => intro _ _ _; rfl
  | cons vp rest ih =>
    intro c ctr h
    obtain ⟨subj, id, e, hv⟩ := h vp List.mem_cons_self
    rw [clientLoop_cons d now seed ts c ctr vp rest subj id e hv]
    exact ih _ _ fun v hv' => h v (List.mem_cons_of_mem _ hv')

theorem clientApply_eq (cfg : Cfg) (d : Def) (c : Store) (now ctr seed ts : Nat) (resp : List VP) :
    clientApply cfg d c now ctr seed ts resp =
      if (cfg.restartOnWipe && (c.wipeOnSeedChange seed).2) = true then ((c.wipeOnSeedChange seed).1, ctr, .ok ())
      else clientLoop d now seed ts (c.wipeOnSeedChange seed).1 ctr resp := rfl

theorem clientApply_cases (cfg : Cfg) (hcfg : cfg.restartOnWipe = true) (d : Def) (c : Store) (now ctr seed ts : Nat) (resp : List VP) :
    (c.seed ≠ seed ∧ c.seed ≠ 0 ∧
      clientApply cfg d c now ctr seed ts resp = ({ c with seed := seed, lastTs := 0, rows := [] }, ctr, .ok ())) ∨
    ((c.seed = seed ∨ c.seed = 0) ∧ clientApply cfg d c now ctr seed ts resp = clientLoop d now seed ts c ctr resp) := by
  unfold clientApply Store.wipeOnSeedChange
  by_cases h : c.seed ≠ seed ∧ c.seed ≠ 0
  · left
    refine ⟨h.1, h.2, ?_⟩
    simp [h, hcfg]
  · right
    refine ⟨?_, ?_⟩
    · by_cases h1 : c.seed = seed
      · exact Or.inl h1
      · right
        apply Decidable.byContradiction
        intro h2
        exact h ⟨h1, h2⟩
    · simp [h]

end Nuts.C16
