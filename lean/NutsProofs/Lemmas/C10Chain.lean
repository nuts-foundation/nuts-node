/-
  C10 — what the chain computation of NutsModel/C10/DidStore.lean does, before any invariant: `before` is a strict total order on
  events with distinct refs, `insert` puts the new event in front of the longest suffix that is after it, `applyAll` threads the
  latest metadata through `applyEvent` (one induction principle, `applyAll_fold`; splitting at a concatenation; version numbers),
  `applyEvent_ok` is the inversion of a successful `applyEvent`, and the lookups of `applyDocument` only concern refs of events that
  were applied before (`SrcIn`), so the event list in which they are looked up may change elsewhere.
-/
import NutsModel.C10.DidStore
import NutsProofs.Lemmas.Base

namespace Nuts.C10

theorem before_iff (a b : Event) :
    before a b = true ↔
      a.clock < b.clock ∨ (a.clock = b.clock ∧ (a.sigTime < b.sigTime ∨ (a.sigTime = b.sigTime ∧ a.ref < b.ref))) := by
  fun_cases before a b <;> simp only [true_iff, Bool.false_eq_true, false_iff, decide_eq_true_eq] <;> omega

theorem before_irrefl (a : Event) : before a a = false := by
  cases h : before a a with
  | false => rfl
  | true => rw [before_iff] at h; omega

theorem before_asymm {a b : Event} (h : before a b = true) : before b a = false := by
  cases h' : before b a with
  | false => rfl
  | true => rw [before_iff] at h h'; omega

theorem before_trans {a b c : Event} (h1 : before a b = true) (h2 : before b c = true) :
    before a c = true := by
  rw [before_iff] at *; omega

theorem before_total {a b : Event} (h : a.ref ≠ b.ref) : before a b = true ∨ before b a = true := by
  rw [before_iff, before_iff]
  have : a.ref < b.ref ∨ b.ref < a.ref := by omega
  omega

theorem not_before {a b : Event} (h : a.ref ≠ b.ref) (hn : before a b = false) : before b a = true := by
  rcases before_total h with h' | h'
  · rw [h'] at hn; cases hn
  · exact h'

def Sorted (l : List Event) : Prop := l.Pairwise (fun a b => before a b = true)

def refs (l : List Event) : List Ref := l.map (·.ref)

theorem insert_split (n : Event) (l : List Event) :
    ∃ pre suf, l = pre ++ suf ∧ insert n l = (pre ++ n :: suf, pre.length) ∧
      (∀ y ∈ suf, before n y = true) := by
  fun_induction insert n l with
  | case1 => exact ⟨[], [], rfl, rfl, fun _ h => nomatch h⟩
  | case2 x xs h => exact ⟨[], x :: xs, rfl, rfl, List.all_eq_true.mp h⟩
  | case3 x xs h r ih =>
    obtain ⟨pre, suf, hl, hi, hs⟩ := ih
    exact ⟨x :: pre, suf, by rw [hl]; rfl, by simp [r, hi], hs⟩

theorem insert_perm (n : Event) (l : List Event) : (insert n l).1.Perm (n :: l) := by
  obtain ⟨pre, suf, hl, hi, _⟩ := insert_split n l
  rw [hi, hl]
  exact List.perm_middle

theorem insert_idx_le (n : Event) (l : List Event) : (insert n l).2 ≤ l.length := by
  obtain ⟨pre, suf, hl, hi, _⟩ := insert_split n l
  rw [hi, hl]; simp

theorem insert_sorted (n : Event) (l : List Event) (hs : Sorted l) (hn : ∀ y ∈ l, y.ref ≠ n.ref) :
    Sorted (insert n l).1 := by
  fun_induction insert n l with
  | case1 => exact List.pairwise_singleton ..
  | case2 x xs h => exact List.pairwise_cons.mpr ⟨List.all_eq_true.mp h, hs⟩
  | case3 x xs h r ih =>
    obtain ⟨hxall, hsx⟩ := List.pairwise_cons.mp hs
    -- some element of x :: xs is not after n, hence x is before n
    obtain ⟨y, hy, hb⟩ := List.all_eq_false.mp (Bool.eq_false_iff.mpr h)
    have hyn : before y n = true := not_before (fun e => hn y hy e.symm) (Bool.eq_false_iff.mpr hb)
    have hx : before x n = true := by
      rcases List.mem_cons.mp hy with rfl | hy'
      · exact hyn
      · exact before_trans (hxall y hy') hyn
    refine List.pairwise_cons.mpr ⟨fun y hy => ?_, ih hsx fun y hy => hn y (List.mem_cons_of_mem _ hy)⟩
    rcases List.mem_cons.mp ((insert_perm n xs).subset hy) with rfl | hy'
    · exact hx
    · exact hxall y hy'

theorem sorted_perm_eq {l₁ l₂ : List Event} (h₁ : Sorted l₁) (h₂ : Sorted l₂) (hp : l₁.Perm l₂) : l₁ = l₂ := by
  apply List.Perm.eq_of_pairwise (le := fun a b => before a b = true) _ h₁ h₂ hp
  intro a b _ _ hab hba
  rw [before_asymm hab] at hba
  cases hba

def lastMeta (cur : Option Meta) (c : List (Doc × Meta)) : Option Meta :=
  match c.getLast? with
  | some p => some p.2
  | none => cur

theorem lastMeta_nil (cur : Option Meta) : lastMeta cur [] = cur := rfl

theorem lastMeta_cons (cur : Option Meta) (p : Doc × Meta) (c : List (Doc × Meta)) :
    lastMeta cur (p :: c) = lastMeta (some p.2) c := by
  cases c with
  | nil => simp [lastMeta]
  | cons q c =>
    simp only [lastMeta, List.getLast?_cons_cons]
    cases h : (q :: c).getLast? with
    | some x => rfl
    | none => simp at h

theorem applyAll_cons_iff {cfg : Cfg} {evs : List Event} {cur : Option Meta} {e : Event} {es : List Event}
    {c : List (Doc × Meta)} :
    applyAll cfg evs cur (e :: es) = .ok c ↔
      ∃ d m rest, applyEvent cfg evs cur e = .ok (d, m) ∧ applyAll cfg evs (some m) es = .ok rest ∧ c = (d, m) :: rest := by
  refine ⟨fun h => ?_, fun ⟨d, m, rest, he, hr, hc⟩ => by rw [applyAll]; simp only [he, hr, hc]⟩
  unfold applyAll at h
  split at h
  · rename_i d m he
    split at h
    · rename_i rest hr
      exact ⟨d, m, rest, he, hr, (Res.ok.inj h).symm⟩
    · cases h
    · cases h
  · cases h
  · cases h

theorem applyAll_fold {cfg : Cfg} {evs : List Event} {P : Option Meta → Prop} {Q : Doc × Meta → Prop} :
    ∀ {es : List Event} {cur : Option Meta} {c : List (Doc × Meta)},
      (∀ cur e d m, e ∈ es → P cur → applyEvent cfg evs cur e = .ok (d, m) → P (some m) ∧ Q (d, m)) →
      P cur → applyAll cfg evs cur es = .ok c → P (lastMeta cur c) ∧ ∀ p ∈ c, Q p := by
  intro es
  induction es with
  | nil => intro cur c _ hP h; cases h; exact ⟨hP, nofun⟩
  | cons e es ih =>
    intro cur c step hP h
    obtain ⟨d, m, rest, he, hr, rfl⟩ := applyAll_cons_iff.mp h
    obtain ⟨hP', hQ⟩ := step cur e d m List.mem_cons_self hP he
    obtain ⟨hl, hall⟩ := ih (fun cur x d m hx => step cur x d m (List.mem_cons_of_mem _ hx)) hP' hr
    exact ⟨lastMeta_cons .. ▸ hl, List.forall_mem_cons.mpr ⟨hQ, hall⟩⟩

theorem applyAll_mem {cfg : Cfg} {evs es : List Event} {cur : Option Meta} {c : List (Doc × Meta)}
    (h : applyAll cfg evs cur es = .ok c) : ∀ p ∈ c, ∃ cur' e, e ∈ es ∧ applyEvent cfg evs cur' e = .ok p :=
  (applyAll_fold (P := fun _ => True) (fun cur e _ _ he _ h => ⟨trivial, cur, e, he, h⟩) trivial h).2

theorem applyAll_length {cfg : Cfg} {evs : List Event} :
    ∀ {cur : Option Meta} {es : List Event} {c : List (Doc × Meta)},
      applyAll cfg evs cur es = .ok c → c.length = es.length := by
  intro cur es
  induction es generalizing cur with
  | nil => intro c h; simp [applyAll] at h; subst h; rfl
  | cons e es ih =>
    intro c h
    obtain ⟨d, m, rest, he, hr, rfl⟩ := applyAll_cons_iff.mp h
    simp [ih hr]

theorem applyAll_append_iff {cfg : Cfg} {evs : List Event} {a b : List Event} {cur : Option Meta} {c : List (Doc × Meta)} :
    applyAll cfg evs cur (a ++ b) = .ok c ↔
      ∃ ca cb, applyAll cfg evs cur a = .ok ca ∧ applyAll cfg evs (lastMeta cur ca) b = .ok cb ∧ c = ca ++ cb := by
  induction a generalizing cur c with
  | nil => exact ⟨fun h => ⟨[], c, rfl, h, rfl⟩, fun ⟨_, _, h1, h2, hc⟩ => by cases h1; exact hc ▸ h2⟩
  | cons e es ih =>
    rw [List.cons_append, applyAll_cons_iff]
    constructor
    · rintro ⟨d, m, _, he, hr, rfl⟩
      obtain ⟨ca, cb, h1, h2, rfl⟩ := ih.mp hr
      exact ⟨_, cb, applyAll_cons_iff.mpr ⟨d, m, ca, he, h1, rfl⟩, (lastMeta_cons cur (d, m) ca).symm ▸ h2, rfl⟩
    · rintro ⟨_, cb, h0, h2, rfl⟩
      obtain ⟨d, m, ca, he, h1, rfl⟩ := applyAll_cons_iff.mp h0
      exact ⟨d, m, _, he, ih.mpr ⟨ca, cb, h1, lastMeta_cons cur (d, m) ca ▸ h2, rfl⟩, rfl⟩

theorem applyAll_append {cfg : Cfg} {evs : List Event} {cur : Option Meta} {a : List Event} (b : List Event)
    {ca : List (Doc × Meta)} (h : applyAll cfg evs cur a = .ok ca) :
    applyAll cfg evs cur (a ++ b) =
      (match applyAll cfg evs (lastMeta cur ca) b with
       | .ok cb => .ok (ca ++ cb)
       | .err x => .err x
       | .panic x => .panic x) := by
  induction a generalizing cur ca with
  | nil => cases h; rw [List.nil_append, lastMeta_nil]; cases applyAll cfg evs cur b <;> rfl
  | cons e es ih =>
    obtain ⟨d, m, rest, he, hr, rfl⟩ := applyAll_cons_iff.mp h
    rw [List.cons_append, applyAll, he, lastMeta_cons]
    simp only [ih hr]
    cases applyAll cfg evs (lastMeta (some m) rest) b <;> rfl

def SrcIn (R : List Ref) (m : Option Meta) : Prop := ∀ x, m = some x → ∀ r ∈ x.sourceTx, r ∈ R

theorem foldl_mergeStep_err (cfg : Cfg) (evs : List Event) (l : List Nat) (x : String) :
    l.foldl (mergeStep cfg evs) (.err x) = .err x := by
  induction l with
  | nil => rfl
  | cons a l ih => simp only [List.foldl_cons, mergeStep]; exact ih

theorem foldl_mergeStep_eq (cfg : Cfg) (evs : List Event) (un : List Nat) : ∀ (d0 : Doc) (s0 : List Nat),
    un.foldl (mergeStep cfg evs) (.ok (d0, s0)) =
      if (un.map (docOfTx evs)).all Option.isSome then
        .ok (((un.map (docOfTx evs)).filterMap id).foldl (fun d old => cfg.merge old d) d0, s0 ++ un)
      else .err "txref-not-found" := by
  induction un with
  | nil => intro d0 s0; rw [List.append_nil]; rfl
  | cons u us ih =>
    intro d0 s0
    rw [List.foldl_cons, mergeStep, List.map_cons, List.all_cons, List.filterMap_cons]
    cases docOfTx evs u with
    | none => exact foldl_mergeStep_err ..
    | some old => rw [ih, List.append_assoc]; rfl

theorem foldl_mergeStep_congr {cfg : Cfg} {evs evs' : List Event} {un : List Nat}
    (hag : ∀ r ∈ un, docOfTx evs r = docOfTx evs' r) (d0 : Doc) (s0 : List Nat) :
    un.foldl (mergeStep cfg evs) (.ok (d0, s0)) = un.foldl (mergeStep cfg evs') (.ok (d0, s0)) := by
  rw [foldl_mergeStep_eq, foldl_mergeStep_eq, List.map_congr_left hag]

theorem foldl_step_srcs {cfg : Cfg} {evs : List Event} {un : List Nat} {d0 d : Doc} {s0 src : List Nat}
    (h : un.foldl (mergeStep cfg evs) (.ok (d0, s0)) = .ok (d, src)) : src = s0 ++ un := by
  rw [foldl_mergeStep_eq] at h
  split at h
  · cases h; rfl
  · cases h

def nextVersion : Option Meta → Nat
  | none => 0
  | some c => c.version + 1

def curDeact : Option Meta → Bool
  | some c => c.deactivated
  | none => false

theorem applyEvent_ok {cfg : Cfg} {evs : List Event} {cur : Option Meta} {e : Event} {d : Doc} {m : Meta}
    (h : applyEvent cfg evs cur e = .ok (d, m)) :
    m.version = nextVersion cur ∧ m.deactivated = (isDeactivated e.doc || curDeact cur) ∧
    ((d = e.doc ∧ m.hash = e.payloadHash ∧ m.sourceTx = [e.ref]) ∨
     ∃ c, cur = some c ∧ c.sourceTx.filter (fun st => !(e.prevs.contains st)) ≠ [] ∧
       (c.sourceTx.filter (fun st => !(e.prevs.contains st))).foldl (mergeStep cfg evs) (.ok (e.doc, [e.ref])) =
         .ok (d, m.sourceTx) ∧
       m.hash = "H:" ++ d.render) := by
  unfold applyEvent applyDocument at h
  cases cur with
  | none => cases h; exact ⟨rfl, (Bool.or_false _).symm, Or.inl ⟨rfl, rfl, rfl⟩⟩
  | some c =>
    simp only at h
    split at h
    · cases h; exact ⟨rfl, rfl, Or.inl ⟨rfl, rfl, rfl⟩⟩
    · rename_i hne
      split at h
      · rename_i d' src hf
        cases h
        exact ⟨rfl, rfl, Or.inr ⟨c, rfl, fun hnil => hne (by rw [hnil]; rfl), hf, rfl⟩⟩
      · cases h
      · cases h

theorem applyEvent_of_covered {cfg : Cfg} {evs : List Event} {cur : Option Meta} {e : Event} (hcover : SrcIn e.prevs cur) :
    ∃ m, applyEvent cfg evs cur e = .ok (e.doc, m) ∧ m.sourceTx = [e.ref] ∧ m.hash = e.payloadHash ∧
      m.version = nextVersion cur := by
  unfold applyEvent applyDocument
  cases cur with
  | none => exact ⟨_, rfl, rfl, rfl, rfl⟩
  | some c =>
    have hempty : c.sourceTx.filter (fun st => !(e.prevs.contains st)) = [] :=
      List.filter_eq_nil_iff.mpr fun st hst => by simp [hcover c rfl st hst]
    simp only [hempty, List.isEmpty_nil, if_true]
    exact ⟨_, rfl, rfl, rfl, rfl⟩

theorem applyEvent_ctx {cfg : Cfg} {evs evs' : List Event} {R : List Ref}
    (hag : ∀ r ∈ R, docOfTx evs r = docOfTx evs' r) {cur : Option Meta} (hcur : SrcIn R cur) (e : Event) :
    applyEvent cfg evs cur e = applyEvent cfg evs' cur e := by
  unfold applyEvent applyDocument
  cases cur with
  | none => rfl
  | some c =>
    simp only
    split
    · rfl
    · rw [foldl_mergeStep_congr fun r hr => hag r (hcur c rfl r (List.mem_filter.mp hr).1)]

theorem applyEvent_own_ref {cfg : Cfg} {evs : List Event} {cur : Option Meta} {e : Event} {d : Doc} {m : Meta}
    (h : applyEvent cfg evs cur e = .ok (d, m)) : e.ref ∈ m.sourceTx := by
  obtain ⟨_, _, ⟨_, _, hs⟩ | ⟨c, _, _, hf, _⟩⟩ := applyEvent_ok h
  · rw [hs]; exact List.mem_singleton_self _
  · rw [foldl_step_srcs hf]; exact List.mem_append_left _ (List.mem_singleton_self _)

theorem applyEvent_src {cfg : Cfg} {evs : List Event} {R : List Ref} {cur : Option Meta} {e : Event} {d : Doc} {m : Meta}
    (hcur : SrcIn R cur) (he : e.ref ∈ R) (h : applyEvent cfg evs cur e = .ok (d, m)) : SrcIn R (some m) := by
  intro x hx r hr
  cases hx
  obtain ⟨_, _, ⟨_, _, hs⟩ | ⟨c, rfl, _, hf, _⟩⟩ := applyEvent_ok h
  · rw [hs] at hr
    rw [List.mem_singleton.mp hr]; exact he
  · rw [foldl_step_srcs hf] at hr
    rcases List.mem_append.mp hr with hr | hr
    · rw [List.mem_singleton.mp hr]; exact he
    · exact hcur c rfl r (List.mem_filter.mp hr).1

theorem applyAll_ctx {cfg : Cfg} {evs evs' : List Event} {R : List Ref}
    (hag : ∀ r ∈ R, docOfTx evs r = docOfTx evs' r) :
    ∀ {es : List Event} {cur : Option Meta}, SrcIn R cur → (∀ e ∈ es, e.ref ∈ R) →
      applyAll cfg evs cur es = applyAll cfg evs' cur es := by
  intro es
  induction es with
  | nil => intro cur _ _; rfl
  | cons e es ih =>
    intro cur hcur hes
    unfold applyAll
    rw [← applyEvent_ctx hag hcur e]
    cases he : applyEvent cfg evs cur e with
    | ok p =>
      obtain ⟨d, m⟩ := p
      simp only
      rw [ih (applyEvent_src hcur (hes e List.mem_cons_self) he) (fun x hx => hes x (List.mem_cons_of_mem _ hx))]
    | err x => rfl
    | panic x => rfl

theorem applyAll_src {cfg : Cfg} {evs : List Event} {R : List Ref} {es : List Event} {cur : Option Meta}
    {c : List (Doc × Meta)} (hcur : SrcIn R cur) (hes : ∀ e ∈ es, e.ref ∈ R) (h : applyAll cfg evs cur es = .ok c) :
    SrcIn R (lastMeta cur c) ∧ ∀ p ∈ c, p.2.sourceTx ≠ [] ∧ ∀ r ∈ p.2.sourceTx, r ∈ R :=
  applyAll_fold (fun _ e _ m he hc h =>
    have hm := applyEvent_src hc (hes e he) h
    ⟨hm, List.ne_nil_of_mem (applyEvent_own_ref h), hm m rfl⟩) hcur h

theorem applyAll_deact {cfg : Cfg} {evs es : List Event} {x : Meta} {c : List (Doc × Meta)}
    (hx : x.deactivated = true) (h : applyAll cfg evs (some x) es = .ok c) : ∀ p ∈ c, p.2.deactivated = true :=
  (applyAll_fold (P := fun cur => curDeact cur = true) (fun cur e d m _ hP he =>
    have : m.deactivated = true := by rw [(applyEvent_ok he).2.1, hP, Bool.or_true]
    ⟨this, this⟩) (show curDeact (some x) = true from hx) h).2

theorem docOfTx_insert (pre suf : List Event) (n : Event) (r : Ref) (h : r ≠ n.ref) :
    docOfTx (pre ++ n :: suf) r = docOfTx (pre ++ suf) r := by
  rw [docOfTx, docOfTx, List.find?_append, List.find?_append, List.find?_cons_of_neg (by simpa using Ne.symm h)]

theorem applyAll_versions {cfg : Cfg} {evs : List Event} :
    ∀ {es : List Event} {cur : Option Meta} {c : List (Doc × Meta)}, applyAll cfg evs cur es = .ok c →
      ∀ {j : Nat} {p : Doc × Meta}, c[j]? = some p → p.2.version = nextVersion cur + j := by
  intro es
  induction es with
  | nil => intro cur c h j p hp; simp only [applyAll, Res.ok.injEq] at h; subst h; simp at hp
  | cons e es ih =>
    intro cur c h j p hp
    obtain ⟨d, m, rest, he, hr, rfl⟩ := applyAll_cons_iff.mp h
    have hv := (applyEvent_ok he).1
    cases j with
    | zero =>
      simp only [List.getElem?_cons_zero, Option.some.injEq] at hp
      subst hp
      simpa using hv
    | succ j =>
      simp only [List.getElem?_cons_succ] at hp
      have := ih hr hp
      have hn : nextVersion (some m) = m.version + 1 := rfl
      omega

theorem applyAll_last_version {cfg : Cfg} {evs es : List Event} {cur : Option Meta} {c : List (Doc × Meta)}
    (h : applyAll cfg evs cur es = .ok c) {p : Doc × Meta} (hp : c.getLast? = some p) :
    p.2.version + 1 = c.length + nextVersion cur := by
  rw [List.getLast?_eq_getElem?] at hp
  have hpos : 0 < c.length := by
    cases c with
    | nil => cases hp
    | cons _ _ => exact Nat.succ_pos _
  rw [applyAll_versions h hp]
  omega

end Nuts.C10
