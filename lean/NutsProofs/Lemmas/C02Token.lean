/-
  C02 — the token store, written and read: `createAccessToken` (exactly one record under the next name: `Minted` /
  `MintOrNot` are what a token handler does to the world once its own stores are set) and introspection (what an active
  answer was built from; the generated marshaller, whatever its assignment order).
-/
import NutsProofs.Lemmas.C02Store

namespace Nuts.C02

theorem createAccessToken_ok (cfg : Cfg) (w w' : World) (now : Nat) (issuer clientId scope : String) (c : Consumer)
    (dpop : Option DPoP) (resp : TokenResponse)
    (h : createAccessToken cfg w now issuer clientId scope c dpop = (w', .ok resp)) :
    ∃ claims, mergeClaims c.claims [] = .ok claims ∧
      resp.token = tokName w.nextTok ∧ resp.scope = scope ∧ resp.dpopKid = dpop.map (·.kid) ∧
      resp.tokenType = (if dpop.isSome then "DPoP" else "Bearer") ∧ resp.expiresIn = cfg.tokenValidity / cfg.second ∧
      w' = { w with tokens := w.tokens.put now cfg.tokenTtl (tokName w.nextTok)
                      { issuer := issuer, clientId := clientId, scope := scope, issuedAt := now,
                        expiration := now + cfg.tokenValidity, dpop := dpop, claims := claims,
                        defs := c.required, submissions := c.fulfilled, vps := c.vps },
                    nextTok := w.nextTok + 1 } := by
  unfold createAccessToken at h
  split at h
  · rename_i claims hc
    simp only [Prod.mk.injEq, Res.ok.injEq] at h
    obtain ⟨hw, hr⟩ := h
    subst hr
    exact ⟨claims, hc, rfl, rfl, rfl, rfl, rfl, hw.symm⟩
  · simp at h
  · simp at h

def Minted (cfg : Cfg) (t : Nat) (w : World) (out : World × Res TokenResponse) (rec : TokenRec) : Prop :=
  ∃ resp, out = ({ w with tokens := w.tokens.put t cfg.tokenTtl (tokName w.nextTok) rec, nextTok := w.nextTok + 1 },
      .ok resp) ∧
    resp.token = tokName w.nextTok ∧ rec.issuedAt = t ∧ rec.expiration = t + cfg.tokenValidity

def MintOrNot (cfg : Cfg) (t : Nat) (w : World) (out : World × Res TokenResponse) : Prop :=
  (out.1 = w ∧ out.2.isOk = false) ∨ ∃ rec, Minted cfg t w out rec

theorem MintOrNot.others {cfg : Cfg} {t : Nat} {w : World} {out : World × Res TokenResponse} (h : MintOrNot cfg t w out) :
    out.1.s2sNonces = w.s2sNonces ∧ out.1.codes = w.codes ∧ out.1.nextCode = w.nextCode ∧ out.1.states = w.states := by
  rcases h with ⟨h1, _⟩ | ⟨rec, resp, rfl, _⟩
  · rw [h1]; exact ⟨rfl, rfl, rfl, rfl⟩
  · exact ⟨rfl, rfl, rfl, rfl⟩

theorem createAccessToken_mint (cfg : Cfg) (w : World) (t : Nat) (issuer clientId scope : String) (c : Consumer)
    (dpop : Option DPoP) : MintOrNot cfg t w (createAccessToken cfg w t issuer clientId scope c dpop) := by
  unfold createAccessToken
  split
  · exact .inr ⟨_, _, rfl, rfl, rfl, rfl⟩
  · exact .inl ⟨rfl, rfl⟩
  · exact .inl ⟨rfl, rfl⟩

def keys (c : Claims) : List String := c.map (·.1)

theorem objGet_putAll_not_mem (c : Claims) : ∀ (o : Obj) (k : String), k ∉ keys c → objGet (putAll o c) k = objGet o k := by
  induction c with
  | nil => intro o k _; rfl
  | cons p rest ih =>
    intro o k hk
    obtain ⟨a, b⟩ := p
    simp only [keys, List.map, List.mem_cons, not_or] at hk
    simp only [putAll]
    rw [ih _ _ (by simpa [keys] using hk.2)]
    exact objGet_objPut_ne o k a b (fun h => hk.1 h.symm)

theorem objGet_marshal_fold (r : Introspection) (k : String) (hk : k ≠ "*") (hadd : k ∉ keys r.additional) :
    ∀ (order : List String) (o : Obj),
      objGet (order.foldl (marshalStep r) o) k =
        if k ∈ order then (match r.std k with | some v => some v | none => objGet o k) else objGet o k := by
  intro order
  induction order with
  | nil => intro o; simp
  | cons x rest ih =>
    intro o
    simp only [List.foldl_cons]
    rw [ih]
    by_cases hx : x = k
    · subst hx
      simp only [List.mem_cons, true_or, if_true]
      have hstep : objGet (marshalStep r o x) x = (match r.std x with | some v => some v | none => objGet o x) := by
        unfold marshalStep
        rw [if_neg hk]
        cases hs : r.std x with
        | none => rfl
        | some v => simp [objGet_objPut_same]
      by_cases hin : x ∈ rest
      · simp only [hin, if_true]
        cases hs : r.std x with
        | none => simp only [hs] at hstep; simpa [hs] using hstep
        | some v => rfl
      · simp only [hin, if_false]; exact hstep
    · have hstep : objGet (marshalStep r o x) k = objGet o k := by
        unfold marshalStep
        by_cases hstar : x = "*"
        · rw [if_pos hstar]; exact objGet_putAll_not_mem _ _ _ hadd
        · rw [if_neg hstar]
          cases r.std x with
          | none => rfl
          | some v => exact objGet_objPut_ne o k x v hx
      have hmem : (k ∈ x :: rest) ↔ k ∈ rest := by
        simp only [List.mem_cons]; constructor
        · rintro (h | h); exact absurd h.symm hx; exact h
        · exact Or.inr
      simp only [hmem, hstep]

theorem any_key_iff (c : Claims) (r : String) : c.any (fun p => p.1 = r) = true ↔ r ∈ keys c := by
  simp [keys, List.any_eq_true]

theorem firstReserved_none (res : List String) (c : Claims) (h : firstReserved res c = none) :
    ∀ k ∈ res, k ∉ keys c := by
  induction res with
  | nil => intro k hk; cases hk
  | cons r rest ih =>
    intro k hk
    unfold firstReserved at h
    split at h
    · cases h
    · rename_i hany
      rcases List.mem_cons.mp hk with rfl | hk
      · intro hmem; exact hany ((any_key_iff c k).mpr hmem)
      · exact ih h k hk

theorem firstReserved_some (res : List String) (c : Claims) (r : String) (h : firstReserved res c = some r) :
    r ∈ res ∧ r ∈ keys c := by
  induction res with
  | nil => cases h
  | cons x rest ih =>
    unfold firstReserved at h
    split at h
    · rename_i hany
      cases h
      exact ⟨List.mem_cons_self, (any_key_iff c r).mp hany⟩
    · have := ih h; exact ⟨List.mem_cons_of_mem _ this.1, this.2⟩

theorem introspect_some (cfg : Cfg) (w : World) (now : Nat) (tok : String) (r : Introspection)
    (h : introspect cfg w now tok = .ok (some r)) :
    ∃ t, tok ≠ "" ∧ w.tokens.get now tok = some t ∧ now ≤ t.expiration ∧ firstReserved cfg.reserved t.claims = none ∧
      r = { active := true, cnf := t.dpop.map (fun d => "{\"jkt\":" ++ jstr d.jkt ++ "}"),
            iat := some (t.issuedAt / cfg.second), exp := some (t.expiration / cfg.second),
            iss := some (jstr t.issuer), clientId := some (jstr t.clientId), scope := some (jstr t.scope),
            vps := some (toString t.vps), pds := some (renderDefs t.defs),
            pss := some (renderSubs t.submissions), additional := t.claims } := by
  revert h
  fun_cases introspect cfg w now tok with
  | case5 hne t ht hexp hres => exact fun h => ⟨t, hne, ht, by omega, hres, (Option.some.inj (Res.ok.inj h)).symm⟩
  | _ => intro h; cases h

end Nuts.C02
