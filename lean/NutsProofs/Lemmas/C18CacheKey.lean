import NutsModel.C18.Cache
import NutsProofs.Lemmas.Base

namespace Nuts.C18

/-! ### the shared HTTP cache: the index is injective -/

theorem lower_of_isLower : ∀ s : Bytes, s.all isLower = true → lower s = s
  | [], _ => rfl
  | x :: xs, h => by
    simp only [List.all_cons, Bool.and_eq_true] at h
    have hx : isUpper x = false := by
      simp only [isLower, Bool.and_eq_true, decide_eq_true_eq] at h
      simp [isUpper]; omega
    simp [lower, toLowerB, hx]
    exact lower_of_isLower xs h.2

theorem opt_suffix_inj (c : Nat) {a a' x x' : Bytes}
    (h : a ++ (if x = [] then [] else c :: x) = a' ++ (if x' = [] then [] else c :: x')) (ha : c ∉ a) (ha' : c ∉ a') :
    a = a' ∧ x = x' := by
  by_cases hx : x = [] <;> by_cases hx' : x' = []
  · subst hx hx'; simpa using h
  · subst hx; simp only [if_true, hx', if_false, List.append_nil] at h
    exact absurd (h ▸ (by simp : c ∈ a' ++ c :: x')) ha
  · subst hx'; simp only [if_true, hx, if_false, List.append_nil] at h
    exact absurd (h.symm ▸ (by simp : c ∈ a ++ c :: x)) ha'
  · simp only [hx, hx', if_false] at h
    exact sep_uniq c h ha ha'

theorem opt_prefix_inj (c : Nat) {x x' b b' : Bytes}
    (h : (if x = [] then [] else x ++ [c]) ++ b = (if x' = [] then [] else x' ++ [c]) ++ b')
    (hx : c ∉ x) (hx' : c ∉ x') (hb : c ∉ b) (hb' : c ∉ b') : x = x' ∧ b = b' := by
  by_cases e : x = [] <;> by_cases e' : x' = []
  · subst e e'; simpa using h
  · subst e; simp only [if_true, e', if_false, List.nil_append, List.append_assoc, List.singleton_append] at h
    exact absurd (h ▸ (by simp : c ∈ x' ++ c :: b')) hb
  · subst e'; simp only [if_true, e, if_false, List.nil_append, List.append_assoc, List.singleton_append] at h
    exact absurd (h.symm ▸ (by simp : c ∈ x ++ c :: b)) hb'
  · simp only [e, e', if_false, List.append_assoc, List.singleton_append] at h
    exact sep_uniq c h hx hx'

/-- the part of the cache key before the query, for a path `/t` -/
def keyBase (u : CUrl) (t : Bytes) : Bytes :=
  u.scheme ++ cColon :: cSlash :: cSlash :: (((if u.user = [] then [] else u.user ++ [cAt]) ++ u.host) ++ cSlash :: t)

/-- the key of a well-formed URL, regrouped at its separators, and where the separators cannot occur -/
theorem cacheKey_shape (u : CUrl) (hu : u.wf = true) :
    ∃ t, u.path = cSlash :: t ∧
      cacheKey u = (keyBase u t ++ (if u.query = [] then [] else cQ :: u.query)) ++ (if u.frag = [] then [] else cHash :: u.frag) ∧
      cHash ∉ keyBase u t ++ (if u.query = [] then [] else cQ :: u.query) ∧ cQ ∉ keyBase u t ∧ cColon ∉ u.scheme ∧
      cSlash ∉ (if u.user = [] then [] else u.user ++ [cAt]) ++ u.host ∧ cAt ∉ u.user ∧ cAt ∉ u.host := by
  obtain ⟨s, us, h, p, q, f⟩ := u
  simp only [CUrl.wf, Bool.and_eq_true, List.all_eq_true, decide_eq_true_eq, ne_eq] at hu
  obtain ⟨⟨⟨⟨⟨hs, hus⟩, hh⟩, hp0⟩, hp⟩, hq⟩ := hu
  obtain ⟨t, rfl⟩ : ∃ t, p = cSlash :: t := by
    cases p with
    | nil => cases hp0
    | cons x xs => exact ⟨xs, by rw [Option.some.inj hp0]⟩
  have hsn : ∀ k, k < 97 → k ∉ s := fun k hk hm => by
    have := hs k hm
    simp only [isLower, Bool.and_eq_true, decide_eq_true_eq] at this
    omega
  have hU : ∀ k, (∀ x ∈ us, x ≠ k) → k ≠ cAt → k ∉ (if us = [] then [] else us ++ [cAt]) := fun k hk hne hm => by
    split at hm
    · cases hm
    · rcases List.mem_append.mp hm with e | e
      · exact hk k e rfl
      · exact hne (List.mem_singleton.mp e)
  have hB : ∀ k, k < 97 → k ≠ cColon → k ≠ cSlash → k ≠ cAt → (∀ x ∈ us, ¬x = k) → (∀ x ∈ h, ¬x = k) →
      (∀ x ∈ cSlash :: t, ¬x = k) → k ∉ keyBase ⟨s, us, h, cSlash :: t, q, f⟩ t := fun k hk h1 h2 h3 hu' hh' ht' => by
    simp only [keyBase, List.mem_append, List.mem_cons, not_or]
    exact ⟨hsn k hk, h1, h2, h2, ⟨hU k hu' h3, fun hm => hh' k hm rfl⟩, h2, fun hm => ht' k (List.mem_cons_of_mem _ hm) rfl⟩
  refine ⟨t, rfl, ?_, ?_, ?_, hsn _ (by decide), ?_, fun hm => (hus _ hm).2 rfl, fun hm => (hh _ hm).2 rfl⟩
  · simp only [cacheKey, keyBase, lower_of_isLower s (List.all_eq_true.mpr hs), List.append_assoc, List.cons_append]
  · rw [List.mem_append, not_or]
    refine ⟨hB cHash (by decide) (by decide) (by decide) (by decide) (fun x hx => (hus x hx).1.2) (fun x hx => (hh x hx).1.2)
      (fun x hx => (hp x hx).2), fun hm => ?_⟩
    split at hm
    · cases hm
    · rcases List.mem_cons.mp hm with e | e
      · exact absurd e (by decide)
      · exact hq _ e rfl
  · exact hB cQ (by decide) (by decide) (by decide) (by decide) (fun x hx => (hus x hx).1.1.2) (fun x hx => (hh x hx).1.1.2)
      (fun x hx => (hp x hx).1)
  · rw [List.mem_append, not_or]
    exact ⟨hU cSlash (fun x hx => (hus x hx).1.1.1) (by decide), fun hm => (hh _ hm).1.1.1 rfl⟩

theorem cacheKey_inj (u v : CUrl) (hu : u.wf = true) (hv : v.wf = true) (h : cacheKey u = cacheKey v) : u = v := by
  obtain ⟨t1, hp1, e1, nh1, nq1, nc1, ns1, na1, nb1⟩ := cacheKey_shape u hu
  obtain ⟨t2, hp2, e2, nh2, nq2, nc2, ns2, na2, nb2⟩ := cacheKey_shape v hv
  rw [e1, e2] at h
  obtain ⟨hA, hf⟩ := opt_suffix_inj cHash h nh1 nh2
  obtain ⟨hB, hq⟩ := opt_suffix_inj cQ hA nq1 nq2
  obtain ⟨hs, hrest⟩ := sep_uniq cColon hB nc1 nc2
  obtain ⟨hauth, ht⟩ := sep_uniq cSlash (List.cons.inj (List.cons.inj hrest).2).2 ns1 ns2
  obtain ⟨huu, hhh⟩ := opt_prefix_inj cAt hauth na1 na2 nb1 nb2
  obtain ⟨s1, u1, h1, p1, q1, f1⟩ := u
  obtain ⟨s2, u2, h2, p2, q2, f2⟩ := v
  simp only at hp1 hp2 hf hq hs ht huu hhh
  rw [hp1, hp2, hf, hq, hs, ht, huu, hhh]

end Nuts.C18
