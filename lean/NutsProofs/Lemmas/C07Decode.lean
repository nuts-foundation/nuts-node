/-
  The peeling loop of `Iblt.Decode`: its invariant (`Inv`) and what it returns on the table `Subtract` leaves, for a hash
  that is faithful on the keys in play (`Faithful`).
-/
import NutsProofs.Lemmas.C07Iblt

namespace Nuts.Proto.Iblt

def xorL (L : List Nat) : Nat := L.foldr (· ^^^ ·) 0

theorem xorL_append (L M : List Nat) : xorL (L ++ M) = xorL L ^^^ xorL M := by
  induction L with
  | nil => simp [xorL]
  | cons x L ih =>
    have h1 : xorL (x :: L ++ M) = x ^^^ xorL (L ++ M) := rfl
    have h2 : xorL (x :: L) = x ^^^ xorL L := rfl
    rw [h1, h2, ih, Nat.xor_assoc]

/-- **hash faithfulness** (the one property of murmur3 the decode contract needs, over the keys `U` in play):
    no set of two or more distinct keys looks like a single key (hashKey of the XOR of the keys = XOR of their hashKeys),
    and no non-empty set of distinct keys cancels to the all-zero bucket. Both clauses speak of EVERY duplicate-free list
    of keys of `U`, not only of the bucket contents a decode meets: a hash with 64-bit values has the property only for a
    small `U` (among more than 64 + key-width keys some set XORs to zero in keys and hash sums alike, against `nonzero`). -/
structure Faithful (H : Hash) (U : Ref → Prop) : Prop where
  pure : ∀ S : List Ref, S.Nodup → (∀ x ∈ S, U x) → 2 ≤ S.length → H.hashKey (xorL S) ≠ xorL (S.map H.hashKey)
  nonzero : ∀ S : List Ref, S.Nodup → (∀ x ∈ S, U x) → S ≠ [] → ¬ (xorL S = 0 ∧ xorL (S.map H.hashKey) = 0)

section Peel
variable (H : Hash) (P : Par) (n : Nat)

theorem sumB_view (j : Nat) (L : List Ref) :
    sumB H P n j L = ⟨((L.filter (inB H P n j)).length : Int), xorL ((L.filter (inB H P n j)).map H.hashKey), xorL (L.filter (inB H P n j))⟩ := by
  induction L with
  | nil => rfl
  | cons x L ih =>
    by_cases hx : inB H P n j x = true
    · simp only [sumB, hx, if_true, List.filter_cons, ih, Bucket.ins, List.length_cons, List.map_cons]
      apply Bucket.ext'
      · simp only; omega
      · show _ ^^^ _ = H.hashKey x ^^^ _; rw [Nat.xor_comm]; rfl
      · show _ ^^^ _ = x ^^^ _; rw [Nat.xor_comm]; rfl
    · simp [sumB, hx, ih]

theorem sumB_erase (j : Nat) {A : List Ref} {x : Ref} (hx : x ∈ A) :
    sumB H P n j A = if inB H P n j x then (sumB H P n j (A.erase x)).ins x (H.hashKey x) else sumB H P n j (A.erase x) := by
  rw [sumB_perm H P n j (List.perm_cons_erase hx)]
  rfl

theorem Bucket.ins_sub (s t : Bucket) (y hy : Nat) : (s.ins y hy).sub t = (s.sub t).ins y hy := by
  apply Bucket.ext' <;> simp only [Bucket.ins, Bucket.sub] <;> first | omega | exact xor_right_comm ..

theorem Bucket.sub_ins (s t : Bucket) (y hy : Nat) : s.sub (t.ins y hy) = (s.sub t).del y hy := by
  apply Bucket.ext' <;> simp only [Bucket.ins, Bucket.sub, Bucket.del] <;> first | omega | exact (Nat.xor_assoc ..).symm

theorem Bucket.peel_pos (s t : Bucket) (y hy : Nat) : ((s.ins y hy).sub t).del y hy = s.sub t := by
  rw [Bucket.ins_sub, Bucket.ins_del]

theorem Bucket.peel_neg (s t : Bucket) (y hy : Nat) : (s.sub (t.ins y hy)).ins y hy = s.sub t := by
  rw [Bucket.sub_ins, Bucket.del_ins]

theorem rep_delete (hn : 0 < n) {t : Table} {A B : List Ref} (h : Rep H P n t A B) {y : Ref} (hy : y ∈ A) :
    Rep H P n (delete H P t y) (A.erase y) B := by
  refine ⟨by rw [delete_length]; exact h.1, ?_⟩
  intro j hj
  rw [delete_get H P n hn t h.1 y j, h.2 j hj, sumB_erase H P n j hy]
  by_cases hin : inB H P n j y = true
  · simp only [hin, if_true, Option.map_some, Bucket.peel_pos]
  · simp [hin]

theorem rep_insert (hn : 0 < n) {t : Table} {A B : List Ref} (h : Rep H P n t A B) {y : Ref} (hy : y ∈ B) :
    Rep H P n (insert H P t y) A (B.erase y) := by
  refine ⟨by rw [insert_length]; exact h.1, ?_⟩
  intro j hj
  rw [insert_get H P n hn t h.1 y j, h.2 j hj, sumB_erase H P n j hy]
  by_cases hin : inB H P n j y = true
  · simp only [hin, if_true, Option.map_some, Bucket.peel_neg]
  · simp [hin]

theorem rep_bucket {t : Table} {A B : List Ref} (h : Rep H P n t A B) {j : Nat} {b : Bucket} (hb : t[j]? = some b) :
    b = ⟨((A.filter (inB H P n j)).length : Int) - (B.filter (inB H P n j)).length,
      xorL (((A ++ B).filter (inB H P n j)).map H.hashKey), xorL ((A ++ B).filter (inB H P n j))⟩ := by
  have hj : j < n := h.1 ▸ (List.getElem?_eq_some_iff.mp hb).1
  rw [Option.some.inj (hb.symm.trans (h.2 j hj)), sumB_view, sumB_view, List.filter_append, List.map_append,
    xorL_append, xorL_append]
  rfl

end Peel

theorem isEmpty_iff (t : Table) : isEmpty t = true ↔ ∀ b ∈ t, b = Bucket.zero := by
  simp [isEmpty, Bucket.isEmpty]

section Loop
variable (H : Hash) (P : Par) (n : Nat) (U : Ref → Prop)

theorem perm_peeled {A0 S A : List Ref} {y : Ref} (hy : y ∈ A) (h : A0.Perm (S ++ A)) :
    A0.Perm (S ++ [y] ++ A.erase y) := by
  rw [List.append_assoc]
  exact h.trans ((List.perm_cons_erase hy).append_left S)

theorem pure_analysis (hF : Faithful H U) {t : Table} {A B : List Ref} (h : Rep H P n t A B) (nd : (A ++ B).Nodup)
    (u : ∀ x ∈ A ++ B, U x) {j : Nat} {b : Bucket} (hb : t[j]? = some b) (hp : b.pure H = true) :
    (b.count = 1 ∧ b.keySum ∈ A) ∨ (b.count = -1 ∧ b.keySum ∈ B) := by
  rw [rep_bucket H P n h hb] at hp ⊢
  have hS := hF.pure _ (nd.filter (inB H P n j)) (fun x hx => u x (List.mem_filter.mp hx).1)
  have hFA : ∀ y ∈ A.filter (inB H P n j), y ∈ A := fun y hy => (List.mem_filter.mp hy).1
  have hFB : ∀ y ∈ B.filter (inB H P n j), y ∈ B := fun y hy => (List.mem_filter.mp hy).1
  rw [List.filter_append] at hS hp ⊢
  generalize A.filter (inB H P n j) = FA at hp hFA hS ⊢
  generalize B.filter (inB H P n j) = FB at hp hFB hS ⊢
  simp only [Bucket.pure, Bool.and_eq_true, Bool.or_eq_true, beq_iff_eq] at hp ⊢
  obtain ⟨hc, hh⟩ := hp
  have hlen : ¬ 2 ≤ (FA ++ FB).length := fun hl => hS hl hh
  rw [List.length_append] at hlen
  -- at most one key, and the count says on which side it is
  rcases hc with hc | hc
  · obtain ⟨y, rfl⟩ := List.length_eq_one_iff.mp (show FA.length = 1 by omega)
    cases List.eq_nil_of_length_eq_zero (show FB.length = 0 by omega)
    exact Or.inl ⟨hc, by simpa [xorL] using hFA y (by simp)⟩
  · obtain ⟨y, rfl⟩ := List.length_eq_one_iff.mp (show FB.length = 1 by omega)
    cases List.eq_nil_of_length_eq_zero (show FA.length = 0 by omega)
    exact Or.inr ⟨hc, by simpa [xorL] using hFB y (by simp)⟩

theorem rep_nil_empty {t : Table} (h : Rep H P n t [] []) : isEmpty t = true :=
  (isEmpty_iff t).mpr fun b hb => by
    obtain ⟨j, hj⟩ := List.mem_iff_getElem?.mp hb
    rw [rep_bucket H P n h hj]; rfl

theorem rep_empty_iff (hn : 0 < n) (hk : 0 < P.k) (hm : 0 < P.maxChain) (hF : Faithful H U) {t : Table} {A B : List Ref}
    (h : Rep H P n t A B) (nd : (A ++ B).Nodup) (u : ∀ x ∈ A ++ B, U x) : isEmpty t = true ↔ A ++ B = [] := by
  rw [isEmpty_iff]
  constructor
  · intro he
    apply List.eq_nil_iff_forall_not_mem.mpr
    intro x hx
    -- `x` lives in some bucket `j`, and that bucket is zero
    obtain ⟨j, hj⟩ := List.exists_mem_of_ne_nil _ (bucketIndices_ne_nil H P hn hk hm (H.hashKey x))
    have hz := h.2 j ((bucketIndices_good H P hn (H.hashKey x)).2 j hj)
    have hb := rep_bucket H P n h hz
    rw [he _ (List.mem_iff_getElem?.mpr ⟨j, hz⟩)] at hb
    simp only [Bucket.zero, Bucket.mk.injEq] at hb
    exact hF.nonzero _ (nd.filter _) (fun y hy => u y (List.mem_filter.mp hy).1)
      (List.ne_nil_of_mem (List.mem_filter.mpr ⟨hx, (List.contains_iff_mem.mpr hj : inB H P n j x = true)⟩)) ⟨hb.2.2.symm, hb.2.1.symm⟩
  · intro hS
    obtain ⟨rfl, rfl⟩ := List.append_eq_nil_iff.mp hS
    exact (isEmpty_iff t).mp (rep_nil_empty H P n h)

/-- the keys `S` still to peel, inside a sweep that started with at most `m` of them: duplicate-free, inside `U`, none
    of them peeled before (`pures`), and fewer than `m` once the sweep has peeled one (`upd`) -/
structure ToPeel (m : Nat) (pures : List Ref) (upd : Bool) (S : List Ref) : Prop where
  nd : S.Nodup
  u : ∀ x ∈ S, U x
  pur : ∀ r ∈ pures, r ∉ S
  le : S.length ≤ m
  lt : upd = true → S.length < m

theorem ToPeel.erase {m : Nat} {pures : List Ref} {upd : Bool} {S : List Ref} (h : ToPeel U m pures upd S) {y : Ref}
    (hy : y ∈ S) : ToPeel U m (y :: pures) true (S.erase y) := by
  have hl : (S.erase y).length < m := by
    have := h.le; have := List.length_pos_of_mem hy
    rw [List.length_erase_of_mem hy]; omega
  refine ⟨h.nd.erase y, fun x hx => h.u x (List.mem_of_mem_erase hx), ?_, Nat.le_of_lt hl, fun _ => hl⟩
  intro r hr hm
  rcases List.mem_cons.mp hr with rfl | hr
  · exact (h.nd.mem_erase_iff.mp hm).1 rfl
  · exact h.pur r hr (List.mem_of_mem_erase hm)

/-- the loop invariant of Decode: the table represents a shrinking part `A`/`B` of the initial difference `A0`/`B0`, which
    is, up to order, what was peeled (`remaining`/`missing`) followed by that part -/
structure Inv (A0 B0 : List Ref) (m : Nat) (st : DSt) (A B : List Ref) : Prop where
  rep : Rep H P n st.tab A B
  keys : ToPeel U m st.pures st.updated (A ++ B)
  remA : A0.Perm (st.remaining ++ A)
  misB : B0.Perm (st.missing ++ B)

theorem peelAt_inv (hn : 0 < n) (hF : Faithful H U) {A0 B0 : List Ref} {m : Nat} {st : DSt} {A B : List Ref}
    (inv : Inv H P n U A0 B0 m st A B) (idx : Nat) :
    ∃ st' A' B', peelAt H P st idx = some st' ∧ Inv H P n U A0 B0 m st' A' B' := by
  unfold peelAt
  cases hb : st.tab[idx]? with
  | none => exact ⟨st, A, B, rfl, inv⟩
  | some b =>
    simp only
    by_cases hp : b.pure H = true
    · simp only [hp, if_true]
      have hnotp : b.keySum ∈ A ++ B → st.pures.contains b.keySum = false := fun hy =>
        Bool.eq_false_iff.mpr fun h => inv.keys.pur _ (List.contains_iff_mem.mp h) hy
      rcases pure_analysis H P n U hF inv.rep inv.keys.nd inv.keys.u hb hp with ⟨hc, hmem⟩ | ⟨hc, hmem⟩
      · have hS := List.mem_append_left B hmem
        have hcb : (b.count == 1) = true := by simp [hc]
        simp only [hnotp hS, Bool.false_eq_true, if_false, hcb, if_true]
        refine ⟨_, A.erase b.keySum, B, rfl, rep_delete H P n hn inv.rep hmem, ?_, perm_peeled hmem inv.remA, inv.misB⟩
        rw [← List.erase_append_left B hmem]
        exact inv.keys.erase U hS
      · have hS := List.mem_append_right A hmem
        have hnA : b.keySum ∉ A := fun h => (List.nodup_append.mp inv.keys.nd).2.2 _ h _ hmem rfl
        have hcb : (b.count == 1) = false := by simp [hc]
        simp only [hnotp hS, Bool.false_eq_true, if_false, hcb]
        refine ⟨_, A, B.erase b.keySum, rfl, rep_insert H P n hn inv.rep hmem, ?_, inv.remA, perm_peeled hmem inv.misB⟩
        rw [← List.erase_append_right B hnA]
        exact inv.keys.erase U hS
    · simp only [hp, Bool.false_eq_true, if_false]
      exact ⟨st, A, B, rfl, inv⟩

theorem sweep_inv (hn : 0 < n) (hF : Faithful H U) {A0 B0 : List Ref} {m : Nat} : ∀ (idxs : List Nat) (st : DSt)
    (A B : List Ref), Inv H P n U A0 B0 m st A B →
    ∃ st' A' B', sweep H P idxs st = some st' ∧ Inv H P n U A0 B0 m st' A' B' := by
  intro idxs
  induction idxs with
  | nil => intro st A B inv; exact ⟨st, A, B, rfl, inv⟩
  | cons i is ih =>
    intro st A B inv
    obtain ⟨st1, A1, B1, h1, inv1⟩ := peelAt_inv H P n U hn hF inv i
    obtain ⟨st2, A2, B2, h2, inv2⟩ := ih st1 A1 B1 inv1
    exact ⟨st2, A2, B2, by simp only [sweep, h1, h2], inv2⟩

/-- **Decode terminates with the exact difference or ErrDecodeNotPossible** — never ErrDecodeLoop, never out of fuel -/
theorem decodeLoop_spec (hn : 0 < n) (hk : 0 < P.k) (hm : 0 < P.maxChain) (hF : Faithful H U) {A0 B0 : List Ref} :
    ∀ (fuel m : Nat) (tab : Table) (pures rem mis A B : List Ref),
      Inv H P n U A0 B0 m ⟨tab, pures, rem, mis, false⟩ A B → m < fuel →
      (∃ r m, decodeLoop H P fuel tab pures rem mis = .ok r m ∧ A0.Perm r ∧ B0.Perm m) ∨
      (∃ r m, decodeLoop H P fuel tab pures rem mis = .notPossible r m ∧ A0 ++ B0 ≠ [] ∧
        (∀ x ∈ r, x ∈ A0) ∧ (∀ x ∈ m, x ∈ B0)) := by
  intro fuel
  induction fuel with
  | zero => intro _ _ _ _ _ _ _ _ h; omega
  | succ f ih =>
    intro m tab pures rem mis A B inv hlt
    unfold decodeLoop
    obtain ⟨st', A', B', hs, inv'⟩ := sweep_inv H P n U hn hF (List.range tab.length) _ A B inv
    simp only [hs]
    by_cases hup : st'.updated = true
    · simp only [hup, if_true]
      -- a sweep that peeled a key starts the next one with fewer keys left
      have hdec := inv'.keys.lt hup
      exact ih (A' ++ B').length st'.tab st'.pures st'.remaining st'.missing A' B'
        ⟨inv'.rep, ⟨inv'.keys.nd, inv'.keys.u, inv'.keys.pur, Nat.le_refl _, nofun⟩, inv'.remA, inv'.misB⟩
        (by omega)
    · simp only [hup, Bool.false_eq_true, if_false]
      have hemp := rep_empty_iff H P n U hn hk hm hF inv'.rep inv'.keys.nd inv'.keys.u
      have hA := inv'.remA
      have hB := inv'.misB
      by_cases he : isEmpty st'.tab = true
      · simp only [he, if_true]
        obtain ⟨hA', hB'⟩ := List.append_eq_nil_iff.mp (hemp.mp he)
        rw [hA', List.append_nil] at hA
        rw [hB', List.append_nil] at hB
        exact Or.inl ⟨_, _, rfl, hA, hB⟩
      · simp only [he, Bool.false_eq_true, if_false]
        refine Or.inr ⟨_, _, rfl, fun h0 => he (hemp.mpr ?_), fun x hx => hA.mem_iff.mpr (List.mem_append_left _ hx),
          fun x hx => hB.mem_iff.mpr (List.mem_append_left _ hx)⟩
        -- nothing in the initial difference: nothing is left of it either
        obtain ⟨hA0, hB0⟩ := List.append_eq_nil_iff.mp h0
        rw [hA0] at hA
        rw [hB0] at hB
        rw [(List.append_eq_nil_iff.mp hA.nil_eq.symm).2, (List.append_eq_nil_iff.mp hB.nil_eq.symm).2]
        rfl

/-- `Decode` run on the table `Subtract` leaves for two duplicate-free key lists inside `U`: the peeling starts in its
    invariant with the two differences as what the table represents, and |loc|+|peer|+1 sweeps are enough -/
theorem decode_subtract_spec (hn : 0 < n) (hk : 0 < P.k) (hm : 0 < P.maxChain) (hF : Faithful H U) (loc peer : List Ref)
    (hl : loc.Nodup) (hp : peer.Nodup) (hUl : ∀ x ∈ loc, U x) (hUp : ∀ x ∈ peer, U x) :
    ∃ t, subtract (encode H P n loc) (encode H P n peer) = some t ∧
      ((∃ r m, decodeLoop H P (loc.length + peer.length + 1) t [] [] [] = .ok r m ∧
          (∀ x, x ∈ r ↔ (x ∈ loc ∧ x ∉ peer)) ∧ (∀ x, x ∈ m ↔ (x ∈ peer ∧ x ∉ loc))) ∨
       (∃ r m, decodeLoop H P (loc.length + peer.length + 1) t [] [] [] = .notPossible r m ∧
          ¬ (∀ x, x ∈ loc ↔ x ∈ peer) ∧ (∀ x ∈ r, x ∈ loc ∧ x ∉ peer) ∧ (∀ x ∈ m, x ∈ peer ∧ x ∉ loc))) := by
  obtain ⟨t, hsub, hrep⟩ := subtract_rep H P n hn hl hp
  have hA : ∀ x, x ∈ loc.filter (fun x => !peer.contains x) ↔ (x ∈ loc ∧ x ∉ peer) := by simp [List.mem_filter]
  have hB : ∀ x, x ∈ peer.filter (fun x => !loc.contains x) ↔ (x ∈ peer ∧ x ∉ loc) := by simp [List.mem_filter]
  have keys : ToPeel U (loc.length + peer.length) [] false
      (loc.filter (fun x => !peer.contains x) ++ peer.filter (fun x => !loc.contains x)) := by
    refine ⟨?_, ?_, nofun, ?_, nofun⟩
    · exact List.nodup_append.mpr ⟨hl.filter _, hp.filter _, fun a ha b hb hab =>
        ((hB b).mp hb).2 (hab ▸ ((hA a).mp ha).1)⟩
    · intro x hx
      rcases List.mem_append.mp hx with h | h
      · exact hUl x ((hA x).mp h).1
      · exact hUp x ((hB x).mp h).1
    · have h1 := List.length_filter_le (fun x => !peer.contains x) loc
      have h2 := List.length_filter_le (fun x => !loc.contains x) peer
      rw [List.length_append]; omega
  refine ⟨t, hsub, ?_⟩
  rcases decodeLoop_spec H P n U hn hk hm hF _ _ t [] [] [] _ _ ⟨hrep, keys, .refl _, .refl _⟩ (Nat.lt_succ_self _) with
    ⟨r, m, hd, hr, hm⟩ | ⟨r, m, hd, hne, hr, hm⟩
  · exact Or.inl ⟨r, m, hd, fun x => hr.mem_iff.symm.trans (hA x), fun x => hm.mem_iff.symm.trans (hB x)⟩
  · refine Or.inr ⟨r, m, hd, fun hsame => hne ?_, fun x hx => (hA x).mp (hr x hx), fun x hx => (hB x).mp (hm x hx)⟩
    exact List.eq_nil_iff_forall_not_mem.mpr fun x hx => (List.mem_append.mp hx).elim
      (fun h => ((hA x).mp h).2 ((hsame x).mp ((hA x).mp h).1)) (fun h => ((hB x).mp h).2 ((hsame x).mpr ((hB x).mp h).1))

end Loop

/-- with `hashKey x = 2^(x+1)` the hash sum of distinct keys has exactly their bits set -/
theorem pow_hash_bits : ∀ (S : List Nat), S.Nodup → ∀ i,
    (xorL (S.map (fun x => 2 ^ (x + 1)))).testBit i = decide (∃ x ∈ S, x + 1 = i)
  | [], _, i => by simp [xorL]
  | a :: S, hnd, i => by
    have ih := pow_hash_bits S (List.nodup_cons.mp hnd).2 i
    have hx : xorL ((a :: S).map (fun x => 2 ^ (x + 1))) = 2 ^ (a + 1) ^^^ xorL (S.map (fun x => 2 ^ (x + 1))) := rfl
    rw [hx, Nat.testBit_xor, Nat.testBit_two_pow, ih]
    by_cases h : a + 1 = i
    · have hno : ¬ ∃ x ∈ S, x + 1 = i := by
        rintro ⟨x, hx', hxi⟩
        have : x = a := by omega
        subst this
        exact (List.nodup_cons.mp hnd).1 hx'
      simp [h, hno]
    · simp [h]

end Nuts.Proto.Iblt
