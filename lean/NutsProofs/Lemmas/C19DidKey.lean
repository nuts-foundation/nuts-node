import NutsModel.C19.DidKey
import NutsProofs.Lemmas.Base

namespace Nuts.C19.Lemmas

variable {P : String → Prop}

theorem didkey_codec_panicsIn (i : DidKey.In) (kt : Nat) : Res.PanicsIn (DidKey.codecCheck i kt) P := by
  fun_cases DidKey.codecCheck i kt with
  | case3 vm | case5 vm | case8 vm | case10 vm | case11 vm | case14 vm => exact .ite .ok .err
  | _ => exact .err

theorem didkey_decode_panicsIn (i : DidKey.In) : Res.PanicsIn (DidKey.decode i) P := by
  unfold DidKey.decode
  refine .ite .err ?_
  split
  · exact .err
  · exact didkey_codec_panicsIn i _

theorem didkey_panicsIn (c : DidKey.Cfg) (h : c.emptyGuard = false → P "Resolve:encodedKey[0]") (i : DidKey.In) :
    Res.PanicsIn (DidKey.resolve c i) P := by
  unfold DidKey.resolve
  refine .ite .err ?_
  split
  · exact .flag .err h
  · exact .ite .err (didkey_decode_panicsIn i)

end Nuts.C19.Lemmas
