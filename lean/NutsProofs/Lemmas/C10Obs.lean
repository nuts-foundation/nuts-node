/-
  C10 — the observation sites other than `Resolve`. Every version of a DID carries the DID as its document id (`MergeKeepsId`), so
  the conflicted cache, which is keyed by document id, mirrors the per-DID flags (`CacheInv`; `ObsInv` is kept by `add`); `reload`
  rebuilds exactly that cache; the cache and `iterate` are as long as the counters say; the history in closed form.
-/
import NutsProofs.Lemmas.Sort
import NutsProofs.Lemmas.C10

namespace Nuts.C10

/-- `mergeDocuments` takes the ID of its first argument (`result.ID = docs[0].ID`) -/
def MergeKeepsId (cfg : Cfg) : Prop := ∀ a b, (cfg.merge a b).id = a.id

theorem cfgOf_keeps_id (σ : Field → List Entry → List Entry) (sf : List Field) : MergeKeepsId (cfgOf σ sf) :=
  fun _ _ => rfl

theorem docOfTx_mem {evs : List Event} {r : Ref} {d : Doc} (h : docOfTx evs r = some d) : ∃ e ∈ evs, e.doc = d := by
  unfold docOfTx at h
  cases hf : evs.find? (fun e => e.ref == r) with
  | none => simp [hf] at h
  | some e =>
    simp only [hf, Option.map_some, Option.some.injEq] at h
    exact ⟨e, List.mem_of_find?_eq_some hf, h⟩

theorem foldl_mergeStep_id (cfg : Cfg) (hk : MergeKeepsId cfg) (evs : List Event) (id : String)
    (hevs : ∀ x ∈ evs, x.doc.id = id) {l : List Nat} {d0 d : Doc} {s0 src : List Nat} (h0 : d0.id = id)
    (h : l.foldl (mergeStep cfg evs) (.ok (d0, s0)) = .ok (d, src)) : d.id = id := by
  rw [foldl_mergeStep_eq] at h
  split at h
  · cases h
    refine foldl_invariant (fun x : Doc => x.id = id) _ _ _ (fun old hold acc _ => ?_) h0
    obtain ⟨o, ho, rfl⟩ := List.mem_filterMap.mp hold
    obtain ⟨r, _, hr⟩ := List.mem_map.mp ho
    obtain ⟨e, he, hed⟩ := docOfTx_mem hr
    rw [hk, ← hed]; exact hevs e he
  · cases h

theorem applyEvent_docid (cfg : Cfg) (hk : MergeKeepsId cfg) (evs : List Event) (id : String)
    (hevs : ∀ x ∈ evs, x.doc.id = id) (cur : Option Meta) (e : Event) (he : e.doc.id = id) (d : Doc) (m : Meta)
    (h : applyEvent cfg evs cur e = .ok (d, m)) : d.id = id := by
  obtain ⟨_, _, ⟨rfl, _, _⟩ | ⟨c, _, _, hf, _⟩⟩ := applyEvent_ok h
  · exact he
  · exact foldl_mergeStep_id cfg hk evs id hevs he hf

theorem applyAll_docid (cfg : Cfg) (hk : MergeKeepsId cfg) (evs : List Event) (id : String)
    (hevs : ∀ x ∈ evs, x.doc.id = id) :
    ∀ (es : List Event) (cur : Option Meta) (c : List (Doc × Meta)), (∀ e ∈ es, e.doc.id = id) →
      applyAll cfg evs cur es = .ok c → ∀ p ∈ c, p.1.id = id := by
  intro es cur c hes h p hp
  obtain ⟨cur', e, he, h'⟩ := applyAll_mem h p hp
  exact applyEvent_docid cfg hk evs id hevs cur' e (hes e he) p.1 p.2 h'

structure CacheInv (s : Store) : Prop where
  nodup : (s.cache.map (·.1)).Nodup
  look : ∀ id, alGet s.cache id = if (s.get id).conflicted = true then (s.get id).chain.getLast? else none

theorem inv_chain_ids (cfg : Cfg) (hk : MergeKeepsId cfg) (st : DidState) (hinv : Inv cfg st) (id : String)
    (hev : ∀ e ∈ st.events, e.doc.id = id) : ∀ p ∈ st.chain, p.1.id = id :=
  applyAll_docid cfg hk st.events id hev st.events none st.chain hev hinv.chain

structure ObsInv (cfg : Cfg) (s : Store) : Prop where
  store : StoreInv cfg s
  cache : CacheInv s

theorem obsInv_empty (cfg : Cfg) : ObsInv cfg {} :=
  ⟨storeInv_empty cfg, ⟨List.nodup_nil, fun _ => rfl⟩⟩

theorem add_obsInv (cfg : Cfg) (hk : MergeKeepsId cfg) (s s' : Store) (e : Event) (hs : ObsInv cfg s)
    (h : add cfg s e = .ok s') : ObsInv cfg s' := by
  refine ⟨add_storeInv cfg s s' e hs.store h, ?_⟩
  rcases add_step hs.store h with ⟨_, rfl⟩ | ⟨st', p, hc⟩
  · exact hs.cache
  obtain rfl := hc.store
  have hp := hc.last
  -- the cache is keyed by the ID of the latest document, which is the DID
  rw [inv_chain_ids cfg hk st' hc.inv e.doc.id hc.ids p (List.mem_of_getLast? hp)]
  refine ⟨?_, fun j => ?_⟩
  · dsimp only
    split
    · exact nodup_keys_alPut _ _ hs.cache.nodup
    · exact nodup_keys_alDel _ hs.cache.nodup
  · rw [get_of_dids rfl j]
    dsimp only
    rw [alGet_put_or_del]
    by_cases hj : j = e.doc.id
    · rw [if_pos (beq_iff_eq.mpr hj), if_pos hj, hp]
    · rw [if_neg (fun hb => hj (eq_of_beq hb)), if_neg hj]; exact hs.cache.look j

theorem addAll_obsInv (cfg : Cfg) (hk : MergeKeepsId cfg) : ∀ (l : List Event) (s s' : Store), ObsInv cfg s →
    addAll cfg s l = .ok s' → ObsInv cfg s' :=
  addAll_induction (add_obsInv cfg hk)

theorem loadFold_nodup : ∀ (l : List (String × DidState)) (acc : List (String × (Doc × Meta))),
    (acc.map (·.1)).Nodup → ((l.foldl loadStep acc).map (·.1)).Nodup := by
  refine fun l acc => foldl_invariant (fun acc => (acc.map (·.1)).Nodup) _ l acc fun p _ acc h => ?_
  unfold loadStep
  split
  · exact nodup_keys_alPut _ _ h
  · exact h

theorem loadFold_look : ∀ (l : List (String × DidState)) (acc : List (String × (Doc × Meta))) (j : String),
    (l.map (·.1)).Nodup → (∀ p ∈ l, ∀ x, p.2.chain.getLast? = some x → x.1.id = p.1) →
    alGet (l.foldl loadStep acc) j =
      match alGet l j with
      | some st => (match st.chain.getLast? with | some x => some x | none => alGet acc j)
      | none => alGet acc j := by
  intro l
  induction l with
  | nil => intro acc j _ _; rfl
  | cons p ps ih =>
    intro acc j hn hid
    rw [List.map_cons, List.nodup_cons] at hn
    rw [List.foldl_cons, ih (loadStep acc p) j hn.2 (fun q hq => hid q (List.mem_cons_of_mem _ hq)), alGet_cons]
    -- `loadStep` puts the latest version of `p` under `p`'s own key
    have hstep : loadStep acc p = match p.2.chain.getLast? with | some x => alPut acc p.1 x | none => acc := by
      unfold loadStep
      cases hl : p.2.chain.getLast? with
      | none => rfl
      | some x => simp only; rw [hid p List.mem_cons_self x hl]
    by_cases hpj : p.1 = j
    · subst hpj
      rw [if_pos (beq_self_eq_true _), alGet_eq_none_iff.mpr hn.1, hstep]
      simp only
      cases p.2.chain.getLast? with
      | none => rfl
      | some x => exact alGet_alPut_self _ _ _
    · rw [if_neg (fun h => hpj (eq_of_beq h)), hstep]
      cases p.2.chain.getLast? with
      | none => rfl
      | some x => simp only; rw [alGet_alPut_of_ne _ _ (Ne.symm hpj)]

theorem reload_look (cfg : Cfg) (hk : MergeKeepsId cfg) (s : Store) (hs : ObsInv cfg s) (j : String) :
    alGet (reload s).cache j = alGet s.cache j := by
  have hfn : ((s.dids.filter (fun p => p.2.conflicted)).map (·.1)).Nodup :=
    List.Nodup.sublist (List.Sublist.map _ List.filter_sublist) hs.store.nodup
  have hfid : ∀ p ∈ s.dids.filter (fun p => p.2.conflicted), ∀ x, p.2.chain.getLast? = some x → x.1.id = p.1 := by
    intro p hp x hx
    have hp' := (List.mem_filter.mp hp).1
    exact inv_chain_ids cfg hk p.2 (hs.store.each p hp').1 p.1 (hs.store.each p hp').2.2 x (List.mem_of_getLast? hx)
  show alGet (loadConflicted s.dids) j = _
  unfold loadConflicted
  rw [loadFold_look _ [] j hfn hfid, alGet_filter (fun st : DidState => st.conflicted) s.dids j hs.store.nodup,
    hs.cache.look j]
  rcases get_cases s j with ⟨hg, he⟩ | ⟨st, hg, he⟩ <;> rw [hg, he]
  · rfl
  · simp only
    by_cases hc : st.conflicted = true
    · simp only [hc, if_true]
      cases st.chain.getLast? <;> simp [alGet]
    · simp [hc, alGet]

theorem reload_nodup (s : Store) : ((reload s).cache.map (·.1)).Nodup :=
  loadFold_nodup _ [] List.nodup_nil

theorem cache_length (cfg : Cfg) (s : Store) (hs : ObsInv cfg s) : s.cache.length = s.conflictedCount := by
  rw [hs.store.confl]
  have hp : (s.cache.map (·.1)).Perm (conflKeys s) := by
    apply (List.perm_ext_iff_of_nodup hs.cache.nodup (conflKeys_nodup cfg s hs.store)).mpr
    intro k
    rw [← alGet_isSome_iff, hs.cache.look k, mem_conflKeys_iff cfg s hs.store k]
    by_cases hc : (s.get k).conflicted = true
    · obtain ⟨p, hp, _⟩ := inv_conflicted (get_inv cfg s hs.store k) hc
      simp [hc, hp]
    · simp [hc]
  simpa [conflKeys] using hp.length_eq

theorem iterate_length (cfg : Cfg) (s : Store) (hs : StoreInv cfg s) : (iterate s).length = s.documentCount := by
  unfold iterate
  rw [List.filterMap_length_eq_length.mpr, (sortBy_perm strLt _).length_eq, hs.docs, List.length_map]
  intro k hk
  have hk' : k ∈ keys s := (sortBy_perm strLt _).subset hk
  obtain ⟨p, hp, _⟩ := inv_last cfg (s.get k) (get_inv cfg s hs k) ((mem_keys_iff cfg s hs k).mp hk')
  simp [hp]

theorem iterate_determined (cfg₁ cfg₂ : Cfg) (s₁ s₂ : Store) (h₁ : StoreInv cfg₁ s₁) (h₂ : StoreInv cfg₂ s₂)
    (hget : ∀ k, s₁.get k = s₂.get k) : iterate s₁ = iterate s₂ := by
  unfold iterate
  have hsort : sortBy strLt (s₁.dids.map (·.1)) = sortBy strLt (s₂.dids.map (·.1)) := by
    apply sortBy_eq_of_perm strLt decide_str_lt_asymm decide_str_le_trans (keys_perm h₁ h₂ hget)
    intro a _ b _ hab hba
    exact String.le_antisymm (of_decide_eq_false hba) (of_decide_eq_false hab)
  rw [hsort]
  congr 1
  funext k
  rw [hget k]

theorem histFrom_raw (c : Nat) : ∀ (es : List Event) (v : Nat),
    (histFrom c v es).map (·.raw) = es.map (·.payloadHash) ∧ (histFrom c v es).map (·.version) = List.range' v es.length ∧
    ∀ x ∈ histFrom c v es, x.created = c := by
  intro es
  induction es with
  | nil => intro v; exact ⟨rfl, rfl, fun x hx => by cases hx⟩
  | cons e es ih =>
    intro v
    obtain ⟨h1, h2, h3⟩ := ih (v + 1)
    refine ⟨by simp [histFrom, h1], by simp [histFrom, h2, List.range'], ?_⟩
    intro x hx
    simp only [histFrom, List.mem_cons] at hx
    rcases hx with rfl | hx
    · rfl
    · exact h3 x hx

end Nuts.C10
