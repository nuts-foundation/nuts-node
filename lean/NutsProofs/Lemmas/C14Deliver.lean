/-
  C14 — `Run` makes an attempt (`deliveredIn`: a ledger entry whose outcome is not `crash`) for every job on the shelf that the
  context-error rule does not park, unless the node stops inside a receiver first.  No assumption on the receivers.
-/
import NutsProofs.Lemmas.C14Run
namespace Nuts.C14

def deliveredIn (s r : Nat) (l : List Entry) : Prop := ∃ ty k o, o ≠ Outcome.crash ∧ Entry.call s r ty k o ∈ l

theorem deliveredIn_append_left {s r : Nat} {a b : List Entry} (h : deliveredIn s r b) : deliveredIn s r (a ++ b) := by
  obtain ⟨ty, k, o, ho, hm⟩ := h; exact ⟨ty, k, o, ho, List.mem_append_right _ hm⟩

theorem deliveredIn_append_right {s r : Nat} {a b : List Entry} (h : deliveredIn s r a) : deliveredIn s r (a ++ b) := by
  obtain ⟨ty, k, o, ho, hm⟩ := h; exact ⟨ty, k, o, ho, List.mem_append_left _ hm⟩

theorem notifyNow_delivers {c : Cfg} {σ : St} {s r : Nat} {j : Job} (hj : σ.shelf s r = some j) :
    ∃ new, (notifyNow c σ s r).1.ledger = new ++ σ.ledger ∧
      (if (notifyNow c σ s r).2 = .crashed then hasCrash new else deliveredIn s r new) := by
  rw [notifyNow_some hj]
  refine ⟨entriesAfter s r j _, rfl, ?_⟩
  split
  · next h => exact ⟨s, r, j.type, j.retries, by rw [← resAfter_crashed h]; exact call_mem_entriesAfter s r j _⟩
  · next h => exact ⟨j.type, j.retries, _, fun e => h (by rw [e]; rfl), call_mem_entriesAfter s r j _⟩

theorem runCalls_delivers {c : Cfg} (s r : Nat) (l : List (Nat × Nat)) : ∀ (σ : St) (acc : List (Nat × Nat)) (j : Job),
    (∃ ret, (r, ret) ∈ l) → σ.shelf s r = some j →
    ∃ new, (runCalls c s l σ acc).1.ledger = new ++ σ.ledger ∧ (deliveredIn s r new ∨ hasCrash new) := by
  induction l with
  | nil => intro σ acc j ⟨ret, h⟩; cases h
  | cons p rest ih =>
    intro σ acc j ⟨ret, hm⟩ hj
    obtain ⟨r0, ret0⟩ := p
    rw [runCalls_cons]
    generalize (if (notifyNow c σ s r0).2 = .nil then acc else _) = acc'
    by_cases hr : r0 = r
    · subst hr
      obtain ⟨n1, e1, h1⟩ := notifyNow_delivers (c := c) hj
      split at h1
      · next hc => rw [if_pos hc]; exact ⟨n1, e1, .inr h1⟩
      · next hc =>
        rw [if_neg hc]
        obtain ⟨_, _, _, _, _, h2⟩ := runCalls_run c s rest (notifyNow c σ s r0).1 acc'
        obtain ⟨n2, e2, _⟩ := h2.info
        exact ⟨n2 ++ n1, by rw [e2, e1, List.append_assoc], .inl (deliveredIn_append_left h1)⟩
    · obtain ⟨n1, e1, c1⟩ := (Run.now (c := c) σ s r0).info
      have f1 := ((Run.now (c := c) σ s r0).untouched (s := s) (r := r) fun hm => hr (by cases List.mem_singleton.mp hm; rfl)).1
      split
      · next hc => exact ⟨n1, e1, .inr (c1 (decide_eq_true hc))⟩
      · have hm' : ∃ ret, (r, ret) ∈ rest := by
          rcases List.mem_cons.mp hm with e | hm
          · injection e with e1 _; exact absurd e1.symm hr
          · exact ⟨ret, hm⟩
        obtain ⟨n2, e2, h2⟩ := ih (notifyNow c σ s r0).1 acc' j hm' (f1.trans hj)
        refine ⟨n2 ++ n1, by rw [e2, e1, List.append_assoc], ?_⟩
        rcases h2 with h2 | h2
        · exact .inl (deliveredIn_append_right h2)
        · exact .inr (hasCrash_append_right h2)

theorem runSub_delivers {c : Cfg} (σ : St) (s r : Nat) (j : Job) (hr : r < c.nRefs) (hj : σ.shelf s r = some j) (hctx : j.err ≠ .ctx) :
    ∃ new, (runSub c σ s).1.ledger = new ++ σ.ledger ∧ (deliveredIn s r new ∨ hasCrash new) := by
  obtain ⟨new, h1, h2⟩ := runCalls_delivers (c := c) s r (runSnapshot c σ s) σ [] j ⟨j.retries, mem_runSnapshot_iff.mpr ⟨hr, j, hj, rfl, hctx⟩⟩ hj
  fun_cases runSub c σ s with
  | case1 σ1 _ hq => rw [hq] at h1; exact ⟨new, h1, h2⟩
  | case2 σ1 f hq => rw [hq] at h1; exact ⟨new, (spawnAll_same c s f σ1).ledger.trans h1, h2⟩

theorem runAll_delivers {c : Cfg} (s r : Nat) (order : List Nat) : ∀ (σ : St) (j : Job), s ∈ order → r < c.nRefs →
    σ.shelf s r = some j → j.err ≠ .ctx →
    ∃ new, (runAll c order σ).1.ledger = new ++ σ.ledger ∧ (deliveredIn s r new ∨ hasCrash new) := by
  intro σ j hs hr hj hctx
  fun_induction runAll c order σ with
  | case1 σ => cases hs
  | case2 s0 _ σ _ hq =>
    by_cases h0 : s0 = s
    · subst h0; exact hq ▸ runSub_delivers σ s0 r j hr hj hctx
    · obtain ⟨_, _, hrun⟩ := hq ▸ runSub_run c σ s0
      obtain ⟨new1, h1, h2⟩ := hrun.info
      exact ⟨new1, h1, .inr (h2 rfl)⟩
  | case3 s0 rest σ σ' hq ih =>
    by_cases h0 : s0 = s
    · subst h0
      obtain ⟨new1, h1, h2⟩ := hq ▸ runSub_delivers σ s0 r j hr hj hctx
      obtain ⟨_, g⟩ := runAll_run c rest σ'
      obtain ⟨new2, g, _⟩ := g.info
      exact ⟨new2 ++ new1, by rw [g, h1, List.append_assoc], h2.imp deliveredIn_append_left hasCrash_append_left⟩
    · obtain ⟨_, hsub, hrun⟩ := hq ▸ runSub_run c σ s0
      obtain ⟨new1, h1, _⟩ := hrun.info
      have h3 := (hrun.untouched (s := s) (r := r) fun hm => h0 (now_mem_runPlan (hsub.subset hm)).1.symm).1
      obtain ⟨new2, g1, g2⟩ := ih ((List.mem_cons.mp hs).resolve_left (Ne.symm h0)) (h3.trans hj)
      exact ⟨new2 ++ new1, by rw [g1, h1, List.append_assoc], g2.imp deliveredIn_append_right hasCrash_append_right⟩

theorem restart_delivers {c : Cfg} (σ : St) (order : List Nat) (s r : Nat) (j : Job) (hs : s ∈ order) (hr : r < c.nRefs)
    (hj : σ.shelf s r = some j) (hctx : j.err ≠ .ctx) :
    ∃ new, (restart c σ order).ledger = new ++ σ.ledger ∧ (deliveredIn s r new ∨ hasCrash new) := by
  rw [restart_spec, (settle_same _).ledger]
  exact runAll_delivers (c := c) s r order σ j hs hr hj hctx

end Nuts.C14
