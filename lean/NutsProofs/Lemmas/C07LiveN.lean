/-
  Convergence of two linked nodes: a fair round pair keeps the pair invariant and either leaves the two DAGs equal as sets
  or makes them grow together; inside a finite universe that can happen only so often.
-/
import NutsProofs.Lemmas.C07LiveInv
open Nuts.Proto Nuts Nuts.Proto.L

namespace Nuts.Proto.Live

/-- `n` has a gossip queue for peer `key` and a connection to it -/
def Linked (n : Node) (key : Nat) : Prop :=
  key ∈ n.queues.map (·.peer) ∧ n.peers.any (fun p => p.key == key && p.connected) = true

theorem Linked.shape {n n' : Node} {key : Nat} (h : Linked n key) (hs : SameShape n n') : Linked n' key := by
  obtain ⟨h1, h2⟩ := h
  exact ⟨by rw [hs.2]; exact h1, by rw [hs.1]; exact h2⟩

theorem queueOK_of {n : Node} {key : Nat} (hn : NI n) (hl : Linked n key) : QueueOK n key := by
  obtain ⟨h1, h2⟩ := hl
  obtain ⟨q, hq, hk⟩ := List.mem_map.mp h1
  cases hf : n.queues.find? (fun x => x.peer == key) with
  | none =>
    have := List.find?_eq_none.mp hf q hq
    simp [hk] at this
  | some qu =>
    have hm := List.mem_of_find?_eq_some hf
    obtain ⟨s1, s2, s3⟩ := hn.sync qu hm
    exact ⟨qu, hf, h2, s1, s2, s3⟩

/-- the invariant of a fair round pair: both nodes meet `NI`, hold valid DAGs inside the universe `U` together with its
    root(s), and are linked to each other -/
structure PairInv (U : List Tx) (a b : Node) (kA kB : Nat) : Prop where
  nia : NI a
  nib : NI b
  oka : DagOK a.dag
  okb : DagOK b.dag
  ua : ∀ t ∈ a.dag, t ∈ U
  ub : ∀ t ∈ b.dag, t ∈ U
  ra : ∀ t ∈ U, t.prevs = [] → t ∈ a.dag
  rb : ∀ t ∈ U, t.prevs = [] → t ∈ b.dag
  la : Linked a kB
  lb : Linked b kA

def SameSet (a b : List Tx) : Prop := (∀ t ∈ b, t ∈ a) ∧ (∀ t ∈ a, t ∈ b)

structure Ext (a b a' b' : List Tx) : Prop where
  keepA : ∀ t ∈ a, t ∈ a'
  keepB : ∀ t ∈ b, t ∈ b'
  subA : ∀ t ∈ a', t ∈ a ∨ t ∈ b
  subB : ∀ t ∈ b', t ∈ a ∨ t ∈ b

theorem Ext.refl (a b : List Tx) : Ext a b a b := ⟨fun _ h => h, fun _ h => h, fun _ => .inl, fun _ => .inr⟩

theorem Ext.trans {a b a₁ b₁ a₂ b₂ : List Tx} (h : Ext a b a₁ b₁) (k : Ext a₁ b₁ a₂ b₂) : Ext a b a₂ b₂ :=
  ⟨fun t ht => k.keepA t (h.keepA t ht), fun t ht => k.keepB t (h.keepB t ht),
   fun t ht => (k.subA t ht).elim (h.subA t) (h.subB t), fun t ht => (k.subB t ht).elim (h.subA t) (h.subB t)⟩

theorem Ext.sameSet {a b a' b' : List Tx} (h : Ext a b a' b') (hs : SameSet a b) : SameSet a' b' :=
  ⟨fun t ht => (h.subB t ht).elim (h.keepA t) fun hb => h.keepA t (hs.1 t hb),
   fun t ht => (h.subA t ht).elim (fun ha => h.keepB t (hs.2 t ha)) (h.keepB t)⟩

theorem pull_half {cfg : Cfg} {env : Env} (H : Hyp cfg env) (U : List Tx)
    (hU : ∀ t ∈ U, ∀ t' ∈ U, t.ref = t'.ref → t = t')
    (hxf : ∀ d d' : List Tx, DagOK d → DagOK d' → (∀ t ∈ d, t ∈ U) → (∀ t ∈ d', t ∈ U) → xorOf d' = xorOf d → ∀ t ∈ d', t ∈ d)
    (pX pY : Peer) (fuel : Nat) (hfuel : pageOf cfg (lcOf U) + 3 ≤ fuel) (x y : Node)
    (nx : NI x) (ny : NI y) (okx : DagOK x.dag) (oky : DagOK y.dag) (ux : ∀ t ∈ x.dag, t ∈ U) (uy : ∀ t ∈ y.dag, t ∈ U)
    (rx : ∀ t ∈ U, t.prevs = [] → t ∈ x.dag) (ly : Linked y pX.key) (hc : x.convs = []) :
    ∃ x' y', pullRound cfg env pX pY fuel x y = (x', y') ∧ y'.dag = y.dag ∧ y'.convs = y.convs ∧
      NI x' ∧ NI y' ∧ SameShape x x' ∧ SameShape y y' ∧
      Result cfg x.dag y.dag (pageOf cfg (Nat.min (lcOf y.dag) (lcOf x.dag))) x' := by
  obtain ⟨x', hp, hd, hr⟩ := pull_result H x y pX pY
    ⟨okx, fun t ht t' ht' he => hU t (ht.elim (ux t) (uy t)) t' (ht'.elim (ux t') (uy t')) he, fun t ht he => rx t (uy t ht) he⟩
    oky (payloadsOK_of_NI ny) (queueOK_of ny ly) hc
    (fun d hd _ hsub hx => hxf d y.dag hd oky (fun t ht => (hsub t ht).elim (ux t) (uy t)) uy hx)
    fuel (by have := pageOf_mono cfg (lcOf_le_of_sub uy); omega)
  obtain ⟨n1, n2, s1, s2⟩ := pullRound_NI cfg env pX pY fuel x y nx ny
  rw [hp] at n1 n2 s1 s2
  refine ⟨x', _, hp, hd, ?_, n1, n2, s1, s2, hr⟩
  fun_cases gossipTick y pX.key <;> rfl

theorem roundPair_step {cfg : Cfg} {env : Env} (H : Hyp cfg env) (U : List Tx)
    (hU : ∀ t ∈ U, ∀ t' ∈ U, t.ref = t'.ref → t = t')
    (hxf : ∀ d d' : List Tx, DagOK d → DagOK d' → (∀ t ∈ d, t ∈ U) → (∀ t ∈ d', t ∈ U) → xorOf d' = xorOf d → ∀ t ∈ d', t ∈ d)
    (pA pB : Peer) (fuel : Nat) (hfuel : pageOf cfg (lcOf U) + 3 ≤ fuel) (a b : Node) (hI : PairInv U a b pA.key pB.key) :
    PairInv U (roundPair cfg env pA pB fuel (a, b)).1 (roundPair cfg env pA pB fuel (a, b)).2 pA.key pB.key ∧
    Ext a.dag b.dag (roundPair cfg env pA pB fuel (a, b)).1.dag (roundPair cfg env pA pB fuel (a, b)).2.dag ∧
    (SameSet (roundPair cfg env pA pB fuel (a, b)).1.dag (roundPair cfg env pA pB fuel (a, b)).2.dag ∨
      a.dag.length + b.dag.length < (roundPair cfg env pA pB fuel (a, b)).1.dag.length + (roundPair cfg env pA pB fuel (a, b)).2.dag.length) := by
  obtain ⟨ea1, ea2, ea3, ea4⟩ := expireAll_facts a
  obtain ⟨eb1, eb2, eb3, eb4⟩ := expireAll_facts b
  obtain ⟨a2, b2, hp1, hb2dag, hb2c, na2, nb2, sa2, sb2, g2, out2⟩ := pull_half H U hU hxf pA pB fuel hfuel (expireAll a) (expireAll b)
    (ea3 hI.nia) (eb3 hI.nib) (ea2 ▸ hI.oka) (eb2 ▸ hI.okb) (ea2 ▸ hI.ua) (eb2 ▸ hI.ub) (ea2 ▸ hI.ra) (hI.lb.shape eb4) ea1
  rw [ea2, eb2] at g2 out2
  rw [eb2] at hb2dag
  have ha2U : ∀ t ∈ a2.dag, t ∈ U := fun t ht => (g2.src t ht).elim (hI.ua t) (hI.ub t)
  obtain ⟨b3, a3, hp2, ha3dag, _, nb3, na3, sb3, sa3, g3, out3⟩ := pull_half H U hU hxf pB pA fuel hfuel b2 a2
    nb2 na2 (hb2dag ▸ hI.okb) g2.ok (hb2dag ▸ hI.ub) ha2U (hb2dag ▸ hI.rb) ((hI.la.shape ea4).shape sa2) (hb2c.trans eb1)
  rw [hb2dag] at g3 out3
  have hres : roundPair cfg env pA pB fuel (a, b) = (a3, b3) := by
    unfold roundPair
    simp only
    rw [hp1]
    simp only
    rw [hp2]
  rw [hres]
  simp only
  rw [ha3dag]
  have sub3 : ∀ t ∈ b3.dag, t ∈ a.dag ∨ t ∈ b.dag := fun t ht => (g3.src t ht).elim .inr (g2.src t)
  refine ⟨⟨na3, nb3, ha3dag ▸ g2.ok, g3.ok, ha3dag ▸ ha2U, fun t ht => (sub3 t ht).elim (hI.ua t) (hI.ub t),
      fun t ht he => ha3dag ▸ g2.sub t (hI.ra t ht he), fun t ht he => g3.sub t (hI.rb t ht he),
      ((hI.la.shape ea4).shape sa2).shape sa3, ((hI.lb.shape eb4).shape sb2).shape sb3⟩,
    ⟨g2.sub, g3.sub, g2.src, sub3⟩, ?_⟩
  by_cases hg1 : ∃ t ∈ a2.dag, t ∉ a.dag
  · right
    have h1 := length_lt_of_new hI.oka g2.sub hg1
    have h2 := length_le_of_sub hI.okb g3.sub
    omega
  · by_cases hg2 : ∃ t ∈ b3.dag, t ∉ b.dag
    · right
      have h1 := length_le_of_sub hI.oka g2.sub
      have h2 := length_lt_of_new hI.okb g3.sub hg2
      omega
    · left
      -- both pulls were stuck: a2 = a and b3 = b, and the pair argument applies
      have ha2 : a2.dag = a.dag := g2.same hg1
      rw [ha2] at out3 ⊢
      obtain ⟨hba, hab⟩ := pair_stuck_same cfg H.ps a.dag b.dag hI.oka hI.okb (out2.resolve_left hg1) (out3.resolve_left hg2)
      rw [g3.same hg2]
      exact ⟨hba, hab⟩

theorem roundPairs_succ (cfg : Cfg) (env : Env) (pA pB : Peer) (fuel k : Nat) (ab : Node × Node) :
    roundPairs cfg env pA pB fuel (k + 1) ab = roundPairs cfg env pA pB fuel k (roundPair cfg env pA pB fuel ab) := rfl

theorem converge_aux {cfg : Cfg} {env : Env} (H : Hyp cfg env) (U : List Tx)
    (hU : ∀ t ∈ U, ∀ t' ∈ U, t.ref = t'.ref → t = t')
    (hxf : ∀ d d' : List Tx, DagOK d → DagOK d' → (∀ t ∈ d, t ∈ U) → (∀ t ∈ d', t ∈ U) → xorOf d' = xorOf d → ∀ t ∈ d', t ∈ d)
    (pA pB : Peer) (fuel : Nat) (hfuel : pageOf cfg (lcOf U) + 3 ≤ fuel) :
    ∀ (k : Nat) (a b : Node), PairInv U a b pA.key pB.key →
      PairInv U (roundPairs cfg env pA pB fuel k (a, b)).1 (roundPairs cfg env pA pB fuel k (a, b)).2 pA.key pB.key ∧
      Ext a.dag b.dag (roundPairs cfg env pA pB fuel k (a, b)).1.dag (roundPairs cfg env pA pB fuel k (a, b)).2.dag ∧
      (SameSet (roundPairs cfg env pA pB fuel k (a, b)).1.dag (roundPairs cfg env pA pB fuel k (a, b)).2.dag ∨
        a.dag.length + b.dag.length + k ≤ (roundPairs cfg env pA pB fuel k (a, b)).1.dag.length + (roundPairs cfg env pA pB fuel k (a, b)).2.dag.length) := by
  intro k
  induction k with
  | zero => intro a b hI; exact ⟨hI, .refl _ _, .inr (Nat.le_refl _)⟩
  | succ k ih =>
    intro a b hI
    obtain ⟨hI1, e1, hcase⟩ := roundPair_step H U hU hxf pA pB fuel hfuel a b hI
    rw [roundPairs_succ]
    generalize roundPair cfg env pA pB fuel (a, b) = ab1 at hI1 e1 hcase ⊢
    obtain ⟨a1, b1⟩ := ab1
    obtain ⟨hIk, ek, hk⟩ := ih a1 b1 hI1
    refine ⟨hIk, e1.trans ek, ?_⟩
    rcases hcase with hs | hg
    · exact .inl (ek.sameSet hs)
    · exact hk.imp id fun h => by simp only at hg; omega

end Nuts.Proto.Live
