/-
  C08 — the state invariant `SInv` (graph invariant + both trees are what the stored transactions imply) and its
  preservation by `add` (all outcomes), rollback and restart; `add` itself as its read phase followed by its write body
  (`add_eq`) and by outcome (`add_cases`).  Core Lean only.
-/
import NutsProofs.Lemmas.C08Digest
import NutsProofs.Lemmas.C08Graph
import NutsProofs.Lemmas.C08Data
import NutsModel.C08.Phases

namespace Nuts.C08

variable {n : Nat}

/-- the regenerated facts the state theorems need -/
structure Good (cfg : Cfg) : Prop where
  pos : 0 < cfg.pageSize
  even : cfg.pageSize % 2 = 0
  resets : cfg.loadEmptyResets = true

structure SInv (cfg : Cfg) (s : State n) : Prop where
  g : GInv s.disk
  lc : s.mem.lcHigh = s.disk.lcHigh
  x : TreeOK xorOps cfg.pageSize (refClocks s.disk.txs) (maxClock s.disk.txs) s.mem.xorTree s.disk.xorLeaves
  i : TreeOK (ibltOps n) cfg.pageSize (keyClocks s.disk.txs) (maxClock s.disk.txs) s.mem.ibltTree s.disk.ibltLeaves

theorem SInv.init (cfg : Cfg) : SInv cfg (State.init cfg : State n) :=
  ⟨GInv.empty, rfl, Or.inl ⟨rfl, rfl, rfl⟩, Or.inl ⟨rfl, rfl, rfl⟩⟩

theorem SInv.reload {cfg : Cfg} (G : Good cfg) {s : State n} (h : SInv cfg s) (m0 : Mem n)
    (hx : m0.xorTree.leafSize = cfg.pageSize) (hi : m0.ibltTree.leafSize = cfg.pageSize) :
    SInv cfg { disk := s.disk, mem := loadState cfg s.disk m0 } := by
  refine ⟨h.g, rfl, ?_, ?_⟩
  · simp only [loadState, G.resets]
    exact h.x.load xor_lawful G.even _ hx
  · simp only [loadState, G.resets]
    exact h.i.load (iblt_lawful n) G.even _ hi

theorem SInv.rollback {cfg : Cfg} (G : Good cfg) {s : State n} (h : SInv cfg s) : SInv cfg (rollback cfg s) :=
  h.reload G s.mem (h.x.view xor_lawful G.pos (key := (·.ref))).2.1 (h.i.view (iblt_lawful n) G.pos (key := Tx.ikey)).2.1

theorem SInv.restart {cfg : Cfg} (G : Good cfg) {s : State n} (h : SInv cfg s) : SInv cfg (restart cfg s) :=
  h.reload G (Mem.fresh cfg) rfl rfl

theorem SInv.rollback_partial {cfg : Cfg} (G : Good cfg) {s : State n} (h : SInv cfg s) (tx : Tx) (stage : Nat) :
    SInv cfg (Nuts.C08.rollback cfg (partialUpdate s tx stage)) ∧
    (Nuts.C08.rollback cfg (partialUpdate s tx stage)).disk = s.disk := by
  have hx := h.x.view xor_lawful G.pos (key := (·.ref))
  have hi := h.i.view (iblt_lawful n) G.pos (key := Tx.ikey)
  refine ⟨?_, rfl⟩
  apply h.reload G (partialUpdate s tx stage).mem
  · show (if stage ≥ 2 then (s.mem.xorTree.insert xorOps tx.ref tx.clock).resetUpdates else s.mem.xorTree).leafSize = _
    split
    · show (s.mem.xorTree.insert xorOps tx.ref tx.clock).leafSize = _
      rw [(insert_spec xor_lawful _ hx.1 tx.ref tx.clock).2.1, hx.2.1]
    · exact hx.2.1
  · show (s.mem.ibltTree.insert (ibltOps n) tx.ikey tx.clock).leafSize = _
    rw [(insert_spec (iblt_lawful n) _ hi.1 tx.ikey tx.clock).2.1, hi.2.1]

theorem SInv.commit {cfg : Cfg} (G : Good cfg) {s : State n} (h : SInv cfg s) {tx : Tx} {d : Disk n}
    (hg : GInv d) (htx : d.txs = s.disk.txs ++ [tx]) (hx : d.xorLeaves = s.disk.xorLeaves)
    (hi : d.ibltLeaves = s.disk.ibltLeaves) (hlc : d.lcHigh = max s.disk.lcHigh tx.clock)
    (hle : tx.clock ≤ maxClock s.disk.txs + 1) (hempty : s.disk.txs = [] → tx.clock = 0) :
    SInv cfg (updateState s d tx) ∧ (updateState s d tx).disk.txs = s.disk.txs ++ [tx] ∧
    (updateState s d tx).mem.xorTree.leafSize = cfg.pageSize ∧ (updateState s d tx).mem.ibltTree.leafSize = cfg.pageSize := by
  have sinv : SInv cfg (updateState s d tx) := by
    refine ⟨hg.of_eq rfl rfl rfl rfl rfl, ?_, ?_, ?_⟩
    · show (if s.mem.lcHigh ≥ tx.clock then s.mem.lcHigh else tx.clock) = d.lcHigh
      rw [hlc, h.lc]
      by_cases hc : s.disk.lcHigh ≥ tx.clock <;> simp [hc] <;> omega
    · show TreeOK xorOps cfg.pageSize (refClocks d.txs) (maxClock d.txs) _ _
      rw [htx]
      simp only [updateState, hx]
      exact h.x.write xor_lawful G.pos (key := (·.ref)) tx hle hempty
    · show TreeOK (ibltOps n) cfg.pageSize (keyClocks d.txs) (maxClock d.txs) _ _
      rw [htx]
      simp only [updateState, hi]
      exact h.i.write (iblt_lawful n) G.pos (key := Tx.ikey) tx hle hempty
  exact ⟨sinv, htx, (sinv.x.view xor_lawful G.pos (key := (·.ref))).2.1, (sinv.i.view (iblt_lawful n) G.pos (key := Tx.ikey)).2.1⟩

theorem add_eq (c : Cfg) (s : State n) (tx : Tx) (opt : AddOpts) :
    add c s tx opt = (match addRead s tx with
      | .present => (s, .ok ())
      | .refused r => (s, r)
      | .proceed => writeBody c s tx opt) := by
  unfold add addRead writeBody
  cases hp : s.disk.isPresent tx.ref
  · simp only [Bool.false_eq_true, if_false]
    cases hv : s.disk.verifyPrevs tx with
    | ok u => cases u; rfl
    | err e => rfl
    | panic e => rfl
  · rfl

theorem add_of_verified (c : Cfg) (s : State n) (tx : Tx) (opt : AddOpts)
    (hp : s.disk.isPresent tx.ref = false) (hv : s.disk.verifyPrevs tx = .ok ()) :
    add c s tx opt = writeBody c s tx opt := by
  rw [add_eq, show addRead s tx = .proceed by simp only [addRead, hp, hv, Bool.false_eq_true, if_false]]

/-- `state.Add` by cases: the transaction is present (nothing happens); or an error is reported and the state is the
    old one (verifier), the rolled-back one, or the rolled-back partial update; or `graph.add` stored the transaction and
    the commit decides. -/
theorem add_cases (cfg : Cfg) (s : State n) (tx : Tx) (opt : AddOpts) :
    (s.disk.isPresent tx.ref = true ∧ add cfg s tx opt = (s, .ok ())) ∨
    s.disk.isPresent tx.ref = false ∧
      (((add cfg s tx opt).2 ≠ .ok () ∧ ((add cfg s tx opt).1 = s ∨ (add cfg s tx opt).1 = rollback cfg s ∨
          ∃ k, (add cfg s tx opt).1 = rollback cfg (partialUpdate s tx k))) ∨
       ∃ d, s.disk.verifyPrevs tx = .ok () ∧ s.disk.graphAdd tx = .ok d ∧
         add cfg s tx opt =
           if opt.commitFails then (rollback cfg { updateState s d tx with disk := s.disk }, .err "commit-failed")
           else (updateState s d tx, .ok ())) := by
  rw [add_eq]
  fun_cases addRead s tx with
  | case1 hp => exact .inl ⟨hp, rfl⟩
  | case3 hp hv => exact .inr ⟨Bool.eq_false_iff.mpr hp, .inl ⟨hv, .inl rfl⟩⟩
  | case2 hp hv =>
    refine .inr ⟨Bool.eq_false_iff.mpr hp, ?_⟩
    fun_cases writeBody cfg s tx opt with
    | case1 | case2 | case3 | case4 | case5 | case6 | case7 | case8 => exact .inl ⟨nofun, .inr (.inl rfl)⟩
    | case9 => exact .inl ⟨nofun, .inr (.inr ⟨1, rfl⟩)⟩
    | case10 => exact .inl ⟨nofun, .inr (.inr ⟨2, rfl⟩)⟩
    | case11 _ _ _ _ _ _ d hd _ _ _ _ _ _ hf => exact .inr ⟨d, hv, hd, (if_pos hf).symm⟩
    | case12 _ _ _ _ _ _ d hd _ _ _ _ _ _ hf => exact .inr ⟨d, hv, hd, (if_neg hf).symm⟩

theorem add_nofault (cfg : Cfg) (s : State n) (tx : Tx) :
    add cfg s tx {} =
      if s.disk.isPresent tx.ref then (s, .ok ())
      else match s.disk.verifyPrevs tx with
        | .err e => (s, .err e)
        | .panic e => (s, .panic e)
        | .ok () => match s.disk.graphAdd tx with
          | .ok d => (updateState s d tx, .ok ())
          | .err e => (rollback cfg s, .err e)
          | .panic e => (rollback cfg s, .panic e) := by
  rw [add_eq]
  unfold addRead writeBody
  by_cases hp : s.disk.isPresent tx.ref = true
  · rw [if_pos hp, if_pos hp]
  simp only [if_neg hp]
  cases s.disk.verifyPrevs tx with
  | err e => rfl
  | panic e => rfl
  | ok u =>
    cases u
    cases s.disk.graphAdd tx <;> rfl

theorem add_free {cfg : Cfg} {s : State n} (g : GInv s.disk) {t : Tx} (hp : s.disk.isPresent t.ref = false) :
    ((add cfg s t {}).2 = .ok () ↔
      s.disk.verifyPrevs t = .ok () ∧ (t.prevs.isEmpty && !((getSorted 0 s.disk.clocks).getD []).isEmpty) = false) ∧
    ((add cfg s t {}).2 = .ok () → (add cfg s t {}).1.disk.head =
      if t.clock > s.disk.lcHigh ∨ t.clock = 0 then some t.ref else s.disk.head) := by
  rw [add_nofault, hp, graphAdd_eq g hp]
  cases s.disk.verifyPrevs t with
  | err e => simp
  | panic e => simp
  | ok u =>
    cases (t.prevs.isEmpty && !((getSorted 0 s.disk.clocks).getD []).isEmpty) with
    | true => simp
    | false => simp [updateState, Disk.store]

theorem SInv.add {cfg : Cfg} (G : Good cfg) {s : State n} (h : SInv cfg s) (tx : Tx) (opt : AddOpts) :
    SInv cfg (add cfg s tx opt).1 ∧
    ((add cfg s tx opt).2 ≠ .ok () → (add cfg s tx opt).1.disk = s.disk) ∧
    ((add cfg s tx opt).2 = .ok () →
      ((add cfg s tx opt).1 = s ∧ s.disk.isPresent tx.ref = true) ∨
      ((add cfg s tx opt).1.disk.txs = s.disk.txs ++ [tx] ∧ s.disk.isPresent tx.ref = false)) := by
  rcases add_cases cfg s tx opt with ⟨hp, e⟩ | ⟨hp, ⟨hne, e⟩ | ⟨d, hv, hd, e⟩⟩
  · rw [e]; exact ⟨h, fun ne => absurd rfl ne, fun _ => .inl ⟨rfl, hp⟩⟩
  · refine ⟨?_, fun _ => ?_, fun ok => absurd ok hne⟩
    · rcases e with e | e | ⟨k, e⟩ <;> rw [e]
      · exact h
      · exact h.rollback G
      · exact (h.rollback_partial G tx k).1
    · rcases e with e | e | ⟨k, e⟩ <;> rw [e] <;> rfl
  · rcases graphAdd_spec h.g hp hv with hr | ⟨d', hd', hg, htx, hx, hi, hlc, hle, hempty⟩
    · rw [hr] at hd; cases hd
    · cases hd.symm.trans hd'
      have c := h.commit G hg htx hx hi hlc hle hempty
      rw [e]
      by_cases hf : opt.commitFails = true
      · rw [if_pos hf]
        exact ⟨h.reload G (updateState s d tx).mem c.2.2.1 c.2.2.2, fun _ => rfl, nofun⟩
      · rw [if_neg hf]
        exact ⟨c.1, fun ne => absurd rfl ne, fun _ => .inr ⟨c.2.1, hp⟩⟩

end Nuts.C08
