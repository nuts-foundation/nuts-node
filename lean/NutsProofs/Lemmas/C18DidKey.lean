import NutsModel.C18.DidKey

namespace Nuts.C18

/-! ### did:key (vdr/didkey/resolver.go) -/

theorem resolveKeyClass_ok (table : List (Nat × String × KeyAct)) (id : Bytes) (decoded : Option Bytes) (lib : KeyLib)
    (h : resolveKeyClass table id decoded lib = .ok) :
    id.head? = some cZ ∧ ∃ mc code key row, decoded = some mc ∧ readUvarint mc = .ok (code, key) ∧
      table.find? (fun r => r.1 = code) = some row ∧
      (match row.2.2 with
       | .unsupported => False
       | .fixedLen n => key.length = n
       | .ec (some n) => key.length = n ∧ lib.ecOK = true
       | .ec none => lib.ecOK = true
       | .rsa => lib.rsa ≠ "parse" ∧ lib.rsa ≠ "small") := by
  revert h
  fun_cases resolveKeyClass table id decoded lib with
  | case9 c cs hc mc code key hr c0 name n hl hf =>
    exact fun _ => ⟨by simpa using hc, mc, code, key, _, rfl, hr, hf, Decidable.not_not.mp hl⟩
  | case11 c cs hc mc code key hr c0 name n hl he hf =>
    exact fun _ => ⟨by simpa using hc, mc, code, key, _, rfl, hr, hf, Decidable.not_not.mp hl, he⟩
  | case13 c cs hc mc code key hr c0 name he hf =>
    exact fun _ => ⟨by simpa using hc, mc, code, key, _, rfl, hr, hf, he⟩
  | case17 c cs hc mc code key hr c0 name h1 h2 hf =>
    exact fun _ => ⟨by simpa using hc, mc, code, key, _, rfl, hr, hf, h1, h2⟩
  | _ => nofun

theorem appendUvarint_lt {n : Nat} (h : n < 128) : appendUvarint n = [n] := by
  rw [appendUvarint, dif_pos h]

theorem appendUvarint_ge {n : Nat} (h : ¬ n < 128) : appendUvarint n = (n % 128 + 128) :: appendUvarint (n / 128) := by
  rw [appendUvarint, dif_neg h]

/-- with `k` bytes still allowed after this one (the tenth may only carry one bit: `2 ^ 64 = 2 * 128 ^ 9`) -/
theorem readUvarintAux_append : ∀ (k n i x s : Nat) (rest : Bytes), i + k = 9 → n < 2 * 128 ^ k →
    readUvarintAux (appendUvarint n ++ rest) i x s = .ok (x + n * 2 ^ s, rest)
  | k, n, i, x, s, rest, hi, hn => by
    have h10 : ¬ i = 10 := fun h => absurd (h ▸ Nat.le.intro hi) (by decide)
    by_cases hlt : n < 128
    · have h9 : ¬ (i = 9 ∧ n > 1) := fun ⟨h9, h1⟩ => by
        have : k = 0 := by omega
        subst this
        omega
      rw [appendUvarint_lt hlt, List.singleton_append, readUvarintAux, if_neg h10, if_pos hlt, if_neg h9]
    · match k, hi, hn with
      | 0, _, hn => omega
      | k + 1, hi, hn =>
        have hdiv : n / 128 < 2 * 128 ^ k :=
          Nat.div_lt_of_lt_mul (by rw [Nat.pow_succ, Nat.mul_comm _ 128, Nat.mul_left_comm] at hn; exact hn)
        rw [appendUvarint_ge hlt, List.cons_append, readUvarintAux, if_neg h10, if_neg (Nat.not_lt.mpr (Nat.le_add_left _ _)),
          readUvarintAux_append k (n / 128) (i + 1) _ (s + 7) rest (by omega) hdiv,
          Nat.add_mod_right, Nat.mod_mod, Nat.pow_add, Nat.add_assoc]
        congr 2
        conv => rhs; rw [← Nat.mod_add_div n 128]
        rw [Nat.add_mul, Nat.mul_assoc, Nat.mul_comm 128, Nat.mul_assoc (n / 128)]

end Nuts.C18
