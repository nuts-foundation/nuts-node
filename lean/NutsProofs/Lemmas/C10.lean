/-
  C10 — the store as a map from DID to per-DID state: what `add` writes (`add_new`, `add_cases`, `add_get`), the projection of a
  store run to the run of one DID (`addAll_get`), the store invariant `StoreInv` with `add_step` (what a committed Add does to a
  store that satisfies it), and the two counters as functions of what `Store.get` answers (`counts_determined`).
-/
import NutsProofs.Lemmas.C10Did

namespace Nuts.C10

theorem add_of_none {cfg : Cfg} {s : Store} {e : Event} (hd : addDid cfg (s.get e.doc.id) e = .ok none) :
    add cfg s e = .ok s := by
  simp only [add, hd]

theorem add_new {cfg : Cfg} {s : Store} {e : Event} {st' : DidState}
    (hd : addDid cfg (s.get e.doc.id) e = .ok (some st')) :
    ∃ p, st'.chain.getLast? = some p ∧ st'.conflicted = p.2.isConflicted ∧
      add cfg s e = .ok
        { dids := alPut s.dids e.doc.id st'
          conflictedCount :=
            if st'.conflicted then (if (s.get e.doc.id).conflicted then s.conflictedCount else s.conflictedCount + 1)
            else (if (s.get e.doc.id).conflicted then s.conflictedCount - 1 else s.conflictedCount)
          documentCount := if p.2.version = 0 then s.documentCount + 1 else s.documentCount
          cache := if st'.conflicted then alPut s.cache p.1.id p else alDel s.cache p.1.id } := by
  obtain ⟨_, suffix, last, _, hl, rfl⟩ := addDid_some hd
  refine ⟨last, hl, rfl, ?_⟩
  simp only [add, hd, hl]

theorem add_cases {cfg : Cfg} {s s' : Store} {e : Event} (h : add cfg s e = .ok s') :
    (addDid cfg (s.get e.doc.id) e = .ok none ∧ s' = s) ∨ ∃ st', addDid cfg (s.get e.doc.id) e = .ok (some st') := by
  cases hd : addDid cfg (s.get e.doc.id) e with
  | err x => simp only [add, hd] at h; cases h
  | panic x => simp only [add, hd] at h; cases h
  | ok r =>
    cases r with
    | none => exact Or.inl ⟨rfl, Res.ok.inj ((add_of_none hd).symm.trans h).symm⟩
    | some st' => exact Or.inr ⟨st', rfl⟩

theorem get_of_dids {s s' : Store} {k : String} {v : DidState} (h : s'.dids = alPut s.dids k v) (j : String) :
    s'.get j = if j = k then v else s.get j := by
  simp only [Store.get, h, alGet_alPut, beq_iff_eq]
  split <;> rfl

theorem get_empty (id : String) : (({} : Store).get id) = {} := rfl

theorem get_cases (s : Store) (id : String) :
    (alGet s.dids id = none ∧ s.get id = {}) ∨ ∃ st, alGet s.dids id = some st ∧ s.get id = st := by
  unfold Store.get
  cases alGet s.dids id with
  | none => exact Or.inl ⟨rfl, rfl⟩
  | some st => exact Or.inr ⟨st, rfl, rfl⟩

theorem add_get (cfg : Cfg) (s s' : Store) (e : Event) (h : add cfg s e = .ok s') :
    (∀ j, j ≠ e.doc.id → s'.get j = s.get j) ∧
    ((addDid cfg (s.get e.doc.id) e = .ok none ∧ s' = s) ∨
     (addDid cfg (s.get e.doc.id) e = .ok (some (s'.get e.doc.id)))) := by
  rcases add_cases h with ⟨hn, rfl⟩ | ⟨st', hd⟩
  · exact ⟨fun _ _ => rfl, Or.inl ⟨hn, rfl⟩⟩
  · obtain ⟨_, _, _, ha⟩ := add_new hd
    have hg := get_of_dids (congrArg Store.dids (Res.ok.inj (h.symm.trans ha)))
    exact ⟨fun j hj => (hg j).trans (if_neg hj), Or.inr (((hg _).trans (if_pos rfl)).symm ▸ hd)⟩

theorem add_mono (cfg : Cfg) (s s' : Store) (e : Event) (h : add cfg s e = .ok s') (id : String) (x : Event)
    (hx : x ∈ (s.get id).events) : x ∈ (s'.get id).events := by
  obtain ⟨hother, hown⟩ := add_get cfg s s' e h
  by_cases hid : id = e.doc.id
  · subst hid
    rcases hown with ⟨_, rfl⟩ | hsome
    · exact hx
    · exact (addDid_mono cfg _ _ e hsome).2 x hx
  · rw [hother id hid]; exact hx

theorem addAll_nil (cfg : Cfg) (s : Store) : addAll cfg s [] = .ok s := rfl

theorem addAll_cons (cfg : Cfg) (s : Store) (e : Event) (es : List Event) :
    addAll cfg s (e :: es) = (add cfg s e).bind fun s' => addAll cfg s' es := by
  rw [addAll]
  cases add cfg s e <;> rfl

theorem addAll_get (cfg : Cfg) :
    ∀ (l : List Event) (s s' : Store), addAll cfg s l = .ok s' →
      ∀ id, addDidAll cfg (s.get id) (l.filter (fun e => e.doc.id = id)) = .ok (s'.get id) := by
  intro l
  induction l with
  | nil => intro s s' h id; simp only [addAll, Res.ok.injEq] at h; subst h; rfl
  | cons e es ih =>
    intro s s' h id
    rw [addAll_cons] at h
    obtain ⟨s1, h1, hr⟩ := Res.bind_eq_ok.mp h
    obtain ⟨hother, hself⟩ := add_get cfg s s1 e h1
    by_cases hid : e.doc.id = id
    · subst hid
      rw [List.filter_cons_of_pos (by simp), addDidAll_cons]
      rcases hself with ⟨hn, rfl⟩ | hs
      · rw [hn]; exact ih _ _ hr _
      · rw [hs]; exact ih _ _ hr _
    · rw [List.filter_cons_of_neg (by simpa using hid), ← hother id (fun x => hid x.symm)]
      exact ih _ _ hr id

def keys (s : Store) : List String := s.dids.map (·.1)

structure StoreInv (cfg : Cfg) (s : Store) : Prop where
  nodup : (keys s).Nodup
  each : ∀ p ∈ s.dids, Inv cfg p.2 ∧ p.2.events ≠ [] ∧ ∀ e ∈ p.2.events, e.doc.id = p.1
  docs : s.documentCount = s.dids.length
  confl : s.conflictedCount = (s.dids.filter (fun p => p.2.conflicted)).length

theorem storeInv_empty (cfg : Cfg) : StoreInv cfg {} :=
  ⟨List.nodup_nil, nofun, rfl, rfl⟩

theorem get_of_mem {cfg : Cfg} {s : Store} (h : StoreInv cfg s) {p : String × DidState} (hp : p ∈ s.dids) :
    s.get p.1 = p.2 := by
  rw [Store.get, alGet_of_mem_of_nodup h.nodup hp]; rfl

theorem get_inv (cfg : Cfg) (s : Store) (h : StoreInv cfg s) (id : String) : Inv cfg (s.get id) := by
  rcases get_cases s id with ⟨_, he⟩ | ⟨st, hg, he⟩ <;> rw [he]
  · exact inv_empty cfg
  · exact (h.each _ (mem_of_alGet_eq_some hg)).1

theorem get_ids {cfg : Cfg} {s : Store} (h : StoreInv cfg s) (id : String) : ∀ e ∈ (s.get id).events, e.doc.id = id := by
  rcases get_cases s id with ⟨_, he⟩ | ⟨st, hg, he⟩ <;> rw [he]
  · exact fun _ h => nomatch h
  · exact (h.each _ (mem_of_alGet_eq_some hg)).2.2

structure Committed (cfg : Cfg) (s : Store) (e : Event) (s' : Store) (st' : DidState) (p : Doc × Meta) : Prop where
  did : addDid cfg (s.get e.doc.id) e = .ok (some st')
  inv : Inv cfg st'
  perm : st'.events.Perm (e :: (s.get e.doc.id).events)
  ids : ∀ x ∈ st'.events, x.doc.id = e.doc.id
  last : st'.chain.getLast? = some p
  version : p.2.version = (s.get e.doc.id).events.length
  flag : st'.conflicted = p.2.isConflicted
  store : s' =
    { dids := alPut s.dids e.doc.id st'
      conflictedCount :=
        if st'.conflicted then (if (s.get e.doc.id).conflicted then s.conflictedCount else s.conflictedCount + 1)
        else (if (s.get e.doc.id).conflicted then s.conflictedCount - 1 else s.conflictedCount)
      documentCount := if p.2.version = 0 then s.documentCount + 1 else s.documentCount
      cache := if st'.conflicted then alPut s.cache p.1.id p else alDel s.cache p.1.id }

theorem add_step {cfg : Cfg} {s s' : Store} {e : Event} (hs : StoreInv cfg s) (h : add cfg s e = .ok s') :
    (addDid cfg (s.get e.doc.id) e = .ok none ∧ s' = s) ∨ ∃ st' p, Committed cfg s e s' st' p := by
  rcases add_cases h with ⟨hn, rfl⟩ | ⟨st', hadd⟩
  · exact Or.inl ⟨hn, rfl⟩
  obtain ⟨hinv', hperm⟩ := addDid_inv cfg _ e (get_inv cfg s hs _) st' hadd
  obtain ⟨p, hp, hc, ha⟩ := add_new hadd
  have hlen : st'.events.length = (s.get e.doc.id).events.length + 1 := hperm.length_eq
  obtain ⟨q, hq, hv⟩ := inv_last cfg st' hinv' (fun hnil => by rw [hnil] at hlen; cases hlen)
  rw [hp] at hq; cases hq
  refine Or.inr ⟨st', p, hadd, hinv', hperm, fun x hx => ?_, hp, by omega, hc, Res.ok.inj (h.symm.trans ha)⟩
  exact (List.mem_cons.mp (hperm.subset hx)).elim (· ▸ rfl) (get_ids hs _ x)

theorem add_storeInv (cfg : Cfg) (s s' : Store) (e : Event) (hs : StoreInv cfg s) (h : add cfg s e = .ok s') :
    StoreInv cfg s' := by
  rcases add_step hs h with ⟨_, rfl⟩ | ⟨st', p, hc⟩
  · exact hs
  obtain rfl := hc.store
  have hne' : st'.events ≠ [] := fun hnil => by have := hc.perm.length_eq; rw [hnil] at this; cases this
  refine ⟨nodup_keys_alPut _ _ hs.nodup, fun q hq => ?_, ?_, ?_⟩
  · rcases mem_alPut hq with rfl | hq
    · exact ⟨hc.inv, hne', hc.ids⟩
    · exact hs.each q hq
  · -- the first version of a DID is written iff the DID was not listed
    have hlen := filter_key_count (fun _ : DidState => true) s.dids e.doc.id hs.nodup
    simp only [List.filter_eq_self.mpr fun _ _ => rfl] at hlen
    show (if p.2.version = 0 then _ else _) = ((e.doc.id, st') :: alDel s.dids e.doc.id).length
    rw [hs.docs, hlen, List.length_cons, hc.version]
    rcases get_cases s e.doc.id with ⟨hg, he⟩ | ⟨st, hg, he⟩ <;> rw [hg, he]
    · rfl
    · have hpos : 0 < st.events.length := List.length_pos_iff.mpr (hs.each _ (mem_of_alGet_eq_some hg)).2.1
      rw [if_neg (by omega)]; rfl
  · have hcnt := filter_key_count (fun st : DidState => st.conflicted) s.dids e.doc.id hs.nodup
    have hwas : (alGet s.dids e.doc.id).map (fun st : DidState => st.conflicted) = some true ↔
        (s.get e.doc.id).conflicted = true := by
      rcases get_cases s e.doc.id with ⟨hg, he⟩ | ⟨st, hg, he⟩ <;> rw [hg, he] <;> simp
    show (if st'.conflicted = true then _ else _) = (((e.doc.id, st') :: alDel s.dids e.doc.id).filter _).length
    rw [hs.confl, hcnt, List.filter_cons]
    simp only [hwas]
    cases st'.conflicted <;> cases (s.get e.doc.id).conflicted <;> simp

theorem addAll_induction {cfg : Cfg} {P : Store → Prop} (hstep : ∀ s s' e, P s → add cfg s e = .ok s' → P s') :
    ∀ (l : List Event) (s s' : Store), P s → addAll cfg s l = .ok s' → P s' := by
  intro l
  induction l with
  | nil => intro s s' hs h; exact Res.ok.inj h ▸ hs
  | cons e es ih =>
    intro s s' hs h
    rw [addAll_cons] at h
    obtain ⟨s1, h1, h⟩ := Res.bind_eq_ok.mp h
    exact ih s1 s' (hstep s s1 e hs h1) h

theorem addAll_storeInv (cfg : Cfg) : ∀ (l : List Event) (s s' : Store), StoreInv cfg s → addAll cfg s l = .ok s' →
    StoreInv cfg s' :=
  addAll_induction (add_storeInv cfg)

theorem mem_keys_iff (cfg : Cfg) (s : Store) (hs : StoreInv cfg s) (k : String) :
    k ∈ keys s ↔ (s.get k).events ≠ [] := by
  constructor
  · intro hk
    obtain ⟨p, hp, rfl⟩ := List.mem_map.mp hk
    rw [get_of_mem hs hp]
    exact (hs.each p hp).2.1
  · intro hne
    rcases get_cases s k with ⟨_, he⟩ | ⟨st, hg, _⟩
    · exact absurd (congrArg DidState.events he) hne
    · exact List.mem_map.mpr ⟨_, mem_of_alGet_eq_some hg, rfl⟩

def conflKeys (s : Store) : List String := (s.dids.filter (fun p => p.2.conflicted)).map (·.1)

theorem conflKeys_nodup (cfg : Cfg) (s : Store) (hs : StoreInv cfg s) : (conflKeys s).Nodup :=
  List.Nodup.sublist (List.Sublist.map _ List.filter_sublist) hs.nodup

theorem mem_conflKeys_iff (cfg : Cfg) (s : Store) (hs : StoreInv cfg s) (k : String) :
    k ∈ conflKeys s ↔ (s.get k).conflicted = true := by
  unfold conflKeys
  constructor
  · intro hk
    obtain ⟨p, hp, rfl⟩ := List.mem_map.mp hk
    obtain ⟨hp1, hp2⟩ := List.mem_filter.mp hp
    rw [get_of_mem hs hp1]
    exact hp2
  · intro hc
    rcases get_cases s k with ⟨_, he⟩ | ⟨st, hg, he⟩ <;> rw [he] at hc
    · cases hc
    · exact List.mem_map.mpr ⟨(k, st), List.mem_filter.mpr ⟨mem_of_alGet_eq_some hg, hc⟩, rfl⟩

theorem keys_perm {cfg₁ cfg₂ : Cfg} {s₁ s₂ : Store} (h₁ : StoreInv cfg₁ s₁) (h₂ : StoreInv cfg₂ s₂)
    (hget : ∀ k, s₁.get k = s₂.get k) : (keys s₁).Perm (keys s₂) :=
  (List.perm_ext_iff_of_nodup h₁.nodup h₂.nodup).mpr fun k => by
    rw [mem_keys_iff cfg₁ s₁ h₁ k, mem_keys_iff cfg₂ s₂ h₂ k, hget k]

theorem counts_determined (cfg₁ cfg₂ : Cfg) (s₁ s₂ : Store) (h₁ : StoreInv cfg₁ s₁) (h₂ : StoreInv cfg₂ s₂)
    (hget : ∀ k, s₁.get k = s₂.get k) :
    s₁.documentCount = s₂.documentCount ∧ s₁.conflictedCount = s₂.conflictedCount := by
  constructor
  · rw [h₁.docs, h₂.docs]
    simpa [keys] using (keys_perm h₁ h₂ hget).length_eq
  · rw [h₁.confl, h₂.confl]
    have hp : (conflKeys s₁).Perm (conflKeys s₂) :=
      (List.perm_ext_iff_of_nodup (conflKeys_nodup cfg₁ s₁ h₁) (conflKeys_nodup cfg₂ s₂ h₂)).mpr fun k => by
        rw [mem_conflKeys_iff cfg₁ s₁ h₁ k, mem_conflKeys_iff cfg₂ s₂ h₂ k, hget k]
    simpa [conflKeys] using hp.length_eq

end Nuts.C10
