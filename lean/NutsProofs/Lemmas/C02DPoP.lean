/-
  C02 — the key binding on the resource-server side (NutsModel/C02/DPoP.lean): what a `valid` answer of `validateDPoP`
  established (`DPoPAccepted`), that every other answer leaves the jti store alone, and that a remembered jti stays
  remembered through any history of validations.
-/
import NutsModel.C02.DPoP
import NutsProofs.Lemmas.C02Store

namespace Nuts.C02

theorem dpopMatch_none (p : DPoPProof) (jkt method : String) (url : Option String)
    (h : dpopMatch p jkt method url = none) :
    p.jkt = jkt ∧ p.htm = method ∧ ∃ u, p.htu = some u ∧ url = some u := by
  revert h
  fun_cases dpopMatch p jkt method url with
  | case6 hj hm l hl r hlr =>
    exact fun _ => ⟨Decidable.of_not_not hj, (Decidable.of_not_not hm).symm, l, hl, by rw [Decidable.of_not_not hlr]⟩
  | _ => intro h; cases h

/-- the conjunction behind a `valid` answer -/
structure DPoPAccepted (ath : String → String) (ttl now : Nat) (st st' : Store Unit) (c : DPoPCheck) (p : DPoPProof) : Prop where
  parsed : c.proof = some p
  key : p.jkt = c.thumbprint
  method : p.htm = c.method
  url : ∃ u, p.htu = some u ∧ c.url = some u
  token : p.ath = .str (ath c.token)
  fresh : st.get now p.jti = none
  noFault : c.fault = false
  effect : st' = st.put now ttl p.jti ()

theorem validateDPoP_valid (ath : String → String) (ttl now : Nat) (st st' : Store Unit) (c : DPoPCheck)
    (h : validateDPoP ath ttl now st c = (st', .ok .valid)) : ∃ p, DPoPAccepted ath ttl now st st' c p := by
  revert h
  fun_cases validateDPoP ath ttl now st c with
  | case8 p hp hm a ha heq hf hg =>
    intro h
    obtain ⟨hk, hmeth, hurl⟩ := dpopMatch_none p _ _ _ hm
    exact ⟨p, hp, hk, hmeth, hurl, by rw [ha, Decidable.of_not_not heq], hg, Bool.eq_false_iff.2 hf, (Prod.mk.inj h).1.symm⟩
  | _ => intro h; cases h

theorem validateDPoP_state (ath : String → String) (ttl now : Nat) (st : Store Unit) (c : DPoPCheck) :
    (validateDPoP ath ttl now st c).2 = .ok .valid ∨ (validateDPoP ath ttl now st c).1 = st := by
  fun_cases validateDPoP ath ttl now st c with
  | case8 => exact .inl rfl
  | _ => exact .inr rfl

theorem validateDPoP_live (ath : String → String) (ttl now : Nat) (httl : ttl ≠ 0) (st : Store Unit) (c : DPoPCheck)
    (n : String) (b : Nat) (hb : b ≤ now + ttl) (h : Live st n b) : Live (validateDPoP ath ttl now st c).1 n b := by
  fun_cases validateDPoP ath ttl now st c with
  | case8 => exact live_put st now ttl _ n b httl h hb
  | _ => exact h

theorem runDPoP_live (ath : String → String) (ttl : Nat) (httl : ttl ≠ 0) (n : String) (b : Nat) :
    ∀ (hist : List (Nat × DPoPCheck)) (st : Store Unit), (∀ x ∈ hist, b ≤ x.1 + ttl) → Live st n b →
      Live (runDPoP ath ttl hist st) n b := by
  intro hist
  induction hist with
  | nil => intro st _ h; exact h
  | cons x rest ih =>
    intro st hall h
    obtain ⟨t, c⟩ := x
    unfold runDPoP
    exact ih _ (fun y hy => hall y (List.mem_cons_of_mem _ hy))
      (validateDPoP_live ath ttl t httl st c n b (hall (t, c) List.mem_cons_self) h)

theorem validateDPoP_rejects_live (ath : String → String) (ttl now : Nat) (st : Store Unit) (c : DPoPCheck) (p : DPoPProof)
    (hp : c.proof = some p) (b : Nat) (hlive : Live st p.jti b) (hnow : now ≤ b) :
    (validateDPoP ath ttl now st c).2 ≠ .ok .valid := by
  intro h
  have heq : validateDPoP ath ttl now st c = ((validateDPoP ath ttl now st c).1, .ok .valid) := by rw [← h]
  obtain ⟨p', hacc⟩ := validateDPoP_valid ath ttl now st _ c heq
  have : p' = p := by
    have := hacc.parsed
    rw [hp] at this
    exact (Option.some.inj this).symm
  subst this
  have := hlive.get hnow
  rw [hacc.fresh] at this
  cases this

end Nuts.C02
