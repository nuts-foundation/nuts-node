import NutsModel.C17.Kid
namespace Nuts.C17.Kid

theorem takeWhile_eq_self_or_split (p : Char → Bool) (l : List Char) :
    l.takeWhile p = l ∨ ∃ c rest, l = l.takeWhile p ++ c :: rest ∧ p c = false := by
  have h := List.takeWhile_append_dropWhile (p := p) (l := l)
  cases hd : l.dropWhile p with
  | nil => rw [hd, List.append_nil] at h; exact .inl h
  | cons c rest =>
    rw [hd] at h
    exact .inr ⟨c, rest, h.symm, by simpa [hd] using List.head?_dropWhile_not p l⟩

theorem didPart_append (l t : List Char) (h : '#' ∉ l) : didPart (l ++ t) = l ++ didPart t :=
  List.takeWhile_append_of_pos fun _ ha => decide_eq_true fun e => h (e ▸ ha)

theorem didPart_no_hash (l : List Char) (h : '#' ∉ l) : didPart l = l := by
  simpa [didPart] using didPart_append l [] h

theorem didPart_append_hash (l rest : List Char) (h : '#' ∉ l) : didPart (l ++ '#' :: rest) = l := by
  rw [didPart_append l _ h]; simp [didPart]

end Nuts.C17.Kid
