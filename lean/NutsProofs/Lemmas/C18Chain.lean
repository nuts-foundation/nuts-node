/-
  C18 — `resolve` for did:web in terms of its two chain members, the own store and `webOut` (NutsModel/C18/Chain.lean)
-/
import NutsModel.C18.Chain
import NutsProofs.Lemmas.C18Origin

namespace Nuts.C18

theorem resolveLocal_docID {st : LocalState} {allow : Bool} {d : DID} {r : ResolveResult}
    (h : resolveLocal st allow d = .ok r) : r.docID = d.str := by
  cases st <;> cases allow <;> cases h <;> rfl

theorem webOut_docID {dec : List Nat} {cts : List Bytes} {pol : Policy} {strict : Bool} {d : DID}
    {srv : Nat → Req → Option Resp} {r : ResolveResult} (h : (webOut dec cts pol strict d srv).2 = .ok r) :
    r.docID = d.str := by
  obtain ⟨res, hres, hid⟩ := resolveWeb_spec dec cts pol strict d srv
  unfold webOut at h; rw [hres] at h
  cases res with
  | ok id => cases h; exact hid id rfl
  | err e => cases h
  | panic p => cases h

variable {dec : List Nat} {cts : List Bytes} {pol : Policy} {lf strict : Bool} {n : Node} {allow : Bool} {d : DID}
  {srv : Nat → Req → Option Resp}

theorem resolve_web (hm : d.method = sWeb) :
    resolve dec cts pol lf strict n allow d srv =
      if n.didMethods.contains sWeb then
        if lf then
          match n.localState d with
          | .absent => webOut dec cts pol strict d srv
          | st => ([], resolveLocal st allow d)
        else webOut dec cts pol strict d srv
      else ([], .err "method-not-supported") := by
  unfold resolve
  rw [if_pos hm]
  cases n.didMethods.contains sWeb <;> rfl

theorem resolve_key (hm : d.method = sJwk ∨ d.method = sKey) :
    resolve dec cts pol lf strict n allow d srv = ([], if n.keyDecodes d then .ok { docID := d.str } else .err "invalid-key") := by
  unfold resolve
  rw [if_neg (by rcases hm with h | h <;> rw [h] <;> decide), if_pos (by simpa using hm)]

theorem resolve_nuts (hm : d.method = sNuts) :
    resolve dec cts pol lf strict n allow d srv =
      if n.didMethods.contains sNuts then ([], resolveLocal (n.nutsState d) allow d) else ([], .err "method-not-supported") := by
  unfold resolve
  rw [if_neg (by rw [hm]; decide), if_neg (by rw [hm]; decide), if_pos hm]
  cases n.didMethods.contains sNuts <;> rfl

theorem resolve_other (hw : d.method ≠ sWeb) (hk : ¬(d.method = sJwk ∨ d.method = sKey)) (hn : d.method ≠ sNuts)
    (reqs : List Req) (r : ResolveResult) : resolve dec cts pol lf strict n allow d srv ≠ (reqs, .ok r) := by
  unfold resolve
  rw [if_neg hw, if_neg (by simpa using hk), if_neg hn]
  split <;> nofun

end Nuts.C18
