/-
  The dispatcher model (NutsModel/C07/Dispatch.lean). Whatever the goroutine schedule, the node is the fold of the atomic
  handlers over the invocation trace, so the DAG only grows by good transactions; TransactionLists are handled in
  arrival order and at most once, and one that meets a full channel is lost.
-/
import NutsModel.C07.Dispatch
import NutsProofs.Lemmas.C07

namespace Nuts.Proto.Disp
open Nuts.Proto.L

theorem foldHandle_append (cfg : Cfg) (env : Env) : ∀ (a b : List (Peer × Msg)) (n : Node),
    foldHandle cfg env n (a ++ b) = foldHandle cfg env (foldHandle cfg env n a) b := by
  intro a
  induction a with
  | nil => intro b n; rfl
  | cons x r ih => intro b n; simp [foldHandle, ih]

/-- what one event can make of the dispatcher state `d` (new state, handler invocations): nothing (unknown envelope, list
    meeting a full channel, nothing waiting), or one of four elementary updates -/
inductive Step (P : Params) (d : DNode) : Ev → DNode × List (Peer × Msg) → Prop
  | same (e : Ev) : Step P d e (d, [])
  | listQueued (p : Peer) (m : Msg) : P.rt m = .listChan → d.chan.length < P.cap →
      Step P d (.arrive p m) ({ d with chan := d.chan ++ [(p, m)] }, [])
  | goQueued (p : Peer) (m : Msg) : P.rt m = .async →
      Step P d (.arrive p m) ({ d with pending := d.pending ++ [(p, m)] }, [])
  | listHandled (e : Ev) (x : Peer × Msg) (rest : List (Peer × Msg)) : d.chan = x :: rest →
      Step P d e ({ d with node := (handle P.cfg P.env d.node x.1 x.2).node, chan := rest }, [x])
  | goHandled (e : Ev) (i : Nat) (x : Peer × Msg) : d.pending[i]? = some x →
      Step P d e ({ d with node := (handle P.cfg P.env d.node x.1 x.2).node, pending := d.pending.eraseIdx i }, [x])

theorem stepEv_cases (P : Params) (d : DNode) (e : Ev) : Step P d e (stepEv P d e) := by
  fun_cases stepEv P d e with
  | case1 p m =>
    unfold Handle
    fun_cases dispatchMsg P.rt P.cap d p m with
    | case2 hr hlt => exact .listQueued p m hr hlt
    | case4 hr => exact .goQueued p m hr
    | _ => exact .same _
  | case3 x rest hch => exact .listHandled _ x rest hch
  | case5 i x hp => exact .goHandled _ i x hp
  | _ => exact .same _

/-- what is on the list channel was routed there, what waits as a goroutine was routed `async` -/
def WaitOK (rt : Msg → Route) (d : DNode) : Prop :=
  (∀ x ∈ d.chan, rt x.2 = .listChan) ∧ (∀ x ∈ d.pending, rt x.2 = .async)

def isList (rt : Msg → Route) (x : Peer × Msg) : Bool := rt x.2 == .listChan

section
variable {P : Params} {d : DNode} {e : Ev} {s : DNode × List (Peer × Msg)}

theorem Step.node (h : Step P d e s) : s.1.node = foldHandle P.cfg P.env d.node s.2 := by
  cases h <;> rfl

theorem Step.waitOK (h : Step P d e s) (hw : WaitOK P.rt d) : WaitOK P.rt s.1 := by
  obtain ⟨hc, hp⟩ := hw
  cases h with
  | same => exact ⟨hc, hp⟩
  | listQueued p m hr =>
    exact ⟨fun x hx => (List.mem_append.mp hx).elim (hc x) fun hx => List.mem_singleton.mp hx ▸ hr, hp⟩
  | goQueued p m hr =>
    exact ⟨hc, fun x hx => (List.mem_append.mp hx).elim (hp x) fun hx => List.mem_singleton.mp hx ▸ hr⟩
  | listHandled _ x rest hch => exact ⟨fun y hy => hc y (hch ▸ List.mem_cons_of_mem _ hy), hp⟩
  | goHandled _ i x => exact ⟨hc, fun y hy => hp y (List.mem_of_mem_eraseIdx hy)⟩

theorem Step.chan_le (h : Step P d e s) (hc : d.chan.length ≤ P.cap) : s.1.chan.length ≤ P.cap := by
  cases h with
  | listQueued p m _ hlt => simp only [List.length_append, List.length_singleton]; omega
  | listHandled _ x rest hch => rw [hch, List.length_cons] at hc; exact Nat.le_of_succ_le hc
  | _ => exact hc

theorem Step.fifo (h : Step P d e s) (hw : WaitOK P.rt d) :
    (s.2.filter (isList P.rt) ++ s.1.chan).Sublist (d.chan ++ (arrivals [e]).filter (isList P.rt)) := by
  cases h with
  | listQueued p m hr =>
    have hl : isList P.rt (p, m) = true := by simp [isList, hr]
    simp [arrivals, hl]
  | listHandled _ x rest hch =>
    have hl : isList P.rt x = true := by simp [isList, hw.1 x (hch ▸ List.mem_cons_self)]
    simp [hl, hch]
  | goHandled _ i x hp =>
    have hl : isList P.rt x = false := by simp [isList, hw.2 x (List.mem_of_getElem? hp)]
    simp [hl]
  | _ => exact List.sublist_append_left _ _

end

theorem arrivals_cons (e : Ev) (r : List Ev) : arrivals (e :: r) = arrivals [e] ++ arrivals r := by
  cases e <;> rfl

theorem run_node (P : Params) : ∀ (evs : List Ev) (d : DNode),
    (run P d evs).1.node = foldHandle P.cfg P.env d.node (run P d evs).2 := by
  intro evs
  induction evs with
  | nil => intro d; rfl
  | cons e r ih =>
    intro d
    simp only [run]
    rw [foldHandle_append, ← (stepEv_cases P d e).node, ih]

theorem run_chan_le (P : Params) : ∀ (evs : List Ev) (d : DNode), d.chan.length ≤ P.cap →
    (run P d evs).1.chan.length ≤ P.cap := by
  intro evs
  induction evs with
  | nil => intro d h; exact h
  | cons e r ih => intro d h; exact ih _ ((stepEv_cases P d e).chan_le h)

/-- handled lists followed by the waiting ones = a sublist (order kept, nothing twice, nothing invented) of the waiting
    ones at the start followed by the arriving ones -/
theorem run_lists_fifo (P : Params) : ∀ (evs : List Ev) (d : DNode), WaitOK P.rt d →
    List.Sublist (((run P d evs).2.filter (isList P.rt)) ++ (run P d evs).1.chan)
      (d.chan ++ (arrivals evs).filter (isList P.rt)) := by
  intro evs
  induction evs with
  | nil => intro d _; simp [run, arrivals]
  | cons e r ih =>
    intro d hw
    -- the statement for the first event and the one for the rest of the schedule, put end to end
    have hs := stepEv_cases P d e
    have h1 := (hs.fifo hw).append_right ((arrivals r).filter (isList P.rt))
    have h2 := (ih _ (hs.waitOK hw)).append_left ((stepEv P d e).2.filter (isList P.rt))
    simp only [List.append_assoc] at h1
    simp only [run, arrivals_cons e r, List.filter_append, List.append_assoc]
    exact h2.trans h1

theorem foldHandle_dag (cfg : Cfg) (env : Env) : ∀ (tr : List (Peer × Msg)) (n : Node), DagOK n.dag →
    DagOK (foldHandle cfg env n tr).dag ∧
    Grew (fun t => t.sigOK = true ∧ ∃ x ∈ tr, t ∈ msgTxs x.2) n.dag (foldHandle cfg env n tr).dag := by
  intro tr
  induction tr with
  | nil => intro n h; exact ⟨h, .refl _ _⟩
  | cons x r ih =>
    intro n h
    obtain ⟨h1, g1, _⟩ := handle_dag cfg env n x.1 x.2 h
    exact (ih _ h1).imp_right fun g2 => .trans (g1.mono fun _ ht => ⟨ht.1, x, List.mem_cons_self, ht.2⟩)
      (g2.mono fun _ ⟨s, y, hy, hy2⟩ => ⟨s, y, List.mem_cons_of_mem _ hy, hy2⟩)

end Nuts.Proto.Disp
