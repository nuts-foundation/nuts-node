/-
  C16 — what holds along EVERY history, whatever the configuration, the other node and the order of events: the list
  invariant, the flags of the replica, the seeds.
-/
import NutsProofs.Lemmas.C16Ops

namespace Nuts.C16

theorem run_inv_ev (cfg : Cfg) (d : Def) (Q : Ev → Prop) (P : World → Prop)
    (hstep : ∀ w e, Q e → P w → P (step cfg d w e).1) :
    ∀ (evs : List Ev) (w : World), (∀ e ∈ evs, Q e) → P w → P (run cfg d w evs) := by
  intro evs
  induction evs with
  | nil => intro w _ h; exact h
  | cons e es ih =>
    intro w hq h
    exact ih _ (fun e' he' => hq e' (List.mem_cons_of_mem _ he')) (hstep w e (hq e List.mem_cons_self) h)

theorem run_inv (cfg : Cfg) (d : Def) (P : World → Prop) (hstep : ∀ w e, P w → P (step cfg d w e).1) :
    ∀ (evs : List Ev) (w : World), P w → P (run cfg d w evs) :=
  fun evs w => run_inv_ev cfg d (fun _ => True) P (fun w e _ => hstep w e) evs w fun _ _ => trivial

theorem reach_inv {cfg : Cfg} {d : Def} {K : VP → Prop} (P : World → Prop) (h0 : ∀ t, P { t := t })
    (hstep : ∀ w e, P w → P (step cfg d w e).1) {w : World} (h : Reach cfg d K w) : P w := by
  induction h with
  | init t => exact h0 t
  | step w e _ _ ih => exact hstep w e ih

/-! ### the invariant of a list that hands out its own timestamps -/

/-- `SInv` without the two seed clauses (a prune caused by ANOTHER list may empty a list that has a seed) -/
structure NInv (s : Store) : Prop where
  sorted : s.rows.Pairwise (fun a b => a.ts < b.ts)
  bound : ∀ r ∈ s.rows, 1 ≤ r.ts ∧ r.ts ≤ s.lastTs
  onePer : s.rows.Pairwise (fun a b => a.subject ≠ b.subject)
  wf : ∀ r ∈ s.rows, RowWF r

theorem SInv.ninv {s : Store} (h : SInv s) : NInv s := ⟨h.sorted, h.bound, h.onePer, h.wf⟩

theorem ninv_empty : NInv {} :=
  ⟨List.Pairwise.nil, fun _ h => (nomatch h), List.Pairwise.nil, fun _ h => (nomatch h)⟩

theorem sinv_empty : SInv {} :=
  ⟨ninv_empty.sorted, ninv_empty.bound, ninv_empty.onePer, fun _ => ⟨rfl, rfl⟩, fun h => absurd rfl h, ninv_empty.wf⟩

theorem ninv_addOk {s : Store} (now : Nat) {vp : VP} {subj id : String} {e : Nat} (seed : Nat) (h : NInv s)
    (hv : VPWF vp subj id e) : NInv (addOk s now vp subj id e seed (s.lastTs + 1)).1 where
  sorted := pairwise_addOk h.sorted fun a ha _ => Nat.lt_succ_of_le (h.bound a ha).2
  bound := forall_addOk (fun r hr => ⟨(h.bound r hr).1, Nat.le_succ_of_le (h.bound r hr).2⟩) ⟨Nat.succ_pos _, Nat.le_refl _⟩
  onePer := pairwise_addOk h.onePer fun _ _ hne => hne
  wf := forall_addOk h.wf hv

theorem sinv_addOk {s : Store} (now : Nat) {vp : VP} {subj id : String} {e seed : Nat} (h : SInv s)
    (hv : VPWF vp subj id e) (hseed : seed ≠ 0) : SInv (addOk s now vp subj id e seed (s.lastTs + 1)).1 :=
  let n := ninv_addOk now seed h.ninv hv
  ⟨n.sorted, n.bound, n.onePer, fun h0 => absurd h0 hseed,
    fun _ => ⟨Nat.succ_pos _, List.append_ne_nil_of_right_ne_nil _ (List.cons_ne_nil _ _)⟩, n.wf⟩

theorem sinv_setValidated {s : Store} (pk : Nat) (h : SInv s) : SInv (s.setValidated pk) :=
  ⟨h.sorted, h.bound, h.onePer, h.seed0, h.seedPos, h.wf⟩

/-- `Listed` without the clause `SInv s` -/
def ListedW (d : Def) (t : Nat) (r : Row) : Prop :=
  ∃ s now, now ≤ t ∧ Acceptable d .server s now r.vp r.subject r.exp

structure StoreOK (d : Def) (t : Nat) (s : Store) : Prop where
  inv : NInv s
  listed : ∀ r ∈ s.rows, ListedW d t r

theorem storeOK_empty (d : Def) (t : Nat) : StoreOK d t {} :=
  ⟨ninv_empty, fun _ h => (nomatch h)⟩

theorem storeOK_mono {d : Def} {t t' : Nat} {s : Store} (h : StoreOK d t s) (ht : t ≤ t') : StoreOK d t' s :=
  ⟨h.inv, fun r hr => by
    obtain ⟨s0, now, h1, h2⟩ := h.listed r hr
    exact ⟨s0, now, by omega, h2⟩⟩

theorem storeOK_prune {d : Def} {t : Nat} {s : Store} (h : StoreOK d t s) (now : Nat) : StoreOK d t (s.prune now) := by
  have hsl : (s.prune now).rows.Sublist s.rows := by unfold Store.prune; exact List.filter_sublist
  have hsub : ∀ r ∈ (s.prune now).rows, r ∈ s.rows := fun r hr => hsl.subset hr
  exact { inv := { sorted := h.inv.sorted.sublist hsl, bound := fun r hr => h.inv.bound r (hsub r hr),
                   onePer := h.inv.onePer.sublist hsl, wf := fun r hr => h.inv.wf r (hsub r hr) },
          listed := fun r hr => h.listed r (hsub r hr) }

theorem storeOK_setValidated {d : Def} {t : Nat} {s : Store} (pk : Nat) (h : StoreOK d t s) : StoreOK d t (s.setValidated pk) :=
  ⟨⟨h.inv.sorted, h.inv.bound, h.inv.onePer, h.inv.wf⟩, h.listed⟩

theorem storeOK_register {d : Def} {t : Nat} {s : Store} (h : StoreOK d t s) (fresh : Nat) (vp : VP) :
    StoreOK d t (register d s t fresh vp).1 := by
  rcases register_cases d s t fresh vp with ⟨x, _, ho⟩ | ⟨subj, e, id, hA, hid, _, hreg⟩
  · rw [ho]; exact h
  · rw [hreg]
    exact storeOK_setValidated _ ⟨ninv_addOk t _ h.inv (hA.vpwf hid), forall_addOk h.listed ⟨s, t, Nat.le_refl _, hA⟩⟩

/-! ### the server side of a world -/

theorem Listed.mono {d : Def} {t t' : Nat} {r : Row} (h : Listed d t r) (ht : t ≤ t') : Listed d t' r := by
  obtain ⟨s, now, h1, h2, h3⟩ := h
  exact ⟨s, now, by omega, h2, h3⟩

structure ServerOK (d : Def) (w : World) : Prop where
  inv : SInv w.S
  listed : ∀ r ∈ w.S.rows, Listed d w.t r

theorem serverOK_init (d : Def) (t : Nat) : ServerOK d { t := t } :=
  ⟨sinv_empty, by intro r h; cases h⟩

theorem serverOK_register (d : Def) (s : Store) (t fresh : Nat) (vp : VP) (hf : fresh ≠ 0)
    (hi : SInv s) (hl : ∀ r ∈ s.rows, Listed d t r) :
    SInv (register d s t fresh vp).1 ∧ ∀ r ∈ (register d s t fresh vp).1.rows, Listed d t r := by
  rcases register_cases d s t fresh vp with ⟨x, _, ho⟩ | ⟨subj, e, id, hA, hid, _, hreg⟩
  · rw [ho]; exact ⟨hi, hl⟩
  · rw [hreg]
    have hseed : (if s.seed = 0 then fresh else s.seed) ≠ 0 := by
      split <;> assumption
    exact ⟨sinv_setValidated _ (sinv_addOk t hi (hA.vpwf hid) hseed),
      forall_addOk (seed := if s.seed = 0 then fresh else s.seed) hl ⟨s, t, Nat.le_refl _, hi, hA⟩⟩

theorem serverOK_step (cfg : Cfg) (d : Def) (w : World) (e : Ev) (h : ServerOK d w) :
    ServerOK d (step cfg d w e).1 := by
  rcases step_server cfg d w e with ⟨hS, ht⟩ | ⟨hS, _⟩ | ⟨vp, hS, ht⟩
  · exact ⟨by rw [hS]; exact h.inv, by rw [hS]; intro r hr; exact (h.listed r hr).mono ht⟩
  · exact ⟨by rw [hS]; exact sinv_empty, by rw [hS]; intro r hr; cases hr⟩
  · have := serverOK_register d w.S w.t (w.ctr + 1) vp (by omega) h.inv h.listed
    exact ⟨by rw [hS]; exact this.1, by rw [hS, ht]; exact this.2⟩

theorem serverOK_run (cfg : Cfg) (d : Def) (evs : List Ev) (w : World) (h : ServerOK d w) :
    ServerOK d (run cfg d w evs) :=
  run_inv cfg d (ServerOK d) (fun w e => serverOK_step cfg d w e) evs w h

theorem Reach.serverOK {cfg : Cfg} {d : Def} {K : VP → Prop} {w : World} (h : Reach cfg d K w) : ServerOK d w :=
  reach_inv (ServerOK d) (serverOK_init d) (fun w e => serverOK_step cfg d w e) h

/-- the list hands out only presentations the loop of `updateService` can store: whatever happened before, an update that
    reads the rows from the list ends without error or nil dereference -/
theorem pollB_ok (cfg : Cfg) (hsf : cfg.serviceFirst = true) (d : Def) (w : World) (perm : List VP → List VP)
    (hperm : ∀ l, (perm l).Perm l) (hS : SInv w.S) (p : Pending) (hp : w.pending = some p) :
    (step cfg d w (.pollB perm)).2 = .ok () := by
  unfold step
  simp only [hp, hsf, if_true]
  rw [clientApply_eq]
  split
  · rfl
  · refine clientLoop_ok_of_wf d w.t _ _ _ _ _ fun vp hvp => ?_
    obtain ⟨rv, hrv, rfl⟩ := List.mem_map.mp ((hperm _).mem_iff.mp hvp)
    exact ⟨_, _, _, (hS.wf rv (List.mem_filter.mp hrv).1).vpwf⟩

/-! ### search returns only what the client verified itself -/

structure CV (d : Def) (t : Nat) (c : Store) : Prop where
  rowsLt : ∀ r ∈ c.rows, r.pk < c.nextPk
  valLt : ∀ pk ∈ c.validated, pk < c.nextPk
  inj : c.rows.Pairwise (fun a b => a.pk ≠ b.pk)
  ver : ∀ r ∈ c.rows, c.isValidated r = true → ClientVerified d t r.vp

theorem cv_empty (d : Def) (t : Nat) : CV d t {} :=
  ⟨(by intro r h; cases h), (by intro r h; cases h), List.Pairwise.nil, (by intro r h; cases h)⟩

theorem cv_mono {d : Def} {t t' : Nat} {c : Store} (h : CV d t c) (ht : t ≤ t') : CV d t' c :=
  ⟨h.rowsLt, h.valLt, h.inj, fun r hr hv => by
    obtain ⟨s, now, h1, h2⟩ := h.ver r hr hv
    exact ⟨s, now, by omega, h2⟩⟩

theorem cv_prune {d : Def} {t : Nat} {c : Store} (h : CV d t c) (now : Nat) : CV d t (c.prune now) :=
  ⟨fun r hr => h.rowsLt r (mem_prune.mp hr).1, h.valLt,
    h.inj.sublist (show (c.prune now).rows.Sublist c.rows from List.filter_sublist), fun r hr => h.ver r (mem_prune.mp hr).1⟩

/-- whatever `add` answers: a refusal leaves the rows or prunes them; a stored row has the next primary key, which no flag
    mentions yet, and is flagged only after the client's own `verify` accepted it -/
theorem cv_add {d : Def} {t : Nat} {c : Store} (h : CV d t c) {vp : VP} {seed ts fresh : Nat} {c' : Store} {o : Res Row}
    (ha : c.add t vp seed ts fresh = (c', o)) :
    CV d t c' ∧ ∀ row, o = .ok row → verify d c' t .client vp = .ok () → CV d t (c'.setValidated row.pk) := by
  rcases add_cases c t vp seed ts fresh with ⟨x, s', hs', e⟩ | ⟨p, _, e⟩ | ⟨subj, m, id, _, _, _, _, e⟩ <;>
    (rw [e] at ha; cases ha)
  · rcases hs' with ⟨_, rfl⟩ | ⟨_, rfl⟩
    · exact ⟨h, fun _ ho => nomatch ho⟩
    · exact ⟨cv_prune h t, fun _ ho => nomatch ho⟩
  · exact ⟨cv_prune h t, fun _ ho => nomatch ho⟩
  · have hA : CV d t (addOk c t vp subj id (vp.exp.getD 0) (seedOf c seed ts fresh) (tsOf c ts)).1 :=
      ⟨forall_addOk (fun r hr => Nat.lt_succ_of_lt (h.rowsLt r hr)) (Nat.lt_succ_self _),
       fun pk hpk => Nat.lt_succ_of_lt (h.valLt pk hpk),
       pairwise_addOk h.inj fun a ha _ => Nat.ne_of_lt (h.rowsLt a ha),
       forall_addOk (P := fun r => c.validated.contains r.pk = true → ClientVerified d t r.vp) h.ver
         fun hv => absurd (h.valLt c.nextPk (List.contains_iff_mem.mp hv)) (Nat.lt_irrefl _)⟩
    refine ⟨hA, fun row hrow hver => ?_⟩
    cases hrow
    refine ⟨hA.rowsLt, ?_, hA.inj, ?_⟩
    · intro pk hpkm
      rcases List.mem_cons.mp hpkm with rfl | h1
      · exact Nat.lt_succ_self _
      · exact hA.valLt pk h1
    · intro r hr hv
      rcases List.mem_cons.mp (List.contains_iff_mem.mp hv) with h1 | h1
      · rcases (mem_addOk (seed := seedOf c seed ts fresh)).mp hr with ⟨h2, _, _⟩ | rfl
        · exact absurd (h.rowsLt r h2) (h1 ▸ Nat.lt_irrefl _)
        · exact ⟨_, t, Nat.le_refl _, hver⟩
      · exact hA.ver r hr (List.contains_iff_mem.mpr h1)

theorem cv_validate {d : Def} {t : Nat} {c : Store} (h : CV d t c) : CV d t (clientValidate d c t) := by
  refine ⟨h.rowsLt, ?_, h.inj, ?_⟩
  · intro pk hpk
    show pk < c.nextPk
    have hpk' : pk ∈ ((c.rows.filter (fun r => !(c.isValidated r) && (verify d c t .client r.vp).isOk)).map (·.pk)) ++ c.validated := hpk
    rcases List.mem_append.mp hpk' with h1 | h1
    · obtain ⟨r, hr, rfl⟩ := List.mem_map.mp h1
      exact h.rowsLt r (List.mem_filter.mp hr).1
    · exact h.valLt pk h1
  · intro r hr hv
    have hv' : (((c.rows.filter (fun r => !(c.isValidated r) && (verify d c t .client r.vp).isOk)).map (·.pk)) ++ c.validated).contains r.pk = true := hv
    have hm : r.pk ∈ ((c.rows.filter (fun r => !(c.isValidated r) && (verify d c t .client r.vp).isOk)).map (·.pk)) ++ c.validated := by
      simpa using hv'
    rcases List.mem_append.mp hm with h1 | h1
    · obtain ⟨r', hr', hpk⟩ := List.mem_map.mp h1
      have hf := List.mem_filter.mp hr'
      have : r' = r := pairwise_ne_inj h.inj hf.1 hr hpk
      subst this
      have hok : (verify d c t .client r'.vp).isOk = true := by
        have := hf.2; simp only [Bool.and_eq_true] at this; exact this.2
      refine ⟨c, t, Nat.le_refl _, ?_⟩
      cases hvv : verify d c t .client r'.vp with
      | ok u => cases u; rfl
      | err e => rw [hvv] at hok; cases hok
      | panic p => rw [hvv] at hok; cases hok
    · exact h.ver r hr (by show c.validated.contains r.pk = true; simpa using h1)

theorem cv_clientApply {d : Def} {t : Nat} {c : Store} (h : CV d t c) (cfg : Cfg) (ctr seed ts : Nat) (resp : List VP) :
    CV d t (clientApply cfg d c t ctr seed ts resp).1 := by
  have hw : CV d t (c.wipeOnSeedChange seed).1 := by
    unfold Store.wipeOnSeedChange
    split
    · exact ⟨(by intro r hr; cases hr), h.valLt, .nil, (by intro r hr; cases hr)⟩
    · exact h
  rw [clientApply_eq]
  split
  · exact hw
  · exact clientLoop_inv d t seed ts (fun c _ => CV d t c) resp (fun _ _ _ _ _ _ hc ha => cv_add hc ha) _ ctr hw

theorem cv_step (cfg : Cfg) (d : Def) (w : World) (e : Ev) (h : CV d w.t w.C) :
    CV d (step cfg d w e).1.t (step cfg d w e).1.C := by
  fun_cases step cfg d w e
  case case1 => exact cv_mono h (Nat.le_add_right _ _)  -- tick
  case case6 hc => exact (hc ▸ cv_clientApply h cfg _ _ _ _ :)  -- pollB, a poll in flight
  case case7 => exact cv_validate h
  case case8 => exact ⟨h.rowsLt, h.valLt, h.inj, h.ver⟩  -- clientVerifier
  case case13 hc => exact (hc ▸ cv_clientApply h cfg _ _ _ _ :)  -- dpollFinish, the response in flight
  all_goals exact h

/-! ### seeds are never ahead of the draw counter -/

/-- every seed in the system (server list, replica, responses in flight) was drawn before: it is at most the draw counter -/
structure Props.SeedsBounded (w : World) : Prop where
  s : w.S.seed ≤ w.ctr
  c : w.C.seed ≤ w.ctr
  pend : ∀ p, w.pending = some p → p.seed ≤ w.ctr
  del : ∀ p ∈ w.delayed, p.seed ≤ w.ctr

theorem clientLoop_seed_le (d : Def) (now seed ts : Nat) (resp : List VP) (c : Store) (ctr : Nat) (hc : c.seed ≤ ctr)
    (hs : seed ≤ ctr) :
    (clientLoop d now seed ts c ctr resp).1.seed ≤ (clientLoop d now seed ts c ctr resp).2.1 ∧
    ctr ≤ (clientLoop d now seed ts c ctr resp).2.1 :=
  clientLoop_inv d now seed ts (fun c' ctr' => c'.seed ≤ ctr' ∧ ctr ≤ ctr') resp
    (fun c0 ctr0 vp c' o _ h ha => by
      -- whatever `add` answers, the seed it leaves was there, came with the response or is the draw `ctr0 + 1`
      have hc' := add_seed_cases c0 now vp seed ts (ctr0 + 1)
      rw [ha] at hc'
      change c'.seed = _ ∨ c'.seed = _ ∨ c'.seed = _ at hc'
      have : c'.seed ≤ ctr0 + 1 ∧ ctr ≤ ctr0 + 1 := by omega
      exact ⟨this, fun _ _ _ => this⟩) c ctr ⟨hc, Nat.le_refl _⟩

theorem clientApply_seed_le (cfg : Cfg) (d : Def) (c : Store) (now ctr seed ts : Nat) (resp : List VP)
    (hc : c.seed ≤ ctr) (hs : seed ≤ ctr) :
    (clientApply cfg d c now ctr seed ts resp).1.seed ≤ (clientApply cfg d c now ctr seed ts resp).2.1 ∧
    ctr ≤ (clientApply cfg d c now ctr seed ts resp).2.1 := by
  have hw : (c.wipeOnSeedChange seed).1.seed ≤ ctr := by
    unfold Store.wipeOnSeedChange
    split
    · exact hs
    · exact hc
  rw [clientApply_eq]
  split
  · exact ⟨hw, Nat.le_refl _⟩
  · exact clientLoop_seed_le d now seed ts resp _ ctr hw hs

/-- applying a response whose seed was drawn before keeps every seed behind the counter, whichever poll it answers -/
theorem seedsBounded_apply {w : World} (h : Props.SeedsBounded w) (cfg : Cfg) (d : Def) (seed ts : Nat) (resp : List VP)
    (hs : seed ≤ w.ctr) (pend : Option Pending) (del : List Pending) (hp : ∀ q, pend = some q → q.seed ≤ w.ctr)
    (hd : ∀ q ∈ del, q.seed ≤ w.ctr) :
    Props.SeedsBounded { w with C := (clientApply cfg d w.C w.t w.ctr seed ts resp).1,
                                ctr := (clientApply cfg d w.C w.t w.ctr seed ts resp).2.1, pending := pend, delayed := del } := by
  have hb := clientApply_seed_le cfg d w.C w.t w.ctr seed ts resp h.c hs
  exact ⟨Nat.le_trans h.s hb.2, hb.1, fun q hq => Nat.le_trans (hp q hq) hb.2, fun q hq => Nat.le_trans (hd q hq) hb.2⟩

theorem seedsBounded_step (cfg : Cfg) (d : Def) (w : World) (e : Ev) (h : Props.SeedsBounded w) :
    Props.SeedsBounded (step cfg d w e).1 := by
  fun_cases step cfg d w e with
  | case2 vp s' r hreg =>  -- register
    refine ⟨?_, Nat.le_succ_of_le h.c, fun p hp => Nat.le_succ_of_le (h.pend p hp), fun p hp => Nat.le_succ_of_le (h.del p hp)⟩
    show s'.seed ≤ w.ctr + 1
    rcases hreg ▸ register_seed d w.S w.t (w.ctr + 1) vp with hr | ⟨hr, _, _⟩
    · exact hr ▸ Nat.le_succ_of_le h.s
    · exact Nat.le_of_eq hr
  | case3 => exact ⟨Nat.zero_le _, h.c, h.pend, h.del⟩  -- reset
  | case4 =>  -- pollA
    refine ⟨h.s, h.c, fun p hp => ?_, h.del⟩
    cases Option.some.inj hp
    show (if cfg.serviceFirst = true then _ else _ : Pending).seed ≤ w.ctr
    split
    · exact h.s
    · exact Nat.zero_le _
  | case6 perm p hp rows seed ts c' ctr' r hc =>
    have hseed : seed ≤ w.ctr := by show (if _ then _ else _) ≤ _; split; exact h.pend p hp; exact h.s
    exact (hc ▸ seedsBounded_apply h cfg d seed ts _ hseed none _ (fun _ hq => nomatch hq) h.del :)
  | case10 =>  -- restartClient
    exact ⟨h.s, h.c, fun _ hp => (nomatch hp), fun _ hp => (nomatch hp)⟩
  | case11 =>  -- dpollStart
    refine ⟨h.s, h.c, h.pend, fun p hp => ?_⟩
    rcases List.mem_append.mp hp with hp | hp
    · exact h.del p hp
    · cases List.mem_singleton.mp hp; exact h.s
  | case13 i perm p hp c' ctr' r hc =>
    exact (hc ▸ seedsBounded_apply h cfg d p.seed p.ts _ (h.del p (List.mem_of_getElem? hp)) _ _ h.pend
      fun q hq => h.del q (List.mem_of_mem_eraseIdx hq) :)
  | _ => exact ⟨h.s, h.c, h.pend, h.del⟩

theorem seedsBounded_init (t : Nat) : Props.SeedsBounded { t := t } :=
  ⟨Nat.le_refl _, Nat.le_refl _, fun _ hp => (nomatch hp), fun _ hp => (nomatch hp)⟩

theorem Reach.seedsBounded {cfg : Cfg} {d : Def} {K : VP → Prop} {w : World} (h : Reach cfg d K w) : Props.SeedsBounded w :=
  reach_inv Props.SeedsBounded seedsBounded_init (fun w e => seedsBounded_step cfg d w e) h

/-! ### seed and timestamp of the replica through the loop, whatever the response holds -/

/-- `C0`, `ctr0`: replica and draw counter when the loop started. The replica's seed and timestamp are still those, or the
    response's (client mode), or — a response with the empty seed is stored in server mode — a seed drawn after `ctr0`. -/
structure PT (C0 : Store) (ctr0 seed ts : Nat) (c : Store) (ctr : Nat) : Prop where
  mono : ctr0 ≤ ctr
  z : c.seed = 0 → c.lastTs = 0 ∧ c.rows = []
  tr : (c.seed = C0.seed ∧ c.lastTs = C0.lastTs) ∨ (ts ≠ 0 ∧ c.seed = seed ∧ c.lastTs = ts) ∨ (ts = 0 ∧ ctr0 < c.seed)

theorem PT.prune {C0 : Store} {ctr0 seed ts : Nat} {c : Store} {ctr : Nat} (h : PT C0 ctr0 seed ts c ctr) (now : Nat) :
    PT C0 ctr0 seed ts (c.prune now) ctr :=
  ⟨h.mono, fun hz => ⟨(h.z hz).1, prune_rows_nil now (h.z hz).2⟩, h.tr⟩

theorem PT.succ {C0 : Store} {ctr0 seed ts : Nat} {c : Store} {ctr : Nat} (h : PT C0 ctr0 seed ts c ctr) :
    PT C0 ctr0 seed ts c (ctr + 1) := ⟨Nat.le_succ_of_le h.mono, h.z, h.tr⟩

theorem pt_add {C0 : Store} {ctr0 seed ts : Nat} (h0 : ts = 0 → seed = 0 ∧ C0.seed = 0) (h1 : ts ≠ 0 → seed ≠ 0)
    {t : Nat} {c : Store} {ctr : Nat} {vp : VP} {c' : Store} {o : Res Row}
    (h : PT C0 ctr0 seed ts c ctr) (ha : c.add t vp seed ts (ctr + 1) = (c', o)) : PT C0 ctr0 seed ts c' (ctr + 1) := by
  rcases add_cases c t vp seed ts (ctr + 1) with ⟨x, s', hs', e⟩ | ⟨p, _, e⟩ | ⟨subj, m, id, _, _, _, _, e⟩ <;>
    (rw [e] at ha; cases ha)
  · rcases hs' with ⟨_, rfl⟩ | ⟨_, rfl⟩
    · exact h.succ
    · exact (h.prune t).succ
  · exact (h.prune t).succ
  · have hm := h.mono
    show PT C0 ctr0 seed ts { (c.prune t) with seed := seedOf c seed ts (ctr + 1), lastTs := tsOf c ts, rows := _, nextPk := _ } (ctr + 1)
    rcases seedOf_tsOf c seed ts (ctr + 1) with ⟨hts, e1, e2⟩ | ⟨hts, _, e1⟩
    · have := h1 hts
      exact ⟨by omega, fun hz => absurd hz (by show seedOf c seed ts (ctr + 1) ≠ 0; omega), .inr (.inl ⟨hts, e1, e2⟩)⟩
    · -- server mode: the seed held, if any, is already above `ctr0`; else the draw `ctr + 1` is
      obtain ⟨hs0, hc0⟩ := h0 hts
      have key : ctr0 < seedOf c seed ts (ctr + 1) := by
        rcases e1 with ⟨hne, e1⟩ | ⟨_, hne, _⟩ | ⟨_, _, e1⟩
        · rcases h.tr with ⟨h2, _⟩ | ⟨h2, _⟩ | ⟨_, h2⟩
          · exact absurd (h2.trans hc0) hne
          · exact absurd hts h2
          · rw [e1]; exact h2
        · exact absurd hs0 hne
        · rw [e1]; exact Nat.lt_succ_of_le hm
      exact ⟨by omega, fun hz => absurd hz (by show seedOf c seed ts (ctr + 1) ≠ 0; omega), .inr (.inr ⟨hts, key⟩)⟩

theorem pt_loop {C0 : Store} {ctr0 seed ts : Nat} (h0 : ts = 0 → seed = 0 ∧ C0.seed = 0) (h1 : ts ≠ 0 → seed ≠ 0)
    (d : Def) (t : Nat) (resp : List VP) (c : Store) (ctr : Nat) (h : PT C0 ctr0 seed ts c ctr) :
    PT C0 ctr0 seed ts (clientLoop d t seed ts c ctr resp).1 (clientLoop d t seed ts c ctr resp).2.1 :=
  clientLoop_inv d t seed ts (PT C0 ctr0 seed ts) resp
    (fun _ _ _ _ _ _ hc ha => let q := pt_add h0 h1 hc ha; ⟨q, fun _ _ _ => ⟨q.mono, q.z, q.tr⟩⟩)
    c ctr h

/-- in client mode (`ts ≠ 0`) every row that is stored sets the replica's seed to the response's -/
theorem loop_keeps_seed (d : Def) (t seed ts : Nat) (hts : ts ≠ 0) (hseed : seed ≠ 0) (resp : List VP) (c : Store) (ctr : Nat)
    (h : c.seed = seed) : (clientLoop d t seed ts c ctr resp).1.seed = seed := by
  rcases (pt_loop (C0 := c) (ctr0 := ctr) (fun h0 => absurd h0 hts) (fun _ => hseed) d t resp c ctr
    ⟨Nat.le_refl _, fun h0 => absurd (h ▸ h0) hseed, .inl ⟨rfl, rfl⟩⟩).tr with ⟨h1, _⟩ | ⟨_, h1, _⟩ | ⟨h1, _⟩
  · exact h1.trans h
  · exact h1
  · exact absurd h1 hts

end Nuts.C16
