/-
  C06 — the `payloadEvents` marker (NutsModel/C06/Late.lean): `addP` is `add` on the rest of the state and sets the marker
  exactly on an admission with payload (`addP_spec`); a payload message is `latePayload` performed once
  (`handlePayload_some`); `PevInv` holds along every history.  The loop of `state.Verify` in closed form (`verifyEach_ok_iff`).
-/
import NutsModel.C06.Late
import NutsProofs.Lemmas.C06Inv

namespace Nuts.C06.Late

theorem writeBody_count {env : Env} {subs : List Sub} {s w : St} {tx : Tx} {p : Option Nat}
    (h : writeBody env subs s tx p = .ok w) : w.count = s.count + 1 := by
  obtain ⟨_, _, rfl⟩ := writeBody_ok_iff.mp h
  rfl

theorem addP_spec (env : Env) (subs : List Sub) (sp : StP) (tx : Tx) (p : Option Nat) :
    ((addP env subs sp tx p).1.st = (add env subs sp.st tx p).1 ∧ (addP env subs sp tx p).2 = (add env subs sp.st tx p).2) ∧
    ((addP env subs sp tx p).1 = sp ∨
     ((addP env subs sp tx p).2 = .ok () ∧ Admitted env sp.st tx p (addP env subs sp tx p).1.st ∧
      (addP env subs sp tx p).1.pev = if p.isSome then markPayloadEventSaved sp.pev tx.ref else sp.pev)) := by
  have h1 := @phase1_cases env subs sp.st tx p
  unfold addP
  cases hph : phase1 env sp.st tx <;> simp only [hph] at h1
  · rw [h1.2]; exact ⟨⟨rfl, rfl⟩, Or.inl rfl⟩
  · rw [h1.2.2]; exact ⟨⟨rfl, rfl⟩, Or.inl rfl⟩
  · rw [h1.2.2]; exact ⟨⟨rfl, rfl⟩, Or.inl rfl⟩
  · have h2 := @phase2_cases env subs _ _ p h1.1
    unfold phase2P writeBodyP
    rw [h1.2.2, h1.1, if_neg Bool.false_ne_true]
    cases hw : writeBody env subs sp.st tx p <;> simp only [hw] at h2 <;> rw [h2]
    · exact ⟨⟨rfl, rfl⟩, Or.inr ⟨rfl, admitted_of_ok h1.1 h1.2.1 hw, rfl⟩⟩
    · exact ⟨⟨rfl, rfl⟩, Or.inl rfl⟩
    · exact ⟨⟨rfl, rfl⟩, Or.inl rfl⟩

theorem mark_contains (pev : List Nat) (r : Nat) : isPayloadEventSaved (markPayloadEventSaved pev r) r = true := by
  unfold isPayloadEventSaved markPayloadEventSaved
  split
  · assumption
  · simp

theorem mem_mark {pev : List Nat} {r x : Nat} (h : x ∈ markPayloadEventSaved pev r) : x ∈ pev ∨ x = r := by
  unfold markPayloadEventSaved at h
  split at h
  · exact Or.inl h
  · cases h with
    | head => exact Or.inr rfl
    | tail _ h => exact Or.inl h

theorem writePayload_txs (subs : List Sub) (sp : StP) (tx : Tx) (h p : Nat) : (writePayload subs sp tx h p).st.txs = sp.st.txs := by
  unfold writePayload
  split <;> rfl

theorem writePayload_marked (subs : List Sub) (sp : StP) (tx : Tx) (h p : Nat) :
    isPayloadEventSaved (writePayload subs sp tx h p).pev tx.ref = true := by
  unfold writePayload
  split
  · assumption
  · exact mark_contains _ _

/-- a payload message that names a transaction and carries data is the abstract layer's `latePayload`, performed once:
    the marker decides -/
theorem handlePayload_some (env : Env) (subs : List Sub) (sp : StP) {ref : Nat} (hr : ref ≠ 0) (p : Nat) :
    handlePayload env subs sp ref (some p) =
      if (latePayload env subs sp.st ref p).2 = "ok" ∧ isPayloadEventSaved sp.pev ref = false
      then (⟨(latePayload env subs sp.st ref p).1, markPayloadEventSaved sp.pev ref⟩, "ok")
      else (sp, (latePayload env subs sp.st ref p).2) := by
  unfold handlePayload
  rw [if_neg hr]
  fun_cases latePayload env subs sp.st ref p with
  | case1 hf => rw [hf]; rfl
  | case2 tx hf hs => simp only [hf, if_pos hs]; rfl
  | case3 tx hf hs =>
    simp only [hf, if_neg hs]
    unfold writePayload
    rw [(findTx_some_ref hf).1, Decidable.not_not.mp hs]
    cases isPayloadEventSaved sp.pev ref <;> rfl

theorem handlePayload_cases (env : Env) (subs : List Sub) (sp : StP) (ref : Nat) (d : Option Nat) :
    ((handlePayload env subs sp ref d).1 = sp ∧ (handlePayload env subs sp ref d).2 ≠ "ok") ∨ (ref ≠ 0 ∧ ∃ p, d = some p) := by
  fun_cases handlePayload env subs sp ref d with
  | case1 d hr => exact Or.inl ⟨rfl, by simp⟩
  | case2 hr => exact Or.inl ⟨rfl, by simp⟩
  | case3 hr p | case4 hr p | case5 hr p => exact Or.inr ⟨hr, p, rfl⟩

theorem handlePayload_ok {env : Env} {subs : List Sub} {sp : StP} {ref : Nat} {d : Option Nat}
    (h : (handlePayload env subs sp ref d).2 = "ok") :
    isPayloadEventSaved (handlePayload env subs sp ref d).1.pev ref = true := by
  rcases handlePayload_cases env subs sp ref d with h' | ⟨hr, p, rfl⟩
  · exact absurd h h'.2
  · rw [handlePayload_some env subs sp hr] at h ⊢
    by_cases hc : (latePayload env subs sp.st ref p).2 = "ok" ∧ isPayloadEventSaved sp.pev ref = false
    · rw [if_pos hc]; exact mark_contains _ _
    · rw [if_neg hc] at h ⊢
      exact (Bool.not_eq_false _).mp fun hm => hc ⟨h, hm⟩

theorem handlePayload_marked {env : Env} {subs : List Sub} {sp : StP} {ref : Nat}
    (hm : isPayloadEventSaved sp.pev ref = true) (d : Option Nat) : (handlePayload env subs sp ref d).1 = sp := by
  rcases handlePayload_cases env subs sp ref d with h | ⟨hr, p, rfl⟩
  · exact h.1
  · rw [handlePayload_some env subs sp hr, if_neg fun h => by rw [hm] at h; cases h.2]

/-- every marker belongs to a stored transaction whose payload is in the payload store -/
def PevInv (sp : StP) : Prop :=
  ∀ r ∈ sp.pev, ∃ tx, sp.st.find r = some tx ∧ ∃ q ∈ sp.st.payloads, q.1 = tx.payloadHash

theorem putPayload_keeps_key {pls : List (Nat × Nat)} {q : Nat × Nat} (hq : q ∈ pls) (h : Nat) (p : Option Nat) :
    ∃ q' ∈ putPayload pls h p, q'.1 = q.1 := by
  cases p with
  | none => exact ⟨q, hq, rfl⟩
  | some v =>
    unfold putPayload
    by_cases hk : q.1 = h
    · exact ⟨(h, v), List.mem_cons_self, hk.symm⟩
    · exact ⟨q, List.mem_cons_of_mem _ (List.mem_filter.mpr ⟨hq, by simpa using hk⟩), rfl⟩

theorem putPayload_has_key (pls : List (Nat × Nat)) (h v : Nat) : ∃ q ∈ putPayload pls h (some v), q.1 = h :=
  ⟨(h, v), by unfold putPayload; exact List.mem_cons_self, rfl⟩

theorem pevInv_addP {env : Env} {subs : List Sub} {sp : StP} (hi : PevInv sp) (tx : Tx) (p : Option Nat) :
    PevInv (addP env subs sp tx p).1 := by
  rcases (addP_spec env subs sp tx p).2 with h | ⟨_, had, hpev⟩
  · rw [h]; exact hi
  · intro r hr
    rw [hpev] at hr
    unfold St.find
    rw [had.txs, had.payloads]
    have old : r ∈ sp.pev → ∃ t, findTx (tx :: sp.st.txs) r = some t ∧
        ∃ q ∈ putPayload sp.st.payloads tx.payloadHash p, q.1 = t.payloadHash := by
      intro hr0
      obtain ⟨t, ht, q, hq, hqk⟩ := hi r hr0
      have hne : tx.ref ≠ r := fun he => had.fresh (he ▸ findTx_isSome_iff.mp (by rw [show findTx sp.st.txs r = some t from ht]; rfl))
      obtain ⟨q', hq', hk'⟩ := putPayload_keeps_key hq tx.payloadHash p
      exact ⟨t, by rw [findTx_cons_of_ne hne]; exact ht, q', hq', hk'.trans hqk⟩
    split at hr
    · rename_i hsome
      rcases mem_mark hr with h0 | h0
      · exact old h0
      · subst h0
        cases p with
        | none => simp at hsome
        | some v => exact ⟨tx, findTx_cons_self, putPayload_has_key _ _ _⟩
    · exact old hr

theorem pevInv_handlePayload {env : Env} {subs : List Sub} {sp : StP} (hi : PevInv sp) (ref : Nat) (d : Option Nat) :
    PevInv (handlePayload env subs sp ref d).1 := by
  rcases handlePayload_cases env subs sp ref d with h | ⟨hr, p, rfl⟩
  · rw [h.1]; exact hi
  · rw [handlePayload_some env subs sp hr]
    split
    · rename_i hc
      rcases latePayload_cases env subs sp.st ref p with ⟨_, hn⟩ | ⟨tx, hf, _, _, hst⟩
      · exact absurd hc.1 hn
      · intro r hr'
        rw [hst]
        rcases mem_mark hr' with h0 | h0
        · obtain ⟨t, ht, q, hq, hqk⟩ := hi r h0
          obtain ⟨q', hq', hk'⟩ := putPayload_keeps_key hq tx.payloadHash (some p)
          exact ⟨t, ht, q', hq', hk'.trans hqk⟩
        · exact ⟨tx, h0 ▸ hf, putPayload_has_key _ _ _⟩
    · exact hi

theorem pevInv_run (cfg : Cfg) (b64 : String → Bool) (env : Env) (subs : List Sub) (ops : List Op) (sp : StP)
    (h : PevInv sp) : PevInv (runOps cfg b64 env subs sp ops) := by
  refine foldl_invariant PevInv _ ops sp (fun o _ sp h => ?_) h
  cases o with
  | offer hd pl =>
    cases hp : parse cfg b64 hd <;> simp only [stepOp, hp]
    · exact pevInv_addP h _ _
    · exact h
    · exact h
  | late ref d => exact pevInv_handlePayload h ref d

theorem verifyEach_ok_iff {env : Env} {s : St} {scan : List Tx} :
    verifyEach env s scan = .ok () ↔ ∀ t ∈ scan, verify env s t = .ok () := by
  fun_induction verifyEach env s scan with
  | case1 => exact ⟨fun _ _ h => (nomatch h), fun _ => rfl⟩
  | case2 t rest u hu ih => rw [ih, List.forall_mem_cons]; exact (and_iff_right hu).symm
  | case3 t rest e he | case4 t rest e he => exact ⟨nofun, fun h => nomatch he.symm.trans (h t List.mem_cons_self)⟩

end Nuts.C06.Late
