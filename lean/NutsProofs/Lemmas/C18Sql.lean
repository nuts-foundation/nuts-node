import NutsModel.C18.LocalStore

namespace Nuts.C18

/-! ### SqlDIDDocumentManager.Latest -/

theorem foldl_pickLatest_some : ∀ (l : List DocRow) (b : DocRow),
    ∃ r, l.foldl pickLatest (some b) = some r ∧ r ∈ b :: l ∧ ∀ x ∈ b :: l, x.version ≤ r.version
  | [], b => ⟨b, rfl, List.mem_cons_self, by simp⟩
  | y :: ys, b => by
    rw [List.foldl_cons, pickLatest]
    split <;> rename_i hv
    · obtain ⟨r, h1, h2, h3⟩ := foldl_pickLatest_some ys y
      refine ⟨r, h1, List.mem_cons_of_mem _ h2, fun x hx => ?_⟩
      rcases List.mem_cons.mp hx with rfl | hx
      · exact Nat.le_trans (Nat.le_of_lt hv) (h3 y List.mem_cons_self)
      · exact h3 x hx
    · obtain ⟨r, h1, h2, h3⟩ := foldl_pickLatest_some ys b
      refine ⟨r, h1, ?_, fun x hx => ?_⟩
      · rcases List.mem_cons.mp h2 with rfl | h2
        · exact List.mem_cons_self
        · exact List.mem_cons_of_mem _ (List.mem_cons_of_mem _ h2)
      · rcases List.mem_cons.mp hx with rfl | hx
        · exact h3 x List.mem_cons_self
        · rcases List.mem_cons.mp hx with rfl | hx
          · exact Nat.le_trans (Nat.le_of_not_lt hv) (h3 b List.mem_cons_self)
          · exact h3 x (List.mem_cons_of_mem _ hx)

theorem foldl_pickLatest_spec (l : List DocRow) :
    match l.foldl pickLatest none with
    | none => l = []
    | some r => r ∈ l ∧ ∀ x ∈ l, x.version ≤ r.version := by
  cases l with
  | nil => rfl
  | cons y ys =>
    obtain ⟨r, h1, h2⟩ := foldl_pickLatest_some ys y
    rw [List.foldl_cons, pickLatest, h1]
    exact h2

theorem sqlLatest_exact (rows : List DocRow) (d : Bytes) (t : Int) (r : DocRow)
    (h : sqlLatest rows d t = some r) : r.did = d ∧ r ∈ rows ∧ r.updatedAt ≤ t := by
  have := foldl_pickLatest_spec (rows.filter (latestWhere d t))
  rw [← sqlLatest, h] at this
  have := List.mem_filter.mp this.1
  simp [latestWhere] at this
  exact ⟨this.2.1, this.1, this.2.2⟩

theorem sqlLatest_filter (rows : List DocRow) (d : Bytes) (t : Int) :
    sqlLatest rows d t = sqlLatest (rows.filter (fun r => r.did = d)) d t := by
  unfold sqlLatest
  congr 1
  rw [List.filter_filter]
  congr 1
  funext r
  simp [latestWhere]
  intro h _; exact h

theorem sqlLatest_newest (rows : List DocRow) (d : Bytes) (t : Int) (r : DocRow) (h : sqlLatest rows d t = some r) :
    ∀ r' ∈ rows, r'.did = d → r'.updatedAt ≤ t → r'.version ≤ r.version := by
  intro r' hm hd ht
  have := foldl_pickLatest_spec (rows.filter (latestWhere d t))
  rw [← sqlLatest, h] at this
  exact this.2 r' (List.mem_filter.mpr ⟨hm, by simp [latestWhere, hd, ht]⟩)

theorem sqlLatest_none_iff (rows : List DocRow) (d : Bytes) (t : Int) :
    sqlLatest rows d t = none ↔ ∀ r' ∈ rows, r'.did = d → ¬ r'.updatedAt ≤ t := by
  constructor
  · intro h r' hm hd ht
    have := foldl_pickLatest_spec (rows.filter (latestWhere d t))
    rw [← sqlLatest, h] at this
    have hin : r' ∈ rows.filter (latestWhere d t) := List.mem_filter.mpr ⟨hm, by simp [latestWhere, hd, ht]⟩
    rw [this] at hin; cases hin
  · intro h
    have : rows.filter (latestWhere d t) = [] := by
      apply List.filter_eq_nil_iff.mpr
      intro x hx hw
      simp [latestWhere] at hw
      exact h x hx hw.1 hw.2
    rw [sqlLatest, this]; rfl

end Nuts.C18
