import NutsModel.C18.DidJwk
import NutsProofs.Lemmas.Base

namespace Nuts.C18

theorem b64Chr_spec : ∀ n < 64, b64Chr n ≠ 10 ∧ b64Chr n ≠ 13 ∧ b64Val (b64Chr n) = some n := by decide +kernel

theorem b64Dec_step (rest : Bytes) (acc : List Nat) (n : Nat) (hn : n < 64) (ha : acc.length < 3) :
    b64DecAux (b64Chr n :: rest) acc = b64DecAux rest (acc ++ [n]) := by
  obtain ⟨h1, h2, h3⟩ := b64Chr_spec n hn
  rw [b64DecAux]; simp only [h1, h2, or_self, if_false, h3]
  split
  · exact absurd ha (Nat.lt_irrefl 3)
  · rfl

theorem b64Dec_step3 (rest : Bytes) (a b c n : Nat) (hn : n < 64) (t : Bytes) (ht : b64DecAux rest [] = .ok t) :
    b64DecAux (b64Chr n :: rest) [a, b, c] = .ok ((a * 4 + b / 16) :: ((b % 16) * 16 + c / 4) :: ((c % 4) * 64 + n) :: t) := by
  obtain ⟨h1, h2, h3⟩ := b64Chr_spec n hn
  rw [b64DecAux]; simp only [h1, h2, or_self, if_false, h3, ht]

theorem jwkStep_ne_ok (lib : JwkLib) (s : String) : jwkStep lib s ≠ some .ok := by
  unfold jwkStep
  split <;> (try split) <;> simp

theorem jwkSteps_cons (lib : JwkLib) (s : String) (rest : List String) :
    jwkSteps lib (s :: rest) = .ok ↔ jwkStep lib s = none ∧ jwkSteps lib rest = .ok := by
  rw [jwkSteps]
  cases hst : jwkStep lib s with
  | none => simp
  | some c =>
    have : c ≠ .ok := fun hc => jwkStep_ne_ok lib s (hc ▸ hst)
    simp [this]

theorem jwkSteps_ok (lib : JwkLib) : ∀ (order : List String), jwkSteps lib order = .ok → ∀ s ∈ order, jwkStep lib s = none
  | [], _ => nofun
  | a :: rest, h => by
    obtain ⟨h1, h2⟩ := (jwkSteps_cons lib a rest).mp h
    exact List.forall_mem_cons.mpr ⟨h1, jwkSteps_ok lib rest h2⟩

theorem jwkOrder_ok (lib : JwkLib) (h : jwkSteps lib jwkOrder = .ok) :
    lib.parseOK = true ∧ lib.rawErr = false ∧ lib.isPrivate = false ∧ lib.pubRawErr = false ∧
      (lib.isEC = true → lib.onCurve = true) ∧ lib.vmErr = false := by
  simp only [jwkOrder, jwkSteps_cons, jwkStep] at h
  simpa [jwkSteps] using h

end Nuts.C18
