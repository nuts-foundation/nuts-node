/-
  C06 — parsing.  `WellFormed` is what RFC004 demands of the decoded JWS; `ParseTransaction` accepts exactly that
  (`parse_wellFormed`, `wellFormed_parse`), with the declared `lc` taken exactly when the strictness guard is on.  The jwx stage
  in front of it: of a repeated header member the LAST occurrence decides (`jwxMembers_spec`).
-/
import NutsModel.C06.Admit
import NutsProofs.Lemmas.Base

namespace Nuts.C06

/-- the header value `m·2^e` is exactly the natural number `n` -/
def numEqNat (m e : Int) (n : Nat) : Prop :=
  if e ≥ 0 then m * (2 : Int) ^ e.toNat = (n : Int) else m = (n : Int) * (2 : Int) ^ (-e).toNat

instance (m e : Int) (n : Nat) : Decidable (numEqNat m e n) := by
  unfold numEqNat; exact inferInstance

/-- what RFC004 demands of the decoded JWS, in terms of the header jwx presents -/
structure WellFormed (cfg : Cfg) (b64 : String → Bool) (h : Hdr) (tx : Tx) : Prop where
  oneSig : h.nSigs = 1
  alg : tx.alg = h.alg ∧ h.alg ∈ cfg.allowedAlgos
  payload : parseHex h.payload = some tx.payloadHash
  cty : tx.cty = h.cty ∧ containsSlash h.cty = true
  keyRef : tx.jwk = h.hasJwk ∧ tx.kid = h.kid.getD "" ∧ ((h.hasJwk = true ∧ h.kid.getD "" = "") ∨ (h.hasJwk = false ∧ h.kid.getD "" ≠ ""))
  jwkPublic : cfg.jwkPublicOnly = true → h.hasJwk = true → h.jwkPrivate = false
  framing : cfg.strictFraming = true → h.framingStrict = true
  sigt : ∃ m e, h.get cfg.sigtH = some (.num m e) ∧ tx.sigt = toInt64 m e
  ver : ∃ m e, h.get cfg.verH = some (.num m e) ∧ tx.ver = toInt64 m e ∧ tx.ver ∈ cfg.allowedVersion
  prevs : ∃ l, h.get cfg.prevsH = some (.arr l) ∧ parsePrevEls cfg.prevsH l = .ok tx.prevs
  pal : (h.get cfg.palH = none ∧ tx.pal = []) ∨ ∃ l, h.get cfg.palH = some (.arr l) ∧ parsePalEls b64 cfg.palH l = .ok tx.pal
  lc : ∃ m e, h.get cfg.lcH = some (.num m e) ∧ parseLamportClock cfg h = .ok tx.clock
  ref : tx.ref = h.ref

theorem parseSignatureParams_ok {cfg : Cfg} {h : Hdr} {kid : String} (hk : parseSignatureParams cfg h = .ok kid) :
    kid = h.kid.getD "" ∧ ¬ (cfg.jwkPublicOnly && h.hasJwk && h.jwkPrivate) = true ∧
    ¬ ((h.hasJwk && h.kid.getD "" != "") || (!h.hasJwk && h.kid.getD "" == "")) = true := by
  revert hk
  fun_cases parseSignatureParams cfg h with
  | case3 _ h1 h2 => exact fun hk => ⟨(Res.ok.inj hk).symm, h1, h2⟩
  | _ => nofun

theorem parse_wellFormed {cfg : Cfg} {b64 : String → Bool} {h : Hdr} {tx : Tx}
    (hp : parse cfg b64 h = .ok tx) : WellFormed cfg b64 h tx := by
  unfold parse at hp
  by_cases hfr : (cfg.strictFraming && !h.framingStrict) = true
  · rw [if_pos hfr] at hp; cases hp
  by_cases h0 : h.nSigs = 0
  · rw [if_neg hfr, if_pos h0] at hp; cases hp
  by_cases h1 : h.nSigs > 1
  · rw [if_neg hfr, if_neg h0, if_pos h1] at hp; cases hp
  rw [if_neg hfr, if_neg h0, if_neg h1] at hp
  simp only [Bind.bind, Res.bind_eq_ok] at hp
  obtain ⟨_, ha, payload, hpl, cty, hcty, kid, hkid, sigt, hsigt, ver, hver, prevs, hprevs, pal, hpal, lc, hlc, htx⟩ := hp
  replace hkid := parseSignatureParams_ok hkid
  simp only [pure, Res.ok.injEq] at htx
  subst htx
  refine ⟨Nat.le_antisymm (Nat.le_of_not_gt h1) (Nat.pos_of_ne_zero h0), ?_, ?_, ?_, ?_, ?_, ?_, ?_, ?_, ?_, ?_, ?_, rfl⟩
  · unfold parseSigningAlgorithm at ha
    split at ha
    · rename_i hc; exact ⟨rfl, by simpa using hc⟩
    · cases ha
  · unfold parsePayload at hpl
    split at hpl
    · rename_i p hp'; cases hpl; exact hp'
    · cases hpl
  · unfold parseContentType at hcty
    split at hcty
    · rename_i hc; cases hcty; exact ⟨rfl, hc⟩
    · cases hcty
  · cases hkid.1
    refine ⟨rfl, rfl, ?_⟩
    have hc := hkid.2.2
    cases hj : h.hasJwk <;> simp [hj] at hc ⊢ <;> exact hc
  · intro h1 h2
    have hc := hkid.2.1
    simp [h1, h2] at hc
    exact hc
  · intro hs
    cases hf : h.framingStrict with
    | true => rfl
    | false => simp [hs, hf] at hfr
  · unfold parseSigningTime at hsigt
    split at hsigt
    · cases hsigt
    · rename_i m e hg; cases hsigt; exact ⟨m, e, hg, rfl⟩
    · cases hsigt
  · revert hver
    fun_cases parseVersion cfg h with
    | case2 m e hg _ hc => exact fun hv => ⟨m, e, hg, (Res.ok.inj hv).symm, by simpa [← Res.ok.inj hv] using hc⟩
    | _ => nofun
  · unfold parsePrevious at hprevs
    split at hprevs
    · cases hprevs
    · rename_i l hg; exact ⟨l, hg, hprevs⟩
    · cases hprevs
  · unfold parsePAL at hpal
    split at hpal
    · rename_i hg; cases hpal; exact Or.inl ⟨hg, rfl⟩
    · rename_i l hg; exact Or.inr ⟨l, hg, hpal⟩
    · cases hpal
  · have hlc' := hlc
    unfold parseLamportClock at hlc
    split at hlc
    · cases hlc
    · rename_i m e hg; exact ⟨m, e, hg, hlc'⟩
    · cases hlc

theorem wellFormed_parse {cfg : Cfg} {b64 : String → Bool} {h : Hdr} {tx : Tx}
    (w : WellFormed cfg b64 h tx) : parse cfg b64 h = .ok tx := by
  obtain ⟨m1, e1, g1, v1⟩ := w.sigt
  obtain ⟨m2, e2, g2, v2, a2⟩ := w.ver
  obtain ⟨l3, g3, v3⟩ := w.prevs
  obtain ⟨_, _, _, v5⟩ := w.lc
  have s1 : parseSigningAlgorithm cfg h = .ok () := by
    unfold parseSigningAlgorithm; rw [if_pos (by simpa using w.alg.2)]
  have s2 : parsePayload h = .ok tx.payloadHash := by unfold parsePayload; rw [w.payload]
  have s3 : parseContentType h = .ok tx.cty := by unfold parseContentType; rw [if_pos w.cty.2, w.cty.1]
  have s4 : parseSignatureParams cfg h = .ok tx.kid := by
    unfold parseSignatureParams
    rw [w.keyRef.2.1]
    rcases w.keyRef.2.2 with ⟨hj, hk⟩ | ⟨hj, hk⟩
    · cases hc : cfg.jwkPublicOnly <;> simp [hj, hk] <;> exact w.jwkPublic hc hj
    · simp [hj, hk]
  have s5 : parseSigningTime cfg h = .ok tx.sigt := by unfold parseSigningTime; rw [g1, v1]
  have s6 : parseVersion cfg h = .ok tx.ver := by
    unfold parseVersion; rw [g2]; simp only; rw [← v2, if_pos (by simpa using a2)]
  have s7 : parsePrevious cfg h = .ok tx.prevs := by unfold parsePrevious; rw [g3]; exact v3
  have s8 : parsePAL cfg b64 h = .ok tx.pal := by
    unfold parsePAL
    rcases w.pal with ⟨g, v⟩ | ⟨l, g, v⟩
    · rw [g, v]
    · rw [g]; exact v
  have hfr : (cfg.strictFraming && !h.framingStrict) = false := by
    cases hs : cfg.strictFraming
    · rfl
    · rw [w.framing hs]; rfl
  unfold parse
  rw [hfr, if_neg Bool.false_ne_true, w.oneSig, if_neg (by decide), if_neg (by decide)]
  simp only [Bind.bind, Res.bind, s1, s2, s3, s4, s5, s6, s7, s8, v5, pure]
  congr 1
  cases tx
  simp only [Tx.mk.injEq, true_and]
  exact ⟨w.ref.symm, w.alg.1.symm, w.keyRef.1.symm, trivial⟩

theorem truncZ_exact {m e : Int} (hi : isIntegral m e = true) (h0 : 0 ≤ truncZ m e) :
    numEqNat m e (truncZ m e).toNat := by
  unfold numEqNat
  have hn : ((truncZ m e).toNat : Int) = truncZ m e := Int.toNat_of_nonneg h0
  rw [hn]
  unfold truncZ isIntegral at *
  split
  · rfl
  · rename_i he
    simp only [he, if_false] at hi ⊢
    have hd : ((2 : Int) ^ (-e).toNat) ∣ m := Int.dvd_of_emod_eq_zero (by simpa using hi)
    exact (Int.tdiv_mul_cancel hd).symm

theorem lc_strict_exact {cfg : Cfg} {h : Hdr} {n : Nat} {m e : Int} (hs : cfg.lcStrict = true)
    (hg : h.get cfg.lcH = some (.num m e)) (hp : parseLamportClock cfg h = .ok n) :
    numEqNat m e n ∧ n < 2 ^ 32 := by
  unfold parseLamportClock at hp
  rw [hg] at hp
  simp only [hs, if_true] at hp
  split at hp
  · rename_i hc
    simp only [Bool.and_eq_true, decide_eq_true_eq] at hc
    cases hp
    refine ⟨truncZ_exact hc.1.1 hc.1.2, ?_⟩
    have := hc.2
    omega
  · cases hp

theorem parseLamportClock_nat {cfg : Cfg} {h : Hdr} {lc : Nat} (hs : cfg.lcStrict = true)
    (hg : h.get cfg.lcH = some (.num lc 0)) (hlc : lc < 2 ^ 32) : parseLamportClock cfg h = .ok lc := by
  unfold parseLamportClock
  rw [hg]
  have h1 : truncZ (lc : Int) 0 = (lc : Int) := by simp [truncZ]
  have h2 : isIntegral (lc : Int) 0 = true := by simp [isIntegral]
  have h3 : (lc : Int) < (2 : Int) ^ 32 := by
    have : ((2 : Nat) ^ 32 : Nat) = 4294967296 := by decide
    have h4 : ((2 : Int) ^ 32) = 4294967296 := by decide
    omega
  simp only [hs, if_true, h1, h2, Bool.true_and]
  have h5 : decide (0 ≤ (lc : Int)) = true := by simp
  have h6 : decide ((lc : Int) < (2 : Int) ^ 32) = true := by simpa using h3
  rw [h5, h6]
  simp

theorem getLast_cons {k' k : String} {v : J} {t : List (String × J)} :
    getLast ((k', v) :: t) k = match getLast t k with
      | some w => some w
      | none => if k' = k then some v else none := rfl

theorem getLast_append_single {l : List (String × J)} {k' k : String} {v : J} :
    getLast (l ++ [(k', v)]) k = if k' = k then some v else getLast l k := by
  induction l with
  | nil => simp [getLast]
  | cons a t ih =>
    obtain ⟨ka, va⟩ := a
    rw [List.cons_append, getLast_cons, ih, getLast_cons]
    by_cases h : k' = k
    · simp [h]
    · simp only [h, if_false]

theorem jwxMember_spec {jwkOK : Bool} {r r' : Raw} {k : String} {v : J} (h : jwxMember jwkOK r k v = .ok r') :
    (isPrivName k = true → r'.priv = r.priv ++ [(k, v)]) ∧
    (isPrivName k = false → r'.priv = r.priv) ∧
    (k = "alg" → ((∃ s, v = .str s ∧ r'.alg = s) ∨ (v = .null ∧ r'.alg = ""))) ∧
    (k ≠ "alg" → r'.alg = r.alg) ∧
    (k = "jwk" → r'.hasJwk = true) ∧ (k ≠ "jwk" → r'.hasJwk = r.hasJwk) := by
  unfold isPrivName
  revert h
  fun_cases jwxMember jwkOK r k v with
  | case1 hk s | case2 hk | case4 _ hk s | case5 _ hk | case7 _ _ hk s | case8 _ _ hk | case10 v _ _ _ hk _
  | case12 _ _ _ _ hk | case13 _ _ _ _ hk l _ => rintro ⟨⟩; simp [hk]
  | case16 h1 h2 h3 h4 h5 hm s | case17 h1 h2 h3 h4 h5 hm | case19 v h1 h2 h3 h4 h5 hm =>
    rintro ⟨⟩; simp at hm; simp [h1, h2, h3, h4, h5, hm]
  | _ => nofun

theorem jwxMembers_spec {jwkOK : Bool} {ms : List (String × J)} {r0 r : Raw} (h : jwxMembers jwkOK r0 ms = .ok r) :
    (∀ k, isPrivName k = true → getLast r.priv k = match getLast ms k with
        | some v => some v
        | none => getLast r0.priv k) ∧
    ((getLast ms "alg" = none ∧ r.alg = r0.alg) ∨ (∃ s, getLast ms "alg" = some (.str s) ∧ r.alg = s) ∨
      (getLast ms "alg" = some .null ∧ r.alg = "")) ∧
    (r.hasJwk = (r0.hasJwk || (getLast ms "jwk").isSome)) := by
  fun_induction jwxMembers jwkOK r0 ms with
  | case1 r0 => cases h; exact ⟨fun k _ => rfl, Or.inl ⟨rfl, rfl⟩, by simp [getLast]⟩
  | case3 | case4 => cases h
  | case2 r0 k0 v0 t r1 h1 ih =>
    obtain ⟨i1, i2, i3⟩ := ih h
    obtain ⟨s1, s2, s3, s4, s5, s6⟩ := jwxMember_spec h1
    refine ⟨?_, ?_, ?_⟩
    · intro k hk
      rw [i1 k hk, getLast_cons]
      cases hg : getLast t k with
      | some w => rfl
      | none =>
        simp only
        by_cases hp : isPrivName k0 = true
        · rw [s1 hp, getLast_append_single]
          by_cases he : k0 = k <;> simp [he]
        · have hp' : isPrivName k0 = false := by simpa using hp
          rw [s2 hp']
          have : k0 ≠ k := by intro he; rw [he] at hp; exact hp hk
          simp [this]
    · rw [getLast_cons]
      rcases i2 with ⟨g, ha⟩ | ⟨s, g, ha⟩ | ⟨g, ha⟩
      · rw [g]
        simp only
        by_cases hk : k0 = "alg"
        · rcases s3 hk with ⟨s, hv, hs⟩ | ⟨hv, hs⟩
          · exact Or.inr (Or.inl ⟨s, by simp [hk, hv], ha.trans hs⟩)
          · exact Or.inr (Or.inr ⟨by simp [hk, hv], ha.trans hs⟩)
        · exact Or.inl ⟨by simp [hk], ha.trans (s4 hk)⟩
      · exact Or.inr (Or.inl ⟨s, by rw [g], ha⟩)
      · exact Or.inr (Or.inr ⟨by rw [g], ha⟩)
    · rw [i3, getLast_cons]
      by_cases hk : k0 = "jwk"
      · rw [s5 hk]
        cases getLast t "jwk" <;> simp [hk]
      · rw [s6 hk]
        cases getLast t "jwk" <;> simp [hk]

end Nuts.C06
