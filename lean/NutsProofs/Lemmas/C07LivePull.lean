/-
  One pull round: the serving node replies with its own transactions in wire form, the puller absorbs them, and the round
  ends with a transaction gained or with the knowledge `StuckAt`; two stuck pulls mean equal DAGs. The oracles (IBLT
  decode, sort) enter only through their contracts `DC` and `OrderOK`.
-/
import NutsProofs.Lemmas.C07LiveAbsorb
open Nuts.Proto Nuts Nuts.Proto.L

namespace Nuts.Proto.Live

theorem flatten_map_split {α β} (f : α → β) : ∀ (cs : List (List β)) (l : List α), cs.flatten = l.map f →
    ∃ ls : List (List α), cs = ls.map (·.map f) ∧ ls.flatten = l := by
  intro cs
  induction cs with
  | nil =>
    intro l h
    have : l = [] := by simpa using h.symm
    exact ⟨[], rfl, by simp [this]⟩
  | cons c rest ih =>
    intro l h
    simp only [List.flatten_cons] at h
    obtain ⟨l1, l2, hl, h1, h2⟩ := List.map_eq_append_iff.mp h.symm
    obtain ⟨ls, hls, hfl⟩ := ih l2 h2.symm
    exact ⟨l1 :: ls, by simp [h1, hls], by simp [hl, hfl]⟩

theorem reply_shape (cfg : Cfg) (n : Node) (hp : PayloadsOK n) (key : Nat) (cid : Cid) (l : List Tx) (hl : ∀ t ∈ l, t ∈ n.dag) :
    ∃ ls : List (List Tx), ls.flatten = l ∧ collect n l = some (l.map (netOf n)) ∧
      toPeer key (sendTransactionList cfg key cid (l.map (netOf n))) =
        numberChunks cid ls.length 0 (ls.map (·.map (netOf n))) := by
  obtain ⟨ls, hls, hfl⟩ := flatten_map_split (netOf n) (chunkTransactionList cfg (l.map (netOf n))) l (chunks_flatten cfg _)
  refine ⟨ls, hfl, collect_eq n hp l hl, ?_⟩
  unfold sendTransactionList
  simp only
  rw [toPeer_numbered, hls]
  simp

theorem serve_listQuery (cfg : Cfg) (env : Env) (n : Node) (hp : PayloadsOK n) (hord : OrderSub env) (p : Peer) (cid : Cid)
    (refs : List Ref) (hne : refs ≠ []) :
    ∃ ls : List (List Tx), ls.flatten = env.order (refs.filterMap (getTx n.dag)) ∧
      absorb cfg env n p [.listQuery cid refs] = (n, numberChunks cid ls.length 0 (ls.map (·.map (netOf n)))) := by
  have hl : ∀ t ∈ env.order (refs.filterMap (getTx n.dag)), t ∈ n.dag := by
    intro t ht
    obtain ⟨r, _, hr⟩ := List.mem_filterMap.mp (hord _ _ ht)
    exact getTx_mem hr
  obtain ⟨ls, hfl, hc, hs⟩ := reply_shape cfg n hp p.key cid _ hl
  refine ⟨ls, hfl, ?_⟩
  rw [absorb_single]
  simp only [handle]
  unfold handleTransactionListQuery
  have : refs.isEmpty = false := by cases refs with | nil => exact absurd rfl hne | cons _ _ => rfl
  simp only [this, Bool.false_eq_true, if_false, hc, hs]

theorem serve_rangeQuery (cfg : Cfg) (env : Env) (n : Node) (hp : PayloadsOK n) (p : Peer) (cid : Cid) (a b : Nat) (hab : a < b) :
    ∃ ls : List (List Tx),
      ls.flatten = findBetween n.dag a (if b > a + cfg.rangePages * cfg.pageSize then a + cfg.rangePages * cfg.pageSize else b) ∧
      absorb cfg env n p [.rangeQuery cid a b] = (n, numberChunks cid ls.length 0 (ls.map (·.map (netOf n)))) := by
  obtain ⟨ls, hfl, hc, hs⟩ := reply_shape cfg n hp p.key cid
    (findBetween n.dag a (if b > a + cfg.rangePages * cfg.pageSize then a + cfg.rangePages * cfg.pageSize else b))
    (fun t ht => findBetween_mem ht)
  refine ⟨ls, hfl, ?_⟩
  rw [absorb_single]
  simp only [handle]
  unfold handleTransactionRangeQuery
  have : ¬ a ≥ b := by omega
  simp only [this, if_false, hc, hs]

theorem serve_state (cfg : Cfg) (env : Env) (n : Node) (p : Peer) (cid : Cid) (x : Ref) (lc : Nat) :
    absorb cfg env n p [.state cid x lc] =
      (n, if xorOf n.dag == x then [] else [.txSet cid lc (lcOf n.dag) (.ofSet (ibltSet cfg n.dag lc))]) := by
  rw [absorb_single]
  simp only [handle]
  unfold handleState
  split
  · rfl
  · simp [toPeer, driving]

/-- **the IBLT decode contract**, for duplicate-free ref lists (`State.IBLT` inserts every transaction once): a successful
    decode returns exactly the refs the peer has and we lack; decoding succeeds when there is no difference; subtracting two
    well-formed IBLTs never errors. Hypothesis of the liveness theorems; it is proved for the modelled `tree.Iblt`
    (`Props.C07.iblt_decode_contract`, `modelled_iblt_satisfies_DC`) from hash faithfulness (`Iblt.Faithful`), a
    hypothesis about EVERY set of keys in play: a hash with 64-bit values meets it only while the keys are few (more keys
    than bits of key and hash-sum together are XOR-dependent), so on all keys only an unbounded hash does; on the real
    `tree.Iblt` the contract is measured by the harness. -/
structure DC (env : Env) : Prop where
  exact : ∀ loc peer m, loc.Nodup → peer.Nodup → env.decode loc (.ofSet peer) = .ok m → ∀ r, r ∈ m ↔ (r ∈ peer ∧ r ∉ loc)
  empty : ∀ loc peer, loc.Nodup → peer.Nodup → (∀ r, r ∈ loc ↔ r ∈ peer) → ∃ m, env.decode loc (.ofSet peer) = .ok m
  noerr : ∀ loc peer, loc.Nodup → peer.Nodup → env.decode loc (.ofSet peer) ≠ .err

/-- `sort.Slice(unsorted, clock <=)` returns a clock-sorted rearrangement -/
structure OrderOK (env : Env) : Prop where
  perm : ∀ l, (env.order l).Perm l
  sorted : ∀ l, (env.order l).Pairwise (fun a b => a.clock ≤ b.clock)

theorem OrderOK.sub {env : Env} (h : OrderOK env) : OrderSub env := fun l _ ht => (h.perm l).mem_iff.mp ht

def pg (cfg : Cfg) (t : Tx) : Nat := pageOf cfg t.clock

theorem ibltSet_nodup {cfg : Cfg} {d : List Tx} (h : DagOK d) (lc : Nat) : (ibltSet cfg d lc).Nodup := by
  unfold ibltSet
  exact ((List.filter_sublist (l := d)).map (·.ref)).nodup (dagOK_refs_nodup h)

theorem mem_ibltSet {cfg : Cfg} {d : List Tx} {lc : Nat} {r : Ref} :
    r ∈ ibltSet cfg d lc ↔ ∃ t ∈ d, t.ref = r ∧ pg cfg t ≤ pageOf cfg lc := by
  unfold ibltSet pg
  simp only [List.mem_map, List.mem_filter, decide_eq_true_eq]
  constructor
  · rintro ⟨t, ⟨h1, h2⟩, h3⟩; exact ⟨t, h1, h3, h2⟩
  · rintro ⟨t, h1, h3, h2⟩; exact ⟨t, ⟨h1, h2⟩, h3⟩

theorem pageOf_mono (cfg : Cfg) {a b : Nat} (h : a ≤ b) : pageOf cfg a ≤ pageOf cfg b := Nat.div_le_div_right h

theorem pingPong_step (cfg : Cfg) (env : Env) (pA pB : Peer) (f : Nat) (a b : Node) (toB : List Msg) (h : toB ≠ []) :
    pingPong cfg env pA pB (f + 1) a b toB =
      pingPong cfg env pA pB f (absorb cfg env a pB (absorb cfg env b pA toB).2).1 (absorb cfg env b pA toB).1
        (absorb cfg env a pB (absorb cfg env b pA toB).2).2 := by
  have : toB.isEmpty = false := by cases toB with | nil => exact absurd rfl h | cons _ _ => rfl
  simp [pingPong, this]

theorem pingPong_nil (cfg : Cfg) (env : Env) (pA pB : Peer) (f : Nat) (a b : Node) : pingPong cfg env pA pB f a b [] = (a, b) := by
  cases f <;> simp [pingPong]

/-- refs of `d` on pages ≤ q -/
def UpTo (cfg : Cfg) (d : List Tx) (q : Nat) (r : Ref) : Prop := ∃ t ∈ d, t.ref = r ∧ pg cfg t ≤ q

def SameUpTo (cfg : Cfg) (a b : List Tx) (q : Nat) : Prop := ∀ r, UpTo cfg a q r ↔ UpTo cfg b q r

/-- the puller made no progress and this is what it learned: `b`'s transactions on the pages up to k are all in `a`,
    while compared up to any page from k to q₀ the two differ -/
def StuckAt (cfg : Cfg) (a b : List Tx) (q₀ : Nat) : Prop :=
  ∃ k, k ≤ q₀ + 1 ∧ (∀ t ∈ b, pg cfg t ≤ k → t ∈ a) ∧ (∀ q, k ≤ q → q ≤ q₀ → ¬ SameUpTo cfg a b q)

theorem stuck_of_sub (cfg : Cfg) (A B : List Tx) (q : Nat) (h : ∀ t ∈ B, t ∈ A) : StuckAt cfg A B q :=
  ⟨q + 1, Nat.le_refl _, fun t ht _ => h t ht, fun q' h1 h2 => by omega⟩

theorem ibltSet_peer (cfg : Cfg) (b : List Tx) (lcq : Nat) (r : Ref) :
    r ∈ ibltSet cfg b lcq ↔ UpTo cfg b (pageOf cfg (Nat.min (lcOf b) lcq)) r := by
  rw [mem_ibltSet]
  unfold UpTo
  constructor
  · rintro ⟨t, ht, hr, hp⟩
    refine ⟨t, ht, hr, ?_⟩
    by_cases h : lcOf b ≤ lcq
    · have : Nat.min (lcOf b) lcq = lcOf b := Nat.min_eq_left h
      rw [this]; exact pageOf_mono cfg (lcOf_ge b t ht)
    · have : Nat.min (lcOf b) lcq = lcq := Nat.min_eq_right (by omega)
      rw [this]; exact hp
  · rintro ⟨t, ht, hr, hp⟩
    exact ⟨t, ht, hr, Nat.le_trans hp (pageOf_mono cfg (Nat.min_le_right _ _))⟩

/-- constants and oracle contracts the liveness argument relies on -/
structure Hyp (cfg : Cfg) (env : Env) : Prop where
  ps : 0 < cfg.pageSize
  bs : cfg.blockState = false
  rp : 1 ≤ cfg.rangePages
  n1 : cfg.nextOne = (1, 2)
  n2 : cfg.nextTwo = (1, 3)
  dc : DC env
  ord : OrderOK env

theorem pg_le_of_clock_lt (cfg : Cfg) (hps : 0 < cfg.pageSize) (t : Tx) (k : Nat) (h : t.clock < (k + 1) * cfg.pageSize) : pg cfg t ≤ k := by
  unfold pg pageOf
  have := (Nat.div_lt_iff_lt_mul hps).mpr h
  omega

theorem clock_lt_of_pg_le (cfg : Cfg) (hps : 0 < cfg.pageSize) (t : Tx) (k : Nat) (h : pg cfg t ≤ k) : t.clock < (k + 1) * cfg.pageSize := by
  unfold pg pageOf at h
  have : t.clock / cfg.pageSize < k + 1 := by omega
  exact (Nat.div_lt_iff_lt_mul hps).mp this

theorem clock_ge_of_pg_ge (cfg : Cfg) (hps : 0 < cfg.pageSize) (t : Tx) (k : Nat) (h : k ≤ pg cfg t) : k * cfg.pageSize ≤ t.clock := by
  unfold pg pageOf at h
  exact (Nat.le_div_iff_mul_le hps).mp h

theorem pg_le_lc (cfg : Cfg) (d : List Tx) (t : Tx) (h : t ∈ d) : pg cfg t ≤ pageOf cfg (lcOf d) := pageOf_mono cfg (lcOf_ge d t h)

theorem same_of_beyond (cfg : Cfg) (hps : 0 < cfg.pageSize) (A B : List Tx) (hB : DagOK B) (q₀ : Nat) (hq : pageOf cfg (lcOf A) = q₀)
    (hBA : ∀ t ∈ B, pg cfg t ≤ q₀ + 1 → t ∈ A) (hAB : ∀ t ∈ A, pg cfg t ≤ q₀ + 1 → t ∈ B) :
    (∀ t ∈ B, t ∈ A) ∧ (∀ t ∈ A, t ∈ B) := by
  have hA_all : ∀ t ∈ A, t ∈ B := fun t ht => hAB t ht (by have := pg_le_lc cfg A t ht; omega)
  refine ⟨fun t ht => ?_, hA_all⟩
  by_cases hp : pg cfg t ≤ q₀ + 1
  · exact hBA t ht hp
  · -- a transaction of B two pages above A's top: B then has one exactly on the first clock of page q₀+1, which
    -- would be in A, above A's highest clock
    exfalso
    have hc : (q₀ + 1) * cfg.pageSize < t.clock := by
      have := clock_ge_of_pg_ge cfg hps t (q₀ + 2) (by omega)
      have h2 : (q₀ + 2) * cfg.pageSize = (q₀ + 1) * cfg.pageSize + cfg.pageSize := by
        rw [show q₀ + 2 = (q₀ + 1) + 1 from rfl, Nat.add_mul]; simp
      omega
    obtain ⟨t', ht', hc'⟩ := dagOK_clock_below hB t.clock t ht rfl ((q₀ + 1) * cfg.pageSize) hc
    have hpg : pg cfg t' = q₀ + 1 := by
      unfold pg pageOf; rw [hc']; exact Nat.mul_div_cancel _ hps
    have hin : t' ∈ A := hBA t' ht' (by omega)
    have := pg_le_lc cfg A t' hin
    omega

/-- **two stuck pulls**: if `a` pulling from `b` and `b` pulling from `a` both ended without anything new, the two
    DAGs hold the same transactions -/
theorem pair_stuck_same (cfg : Cfg) (hps : 0 < cfg.pageSize) (A B : List Tx) (hA : DagOK A) (hB : DagOK B)
    (h1 : StuckAt cfg A B (pageOf cfg (Nat.min (lcOf B) (lcOf A)))) (h2 : StuckAt cfg B A (pageOf cfg (Nat.min (lcOf A) (lcOf B)))) :
    (∀ t ∈ B, t ∈ A) ∧ (∀ t ∈ A, t ∈ B) := by
  have hminc : Nat.min (lcOf A) (lcOf B) = Nat.min (lcOf B) (lcOf A) := Nat.min_comm _ _
  rw [hminc] at h2
  generalize hq : pageOf cfg (Nat.min (lcOf B) (lcOf A)) = q₀ at h1 h2
  obtain ⟨k₁, hk₁, hs₁, hd₁⟩ := h1
  obtain ⟨k₂, hk₂, hs₂, hd₂⟩ := h2
  -- below min k₁ k₂ the two agree
  have same : ∀ k, k ≤ k₁ → k ≤ k₂ → SameUpTo cfg A B k ∧ SameUpTo cfg B A k := by
    intro k h1 h2
    have hab : ∀ r, UpTo cfg A k r → UpTo cfg B k r := by
      rintro r ⟨t, ht, hr, hp⟩; exact ⟨t, hs₂ t ht (by omega), hr, hp⟩
    have hba : ∀ r, UpTo cfg B k r → UpTo cfg A k r := by
      rintro r ⟨t, ht, hr, hp⟩; exact ⟨t, hs₁ t ht (by omega), hr, hp⟩
    exact ⟨fun r => ⟨hab r, hba r⟩, fun r => ⟨hba r, hab r⟩⟩
  -- so the smaller of k₁, k₂ lies beyond q₀: at it, one side would report a difference
  have hk : q₀ < k₁ ∧ q₀ < k₂ := by
    apply Classical.byContradiction
    intro hn
    by_cases hle : k₁ ≤ k₂
    · exact hd₁ k₁ (Nat.le_refl _) (by omega) (same k₁ (Nat.le_refl _) hle).1
    · exact hd₂ k₂ (Nat.le_refl _) (by omega) (same k₂ (by omega) (Nat.le_refl _)).2
  have hBA : ∀ t ∈ B, pg cfg t ≤ q₀ + 1 → t ∈ A := fun t ht hp => hs₁ t ht (by omega)
  have hAB : ∀ t ∈ A, pg cfg t ≤ q₀ + 1 → t ∈ B := fun t ht hp => hs₂ t ht (by omega)
  by_cases hle : lcOf A ≤ lcOf B
  · have : Nat.min (lcOf B) (lcOf A) = lcOf A := Nat.min_eq_right hle
    rw [this] at hq
    exact same_of_beyond cfg hps A B hB q₀ hq hBA hAB
  · have : Nat.min (lcOf B) (lcOf A) = lcOf B := Nat.min_eq_left (by omega)
    rw [this] at hq
    have := same_of_beyond cfg hps B A hA q₀ hq hAB hBA
    exact ⟨this.2, this.1⟩

theorem pageStart_succ (cfg : Cfg) (q : Nat) : pageStart cfg (q + 1) = pageStart cfg q + cfg.pageSize := by
  unfold pageStart; rw [Nat.add_mul]; simp

theorem page_first (cfg : Cfg) {m : Nat} (h : m < cfg.pageSize) : pageOf cfg m = 0 := Nat.div_eq_of_lt h

theorem div_pred_page (ps q : Nat) (hps : 0 < ps) (hq : 1 ≤ q) : (q * ps - 1) / ps = q - 1 := by
  obtain ⟨k, rfl⟩ : ∃ k, q = k + 1 := ⟨q - 1, by omega⟩
  rw [Nat.div_eq_iff hps, Nat.add_sub_cancel, Nat.succ_mul]; omega

/-- the request for the state at the end of the page before page `q` of `m = min B lcq` is compared at page `q - 1` -/
theorem page_prev (cfg : Cfg) (hps : 0 < cfg.pageSize) {B lcq q : Nat} (hq : pageOf cfg (Nat.min B lcq) = q)
    (hm : ¬ Nat.min B lcq < cfg.pageSize) :
    1 ≤ q ∧ pageStart cfg (pageOf cfg (Nat.min B lcq)) - 1 = q * cfg.pageSize - 1 ∧
      pageOf cfg (Nat.min B (q * cfg.pageSize - 1)) = q - 1 := by
  have hq1 : 1 ≤ q := by rw [← hq]; exact (Nat.le_div_iff_mul_le hps).mpr (by omega)
  refine ⟨hq1, by rw [hq]; rfl, ?_⟩
  have h1 : q * cfg.pageSize ≤ Nat.min B lcq := by rw [← hq]; exact Nat.div_mul_le_self _ _
  have h2 : Nat.min B lcq ≤ B := Nat.min_le_left _ _
  rw [show Nat.min B (q * cfg.pageSize - 1) = q * cfg.pageSize - 1 from Nat.min_eq_right (by omega)]
  exact div_pred_page cfg.pageSize q hps hq1

/-- the peer is pages ahead of the request: the comparison was made at the page of the request -/
theorem page_ahead (cfg : Cfg) {B lcq : Nat} (h : pageOf cfg B > pageOf cfg lcq) : Nat.min B lcq = lcq := by
  have hlt : lcq < B := Classical.byContradiction fun hn => by
    have := pageOf_mono cfg (show B ≤ lcq by omega); omega
  exact Nat.min_eq_right (by omega)

/-- the peer is not ahead: all its clocks lie on pages up to the one compared -/
theorem page_not_ahead (cfg : Cfg) {B lcq c : Nat} (h : ¬ pageOf cfg B > pageOf cfg lcq) (hc : c ≤ B) :
    pageOf cfg c ≤ pageOf cfg (Nat.min B lcq) := by
  have h1 := pageOf_mono cfg hc
  by_cases hle : B ≤ lcq
  · rw [show Nat.min B lcq = B from Nat.min_eq_left hle]; exact h1
  · rw [show Nat.min B lcq = lcq from Nat.min_eq_right (by omega)]; omega

theorem clock_in_page (cfg : Cfg) (hps : 0 < cfg.pageSize) (t : Tx) (k : Nat) (h1 : k ≤ pg cfg t) (h2 : pg cfg t ≤ k) :
    pageStart cfg k ≤ t.clock ∧ t.clock < pageStart cfg k + cfg.pageSize := by
  have := clock_lt_of_pg_le cfg hps t k h2
  rw [show (k + 1) * cfg.pageSize = pageStart cfg k + cfg.pageSize from pageStart_succ cfg k] at this
  exact ⟨clock_ge_of_pg_ge cfg hps t k h1, this⟩

/-- what a pull leaves behind, in terms of the DAGs `A` (puller, before) and `B` (server): `A` grown by transactions of
    `B`, and either something new or the knowledge `StuckAt` -/
structure Result (cfg : Cfg) (A B : List Tx) (q : Nat) (a' : Node) : Prop where
  grown : Grown A B a'.dag
  outcome : (∃ t ∈ a'.dag, t ∉ A) ∨ StuckAt cfg A B q

theorem Result.of_upTo {cfg : Cfg} {A B : List Tx} {q : Nat} {a' : Node} (g : Grown A B a'.dag) (k : Nat) (hk : k ≤ q + 1)
    (hsub : ∀ t ∈ B, pg cfg t ≤ k → t ∈ a'.dag) (hd : ∀ q', k ≤ q' → q' ≤ q → ¬ SameUpTo cfg A B q') : Result cfg A B q a' := by
  refine ⟨g, ?_⟩
  by_cases hprog : ∃ t ∈ a'.dag, t ∉ A
  · exact .inl hprog
  · exact .inr ⟨k, hk, fun t ht hp => Classical.byContradiction fun hn => hprog ⟨t, hsub t ht hp, hn⟩, hd⟩

theorem Result.lift {cfg : Cfg} {A B : List Tx} {q : Nat} {a' : Node} (hq : 1 ≤ q) (hdiff : ¬ SameUpTo cfg A B q)
    (r : Result cfg A B (q - 1) a') : Result cfg A B q a' := by
  refine ⟨r.grown, r.outcome.imp id ?_⟩
  rintro ⟨k, hk, hsub, hhigh⟩
  exact ⟨k, by omega, hsub, fun q' h1 h2 => if hq' : q' = q then hq' ▸ hdiff else hhigh q' h1 (by omega)⟩

/-- **range exchange**: an idle puller asks for clocks [s, e); `b` replies (at most `rangePages` pages); if the puller
    already has everything of `b` below `s`, it ends up with everything of `b` on the page starting at `s` -/
theorem finish_range {cfg : Cfg} {env : Env} (H : Hyp cfg env) (b : Node) (hB : DagOK b.dag) (hpb : PayloadsOK b) (pA pB : Peer)
    (n : Node) (s e : Nat) (hse : s + cfg.pageSize ≤ e) (hp : Pulls n.dag b.dag) (hc : n.convs = [])
    (hlow : ∀ t ∈ b.dag, t.clock < s → t ∈ n.dag) (f : Nat) :
    ∃ a2, pingPong cfg env pA pB (f + 1) (sendRangeQuery cfg n pB.key s e).node b
        (toPeer pB.key (sendRangeQuery cfg n pB.key s e).out) = (a2, b) ∧
      Grown n.dag b.dag a2.dag ∧ ∀ t ∈ b.dag, s ≤ t.clock → t.clock < s + cfg.pageSize → t ∈ a2.dag := by
  have hps := H.ps
  unfold sendRangeQuery
  rw [sendRequest_empty cfg n hc, toPeer_single _ _ rfl]
  obtain ⟨ls, hfl, hserve⟩ := serve_rangeQuery cfg env b hpb pA (n.id, n.nextCid) s e (by omega)
  rw [pingPong_step _ _ _ _ _ _ _ _ (by simp), hserve]
  simp only
  generalize hstop' : (if e > s + cfg.rangePages * cfg.pageSize then s + cfg.rangePages * cfg.pageSize else e) = stop' at hfl
  have hstop : s + cfg.pageSize ≤ stop' ∧ stop' ≤ e := by
    have : cfg.pageSize ≤ cfg.rangePages * cfg.pageSize := Nat.le_mul_of_pos_left _ H.rp
    rw [← hstop']
    split <;> omega
  have hin : ∀ t, t ∈ ls.flatten ↔ t ∈ b.dag ∧ s ≤ t.clock ∧ t.clock < stop' := fun t => by rw [hfl]; exact findBetween_iff
  obtain ⟨g0, g, g4⟩ := absorb_chunks cfg env b hB hpb pB (opened cfg n pB.key (.rangeQuery s e)) _ (.rangeQuery s e) ls hp
    (by show _ :: n.convs = _; rw [hc]) rfl
    (fun ch hch t ht => by
      have := (hin t).mp (List.mem_flatten.mpr ⟨ch, hch, ht⟩)
      exact ⟨this.2.1, by show t.clock < e; omega⟩)
    (fun t ht => ((hin t).mp ht).1) (by rw [hfl]; exact findBetween_sorted _ _ _)
    (fun t ht p hpp => by
      obtain ⟨hb1, _, hb3⟩ := (hin t).mp ht
      obtain ⟨tb, htb, hrb, hclk⟩ := dagOK_prev hB hb1 hpp
      by_cases hs : s ≤ tb.clock
      · exact Or.inr ⟨tb, (hin tb).mpr ⟨htb, hs, by omega⟩, hrb⟩
      · exact Or.inl (present_iff.mpr ⟨tb, hlow tb htb (by omega), hrb⟩))
  exact ⟨_, by rw [g0, pingPong_nil], g, fun t ht h1 h2 => g4 t ((hin t).mpr ⟨ht, h1, by omega⟩)⟩

/-- **list exchange**: an idle puller asks `b` for `refs`. Either it ends up with all of them that `b` has, or it met a
    transaction whose prevs it lacks and the exchange goes on from an idle node (grown meanwhile) that asks for `b`'s
    state; that does not happen when `refs` is closed under prevs relative to the puller -/
theorem finish_list {cfg : Cfg} {env : Env} (H : Hyp cfg env) (b : Node) (hB : DagOK b.dag) (hpb : PayloadsOK b) (pA pB : Peer)
    (n : Node) (refs : List Ref) (hne : refs ≠ []) (hp : Pulls n.dag b.dag) (hc : n.convs = []) (f : Nat) :
    (∃ a2, pingPong cfg env pA pB (f + 1) (sendListQuery cfg n pB.key refs).node b
        (toPeer pB.key (sendListQuery cfg n pB.key refs).out) = (a2, b) ∧
      Grown n.dag b.dag a2.dag ∧ ∀ t ∈ b.dag, t.ref ∈ refs → t ∈ a2.dag) ∨
    (∃ n', n'.convs = [] ∧ Grown n.dag b.dag n'.dag ∧
      pingPong cfg env pA pB (f + 1) (sendListQuery cfg n pB.key refs).node b (toPeer pB.key (sendListQuery cfg n pB.key refs).out) =
        pingPong cfg env pA pB f (sendState cfg n' pB.key (xorOf n'.dag) (lcOf n'.dag)).node b
          (toPeer pB.key (sendState cfg n' pB.key (xorOf n'.dag) (lcOf n'.dag)).out) ∧
      ¬ ∀ t ∈ b.dag, t.ref ∈ refs → ∀ p ∈ t.prevs, present n.dag p = true ∨ p ∈ refs) := by
  unfold sendListQuery
  rw [sendRequest_empty cfg n hc, toPeer_single _ _ rfl]
  obtain ⟨ls, hfl, hserve⟩ := serve_listQuery cfg env b hpb H.ord.sub pA (n.id, n.nextCid) refs hne
  rw [pingPong_step _ _ _ _ _ _ _ _ (by simp), hserve]
  simp only
  have hl_iff : ∀ t, t ∈ ls.flatten ↔ ∃ r ∈ refs, getTx b.dag r = some t := fun t => by
    rw [hfl, (H.ord.perm _).mem_iff, List.mem_filterMap]
  have hmem_b : ∀ t ∈ ls.flatten, t ∈ b.dag := fun t ht => by
    obtain ⟨r, _, hr⟩ := (hl_iff t).mp ht; exact getTx_mem hr
  have href : ∀ t ∈ ls.flatten, t.ref ∈ refs := fun t ht => by
    obtain ⟨r, hr, hg⟩ := (hl_iff t).mp ht; rw [getTx_ref hg]; exact hr
  have hin : ∀ t ∈ b.dag, t.ref ∈ refs → t ∈ ls.flatten := fun t ht hr =>
    (hl_iff t).mpr ⟨t.ref, hr, getTx_some_of_mem_nodup (dagOK_unique hB) ht⟩
  have g := absorb_grown cfg env b pB (n.id, n.nextCid) ls.length ls 0 (opened cfg n pB.key (.listQuery refs)) hp.ok hmem_b
  have h := absorb_chunks_general cfg env b hB hpb pB (n.id, n.nextCid) (.listQuery refs) ls.length ls 0
    (opened cfg n pB.key (.listQuery refs)) _ hp (by show _ :: n.convs = _; rw [hc]) rfl rfl
    (fun ch hch t ht => href t (List.mem_flatten.mpr ⟨ch, hch, ht⟩)) (by omega) hmem_b
  simp only at h
  generalize absorb cfg env (opened cfg n pB.key (.listQuery refs)) pB _ = ra at g h ⊢
  rcases h with ⟨e1, e2, _⟩ | ⟨n', e0, e1, e2, hno⟩
  · exact .inl ⟨_, by rw [e1, pingPong_nil], g, fun t ht hr => mem_of_present (hp.grown g).ref ht (e2 t (hin t ht hr))⟩
  · refine .inr ⟨n', e0, ?_, by rw [e1, e2], fun hcl => hno _ (have_present n.dag) ?_⟩
    · have : ra.1.dag = n'.dag := by rw [e1]; exact sendRequest_dag ..
      exact this ▸ g
    · refine prevClosed_of_sorted hB _ _ (by rw [hfl]; exact H.ord.sorted _) hmem_b fun t ht p hpp => ?_
      obtain ⟨tb, htb, hrb, _⟩ := dagOK_prev hB (hmem_b t ht) hpp
      rcases hcl t (hmem_b t ht) (href t ht) p hpp with h | h
      · obtain ⟨t', ht', hr'⟩ := present_iff.mp h
        exact .inl (List.mem_map.mpr ⟨t', ht', hr'⟩)
      · exact .inr ⟨tb, hin tb htb (hrb ▸ h), hrb⟩

/-- **the fallback chain**: an idle puller asks for `b`'s state at `lcq`; the two keep exchanging (State →
    TransactionSet → previous-page State … → list or range query → lists) and end with `Result` for the page `q` the
    first comparison was made at -/
theorem chain {cfg : Cfg} {env : Env} (H : Hyp cfg env) (b : Node) (hB : DagOK b.dag) (hpb : PayloadsOK b) (pA pB : Peer) :
    ∀ (q : Nat) (n : Node) (lcq : Nat), pageOf cfg (Nat.min (lcOf b.dag) lcq) = q →
      Pulls n.dag b.dag → xorOf b.dag ≠ xorOf n.dag → n.convs = [] →
      ∀ fuel, q + 2 ≤ fuel →
        ∃ a', pingPong cfg env pA pB fuel (sendState cfg n pB.key (xorOf n.dag) lcq).node b
            (toPeer pB.key (sendState cfg n pB.key (xorOf n.dag) lcq).out) = (a', b) ∧ Result cfg n.dag b.dag q a' := by
  intro q
  induction q using Nat.strongRecOn with
  | _ q ih =>
    intro n lcq hq hp hx hc fuel hfuel
    have hps := H.ps
    obtain ⟨f, rfl⟩ : ∃ f, fuel = f + 2 := ⟨fuel - 2, by omega⟩
    -- b answers the state request with its transaction set, which closes the conversation
    have hxb : (xorOf b.dag == xorOf n.dag) = false := by simpa using hx
    rw [sendState_free cfg n hc, toPeer_single _ _ rfl, pingPong_step cfg env pA pB (f + 1) _ _ _ (by simp), serve_state, hxb]
    simp only [Bool.false_eq_true, if_false]
    rw [absorb_single]
    simp only [handle]
    let N1 := convDone (opened cfg n pB.key (.state lcq)) (n.id, n.nextCid)
    have hdone : N1.convs = [] := by simp [N1, convDone, opened, hc]
    have hloc : ∀ r, r ∈ ibltSet cfg n.dag (Nat.min (lcOf b.dag) lcq) ↔ UpTo cfg n.dag q r := fun r => by rw [mem_ibltSet, hq]; rfl
    have hpeer : ∀ r, r ∈ ibltSet cfg b.dag lcq ↔ UpTo cfg b.dag q r := fun r => by rw [ibltSet_peer, hq]
    have hdiff : env.decode (ibltSet cfg n.dag (Nat.min (lcOf b.dag) lcq)) (.ofSet (ibltSet cfg b.dag lcq)) = .fail →
        ¬ SameUpTo cfg n.dag b.dag q := by
      intro hdec hs
      obtain ⟨m, hm⟩ := H.dc.empty _ _ (ibltSet_nodup hp.ok (Nat.min (lcOf b.dag) lcq)) (ibltSet_nodup hB lcq) (fun r => by rw [hloc, hpeer]; exact hs r)
      rw [hm] at hdec; cases hdec
    have hmiss : ∀ {missing}, env.decode (ibltSet cfg n.dag (Nat.min (lcOf b.dag) lcq)) (.ofSet (ibltSet cfg b.dag lcq)) = .ok missing →
        ∀ r, r ∈ missing ↔ (UpTo cfg b.dag q r ∧ ¬ UpTo cfg n.dag q r) := fun hdec r => by
      rw [H.dc.exact _ _ _ (ibltSet_nodup hp.ok _) (ibltSet_nodup hB _) hdec r, hpeer, hloc]
    -- nothing missing up to page q: everything of b up to page q is in n
    have hsubq : ∀ {missing}, env.decode (ibltSet cfg n.dag (Nat.min (lcOf b.dag) lcq)) (.ofSet (ibltSet cfg b.dag lcq)) = .ok missing →
        ¬ (!missing.isEmpty) = true → ∀ t ∈ b.dag, pg cfg t ≤ q → t ∈ n.dag := by
      intro missing hdec hm t ht hpq
      have hup : UpTo cfg n.dag q t.ref := Classical.byContradiction fun hn => by
        have := (hmiss hdec t.ref).mpr ⟨⟨t, ht, rfl, hpq⟩, hn⟩
        cases missing with
        | nil => cases this
        | cons _ _ => exact hm rfl
      obtain ⟨t', ht', hr, _⟩ := hup
      rw [← hp.ref t' (Or.inl ht') t (Or.inr ht) hr]; exact ht'
    have range_case : (∀ t ∈ b.dag, pg cfg t ≤ q → t ∈ n.dag) → ∀ (e : Nat), pageStart cfg (q + 1) + cfg.pageSize ≤ e →
        ∃ a', pingPong cfg env pA pB (f + 1) (sendRangeQuery cfg N1 pB.key (pageStart cfg (q + 1)) e).node b
            (toPeer pB.key (sendRangeQuery cfg N1 pB.key (pageStart cfg (q + 1)) e).out) = (a', b) ∧
          Result cfg n.dag b.dag q a' := by
      intro hsubq e he
      obtain ⟨a2, hpp, g, g4⟩ := finish_range H b hB hpb pA pB N1 (pageStart cfg (q + 1)) e he hp hdone
        (fun t ht h => hsubq t ht (pg_le_of_clock_lt cfg hps t q h)) f
      refine ⟨a2, hpp, .of_upTo g (q + 1) (by omega) (fun t ht hpt => ?_) (fun q' h1 h2 => by omega)⟩
      by_cases hpq : pg cfg t ≤ q
      · exact g.sub t (hsubq t ht hpq)
      · obtain ⟨h1, h2⟩ := clock_in_page cfg hps t (q + 1) (by omega) hpt
        exact g4 t ht h1 h2
    fun_cases handleTransactionSet cfg env (opened cfg n pB.key (.state lcq)) pB (n.id, n.nextCid) lcq (lcOf b.dag) (.ofSet (ibltSet cfg b.dag lcq)) with
    | case1 e he => simp [convCheck, findConv, opened, checkResponse] at he
    | case2 _ n1 minLC hdec => exact absurd hdec (H.dc.noerr _ _ (ibltSet_nodup hp.ok _) (ibltSet_nodup hB _))
    | case3 _ n1 minLC hdec hfirst =>
      -- the first page does not decode: ask for it
      have hq0 : q = 0 := hq ▸ page_first cfg hfirst
      obtain ⟨a2, hpp, g, g4⟩ := finish_range H b hB hpb pA pB n1 0 cfg.pageSize (by omega) hp hdone (fun t _ h => by omega) f
      refine ⟨a2, hpp, .of_upTo g 0 (by omega) (fun t ht hpt => ?_) (fun q' _ _ => (show q' = q by omega) ▸ hdiff hdec)⟩
      obtain ⟨h1, h2⟩ := clock_in_page cfg hps t 0 (Nat.zero_le _) hpt
      rw [show pageStart cfg 0 = 0 from Nat.zero_mul _] at h1 h2
      exact g4 t ht h1 h2
    | case4 _ n1 minLC hdec hfirst =>
      -- ask for the state at the end of the previous page
      obtain ⟨hq1, hlcq', hpage⟩ := page_prev cfg hps hq hfirst
      rw [show pageStart cfg (pageOf cfg minLC) - 1 = q * cfg.pageSize - 1 from hlcq']
      obtain ⟨a', hpp, r⟩ := ih (q - 1) (by omega) n1 (q * cfg.pageSize - 1) hpage hp hx hdone (f + 1) (by omega)
      exact ⟨a', hpp, .lift hq1 (hdiff hdec) r⟩
    | case5 _ n1 minLC missing hdec hne =>
      -- something decoded: ask for exactly those
      have hm : missing ≠ [] := fun h => by rw [h] at hne; cases hne
      have hclosed : ∀ t ∈ b.dag, t.ref ∈ missing → ∀ p ∈ t.prevs, present n.dag p = true ∨ p ∈ missing := by
        intro t ht hr p hpp
        by_cases hpres : present n.dag p = true
        · exact Or.inl hpres
        · right
          obtain ⟨tb, htb, hrb, hclk⟩ := dagOK_prev hB ht hpp
          obtain ⟨⟨t2, ht2, hr2, hp2⟩, _⟩ := (hmiss hdec t.ref).mp hr
          have : t2 = t := dagOK_unique hB t2 ht2 t ht hr2
          subst this
          exact (hmiss hdec p).mpr ⟨⟨tb, htb, hrb, Nat.le_trans (pageOf_mono cfg (by omega)) hp2⟩,
            fun ⟨ta, hta, hra, _⟩ => hpres (present_iff.mpr ⟨ta, hta, hra⟩)⟩
      rcases finish_list H b hB hpb pA pB n1 missing hm hp hdone f with ⟨a2, hpp, g, g4⟩ | ⟨_, _, _, _, hncl⟩
      · refine ⟨a2, hpp, g, Or.inl ?_⟩
        -- progress: a missing ref is a transaction of b that n did not have
        obtain ⟨r, hr⟩ := List.exists_mem_of_ne_nil _ hm
        obtain ⟨⟨t, ht, hrt, hpt⟩, hna⟩ := (hmiss hdec r).mp hr
        exact ⟨t, g4 t ht (hrt ▸ hr), fun hin => hna ⟨t, hin, hrt, hpt⟩⟩
      · exact absurd hclosed hncl
    | case6 _ n1 minLC missing hdec hne peerPage localPage reqPage hmore _ =>
      -- b has further pages: ask for the next one
      rw [H.n1, show reqPage = q by rw [← hq, page_ahead cfg hmore]]
      exact range_case (hsubq hdec hne) _ (by show _ ≤ pageStart cfg (q + 1 + 1); rw [pageStart_succ cfg (q + 1)]; omega)
    | case7 _ n1 minLC missing hdec hne peerPage localPage reqPage hmore _ =>
      rw [H.n2, show reqPage = q by rw [← hq, page_ahead cfg hmore]]
      exact range_case (hsubq hdec hne) _ (by show _ ≤ pageStart cfg (q + 2 + 1); rw [pageStart_succ cfg (q + 2), pageStart_succ cfg (q + 1)]; omega)
    | case8 _ n1 minLC missing hdec hne peerPage reqPage hmore =>
      -- b is not ahead: nothing to ask for; b ⊆ n
      rw [show toPeer pB.key ([] : Out) = [] from rfl, pingPong_nil]
      exact ⟨n1, rfl, .of_upTo (.refl hp.ok) (q + 1) (by omega)
        (fun t ht _ => hsubq hdec hne t ht (hq ▸ page_not_ahead cfg hmore (lcOf_ge b.dag t ht))) (fun q' h1 h2 => by omega)⟩

/-- the gossip queue of `n` for peer `key` exists, the peer is connected, and the queue is in sync with the DAG:
    cached XOR and clock are current and every queued ref is one of the node's own transactions -/
def QueueOK (n : Node) (key : Nat) : Prop :=
  ∃ qu, n.queues.find? (fun x => x.peer == key) = some qu ∧ (n.peers.any (fun p => p.key == key && p.connected)) = true ∧
    qu.xor = xorOf n.dag ∧ qu.clock = lcOf n.dag ∧ ∀ r ∈ qu.queue, present n.dag r = true

/-- **one pull round** (`b` gossips, `a` pulls), from a state where `a` has no open conversation: `b`'s DAG is
    untouched, `a` ends with `Result` — its DAG grown by transactions of `b`, with either something new or the
    knowledge `StuckAt` for the page of the smaller of the two clocks -/
theorem pull_result {cfg : Cfg} {env : Env} (H : Hyp cfg env) (a b : Node) (pA pB : Peer)
    (hp : Pulls a.dag b.dag) (hB : DagOK b.dag) (hpb : PayloadsOK b) (hq : QueueOK b pA.key) (hc : a.convs = [])
    (hxf : ∀ d : List Tx, DagOK d → (∀ t ∈ a.dag, t ∈ d) → (∀ t ∈ d, t ∈ a.dag ∨ t ∈ b.dag) → xorOf b.dag = xorOf d → ∀ t ∈ b.dag, t ∈ d)
    (fuel : Nat) (hfuel : pageOf cfg (lcOf b.dag) + 3 ≤ fuel) :
    ∃ a', pullRound cfg env pA pB fuel a b = (a', (gossipTick b pA.key).node) ∧ (gossipTick b pA.key).node.dag = b.dag ∧
      Result cfg a.dag b.dag (pageOf cfg (Nat.min (lcOf b.dag) (lcOf a.dag))) a' := by
  obtain ⟨qu, hfind, hconn, hqx, hqc, hqr⟩ := hq
  have htick : gossipTick b pA.key =
      { node := { b with queues := b.queues.map (fun x => if x.peer == pA.key then { x with queue := [] } else x) },
        out := [(pA.key, .gossip qu.xor qu.clock qu.queue)] } := by
    unfold gossipTick; rw [hfind]; simp only [hconn, if_true]
  let tb : Node := { b with queues := b.queues.map (fun x => if x.peer == pA.key then { x with queue := [] } else x) }
  have hptb : PayloadsOK tb := hpb
  -- whoever grew from `a` by transactions of `b` and shows `b`'s XOR holds all of `b`
  have full : ∀ {A' : List Tx} {q : Nat} {a' : Node}, Grown a.dag b.dag A' → a'.dag = A' → xorOf b.dag = xorOf A' →
      Result cfg a.dag b.dag q a' := fun {A' q a'} g hd hx =>
    .of_upTo (hd ▸ g) (q + 1) (Nat.le_refl _) (fun t ht _ => hd ▸ hxf A' g.ok g.sub g.src hx t ht) (fun q' h1 h2 => by omega)
  have fuelOK : ∀ lcq, pageOf cfg (Nat.min (lcOf tb.dag) lcq) + 3 ≤ fuel := fun lcq => by
    have : pageOf cfg (Nat.min (lcOf tb.dag) lcq) ≤ pageOf cfg (lcOf b.dag) := pageOf_mono cfg (Nat.min_le_left _ _)
    omega
  unfold pullRound
  simp only
  rw [htick]
  simp only
  rw [toPeer_single _ _ rfl, absorb_single]
  suffices hmain : ∃ a', pingPong cfg env pA pB fuel (handle cfg env a pB (.gossip qu.xor qu.clock qu.queue)).node tb
      (toPeer pB.key (handle cfg env a pB (.gossip qu.xor qu.clock qu.queue)).out) = (a', tb) ∧
      Result cfg a.dag b.dag (pageOf cfg (Nat.min (lcOf b.dag) (lcOf a.dag))) a' by
    obtain ⟨a', h1, h2⟩ := hmain
    exact ⟨a', h1, trivial, h2⟩
  obtain ⟨f, rfl⟩ : ∃ f, fuel = f + 3 := ⟨fuel - 3, by omega⟩
  simp only [handle]
  unfold handleGossip
  simp only
  rw [hqx, hqc]
  by_cases hxeq : (xorOf a.dag == xorOf b.dag) = true
  · -- equal XOR: nothing to do
    simp only [hxeq, if_true]
    rw [show toPeer pB.key ([] : Out) = [] from rfl, pingPong_nil]
    exact ⟨a, rfl, full (.refl hp.ok) rfl (by simpa using hxeq : xorOf a.dag = xorOf b.dag).symm⟩
  · simp only [hxeq, Bool.false_eq_true, if_false]
    have hxne : xorOf b.dag ≠ xorOf a.dag := fun h => hxeq (by simp [h])
    -- the node after logging the gossiped refs: same DAG, still no conversation
    generalize hn1def : (if qu.queue.isEmpty = true then a else gossipReceived cfg a pB.key qu.queue) = n1
    have hn1dag : n1.dag = a.dag := by rw [← hn1def]; split <;> rfl
    have hn1c : n1.convs = [] := by rw [← hn1def]; split <;> simp [hc, gossipReceived]
    have hp1 : Pulls n1.dag tb.dag := hn1dag ▸ hp
    generalize hnewsdef : qu.queue.filter (fun r => !present a.dag r) = news
    by_cases hcond : (xorRefs (xorOf a.dag) news == xorOf b.dag || (decide (lcOf b.dag < lcOf a.dag) && !news.isEmpty)) = true
    · -- the gossiped refs explain the difference (or the peer is behind): ask for them
      simp only [hcond, if_true]
      have hnews : news ≠ [] := by
        intro hn
        have h0 : xorRefs (xorOf a.dag) news = xorOf a.dag := by rw [hn]; rfl
        rw [h0, hn] at hcond
        simp at hcond
        exact hxne hcond.symm
      rcases finish_list H tb hB hptb pA pB n1 news hnews hp1 hn1c (f + 2) with ⟨a2, hpp, g, g4⟩ | ⟨n', e0, g, hpp, _⟩
      · -- everything taken: a gossiped ref `a` lacked is a transaction of `b`, now there
        refine ⟨a2, hpp, hn1dag ▸ g, Or.inl ?_⟩
        obtain ⟨r, hr⟩ := List.exists_mem_of_ne_nil _ hnews
        have hrq := List.mem_filter.mp (hnewsdef ▸ hr : r ∈ qu.queue.filter (fun r => !present a.dag r))
        obtain ⟨t, _, htb', hrt⟩ := getTx_of_present (hqr r hrq.1)
        refine ⟨t, g4 t htb' (hrt ▸ hr), fun hta => ?_⟩
        have : present a.dag r = true := present_iff.mpr ⟨t, hta, hrt⟩
        simp [this] at hrq
      · -- start over via State, from the (possibly grown) DAG of `n'`
        rw [hpp]
        have g' : Grown a.dag b.dag n'.dag := hn1dag ▸ g
        by_cases hx1 : xorOf b.dag = xorOf n'.dag
        · -- b sees equal XORs and stays silent
          rw [sendState_free cfg n' e0, toPeer_single _ _ rfl, pingPong_step cfg env pA pB (f + 1) _ _ _ (by simp), serve_state]
          simp only [show (xorOf tb.dag == xorOf n'.dag) = true by simp [show tb.dag = b.dag from rfl, hx1], if_true]
          rw [show absorb cfg env _ pB [] = (_, []) from rfl, pingPong_nil]
          exact ⟨_, rfl, full g' rfl hx1⟩
        · obtain ⟨a', hpp', r, r4⟩ := chain H tb hB hptb pA pB _ n' (lcOf n'.dag) rfl (hp.grown g') hx1 e0 (f + 2)
            (by have := fuelOK (lcOf n'.dag); omega)
          refine ⟨a', hpp', g'.trans r, ?_⟩
          by_cases hprog : ∃ t ∈ n'.dag, t ∉ a.dag
          · obtain ⟨t, ht, hn⟩ := hprog
            exact Or.inl ⟨t, r.sub t ht, hn⟩
          · -- nothing was added before the restart: the chain ran from a's own DAG
            rw [← g'.same hprog]; exact r4
    · -- ask for the peer's state: the fallback chain
      simp only [hcond, Bool.false_eq_true, if_false]
      rw [show xorOf a.dag = xorOf n1.dag by rw [hn1dag], show lcOf a.dag = lcOf n1.dag by rw [hn1dag]]
      obtain ⟨a', hpp, r⟩ := chain H tb hB hptb pA pB _ n1 (lcOf n1.dag) rfl hp1 (hn1dag ▸ hxne) hn1c (f + 3)
        (by have := fuelOK (lcOf n1.dag); omega)
      exact ⟨a', hpp, hn1dag ▸ r⟩

end Nuts.Proto.Live
