/-
  Composition C09 ∘ C10; the glued node is in NutsModel/Compose/Did.lean.  `step_cases` says what one delivery does to the node
  (nothing, or C10's `add` of the accepted event) and `run_induction` carries a property along a history.  On them: the store IS
  C10's `addAll` over the accepted events (`run_is_addAll`, `mem_accepted`, `mem_events_accepted`); the chain-of-custody invariant
  (`stored_events_authorised`, `hasCreation_all`); and `Agree` — equal per-DID records — as a bisimulation for deliveries
  (`step_agree`, `run_agree`).  The `_agree` lemmas go through C09's and C10's functions one by one, under `Agree`, which belongs
  to the composition.
-/
import NutsModel.Compose.Did
import NutsProofs.Lemmas.C09
import NutsProofs.Lemmas.C10
import NutsProofs.Lemmas.C10Resolve
import NutsProofs.Props.C09
namespace Nuts.Compose.Did
open Nuts.C10 Nuts.C09

theorem step_cases (c : C09.Cfg) (s : Store) (p : Delivery) :
    ((step c s p.1 p.2).1 = s ∧ (step c s p.1 p.2).2 ≠ "ok" ∧ acceptedEvent c s p = none) ∨
    ∃ d s', p.2 = some d ∧ deliver c s p.1 p.2 = .ok s' ∧ step c s p.1 p.2 = (s', "ok") ∧
      acceptedEvent c s p = some (eventOf p.1 d) ∧ add c.store s (eventOf p.1 d) = .ok s' := by
  unfold acceptedEvent
  rcases C09.step_cases c s p.1 p.2 with ⟨hs, ho⟩ | ⟨s', d, hd, hst, hpd, hadd⟩
  · refine .inl ⟨hs, ho, ?_⟩
    split
    · next hd => exact absurd (by rw [step_snd, hd]; rfl) ho
    · rfl
  · exact .inr ⟨d, s', hpd, hd, hst, by rw [hd, hpd], hadd⟩

theorem run_is_addAll (c : C09.Cfg) : ∀ (l : List Delivery) (s : Store),
    addAll c.store s (accepted c s l) = .ok (run c s l) := by
  intro l
  induction l with
  | nil => intro s; rfl
  | cons p ps ih =>
    intro s
    unfold accepted run
    rcases step_cases c s p with ⟨hs, -, he⟩ | ⟨d, s', -, -, hst, he, hadd⟩
    · rw [he, hs]; exact ih s
    · rw [he, hst]
      show addAll c.store s (eventOf p.1 d :: accepted c s' ps) = _
      unfold addAll
      rw [hadd]
      exact ih s'

theorem run_eq_runHist (c : C09.Cfg) (l : List Delivery) (s : Store) : run c s l = runHist c s l := by
  fun_induction run c s l with
  | case1 s => rfl
  | case2 s p ps ih => exact ih

theorem run_append (c : C09.Cfg) (l₁ l₂ : List Delivery) (s : Store) : run c s (l₁ ++ l₂) = run c (run c s l₁) l₂ := by
  fun_induction run c s l₁ with
  | case1 s => rfl
  | case2 s p ps ih => exact ih

theorem run_induction (c : C09.Cfg) {P : List Delivery → Store → Prop} (h0 : P [] {})
    (hstep : ∀ l p, P l (run c {} l) → P (l ++ [p]) (step c (run c {} l) p.1 p.2).1) : ∀ l, P l (run c {} l) := by
  suffices ∀ (l l₀ : List Delivery), P l₀ (run c {} l₀) → P (l₀ ++ l) (run c {} (l₀ ++ l)) from fun l => this l [] h0
  intro l
  induction l with
  | nil => intro l₀ h; rwa [List.append_nil]
  | cons p ps ih =>
    intro l₀ h
    rw [List.append_cons]
    exact ih (l₀ ++ [p]) (by rw [run_append]; exact hstep l₀ p h)

theorem accepted_append (c : C09.Cfg) (l₁ l₂ : List Delivery) (s : Store) :
    accepted c s (l₁ ++ l₂) = accepted c s l₁ ++ accepted c (run c s l₁) l₂ := by
  fun_induction run c s l₁ with
  | case1 s => rfl
  | case2 s p ps ih => simp only [List.cons_append, accepted, ih, List.append_assoc]

theorem mem_accepted (c : C09.Cfg) (l : List Delivery) (s : Store) (e : Event) :
    e ∈ accepted c s l ↔
    ∃ pre tx d post s', l = pre ++ (tx, some d) :: post ∧ e = eventOf tx d ∧
      deliver c (run c s pre) tx (some d) = .ok s' := by
  fun_induction run c s l with
  | case1 s => simp [accepted]
  | case2 s p ps ih =>
    unfold accepted
    rw [List.mem_append, ih]
    constructor
    · rintro (h | ⟨pre, tx, d, post, s', hl, he, hok⟩)
      · rcases step_cases c s p with ⟨-, -, hn⟩ | ⟨d, s', hpd, hd, -, hs, -⟩
        · rw [hn] at h; cases h
        · rw [hs] at h
          exact ⟨[], p.1, d, ps, s', by rw [← hpd]; rfl, by simpa using h, hpd ▸ hd⟩
      · exact ⟨p :: pre, tx, d, post, s', by rw [hl]; rfl, he, hok⟩
    · rintro ⟨pre, tx, d, post, s', hl, he, hok⟩
      cases pre with
      | nil => cases hl; exact .inl (by simp [acceptedEvent, show deliver c s tx (some d) = .ok s' from hok, he])
      | cons q qs => cases hl; exact .inr ⟨qs, tx, d, post, s', rfl, he, hok⟩

theorem step_mono (c : C09.Cfg) (s : Store) (p : Delivery) (id : String) (x : Event)
    (hx : x ∈ (s.get id).events) : x ∈ ((step c s p.1 p.2).1.get id).events := by
  rcases step_cases c s p with ⟨hs, -, -⟩ | ⟨d, s', -, -, hst, -, hadd⟩
  · rw [hs]; exact hx
  · rw [hst]; exact add_mono c.store s s' _ hadd id x hx

theorem run_mono (c : C09.Cfg) (l : List Delivery) (s : Store) (id : String) (x : Event)
    (hx : x ∈ (s.get id).events) : x ∈ ((run c s l).get id).events := by
  fun_induction run c s l with
  | case1 s => exact hx
  | case2 s p ps ih => exact ih (step_mono c s p id x hx)

theorem run_storeInv (c : C09.Cfg) (l : List Delivery) : StoreInv c.store (run c {} l) :=
  addAll_storeInv c.store _ {} _ (storeInv_empty c.store) (run_is_addAll c l {})

theorem run_inv (c : C09.Cfg) (l : List Delivery) (id : String) : Inv c.store ((run c {} l).get id) :=
  get_inv c.store _ (run_storeInv c l) id

/-- the key that made the signature is listed for capabilityInvocation by a controller (`C09.ControllerFor`: the version
    itself, or a listed controller DID resolved for the transaction's prevs / signing time and active within the depth
    bound) of the stored version `v` -/
def KeyControls (c : C09.Cfg) (s : Store) (tx : Tx) (v : Doc) : Prop :=
  ∃ ctrl en, ControllerFor c s tx v ctrl ∧ en ∈ ctrl.f .capInv ∧ KeyInfo.ofBody en.body = .key tx.signer

/-- the authorisation under which `(tx, d)` enters the store `s`: a creation signed by the key the transaction embeds, from
    which the DID is derived; or an update whose signer controls the version it succeeds AND every other version of the DID
    that its prevs name -/
def Authorised (c : C09.Cfg) (s : Store) (tx : Tx) (d : NDoc) : Prop :=
  (tx.embedded = some tx.signer ∧ d.idID = c.didThumb tx.signer) ∨
  (tx.embedded = none ∧
    (∃ cur, Succeeds s d.id tx.prevs cur ∧ KeyControls c s tx cur) ∧
    ∃ others, otherNamed s d.id tx.prevs = .ok others ∧ ∀ v ∈ others,
      (∃ p ∈ tx.prevs, ∃ m, resolve s d.id (some { allowDeactivated := true, sourceTx := some p }) = .ok (v, m)) ∧
      KeyControls c s tx v)

theorem deliver_ok_authorised (c : C09.Cfg) (hinj : ∀ a b, c.thumb a = c.thumb b → a = b)
    (s s' : Store) (tx : Tx) (d : NDoc) (h : deliver c s tx (some d) = .ok s') : Authorised c s tx d := by
  obtain ⟨hv, hcb⟩ := deliver_ok_inv c s s' tx (some d) h
  cases he : tx.embedded with
  | some k =>
    left
    obtain ⟨d', hpd, _, hid, _, _⟩ := C09.Props.accepted_create_sound c s s' tx (some d) k hcb he
    cases hpd
    have hs := verifySig_embedded s tx k he hv
    subst hs
    exact ⟨he, hid⟩
  | none =>
    right
    refine ⟨he, ?_, ?_⟩
    · obtain ⟨d', cur, ctrl, e, hpd, hsucc, hctrl, hmem, hk⟩ :=
        C09.Props.accepted_update_signed_by_controller_key c s s' tx (some d) hinj h he
      cases hpd
      exact ⟨cur, hsucc, ctrl, e, hctrl, hmem, hk⟩
    · obtain ⟨d', k, others, hpd, hk, ho, hall⟩ :=
        C09.Props.accepted_update_authorised_under_every_named_version c s s' tx (some d) hcb he
      cases hpd
      have hs := verifySig_kid s tx he hv
      rw [resolvePublicKey_ok_store c.maxDepth s tx.kid tx.prevs k hk] at hs
      cases hs
      refine ⟨others, ho, fun v hv' => ?_⟩
      obtain ⟨hnamed, ctrl, e, k', hctrl, hmem, hk', ht⟩ := hall v hv'
      have := hinj _ _ ht
      subst this
      exact ⟨hnamed, ctrl, e, hctrl, hmem, hk'⟩

/-- `e` entered the store as an accepted delivery of the history `l`, authorised (`Authorised`) in the state the node had
    reached when it was delivered -/
def EnteredAuthorised (c : C09.Cfg) (l : List Delivery) (e : Event) : Prop :=
  ∃ pre tx d post s', l = pre ++ (tx, some d) :: post ∧ e = eventOf tx d ∧
    deliver c (run c {} pre) tx (some d) = .ok s' ∧ Authorised c (run c {} pre) tx d

/-- `e` entered the store as an accepted CREATION: signed by the key the transaction embeds, the DID being that key's
    thumbprint -/
def EnteredAsCreation (c : C09.Cfg) (l : List Delivery) (e : Event) : Prop :=
  ∃ pre tx d post s', l = pre ++ (tx, some d) :: post ∧ e = eventOf tx d ∧
    deliver c (run c {} pre) tx (some d) = .ok s' ∧ tx.embedded = some tx.signer ∧ d.idID = c.didThumb tx.signer

theorem enteredAsCreation_lift (c : C09.Cfg) (l l' : List Delivery) (e : Event) (h : EnteredAsCreation c l e) :
    EnteredAsCreation c (l ++ l') e := by
  obtain ⟨pre, tx, d, post, s', hl, he, hok, h1, h2⟩ := h
  exact ⟨pre, tx, d, post ++ l', s', by rw [hl]; simp, he, hok, h1, h2⟩

/-- every stored event is the event of an accepted delivery of its DID (no contract on refs needed) -/
theorem mem_events_accepted (c : C09.Cfg) (l : List Delivery) (id : String) (e : Event)
    (h : e ∈ ((run c {} l).get id).events) : e ∈ accepted c {} l ∧ e.doc.id = id := by
  rw [run_eq_runHist] at h
  obtain ⟨pre, tx, d, post, hl, he, hid, hok⟩ := C09.Props.resolvable_only_if_accepted c l id e h
  rw [← run_eq_runHist] at hok
  rcases step_cases c (run c {} pre) (tx, some d) with ⟨-, ho, -⟩ | ⟨-, s', -, hs', -, -, -⟩
  · exact absurd hok ho
  · exact ⟨(mem_accepted c l {} e).mpr ⟨pre, tx, d, post, s', hl, he, hs'⟩, by rw [he, ← hid]; rfl⟩

theorem stored_events_authorised (c : C09.Cfg) (hinj : ∀ a b, c.thumb a = c.thumb b → a = b)
    (l : List Delivery) (id : String) (e : Event) (h : e ∈ ((run c {} l).get id).events) :
    e.doc.id = id ∧ EnteredAuthorised c l e := by
  obtain ⟨hacc, hid⟩ := mem_events_accepted c l id e h
  obtain ⟨pre, tx, d, post, s', hl, he, hok⟩ := (mem_accepted c l {} e).mp hacc
  exact ⟨hid, pre, tx, d, post, s', hl, he, hok, deliver_ok_authorised c hinj _ s' tx d hok⟩

def HasCreation (c : C09.Cfg) (l : List Delivery) : Prop :=
  ∀ id, ((run c {} l).get id).events ≠ [] → ∃ e ∈ ((run c {} l).get id).events, EnteredAsCreation c l e

theorem succeeds_events_ne (cfg : C10.Cfg) (s : Store) (id : String) (hinv : Inv cfg (s.get id))
    (prevs : List Nat) (cur : Doc) (h : Succeeds s id prevs cur) : (s.get id).events ≠ [] := by
  rcases h with ⟨p, _, m, hr⟩ | ⟨_, m, hr⟩
  · exact resolve_ok_events_ne cfg s id hinv _ _ hr
  · exact resolve_ok_events_ne cfg s id hinv _ _ hr

theorem hasCreation_step (c : C09.Cfg) (l : List Delivery) (p : Delivery) (ih : HasCreation c l) :
    HasCreation c (l ++ [p]) := by
  intro id hne
  have hrun : run c {} (l ++ [p]) = (step c (run c {} l) p.1 p.2).1 := by rw [run_append]; rfl
  rw [hrun] at hne ⊢
  by_cases hs : ((run c {} l).get id).events = []
  · obtain ⟨x, hx⟩ := List.exists_mem_of_ne_nil _ hne
    rcases step_events c (run c {} l) p.1 p.2 id x hx with h0 | ⟨hok, d, hpd, he, hid⟩
    · rw [hs] at h0; cases h0
    · obtain ⟨s', hs'⟩ : ∃ s', deliver c (run c {} l) p.1 p.2 = .ok s' := by
        rcases step_cases c (run c {} l) p with ⟨-, ho, -⟩ | ⟨-, s', -, hs', -, -, -⟩
        · exact absurd hok ho
        · exact ⟨s', hs'⟩
      obtain ⟨hv, hcb⟩ := deliver_ok_inv c _ s' p.1 p.2 hs'
      cases hemb : p.1.embedded with
      | none =>
        obtain ⟨d', cur, _, _, _, _, hpd', _, hsucc, _⟩ := C09.Props.accepted_update_sound c _ s' p.1 p.2 hcb hemb
        rw [hpd] at hpd'
        cases hpd'
        rw [hid] at hsucc
        exact absurd hs (succeeds_events_ne c.store _ id (run_inv c l id) _ _ hsucc)
      | some k =>
        obtain ⟨d', hpd', _, hidk, _, _⟩ := C09.Props.accepted_create_sound c _ s' p.1 p.2 k hcb hemb
        rw [hpd] at hpd'
        cases hpd'
        have hk := verifySig_embedded _ p.1 k hemb hv
        subst hk
        refine ⟨x, hx, l, p.1, d, [], s', ?_, he, ?_, hemb, hidk⟩
        · obtain ⟨tx, pd⟩ := p
          simp only at hpd
          rw [hpd]
        · rw [← hpd]; exact hs'
  · obtain ⟨e0, he0, hc0⟩ := ih id hs
    exact ⟨e0, step_mono c _ p id e0 he0, enteredAsCreation_lift c l [p] e0 hc0⟩

theorem hasCreation_all (c : C09.Cfg) (l : List Delivery) : HasCreation c l :=
  run_induction c (P := fun l _ => HasCreation c l) (by intro id hne; simp [run, Store.get, alGet] at hne)
    (fun l p h => hasCreation_step c l p h) l

inductive Reachable (c : C09.Cfg) : Store → Prop where
  | empty : Reachable c {}
  | step (s : Store) (tx : Tx) (pd : Option NDoc) : Reachable c s → Reachable c (step c s tx pd).1

theorem reachable_iff_run (c : C09.Cfg) (s : Store) : Reachable c s ↔ ∃ l, s = run c {} l := by
  constructor
  · intro h
    induction h with
    | empty => exact ⟨[], rfl⟩
    | step s tx pd _ ih =>
      obtain ⟨l, rfl⟩ := ih
      exact ⟨l ++ [(tx, pd)], by rw [run_append]; rfl⟩
  · rintro ⟨l, rfl⟩
    exact run_induction c (P := fun _ s => Reachable c s) .empty (fun _ p h => .step _ p.1 p.2 h) l

/-- two stores hold the same record for every DID (they may list the DIDs in different orders) -/
def Agree (s₁ s₂ : Store) : Prop := ∀ id, s₁.get id = s₂.get id

def outcome (r : Res Store) : Res Unit :=
  match r with | .ok _ => .ok () | .err e => .err e | .panic x => .panic x

section
variable {s₁ s₂ : Store} (h : Agree s₁ s₂)
include h

theorem resolve_agree : resolve s₁ = resolve s₂ := by
  funext id rm; unfold resolve; rw [h id]

theorem storeDoc_agree : storeDoc s₁ = storeDoc s₂ := by
  funext rm id; unfold storeDoc; rw [resolve_agree h]

theorem resolverResolve_agree (n : Nat) : resolverResolve n s₁ = resolverResolve n s₂ := by
  funext rm id; unfold resolverResolve; rw [storeDoc_agree h]

theorem resolveControllersTop_agree (n : Nat) : resolveControllersTop n s₁ = resolveControllersTop n s₂ := by
  funext rm doc; unfold resolveControllersTop; rw [resolverResolve_agree h]

theorem resolvePublicKeyStore_agree : resolvePublicKeyStore s₁ = resolvePublicKeyStore s₂ := by
  funext kid prevs; unfold resolvePublicKeyStore; rw [storeDoc_agree h]

theorem verifySig_agree : verifySig s₁ = verifySig s₂ := by
  funext tx; unfold verifySig; rw [resolvePublicKeyStore_agree h]

theorem resolvePublicKey_agree (n : Nat) : resolvePublicKey n s₁ = resolvePublicKey n s₂ := by
  funext kid prevs; unfold resolvePublicKey; rw [resolverResolve_agree h]

theorem currentVersion_agree (id : String) (prevs : List Nat) : currentVersion s₁ id prevs = currentVersion s₂ id prevs := by
  induction prevs with
  | nil => simp only [currentVersion, resolve_agree h]
  | cons p ps ih => simp only [currentVersion, resolve_agree h, ih]

theorem namedVersions_agree (id : String) (prevs : List Nat) : namedVersions s₁ id prevs = namedVersions s₂ id prevs := by
  induction prevs with
  | nil => simp only [namedVersions]
  | cons p ps ih => simp only [namedVersions, resolve_agree h, ih]

theorem otherNamed_agree (id : String) (prevs : List Nat) : otherNamed s₁ id prevs = otherNamed s₂ id prevs := by
  unfold otherNamed; rw [namedVersions_agree h]

theorem ctrlsPerPrev_agree (c : C09.Cfg) (doc : Doc) (prevs : List Nat) :
    ctrlsPerPrev c s₁ doc prevs = ctrlsPerPrev c s₂ doc prevs := by
  induction prevs with
  | nil => simp only [ctrlsPerPrev]
  | cons p ps ih => simp only [ctrlsPerPrev, resolveControllersTop_agree h, ih]

theorem ambControllers_agree (c : C09.Cfg) (doc : Doc) (tx : Tx) : ambControllers c s₁ doc tx = ambControllers c s₂ doc tx := by
  unfold ambControllers; rw [ctrlsPerPrev_agree h, resolveControllersTop_agree h]

theorem authorisedBy_agree (c : C09.Cfg) (tx : Tx) (t : String) (v : Doc) :
    authorisedBy c s₁ tx t v = authorisedBy c s₂ tx t v := by
  unfold authorisedBy; rw [ambControllers_agree h]

theorem checkOthers_agree (c : C09.Cfg) (tx : Tx) (t : String) (vs : List Doc) :
    checkOthers c s₁ tx t vs = checkOthers c s₂ tx t vs := by
  induction vs with
  | nil => simp only [checkOthers]
  | cons v vs ih => simp only [checkOthers, authorisedBy_agree h, ih]

theorem Agree.add (cfg : C10.Cfg) (e : Event) :
    outcome (add cfg s₁ e) = outcome (add cfg s₂ e) ∧
    ∀ a b, add cfg s₁ e = .ok a → add cfg s₂ e = .ok b → Agree a b := by
  constructor
  · unfold C10.add
    simp only
    rw [h e.doc.id]
    cases addDid cfg (s₂.get e.doc.id) e with
    | ok o => cases o <;> rfl
    | err x => rfl
    | panic x => rfl
  · intro a b ha hb id
    obtain ⟨ho₁, hs₁⟩ := add_get cfg s₁ a e ha
    obtain ⟨ho₂, hs₂⟩ := add_get cfg s₂ b e hb
    by_cases hid : id = e.doc.id
    · subst hid
      rw [h e.doc.id] at hs₁
      rcases hs₁ with ⟨hn₁, rfl⟩ | hsome₁ <;> rcases hs₂ with ⟨hn₂, rfl⟩ | hsome₂
      · exact h _
      · rw [hn₁] at hsome₂; cases hsome₂
      · rw [hn₂] at hsome₁; cases hsome₁
      · rw [hsome₁] at hsome₂
        simpa using hsome₂
    · rw [ho₁ id hid, ho₂ id hid]; exact h id

theorem storeAdd_agree (c : C09.Cfg) (tx : Tx) (d : NDoc) :
    outcome (storeAdd c s₁ tx d) = outcome (storeAdd c s₂ tx d) := by
  have := (h.add c.store (eventOf tx d)).1
  unfold storeAdd
  revert this
  cases add c.store s₁ (eventOf tx d) <;> cases add c.store s₂ (eventOf tx d) <;> simp [outcome]

theorem handleUpdate_agree (c : C09.Cfg) (tx : Tx) (d : NDoc) :
    outcome (handleUpdate c s₁ tx d) = outcome (handleUpdate c s₂ tx d) := by
  unfold handleUpdate
  rw [currentVersion_agree h, resolvePublicKey_agree h, otherNamed_agree h]
  split
  · rfl
  · rfl
  · rw [ambControllers_agree h]
    split
    · rfl
    · rfl
    · split
      · rfl
      · rfl
      · split
        · rfl
        · rfl
        · rfl
        · split
          · rfl
          · rfl
          · rw [checkOthers_agree h]
            split
            · rfl
            · rfl
            · rfl
            · exact storeAdd_agree h c tx d

theorem deliver_agree (c : C09.Cfg) (tx : Tx) (pd : Option NDoc) :
    outcome (deliver c s₁ tx pd) = outcome (deliver c s₂ tx pd) := by
  unfold deliver
  rw [verifySig_agree h]
  split
  · unfold callback
    split
    · rfl
    · rfl
    · split
      · rfl
      · split
        · rfl
        · rfl
        · split
          · exact handleUpdate_agree h c tx _
          · unfold handleCreate
            split
            · rfl
            · exact storeAdd_agree h c tx _
  · rfl
  · rfl
end

theorem cls_outcome (r : Res Store) : (outcome r).cls = r.cls := by
  cases r <;> rfl

theorem step_agree (c : C09.Cfg) {s₁ s₂ : Store} (h : Agree s₁ s₂) (p : Delivery) :
    (step c s₁ p.1 p.2).2 = (step c s₂ p.1 p.2).2 ∧ acceptedEvent c s₁ p = acceptedEvent c s₂ p ∧
    Agree (step c s₁ p.1 p.2).1 (step c s₂ p.1 p.2).1 := by
  have hout : (step c s₁ p.1 p.2).2 = (step c s₂ p.1 p.2).2 := by
    rw [step_snd, step_snd, ← cls_outcome, deliver_agree h, cls_outcome]
  refine ⟨hout, ?_⟩
  -- equal outcomes: both refused (nothing changes) or both accepted (C10's `add` of the same event on agreeing stores)
  rcases step_cases c s₁ p with ⟨hs1, ho1, he1⟩ | ⟨d, a, hd, -, hst1, he1, hadd1⟩ <;>
    rcases step_cases c s₂ p with ⟨hs2, ho2, he2⟩ | ⟨d', b, hd', -, hst2, he2, hadd2⟩
  · rw [he1, he2, hs1, hs2]; exact ⟨rfl, h⟩
  · rw [hst2] at hout; exact absurd hout ho1
  · rw [hst1] at hout; exact absurd hout.symm ho2
  · cases hd.symm.trans hd'
    rw [he1, he2, hst1, hst2]
    exact ⟨rfl, (h.add c.store _).2 _ _ hadd1 hadd2⟩

theorem run_agree (c : C09.Cfg) (l : List Delivery) (s₁ s₂ : Store) (h : Agree s₁ s₂) :
    outcomes c s₁ l = outcomes c s₂ l ∧ accepted c s₁ l = accepted c s₂ l ∧ Agree (run c s₁ l) (run c s₂ l) := by
  fun_induction run c s₁ l generalizing s₂ with
  | case1 s₁ => exact ⟨rfl, rfl, h⟩
  | case2 s₁ p ps ih =>
    obtain ⟨h1, h2, h3⟩ := step_agree c h p
    obtain ⟨i1, i2, i3⟩ := ih _ h3
    simp only [outcomes, accepted, run]
    exact ⟨by rw [h1, i1], by rw [h2, i2], i3⟩
end Nuts.Compose.Did
