/-
  C05 — what holds of single threads in every schedule, without any atomicity (by `run_threads`): a finished request that ran the
  unconditional Delete has left the store without the secret (`NInv`, `wiped_gone`); a request with a store fault is never honoured.
  `Thread.idle`: the requests that have not passed their Get, of which `Props.dead_never_honoured` speaks.
-/
import NutsProofs.Lemmas.C05Step

namespace Nuts.C05

/-- the thread has not (yet) obtained the value and is not between the Get and the Delete of GetAndDelete -/
def Thread.idle : Thread → Bool
  | .burn _ (.atDel _) _ => false
  | t => !t.took

theorem Thread.idle_burn (r : BurnReq) (pc : BurnPc) (f : Nat) : (Thread.burn r pc f).idle = pc.idle := by cases pc <;> rfl

theorem idle_not_took (t : Thread) (h : t.idle = true) : t.took = false := by
  cases t with
  | burn r pc f => cases pc <;> simp_all [Thread.idle, Thread.took]
  | mark r pc f => rfl

/-- requests whose pre-checks fail (code without verifier / client_id; the burn-all threads of an authorization response) only
    ever are at `start`, before their Delete, or done; a finished wiping request has left the store without its key -/
def Thread.wiped (st : Store) : Thread → Prop
  | .burn r pc _ => r.wipes → (r.pre = false → pc.deleteOnly = true) ∧ ∀ o, pc = .done o → stFind st r.key = none
  | .mark .. => True

def NInv (w : World) : Prop := ∀ (j : Nat) (t : Thread), w.ths[j]? = some t → t.wiped w.store

theorem NInv_run (cfg : Cfg) (s : List Ev) (w : World) (inv : NInv w) : NInv (run cfg s w) := by
  refine run_threads cfg (fun _ st _ t => t.wiped st) (fun _ _ _ _ _ h => h) (fun st now lock i t _ u h => ?_) (fun st now lock i t h => ?_) s w inv
  · cases u with
    | mark => trivial
    | burn r pc f => exact fun hw => ⟨(h hw).1, fun o ho => stepThread_absent cfg st now lock i t _ _ rfl ((h hw).2 o ho)⟩
  · cases t with
    | mark => trivial
    | burn r pc f =>
      intro hw
      obtain ⟨h1, h2⟩ := (stepBurn_path cfg st now lock i r pc).wiped hw (h hw).1
      refine ⟨h1, fun o ho => ?_⟩
      rcases h2 o ho with h3 | h3
      · exact stepThread_absent cfg st now lock i (.burn r pc f) _ _ rfl ((h hw).2 o h3)
      · simp only [stepThread]; rw [h3]; exact stFind_erase_self _ _

theorem NInv_init (st : Store) (reqs : List Req) : NInv (init st reqs) := by
  intro j t h
  obtain ⟨r, rfl⟩ := init_thread st reqs j t h
  cases r with
  | mark => trivial
  | burn r => exact fun _ => ⟨fun _ => rfl, nofun⟩

theorem wiped_gone (cfg : Cfg) (st : Store) (reqs : List Req) (s : List Ev) (j : Nat) (r : BurnReq) (o : Outcome) (f : Nat)
    (hj : (run cfg s (init st reqs)).ths[j]? = some (Thread.burn r (.done o) f)) (hw : r.kind = .code ∨ r.pre = false)
    (hdel : r.failDel = false) : stFind (run cfg s (init st reqs)).store r.key = none :=
  (NInv_run cfg s _ (NInv_init st reqs) j _ hj ⟨hw, hdel⟩).2 o rfl

/-- the request has a store fault that hits its consume step -/
def Thread.faulty : Thread → Bool
  | .burn r _ _ => r.failGet
  | .mark r _ _ => r.failGet || r.failSet

/-- not honoured, and not on a path that can still be honoured -/
def Thread.safe : Thread → Bool
  | .burn r pc f => (Thread.burn r pc f).idle
  | .mark r pc _ =>
    match pc with
    | .done .ok => false
    | .atPut _ => !r.failGet
    | _ => true

theorem stepThread_faulty_safe (cfg : Cfg) (st : Store) (now : Nat) (lock : Option Nat) (i : Nat) (t : Thread)
    (hf : t.faulty = true) (hs : t.safe = true) :
    (stepThread cfg st now lock i t).1.faulty = true ∧ (stepThread cfg st now lock i t).1.safe = true := by
  refine ⟨by cases t <;> exact hf, ?_⟩
  cases t with
  | burn r pc f =>
    simp only [Thread.safe, stepThread, Thread.idle_burn] at hs ⊢
    exact (stepBurn_path cfg st now lock i r pc).idle (.inl hf) hs
  | mark r pc f =>
    simp only [stepThread]
    have P := stepMark_path cfg st now lock i r pc
    generalize stepMark cfg st now lock i r pc = x at P
    simp only [Thread.faulty, Bool.or_eq_true] at hf
    cases P with
    -- both honouring paths need the Get and the Set to work, and the Put is reached only past a Get that worked
    | pifOk _ hg hp => rw [hg, hp] at hf; exact nomatch hf
    | put fresh hp =>
      have hg : r.failGet = false := by simpa [Thread.safe] using hs
      rw [hg, hp] at hf; exact nomatch hf
    | missed _ hg => simp [Thread.safe, hg]
    | done o => exact hs
    | _ => rfl

theorem faulty_safe_run (cfg : Cfg) (i : Nat) (s : List Ev) (w : World)
    (h : ∀ t, w.ths[i]? = some t → t.faulty = true ∧ t.safe = true) :
    ∀ t, (run cfg s w).ths[i]? = some t → t.faulty = true ∧ t.safe = true := by
  have := run_threads cfg (fun j _ _ t => j = i → t.faulty = true ∧ t.safe = true) (fun _ _ _ _ _ h => h) (fun _ _ _ _ _ _ _ h => h)
    (fun st now lock j t h e => stepThread_faulty_safe cfg st now lock j t (h e).1 (h e).2) s w (fun j t ht e => h t (e ▸ ht))
  exact fun t ht => this i t ht rfl

theorem safe_not_won (t : Thread) (h : t.safe = true) : t.won = false ∧ t.took = false := by
  cases t with
  | burn r pc f =>
    have := idle_not_took _ (by simpa [Thread.safe] using h)
    refine ⟨?_, this⟩
    cases pc <;> simp_all [Thread.won, Thread.outcome, Thread.took, Outcome.took]
    rename_i o; cases o <;> simp_all
  | mark r pc f =>
    refine ⟨?_, rfl⟩
    cases pc <;> simp_all [Thread.safe, Thread.won, Thread.outcome]
    rename_i o; cases o <;> simp_all

end Nuts.C05
