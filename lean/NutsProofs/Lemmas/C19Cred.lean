/-
  vcr/credential util.go and resolver.go (NutsModel/C19/Cred.lean, CredMore.lean): where the subject loop and ParseLDProof can panic; the
  subject block of AutoCorrectSelfAttestedCredential; FilterOnDIDMethod in closed form.
-/
import NutsModel.C19.CredMore
import NutsProofs.Lemmas.Base
namespace Nuts.C19.Lemmas

variable {P : String → Prop}

theorem cred_loop_panicsIn (c : Cred.Cfg) (h : c.subjectErrChecked = false → P "ResolveSubjectDID:*sid")
    (subs : List (Option String)) (acc : String) : Res.PanicsIn (Cred.resolveLoop c acc subs) P := by
  fun_induction Cred.resolveLoop c acc subs with
  | case1 => exact .ok
  | case3 _ _ hc => exact .panic (h (eq_false_of_ne_true hc))
  | case5 => assumption
  | _ => exact .err

theorem cred_loop_sound (c : Cred.Cfg) (subs : List (Option String)) (hne : ∀ x ∈ subs, x ≠ some "") (acc d : String) :
    Cred.resolveLoop c acc subs = .ok d → (∀ x ∈ subs, x = some d) ∧ (acc ≠ "" → d = acc) := by
  fun_induction Cred.resolveLoop c acc subs with
  | case1 => exact fun h => ⟨nofun, fun _ => (Res.ok.inj h).symm⟩
  | case5 acc y rest hc ih =>
    intro h
    obtain ⟨h1, h2⟩ := ih (fun x hx => hne x (.tail _ hx)) h
    -- the accumulator is `y` from here on, and `y` is not the empty DID
    obtain rfl : d = y := h2 fun e => hne (some y) (.head _) (e ▸ rfl)
    simp only [bne_iff_ne, ne_eq, Bool.and_eq_true, not_and, Decidable.not_not] at hc
    exact ⟨fun x hx => (List.mem_cons.mp hx).elim (· ▸ rfl) (h1 x), fun ha => (hc ha).symm⟩
  | _ => nofun

theorem parseLDProof_panicsIn (c : Cred.Cfg) (h : c.proofCountExact = false → P "ParseLDProof:proofs[0]") (vp : Cred.VP) :
    Res.PanicsIn (Cred.parseLDProof c vp) P := by
  unfold Cred.parseLDProof
  exact .ite .err <| .byCases (fun _ => .ite .err .ok) fun hc => .ite .err (.ite (.panic (h (eq_false_of_ne_true hc))) .ok)

theorem filterFrom_eq (ms : List String) : ∀ (cs : List CredMore.FCred) (i : Nat),
    CredMore.filterFrom ms i cs = ((cs.zipIdx i).filter fun p => CredMore.keep ms p.1).map (·.2)
  | [], _ => rfl
  | c :: rest, i => by
    unfold CredMore.filterFrom
    rw [List.zipIdx_cons, List.filter_cons, filterFrom_eq ms rest]
    cases CredMore.keep ms c <;> rfl

theorem subjectsPass_eq (ms : List String) : ∀ bl : List CredMore.FSubj,
    CredMore.subjectsPass ms bl = bl.all fun b => b.idEmpty || b.method.all ms.contains
  | [] => rfl
  | b :: rest => by
    unfold CredMore.subjectsPass
    rw [List.all_cons, ← subjectsPass_eq ms rest]
    cases b.idEmpty <;> cases b.method <;> simp

theorem subjectsPass_iff (ms : List String) (bl : List CredMore.FSubj) :
    CredMore.subjectsPass ms bl = true ↔ ∀ b ∈ bl, ∀ m, b.idEmpty = false → b.method = some m → m ∈ ms := by
  rw [subjectsPass_eq, List.all_eq_true]
  refine forall_congr' fun b => imp_congr_right fun _ => ?_
  cases b.idEmpty <;> cases b.method <;> simp

theorem keep_iff (ms : List String) (cr : CredMore.FCred) :
    CredMore.keep ms cr = true ↔ cr.subjOk = true ∧ (∀ m, cr.issuer = some m → m ∈ ms) ∧
      ∀ b ∈ cr.subjects, ∀ m, b.idEmpty = false → b.method = some m → m ∈ ms := by
  unfold CredMore.keep
  rw [← subjectsPass_iff]
  cases cr.issuer <;> cases cr.subjOk <;> simp

theorem acSubject_ok {c : CredMore.Cfg} {i : CredMore.ACIn} {o0 o : CredMore.ACOut} {s : Option Bool}
    (h : CredMore.acSubject c i o0 s = .ok o) : o = o0 ∨ o = { o0 with setSubjectId := true } ∧ s ≠ some true := by
  revert h
  fun_cases CredMore.acSubject c i o0 s with
  | case3 => exact fun h => .inl (Res.ok.inj h).symm   -- the subject has an id
  | case5 _ hid => exact fun h => .inr ⟨(Res.ok.inj h).symm, fun hs => by subst hs; exact absurd (Res.ok.inj hid) nofun⟩
  | _ => nofun

theorem acSubject_panicsIn {c : CredMore.Cfg} {i : CredMore.ACIn} (o : CredMore.ACOut) (s : Option Bool)
    (hg : c.nilMapGuard = false → P "AutoCorrectSelfAttestedCredential:credentialSubject[0][id]=nil-map")
    (hn : i.nCS = 0 → P "AutoCorrectSelfAttestedCredential:credential.CredentialSubject[0]") :
    Res.PanicsIn (CredMore.acSubject c i o s) P := by
  fun_cases CredMore.acSubject c i o s with
  | case1 _ p hp =>
    cases s with
    | some b => exact nomatch (show Res.ok b = Res.panic p from hp)
    | none => exact .pass (.flag .ok hg) hp
  | case4 _ _ h0 => exact .panic (hn (by simpa using h0))
  | case2 => exact .err
  | _ => exact .ok

end Nuts.C19.Lemmas
