/- C11, two nodes: `WPrim` (one committed transaction on one node, or a change of hosts/clock/log), its closure `WPath`, the
   world invariant `WInv` and `NMono` along paths (`WPath.nodes`, `WPath.keeps`); every `Act` — a whole `verify` with its
   downloads included — is a path (`step_path`), so every history is (`run_path`, `run_nodes`, `run_after`, `run_register`). -/
import NutsProofs.Lemmas.C11Verifier
namespace Nuts.C11

@[simp] theorem get_set_same (w : World) (i : Bool) (n : Node) : (w.set i n).get i = n := by
  cases i <;> simp [World.get, World.set]

@[simp] theorem get_set_other (w : World) (i : Bool) (n : Node) : (w.set i n).get (!i) = w.get (!i) := by
  cases i <;> simp [World.get, World.set]

theorem get_set (w : World) (i k : Bool) (n : Node) : (w.set i n).get k = if k = i then n else w.get k := by
  cases i <;> cases k <;> simp [World.get, World.set]

theorem set_get_self (w : World) (i : Bool) : w.set i (w.get i) = w := by cases i <;> rfl

@[simp] theorem set_now (w : World) (i : Bool) (n : Node) : (w.set i n).now = w.now := by cases i <;> rfl

@[simp] theorem set_hosts (w : World) (i : Bool) (n : Node) : (w.set i n).hosts = w.hosts := by cases i <;> rfl

@[simp] theorem set_log (w : World) (i : Bool) (n : Node) : (w.set i n).log = w.log := by cases i <;> rfl

/-- what a downloaded credential must be when the URL is a status list URL of one of the two nodes -/
def FetchOK (w : World) (u : Url) (f : Fetch) : Prop :=
  ∀ v, f = .vc v → ∀ k iss p, u = .sl (w.get k).base iss p → Served (w.get k) u v ∧ v.proof.isSome = true

/-- what is known of a record a node fetched: if its URL is a status list URL of one of the two nodes, it is that node's
    list as it is now -/
def Fetched (w : World) (rec : CredRec) : Prop :=
  ∀ k iss p, rec.id = .sl (w.get k).base iss p →
    rec.purpose = "revocation" ∧ ∀ j, getB rec.bits j = true ↔ j ∈ (w.get k).revsOf rec.id

theorem update_fetched {E : Env} {w : World} {now : Nat} {n n' : Node} {u : Url} {f : Fetch} {rec : CredRec}
    (hf : FetchOK w u f) (h : update E now n u f = .ok (rec, n')) : Fetched w rec := by
  obtain ⟨v, s, hfv, hsub, _, henc, _, hid, hpurp, _⟩ := update_ok h
  intro k iss p hu
  obtain ⟨⟨bits, hsub', hiff⟩, _⟩ := hf v hfv k iss p (hid ▸ hu)
  rw [hsub] at hsub'
  simp only [List.cons.injEq, and_true] at hsub'
  subst hsub'
  simp only [Enc.ok.injEq] at henc
  subst henc
  exact ⟨hpurp, by rw [hid]; exact hiff⟩

inductive WPrim (E : Env) (K : KeyEnv) : World → World → Prop where
  | node (w : World) (k : Bool) (n' : Node) (h : NStep E K (Fetched w) (w.get k) n') : WPrim E K w (w.set k n')
  | env (w : World) (hosts : List (String × (Nat → Fetch))) (now : Nat) (log : List Url) :
      WPrim E K w { w with hosts := hosts, now := now, log := log }

inductive WPath (E : Env) (K : KeyEnv) : World → World → Prop where
  | refl (w : World) : WPath E K w w
  | step {w1 w2 w3 : World} (h1 : WPath E K w1 w2) (h2 : WPrim E K w2 w3) : WPath E K w1 w3

theorem WPath.trans {E : Env} {K : KeyEnv} {w1 w2 w3 : World} (h1 : WPath E K w1 w2) (h2 : WPath E K w2 w3) : WPath E K w1 w3 := by
  induction h2 with
  | refl => exact h1
  | step _ hp ih => exact .step ih hp

theorem WPath.one {E : Env} {K : KeyEnv} {w1 w2 : World} (h : WPrim E K w1 w2) : WPath E K w1 w2 := .step (.refl _) h

structure WInv (E : Env) (w : World) : Prop where
  na : NInv E w.a
  nb : NInv E w.b
  ne : w.a.base ≠ w.b.base

theorem WInv.node {E : Env} {w : World} (h : WInv E w) (k : Bool) : NInv E (w.get k) := by
  cases k
  · exact h.na
  · exact h.nb

theorem other_base_ne {w : World} {E : Env} (hw : WInv E w) (i : Bool) : (w.get (!i)).base ≠ (w.get i).base := by
  cases i
  · exact fun e => hw.ne e.symm
  · exact hw.ne

theorem WPrim.revoke {E : Env} {K : KeyEnv} (w : World) (k : Bool) (credId : String) (e : StatusEntry) (n' : Node)
    (h : Nuts.C11.revoke E w.now (w.get k) credId e = .ok n') : WPrim E K w (w.set k n') := .node w k n' (revoke_step h)

theorem WPrim.nodes {E : Env} {K : KeyEnv} {w w' : World} (h : WPrim E K w w') (hw : WInv E w) :
    WInv E w' ∧ ∀ k, NMono (w.get k) (w'.get k) := by
  cases h with
  | env hosts now log => exact ⟨⟨hw.na, hw.nb, hw.ne⟩, fun k => by cases k <;> exact NMono.refl _⟩
  | node k n' h =>
    have hn := h.inv (hw.node k)
    have hm := h.mono
    have hb : n'.base = (w.get k).base := hm.base
    constructor
    · cases k
      · exact ⟨hn, hw.nb, by show n'.base ≠ w.b.base; rw [hb]; exact hw.ne⟩
      · exact ⟨hw.na, hn, by show w.a.base ≠ n'.base; rw [hb]; exact hw.ne⟩
    · intro k'
      rw [get_set]
      split
      · rename_i e; subst e; exact hm
      · exact NMono.refl _

theorem WPath.nodes {E : Env} {K : KeyEnv} {w w' : World} (h : WPath E K w w') (hw : WInv E w) :
    WInv E w' ∧ ∀ k, NMono (w.get k) (w'.get k) := by
  induction h with
  | refl => exact ⟨hw, fun k => NMono.refl _⟩
  | step _ hp ih =>
    obtain ⟨h1, h2⟩ := ih
    obtain ⟨h3, h4⟩ := hp.nodes h1
    exact ⟨h3, fun k => (h2 k).trans (h4 k)⟩

theorem WPath.keeps {E : Env} {K : KeyEnv} {P : World → Prop} (hstep : ∀ {w w'}, WInv E w → P w → WPrim E K w w' → P w')
    {w w' : World} (hp : WPath E K w w') (hw : WInv E w) (h : P w) : P w' := by
  induction hp with
  | refl => exact h
  | step h1 h2 ih => exact hstep (h1.nodes hw).1 ih h2

theorem FetchOK.fail (w : World) (u : Url) : FetchOK w u .fail := by intro v hv; cases hv

theorem FetchOK.raw (w : World) (s : String) (f : Fetch) : FetchOK w (.raw s) f := by intro v _ k iss p h; cases h

theorem update_served {E : Env} {w : World} {k : Bool} {iss : String} {p now : Nat} {f : Fetch} {n n' : Node} {rec : CredRec}
    (hf : FetchOK w (.sl (w.get k).base iss p) f) (hup : update E now n (.sl (w.get k).base iss p) f = .ok (rec, n')) :
    rec.purpose = "revocation" ∧ (∀ j, getB rec.bits j = true ↔ j ∈ (w.get k).revsOf (.sl (w.get k).base iss p)) ∧
    n'.cred? (.sl (w.get k).base iss p) = some (n.stored rec) := by
  obtain ⟨_, _, _, _, _, _, _, hid, _, _, _, _, rfl⟩ := update_ok hup
  obtain ⟨h1, h2⟩ := update_fetched hf hup k iss p hid
  exact ⟨h1, by rw [← hid]; exact h2, by rw [cred?_putCred, if_pos hid]⟩

theorem download_path {E : Env} {K : KeyEnv} (hE : EnvOK E) {w : World} (hw : WInv E w) (u : Url) :
    WPath E K w (download E w u).2 ∧ FetchOK (download E w u).2 u (download E w u).1 := by
  have hlog (u : Url) : WPath E K w { w with log := w.log ++ [u] } := WPath.one (WPrim.env w w.hosts w.now (w.log ++ [u]))
  -- node `k` has this base URL and serves the list: what it serves is `Served`, and the other node has another base
  have served : ∀ (k : Bool) (base issuer : String) (page : Nat) (vc : VC) (n : Node), base = (w.get k).base →
      credential E w.now (w.get k) issuer page = .ok (vc, n) →
      WPath E K w ({ w with log := w.log ++ [Url.sl base issuer page] }.set k n) ∧
      FetchOK ({ w with log := w.log ++ [Url.sl base issuer page] }.set k n) (.sl base issuer page) (.vc vc) := by
    intro k base issuer page vc n hb hc
    refine ⟨.step (hlog _) (.node _ k n (credential_step hc)), ?_⟩
    intro v hv k' iss p hu
    cases hv
    obtain ⟨_, _, hs, hpr, _⟩ := credential_served hE (hw.node k) hc
    rw [get_set] at hu ⊢
    by_cases e : k' = k
    · subst e
      rw [if_pos rfl]
      rw [show (w.get k').url issuer page = Url.sl base issuer page by rw [hb]; rfl] at hs
      exact ⟨hs, hpr⟩
    · have : k' = !k := by cases k <;> cases k' <;> simp at e ⊢
      subst this
      rw [if_neg e, Url.sl.injEq] at hu
      exact absurd (hu.1.symm.trans hb) (other_base_ne hw k)
  fun_cases download E w u with
  | case2 base issuer page _ vc n _ hba hc => exact served false _ _ _ vc n (beq_iff_eq.mp hba) hc
  | case4 base issuer page _ vc n _ _ hbb hc => exact served true _ _ _ vc n (beq_iff_eq.mp hbb) hc
  | case7 | case8 => exact ⟨hlog _, FetchOK.raw _ _ _⟩
  | _ => exact ⟨hlog _, FetchOK.fail _ _⟩

theorem checkStatus_path {E : Env} {K : KeyEnv} {w : World} (i : Bool) (st : StatusEntry) (f : Fetch)
    (hf : FetchOK w st.list f) : WPath E K w (w.set i (checkStatus E w.now (w.get i) st f).2) := by
  rcases checkStatus_node (E := E) (now := w.now) (n := w.get i) (st := st) (f := f) with h | ⟨rec, h1, h2⟩
  · rw [h, set_get_self]; exact .refl _
  · exact WPath.one (.node w i _ (update_step h2 h1 (update_fetched hf h1)))

theorem fetch_path {E : Env} {K : KeyEnv} (hE : EnvOK E) {w : World} (hw : WInv E w) (i : Bool) (u : Url) {f : Fetch} {w1 : World}
    (h : (if needsFetch E w.now (w.get i) u = true then download E w u else (Fetch.fail, w)) = (f, w1)) :
    WPath E K w w1 ∧ FetchOK w1 u f := by
  by_cases hnf : needsFetch E w.now (w.get i) u = true
  · obtain ⟨h1, h2⟩ := download_path (K := K) hE hw u
    rw [if_pos hnf] at h
    rw [h] at h1 h2
    exact ⟨h1, h2⟩
  · rw [if_neg hnf] at h
    cases h
    exact ⟨.refl _, FetchOK.fail _ _⟩

theorem verifyStatuses_path {E : Env} {K : KeyEnv} (hE : EnvOK E) (i : Bool) (sts : List StatusEntry) :
    ∀ {w : World}, WInv E w → WPath E K w (verifyStatuses E i w sts).2 := by
  induction sts with
  | nil => intro w _; exact .refl _
  | cons st rest ih =>
    intro w hw
    by_cases hrel : st.relevant = true
    · obtain ⟨f, w1, hdl, heq⟩ := verifyStatuses_cons E i w hrel rest
      obtain ⟨hp1, hf⟩ := fetch_path (K := K) hE hw i _ hdl
      have hp2 := hp1.trans (checkStatus_path (E := E) i st f hf)
      rw [heq]
      split
      · exact hp2
      · exact hp2.trans (ih (hp2.nodes hw).1)
    · rw [verifyStatuses_irrel E i w (by simpa using hrel)]
      exact ih hw

theorem step_path {E : Env} {K : KeyEnv} (hE : EnvOK E) {w : World} (hw : WInv E w) (a : Act) : WPath E K w (step E K w a) := by
  cases a with
  | entryTx i issuer row =>
    simp only [step]
    split
    · exact .refl _
    · rename_i kid hk; exact WPath.one (.node w i _ (entryWrite_step w.now (w.get i) row hk))
  | revoke i credId e =>
    simp only [step]
    split
    · rename_i n h; exact WPath.one (WPrim.revoke w i credId e n h)
    · exact .refl _
  | serve i issuer page =>
    simp only [step]
    split
    · rename_i vc n h; exact WPath.one (.node w i n (credential_step h))
    · exact .refl _
  | verify i c =>
    simp only [step]
    have : WPath E K w (statusVerify E i w c).2 := by
      unfold statusVerify
      split
      · exact .refl _
      · exact verifyStatuses_path hE i _ hw
    rcases verify_snd E i w c with h | h
    · rw [h]; exact .refl _
    · rw [h]; exact this
  | register i r =>
    simp only [step]
    split
    · rename_i n h; exact WPath.one (.node w i n (register_step h))
    · exact .refl _
  | host url f => exact WPath.one (WPrim.env w _ w.now w.log)
  | tick d => exact WPath.one (WPrim.env w w.hosts _ w.log)

theorem run_path {E : Env} {K : KeyEnv} (hE : EnvOK E) (acts : List Act) : ∀ {w : World}, WInv E w → WPath E K w (run E K w acts) := by
  induction acts with
  | nil => intro w _; exact .refl _
  | cons a rest ih =>
    intro w hw
    have h1 := step_path (K := K) hE hw a
    exact h1.trans (ih (h1.nodes hw).1)

theorem run_nodes {E : Env} {K : KeyEnv} (hE : EnvOK E) {w : World} (hw : WInv E w) (acts : List Act) :
    WInv E (run E K w acts) ∧ ∀ k, NMono (w.get k) ((run E K w acts).get k) :=
  (run_path hE acts hw).nodes hw

theorem run_after {E : Env} {K : KeyEnv} (hE : EnvOK E) {w w1 : World} (hw : WInv E w) (hp : WPrim E K w w1) (acts : List Act) :
    WInv E (run E K w1 acts) ∧ ∀ k, NMono (w1.get k) ((run E K w1 acts).get k) :=
  run_nodes hE (hp.nodes hw).1 acts

theorem run_mid (E : Env) (K : KeyEnv) (w0 : World) (before after : List Act) (a : Act) :
    run E K w0 (before ++ [a] ++ after) = run E K (step E K (run E K w0 before) a) after := by
  simp only [run, List.foldl_append, List.foldl_cons, List.foldl_nil]

theorem run_register {E : Env} {K : KeyEnv} (hE : EnvOK E) {w0 : World} (h0 : WInv E w0) {i : Bool} {r : Revocation}
    (before after : List Act) {n' : Node} (hacc : registerRevocation K ((run E K w0 before).get i) r = .ok n')
    {c : Cred} (hc : c.id = some r.subject) :
    ((run E K w0 (before ++ [.register i r] ++ after)).get i).credRevoked c = true ∧
    WInv E (run E K w0 (before ++ [.register i r] ++ after)) := by
  have hrun : run E K w0 (before ++ [.register i r] ++ after) = run E K ((run E K w0 before).set i n') after := by
    rw [run_mid]; simp only [step, hacc]
  obtain ⟨hw, hm⟩ := run_after hE (run_nodes hE h0 before).1 (.node _ i n' (register_step hacc)) after
  rw [hrun]
  refine ⟨credRevoked_of_mem ((hm i).net r ?_) hc, hw⟩
  rw [get_set_same, (registerRevocation_ok hacc).1]
  exact List.mem_append_right _ List.mem_cons_self

def NetOK (K : KeyEnv) (w : World) : Prop := ∀ k r, r ∈ (w.get k).netRevs → Accepted K r

theorem netok_prim {E : Env} {K : KeyEnv} {w w' : World} (h : NetOK K w) (hp : WPrim E K w w') : NetOK K w' := by
  cases hp with
  | env hosts now log => exact fun k r hr => h k r (by cases k <;> exact hr)
  | node k n' hs =>
    intro k' r hr
    rw [get_set] at hr
    split at hr
    · next e => subst e; exact (hs.netRevs r hr).elim (h k' r) id
    · exact h k' r hr

theorem netok_path {E : Env} {K : KeyEnv} {w w' : World} (hp : WPath E K w w') (hw : WInv E w) (h : NetOK K w) : NetOK K w' :=
  hp.keeps (fun _ h hp => netok_prim h hp) hw h

end Nuts.C11
