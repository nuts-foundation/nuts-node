/-
  C06 — the invariant of reachable states.  `Inv` is kept by every admission (`inv_admitted`), hence by `Add`; every door —
  offered bytes, a TransactionList, a sequential run — is a sequence of single `Add`s (`adds`); a payload arriving after its
  transaction keeps it as well.
-/
import NutsProofs.Lemmas.C06Add

namespace Nuts.C06

def maxClock : List Tx → Nat
  | [] => 0
  | t :: r => max t.clock (maxClock r)

def xorAll : List Tx → Nat
  | [] => 0
  | t :: r => xorAll r ^^^ t.ref

structure Inv (env : Env) (s : St) : Prop where
  chain : ChainOK env s.txs
  count : s.count = s.txs.length
  lcHigh : s.lcHigh = maxClock s.txs
  lcAtomic : s.lcAtomic = s.lcHigh
  head : (s.txs = [] ∧ s.head = 0) ∨ (∃ t ∈ s.txs, t.ref = s.head ∧ t.clock = s.lcHigh)
  xor : s.xor = xorAll s.txs
  payloads : ∀ q ∈ s.payloads, env.sha q.2 = q.1
  jobsRefs : ∀ j ∈ s.jobs, j.ref ∈ refsOf s.txs
  ledgerRefs : ∀ e ∈ s.ledger, e.ref ∈ refsOf s.txs

theorem inv_empty (env : Env) : Inv env {} :=
  { chain := trivial, count := rfl, lcHigh := rfl, lcAtomic := rfl, head := Or.inl ⟨rfl, rfl⟩, xor := rfl,
    payloads := (by intro q hq; cases hq), jobsRefs := (by intro q hq; cases hq), ledgerRefs := (by intro q hq; cases hq) }

theorem chain_nonempty_hasRoot {env : Env} : ∀ {l : List Tx}, ChainOK env l → l ≠ [] → hasRoot l = true := by
  intro l
  induction l with
  | nil => intro _ h; exact (h rfl).elim
  | cons t rest ih =>
    intro h _
    by_cases hr : rest = []
    · subst hr
      have hv := h.2.2.1
      obtain ⟨a, b, _⟩ := verifyPrevs_spec hv
      have hp : t.prevs = [] := by
        cases hps : t.prevs with
        | nil => rfl
        | cons p ps =>
          obtain ⟨u, hu, _⟩ := a p (by rw [hps]; exact List.mem_cons_self)
          cases hu
      simp [hasRoot, b hp]
    · have := ih h.1 hr
      unfold hasRoot at this ⊢
      simp only [List.any_cons, this, Bool.or_true]

/-- `dag.add`'s new `lc_high` and `updateState`'s new atomic copy are both the maximum: clock 0 only enters an empty DAG -/
theorem newHigh_eq_max {c h : Nat} (h0 : c = 0 → h = 0) :
    (if c > h ∨ c = 0 then c else h) = max c h ∧ (if h ≥ c then h else c) = max c h := by
  constructor <;> split <;> omega

theorem putPayload_sound {sha : Nat → Nat} {pls : List (Nat × Nat)} {h : Nat} {p : Option Nat}
    (hs : ∀ q ∈ pls, sha q.2 = q.1) (hp : ∀ x, p = some x → sha x = h) : ∀ q ∈ putPayload pls h p, sha q.2 = q.1 := by
  intro q hq
  cases p with
  | none => exact hs q hq
  | some x =>
    cases hq with
    | head => exact hp x rfl
    | tail _ hq => exact hs q (List.mem_filter.mp hq).1

theorem inv_admitted {env : Env} {s s' : St} {tx : Tx} {p : Option Nat}
    (hi : Inv env s) (ha : Admitted env s tx p s') : Inv env s' := by
  have hsub : ∀ r, r ∈ refsOf s.txs → r ∈ refsOf s'.txs := by
    intro r hr; rw [ha.txs]; unfold refsOf at *; exact List.mem_cons_of_mem _ hr
  have hself : tx.ref ∈ refsOf s'.txs := by rw [ha.txs]; unfold refsOf; exact List.mem_cons_self
  have hzero : tx.clock = 0 → s.txs = [] := by
    intro h0
    have hp : tx.prevs = [] := by
      cases hps : tx.prevs with
      | nil => rfl
      | cons q qs =>
        obtain ⟨_, _, c⟩ := verifyPrevs_spec ha.prevsOK
        obtain ⟨u, _, _, hc⟩ := c (by rw [hps]; exact List.cons_ne_nil _ _)
        omega
    have hr := ha.rootOK hp
    cases hl : s.txs with
    | nil => rfl
    | cons a b =>
      have := chain_nonempty_hasRoot hi.chain (by rw [hl]; exact List.cons_ne_nil _ _)
      rw [this] at hr; cases hr
  have hM : s.lcHigh = maxClock s.txs := hi.lcHigh
  have hM0 : tx.clock = 0 → s.lcHigh = 0 := by intro h0; rw [hM, hzero h0]; rfl
  refine { chain := ?_, count := ?_, lcHigh := ?_, lcAtomic := ?_, head := ?_, xor := ?_, payloads := ?_, jobsRefs := ?_, ledgerRefs := ?_ }
  · rw [ha.txs]; exact ⟨hi.chain, ha.fresh, ha.prevsOK, ha.sigOK, ha.rootOK⟩
  · rw [ha.count, ha.txs, hi.count]; rfl
  · rw [ha.lcHigh, ha.txs]
    exact (newHigh_eq_max hM0).1.trans (congrArg _ hM)
  · rw [ha.lcAtomic, ha.lcHigh, hi.lcAtomic, (newHigh_eq_max hM0).1, (newHigh_eq_max hM0).2]
  · right
    rw [ha.head, ha.lcHigh, ha.txs]
    split
    · exact ⟨tx, List.mem_cons_self, rfl, rfl⟩
    · rename_i hc
      rcases hi.head with ⟨he, _⟩ | ⟨t, ht, h1, h2⟩
      · exfalso
        have : s.lcHigh = 0 := by rw [hM, he]; rfl
        omega
      · exact ⟨t, List.mem_cons_of_mem _ ht, h1, h2⟩
  · rw [ha.xor, ha.txs, hi.xor]; rfl
  · rw [ha.payloads]; exact putPayload_sound hi.payloads ha.payloadOK
  · intro j hj
    rcases ha.jobs j hj with h | h
    · exact hsub _ (hi.jobsRefs j h)
    · rw [h]; exact hself
  · exact ha.ledger.forall (fun e he => hsub _ (hi.ledgerRefs e he)) fun e h => h ▸ hself

theorem inv_add {env : Env} {subs : List Sub} {s : St} {tx : Tx} {p : Option Nat} (hi : Inv env s) :
    Inv env (add env subs s tx p).1 := by
  rcases @add_cases env subs s tx p with h | ⟨_, h⟩
  · rw [h]; exact hi
  · exact inv_admitted hi h

theorem verify_stored {env : Env} {s : St} (hc : ChainOK env s.txs) {t : Tx} (ht : t ∈ s.txs) : verify env s t = .ok () :=
  verify_ok_iff.mpr ⟨chain_verifyPrevs hc t ht, chain_sig hc t ht⟩

def adds (env : Env) (subs : List Sub) (s : St) (cs : List Call) : St :=
  cs.foldl (fun s c => (add env subs s c.tx c.payload).1) s

theorem offer_adds (cfg : Cfg) (b64 : String → Bool) (env : Env) (subs : List Sub) (s : St) (hd : Hdr) (p : Option Nat) :
    (offer cfg b64 env subs s hd p).1 = s ∨
      ∃ tx, parse cfg b64 hd = .ok tx ∧ offer cfg b64 env subs s hd p = add env subs s tx p := by
  unfold offer
  split
  · rename_i tx htx; exact Or.inr ⟨tx, htx, rfl⟩
  · exact Or.inl rfl
  · exact Or.inl rfl

theorem handleList_adds (env : Env) (subs : List Sub) (items : List Item) (s : St) : ∃ k, k ≤ items.length ∧
    (handleList env subs s items).1 = adds env subs s ((items.take k).map fun it => ⟨it.tx, it.payload⟩) := by
  fun_induction handleList env subs s items with
  | case1 s => exact ⟨0, Nat.le_refl _, rfl⟩
  | case2 s it rest => exact ⟨0, Nat.zero_le _, rfl⟩
  | case3 s it rest _ s' u ha ih =>
    obtain ⟨k, hk, e⟩ := ih
    exact ⟨k + 1, Nat.succ_le_succ hk, by rw [e, show s' = (add env subs s it.tx it.payload).1 by rw [ha]]; rfl⟩
  | case4 s it rest _ s' ha | case5 s it rest _ s' e ha | case6 s it rest _ s' q ha =>
    exact ⟨1, Nat.succ_le_succ (Nat.zero_le _), by rw [show s' = (add env subs s it.tx it.payload).1 by rw [ha]]; rfl⟩

theorem seqRun_adds (env : Env) (subs : List Sub) (calls : List Call) (order : List Nat) (s : St) :
    (seqRun env subs calls order s).1 = adds env subs s (order.filterMap (calls[·]?)) := by
  unfold seqRun
  suffices h : ∀ acc : St × List (Nat × Res Unit),
      (order.foldl (seqStep env subs calls) acc).1 = adds env subs acc.1 (order.filterMap (calls[·]?)) from h _
  induction order with
  | nil => intro acc; rfl
  | cons i t ih =>
    intro acc
    rw [List.foldl_cons, ih, List.filterMap_cons]
    unfold seqStep
    cases calls[i]? <;> rfl

theorem latePayload_cases (env : Env) (subs : List Sub) (s : St) (ref q : Nat) :
    ((latePayload env subs s ref q).1 = s ∧ (latePayload env subs s ref q).2 ≠ "ok") ∨
    ∃ tx, s.find ref = some tx ∧ env.sha q = tx.payloadHash ∧ (latePayload env subs s ref q).2 = "ok" ∧
      (latePayload env subs s ref q).1 =
        { s with payloads := putPayload s.payloads tx.payloadHash (some q),
                 jobs := (notify subs .payload tx (saveEvent subs .payload tx s.jobs, s.ledger)).1,
                 ledger := (notify subs .payload tx (saveEvent subs .payload tx s.jobs, s.ledger)).2 } := by
  fun_cases latePayload env subs s ref q with
  | case3 tx hf hs => exact Or.inr ⟨tx, hf, Decidable.not_not.mp hs, rfl, rfl⟩
  | _ => exact Or.inl ⟨rfl, by simp⟩

theorem latePayload_txs (env : Env) (subs : List Sub) (s : St) (ref q : Nat) : (latePayload env subs s ref q).1.txs = s.txs := by
  rcases latePayload_cases env subs s ref q with ⟨h, _⟩ | ⟨_, _, _, _, h⟩ <;> rw [h]

theorem inv_late {env : Env} {subs : List Sub} {s : St} (hi : Inv env s) (ref q : Nat) :
    Inv env (latePayload env subs s ref q).1 := by
  rcases latePayload_cases env subs s ref q with ⟨h, _⟩ | ⟨tx, hf, hsha, _, h⟩
  · rw [h]; exact hi
  · rw [h]
    have hr : tx.ref ∈ refsOf s.txs := List.mem_map.mpr ⟨tx, (findTx_some_ref hf).2, rfl⟩
    have hn := @notify_spec .payload tx subs (saveEvent subs .payload tx s.jobs, s.ledger)
    exact { chain := hi.chain, count := hi.count, lcHigh := hi.lcHigh, lcAtomic := hi.lcAtomic, head := hi.head, xor := hi.xor,
            payloads := putPayload_sound (p := some q) hi.payloads fun x hx => by cases hx; exact hsha,
            jobsRefs := fun j hj => (hn.1 j hj).elim
              (fun h => (saveEvent_mem h).elim (hi.jobsRefs j) fun h => h ▸ hr) fun h => h ▸ hr,
            ledgerRefs := hn.2.forall hi.ledgerRefs fun e h => h ▸ hr }

end Nuts.C06
