/-
  The modelled IBLT (NutsModel/C07/Iblt.lean). `bucketIndices` yields distinct in-range buckets, so Insert, Delete and
  Subtract act bucket by bucket, and a table is described by the signed set of keys it holds (`Rep`).
-/
import NutsModel.C07.Iblt
import NutsProofs.Lemmas.Base

namespace Nuts.Proto.Iblt

def GoodIdx (n : Nat) (l : List Nat) : Prop := l.Nodup ∧ ∀ x ∈ l, x < n

theorem goodIdx_nil (n : Nat) : GoodIdx n [] := ⟨List.nodup_nil, fun _ h => by cases h⟩

theorem goodIdx_add {n : Nat} {l : List Nat} {b : Nat} (h : GoodIdx n l) (hb : b < n) :
    GoodIdx n (if l.contains b then l else l ++ [b]) := by
  by_cases hc : l.contains b = true
  · simp only [hc, if_true]; exact h
  · have hc' : l.contains b = false := by cases hx : l.contains b <;> simp_all
    simp only [hc', Bool.false_eq_true, if_false]
    have hnm : b ∉ l := by
      intro hm; exact hc (List.contains_iff_mem.mpr hm)
    refine ⟨nodup_snoc h.1 hnm, ?_⟩
    · intro x hx
      rcases List.mem_append.mp hx with hx | hx
      · exact h.2 x hx
      · rw [List.mem_singleton] at hx; subst hx; exact hb

/-- both loops of `bucketIndices` only ever append to the list a bucket number below `n` that is not in it yet:
    whatever such a step keeps, the loops keep -/
def Kept (n : Nat) (Q : List Nat → Prop) : Prop := ∀ acc b, b < n → Q acc → Q (if acc.contains b then acc else acc ++ [b])

theorem chainLoop_keeps (H : Hash) {n : Nat} (hn : 0 < n) {Q : List Nat → Prop} (hQ : Kept n Q) (k : Nat) :
    ∀ (steps : Nat) (acc : List Nat) (next last : Nat), Q acc → Q (chainLoop H n k steps acc next last).1 := by
  intro steps acc next last
  fun_induction chainLoop H n k steps acc next last with
  | case2 _ _ _ _ _ _ _ ih => exact fun h => ih (hQ _ _ (Nat.mod_lt _ hn) h)
  | _ => exact id

theorem probeLoop_keeps {n : Nat} (hn : 0 < n) {Q : List Nat → Prop} (hQ : Kept n Q) (k last : Nat) :
    ∀ (cnt off : Nat) (acc : List Nat), Q acc → Q (probeLoop n k last cnt off acc) := by
  intro cnt off acc
  fun_induction probeLoop n k last cnt off acc with
  | case2 _ _ _ _ _ ih => exact fun h => ih (hQ _ _ (Nat.mod_lt _ hn) h)
  | _ => exact id

theorem bucketIndices_good (H : Hash) (P : Par) {n : Nat} (hn : 0 < n) (hash : Nat) : GoodIdx n (bucketIndices H P n hash) := by
  have hQ : Kept n (GoodIdx n) := fun _ _ hb h => goodIdx_add h hb
  unfold bucketIndices
  simp only
  generalize hk : (if P.k > n then n else P.k) = k
  have h1 := chainLoop_keeps H hn hQ k P.maxChain [] (H.chain0 hash) 0 (goodIdx_nil n)
  generalize chainLoop H n k P.maxChain [] (H.chain0 hash) 0 = r at h1
  obtain ⟨acc, last⟩ := r
  exact probeLoop_keeps hn hQ k last (n - 1) 1 acc h1

theorem bucketIndices_ne_nil (H : Hash) (P : Par) {n : Nat} (hn : 0 < n) (hk : 0 < P.k) (hm : 0 < P.maxChain) (hash : Nat) :
    bucketIndices H P n hash ≠ [] := by
  have hQ : Kept n (· ≠ []) := fun acc b _ h => by split <;> simp [h]
  unfold bucketIndices
  simp only
  generalize hkk : (if P.k > n then n else P.k) = k
  have hk' : 0 < k := by rw [← hkk]; split <;> omega
  obtain ⟨m, hm'⟩ : ∃ m, P.maxChain = m + 1 := ⟨P.maxChain - 1, by omega⟩
  have h1 : (chainLoop H n k P.maxChain [] (H.chain0 hash) 0).1 ≠ [] := by
    rw [hm']
    unfold chainLoop
    simp only [List.length_nil, hk', if_true]
    exact chainLoop_keeps H hn hQ k _ _ _ _ (by simp)
  generalize chainLoop H n k P.maxChain [] (H.chain0 hash) 0 = r at h1
  obtain ⟨acc, last⟩ := r
  exact probeLoop_keeps hn hQ k last (n - 1) 1 acc h1

def Bucket.plus (b c : Bucket) : Bucket := ⟨b.count + c.count, b.hashSum ^^^ c.hashSum, b.keySum ^^^ c.keySum⟩

theorem xor_cancel_mid (a b : Nat) : a ^^^ b ^^^ b = a := by rw [Nat.xor_assoc, Nat.xor_self, Nat.xor_zero]

theorem xor_right_comm (a b c : Nat) : a ^^^ b ^^^ c = a ^^^ c ^^^ b := by
  rw [Nat.xor_assoc, Nat.xor_comm b, ← Nat.xor_assoc]

theorem Bucket.ext' {b c : Bucket} (h1 : b.count = c.count) (h2 : b.hashSum = c.hashSum) (h3 : b.keySum = c.keySum) : b = c := by
  cases b; cases c; simp_all

theorem Bucket.ins_comm (b : Bucket) (x hx y hy : Nat) : (b.ins x hx).ins y hy = (b.ins y hy).ins x hx := by
  apply Bucket.ext' <;> simp only [Bucket.ins] <;> first | omega | exact xor_right_comm ..

theorem Bucket.ins_del (b : Bucket) (x hx : Nat) : (b.ins x hx).del x hx = b := by
  apply Bucket.ext' <;> simp only [Bucket.ins, Bucket.del] <;> first | omega | exact xor_cancel_mid _ _

theorem Bucket.del_ins (b : Bucket) (x hx : Nat) : (b.del x hx).ins x hx = b := by
  apply Bucket.ext' <;> simp only [Bucket.ins, Bucket.del] <;> first | omega | exact xor_cancel_mid _ _

theorem modAt_eq (t : Table) (i : Nat) (f : Bucket → Bucket) : modAt t i f = t.modify i f := by
  induction t generalizing i with
  | nil => simp [modAt]
  | cons b t ih => cases i <;> simp [modAt, ih]

theorem modAt_length (t : Table) (i : Nat) (f : Bucket → Bucket) : (modAt t i f).length = t.length := by
  rw [modAt_eq, List.length_modify]

theorem modAt_get (t : Table) (i j : Nat) (f : Bucket → Bucket) :
    (modAt t i f)[j]? = if i = j then (t[j]?).map f else t[j]? := by
  rw [modAt_eq, List.getElem?_modify]
  split <;> simp

theorem foldl_modAt_length (f : Bucket → Bucket) (idxs : List Nat) (t : Table) :
    (idxs.foldl (fun t i => modAt t i f) t).length = t.length :=
  foldl_invariant (fun u => u.length = t.length) _ idxs t (fun i _ u hu => (modAt_length u i f).trans hu) rfl

theorem foldl_modAt_get (f : Bucket → Bucket) (idxs : List Nat) (hnd : idxs.Nodup) (t : Table) (j : Nat) :
    (idxs.foldl (fun t i => modAt t i f) t)[j]? = if j ∈ idxs then (t[j]?).map f else t[j]? := by
  induction idxs generalizing t with
  | nil => simp
  | cons i is ih =>
    have hnd' := List.nodup_cons.mp hnd
    simp only [List.foldl_cons]
    rw [ih hnd'.2, modAt_get]
    by_cases hij : i = j
    · subst hij
      simp [hnd'.1]
    · have : ¬ j = i := fun h => hij h.symm
      simp [hij, this]

section Sem
variable (H : Hash) (P : Par) (n : Nat)

def inB (j : Nat) (x : Ref) : Bool := (bucketIndices H P n (H.hashKey x)).contains j

/-- the content of bucket `j` of the IBLT of the keys `L` -/
def sumB (j : Nat) : List Ref → Bucket
  | [] => Bucket.zero
  | x :: L => if inB H P n j x then (sumB j L).ins x (H.hashKey x) else sumB j L

theorem insert_length (t : Table) (r : Ref) : (insert H P t r).length = t.length := by
  unfold insert; exact foldl_modAt_length _ _ _

theorem delete_length (t : Table) (r : Ref) : (delete H P t r).length = t.length := by
  unfold delete; exact foldl_modAt_length _ _ _

theorem foldl_buckets_get (hn : 0 < n) (t : Table) (ht : t.length = n) (r : Ref) (f : Bucket → Bucket) (j : Nat) :
    ((bucketIndices H P t.length (H.hashKey r)).foldl (fun t i => modAt t i f) t)[j]? =
      if inB H P n j r then (t[j]?).map f else t[j]? := by
  unfold inB
  simp only [ht, List.contains_iff_mem]
  exact foldl_modAt_get f _ (bucketIndices_good H P hn (H.hashKey r)).1 t j

theorem insert_get (hn : 0 < n) (t : Table) (ht : t.length = n) (r : Ref) (j : Nat) :
    (insert H P t r)[j]? = if inB H P n j r then (t[j]?).map (fun b => b.ins r (H.hashKey r)) else t[j]? :=
  foldl_buckets_get H P n hn t ht r _ j

theorem delete_get (hn : 0 < n) (t : Table) (ht : t.length = n) (r : Ref) (j : Nat) :
    (delete H P t r)[j]? = if inB H P n j r then (t[j]?).map (fun b => b.del r (H.hashKey r)) else t[j]? :=
  foldl_buckets_get H P n hn t ht r _ j

theorem foldl_insert_length (L : List Ref) (t : Table) : (L.foldl (insert H P) t).length = t.length :=
  foldl_invariant (fun u => u.length = t.length) _ L t (fun r _ u hu => (insert_length H P u r).trans hu) rfl

theorem foldl_insert_get (hn : 0 < n) (j : Nat) : ∀ (L : List Ref) (t : Table) (M : List Ref), t.length = n →
    t[j]? = some (sumB H P n j M) → (L.foldl (insert H P) t)[j]? = some (sumB H P n j (L.reverse ++ M)) := by
  intro L
  induction L with
  | nil => intro t M _ hb; exact hb
  | cons x L ih =>
    intro t M ht hb
    rw [List.foldl_cons, List.reverse_cons, List.append_assoc]
    refine ih _ (x :: M) ((insert_length H P t x).trans ht) ?_
    rw [insert_get H P n hn t ht x j, hb]
    show _ = some (if inB H P n j x then (sumB H P n j M).ins x (H.hashKey x) else sumB H P n j M)
    cases inB H P n j x <;> rfl

theorem zeroTable_get {j : Nat} (hj : j < n) : (zeroTable n)[j]? = some Bucket.zero := by
  simp [zeroTable, hj]

theorem encode_length (L : List Ref) : (encode H P n L).length = n := by
  unfold encode; rw [foldl_insert_length]; simp [zeroTable]

theorem sumB_perm (j : Nat) {L L' : List Ref} (h : L.Perm L') : sumB H P n j L = sumB H P n j L' := by
  induction h with
  | nil => rfl
  | cons x _ ih => simp only [sumB, ih]
  | swap x y l =>
    simp only [sumB]
    by_cases hx : inB H P n j x = true <;> by_cases hy : inB H P n j y = true <;> simp [hx, hy, Bucket.ins_comm]
  | trans _ _ ih1 ih2 => rw [ih1, ih2]

theorem encode_get (hn : 0 < n) (L : List Ref) {j : Nat} (hj : j < n) : (encode H P n L)[j]? = some (sumB H P n j L) := by
  unfold encode
  rw [foldl_insert_get H P n hn j L _ [] (by simp [zeroTable]) (zeroTable_get n hj), List.append_nil,
    sumB_perm H P n j (List.reverse_perm L)]

theorem Bucket.zero_plus (s : Bucket) : Bucket.zero.plus s = s := by
  apply Bucket.ext' <;> simp [Bucket.zero, Bucket.plus]

theorem Bucket.plus_ins (b s : Bucket) (x hx : Nat) : (b.plus s).ins x hx = (b.ins x hx).plus s := by
  apply Bucket.ext' <;> simp only [Bucket.ins, Bucket.plus] <;> first | omega | exact xor_right_comm ..

theorem Bucket.plus_ins_right (b s : Bucket) (x hx : Nat) : (b.plus s).ins x hx = b.plus (s.ins x hx) := by
  apply Bucket.ext' <;> simp only [Bucket.ins, Bucket.plus] <;> first | omega | exact Nat.xor_assoc ..

theorem Bucket.ins_plus (b s : Bucket) (x hx : Nat) : (b.ins x hx).plus s = b.plus (s.ins x hx) :=
  (Bucket.plus_ins b s x hx).symm.trans (Bucket.plus_ins_right b s x hx)

theorem sumB_append (j : Nat) (L M : List Ref) :
    sumB H P n j (L ++ M) = (sumB H P n j L).plus (sumB H P n j M) := by
  induction L with
  | nil => exact (Bucket.zero_plus _).symm
  | cons x L ih =>
    simp only [List.cons_append, sumB, ih]
    cases inB H P n j x
    · rfl
    · exact Bucket.plus_ins _ _ _ _

theorem sumB_split (j : Nat) (q : Ref → Bool) (L : List Ref) :
    sumB H P n j L = (sumB H P n j (L.filter q)).plus (sumB H P n j (L.filter (fun x => !q x))) := by
  rw [← sumB_append, sumB_perm H P n j (List.filter_append_perm q L)]

theorem Bucket.cancel (x y c : Bucket) : (x.plus c).sub (y.plus c) = x.sub y := by
  have h (a b c : Nat) : a ^^^ c ^^^ (b ^^^ c) = a ^^^ b := by rw [← Nat.xor_assoc, xor_right_comm a, xor_cancel_mid]
  apply Bucket.ext' <;> simp only [Bucket.sub, Bucket.plus] <;> first | omega | exact h ..

/-- the table represents the signed key set `A` (count +1) / `B` (count −1) -/
def Rep (t : Table) (A B : List Ref) : Prop :=
  t.length = n ∧ ∀ j, j < n → t[j]? = some ((sumB H P n j A).sub (sumB H P n j B))

/-- **Subtract of two encodings represents the two-sided difference** (the common keys cancel) -/
theorem subtract_rep (hn : 0 < n) {loc peer : List Ref} (hl : loc.Nodup) (hp : peer.Nodup) :
    ∃ t, subtract (encode H P n loc) (encode H P n peer) = some t ∧
      Rep H P n t (loc.filter (fun x => !peer.contains x)) (peer.filter (fun x => !loc.contains x)) := by
  refine ⟨List.zipWith Bucket.sub (encode H P n loc) (encode H P n peer), ?_, ?_, ?_⟩
  · simp [subtract, encode_length]
  · simp [encode_length]
  · intro j hj
    rw [List.getElem?_zipWith, encode_get H P n hn loc hj, encode_get H P n hn peer hj]
    show some _ = some _
    congr 1
    rw [sumB_split H P n j (fun x => !peer.contains x) loc, sumB_split H P n j (fun x => !loc.contains x) peer]
    have hperm : (loc.filter (fun x => !!peer.contains x)).Perm (peer.filter (fun x => !!loc.contains x)) := by
      apply (List.perm_ext_iff_of_nodup (hl.filter _) (hp.filter _)).mpr
      intro a
      simp only [List.mem_filter, Bool.not_not, List.contains_iff_mem]
      exact ⟨fun h => ⟨h.2, h.1⟩, fun h => ⟨h.2, h.1⟩⟩
    rw [sumB_perm H P n j hperm, Bucket.cancel]

end Sem

end Nuts.Proto.Iblt
