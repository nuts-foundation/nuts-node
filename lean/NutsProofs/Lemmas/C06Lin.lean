/-
  C06 — concurrent `Add`s, interleaved at read-transaction / write-transaction granularity.  `Pend`: what a thread learnt in
  phase 1 stays true while the DAG grows, so its phase 2 is a whole `Add` on the state it finds; `Lin`: the execution so far
  equals a sequential run of the finished calls in the order of their write transactions.
-/
import NutsProofs.Lemmas.C06Add

namespace Nuts.C06

/-- a thread between its read and its write transaction: its transaction is (still) admissible or (meanwhile) present -/
def Pend (env : Env) (s : St) (tx : Tx) : Prop := s.present tx.ref = true ∨ verify env s tx = .ok ()

theorem pend_stable {env : Env} {s s' : St} {tx t' : Tx} {p' : Option Nat}
    (hp : Pend env s tx) (h : s' = s ∨ Admitted env s t' p' s') : Pend env s' tx := by
  rcases h with h | h
  · rw [h]; exact hp
  · by_cases he : t'.ref = tx.ref
    · left
      rw [present_iff, h.txs, ← he]
      unfold refsOf; exact List.mem_cons_self
    · rcases hp with hp | hp
      · left
        rw [present_iff] at hp ⊢
        rw [h.txs]; unfold refsOf at *; exact List.mem_cons_of_mem _ hp
      · right
        rw [verify_ok_iff] at hp ⊢
        rw [h.txs]
        exact ⟨verifyPrevs_cons h.fresh hp.1, hp.2⟩

theorem phase2_eq_add {env : Env} {subs : List Sub} {s : St} {tx : Tx} {p : Option Nat}
    (hp : Pend env s tx) : phase2 env subs s tx p = add env subs s tx p := by
  have h := @phase1_cases env subs s tx p
  cases hph : phase1 env s tx <;> simp only [hph] at h
  · rw [phase2_present h.1, h.2]
  · exact absurd hp (by simp [Pend, h.1, h.2.1])
  · exact absurd hp (by simp [Pend, h.1, h.2.1])
  · exact h.2.2.symm

structure Lin (env : Env) (subs : List Sub) (calls : List Call) (s0 : St) (w : World) : Prop where
  ex : ∃ order : List Nat, order.Nodup ∧ (∀ i : Nat, i ∈ order ↔ ∃ r, w.pcs[i]? = some (PC.done r)) ∧
        (seqRun env subs calls order s0).1 = w.st ∧
        (∀ (i : Nat) (r : Res Unit), (i, r) ∈ (seqRun env subs calls order s0).2 ↔ w.pcs[i]? = some (PC.done r))
  pend : ∀ (i : Nat) (c : Call), calls[i]? = some c → w.pcs[i]? = some PC.verified → Pend env w.st c.tx

theorem seqRun_snoc {env : Env} {subs : List Sub} {calls : List Call} {order : List Nat} {s0 : St} {i : Nat} {c : Call}
    (hc : calls[i]? = some c) :
    seqRun env subs calls (order ++ [i]) s0 =
      ((add env subs (seqRun env subs calls order s0).1 c.tx c.payload).1,
       (seqRun env subs calls order s0).2 ++ [(i, (add env subs (seqRun env subs calls order s0).1 c.tx c.payload).2)]) := by
  unfold seqRun
  rw [List.foldl_append]
  simp only [List.foldl_cons, List.foldl_nil]
  unfold seqStep
  simp only [hc]

theorem lin_finish {env : Env} {subs : List Sub} {calls : List Call} {s0 : St} {w : World}
    (hL : Lin env subs calls s0 w) {i : Nat} {c : Call} {pc : PC}
    (hc : calls[i]? = some c) (hpc : w.pcs[i]? = some pc) (hnd : ∀ r, pc ≠ .done r)
    (hpend : ∀ j c', j ≠ i → calls[j]? = some c' → w.pcs[j]? = some .verified →
      Pend env (add env subs w.st c.tx c.payload).1 c'.tx) :
    Lin env subs calls s0
      { st := (add env subs w.st c.tx c.payload).1, pcs := w.pcs.set i (.done (add env subs w.st c.tx c.payload).2) } := by
  obtain ⟨order, hnd', hmem, hst, hres⟩ := hL.ex
  have hlt : i < w.pcs.length := by
    obtain ⟨h, _⟩ := List.getElem?_eq_some_iff.mp hpc; exact h
  have hi_not : i ∉ order := by
    intro hi
    obtain ⟨r, hr⟩ := (hmem i).mp hi
    rw [hpc] at hr
    exact hnd r (by simpa using hr)
  refine ⟨⟨order ++ [i], ?_, ?_, ?_, ?_⟩, ?_⟩
  · exact nodup_snoc hnd' hi_not
  · intro j
    rw [List.mem_append, List.mem_singleton, hmem j, List.getElem?_set, if_pos hlt]
    by_cases hj : i = j
    · subst hj; simp
    · simp [hj, Ne.symm hj]
  · rw [seqRun_snoc hc, hst]
  · intro j r
    rw [seqRun_snoc hc, hst, List.mem_append, List.mem_singleton, hres j r, List.getElem?_set, if_pos hlt]
    by_cases hj : i = j
    · subst hj
      have : w.pcs[i]? ≠ some (.done r) := fun h => hnd r (by rw [hpc] at h; exact Option.some.inj h)
      simp [this, eq_comm]
    · simp [hj, Ne.symm hj]
  · intro j c' hc' hv
    by_cases hj : i = j
    · subst hj
      simp only [List.getElem?_set_self hlt] at hv
      cases hv
    · simp only [List.getElem?_set_ne hj] at hv
      exact hpend j c' (fun h => hj h.symm) hc' hv

theorem lin_step {env : Env} {subs : List Sub} {calls : List Call} {s0 : St} {w : World}
    (hL : Lin env subs calls s0 w) (i : Nat) : Lin env subs calls s0 (stepThread env subs calls w i) := by
  unfold stepThread
  split
  · -- start
    rename_i c hc hpc
    -- phase 1 gave the final answer: this is the whole `Add`, and it changed nothing
    have fin : ∀ r, add env subs w.st c.tx c.payload = (w.st, r) →
        Lin env subs calls s0 { w with pcs := w.pcs.set i (.done r) } := fun r ha => by
      have := lin_finish hL hc hpc (by intro r h; cases h) (by rw [ha]; exact fun j c' _ h1 h2 => hL.pend j c' h1 h2)
      rw [ha] at this; exact this
    have ha := @phase1_cases env subs w.st c.tx c.payload
    cases h1 : phase1 env w.st c.tx <;> simp only [h1] at ha ⊢
    · exact fin _ ha.2
    · exact fin _ ha.2.2
    · exact fin _ ha.2.2
    · obtain ⟨order, hnd, hmem, hst, hres⟩ := hL.ex
      have hlt : i < w.pcs.length := by
        obtain ⟨h, _⟩ := List.getElem?_eq_some_iff.mp hpc; exact h
      -- the thread is not finished before the step and not after it
      have key : ∀ (j : Nat) (r : Res Unit), (w.pcs.set i .verified)[j]? = some (PC.done r) ↔ w.pcs[j]? = some (PC.done r) := by
        intro j r
        by_cases hj : i = j
        · subst hj; rw [List.getElem?_set_self hlt, hpc]; simp
        · rw [List.getElem?_set_ne hj]
      refine ⟨⟨order, hnd, fun j => (hmem j).trans (exists_congr fun r => (key j r).symm), hst,
        fun j r => (hres j r).trans (key j r).symm⟩, ?_⟩
      · intro j c' hc' hv
        by_cases hj : i = j
        · subst hj
          rw [hc] at hc'; cases hc'
          exact Or.inr ha.2.1
        · simp only [List.getElem?_set_ne hj] at hv
          exact hL.pend j c' hc' hv
  · -- verified: the write transaction
    rename_i c hc hpc
    have hp : Pend env w.st c.tx := hL.pend i c hc hpc
    simp only
    rw [phase2_eq_add hp]
    apply lin_finish hL hc hpc (by intro r h; cases h)
    intro j c' _ hc' hv
    exact pend_stable (hL.pend j c' hc' hv) (add_cases.imp_right And.right)
  · exact hL

theorem lin_run {env : Env} {subs : List Sub} {calls : List Call} {s0 : St} (sched : List Nat) {w : World}
    (h : Lin env subs calls s0 w) : Lin env subs calls s0 (run env subs calls sched w) :=
  foldl_invariant _ _ sched w (fun i _ _ h => lin_step h i) h

theorem lin_init {env : Env} {subs : List Sub} {calls : List Call} {s0 : St} (n : Nat) :
    Lin env subs calls s0 { st := s0, pcs := List.replicate n .start } := by
  refine ⟨⟨[], List.nodup_nil, ?_, rfl, ?_⟩, ?_⟩
  · intro i
    simp only [List.getElem?_replicate]
    constructor
    · intro h; cases h
    · rintro ⟨r, hr⟩; split at hr <;> cases hr
  · intro i r
    simp only [List.getElem?_replicate, seqRun, List.foldl_nil]
    constructor
    · intro h; cases h
    · intro hr; split at hr <;> cases hr
  · intro i c _ hv
    simp only [List.getElem?_replicate] at hv
    split at hv <;> cases hv

end Nuts.C06
