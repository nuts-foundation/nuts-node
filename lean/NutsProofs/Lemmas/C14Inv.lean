/-
  C14 — the two invariants of the durable state: `Inv` (what is on a shelf or in the ledger was admitted and selected; an admitted
  event has a job or a completion record) and `Inv2` (completion is final; needs that the filters of the subscriber fix the event
  type, that `WritePayload` skips a stored payload and that the write-back does not re-create a removed job).  Kept by every `DStep`.
-/
import NutsProofs.Lemmas.C14Run
namespace Nuts.C14

structure Inv (c : Cfg) (σ : St) : Prop where
  jobDag : ∀ s r j, σ.shelf s r = some j → r ∈ σ.dag
  jobSel : ∀ s r j, σ.shelf s r = some j → c.sel s r j.type = true
  jobPay : ∀ s r j, σ.shelf s r = some j → j.type = .payload → c.phash r ∈ σ.payloads ∧ r ∈ σ.evented
  callOk : ∀ s r ty k o, Entry.call s r ty k o ∈ σ.ledger →
    r ∈ σ.dag ∧ c.sel s r ty = true ∧ (ty = .payload → c.phash r ∈ σ.payloads ∧ r ∈ σ.evented)
  finOk : ∀ s r, Entry.fin s r ∈ σ.ledger →
    r ∈ σ.dag ∧ ∃ ty, c.sel s r ty = true ∧ (ty = .payload → c.phash r ∈ σ.payloads ∧ r ∈ σ.evented)
  admDag : ∀ r ty, (r, ty) ∈ σ.admitted → r ∈ σ.dag
  admPay : ∀ r, (r, EvType.payload) ∈ σ.admitted → c.phash r ∈ σ.payloads
  dagLt : ∀ r, r ∈ σ.dag → r < c.nRefs
  loss : ∀ r ty s t, (r, ty) ∈ σ.admitted → s < c.nSubs → c.sel s r ty = true → Typed c s t →
    (∃ j, σ.shelf s r = some j ∧ j.type = ty) ∨ completedIn σ.ledger s r = true

theorem Inv.same {c : Cfg} {σ σ' : St} (h : Inv c σ) (e : SameDurable σ σ') : Inv c σ' := by
  obtain ⟨e1, e2, e3, e4, e5, e6⟩ := e
  constructor
  · rw [e3, e1]; exact h.jobDag
  · rw [e3]; exact h.jobSel
  · rw [e3, e2, e6]; exact h.jobPay
  · rw [e5, e1, e2, e6]; exact h.callOk
  · rw [e5, e1, e2, e6]; exact h.finOk
  · rw [e4, e1]; exact h.admDag
  · rw [e4, e2]; exact h.admPay
  · rw [e1]; exact h.dagLt
  · rw [e4, e3, e5]; exact h.loss

theorem Inv.update {c : Cfg} {σ : St} (h : Inv c σ) {s r : Nat} {j : Job} (hj : σ.shelf s r = some j)
    {new : List Entry} {nj : Option Job} (u : JobUpd c s r j new nj) :
    Inv c (setJob { σ with ledger := new ++ σ.ledger } s r nj) := by
  have hd := h.jobDag s r j hj
  have hs := h.jobSel s r j hj
  have hp := h.jobPay s r j hj
  have hsh : ∀ s' r' j', (if s' = s ∧ r' = r then nj else σ.shelf s' r') = some j' →
      ∃ j0, σ.shelf s' r' = some j0 ∧ j'.type = j0.type := by
    intro s' r' j' hh
    split at hh
    · next heq => rw [heq.1, heq.2]; exact ⟨j, hj, (u.job j' hh).1⟩
    · exact ⟨j', hh, rfl⟩
  refine ⟨fun s' r' j' hh => ?_, fun s' r' j' hh => ?_, fun s' r' j' hh ht => ?_, fun s' r' ty k o hm => ?_,
    fun s' r' hm => ?_, h.admDag, h.admPay, h.dagLt, fun r' ty s' t hm hlt hsel htyp => ?_⟩
  · obtain ⟨j0, h0, _⟩ := hsh s' r' j' hh; exact h.jobDag s' r' j0 h0
  · obtain ⟨j0, h0, e⟩ := hsh s' r' j' hh; rw [e]; exact h.jobSel s' r' j0 h0
  · obtain ⟨j0, h0, e⟩ := hsh s' r' j' hh; exact h.jobPay s' r' j0 h0 (e ▸ ht)
  · rcases List.mem_append.mp hm with hm | hm
    · rcases u.entries _ hm with ⟨k', o', e⟩ | e <;> cases e
      exact ⟨hd, hs, hp⟩
    · exact h.callOk _ _ _ _ _ hm
  · rcases List.mem_append.mp hm with hm | hm
    · rcases u.entries _ hm with ⟨k', o', e⟩ | e <;> cases e
      exact ⟨hd, j.type, hs, hp⟩
    · exact h.finOk _ _ hm
  · show (∃ j', (if s' = s ∧ r' = r then nj else σ.shelf s' r') = some j' ∧ j'.type = ty) ∨
      completedIn (new ++ σ.ledger) s' r' = true
    rw [completedIn_append]
    rcases h.loss r' ty s' t hm hlt hsel htyp with ⟨j', hj', hjt⟩ | hc
    · by_cases heq : s' = s ∧ r' = r
      · obtain ⟨rfl, rfl⟩ := heq
        rw [hj] at hj'; cases hj'
        cases nj with
        | none => right; rw [u.done rfl]; rfl
        | some j2 => left; exact ⟨j2, if_pos ⟨rfl, rfl⟩, (u.job j2 rfl).1.trans hjt⟩
      · left; exact ⟨j', by rw [if_neg heq]; exact hj', hjt⟩
    · right; rw [hc]; exact Bool.or_true _

/-- admission of one event inside a write transaction: DAG / payload store grow, the event is recorded, saveEvent runs -/
theorem Inv.admitEvent {c : Cfg} {σ : St} (h : Inv c σ) (r : Nat) (ty : EvType) (D' P' E' : List Nat)
    (hD : ∀ x, x ∈ σ.dag → x ∈ D') (hP : ∀ x, x ∈ σ.payloads → x ∈ P') (hE : ∀ x, x ∈ σ.evented → x ∈ E') (hr : r ∈ D')
    (hty : ty = .payload → c.phash r ∈ P' ∧ r ∈ E') (hDlt : ∀ x, x ∈ D' → x < c.nRefs) :
    Inv c (saveEvent c { σ with dag := D', payloads := P', evented := E', admitted := (r, ty) :: σ.admitted } (r, ty)) := by
  have sp := saveEvent_spec c { σ with dag := D', payloads := P', evented := E', admitted := (r, ty) :: σ.admitted } (r, ty)
  generalize saveEvent c { σ with dag := D', payloads := P', evented := E', admitted := (r, ty) :: σ.admitted } (r, ty) = σ' at sp
  obtain ⟨e1, e2, e3, e4, _, _, e7, e8⟩ := sp
  simp only at e1 e2 e3 e4 e7 e8
  constructor
  · intro s' r' j hh
    rw [e7] at hh; rw [e1]
    split at hh
    · next hc => rw [hc.2.1]; exact hr
    · exact hD _ (h.jobDag _ _ _ hh)
  · intro s' r' j hh
    rw [e7] at hh
    split at hh
    · next hc => injection hh with hh; subst hh; exact hc.2.2.1
    · exact h.jobSel _ _ _ hh
  · intro s' r' j hh hp
    rw [e7] at hh; rw [e2, e8]
    split at hh
    · next hc => injection hh with hh; subst hh; rw [hc.2.1]; exact hty hp
    · exact ⟨hP _ (h.jobPay _ _ _ hh hp).1, hE _ (h.jobPay _ _ _ hh hp).2⟩
  · intro s' r' ty' k o hm
    rw [e4] at hm; rw [e1, e2, e8]
    obtain ⟨a, b, d⟩ := h.callOk _ _ _ _ _ hm
    exact ⟨hD _ a, b, fun x => ⟨hP _ (d x).1, hE _ (d x).2⟩⟩
  · intro s' r' hm
    rw [e4] at hm; rw [e1, e2, e8]
    obtain ⟨a, ty', b, d⟩ := h.finOk _ _ hm
    exact ⟨hD _ a, ty', b, fun x => ⟨hP _ (d x).1, hE _ (d x).2⟩⟩
  · intro r' ty' hm
    rw [e3] at hm; rw [e1]
    rcases List.mem_cons.mp hm with hm | hm
    · injection hm with a b; rw [a]; exact hr
    · exact hD _ (h.admDag _ _ hm)
  · intro r' hm
    rw [e3] at hm; rw [e2]
    rcases List.mem_cons.mp hm with hm | hm
    · injection hm with a b; rw [a]; exact (hty b.symm).1
    · exact hP _ (h.admPay _ hm)
  · rw [e1]; exact hDlt
  · intro r' ty' s' t hm hlt hsel htyp
    rw [e3] at hm; rw [e4]
    rcases List.mem_cons.mp hm with hm | hm
    · injection hm with a b; subst a b
      left
      cases hsh : σ.shelf s' r' with
      | none => exact ⟨newJob ty', by rw [e7]; simp [hlt, hsel, hsh], rfl⟩
      | some j0 =>
        refine ⟨j0, by rw [e7]; simp [hsh], ?_⟩
        have := h.jobSel _ _ _ hsh
        rw [htyp _ _ this, htyp _ _ hsel]
    · rcases h.loss r' ty' s' t hm hlt hsel htyp with ⟨j, hj, hjt⟩ | hc
      · left; exact ⟨j, by rw [e7]; simp [hj], hjt⟩
      · right; exact hc

theorem Inv.pending {c : Cfg} {σ : St} (h : Inv c σ) (p : List (Nat × EvType)) : Inv c { σ with pending := p } :=
  h.same ⟨rfl, rfl, rfl, rfl, rfl, rfl⟩

theorem Inv.dstep {c : Cfg} {σ σ' : St} (h : Inv c σ) (d : DStep c σ σ') : Inv c σ' := by
  induction d with
  | vol e => exact h.same e
  | upd s r j new nj hj u => exact h.update hj u
  | @add σ a hlt hnd =>
    apply Inv.pending
    have hDlt : ∀ x, x ∈ a.ref :: σ.dag → x < c.nRefs := by
      intro x hx
      rcases List.mem_cons.mp hx with rfl | hx
      · exact hlt
      · exact h.dagLt x hx
    split
    · have h1 := h.admitEvent a.ref .payload (a.ref :: σ.dag) (c.phash a.ref :: σ.payloads) (a.ref :: σ.evented)
        (fun x hx => List.mem_cons_of_mem _ hx) (fun x hx => List.mem_cons_of_mem _ hx) (fun x hx => List.mem_cons_of_mem _ hx)
        List.mem_cons_self (fun _ => ⟨List.mem_cons_self, List.mem_cons_self⟩) hDlt
      generalize hσ1 : saveEvent c _ (a.ref, EvType.payload) = σ1 at h1 ⊢
      have hr : a.ref ∈ σ1.dag := by rw [← hσ1, saveEvent_dag]; exact List.mem_cons_self
      exact h1.admitEvent a.ref .tx σ1.dag σ1.payloads σ1.evented (fun x hx => hx) (fun x hx => hx) (fun x hx => hx) hr
        (fun hh => by cases hh) h1.dagLt
    · exact h.admitEvent a.ref .tx (a.ref :: σ.dag) σ.payloads σ.evented
        (fun x hx => List.mem_cons_of_mem _ hx) (fun x hx => hx) (fun x hx => hx) List.mem_cons_self (fun hh => by cases hh) hDlt
  | payload r hd _ =>
    apply Inv.pending
    exact h.admitEvent r .payload _ (c.phash r :: _) (r :: _) (fun x hx => hx)
      (fun x hx => List.mem_cons_of_mem _ hx) (fun x hx => List.mem_cons_of_mem _ hx) hd
      (fun _ => ⟨List.mem_cons_self, List.mem_cons_self⟩) h.dagLt
  | trans _ _ ih1 ih2 => exact ih2 (ih1 h)

theorem Inv.writePayload {c : Cfg} {σ : St} (h : Inv c σ) (r : Nat) (cf : Bool) : Inv c (writePayload c σ r cf).1 :=
  h.dstep (writePayload_dstep c σ r cf)

theorem Inv.init (c : Cfg) : Inv c init := by
  constructor <;> intros <;> simp_all [Nuts.C14.init]

theorem Inv.run {c : Cfg} {σ : St} (h : Inv c σ) (ops : List Op) : Inv c (run c σ ops) := by
  induction ops generalizing σ with
  | nil => exact h
  | cons op rest ih => exact ih (h.dstep (step_dstep c σ op))

structure Inv2 (c : Cfg) (σ : St) : Prop where
  doneGone : ∀ s r t, Typed c s t → completedIn σ.ledger s r = true → σ.shelf s r = none
  ok : ∀ s r t, Typed c s t → okLedger s r σ.ledger = true

theorem Inv2.same {c : Cfg} {σ σ' : St} (h : Inv2 c σ) (e : SameDurable σ σ') : Inv2 c σ' := by
  obtain ⟨_, _, e3, _, e5, _⟩ := e
  constructor
  · rw [e3, e5]; exact h.doneGone
  · rw [e5]; exact h.ok

theorem okLedger_append {s r : Nat} {new l : List Entry} (hl : okLedger s r l = true)
    (hnew : okLedger s r new = true ∧ completedIn l s r = false ∨ ∀ e, e ∈ new → e.isCallOf s r = false) :
    okLedger s r (new ++ l) = true := by
  induction new with
  | nil => exact hl
  | cons e rest ih =>
    rw [List.cons_append, okLedger, Bool.and_eq_true]
    rcases hnew with ⟨hok, hc⟩ | hno
    · rw [okLedger, Bool.and_eq_true] at hok
      refine ⟨?_, ih (.inl ⟨hok.2, hc⟩)⟩
      rw [completedIn_append, hc, Bool.or_false]; exact hok.1
    · refine ⟨?_, ih (.inr fun e he => hno e (List.mem_cons_of_mem _ he))⟩
      rw [hno e List.mem_cons_self]; rfl

theorem Inv2.update {c : Cfg} {σ : St} (hwb : c.writeBackSkipsGone = true) (h : Inv2 c σ) {s r : Nat} {j : Job}
    (hj : σ.shelf s r = some j) {new : List Entry} {nj : Option Job} (u : JobUpd c s r j new nj) :
    Inv2 c (setJob { σ with ledger := new ++ σ.ledger } s r nj) := by
  have hfresh : ∀ t, Typed c s t → completedIn σ.ledger s r = false := by
    intro t htyp
    cases hc : completedIn σ.ledger s r with
    | false => rfl
    | true => have := h.doneGone s r t htyp hc; rw [hj] at this; cases this
  constructor
  · intro s' r' t htyp hc
    show (if s' = s ∧ r' = r then nj else σ.shelf s' r') = none
    rw [show (setJob _ s r nj).ledger = new ++ σ.ledger from rfl, completedIn_append, Bool.or_eq_true] at hc
    by_cases heq : s' = s ∧ r' = r
    · obtain ⟨rfl, rfl⟩ := heq
      rw [if_pos ⟨rfl, rfl⟩]
      rcases hc with hc | hc
      · exact u.gone hwb hc
      · rw [hfresh t htyp] at hc; cases hc
    · rw [if_neg heq]
      rcases hc with hc | hc
      · obtain ⟨e, he, hce⟩ := List.any_eq_true.mp hc
        rw [(Entry.other_key (u.entries e he) heq).1] at hce; cases hce
      · exact h.doneGone _ _ t htyp hc
  · intro s' r' t htyp
    refine okLedger_append (h.ok _ _ t htyp) ?_
    by_cases heq : s' = s ∧ r' = r
    · obtain ⟨rfl, rfl⟩ := heq; exact .inl ⟨u.ok, hfresh t htyp⟩
    · exact .inr fun e he => (Entry.other_key (u.entries e he) heq).2

theorem Inv2.admitEvent {c : Cfg} {σ : St} (h : Inv2 c σ) (r : Nat) (ty : EvType) (D' P' E' : List Nat)
    (hfresh : ∀ s' t, Typed c s' t → c.sel s' r ty = true → completedIn σ.ledger s' r = false) :
    Inv2 c (saveEvent c { σ with dag := D', payloads := P', evented := E', admitted := (r, ty) :: σ.admitted } (r, ty)) := by
  have sp := saveEvent_spec c { σ with dag := D', payloads := P', evented := E', admitted := (r, ty) :: σ.admitted } (r, ty)
  generalize saveEvent c { σ with dag := D', payloads := P', evented := E', admitted := (r, ty) :: σ.admitted } (r, ty) = σ' at sp
  obtain ⟨_, _, _, e4, _, _, e7, _⟩ := sp
  simp only at e4 e7
  constructor
  · intro s' r' t htyp hc
    rw [e4] at hc; rw [e7]
    split
    · next hcond =>
      obtain ⟨_, rfl, hsel, _⟩ := hcond
      rw [hfresh s' t htyp hsel] at hc; cases hc
    · exact h.doneGone _ _ t htyp hc
  · rw [e4]; exact h.ok

theorem Inv2.pending {c : Cfg} {σ : St} (h : Inv2 c σ) (p : List (Nat × EvType)) : Inv2 c { σ with pending := p } :=
  h.same ⟨rfl, rfl, rfl, rfl, rfl, rfl⟩

theorem Inv.notCompleted_of_notInDag {c : Cfg} {σ : St} (h : Inv c σ) (s r : Nat) (hr : r ∉ σ.dag) :
    completedIn σ.ledger s r = false := by
  cases hc : completedIn σ.ledger s r with
  | false => rfl
  | true =>
    rw [completedIn_iff] at hc
    rcases hc with ⟨ty, k, hm⟩ | hm
    · exact absurd (h.callOk _ _ _ _ _ hm).1 hr
    · exact absurd (h.finOk _ _ hm).1 hr

/-- the commit of a `WritePayload` that saves the payload event: the event of this transaction was not saved before, so no
    subscriber whose filters fix the payload type has a completion record for it -/
theorem Inv2.payloadCommit {c : Cfg} {σ : St} (hskip : c.skipPresent = true) (h1 : Inv c σ) (h : Inv2 c σ) {r : Nat}
    (hns : ¬(c.skipPresent = true ∧ r ∈ σ.evented)) : Inv2 c (payloadCommit c σ r) := by
  apply Inv2.pending
  have hnp : r ∉ σ.evented := fun hp => hns ⟨hskip, hp⟩
  refine h.admitEvent r .payload σ.dag (c.phash r :: σ.payloads) (r :: σ.evented) ?_
  intro s' t htyp hsel
  have ht : EvType.payload = t := htyp _ _ hsel
  cases hc : completedIn σ.ledger s' r with
  | false => rfl
  | true =>
    exfalso
    rw [completedIn_iff] at hc
    rcases hc with ⟨ty, k, hm⟩ | hm
    · obtain ⟨_, hs2, hp⟩ := h1.callOk _ _ _ _ _ hm
      exact hnp (hp ((htyp _ _ hs2).trans ht.symm)).2
    · obtain ⟨_, ty, hs2, hp⟩ := h1.finOk _ _ hm
      exact hnp (hp ((htyp _ _ hs2).trans ht.symm)).2

theorem Inv2.writePayload {c : Cfg} {σ : St} (hskip : c.skipPresent = true) (h1 : Inv c σ) (h : Inv2 c σ) (r : Nat) (cf : Bool) :
    Inv2 c (writePayload c σ r cf).1 := by
  rcases writePayload_spec c σ r cf with ⟨e, _, _, he, _⟩ | ⟨_, p, he, _⟩ | ⟨he, _, hns⟩ <;> rw [he]
  · exact h
  · exact h.pending p
  · exact h.payloadCommit hskip h1 hns

theorem Inv2.dstep {c : Cfg} {σ σ' : St} (hskip : c.skipPresent = true) (hwb : c.writeBackSkipsGone = true) (h1 : Inv c σ)
    (h : Inv2 c σ) (d : DStep c σ σ') : Inv2 c σ' := by
  induction d with
  | vol e => exact h.same e
  | upd s r j new nj hj u => exact h.update hwb hj u
  | @add σ a _ hnd =>
    apply Inv2.pending
    -- the transaction is new to the DAG, so nothing about it is on the ledger
    have hfr : ∀ s', completedIn σ.ledger s' a.ref = false := fun s' => h1.notCompleted_of_notInDag s' a.ref hnd
    split
    · have h2 := h.admitEvent a.ref .payload (a.ref :: σ.dag) (c.phash a.ref :: σ.payloads) (a.ref :: σ.evented) (fun s' _ _ _ => hfr s')
      generalize hσ1 : saveEvent c _ (a.ref, EvType.payload) = σ1 at h2 ⊢
      have hl : σ1.ledger = σ.ledger := by rw [← hσ1, saveEvent_ledger]
      exact h2.admitEvent a.ref .tx σ1.dag σ1.payloads σ1.evented (fun s' _ _ _ => by rw [hl]; exact hfr s')
    · exact h.admitEvent a.ref .tx (a.ref :: σ.dag) σ.payloads σ.evented (fun s' _ _ _ => hfr s')
  | payload r _ hns => exact h.payloadCommit hskip h1 hns
  | trans d1 _ ih1 ih2 => exact ih2 (h1.dstep d1) (ih1 h1 h)

theorem Inv2.init (c : Cfg) : Inv2 c init := by
  constructor <;> intros <;> simp_all [Nuts.C14.init, completedIn, okLedger]

theorem Inv2.run {c : Cfg} {σ : St} (hskip : c.skipPresent = true) (hwb : c.writeBackSkipsGone = true) (h1 : Inv c σ) (h : Inv2 c σ) (ops : List Op) :
    Inv2 c (run c σ ops) := by
  induction ops generalizing σ with
  | nil => exact h
  | cons op rest ih => exact ih (h1.dstep (step_dstep c σ op)) (h.dstep hskip hwb h1 (step_dstep c σ op))

theorem okLedger_split (s r : Nat) (newer older : List Entry) (e : Entry)
    (h : okLedger s r (newer ++ e :: older) = true) (he : e.completes s r = true) :
    ∀ e' ∈ newer, e'.isCallOf s r = false := by
  induction newer with
  | nil => intro e' hm; cases hm
  | cons x rest ih =>
    simp only [List.cons_append, okLedger, Bool.and_eq_true, Bool.or_eq_true, Bool.not_eq_true'] at h
    intro e' hm
    rcases List.mem_cons.mp hm with rfl | hm
    · rcases h.1 with h1 | h1
      · exact h1
      · have : completedIn (rest ++ e :: older) s r = true := by
          simp [completedIn, he]
        rw [this] at h1; cases h1
    · exact ih h.2 e' hm

end Nuts.C14
