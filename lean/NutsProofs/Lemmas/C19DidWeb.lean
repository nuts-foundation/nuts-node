import NutsModel.C19.DidWeb
import NutsProofs.Lemmas.Base
namespace Nuts.C19.Lemmas
open Nuts.C19.DidWeb

theorem dw_char_three (c : Cfg) (enc : Bytes) (h3 : enc.length = 3) :
    ∃ r, percentDecodeChar c enc = .ok r ∧ ∀ ch, r = some ch → ch ∈ c.decodeSet := by
  fun_cases percentDecodeChar c enc with
  | case2 | case4 | case5 => cases h3
  | case7 _ _ _ _ _ _ _ hc => exact ⟨_, rfl, fun _ h => Option.some.inj h ▸ List.contains_iff_mem.mp hc⟩
  | _ => exact ⟨none, rfl, nofun⟩

theorem dw_char_guarded (c : Cfg) (hg : c.charLenGuard = true) (enc : Bytes) :
    ∃ r, percentDecodeChar c enc = .ok r := by
  by_cases h : enc.length = 3
  · exact (dw_char_three c enc h).imp fun _ => And.left
  · unfold percentDecodeChar
    have : (enc.length != 3) = true := by simp [bne_iff_ne, h]
    rw [hg, this]
    exact ⟨none, by simp⟩

theorem consOk_ok {x : Nat} {r : Res Bytes} {out : Bytes} (h : consOk x r = .ok out) :
    ∃ t, r = .ok t ∧ out = x :: t := by
  cases r <;> simp [consOk] at h
  exact ⟨_, rfl, h.symm⟩

theorem consOk_okv (x : Nat) (t : Bytes) : consOk x (.ok t) = .ok (x :: t) := rfl

theorem dw_from_nil (c : Cfg) (skip : Nat) : percentDecodeFrom c skip [] = .ok [] := by
  cases skip <;> rfl

/-- one step of the loop on a byte that is not skipped: the slice panics (a `%` the guard lets through with fewer than two bytes
    behind it), or the step emits the byte itself or a member of the decode set and goes on with the rest -/
theorem dw_from_cons (c : Cfg) (x : Nat) (rest : Bytes) :
    (sliceGuardPasses c rest = true ∧ rest.length < 2 ∧ ∃ s, percentDecodeFrom c 0 (x :: rest) = .panic s) ∨
    ∃ y skip, percentDecodeFrom c 0 (x :: rest) = consOk y (percentDecodeFrom c skip rest) ∧ (y = x ∨ y ∈ c.decodeSet) := by
  simp only [percentDecodeFrom]
  split
  · rename_i hcond
    split
    · exact .inl ⟨(Bool.and_eq_true _ _ ▸ hcond).2, ‹_›, _, rfl⟩
    · obtain ⟨r, hr, hmem⟩ := dw_char_three c (x :: rest.take 2) (by simp only [List.length_cons, List.length_take]; omega)
      rw [hr]
      cases r with
      | none => exact .inr ⟨x, 0, rfl, .inl rfl⟩
      | some ch => exact .inr ⟨ch, 2, rfl, .inr (hmem ch rfl)⟩
  · exact .inr ⟨x, 0, rfl, .inl rfl⟩

theorem dw_decode_from_ok (c : Cfg) (n : Nat) (hs : c.sliceGuard = some n) (hn : 2 ≤ n) :
    ∀ (s : Bytes) (skip : Nat), ∃ out, percentDecodeFrom c skip s = .ok out
  | [], skip => ⟨[], dw_from_nil c skip⟩
  | x :: rest, skip + 1 => by simp only [percentDecodeFrom]; exact dw_decode_from_ok c n hs hn rest skip
  | x :: rest, 0 => by
    obtain ⟨hg, hl, _⟩ | ⟨y, skip, he, _⟩ := dw_from_cons c x rest
    · simp [sliceGuardPasses, hs] at hg; omega
    · obtain ⟨t, ht⟩ := dw_decode_from_ok c n hs hn rest skip
      exact ⟨y :: t, by rw [he, ht, consOk_okv]⟩

theorem dw_from_cons_ok (c : Cfg) (x : Nat) (rest out : Bytes) (h : percentDecodeFrom c 0 (x :: rest) = .ok out) :
    ∃ y skip t, percentDecodeFrom c skip rest = .ok t ∧ out = y :: t ∧ (y = x ∨ y ∈ c.decodeSet) := by
  obtain ⟨_, _, s, hp⟩ | ⟨y, skip, he, hy⟩ := dw_from_cons c x rest
  · cases hp.symm.trans h
  · obtain ⟨t, ht, ho⟩ := consOk_ok (he ▸ h)
    exact ⟨y, skip, t, ht, ho, hy⟩

theorem dw_decode_from_length (c : Cfg) :
    ∀ (s : Bytes) (skip : Nat) (out : Bytes), percentDecodeFrom c skip s = .ok out → out.length ≤ s.length := by
  intro s
  induction s with
  | nil => intro skip out h; rw [dw_from_nil] at h; cases h; simp
  | cons x rest ih =>
    intro skip out h
    cases skip with
    | succ k => have := ih k out h; simp; omega
    | zero =>
      obtain ⟨y, skip, t, ht, rfl, _⟩ := dw_from_cons_ok c x rest out h
      have := ih skip t ht
      simp; omega

theorem dw_decode_from_only_allowed (c : Cfg) :
    ∀ (s : Bytes) (skip : Nat) (out : Bytes), percentDecodeFrom c skip s = .ok out →
      ∀ y ∈ out, y ∈ s ∨ y ∈ c.decodeSet := by
  intro s
  induction s with
  | nil => intro skip out h; rw [dw_from_nil] at h; cases h; nofun
  | cons x rest ih =>
    intro skip out h y hy
    cases skip with
    | succ k => exact (ih k out h y hy).imp_left (List.mem_cons_of_mem _)
    | zero =>
      obtain ⟨y0, skip, t, ht, rfl, hy0⟩ := dw_from_cons_ok c x rest out h
      rcases List.mem_cons.mp hy with rfl | h1
      · exact hy0.imp_left fun e => List.mem_cons.mpr (.inl e)
      · exact (ih skip t ht y h1).imp_left (List.mem_cons_of_mem _)

theorem dw_unescape_from_nil (skip : Nat) : pathUnescapeFrom skip [] = some [] := by
  cases skip <;> rfl

theorem dw_unescape_no_percent : ∀ (s : Bytes), 37 ∉ s → pathUnescapeFrom 0 s = some s := by
  intro s
  induction s with
  | nil => intro _; rfl
  | cons x rest ih =>
    intro h
    have hx : x ≠ 37 := fun e => h (by rw [e]; exact List.mem_cons_self)
    have hr : 37 ∉ rest := fun e => h (List.mem_cons_of_mem _ e)
    simp only [pathUnescapeFrom]
    rw [if_neg (by simpa using hx), ih hr]
    rfl

variable {P : String → Prop}

theorem dw_target_panicsIn (c : Cfg) (hd : ∀ s, ∃ out, percentDecode c s = .ok out) (method : String) (id : Bytes) :
    Res.PanicsIn (didTarget c method id) P := by
  unfold didTarget
  refine .ite .err ?_
  dsimp only
  split
  · exact .err
  · rename_i hp
    split at hp
    · cases hp
    · split at hp <;> cases hp
  · split
    · exact .err
    · rename_i path _ _ uid _
      obtain ⟨out, ho⟩ := hd path
      rw [ho]
      exact .ok

theorem dw_didToURL_panicsIn (c : Cfg) (hd : ∀ s, ∃ out, percentDecode c s = .ok out) (up : UrlParse) (method : String) (id : Bytes) :
    Res.PanicsIn (didToURL c up method id) P := by
  fun_cases didToURL c up method id with
  | case2 _ hs => exact .pass (dw_target_panicsIn c hd method id) hs
  | case6 => exact .ok
  | _ => exact .err

theorem dw_target_ok (c : Cfg) (method : String) (id : Bytes) (t : Bytes × Bytes) (h : didTarget c method id = .ok t) :
    method = "web" ∧ pathUnescape (splitColon id).1 = some t.1 := by
  revert h
  fun_cases didTarget c method id with
  | case7 hm _ _ _ _ _ uid hu => intro h; cases h; exact ⟨by simpa using hm, hu⟩
  | _ => nofun

end Nuts.C19.Lemmas
