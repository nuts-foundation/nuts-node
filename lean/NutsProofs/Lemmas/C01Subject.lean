/-
  C01 — what the functions of NutsModel/C01/Subject.lean compute: the subject validators' loops and guards, the date getters of
  util.go, the wallet's method filter, `autoCorrect` member by member.
-/
import NutsModel.C01.Subject
namespace Nuts.C01

theorem operationsValid_iff (valid : List String) (os : List String) :
    operationsValid valid os = true ↔ ∀ o ∈ os, validOperation valid o = true := by
  induction os with
  | nil => simp [operationsValid]
  | cons o os ih =>
    unfold operationsValid
    cases h : validOperation valid o <;> simp [h, ih]

theorem validateResources_cons (valid : List String) (r : Resource) (rs : List Resource) :
    validateResources valid (r :: rs) =
      (!blank r.path && !(r.operations.length == 0) && operationsValid valid r.operations && validateResources valid rs) := by
  rw [validateResources]
  cases blank r.path <;> cases (r.operations.length == 0) <;> cases operationsValid valid r.operations <;> rfl

theorem authShape_iff (valid : List String) (E : Env) (s : SubjectView) :
    authShape valid E s = true ↔
      s.n = 1 ∧ blank s.id = false ∧ (E.parseDID s.id).isSome = true ∧ blank s.purposeOfUse = false ∧
      validateResources valid s.resources = true := by
  simp [authShape, Option.isSome_iff_ne_none]

theorem orgShape_iff (E : Env) (s : SubjectView) :
    orgShape E s = true ↔
      s.n = 1 ∧ s.orgNil = false ∧ s.id ≠ "" ∧ (E.parseDID s.id).isSome = true ∧
      (∃ n, s.orgName = some n ∧ blank n = false) ∧ (∃ n, s.orgCity = some n ∧ blank n = false) := by
  unfold orgShape
  cases s.orgName <;> cases s.orgCity <;> simp [Option.isSome_iff_ne_none]

theorem nonZero_some {t u : Time} : nonZero t = some u ↔ t = u ∧ t ≠ zeroTime := by
  unfold nonZero
  by_cases h : t = zeroTime
  · simp [h]
  · simp [h]

theorem parseLDProof_some {vp : Pres} {p : Proof} (h : parseLDProof vp = some p) : vp.proof = .one p ∧ vp.nProofs = 1 := by
  revert h
  fun_cases parseLDProof vp with
  | case3 hd hn q hq => intro h; cases h; exact ⟨hq, by simpa using hn⟩
  | _ => nofun

theorem claimTime_eq_zero {o : Option Time} : claimTime o = zeroTime ↔ o = none ∨ o = some zeroTime := by
  cases o <;> simp [claimTime]

theorem nonZero_claimTime {o : Option Time} {t : Time} : nonZero (claimTime o) = some t ↔ o = some t ∧ t ≠ zeroTime := by
  rw [nonZero_some]
  cases o with
  | none => simp [claimTime]
  | some v => exact ⟨fun ⟨e, h⟩ => ⟨congrArg some e, e ▸ h⟩, fun ⟨e, h⟩ => by cases e; exact ⟨rfl, h⟩⟩

theorem subjectsMatch_iff (methods : List String) (l : List (String × Option String)) :
    subjectsMatch methods l = true ↔ ∀ x ∈ l, x.1 ≠ "" → ∀ m, x.2 = some m → m ∈ methods := by
  induction l with
  | nil => simp [subjectsMatch]
  | cons x rest ih =>
    obtain ⟨id, m⟩ := x
    rw [List.forall_mem_cons, ← ih]
    cases m <;> by_cases hid : id = "" <;> simp [subjectsMatch, hid]

theorem autoCorrect_members (c : SelfAttested) (r u : String) (now : Time) :
    let c' := autoCorrect c r u now
    c'.nProofs = c.nProofs ∧ c'.nSubjects = c.nSubjects ∧
    c'.id = (if c.nProofs > 0 then c.id else if c.id.isNone then some u else c.id) ∧
    c'.issuer = (if c.nProofs > 0 then c.issuer else if c.issuer == "" then r else c.issuer) ∧
    c'.issued = (if c.nProofs > 0 then c.issued else if c.issued == zeroTime then now - now % 1000 else c.issued) ∧
    c'.subject0Id = (if c.nProofs > 0 then c.subject0Id else
      if c.nSubjects == some 1 && !c.subject0HasId then some r else c.subject0Id) := by
  simp only [autoCorrect, apply_ite SelfAttested.nProofs, apply_ite SelfAttested.id, apply_ite SelfAttested.issuer,
    apply_ite SelfAttested.issued, apply_ite SelfAttested.subject0Id, apply_ite SelfAttested.nSubjects,
    apply_ite SelfAttested.subject0HasId, ite_self, and_self]

end Nuts.C01
