/-
  C10 — lemmas for NutsModel/C10/ReadPath.lean: a failing shelf Get inside `Resolve`'s read transaction either comes back
  as the storage error or never fires; it cannot change an answer.
-/
import NutsModel.C10.ReadPath

namespace Nuts.C10

theorem tick_zero : tick 0 = (false, 0) := rfl

theorem sResolveFromF_cases (metas : List (Nat × (Doc × Meta))) (rm : Option ResolveMeta) (fuel key k : Nat) :
    (k ≠ 0 ∧ sResolveFromF metas rm fuel key k = .err "db") ∨
      sResolveFromF metas rm fuel key k = sResolveFrom metas rm fuel key := by
  fun_induction sResolveFromF metas rm fuel key k with
  | case1 => exact Or.inr rfl
  | case2 fuel key k h => exact Or.inl ⟨fun h0 => (by subst h0; cases h), rfl⟩
  | case3 fuel key k h hg => exact Or.inr (by rw [sResolveFrom, hg])
  | case4 fuel key k h d m hg hd => exact Or.inr (by rw [sResolveFrom, hg]; simp only [hd, if_true])
  | case5 fuel key k h d m hg hd hm h2 => exact Or.inl ⟨fun h0 => (by subst h0; cases h2), rfl⟩
  | case6 fuel key k h d m hg hd hm h2 =>
    exact Or.inr (by rw [sResolveFrom, hg]; simp only [hd, hm, if_true, Bool.false_eq_true, if_false])
  | case7 fuel key k h d m hg hd hm hv =>
    exact Or.inr (by rw [sResolveFrom, hg]; simp only [hd, hm, hv, if_true, Bool.false_eq_true, if_false])
  | case8 fuel key k h d m hg hd hm hv ih =>
    rw [sResolveFrom, hg]
    simp only [hd, hm, hv, Bool.false_eq_true, if_false]
    exact ih.imp_left (And.imp_left fun hk h0 => hk (by subst h0; rfl))

theorem sResolveF_or (st : Shelves) (rm : Option ResolveMeta) (k : Nat) :
    sResolveF st rm k = .err "db" ∨ sResolveF st rm k = sResolve st rm := by
  unfold sResolveF sResolve
  by_cases h1 : (tick k).1 = true
  · left; simp only [h1, if_true]
  · simp only [h1, Bool.false_eq_true, if_false]
    cases st.latest with
    | none => right; rfl
    | some n => exact (sResolveFromF_cases st.metas rm (n + 1) n (tick k).2).imp_left And.right

theorem sResolveF_zero (st : Shelves) (rm : Option ResolveMeta) : sResolveF st rm 0 = sResolve st rm := by
  unfold sResolveF sResolve
  simp only [tick_zero, Bool.false_eq_true, if_false]
  cases st.latest with
  | none => rfl
  | some n => exact (sResolveFromF_cases st.metas rm (n + 1) n 0).resolve_left fun h => h.1 rfl
theorem sResolveF_one (st : Shelves) (rm : Option ResolveMeta) : sResolveF st rm 1 = .err "db" := by
  unfold sResolveF; rfl

end Nuts.C10
