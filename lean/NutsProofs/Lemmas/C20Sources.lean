/-
  C20 — where the options come from (NutsModel/C20/Sources.lean): precedence of the sources for any environment rules,
  environment names and list values, the order of the checks of `Load`.
-/
import NutsModel.C20.Sources
import NutsProofs.Lemmas.C18Bytes

namespace Nuts.C20
open Nuts Nuts.C18

theorem resolveRaw_precedence (R : EnvRules) (key : Bytes) (src : Sources) :
    resolveRaw R [.file, .env, .cli] key src =
      match src.cli with
      | some v => some v
      | none => match envLookup R key src.env with
        | some v => some v
        | none => src.file := by
  unfold resolveRaw
  simp only [List.foldl, sourceValue]
  cases src.cli <;> cases envLookup R key src.env <;> cases src.file <;> rfl

theorem resolveRaw_some_source (R : EnvRules) (key : Bytes) (src : Sources) (r : Raw)
    (h : resolveRaw R [.file, .env, .cli] key src = some r) : ∃ s, sourceValue R key src s = some r := by
  rw [resolveRaw_precedence] at h
  split at h
  · next hc => exact ⟨.cli, hc.trans h⟩
  · split at h
    · next he => exact ⟨.env, he.trans h⟩
    · exact ⟨.file, h⟩

theorem resolveStrict_false_source (R : EnvRules) (src : Sources)
    (h : resolveStrict R [.file, .env, .cli] true src = .ok false) :
    ∃ s r, sourceValue R resolveStrict.sStrictmodeKey src s = some r ∧ toBool r = .ok false := by
  unfold resolveStrict at h
  split at h
  · cases h
  · next r hr =>
    obtain ⟨s, hs⟩ := resolveRaw_some_source R _ src r hr
    exact ⟨s, r, hs, h⟩

theorem resolveStrict_cli_wins (R : EnvRules) (dflt b : Bool) (src : Sources) (hc : src.cli = some (.b b)) :
    resolveStrict R [.file, .env, .cli] dflt src = .ok b := by
  unfold resolveStrict
  rw [resolveRaw_precedence, hc]
  rfl

theorem toLowerB_not_upper (x : Nat) : ¬ (65 ≤ toLowerB x ∧ toLowerB x ≤ 90) := by
  unfold toLowerB
  split
  · next h => simp only [isUpper, Bool.and_eq_true, decide_eq_true_eq] at h; omega
  · next h => simpa [isUpper] using h

theorem envKey_normal (pre : Bytes) {envDelim delim : Nat} (hd : delim ≠ envDelim) (hu : ¬ (65 ≤ delim ∧ delim ≤ 90))
    (raw : Bytes) (c : Nat) (h : c ∈ envKey pre envDelim delim raw) : c ≠ envDelim ∧ ¬ (65 ≤ c ∧ c ≤ 90) := by
  unfold envKey lower at h
  simp only [List.map_map, List.mem_map, Function.comp] at h
  obtain ⟨x, _, rfl⟩ := h
  split
  · exact ⟨hd, hu⟩
  · next hx => exact ⟨hx, toLowerB_not_upper x⟩

theorem replaceEsc_no_esc (esc sep : Nat) (s : Bytes) (h : esc ∉ s) : replaceEsc esc sep s = s := by
  fun_induction replaceEsc esc sep s with
  | case1 a b rest hc => exact absurd (hc.1 ▸ List.mem_cons_self ..) h
  | case2 a b rest _ ih => rw [ih fun m => h (List.mem_cons_of_mem _ m)]
  | case3 => rfl

theorem mem_joinWith (c : Nat) : ∀ (ps : List Bytes), ∀ p ∈ ps, ∀ x ∈ p, x ∈ joinWith c ps
  | [q], p, hp, x, hx => by
    rw [List.mem_singleton.mp hp] at hx
    exact hx
  | q :: r :: ps, p, hp, x, hx => by
    rw [joinWith_cons_cons]
    rcases List.mem_cons.mp hp with rfl | hp
    · exact List.mem_append_left _ hx
    · exact List.mem_append_right _ (List.mem_cons_of_mem _ (mem_joinWith c (r :: ps) p hp x hx))

theorem splitOn_mem (c : Nat) (s p : Bytes) (hp : p ∈ splitOn c s) : ∀ x ∈ p, x ∈ s := by
  intro x hx
  rw [← join_splitOn c s]
  exact mem_joinWith c _ p hp x hx

theorem splitWithEscaping_plain (sep esc : Nat) (s : Bytes) (h1 : esc ∉ s) (h0 : 0 ∉ s) :
    splitWithEscaping sep esc s = splitOn sep s := by
  unfold splitWithEscaping
  rw [replaceEsc_no_esc esc sep s h1]
  have : ∀ tok ∈ splitOn sep s, (tok.map fun c => if c = 0 then sep else c) = tok := by
    intro tok ht
    have hm := splitOn_mem sep s tok ht
    have : ∀ c ∈ tok, (if c = 0 then sep else c) = c := by
      intro c hc
      have : c ≠ 0 := fun e => h0 (e ▸ hm c hc)
      simp [this]
    rw [List.map_congr_left this]; simp
  rw [List.map_congr_left this]; simp

theorem loadFull_order (fmts : List Bytes) (i : LoadIn) :
    loadFull [.configFile, .env, .cliSecret, .unmarshal, .movedKeys, .verbosity, .loggerFormat] fmts i =
      if i.badConfigFile then some "config-file" else
      if i.cliFlags.any isSecretFlag then some "cli-secret" else
      if i.unmarshalFails then some "unmarshal" else
      if i.movedKey then some "moved-keys" else
      if !i.verbosityOk then some "verbosity" else
      if !fmts.contains i.loggerFormat then some "loggerformat" else none := by
  simp only [loadFull, List.findSome?, stepFails]
  cases i.badConfigFile with
  | true => rfl
  | false =>
  cases i.cliFlags.any isSecretFlag with
  | true => rfl
  | false =>
  cases i.unmarshalFails with
  | true => rfl
  | false =>
  cases i.movedKey with
  | true => rfl
  | false =>
  cases i.verbosityOk with
  | false => rfl
  | true =>
  cases fmts.contains i.loggerFormat <;> rfl

end Nuts.C20
