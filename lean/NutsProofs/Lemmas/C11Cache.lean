/- C11, what a node holds of the other node's lists: never more than was revoked there (`CacheSound`), and a bit once held
   stays held (`Pin`), because a refresh stores the other node's list as it is at that moment (`cache_step`). -/
import NutsProofs.Lemmas.C11World
namespace Nuts.C11

theorem cache_step {E : Env} {K : KeyEnv} {w w' : World} (hw : WInv E w) (hp : WPrim E K w w') (i : Bool) (iss : String) (p : Nat) :
    (w'.get i).cred? (.sl (w.get (!i)).base iss p) = (w.get i).cred? (.sl (w.get (!i)).base iss p) ∨
    ∃ rec, (w'.get i).cred? (.sl (w.get (!i)).base iss p) = some rec ∧ rec.purpose = "revocation" ∧
      ∀ j, getB rec.bits j = true ↔ j ∈ (w'.get (!i)).revsOf (.sl (w.get (!i)).base iss p) := by
  cases hp with
  | env hosts now log => cases i <;> exact .inl rfl
  | node k n' hs =>
    rw [get_set]
    by_cases hk : i = k
    · subst hk
      rw [if_pos rfl, get_set_other]
      have hown : ∀ iss' p', Url.sl (w.get (!i)).base iss p ≠ (w.get i).url iss' p' := fun iss' p' e => by
        rw [Node.url, Url.sl.injEq] at e; exact other_base_ne hw i e.1
      rcases hs.cred? (hw.node i) hown with h | ⟨rec, hid, hf, h⟩
      · exact .inl h
      · obtain ⟨h1, h2⟩ := hf (!i) iss p hid
        exact .inr ⟨_, h, by simpa using h1, by simpa [hid] using h2⟩
    · rw [if_neg hk]; exact .inl rfl

/-- what node `i` holds about lists of the other node is never more than the other node has revoked -/
def CacheSound (w : World) : Prop :=
  ∀ (i : Bool) iss p rec, (w.get i).cred? (.sl (w.get (!i)).base iss p) = some rec →
    ∀ j, getB rec.bits j = true → j ∈ (w.get (!i)).revsOf (.sl (w.get (!i)).base iss p)

/-- node `i` holds a record of list `<ob>/statuslist/<iss>/<p>` of the other node with purpose revocation and bit `j` set -/
def Pin (w : World) (i : Bool) (ob iss : String) (p j : Nat) : Prop :=
  (w.get (!i)).base = ob ∧ ∃ rec, (w.get i).cred? (.sl ob iss p) = some rec ∧ rec.purpose = "revocation" ∧ getB rec.bits j = true

theorem cache_prim {E : Env} {K : KeyEnv} {w w' : World} (hw : WInv E w) (hc : CacheSound w) (hp : WPrim E K w w') : CacheSound w' := by
  intro i iss p rec' hr j hj
  have hm := (hp.nodes hw).2 (!i)
  rw [hm.base] at hr ⊢
  rcases cache_step hw hp i iss p with h | ⟨rec, h1, _, h2⟩
  · rw [h] at hr; exact hm.revs _ _ (hc i iss p rec' hr j hj)
  · rw [h1] at hr; cases hr; exact (h2 j).mp hj

theorem pin_prim {E : Env} {K : KeyEnv} {w w' : World} (hw : WInv E w) (hc : CacheSound w) (hp : WPrim E K w w')
    {i : Bool} {ob iss : String} {p j : Nat} (h : Pin w i ob iss p j) : Pin w' i ob iss p j := by
  obtain ⟨hb, rec, hr, hpu, hj⟩ := h
  have hm := (hp.nodes hw).2 (!i)
  refine ⟨hm.base.trans hb, ?_⟩
  subst hb
  rcases cache_step hw hp i iss p with h | ⟨rec', h1, h2, h3⟩
  · exact ⟨rec, by rw [h]; exact hr, hpu, hj⟩
  · exact ⟨rec', h1, h2, (h3 j).mpr (hm.revs _ _ (hc i iss p rec hr j hj))⟩

theorem cache_path {E : Env} {K : KeyEnv} {w w' : World} (hp : WPath E K w w') (hw : WInv E w) (hc : CacheSound w) : CacheSound w' :=
  hp.keeps cache_prim hw hc

theorem pin_path {E : Env} {K : KeyEnv} {w w' : World} (hp : WPath E K w w') (hw : WInv E w) (hc : CacheSound w)
    {i : Bool} {ob iss : String} {p j : Nat} (h : Pin w i ob iss p j) : Pin w' i ob iss p j :=
  (hp.keeps (P := fun w => CacheSound w ∧ Pin w i ob iss p j)
    (fun hw h hp => ⟨cache_prim hw h.1 hp, pin_prim hw h.1 hp h.2⟩) hw ⟨hc, h⟩).2

theorem checkStatus_pinned {E : Env} {w : World} (hc : CacheSound w) {i : Bool} {ob iss : String} {p j : Nat}
    (hpin : Pin w i ob iss p j) (f : Fetch) (hf : FetchOK w (.sl ob iss p) f) (st : StatusEntry)
    (hst : st.list = .sl ob iss p) (hpu : st.purpose = "revocation") (hidx : st.idx = some (j : Int)) :
    (checkStatus E w.now (w.get i) st f).1 = some .revoked := by
  obtain ⟨rfl, rec0, hr0, hp0, hj0⟩ := hpin
  obtain ⟨rec, n', hsl⟩ := statusList_some (E := E) (now := w.now) (f := f) hr0
  -- the record used is the pinned one, or a fresh download, which carries every revocation the pinned one had
  have good : rec.purpose = "revocation" ∧ getB rec.bits j = true := by
    rcases statusList_ok hsl with ⟨_, h2⟩ | ⟨h1, _⟩
    · rw [hr0] at h2; cases h2; exact ⟨hp0, hj0⟩
    · obtain ⟨h3, h4, _⟩ := update_served hf h1
      exact ⟨h3, (h4 j).mpr (hc i iss p rec0 hr0 j hj0)⟩
  rw [← hst] at hsl
  rw [checkStatus_eq hsl (good.1.trans hpu.symm) hidx (getB_true good.2)]
  rfl

end Nuts.C11
