/-
  C09 — the network document validator (vdr/didnuts/validators.go, go-did's W3C validator): each validator with all rules on
  accepts exactly the documents of its declarative predicate (`VMsOk`, `SvcsOk`, `W3COk`, relative to the ids seen so far), and
  the four together exactly `WellFormedNuts`.
-/
import NutsModel.C09.Ambassador
import NutsProofs.Lemmas.Base

namespace Nuts.C09
open Nuts Nuts.C10

theorem ite_some_eq_none {α : Type} (c : Prop) [Decidable c] (e : α) (r : Option α) :
    (if c then some e else r) = none ↔ ¬c ∧ r = none := by
  by_cases h : c <;> simp [h]

def allOn : Rule → Bool := fun _ => true

theorem entryIdErr_none_iff (owner id pfx frag : String) (known : List String) :
    entryIdErr true true true owner id pfx frag known = none ↔ frag ≠ "" ∧ id ∉ known ∧ owner = pfx := by
  simp [entryIdErr, ite_some_eq_none, -ite_not]

theorem entryIdErr_none_mono {fo uo po : Bool} {owner id pfx frag : String} {known known' : List String}
    (hsub : ∀ x, x ∈ known' → x ∈ known) (h : entryIdErr fo uo po owner id pfx frag known = none) :
    entryIdErr fo uo po owner id pfx frag known' = none := by
  simp only [entryIdErr, ite_some_eq_none, Bool.and_eq_true, List.contains_iff_mem, and_true] at h ⊢
  exact ⟨h.1, fun hc => h.2.1 ⟨hc.1, hsub _ hc.2⟩, h.2.2⟩

/-- the loop invariant of a seen-set: the ids still to come are pairwise different and none was seen before -/
theorem nodup_fresh_cons {α : Type} (a : α) (l known : List α) :
    ((a :: l).Nodup ∧ ∀ x ∈ a :: l, x ∉ known) ↔ a ∉ known ∧ l.Nodup ∧ ∀ x ∈ l, x ∉ a :: known := by
  simp only [List.nodup_cons, List.mem_cons, forall_eq_or_imp, not_or]
  constructor
  · rintro ⟨⟨h1, h2⟩, h3, h4⟩
    exact ⟨h3, h2, fun x hx => ⟨fun e => h1 (e ▸ hx), h4 x hx⟩⟩
  · rintro ⟨h3, h2, h4⟩
    exact ⟨⟨fun ha => (h4 a ha).1 rfl, h2⟩, h3, fun x hx => (h4 x hx).2⟩

/-- what `verificationMethodValidator` establishes, relative to the ids seen so far -/
def VMsOk (thumb : Key → String) (owner : String) (vs : List NVM) (known : List String) : Prop :=
  (∀ v ∈ vs, v.frag ≠ "" ∧ v.pfx = owner ∧ ∃ k, v.key = .key k ∧ thumb k = v.frag) ∧
  (vs.map (·.id)).Nodup ∧ ∀ x ∈ vs.map (·.id), x ∉ known

theorem validateVMs_cons_ok (thumb : Key → String) (ne : Bool) (owner : String) (v : NVM) (vs : List NVM)
    (known : List String) :
    validateVMs thumb ne allOn owner (v :: vs) known = .ok () ↔
      (v.frag ≠ "" ∧ v.id ∉ known ∧ owner = v.pfx) ∧ (∃ k, v.key = .key k ∧ thumb k = v.frag) ∧
      validateVMs thumb ne allOn owner vs (v.id :: known) = .ok () := by
  rw [validateVMs, ← entryIdErr_none_iff]
  simp only [allOn, Bool.true_and]
  cases entryIdErr true true true owner v.id v.pfx v.frag known with
  | some e => simp
  | none =>
    cases v.key with
    | bad => simp
    | none => cases ne <;> simp
    | key k =>
      simp only [Res.ite_err_eq_ok, decide_eq_true_eq, ne_eq, Classical.not_not, KeyInfo.key.injEq, exists_eq_left', true_and]

theorem validateVMs_ok_iff (thumb : Key → String) (ne : Bool) (owner : String) :
    ∀ (vs : List NVM) (known : List String),
      validateVMs thumb ne allOn owner vs known = .ok () ↔ VMsOk thumb owner vs known := by
  intro vs
  induction vs with
  | nil => intro known; simp [validateVMs, VMsOk]
  | cons v vs ih =>
    intro known
    rw [validateVMs_cons_ok, ih, VMsOk, VMsOk, List.forall_mem_cons, List.map_cons, nodup_fresh_cons]
    constructor
    · rintro ⟨⟨hf, hk, hp⟩, hkey, h1, h2⟩
      exact ⟨⟨⟨hf, hp.symm, hkey⟩, h1⟩, hk, h2⟩
    · rintro ⟨⟨⟨hf, hp, hkey⟩, h1⟩, hk, h2⟩
      exact ⟨⟨hf, hk, hp.symm⟩, hkey, h1, h2⟩

theorem validateVMs_filter (thumb : Key → String) (ne : Bool) (on : Rule → Bool) (owner : String) (p : NVM → Bool) :
    ∀ (vs : List NVM) (known known' : List String), (∀ x, x ∈ known' → x ∈ known) →
      validateVMs thumb ne on owner vs known = .ok () → validateVMs thumb ne on owner (vs.filter p) known' = .ok () := by
  intro vs known known' hsub h
  fun_induction validateVMs thumb ne on owner vs known generalizing known' with
  | case1 => rfl
  | case7 v vs known he k hk hth ih =>
    rw [List.filter_cons]
    split
    · rw [validateVMs, entryIdErr_none_mono hsub he]
      simp only [hk, hth]
      exact ih _ (List.cons_subset_cons _ hsub) h
    · exact ih _ (List.subset_cons_of_subset _ hsub) h
  | _ => cases h

/-- what `basicServiceValidator` establishes, relative to the ids and types seen so far -/
def SvcsOk (owner : String) (ss : List NSvc) (knownIds knownTypes : List String) : Prop :=
  (∀ s ∈ ss, s.frag ≠ "" ∧ s.pfx = owner) ∧
  ((ss.map (·.id)).Nodup ∧ ∀ x ∈ ss.map (·.id), x ∉ knownIds) ∧
  ((ss.map (·.type)).Nodup ∧ ∀ x ∈ ss.map (·.type), x ∉ knownTypes)

theorem validateSvcs_cons_ok (owner : String) (s : NSvc) (ss : List NSvc) (ki kt : List String) :
    validateSvcs allOn owner (s :: ss) ki kt = .ok () ↔
      (s.frag ≠ "" ∧ s.id ∉ ki ∧ owner = s.pfx) ∧ s.type ∉ kt ∧
      validateSvcs allOn owner ss (s.id :: ki) (s.type :: kt) = .ok () := by
  rw [validateSvcs, ← entryIdErr_none_iff]
  simp only [allOn, Bool.true_and]
  cases entryIdErr true true true owner s.id s.pfx s.frag ki with
  | some e => simp
  | none => simp only [Res.ite_err_eq_ok, List.contains_iff_mem, true_and]

theorem validateSvcs_ok_iff (owner : String) :
    ∀ (ss : List NSvc) (ki kt : List String),
      validateSvcs allOn owner ss ki kt = .ok () ↔ SvcsOk owner ss ki kt := by
  intro ss
  induction ss with
  | nil => intro ki kt; simp [validateSvcs, SvcsOk]
  | cons s ss ih =>
    intro ki kt
    rw [validateSvcs_cons_ok, ih, SvcsOk, SvcsOk, List.forall_mem_cons, List.map_cons, List.map_cons,
      nodup_fresh_cons, nodup_fresh_cons]
    constructor
    · rintro ⟨⟨hf, hk, hp⟩, ht, h1, h2, h3⟩
      exact ⟨⟨⟨hf, hp.symm⟩, h1⟩, ⟨hk, h2⟩, ht, h3⟩
    · rintro ⟨⟨⟨hf, hp⟩, h1⟩, ⟨hk, h2⟩, ht, h3⟩
      exact ⟨⟨hf, hk, hp.symm⟩, ht, h1, h2, h3⟩

/-- what go-did's `W3CSpecValidator` establishes (on the structural flags of the parsed document) -/
def W3COk (d : NDoc) : Prop :=
  d.hasDidCtx = true ∧ d.idEmpty = false ∧ d.ctrlEmptyAny = false ∧
  (∀ v ∈ d.vms, vmW3COk v = true) ∧
  (∀ v ∈ d.auth ++ d.assertion ++ d.keyAgr ++ d.capInv ++ d.capDel, vmW3COk v = true) ∧
  (∀ s ∈ d.services, svcW3COk s = true)

theorem firstBadRel_none_iff (d : NDoc) :
    firstBadRel d = none ↔ ∀ v ∈ d.auth ++ d.assertion ++ d.keyAgr ++ d.capInv ++ d.capDel, vmW3COk v = true := by
  simp only [firstBadRel, ite_some_eq_none, Bool.not_eq_true', Bool.not_eq_false, List.all_eq_true, List.mem_append,
    or_imp, forall_and, and_assoc, and_true]

theorem validateW3C_ok_iff (d : NDoc) : validateW3C allOn d = .ok () ↔ W3COk d := by
  rw [validateW3C, W3COk, ← firstBadRel_none_iff]
  simp only [allOn, Bool.true_and, if_true, Res.ite_err_eq_ok, Bool.not_eq_true', Bool.not_eq_false, Bool.not_eq_true,
    List.all_eq_true]
  cases firstBadRel d <;> simp

theorem validateList_cons_ok (thumb : Key → String) (ne : Bool) (on : Rule → Bool) (d : NDoc) (v : Validator)
    (vs : List Validator) :
    validateList thumb ne on d (v :: vs) = .ok () ↔
      runValidator thumb ne on d v = .ok () ∧ validateList thumb ne on d vs = .ok () := by
  rw [validateList]
  cases runValidator thumb ne on d v <;> simp

/-- well-formed per DID-core and the Nuts method rules, for a document without null entries -/
def WellFormedCore (thumb : Key → String) (d : NDoc) : Prop :=
  W3COk d ∧
  (∀ v ∈ d.vms, v.frag ≠ "" ∧ v.pfx = d.id ∧ ∃ k, v.key = .key k ∧ thumb k = v.frag) ∧ (d.vms.map (·.id)).Nodup ∧
  (∀ s ∈ d.services, s.frag ≠ "" ∧ s.pfx = d.id) ∧ (d.services.map (·.id)).Nodup ∧ (d.services.map (·.type)).Nodup

/-- **Well-formed per DID-core and the Nuts method rules** (declarative; what the property text lists): no null
    entries, and the core rules -/
def WellFormedNuts (thumb : Key → String) (d : NDoc) : Prop :=
  (d.vmNull = false ∧ d.relNull = false) ∧ WellFormedCore thumb d

theorem validate_ok_iff (thumb : Key → String) (ne : Bool) (d : NDoc) :
    validate thumb ne [.nilEntry, .w3c, .nutsVM, .nutsService] d = .ok () ↔ WellFormedNuts thumb d := by
  change validateList thumb ne allOn d _ = .ok () ↔ _
  simp only [validateList_cons_ok, runValidator, validateW3C_ok_iff, validateVMs_ok_iff, validateSvcs_ok_iff]
  simp only [validateList, validateNil, allOn, Bool.true_and, Res.ite_err_eq_ok, Bool.not_eq_true, WellFormedNuts,
    WellFormedCore, VMsOk, SvcsOk, List.not_mem_nil, not_false_eq_true, implies_true, and_true, and_assoc]

end Nuts.C09
