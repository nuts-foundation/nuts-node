import NutsModel.C01.Verifier
import NutsProofs.Lemmas.Base
namespace Nuts.C01

theorem guard_pass_iff (b : Bool) (cls : String) : guard b cls = .pass ↔ b = true := by
  unfold guard; cases b <;> simp

theorem guard_not_panic (b : Bool) (cls s : String) : guard b cls ≠ .panic s := by
  unfold guard; cases b <;> simp

theorem runChecks_ok_iff {α} (l : List (Check α)) (x : α) :
    runChecks l x = .ok () ↔ ∀ c ∈ l, c.run x = .pass := by
  fun_induction runChecks l x with
  | case1 => simp
  | case2 c cs x h ih => simp [h, ih]
  | case3 c cs x e h => simp [h]
  | case4 c cs x s h => simp [h]

theorem runChecks_append_ok_iff {α} (l₁ l₂ : List (Check α)) (x : α) :
    runChecks (l₁ ++ l₂) x = .ok () ↔ runChecks l₁ x = .ok () ∧ runChecks l₂ x = .ok () := by
  simp only [runChecks_ok_iff, List.forall_mem_append]

theorem runChecks_perm {α} {l l' : List (Check α)} (h : l.Perm l') (x : α) :
    runChecks l x = .ok () ↔ runChecks l' x = .ok () := by
  simp only [runChecks_ok_iff, h.mem_iff]

theorem runChecks_map_lift {α β} (f : β → α) (l : List (Check α)) (x : β) :
    runChecks (l.map (lift f)) x = runChecks l (f x) := by
  induction l with
  | nil => simp [runChecks]
  | cons c cs ih =>
    simp only [List.map, runChecks, lift]
    cases c.run (f x) <;> simp [ih]

theorem lookupKey_mem {base : Option String} {l : List (String × Key)} {kid : String} {k : Key}
    (h : lookupKey base l kid = some k) : ∃ id, (id, k) ∈ l ∧ keyIdMatches base id kid = true := by
  obtain ⟨⟨id, _⟩, hf, rfl⟩ := Option.map_eq_some_iff.mp h
  have hp := List.find?_some hf
  exact ⟨id, List.mem_of_find?_eq_some hf, hp⟩

theorem lookupKey_head (base : Option String) (kid : String) (k : Key) (rest : List (String × Key)) :
    lookupKey base ((kid, k) :: rest) kid = some k := by
  simp [lookupKey, List.find?, keyIdMatches]

theorem keyIdMatches_none (id kid : String) : keyIdMatches none id kid = true ↔ id = kid := by
  simp [keyIdMatches]

theorem credValidAt_iff (cfg : Cfg) (c : Cred) (t : Time) :
    credValidAt cfg c t = true ↔ c.issued ≤ t + cfg.maxSkew ∧ ∀ e, c.expires = some e → t - cfg.maxSkew ≤ e := by
  unfold credValidAt
  cases h : c.expires with
  | none => simp
  | some e => simp

theorem proofValidAt_iff (cfg : Cfg) (p : Proof) (t : Time) :
    proofValidAt cfg p t = true ↔ p.created ≤ t + cfg.maxSkew ∧ ∀ e, p.expires = some e → t ≤ e + cfg.maxSkew := by
  unfold proofValidAt
  cases h : p.expires with
  | none => simp
  | some e => simp

/-- key `k` is listed among the ASSERTION methods of the document that `kid`'s DID resolves to at the validation time, under
    an id that is `kid` itself or — when the document declares an @base — the relative id that @base completes to `kid` -/
def AuthorisedAt (E : Env) (at_ : Option Time) (kid : String) (k : Key) : Prop :=
  ∃ d doc id, E.didOfURL kid = some d ∧ E.resolve at_ d = some doc ∧ (id, k) ∈ doc.assertion ∧
    keyIdMatches doc.base id kid = true

theorem resolveKeyByID_some {E : Env} {at_ : Option Time} {kid : String} {k : Key}
    (h : resolveKeyByID E at_ kid = some k) : AuthorisedAt E at_ kid k := by
  unfold resolveKeyByID at h
  split at h; · cases h
  split at h; · cases h
  rename_i d hd _ doc hr
  obtain ⟨id, hm, hk⟩ := lookupKey_mem h
  exact ⟨d, doc, id, hd, hr, hm, hk⟩

def LdSigned (cfg : Cfg) (P : Crypto) (E : Env) (at_ : Option Time) (issuer : String) (doc : Bytes) (s : LdDoc) : Prop :=
  s.caseVariant = false ∧ ∃ p k, s.proof = .one p ∧ p.vm ≠ "" ∧ beforeHash p.vm = issuer ∧ AuthorisedAt E at_ p.vm k ∧
    resolveKeyByID E at_ p.vm = some k ∧
    P.sigOK k (tbs P p doc) p.jws = true ∧ proofValidAt cfg p (atOf E at_) = true

def JwtSigned (cfg : Cfg) (P : Crypto) (E : Env) (at_ : Option Time) (issuer : String) (raw : String) (j : Option JwtInfo) : Prop :=
  ∃ i k, j = some i ∧ (i.kid = "" ∨ beforeHash i.kid = issuer) ∧ AuthorisedAt E at_ (jwtKeyID i.kid issuer) k ∧
    resolveKeyByID E at_ (jwtKeyID i.kid issuer) = some k ∧
    (cfg.supportedAlgs.contains i.alg = true ∧ algorithmFitsKey i.alg (P.keyKind k) = true) ∧
    P.sigOK k (P.jwtInput raw) i.sig = true ∧ jwtTimeOK i (atOf E at_) = true

theorem ld_accept_iff {cfg : Cfg} {P : Crypto} {E : Env} {at_ : Option Time} {issuer : String} {doc : Bytes} {s : LdDoc} :
    runChecks (ldChecks cfg P E at_ issuer doc) s = .ok () ↔ (issuer ≠ "" ∧ LdSigned cfg P E at_ issuer doc s) := by
  simp only [runChecks_ok_iff, ldChecks, List.mem_cons, List.not_mem_nil, or_false, forall_eq_or_imp, forall_eq,
    ldNoCaseVariant, ldProofDecodes, ldProofPresent, ldVmOfIssuer, ldProofValidAt, ldKeyResolves, ldSignature, LdSigned]
  cases s.proof with
  | absent => simp
  | malformed => simp
  | one p =>
    simp only [guard_pass_iff, ProofShape.one.injEq, exists_and_left, exists_eq_left', true_and]
    cases hk : resolveKeyByID E at_ p.vm with
    | none => simp
    | some k =>
      have ha := resolveKeyByID_some hk
      simp only [guard_pass_iff, Option.isSome_some, Bool.not_eq_true', bne_iff_ne, Bool.and_eq_true, beq_iff_eq, Option.some.injEq, true_and]
      constructor
      · rintro ⟨h0, h2, ⟨h3, rfl⟩, h4, h6⟩; exact ⟨h3, h0, h2, rfl, k, ha, rfl, h6, h4⟩
      · rintro ⟨hi, h0, h2, rfl, _, _, rfl, h6, h4⟩; exact ⟨h0, h2, ⟨hi, rfl⟩, h4, h6⟩

theorem jwt_accept_iff {cfg : Cfg} {P : Crypto} {E : Env} {at_ : Option Time} {issuer raw : String} {j : Option JwtInfo} :
    runChecks (jwtChecks cfg P E at_ issuer raw) j = .ok () ↔ JwtSigned cfg P E at_ issuer raw j := by
  simp only [runChecks_ok_iff, jwtChecks, List.mem_cons, List.not_mem_nil, or_false, forall_eq_or_imp, forall_eq,
    jwtParses, jwtKeyResolves, jwtAlgSupported, jwtAlgFitsKey, jwtSignature, jwtClock, jwtKidOfIssuer, JwtSigned]
  cases j with
  | none => simp [guard_pass_iff]
  | some i =>
    simp only [guard_pass_iff, Option.some.injEq, exists_and_left, exists_eq_left', Option.isSome_some, true_and]
    cases hk : resolveKeyByID E at_ (jwtKeyID i.kid issuer) with
    | none => simp
    | some k =>
      have ha := resolveKeyByID_some hk
      simp only [guard_pass_iff, Option.isSome_some, Bool.or_eq_true, beq_iff_eq, Option.some.injEq, true_and]
      constructor
      · rintro ⟨h3, h7, h4, h5, h6⟩; exact ⟨h6, k, ha, rfl, ⟨h3, h7⟩, h4, h5⟩
      · rintro ⟨h6, _, _, rfl, ⟨h3, h7⟩, h4, h5⟩; exact ⟨h3, h7, h4, h5, h6⟩

theorem statusVerdict_some {E : Env} {c : Cred} {l : List Status} (h : c.statuses = some l) :
    statusVerdict E c = statusVerdictL E l := by
  rw [statusVerdict, h]

theorem statusVerdictL_cons_skip (E : Env) {s : Status} (rest : List Status)
    (h : s.typ ≠ statusListEntryType ∨ s.entryValid = true ∧ s.purpose ≠ "revocation") :
    statusVerdictL E (s :: rest) = statusVerdictL E rest := by
  rw [statusVerdictL]
  rcases h with h | ⟨h1, h2⟩
  · simp [h]
  · simp [h1, h2]

theorem statusVerdictL_cons_revocation (E : Env) {s : Status} (rest : List Status) {sl : StatusList} {n : Nat}
    (ht : s.typ = statusListEntryType) (hv : s.entryValid = true) (hp : s.purpose = "revocation")
    (hl : E.statusList s.listCred = some sl) (hsp : sl.purpose = s.purpose) (hi : s.index = some n) :
    statusVerdictL E (s :: rest) =
      match sl.bit n with
      | none => .softErr
      | some true => .revoked
      | some false => statusVerdictL E rest := by
  rw [statusVerdictL]
  simp only [ht, hv, hp, hl, hsp, hi, bne_self_eq_false, Bool.not_true, Bool.false_eq_true, if_false]
  rfl

theorem statusVerdictL_cons_revoked (E : Env) {s : Status} (rest : List Status)
    (ht : s.typ = statusListEntryType) (hv : s.entryValid = true) (hp : s.purpose = "revocation")
    (h : statusVerdictL E (s :: rest) = .revoked) :
    ∃ sl n, E.statusList s.listCred = some sl ∧ sl.purpose = s.purpose ∧ s.index = some n ∧
      (sl.bit n = some true ∨ sl.bit n = some false ∧ statusVerdictL E rest = .revoked) := by
  rw [statusVerdictL] at h
  simp only [ht, hv, hp, bne_self_eq_false, Bool.not_true, Bool.false_eq_true, if_false] at h
  split at h
  · cases h
  · next sl hl =>
    split at h
    · cases h
    · next hsp =>
      split at h
      · cases h
      · next n hi =>
        refine ⟨sl, n, hl, by simpa [hp] using hsp, hi, ?_⟩
        split at h
        · cases h
        · next hb => exact .inl hb
        · next hb => exact .inr ⟨hb, h⟩

theorem chkMaxTypes_iff (c : Cred) : chkMaxTypes.run c = .pass ↔ c.types.length ≤ 2 := by
  simp [chkMaxTypes, guard_pass_iff]

theorem chkNotRevoked_iff (E : Env) (c : Cred) :
    (chkNotRevoked E).run c = .pass ↔ ∀ id, c.id = some id → (E.storeFails = false ∧ E.revoked id = false) := by
  unfold chkNotRevoked
  cases h : c.id with
  | none => simp [h]
  | some id => simp [h, guard_pass_iff]

theorem chkStatusList_iff (E : Env) (c : Cred) : (chkStatusList E).run c = .pass ↔ statusVerdict E c ≠ .revoked := by
  simp [chkStatusList, guard_pass_iff]

theorem chkTrusted_iff (E : Env) (au : Bool) (c : Cred) :
    (chkTrusted E au).run c = .pass ↔ (au = true ∨ ∀ t ∈ c.types, t ≠ vcType → E.trusted t c.issuer = true) := by
  simp only [chkTrusted, guard_pass_iff, Bool.or_eq_true, List.all_eq_true, beq_iff_eq, Decidable.or_iff_not_imp_left, ne_eq]

theorem chkValidAt_iff (cfg : Cfg) (E : Env) (at_ : Option Time) (c : Cred) :
    (chkValidAt cfg E at_).run c = .pass ↔
      (c.issued ≤ atOf E at_ + cfg.maxSkew ∧ ∀ e, c.expires = some e → atOf E at_ - cfg.maxSkew ≤ e) := by
  simp only [chkValidAt, guard_pass_iff, credValidAt_iff]

theorem issuerChecks_ok_iff (E : Env) (at_ : Option Time) (c : Cred) :
    runChecks (issuerChecks E at_) c = .ok () ↔ ∃ d, E.parseDID c.issuer = some d ∧ (E.resolve at_ d).isSome = true := by
  rw [runChecks_ok_iff]
  simp only [issuerChecks, List.mem_cons, List.not_mem_nil, or_false, forall_eq_or_imp, forall_eq]
  unfold chkIssuerIsDID chkIssuerResolves
  cases h : E.parseDID c.issuer with
  | none => simp [h]
  | some d => simp [h, guard_pass_iff]

def SigValid (cfg : Cfg) (P : Crypto) (E : Env) (at_ : Option Time) (c : Cred) : Prop :=
  match c.format with
  | .ld => c.issuer ≠ "" ∧ LdSigned cfg P E at_ c.issuer (P.canon c.stripProof) { proof := c.proof, caseVariant := c.caseVariant }
  | .jwt => JwtSigned cfg P E at_ c.issuer c.raw c.jwt
  | .other => False

theorem signatureChecks_ok_iff {cfg : Cfg} {P : Crypto} {E : Env} {at_ : Option Time} {c : Cred} :
    runChecks (signatureChecks cfg P E at_ c) c = .ok () ↔ SigValid cfg P E at_ c := by
  unfold signatureChecks SigValid
  cases c.format with
  | ld => simp only [runChecks_map_lift]; exact ld_accept_iff
  | jwt => simp only [runChecks_map_lift]; exact jwt_accept_iff
  | other => simp [runChecks, chkFormat]

def VcAccept (cfg : Cfg) (P : Crypto) (E : Env) (au checkSig : Bool) (at_ : Option Time) (c : Cred) : Prop :=
  validate E c = .pass ∧ c.types.length ≤ 2 ∧ (∀ id, c.id = some id → (E.storeFails = false ∧ E.revoked id = false)) ∧
  statusVerdict E c ≠ .revoked ∧
  (au = true ∨ ∀ t ∈ c.types, t ≠ vcType → E.trusted t c.issuer = true) ∧
  (c.issued ≤ atOf E at_ + cfg.maxSkew ∧ ∀ e, c.expires = some e → atOf E at_ - cfg.maxSkew ≤ e) ∧
  (checkSig = true → (∃ d, E.parseDID c.issuer = some d ∧ (E.resolve at_ d).isSome = true) ∧ SigValid cfg P E at_ c)

theorem preChecks_ok_iff {cfg : Cfg} {E : Env} {au : Bool} {at_ : Option Time} {c : Cred} :
    runChecks (preChecks cfg E au at_) c = .ok () ↔
      (validate E c = .pass ∧ c.types.length ≤ 2 ∧ (∀ id, c.id = some id → (E.storeFails = false ∧ E.revoked id = false)) ∧
       statusVerdict E c ≠ .revoked ∧
       (au = true ∨ ∀ t ∈ c.types, t ≠ vcType → E.trusted t c.issuer = true) ∧
       (c.issued ≤ atOf E at_ + cfg.maxSkew ∧ ∀ e, c.expires = some e → atOf E at_ - cfg.maxSkew ≤ e)) := by
  rw [runChecks_ok_iff]
  simp only [preChecks, List.mem_cons, List.not_mem_nil, or_false, forall_eq_or_imp, forall_eq]
  rw [chkMaxTypes_iff, chkNotRevoked_iff, chkStatusList_iff, chkTrusted_iff, chkValidAt_iff]
  simp only [chkValidator]

theorem verify_ok_iff {cfg : Cfg} {P : Crypto} {E : Env} {au cs : Bool} {at_ : Option Time} {c : Cred} :
    verify cfg P E au cs at_ c = .ok () ↔ VcAccept cfg P E au cs at_ c := by
  unfold verify vcChecks VcAccept
  rw [runChecks_append_ok_iff, preChecks_ok_iff]
  cases cs with
  | false => simp [runChecks]
  | true =>
    simp only [if_true, runChecks_append_ok_iff, issuerChecks_ok_iff, signatureChecks_ok_iff, true_implies, and_assoc]

section
variable {cfg : Cfg} {P : Crypto} {E : Env} {au cs : Bool} {at_ : Option Time} {c : Cred}

theorem verify_sig (h : verify cfg P E au true at_ c = .ok ()) :
    (∃ d, E.parseDID c.issuer = some d ∧ (E.resolve at_ d).isSome = true) ∧ SigValid cfg P E at_ c :=
  (verify_ok_iff.mp h).2.2.2.2.2.2 rfl

section
variable (h : verify cfg P E au cs at_ c = .ok ())
include h

theorem verify_not_revoked : ∀ id, c.id = some id → E.storeFails = false ∧ E.revoked id = false :=
  (verify_ok_iff.mp h).2.2.1

theorem verify_status : statusVerdict E c ≠ .revoked :=
  (verify_ok_iff.mp h).2.2.2.1

theorem verify_trusted : au = true ∨ ∀ t ∈ c.types, t ≠ vcType → E.trusted t c.issuer = true :=
  (verify_ok_iff.mp h).2.2.2.2.1

theorem verify_window : c.issued ≤ atOf E at_ + cfg.maxSkew ∧ ∀ e, c.expires = some e → atOf E at_ - cfg.maxSkew ≤ e :=
  (verify_ok_iff.mp h).2.2.2.2.2.1

end

theorem verify_ne_ok_of_revoked {id : String} (hid : c.id = some id) (h : E.storeFails = true ∨ E.revoked id = true) :
    verify cfg P E au cs at_ c ≠ .ok () := by
  intro hv
  obtain ⟨hf, hr⟩ := verify_not_revoked hv id hid
  rcases h with h | h
  · exact absurd (hf.symm.trans h) nofun
  · exact absurd (hr.symm.trans h) nofun

theorem verify_ne_ok_of_status (hs : statusVerdict E c = .revoked) : verify cfg P E au cs at_ c ≠ .ok () :=
  fun hv => verify_status hv hs

end

theorem verifyVCs_ok_iff (cfg : Cfg) (P : Crypto) (E : Env) (au : Bool) (at_ : Option Time) (vp : Pres) (l : List Cred) :
    verifyVCs cfg P E au at_ vp l = .ok () ↔ ∀ c ∈ l, verify cfg P E au (vcCheckSig vp c) at_ c = .ok () := by
  fun_induction verifyVCs cfg P E au at_ vp l with
  | case1 => simp
  | case2 c cs u h ih => simp [h, ih]
  | case3 c cs e h => simp [h]
  | case4 c cs s h => simp [h]

theorem subjectDID_ne_empty {c : Cred} {d : String} (h : subjectDID c = some d) : d ≠ "" := by
  revert h
  fun_cases subjectDID c <;> intro h <;> cases h
  rename_i hne _ _
  simpa using hne

theorem resolveSubjectDID_eq_some_iff {l : List Cred} {acc d : String} :
    resolveSubjectDID l acc = some d ↔ (∀ c ∈ l, subjectDID c = some d) ∧ (acc = d ∨ acc = "" ∧ l ≠ []) := by
  induction l generalizing acc with
  | nil => simp [resolveSubjectDID]
  | cons c cs ih =>
    rw [resolveSubjectDID]
    cases hs : subjectDID c with
    | none => simp [hs]
    | some x =>
      -- `x ≠ ""`: the rest is run from a non-empty accumulator, so it can only return `x`
      have hx := subjectDID_ne_empty hs
      by_cases hd : x = d
      · subst hd; by_cases ha : acc = "" <;> by_cases hb : acc = x <;> simp [ih, hs, ha, hb, hx]
      · simp [ih, hs, hd, hx]

theorem signer_is_subject {l : List Cred} {s d : String} (hd : resolveSubjectDID l "" = some d) (hsd : s = d ∨ l = []) :
    ∀ c ∈ l, subjectDID c = some s := by
  rcases hsd with rfl | rfl
  · exact (resolveSubjectDID_eq_some_iff.mp hd).1
  · intro c hc; cases hc

theorem resolveSubjectDID_of_all {l : List Cred} {s : String} (hall : ∀ c ∈ l, subjectDID c = some s) :
    resolveSubjectDID l "" = some (if l = [] then "" else s) := by
  cases l with
  | nil => rfl
  | cons c cs => exact resolveSubjectDID_eq_some_iff.mpr ⟨hall, .inr ⟨rfl, List.cons_ne_nil _ _⟩⟩

theorem vcCheckSig_false_iff {vp : Pres} {c : Cred} :
    vcCheckSig vp c = false ↔ vp.holder = some c.issuer ∧ c.nProofs = 0 := by
  unfold vcCheckSig
  cases vp.holder <;> simp

def VpSigValid (cfg : Cfg) (P : Crypto) (E : Env) (at_ : Option Time) (vp : Pres) (signer : String) : Prop :=
  match vp.format with
  | .ld => signer ≠ "" ∧ LdSigned cfg P E at_ signer (P.canonVP vp.stripProof) { proof := vp.proof, caseVariant := vp.caseVariant }
  | .jwt => JwtSigned cfg P E at_ signer vp.raw vp.jwt
  | .other => False

theorem vpSignatureChecks_ok_iff {cfg : Cfg} {P : Crypto} {E : Env} {at_ : Option Time} {vp : Pres} {signer : String} :
    runChecks (vpSignatureChecks cfg P E at_ vp signer) vp = .ok () ↔ VpSigValid cfg P E at_ vp signer := by
  unfold vpSignatureChecks VpSigValid
  cases vp.format with
  | ld => simp only [runChecks_map_lift]; exact ld_accept_iff
  | jwt => simp only [runChecks_map_lift]; exact jwt_accept_iff
  | other => simp [runChecks, chkFormat]

def VpAccept (cfg : Cfg) (P : Crypto) (E : Env) (verifyVCsFlag au : Bool) (at_ : Option Time) (vp : Pres) : Prop :=
  ∃ s d, presentationSigner E vp = some s ∧ resolveSubjectDID vp.vcs "" = some d ∧
    (s = d ∨ vp.vcs = []) ∧ (s = d → vp.holder = none ∨ vp.holder = some s) ∧
    VpSigValid cfg P E at_ vp s ∧
    (verifyVCsFlag = true → ∀ c ∈ vp.vcs, verify cfg P E au (vcCheckSig vp c) at_ c = .ok ())

theorem vpHeadChecks_ok_iff {E : Env} {vp : Pres} :
    runChecks (vpHeadChecks E) vp = .ok () ↔
      ∃ s d, presentationSigner E vp = some s ∧ resolveSubjectDID vp.vcs "" = some d ∧
        (s = d ∨ vp.vcs = []) ∧ (s = d → vp.holder = none ∨ vp.holder = some s) := by
  simp only [runChecks_ok_iff, vpHeadChecks, List.forall_mem_cons, List.not_mem_nil, false_imp_iff, implies_true, and_true,
    vpResolves, vpSignerIsSubject, vpHolderIsSubject]
  cases presentationSigner E vp with
  | none => simp [guard_pass_iff]
  | some s =>
    cases resolveSubjectDID vp.vcs "" with
    | none => simp [guard_pass_iff]
    | some d => simp [guard_pass_iff, Decidable.imp_iff_not_or, or_assoc]

theorem verifyVP_ok_iff {cfg : Cfg} {P : Crypto} {E : Env} {vf au : Bool} {at_ : Option Time} {vp : Pres} :
    verifyVP cfg P E vf au at_ vp = .ok () ↔ VpAccept cfg P E vf au at_ vp := by
  unfold verifyVP VpAccept
  constructor
  · intro h
    cases hh : runChecks (vpHeadChecks E) vp <;> rw [hh] at h <;> try cases h
    obtain ⟨s, d, h1, h2, h3, h4⟩ := vpHeadChecks_ok_iff.mp hh
    rw [h1] at h
    cases hsg : runChecks (vpSignatureChecks cfg P E at_ vp s) vp <;> simp only [Option.getD_some, hsg] at h <;> try cases h
    refine ⟨s, d, h1, h2, h3, h4, vpSignatureChecks_ok_iff.mp hsg, fun hv => ?_⟩
    rw [if_pos hv] at h
    exact (verifyVCs_ok_iff ..).mp h
  · rintro ⟨s, d, h1, h2, h3, h4, h5, h6⟩
    rw [vpHeadChecks_ok_iff.mpr ⟨s, d, h1, h2, h3, h4⟩, h1, Option.getD_some, vpSignatureChecks_ok_iff.mpr h5]
    cases vf
    · rfl
    · exact (verifyVCs_ok_iff ..).mpr (h6 rfl)

theorem verifyVP_sig {cfg : Cfg} {P : Crypto} {E : Env} {vf au : Bool} {at_ : Option Time} {vp : Pres}
    (h : verifyVP cfg P E vf au at_ vp = .ok ()) : ∃ s, presentationSigner E vp = some s ∧ VpSigValid cfg P E at_ vp s :=
  have ⟨s, _, hs, _, _, _, hsig, _⟩ := verifyVP_ok_iff.mp h
  ⟨s, hs, hsig⟩

theorem verifyVP_ne_ok_of_vc {cfg : Cfg} {P : Crypto} {E : Env} {au : Bool} {at_ : Option Time} {vp : Pres} {c : Cred}
    (hc : c ∈ vp.vcs) (h : ∀ cs, verify cfg P E au cs at_ c ≠ .ok ()) : verifyVP cfg P E true au at_ vp ≠ .ok () := by
  intro hv
  obtain ⟨_, _, _, _, _, _, _, hall⟩ := verifyVP_ok_iff.mp hv
  exact h _ (hall rfl c hc)

theorem presentationSigner_eq_empty {E : Env} {vp : Pres} (h : presentationSigner E vp = some "") :
    vp.format = .jwt ∧ ∃ j, vp.jwt = some j ∧ E.didOfURL j.kid = some "" := by
  revert h
  fun_cases presentationSigner E vp with
  | case3 hf j hj _ => exact fun h => ⟨hf, j, hj, h⟩
  | case6 _ _ t _ hne => exact fun h => absurd (beq_iff_eq.mpr (Option.some.inj h)) hne
  | _ => nofun

/-- the members of a credential the canonical form has to determine (the canonicalisation contract), given which
    credentialSubject paths the JSON-LD context defines -/
structure SignedView where
  id : Option String
  types : List String
  issuer : String
  issued : Time
  expires : Option Time
  subjects : Option (List SubjId)
  statuses : Option (List Status)
  claims : List (String × String)
  deriving DecidableEq

def signedView (defined : String → Bool) (c : Cred) : SignedView :=
  { id := c.id, types := c.types, issuer := c.issuer, issued := c.issued, expires := c.expires, subjects := c.subjects,
    statuses := c.statuses, claims := c.claims.filter (fun m => defined m.1) }

/-- everything the node reads from a JWT credential -/
def jwtView (c : Cred) : SignedView × Option (String × String × Option Time × Option Time × Option Time) :=
  (signedView (fun _ => true) c, c.jwt.map (fun j => (j.kid, j.alg, j.nbf, j.exp, j.iat)))

/-- what the signature of a JSON-LD presentation has to determine: the holder and the carried credentials (as a multiset:
    JSON-LD has no order of graphs) — linked-data credentials through their signed view, JWT credentials as their string -/
def signedViewVP (defined : String → Bool) (vp : Pres) : Option String × List (SignedView × String) :=
  (vp.holder, vp.vcs.map (fun c => (signedView defined c, c.raw)))

theorem runChecks_congr_arg {α} (l : List (Check α)) (x x' : α) (h : ∀ c ∈ l, c.run x = c.run x') :
    runChecks l x = runChecks l x' := by
  induction l with
  | nil => rfl
  | cons c cs ih =>
    unfold runChecks
    rw [h c (by simp)]
    cases c.run x' with
    | pass => exact ih (fun c' hc' => h c' (by simp [hc']))
    | fail e => rfl
    | panic s => rfl

theorem verify_congr_claims (cfg : Cfg) (P : Crypto) (E : Env) (au cs : Bool) (at_ : Option Time) (c : Cred)
    (cl : List (String × String))
    (hcanon : P.canon (Cred.stripProof { c with claims := cl }) = P.canon c.stripProof) :
    verify cfg P E au cs at_ { c with claims := cl } = verify cfg P E au cs at_ c := by
  have hsig : signatureChecks cfg P E at_ { c with claims := cl } = signatureChecks cfg P E at_ c := by
    unfold signatureChecks
    simp only [hcanon]
  unfold verify vcChecks
  rw [hsig]
  -- every check is a fixed function of members other than `claims`
  apply runChecks_congr_arg
  intro chk hchk
  rcases List.mem_append.mp hchk with hchk | hchk
  · simp only [preChecks, List.mem_cons, List.not_mem_nil, or_false] at hchk
    rcases hchk with rfl | rfl | rfl | rfl | rfl | rfl <;> rfl
  · cases cs with
    | false => cases hchk
    | true =>
      rcases List.mem_append.mp hchk with hchk | hchk
      · simp only [issuerChecks, List.mem_cons, List.not_mem_nil, or_false] at hchk
        rcases hchk with rfl | rfl <;> rfl
      · unfold signatureChecks at hchk
        split at hchk
        · obtain ⟨a, _, rfl⟩ := List.mem_map.mp hchk; rfl
        · obtain ⟨a, _, rfl⟩ := List.mem_map.mp hchk; rfl
        · cases List.mem_singleton.mp hchk; rfl

theorem findValidator_append_vcType (ts : List String) : findValidator (ts ++ [vcType]) = findValidator ts := by
  unfold findValidator
  simp [List.filter_append]

theorem validate_congr {E E' : Env} (h : E'.didOfURL = E.didOfURL) (c : Cred) : validate E' c = validate E c := by
  unfold validate validateNuts validateNutsCredentialID
  rw [h]

theorem validateDefault_pass_iff {c : Cred} :
    validateDefault c = .pass ↔ c.types.contains vcType = true ∧ c.ctx.contains vcContextV1 = true ∧ c.issuer ≠ "" ∧
      c.id.isSome = true ∧ c.issued ≠ zeroTime ∧ statusSyntaxOK c = true := by
  simp only [validateDefault, guard_pass_iff, Bool.and_eq_true, bne_iff_ne, ne_eq, and_assoc]

theorem validateNuts_pass {E : Env} {ty : String} {c : Cred} (h : validateNuts E ty c = .pass) :
    validateDefault c = .pass ∧ c.shapeOK = true := by
  unfold validateNuts at h
  cases hv : validateNutsCredentialID E c <;> rw [hv] at h
  · simp only at h
    split at h
    · rename_i hc; exact ⟨h, (Bool.and_eq_true _ _ ▸ hc).2⟩
    · cases h
  · cases h
  · cases h

theorem validate_pass {E : Env} {c : Cred} (h : validate E c = .pass) :
    validateDefault c = .pass ∧ (findValidator c.types ≠ .default → c.shapeOK = true) := by
  unfold validate at h
  cases hf : findValidator c.types <;> rw [hf] at h
  · exact ⟨h, fun hne => absurd rfl hne⟩
  · exact ⟨(validateNuts_pass h).1, fun _ => (validateNuts_pass h).2⟩
  · exact ⟨(validateNuts_pass h).1, fun _ => (validateNuts_pass h).2⟩

theorem validate_pass_issuer {E : Env} {c : Cred} (h : validate E c = .pass) : c.issuer ≠ "" :=
  (validateDefault_pass_iff.mp (validate_pass h).1).2.2.1

theorem beforeHash_empty : beforeHash "" = "" := by decide

theorem issued_types_le_two (t : Template)
    (h : ¬(t.types.length == 0 || t.types.length > 2 || (t.types.length == 2 && !t.types.contains vcType)) = true) :
    (if t.types.contains vcType then t.types else t.types ++ [vcType]).length ≤ 2 := by
  simp at h
  obtain ⟨⟨_, h2⟩, hvc⟩ := h
  split
  · exact h2
  · rename_i hc
    have : t.types.length ≠ 2 := fun e => hc (List.contains_iff_mem.mpr (hvc e))
    rw [List.length_append, List.length_singleton]
    omega

theorem issue_ok {P : Crypto} {E : Env} {sign : Key → Bytes → Sig} {allDefined : Cred → Bool} {rawOf : Cred → String}
    {fmt : Format} {t : Template} {uuid : String} {now : Time} {c : Cred}
    (h : issue P E sign allDefined rawOf fmt t uuid now = .ok c) :
    ∃ d kid key, E.parseDID t.issuer = some d ∧ resolveKey E d = some (kid, key) ∧
      ¬(t.types.length == 0 || t.types.length > 2 || (t.types.length == 2 && !t.types.contains vcType)) = true ∧
      validate E c = .pass ∧
      ((fmt = .ld ∧ allDefined c = true ∧
        let u := unsignedCred t .ld d uuid now
        let p : Proof := { typ := "JsonWebSignature2020", vm := kid, purpose := "assertionMethod", created := now }
        c = { u with proof := .one { p with jws := sign key (tbs P p (P.canon u)) }, nProofs := 1 }) ∨
       (fmt = .jwt ∧
        let u := unsignedCred t .jwt d uuid now
        c = { u with jwt := some { kid := kid, alg := "ES256", nbf := some now, exp := t.expires, sig := sign key (P.jwtInput (rawOf u)) },
                     raw := rawOf u })) := by
  revert h
  fun_cases issue P E sign allDefined rawOf fmt t uuid now with
  | case7 d hd kid key hk hty p u c' hdef hv =>
    intro h; rw [← Res.ok.inj h]; exact ⟨d, kid, key, hd, hk, hty, hv, .inl ⟨rfl, by simpa using hdef, rfl⟩⟩
  | case11 d hd kid key hk hty _ u _ r c' hv =>
    intro h; rw [← Res.ok.inj h]; exact ⟨d, kid, key, hd, hk, hty, hv, .inr ⟨rfl, rfl⟩⟩
  | _ => exact fun h => nomatch h

theorem isTrusted_alPut_same (s : TrustStore) (t i : String) (l : List String) :
    isTrusted (alPut s t l) t i = l.contains i := by
  simp [isTrusted, trustList, alGet_alPut_self]

theorem untrust_effective (s : TrustStore) (t i : String) (hi : i ≠ "") :
    isTrusted (removeTrust s t i) t i = false := by
  unfold removeTrust
  cases h : isTrusted s t i with
  | false => simpa using h
  | true => simp [isTrusted_alPut_same, hi]

theorem untrust_other_type (s : TrustStore) (t i t' i' : String) (h : t' ≠ t) :
    isTrusted (removeTrust s t i) t' i' = isTrusted s t' i' := by
  unfold removeTrust
  split
  · rfl
  · simp only [isTrusted, trustList, alGet_alPut_of_ne _ _ h]

/-- the kept entries are those of the old list that differ from `i`; the padding is "" -/
theorem untrust_other_issuer (s : TrustStore) (t i i' : String) (h : i' ≠ i) (hi' : i' ≠ "") :
    isTrusted (removeTrust s t i) t i' = isTrusted s t i' := by
  unfold removeTrust
  cases isTrusted s t i with
  | false => rfl
  | true =>
    rw [if_neg (by simp), isTrusted_alPut_same]
    simp [isTrusted, h, hi']

theorem trust_after_add (s : TrustStore) (t i : String) : isTrusted (addTrust s t i) t i = true := by
  unfold addTrust
  cases h : isTrusted s t i with
  | true => simpa using h
  | false => simp [isTrusted_alPut_same]

end Nuts.C01
