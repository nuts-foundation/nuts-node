/-
  C03 — key names and the paths made of them (NutsModel/C03/Kid.lean): the executable pattern predicate against the language of
  the pattern tree, what bytes a name over given classes has, and `filepath.Clean/Join/Base` on entry names.
-/
import NutsModel.C03.Kid

namespace Nuts.C03

def rangesAvoid (rs : Ranges) (x : Nat) : Bool := rs.all (fun r => decide (x < r.1) || decide (r.2 < x))
def rangesBelow (rs : Ranges) (n : Nat) : Bool := rs.all (fun r => decide (r.2 < n))

theorem inRanges_avoid {rs : Ranges} {x b : Nat} (h : rangesAvoid rs x = true) (hb : inRanges rs b = true) : b ≠ x := by
  unfold rangesAvoid at h; unfold inRanges at hb
  rw [List.all_eq_true] at h; rw [List.any_eq_true] at hb
  obtain ⟨r, hr, hin⟩ := hb
  have := h r hr
  simp only [Bool.and_eq_true, Bool.or_eq_true, decide_eq_true_eq] at hin this
  omega

theorem inRanges_below {rs : Ranges} {n b : Nat} (h : rangesBelow rs n = true) (hb : inRanges rs b = true) : b < n := by
  unfold rangesBelow at h; unfold inRanges at hb
  rw [List.all_eq_true] at h; rw [List.any_eq_true] at hb
  obtain ⟨r, hr, hin⟩ := hb
  have := h r hr
  simp only [Bool.and_eq_true, decide_eq_true_eq] at hin this
  omega

def Tok (cls hex : Ranges) (p : Bytes) : Prop :=
  (∃ b, p = [b] ∧ inRanges cls b = true) ∨ (∃ h1 h2, p = [PCT, h1, h2] ∧ inRanges hex h1 = true ∧ inRanges hex h2 = true)

theorem alt_iff_tok (cls hex : Ranges) (p : Bytes) :
    (Rx.alt [.cls cls, .cat [.lit [37], .rep 2 2 (.cls hex)]]).M p ↔ Tok cls hex p := by
  simp only [Rx.M, Rx.MAlt, Rx.MCat, Tok, or_false]
  constructor
  · rintro (h | ⟨a, b, rfl, rfl, a2, b2, rfl, ⟨parts, h2, h2', rfl, hp⟩, rfl⟩)
    · exact Or.inl h
    · right
      match parts, h2, h2' with
      | [p1, p2], _, _ =>
        obtain ⟨x1, rfl, hx1⟩ := hp p1 (by simp)
        obtain ⟨x2, rfl, hx2⟩ := hp p2 (by simp)
        exact ⟨x1, x2, by simp [PCT], hx1, hx2⟩
      | [], h, _ => simp at h
      | [_], h, _ => simp at h
      | _ :: _ :: _ :: _, _, h => simp at h
  · rintro (h | ⟨h1, h2, rfl, hh1, hh2⟩)
    · exact Or.inl h
    · right
      refine ⟨[37], [h1, h2], by simp [PCT], rfl, [h1, h2], [], by simp, ⟨[[h1], [h2]], by simp, by simp, by simp, ?_⟩, rfl⟩
      intro p hp
      simp at hp
      rcases hp with rfl | rfl
      · exact ⟨h1, rfl, hh1⟩
      · exact ⟨h2, rfl, hh2⟩

theorem kidTokens_of_parts (cls hex : Ranges) (hpct : inRanges cls PCT = false) :
    ∀ parts : List Bytes, (∀ p ∈ parts, Tok cls hex p) → kidTokens cls hex parts.flatten = true := by
  intro parts
  induction parts with
  | nil => intro _; rfl
  | cons p rest ih =>
    intro h
    have hrest := ih (fun q hq => h q (List.mem_cons_of_mem _ hq))
    rcases h p (by simp) with ⟨b, rfl, hb⟩ | ⟨h1, h2, rfl, hh1, hh2⟩
    · simp only [List.flatten_cons, List.singleton_append]
      unfold kidTokens
      simp only [hb, if_true]
      exact hrest
    · simp only [List.flatten_cons, List.cons_append, List.nil_append]
      unfold kidTokens
      simp only [hpct, Bool.false_eq_true, if_false, if_true, hh1, hh2, Bool.true_and]
      exact hrest

theorem parts_of_kidTokens (cls hex : Ranges) :
    ∀ s : Bytes, kidTokens cls hex s = true → ∃ parts : List Bytes, s = parts.flatten ∧ ∀ p ∈ parts, Tok cls hex p := by
  intro s
  fun_induction kidTokens cls hex s with
  | case1 => exact fun _ => ⟨[], rfl, by simp⟩
  | case2 b rest hin ih =>
    intro h
    obtain ⟨parts, rfl, hp⟩ := ih h
    refine ⟨[b] :: parts, by simp, ?_⟩
    intro p hpm
    rcases List.mem_cons.mp hpm with rfl | hpm
    · exact Or.inl ⟨b, rfl, hin⟩
    · exact hp p hpm
  | case3 h1 h2 rest' hin ih =>
    intro h
    simp only [Bool.and_eq_true] at h
    obtain ⟨parts, rfl, hp⟩ := ih h.2
    refine ⟨[PCT, h1, h2] :: parts, by simp, ?_⟩
    intro p hpm
    rcases List.mem_cons.mp hpm with rfl | hpm
    · exact Or.inr ⟨h1, h2, rfl, h.1.1, h.1.2⟩
    · exact hp p hpm
  | case4 | case5 => nofun

theorem kidTokens_mem (cls hex : Ranges) (s : Bytes) (h : kidTokens cls hex s = true) :
    ∀ b ∈ s, inRanges cls b = true ∨ b = PCT ∨ inRanges hex b = true := by
  obtain ⟨parts, rfl, hp⟩ := parts_of_kidTokens cls hex s h
  intro b hb
  obtain ⟨p, hpm, hbp⟩ := List.mem_flatten.mp hb
  rcases hp p hpm with ⟨x, rfl, hx⟩ | ⟨h1, h2, rfl, hh1, hh2⟩
  · rw [List.mem_singleton.mp hbp]; exact .inl hx
  · simp only [List.mem_cons, List.not_mem_nil, or_false] at hbp
    rcases hbp with rfl | rfl | rfl
    · exact .inr (.inl rfl)
    · exact .inr (.inr hh1)
    · exact .inr (.inr hh2)

theorem kidTokens_of_class (cls hex : Ranges) : ∀ s : Bytes, (∀ b ∈ s, inRanges cls b = true) → kidTokens cls hex s = true
  | [], _ => rfl
  | b :: rest, h => by
    unfold kidTokens
    simp only [h b (by simp), if_true]
    exact kidTokens_of_class cls hex rest fun x hx => h x (List.mem_cons_of_mem _ hx)

theorem validateKID_of_class {cls hex : Ranges} {refused : List Bytes} {s : Bytes} (hne : s ≠ []) (hr : s ∉ refused)
    (hs : ∀ b ∈ s, inRanges cls b = true) : validateKID cls hex refused s = true := by
  simp [validateKID, kidMatches, hne, kidTokens_of_class cls hex s hs, hr]

theorem kidMatches_iff_language (cls hex : Ranges) (hpct : inRanges cls PCT = false) (s : Bytes) :
    kidMatches cls hex s = true ↔ (kidShape cls hex).M s := by
  unfold kidMatches kidShape
  simp only [Rx.M, Bool.and_eq_true, Bool.not_eq_true', List.isEmpty_eq_false_iff]
  constructor
  · rintro ⟨hne, ht⟩
    obtain ⟨parts, rfl, hp⟩ := parts_of_kidTokens cls hex s ht
    refine ⟨parts, ?_, rfl, fun p hpm => (alt_iff_tok cls hex p).mpr (hp p hpm)⟩
    intro e; subst e; exact hne rfl
  · rintro ⟨parts, hne, rfl, hp⟩
    have htok : ∀ p ∈ parts, Tok cls hex p := fun p hpm => (alt_iff_tok cls hex p).mp (hp p hpm)
    refine ⟨?_, kidTokens_of_parts cls hex hpct parts htok⟩
    cases parts with
    | nil => exact absurd rfl hne
    | cons p rest =>
      rcases htok p (by simp) with ⟨b, rfl, _⟩ | ⟨h1, h2, rfl, _, _⟩ <;> simp

theorem kidClasses_shape (rx : Rx) (cls hex : Ranges) (h : kidClasses rx = some (cls, hex)) :
    rx = .cat [.bot, kidShape cls hex, .eot] := by
  unfold kidClasses at h
  split at h
  · cases h; rfl
  · cases h

theorem fullMatch_kid (rx : Rx) (cls hex : Ranges) (h : kidClasses rx = some (cls, hex)) (hpct : inRanges cls PCT = false) (s : Bytes) :
    kidMatches cls hex s = true ↔ rx.FullMatch s := by
  rw [kidClasses_shape rx cls hex h]
  simp only [Rx.FullMatch]
  exact kidMatches_iff_language cls hex hpct s

/-- the bytes of `uuid.UUID.String()`: lower-case hex digits and '-' -/
def isUuidByte (b : Nat) : Bool := (48 ≤ b && b ≤ 57) || (97 ≤ b && b ≤ 102) || b = 45

def coversUuid (cls : Ranges) : Bool := (List.range 128).all fun b => !isUuidByte b || inRanges cls b

theorem coversUuid_mem {cls : Ranges} (hc : coversUuid cls = true) {b : Nat} (hb : isUuidByte b = true) :
    inRanges cls b = true := by
  have hlt : b < 128 := by
    unfold isUuidByte at hb
    simp only [Bool.or_eq_true, Bool.and_eq_true, decide_eq_true_eq] at hb
    omega
  unfold coversUuid at hc
  rw [List.all_eq_true] at hc
  simpa [hb] using hc b (List.mem_range.mpr hlt)

theorem splitSlash_eq : ∀ a : Bytes, splitSlash a = a.splitOn SLASH
  | [] => rfl
  | x :: xs => by
    rw [splitSlash, List.splitOn_cons_eq_if_modifyHead, splitSlash_eq xs]
    have := List.splitOn_ne_nil SLASH xs
    cases h : xs.splitOn SLASH <;> simp_all

theorem splitSlash_ne_nil (a : Bytes) : splitSlash a ≠ [] := by
  rw [splitSlash_eq]; exact List.splitOn_ne_nil SLASH a

theorem splitSlash_noslash (n : Bytes) (h : SLASH ∉ n) : splitSlash n = [n] := by
  rw [splitSlash_eq]; exact List.splitOn_eq_singleton h

theorem splitSlash_append (a b : Bytes) : splitSlash (a ++ SLASH :: b) = splitSlash a ++ splitSlash b := by
  simp only [splitSlash_eq]; exact List.splitOn_append_cons_self a b

theorem cleanStep_entry (r : Bool) (st : List Bytes) (n : Bytes) (h : IsEntryName n) : cleanStep r st n = n :: st := by
  obtain ⟨h1, h2, h3, _, _⟩ := h
  unfold cleanStep
  simp [h1, h2, h3]

theorem cleanComps_append_entries (r : Bool) (cs ns : List Bytes) (h : ∀ n ∈ ns, IsEntryName n) :
    cleanComps r (cs ++ ns) = cleanComps r cs ++ ns := by
  unfold cleanComps
  rw [List.foldl_append]
  generalize List.foldl (cleanStep r) [] cs = st
  induction ns generalizing st with
  | nil => simp
  | cons n rest ih =>
    rw [List.foldl_cons, cleanStep_entry r st n (h n (by simp))]
    rw [ih (fun m hm => h m (List.mem_cons_of_mem _ hm))]
    simp

theorem isRooted_append (a b : Bytes) (h : a ≠ []) : isRooted (a ++ b) = isRooted a := by
  cases a with
  | nil => exact absurd rfl h
  | cons x rest => rfl

theorem cleanP_append_entry (a n : Bytes) (ha : a ≠ []) (hn : IsEntryName n) :
    cleanP (a ++ SLASH :: n) = (cleanP a).child n := by
  unfold cleanP CPath.child
  rw [isRooted_append a _ ha, splitSlash_append, splitSlash_noslash n hn.2.2.2.1,
    cleanComps_append_entries _ _ [n] (by intro m hm; simp at hm; exact hm ▸ hn)]

theorem cleanP_noslash (n : Bytes) (hn : IsEntryName n) : cleanP n = { rooted := false, comps := [n] } := by
  unfold cleanP
  have hr : isRooted n = false := by
    cases n with
    | nil => rfl
    | cons x rest =>
      have : x ≠ SLASH := fun e => hn.2.2.2.1 (by simp [e])
      simp [isRooted, this]
  rw [hr, splitSlash_noslash n hn.2.2.2.1]
  have := cleanComps_append_entries false [] [n] (by intro m hm; simp at hm; exact hm ▸ hn)
  simpa [cleanComps] using this

theorem base_noslash (n : Bytes) (h0 : n ≠ []) (hs : SLASH ∉ n) : base n = n := by
  have hall : ∀ x ∈ n.reverse, x ≠ SLASH := fun x hx e => hs (e ▸ List.mem_reverse.mp hx)
  have h1 : dropTrailingSlashes n = n := by
    unfold dropTrailingSlashes
    cases hr : n.reverse with
    | nil => simp at hr; exact absurd hr h0
    | cons x rest =>
      have hx : x ≠ SLASH := hall x (by rw [hr]; simp)
      rw [List.dropWhile_cons_of_neg (by simpa using hx), ← hr, List.reverse_reverse]
  have h2 : lastComp n = n := by
    have := List.takeWhile_append_of_pos (l₂ := []) fun x hx => decide_eq_true (hall x hx)
    rw [List.takeWhile_nil, List.append_nil] at this
    rw [lastComp, this, List.reverse_reverse]
  unfold base
  simp only [h0, if_false, h1, h2]

/-- `<kid>_<type>` is one directory entry as soon as neither part has a separator or NUL: the `_` tells it from `.`/`..` -/
theorem fsEntryFileName_entry {kid et : Bytes} (hks : SLASH ∉ kid) (hk0 : 0 ∉ kid) (hes : SLASH ∉ et) (he0 : 0 ∉ et) :
    IsEntryName (fsEntryFileName kid et) := by
  unfold fsEntryFileName
  have hu : USCORE ∈ kid ++ USCORE :: et := by simp
  refine ⟨by simp, ?_, ?_, ?_, ?_⟩
  · intro h; rw [h] at hu; revert hu; decide
  · intro h; rw [h] at hu; revert hu; decide
  · intro h
    rcases List.mem_append.mp h with h | h
    · exact hks h
    · rcases List.mem_cons.mp h with h | h
      · revert h; decide
      · exact hes h
  · intro h
    rcases List.mem_append.mp h with h | h
    · exact hk0 h
    · rcases List.mem_cons.mp h with h | h
      · revert h; decide
      · exact he0 h

theorem vaultKeyPath_entry {pfx pn kid : Bytes} (hpfx : pfx ≠ []) (hp : IsEntryName pn) (hk : IsEntryName kid) :
    vaultKeyPath pfx pn kid = (((cleanP pfx).child pn).child kid).render := by
  unfold vaultKeyPath clean
  rw [base_noslash kid hk.1 hk.2.2.2.1]
  have e : pfx ++ SLASH :: (pn ++ SLASH :: kid) = (pfx ++ SLASH :: pn) ++ SLASH :: kid := by simp [List.append_assoc]
  rw [e, cleanP_append_entry _ kid (by simp) hk, cleanP_append_entry pfx _ hpfx hp]

end Nuts.C03
