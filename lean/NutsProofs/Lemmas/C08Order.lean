/-
  C08 — the clock-ordered listing: over the clock shelf (the table of the stored transactions per clock,
  `GInv.clocks_eq`) the range scan returns the window's entries, and `FindBetweenLC(a, b)` is the stored transactions
  with clock in `[a, b)` sorted by (clock, ref bytes).  Core Lean only.
-/
import NutsProofs.Lemmas.C08Graph
import NutsProofs.Lemmas.Sort

namespace Nuts.C08

variable {n : Nat}

theorem rangeClocks_spec (a b : Nat) : ∀ (l : List (Nat × List Ref)) (s k : Nat) (prev : Option Nat),
    l.map (·.1) = List.range' s k → (prev = none ∨ (prev = some (s - 1) ∧ 1 ≤ s ∧ a ≤ s - 1)) →
    Disk.rangeClocks a b l prev = (l.filter (fun kv => decide (a ≤ kv.1 ∧ kv.1 < b))).map (·.2) := by
  intro l
  induction l with
  | nil => intro s k prev _ _; rfl
  | cons x rest ih =>
    intro s k prev hk hp
    obtain ⟨k0, refs⟩ := x
    cases k with
    | zero => simp at hk
    | succ k' =>
      simp only [List.map_cons, List.range'_succ, List.cons.injEq] at hk
      obtain ⟨hk0, hrest⟩ := hk
      subst hk0
      simp only [Disk.rangeClocks, List.filter_cons]
      by_cases h1 : k0 < a
      · have hprev : prev = none := by
          rcases hp with h | ⟨_, _, h⟩
          · exact h
          · omega
        have : ¬ (a ≤ k0 ∧ k0 < b) := by omega
        simp only [h1, if_true, this, decide_false, Bool.false_eq_true, if_false]
        exact ih (k0 + 1) k' prev hrest (Or.inl hprev)
      · by_cases h2 : k0 ≥ b
        · have : ¬ (a ≤ k0 ∧ k0 < b) := by omega
          simp only [h1, if_false, h2, if_true, this, decide_false, Bool.false_eq_true]
          rw [List.filter_eq_nil_iff.mpr]
          · rfl
          · intro kv hkv
            have : kv.1 ∈ rest.map (·.1) := List.mem_map.mpr ⟨kv, hkv, rfl⟩
            rw [hrest, List.mem_range'_1] at this
            simp; omega
        · have hw : a ≤ k0 ∧ k0 < b := by omega
          have hrec := ih (k0 + 1) k' (some k0) hrest (Or.inr ⟨by simp, by omega, by simp; omega⟩)
          simp only [h1, if_false, h2, hw, and_self, decide_true, if_true, List.map_cons]
          rcases hp with h | ⟨h, h3, _⟩
          · subst h; simp only []; rw [hrec]
          · subst h
            have : ¬ (k0 - 1 + 1 ≠ k0) := by omega
            simp only [this, if_false]; rw [hrec]

theorem getTx_self {d : Disk n} (nd : (d.txs.map (·.ref)).Nodup) : ∀ t ∈ d.txs, d.getTx t.ref = some t :=
  find_of_map_nodup Tx.ref d.txs nd

theorem foldr_getTx (d : Disk n) : ∀ (refs : List Ref), (∀ r ∈ refs, ∃ t, d.getTx r = some t) →
    refs.foldr (fun r acc =>
      match acc with
      | .ok l => (match d.getTx r with
                  | some t => .ok (t :: l)
                  | none => .err "tx-not-found")
      | e => e) (.ok []) = Res.ok (refs.filterMap d.getTx) := by
  intro refs
  induction refs with
  | nil => intro _; rfl
  | cons r rest ih =>
    intro h
    obtain ⟨t, ht⟩ := h r (by simp)
    simp only [List.foldr_cons, ih (fun r' hr' => h r' (by simp [hr'])), ht, List.filterMap_cons]

theorem txLt_asymm (a b : Tx) (h : txLt a b = true) : txLt b a = false := lexLt_asymm h

theorem txLt_trans_le (a b c : Tx) (h1 : txLt b a = false) (h2 : txLt c b = false) : txLt c a = false :=
  lexLt_trans h1 h2

theorem insertSorted_map {α β : Type} (lt : α → α → Bool) (lt' : β → β → Bool) (f : α → β) (x : α) :
    ∀ (l : List α), (∀ y ∈ l, lt' (f x) (f y) = lt x y) →
    insertSorted lt' (f x) (l.map f) = (insertSorted lt x l).map f := by
  intro l
  induction l with
  | nil => intro _; rfl
  | cons y ys ih =>
    intro h
    simp only [List.map_cons, insertSorted, h y (by simp)]
    by_cases hxy : lt x y = true
    · simp [hxy]
    · simp only [hxy, Bool.false_eq_true, if_false, List.map_cons]
      rw [ih (fun z hz => h z (by simp [hz]))]

theorem sortBy_map {α β : Type} (lt : α → α → Bool) (lt' : β → β → Bool) (f : α → β) :
    ∀ (l : List α), (∀ x ∈ l, ∀ y ∈ l, lt' (f x) (f y) = lt x y) → sortBy lt' (l.map f) = (sortBy lt l).map f := by
  intro l
  induction l with
  | nil => intro _; rfl
  | cons x xs ih =>
    intro h
    show insertSorted lt' (f x) (sortBy lt' (xs.map f)) = (insertSorted lt x (sortBy lt xs)).map f
    rw [ih (fun a ha b hb => h a (by simp [ha]) b (by simp [hb]))]
    apply insertSorted_map
    intro y hy
    exact h x (by simp) y (by simp [(sortBy_perm lt xs).subset hy])

def inWin (a b : Nat) : Nat → Bool := fun c => decide (a ≤ c ∧ c < b)

theorem clockKeys_sorted (d : Disk n) : (clockKeys d).Pairwise (· < ·) := by
  unfold clockKeys; split
  · exact List.Pairwise.nil
  · exact List.pairwise_lt_range'

theorem mem_clockKeys {d : Disk n} {t : Tx} (ht : t ∈ d.txs) : t.clock ∈ clockKeys d := by
  have hne : d.txs ≠ [] := fun e => by rw [e] at ht; cases ht
  unfold clockKeys
  rw [if_neg hne, List.mem_range'_1]
  have := le_maxClock ht
  omega

theorem blocks_window (d : Disk n) (a b : Nat) :
    (((clockKeys d).filter (inWin a b)).flatMap (fun c => d.txs.filter (fun t => t.clock == c))).Perm
      (d.txs.filter (fun t => decide (a ≤ t.clock ∧ t.clock < b))) := by
  refine (blocks_perm (·.clock) d.txs _ ((clockKeys_nodup d).filter _)).trans ?_
  apply List.Perm.of_eq
  apply List.filter_congr
  intro t ht
  have := mem_clockKeys ht
  simp only [List.contains_eq_any_beq, List.any_filter]
  by_cases hw : a ≤ t.clock ∧ t.clock < b
  · simp only [hw, and_self, decide_true]
    rw [List.any_eq_true]
    exact ⟨t.clock, this, by simp [inWin, hw]⟩
  · simp only [hw, decide_false]
    rw [List.any_eq_false]
    intro c _
    by_cases hc : c = t.clock
    · subst hc; simp [inWin, hw]
    · simp; intro _ e; exact absurd e.symm hc

/-- the refs `findBetweenLC` looks up: per clock of the window, ascending, the refs of that clock in byte order -/
def listedRefs (d : Disk n) (a b : Nat) : List Ref :=
  (((clockKeys d).filter (inWin a b)).map (fun c => sortBy Disk.refLt ((d.txs.filter (fun t => t.clock == c)).map (·.ref)))).flatten

theorem findBetweenLC_refs {d : Disk n} (g : GInv d) (a b : Nat) :
    d.findBetweenLC a b = .ok ((listedRefs d a b).filterMap d.getTx) := by
  have hrange : Disk.rangeClocks a b d.clocks none =
      (((clockKeys d).filter (inWin a b)).map (clockEntry d.txs)).map (·.2) := by
    have hk : d.clocks.map (·.1) = List.range' 0 (clockKeys d).length := by
      rw [g.keys]; unfold clockKeys
      split <;> simp
    rw [rangeClocks_spec a b d.clocks 0 (clockKeys d).length none hk (Or.inl rfl), g.clocks_eq]
    rw [List.filter_map]
    rfl
  have hrefs : ((Disk.rangeClocks a b d.clocks none).map (sortBy Disk.refLt)).flatten = listedRefs d a b := by
    rw [hrange]; unfold listedRefs
    simp only [List.map_map]
    rfl
  have hfound : ∀ r ∈ listedRefs d a b, ∃ t, d.getTx r = some t := by
    intro r hr
    unfold listedRefs at hr
    simp only [List.mem_flatten, List.mem_map] at hr
    obtain ⟨blk, ⟨c, _, rfl⟩, hrb⟩ := hr
    have := (sortBy_perm Disk.refLt _).subset hrb
    simp only [List.mem_map, List.mem_filter] at this
    obtain ⟨t, ⟨ht, _⟩, rfl⟩ := this
    exact ⟨t, getTx_self g.nodup t ht⟩
  unfold Disk.findBetweenLC
  simp only [hrefs]
  exact foldr_getTx d _ hfound

theorem listedRefs_eq_spec {d : Disk n} (g : GInv d) (a b : Nat) : listedRefs d a b = specListing d.txs a b := by
  let Kw := (clockKeys d).filter (inWin a b)
  let blockTx : Nat → List Tx := fun c => sortBy txLt (d.txs.filter (fun t => t.clock == c))
  have h1 : listedRefs d a b = ((Kw.map blockTx).flatten).map (·.ref) := by
    unfold listedRefs
    rw [List.map_flatten, List.map_map]
    congr 1
    apply List.map_congr_left
    intro c _
    simp only [Function.comp, blockTx]
    apply sortBy_map
    intro x hx y hy
    have hx' := (List.mem_filter.mp hx).2
    have hy' := (List.mem_filter.mp hy).2
    simp only [beq_iff_eq] at hx' hy'
    simp [Disk.refLt, txLt, hx', hy']
  have hsorted : ((Kw.map blockTx).flatten).Pairwise (leOf txLt) := by
    rw [List.pairwise_flatten]
    refine ⟨?_, ?_⟩
    · intro l hl
      simp only [List.mem_map] at hl
      obtain ⟨c, _, rfl⟩ := hl
      exact sortBy_pairwise txLt txLt_asymm txLt_trans_le _
    · rw [List.pairwise_map]
      have hK : Kw.Pairwise (· < ·) := (clockKeys_sorted d).filter _
      refine hK.imp ?_
      intro c1 c2 hlt x hx y hy
      have hx' := (List.mem_filter.mp ((sortBy_perm txLt _).subset hx)).2
      have hy' := (List.mem_filter.mp ((sortBy_perm txLt _).subset hy)).2
      simp only [beq_iff_eq] at hx' hy'
      show txLt y x = false
      simp only [txLt, Bool.or_eq_false_iff, Bool.and_eq_false_iff, decide_eq_false_iff_not, beq_eq_false_iff_ne]
      omega
  have hperm : ((Kw.map blockTx).flatten).Perm (d.txs.filter (fun t => decide (a ≤ t.clock ∧ t.clock < b))) := by
    have e : (Kw.map blockTx) = (Kw.map (fun c => d.txs.filter (fun t => t.clock == c))).map (sortBy txLt) := by
      rw [List.map_map]; rfl
    rw [e]
    refine (flatten_map_perm _ (sortBy_perm txLt) _).trans ?_
    exact blocks_window d a b
  -- a sorted permutation is unique
  have heq : (Kw.map blockTx).flatten = sortBy txLt (d.txs.filter (fun t => decide (a ≤ t.clock ∧ t.clock < b))) := by
    apply List.Perm.eq_of_pairwise (le := leOf txLt) _ hsorted (sortBy_pairwise txLt txLt_asymm txLt_trans_le _)
      (hperm.trans (sortBy_perm txLt _).symm)
    intro x y hx hy hxy hyx
    have hxS : x ∈ d.txs := (List.mem_filter.mp (hperm.subset hx)).1
    have hyS : y ∈ d.txs := (List.mem_filter.mp ((sortBy_perm txLt _).subset hy)).1
    apply pairwise_ne_inj (List.pairwise_map.mp g.nodup) hxS hyS
    have h1 : txLt y x = false := hxy
    have h2 : txLt x y = false := hyx
    simp only [txLt, Bool.or_eq_false_iff, Bool.and_eq_false_iff, decide_eq_false_iff_not, beq_eq_false_iff_ne] at h1 h2
    apply BitVec.eq_of_toNat_eq
    omega
  rw [h1, heq]
  rfl

theorem filterMap_getTx_refs {d : Disk n} (nd : (d.txs.map (·.ref)).Nodup) (l : List Tx) (h : ∀ t ∈ l, t ∈ d.txs) :
    (l.map (·.ref)).filterMap d.getTx = l :=
  List.filterMap_map ▸ filterMap_eq_self _ l fun t ht => getTx_self nd t (h t ht)

theorem findBetweenLC_eq {d : Disk n} (g : GInv d) (a b : Nat) :
    d.findBetweenLC a b = .ok (sortBy txLt (d.txs.filter (fun t => decide (a ≤ t.clock ∧ t.clock < b)))) := by
  rw [findBetweenLC_refs g a b, listedRefs_eq_spec g, specListing, filterMap_getTx_refs g.nodup]
  intro t ht
  exact (List.mem_filter.mp ((sortBy_perm txLt _).subset ht)).1

theorem listing_eq_spec {s : State n} (g : GInv s.disk) (a b : Nat) : listing s a b = .ok (specListing s.disk.txs a b) := by
  unfold listing; rw [findBetweenLC_eq g]; rfl

end Nuts.C08
