/-
  Lemmas about the shared conventions of `NutsModel.Base`: the `Res` outcome type (inversion of early-return chains, and
  `Res.PanicsIn`, the sites at which a result can be a panic) and the association lists (`alGet` / `alPut` / `alDel`: first
  binding wins, `put` replaces, keys compared with `==`) that most models use for Go maps and key-value shelves. At the end,
  the few facts about plain lists (injectivity on a list, invariants of a fold, what a run's last state owes to one step, a
  running maximum, the unique split at a separator), about two-digit numbers and about appending string literals that
  several properties need.
-/
import NutsModel.Base

namespace Nuts

/-- takes one `if` gate off a handler written as a long chain of gates; `split` re-checks the whole remaining chain
    at every gate, so the case lemmas of such handlers peel the gates one at a time with this -/
theorem ite_eq_cases {α : Sort _} {c : Prop} [Decidable c] {a b out : α} (h : (if c then a else b) = out) :
    (c ∧ a = out) ∨ (¬c ∧ b = out) := by
  by_cases hc : c
  · exact .inl ⟨hc, (if_pos hc).symm.trans h⟩
  · exact .inr ⟨hc, (if_neg hc).symm.trans h⟩

namespace Res

theorem exists_ok_of_isOk {α} {r : Res α} (h : r.isOk = true) : ∃ a, r = .ok a := by
  cases r with
  | ok a => exact ⟨a, rfl⟩
  | err e => cases h
  | panic s => cases h

theorem bind_eq_ok {α β} {r : Res α} {f : α → Res β} {b : β} :
    r.bind f = .ok b ↔ ∃ a, r = .ok a ∧ f a = .ok b := by
  cases r with
  | ok a => exact ⟨fun h => ⟨a, rfl, h⟩, fun ⟨_, ha, h⟩ => (Res.ok.inj ha) ▸ h⟩
  | err e => exact ⟨nofun, fun ⟨_, ha, _⟩ => nomatch ha⟩
  | panic s => exact ⟨nofun, fun ⟨_, ha, _⟩ => nomatch ha⟩

theorem ite_err_eq_ok {α} {c : Prop} [Decidable c] {e : String} {r : Res α} {a : α} :
    (if c then .err e else r) = .ok a ↔ ¬c ∧ r = .ok a := by
  by_cases h : c <;> simp [h]

theorem ne_panic_of_isPanic_false {α} {r : Res α} (h : r.isPanic = false) (s : String) : r ≠ .panic s := by
  intro hs; rw [hs] at h; cases h

variable {α β : Type} {P : String → Prop}

/-- Every site at which `r` can panic satisfies `P`.  Each model function has one lemma `f_panicsIn` that says this of it for a
    variable `P`, given `P` at the function's own sites whose guard is off: with `P := fun _ => False` that is totality under the
    guards, with `P := (· ∈ sites)` that the function panics at listed sites only, whatever the guards. -/
def PanicsIn (r : Res α) (P : String → Prop) : Prop := ∀ s, r = .panic s → P s

namespace PanicsIn

theorem ok {a : α} : PanicsIn (.ok a) P := nofun
theorem err {e : String} : PanicsIn (.err e : Res α) P := nofun
theorem panic {s : String} (h : P s) : PanicsIn (.panic s : Res α) P := fun _ e => Res.panic.inj e ▸ h

/-- The models are chains of `if guard then .err … else …`: this takes them apart one guard at a time, where `split` on the
    whole chain is slow to check. -/
theorem ite {c : Prop} [Decidable c] {a b : Res α} (ha : PanicsIn a P) (hb : PanicsIn b P) :
    PanicsIn (if c then a else b) P := by
  split <;> assumption

/-- … keeping what the guard decided, where a later leaf depends on it -/
theorem byCases {c : Prop} [Decidable c] {a b : Res α} (ha : c → PanicsIn a P) (hb : ¬c → PanicsIn b P) :
    PanicsIn (if c then a else b) P := by
  split
  · exact ha ‹_›
  · exact hb ‹_›

/-- a partial Go operation behind the flag that says whether the source guards it -/
theorem flag {b : Bool} {a : Res α} {s : String} (ha : PanicsIn a P) (h : b = false → P s) :
    PanicsIn (if b then a else .panic s) P := by
  cases b
  · exact .panic (h rfl)
  · exact ha

/-- the arm `| .panic p => .panic p` of a step passes on a panic of the step -/
theorem pass {r : Res α} {p : String} (hr : PanicsIn r P) (hp : r = .panic p) : PanicsIn (.panic p : Res β) P :=
  .panic (hr p hp)

theorem total {r : Res α} (h : PanicsIn r fun _ => False) (s : String) : r ≠ .panic s := h s

end PanicsIn
end Res

section Assoc
variable {κ : Type u} {ν : Type v} [BEq κ]

theorem alGet_nil (k : κ) : alGet ([] : List (κ × ν)) k = none := rfl

theorem alGet_cons (p : κ × ν) (m : List (κ × ν)) (k : κ) :
    alGet (p :: m) k = if p.1 == k then some p.2 else alGet m k := by
  unfold alGet
  rw [List.find?_cons]
  cases p.1 == k <;> rfl

theorem mem_alDel {m : List (κ × ν)} {k : κ} {e : κ × ν} (h : e ∈ alDel m k) : e ∈ m :=
  (List.mem_filter.mp h).1

theorem mem_alPut {m : List (κ × ν)} {k : κ} {v : ν} {e : κ × ν} (h : e ∈ alPut m k v) : e = (k, v) ∨ e ∈ m :=
  (List.mem_cons.mp h).imp_right mem_alDel

theorem map_fst_alDel (m : List (κ × ν)) (k : κ) :
    (alDel m k).map (·.1) = (m.map (·.1)).filter (fun x => !(x == k)) := by
  unfold alDel
  rw [List.filter_map]
  rfl

theorem map_fst_alPut (m : List (κ × ν)) (k : κ) (v : ν) :
    (alPut m k v).map (·.1) = k :: (m.map (·.1)).filter (fun x => !(x == k)) :=
  congrArg (k :: ·) (map_fst_alDel m k)

theorem nodup_keys_alDel {m : List (κ × ν)} (k : κ) (h : (m.map (·.1)).Nodup) : ((alDel m k).map (·.1)).Nodup :=
  h.sublist (List.Sublist.map _ List.filter_sublist)

theorem alDel_alDel_same (m : List (κ × ν)) (k : κ) : alDel (alDel m k) k = alDel m k := by
  simp [alDel, List.filter_filter]

variable [LawfulBEq κ]

theorem nodup_keys_alPut {m : List (κ × ν)} (k : κ) (v : ν) (h : (m.map (·.1)).Nodup) :
    ((alPut m k v).map (·.1)).Nodup := by
  rw [map_fst_alPut]
  refine List.nodup_cons.mpr ⟨fun hk => ?_, h.sublist List.filter_sublist⟩
  simpa using (List.mem_filter.mp hk).2

theorem alGet_alDel (m : List (κ × ν)) (k k' : κ) :
    alGet (alDel m k) k' = if k' == k then none else alGet m k' := by
  induction m with
  | nil => cases k' == k <;> rfl
  | cons p rest ih =>
    unfold alDel at ih ⊢
    rw [List.filter_cons]
    by_cases hp : p.1 = k
    · rw [if_neg (by simp [hp]), ih, alGet_cons, hp]
      by_cases hk : k' = k
      · simp [hk]
      · simp [hk, Ne.symm hk]
    · rw [if_pos (by simp [hp]), alGet_cons, alGet_cons, ih]
      by_cases hk : k' = k
      · simp [hk, hp]
      · simp [hk]

theorem alGet_alPut (m : List (κ × ν)) (k k' : κ) (v : ν) :
    alGet (alPut m k v) k' = if k' == k then some v else alGet m k' := by
  show alGet ((k, v) :: alDel m k) k' = _
  rw [alGet_cons, alGet_alDel]
  by_cases hk : k' = k
  · simp [hk]
  · simp [hk, Ne.symm hk]

theorem alGet_alPut_self (m : List (κ × ν)) (k : κ) (v : ν) : alGet (alPut m k v) k = some v := by
  rw [alGet_alPut, if_pos (beq_self_eq_true k)]

theorem alGet_alPut_of_ne (m : List (κ × ν)) {k k' : κ} (v : ν) (h : k' ≠ k) : alGet (alPut m k v) k' = alGet m k' := by
  rw [alGet_alPut, if_neg (fun hb => h (eq_of_beq hb))]

theorem alGet_alDel_self (m : List (κ × ν)) (k : κ) : alGet (alDel m k) k = none := by
  rw [alGet_alDel, if_pos (beq_self_eq_true k)]

theorem alGet_alDel_of_ne (m : List (κ × ν)) {k k' : κ} (h : k' ≠ k) : alGet (alDel m k) k' = alGet m k' := by
  rw [alGet_alDel, if_neg (fun hb => h (eq_of_beq hb))]

theorem mem_of_alGet_eq_some {m : List (κ × ν)} {k : κ} {v : ν} (h : alGet m k = some v) : (k, v) ∈ m := by
  induction m with
  | nil => cases h
  | cons p rest ih =>
    rw [alGet_cons] at h
    by_cases hp : p.1 == k
    · rw [if_pos hp] at h
      cases h
      rw [← eq_of_beq hp]
      exact List.mem_cons_self
    · rw [if_neg hp] at h
      exact List.mem_cons_of_mem _ (ih h)

theorem alGet_eq_none_iff {m : List (κ × ν)} {k : κ} : alGet m k = none ↔ k ∉ m.map (·.1) := by
  induction m with
  | nil => exact ⟨fun _ => nofun, fun _ => rfl⟩
  | cons p rest ih =>
    rw [alGet_cons, List.map_cons, List.mem_cons, not_or]
    by_cases hp : p.1 = k
    · simp [hp]
    · simp [hp, ih, Ne.symm hp]

theorem alGet_isSome_iff {m : List (κ × ν)} {k : κ} : (alGet m k).isSome = true ↔ k ∈ m.map (·.1) := by
  rw [← Decidable.not_iff_not, ← alGet_eq_none_iff, Bool.not_eq_true, Option.isSome_eq_false_iff, Option.isNone_iff_eq_none]

theorem alGet_of_mem_of_nodup {m : List (κ × ν)} {k : κ} {v : ν} (hn : (m.map (·.1)).Nodup) (h : (k, v) ∈ m) :
    alGet m k = some v := by
  induction m with
  | nil => cases h
  | cons p rest ih =>
    rw [List.map_cons, List.nodup_cons] at hn
    rw [alGet_cons]
    rcases List.mem_cons.mp h with rfl | h'
    · rw [if_pos (beq_self_eq_true _)]
    · rw [if_neg (fun hp => hn.1 (by rw [eq_of_beq hp]; exact List.mem_map.mpr ⟨_, h', rfl⟩))]
      exact ih hn.2 h'

theorem alGet_of_alDel {m : List (κ × ν)} {k k' : κ} {v : ν} (h : alGet (alDel m k) k' = some v) :
    alGet m k' = some v := by
  rw [alGet_alDel] at h
  split at h
  · cases h
  · exact h

theorem alPut_fresh {m : List (κ × ν)} {k : κ} (v : ν) (h : alGet m k = none) : alPut m k v = (k, v) :: m :=
  congrArg ((k, v) :: ·) (List.filter_eq_self.2 fun e he => by
    have hk : e.1 ≠ k := fun hEq => alGet_eq_none_iff.1 h (List.mem_map.2 ⟨e, he, hEq⟩)
    simpa using hk)

theorem alPut_alPut_same (m : List (κ × ν)) (k : κ) (v : ν) : alPut (alPut m k v) k v = alPut m k v := by
  simp [alPut, List.filter_filter]

theorem mem_of_alGet_iff (a b : List (κ × ν)) (ha : (a.map (·.1)).Nodup) (hb : (b.map (·.1)).Nodup)
    (h : ∀ j, alGet a j = alGet b j) : ∀ p, p ∈ a ↔ p ∈ b :=
  fun p => ⟨fun hp => mem_of_alGet_eq_some ((h p.1).symm.trans (alGet_of_mem_of_nodup ha hp)),
    fun hp => mem_of_alGet_eq_some ((h p.1).trans (alGet_of_mem_of_nodup hb hp))⟩

theorem alGet_filter (P : ν → Bool) : ∀ (l : List (κ × ν)) (j : κ), (l.map (·.1)).Nodup →
    alGet (l.filter (fun p => P p.2)) j = (match alGet l j with | some v => if P v = true then some v else none | none => none) := by
  intro l
  induction l with
  | nil => intro j _; rfl
  | cons p ps ih =>
    intro j hn
    rw [List.map_cons, List.nodup_cons] at hn
    have ih := ih j hn.2
    rw [alGet_cons, List.filter_cons]
    by_cases hpj : (p.1 == j) = true
    · -- `p` is the entry for `j`; the tail has none
      have hnone : alGet ps j = none := alGet_eq_none_iff.mpr (eq_of_beq hpj ▸ hn.1)
      rw [hnone] at ih
      by_cases hP : P p.2 = true
      · simp only [hP, hpj, if_true, alGet_cons]
      · simp only [hP, hpj, if_true, Bool.false_eq_true, if_false, ih]
    · by_cases hP : P p.2 = true
      · simp only [hP, hpj, if_true, Bool.false_eq_true, if_false, alGet_cons, ih]
      · simp only [hP, hpj, Bool.false_eq_true, if_false, ih]

theorem filter_key_count (P : ν → Bool) : ∀ (l : List (κ × ν)) (k : κ), (l.map (·.1)).Nodup →
    (l.filter (fun p => P p.2)).length =
      ((alDel l k).filter (fun p => P p.2)).length + (if (alGet l k).map P = some true then 1 else 0) := by
  intro l
  induction l with
  | nil => intro k _; rfl
  | cons q qs ih =>
    intro k hn
    simp only [List.map_cons, List.nodup_cons] at hn
    have ih := ih k hn.2
    by_cases hq : (q.1 == k) = true
    · -- `q` is the entry for `k`; the tail has none
      have hdel : alDel (q :: qs) k = alDel qs k := by simp [alDel, hq]
      rw [alGet_eq_none_iff.mpr (eq_of_beq hq ▸ hn.1)] at ih
      rw [hdel, alGet_cons, if_pos hq, List.filter_cons]
      by_cases hP : P q.2 = true
      · simp only [hP, if_true, List.length_cons, Option.map_some]; simpa using ih
      · simp only [hP, Bool.false_eq_true, if_false, Option.map_some, Option.some.injEq]; simpa using ih
    · have hdel : alDel (q :: qs) k = q :: alDel qs k := by simp [alDel, hq]
      rw [hdel, alGet_cons, if_neg hq, List.filter_cons, List.filter_cons]
      by_cases hP : P q.2 = true
      · simp only [hP, if_true, List.length_cons]; omega
      · simp only [hP, Bool.false_eq_true, if_false]; exact ih

theorem alGet_put_or_del (m : List (κ × ν)) (c : Bool) (k : κ) (v : ν) (j : κ) :
    alGet (if c then alPut m k v else alDel m k) j = if j == k then (if c then some v else none) else alGet m j := by
  cases c
  · exact alGet_alDel _ _ _
  · exact alGet_alPut _ _ _ _

end Assoc

section List

theorem foldl_invariant {σ α} (P : σ → Prop) (f : σ → α → σ) :
    ∀ (l : List α) (s : σ), (∀ a ∈ l, ∀ s, P s → P (f s a)) → P s → P (l.foldl f s)
  | [], _, _, hs => hs
  | a :: l, s, h, hs =>
    foldl_invariant P f l (f s a) (fun b hb => h b (List.mem_cons_of_mem _ hb)) (h a List.mem_cons_self s hs)

/-- A run applies `f` step by step. What holds of the final state held of the first, or some step made it true; `Q` is
    what `hstep` tells of such a step, in the state the run had reached by then. -/
theorem run_first_step {σ α : Type} (f : σ → α → σ) (run : σ → List α → σ)
    (hnil : ∀ s, run s [] = s) (hcons : ∀ s a l, run s (a :: l) = run (f s a) l)
    (P : σ → Prop) {Q : σ → α → Prop} (hstep : ∀ s a, P (f s a) → P s ∨ Q s a) :
    ∀ (l : List α) (s : σ), P (run s l) → P s ∨ ∃ pre a post, l = pre ++ a :: post ∧ Q (run s pre) a := by
  intro l
  induction l with
  | nil => intro s h; exact Or.inl (hnil s ▸ h)
  | cons a l ih =>
    intro s h
    rw [hcons] at h
    rcases ih _ h with h1 | ⟨pre, b, post, hl, hq⟩
    · rcases hstep s a h1 with h2 | hq
      · exact Or.inl h2
      · exact Or.inr ⟨[], a, l, rfl, by rw [hnil]; exact hq⟩
    · exact Or.inr ⟨a :: pre, b, post, by rw [hl]; rfl, by rw [hcons]; exact hq⟩

theorem pairwise_ne_inj {α β : Type _} {f : α → β} {l : List α} (h : l.Pairwise (fun a b => f a ≠ f b)) {a b : α}
    (ha : a ∈ l) (hb : b ∈ l) (hf : f a = f b) : a = b := by
  induction l with
  | nil => cases ha
  | cons y ys ih =>
    have hy := List.pairwise_cons.mp h
    rcases List.mem_cons.mp ha with rfl | ha' <;> rcases List.mem_cons.mp hb with rfl | hb'
    · rfl
    · exact absurd hf (hy.1 b hb')
    · exact absurd hf.symm (hy.1 a ha')
    · exact ih hy.2 ha' hb'

theorem nodup_snoc {α} {l : List α} {a : α} (h : l.Nodup) (ha : a ∉ l) : (l ++ [a]).Nodup :=
  (List.perm_append_singleton a l).nodup_iff.mpr (List.nodup_cons.mpr ⟨ha, h⟩)

theorem sep_uniq {α} (c : α) : ∀ {a a' b b' : List α}, a ++ c :: b = a' ++ c :: b' → c ∉ a → c ∉ a' → a = a' ∧ b = b'
  | [], [], _, _, h, _, _ => ⟨rfl, (List.cons.inj h).2⟩
  | [], y :: ys, _, _, h, _, hb => absurd (List.cons.inj h).1 fun e => hb (by simp [e])
  | x :: xs, [], _, _, h, ha, _ => absurd (List.cons.inj h).1 fun e => ha (by simp [e])
  | x :: xs, y :: ys, _, _, h, ha, hb => by
    simp only [List.cons_append, List.cons.injEq] at h
    simp only [List.mem_cons, not_or] at ha hb
    obtain ⟨e1, e2⟩ := sep_uniq c h.2 ha.2 hb.2
    exact ⟨by rw [h.1, e1], e2⟩

theorem split_last {α} (c : α) (a b x y : List α) (hx : c ∉ x) (hy : c ∉ y) (h : a ++ c :: x = b ++ c :: y) :
    a = b ∧ x = y := by
  have h' : x.reverse ++ c :: a.reverse = y.reverse ++ c :: b.reverse := by simpa using congrArg List.reverse h
  have := sep_uniq c h' (by simpa using hx) (by simpa using hy)
  exact ⟨List.reverse_inj.mp this.2, List.reverse_inj.mp this.1⟩

theorem foldl_max_spec : ∀ (cs : List Int) (h : Int), h ≤ cs.foldl max h ∧ (∀ c ∈ cs, c ≤ cs.foldl max h) ∧
    (cs.foldl max h = h ∨ cs.foldl max h ∈ cs)
  | [], h => ⟨Int.le_refl _, nofun, Or.inl rfl⟩
  | c :: cs, h => by
    obtain ⟨a, b, d⟩ := foldl_max_spec cs (max h c)
    refine ⟨Int.le_trans (Int.le_max_left h c) a, fun x hx => ?_, ?_⟩
    · rcases List.mem_cons.mp hx with rfl | hx
      · exact Int.le_trans (Int.le_max_right h x) a
      · exact b x hx
    · rcases d with d | d
      · rw [List.foldl_cons, d]
        rcases Int.le_total h c with hc | hc
        · exact Or.inr (by rw [Int.max_eq_right hc]; exact List.mem_cons_self)
        · exact Or.inl (Int.max_eq_left hc)
      · exact Or.inr (List.mem_cons_of_mem _ d)

theorem foldl_max_congr {cs ds : List Int} {h h' : Int} (hm : ∀ c, c ∈ cs ↔ c ∈ ds) (hc : ∃ c ∈ cs, h ≤ c ∧ h' ≤ c) :
    cs.foldl max h = ds.foldl max h' := by
  obtain ⟨_, b1, d1⟩ := foldl_max_spec cs h
  obtain ⟨_, b2, d2⟩ := foldl_max_spec ds h'
  obtain ⟨c, hcs, h1, h2⟩ := hc
  apply Int.le_antisymm
  · rcases d1 with d | d
    · rw [d]; exact Int.le_trans h1 (b2 c ((hm c).mp hcs))
    · exact b2 _ ((hm _).mp d)
  · rcases d2 with d | d
    · rw [d]; exact Int.le_trans h2 (b1 c hcs)
    · exact b1 _ ((hm _).mpr d)

theorem foldl_max_key {α} (key : α → Nat) {step : Nat → α → Nat} (hstep : ∀ m x, step m x = max m (key x)) :
    ∀ (l : List α) (m : Nat), m ≤ l.foldl step m ∧ (∀ x ∈ l, key x ≤ l.foldl step m) ∧
      (l.foldl step m = m ∨ ∃ x ∈ l, key x = l.foldl step m)
  | [], m => ⟨Nat.le_refl _, (fun _ h => nomatch h), .inl rfl⟩
  | x :: l, m => by
    obtain ⟨a, b, d⟩ := foldl_max_key key hstep l (step m x)
    rw [List.foldl_cons]
    refine ⟨Nat.le_trans (hstep m x ▸ Nat.le_max_left ..) a, fun y hy => ?_, ?_⟩
    · rcases List.mem_cons.mp hy with rfl | hy
      · exact Nat.le_trans (hstep m y ▸ Nat.le_max_right ..) a
      · exact b y hy
    · rcases d with d | ⟨y, hy, e⟩
      · rw [d, hstep]
        rcases Nat.le_total m (key x) with h | h
        · exact .inr ⟨x, List.mem_cons_self, (Nat.max_eq_right h).symm⟩
        · exact .inl (Nat.max_eq_left h)
      · exact .inr ⟨y, List.mem_cons_of_mem _ hy, e⟩

theorem filterMap_congr' {α β} {f g : α → Option β} : ∀ {l : List α}, (∀ a ∈ l, f a = g a) → l.filterMap f = l.filterMap g
  | [], _ => rfl
  | x :: xs, h => by
    rw [List.filterMap_cons, List.filterMap_cons, h x (List.mem_cons_self ..),
      filterMap_congr' (fun a ha => h a (List.mem_cons_of_mem _ ha))]

theorem filterMap_eq_self {α} (g : α → Option α) (l : List α) (h : ∀ a ∈ l, g a = some a) : l.filterMap g = l :=
  (filterMap_congr' h).trans List.filterMap_some

theorem map_filter_eq_filterMap {α β} (f : α → β) (p : β → Bool) (g : α → Option β) (l : List α)
    (h : ∀ a ∈ l, g a = if p (f a) then some (f a) else none) : (l.map f).filter p = l.filterMap g := by
  rw [← List.filterMap_eq_filter, List.filterMap_map]
  exact (filterMap_congr' h).symm

theorem nodup_eraseDups_aux : ∀ (n : Nat) (l : List Nat), l.length ≤ n → l.eraseDups.Nodup
  | 0, l, h => by
    have : l = [] := List.eq_nil_of_length_eq_zero (by omega)
    subst this; simp
  | n + 1, [], _ => by simp
  | n + 1, a :: as, h => by
    rw [List.eraseDups_cons, List.nodup_cons]
    constructor
    · intro hm
      have := List.mem_eraseDups.1 hm
      simp at this
    · apply nodup_eraseDups_aux n
      have := List.length_filter_le (fun b => !b == a) as
      simp only [List.length_cons] at h
      omega

theorem nodup_eraseDups (l : List Nat) : l.eraseDups.Nodup := nodup_eraseDups_aux l.length l (Nat.le_refl _)

theorem filter_filterMap_other {α} (p : α → Bool) (g : α → Option α) : ∀ l : List α,
    (∀ a ∈ l, p a = true → g a = some a) → (∀ a ∈ l, ∀ a', g a = some a' → p a' = p a) →
    (l.filterMap g).filter p = l.filter p
  | [], _, _ => rfl
  | a :: l, h1, h2 => by
    have ih := filter_filterMap_other p g l (fun b hb => h1 b (List.mem_cons_of_mem _ hb))
      (fun b hb => h2 b (List.mem_cons_of_mem _ hb))
    cases hp : p a with
    | true =>
      rw [List.filterMap_cons, h1 a List.mem_cons_self hp]
      simp only [List.filter_cons, hp, if_true, ih]
    | false =>
      rw [List.filterMap_cons]
      cases hg : g a with
      | none => simp only [List.filter_cons, hp, ih]; rfl
      | some a' =>
        have := h2 a List.mem_cons_self a' hg
        simp only [List.filter_cons, hp, this, ih]; rfl

theorem filter_map_other {α} (p : α → Bool) (f : α → α) (l : List α)
    (h1 : ∀ a ∈ l, p a = true → f a = a) (h2 : ∀ a ∈ l, p (f a) = p a) : (l.map f).filter p = l.filter p :=
  List.filterMap_eq_map' ▸ filter_filterMap_other p (fun a => some (f a)) l (fun a ha hp => congrArg some (h1 a ha hp))
    fun a ha _ e => Option.some.inj e ▸ h2 a ha

theorem find_of_map_nodup {α β} [DecidableEq β] (g : α → β) : ∀ (l : List α), (l.map g).Nodup → ∀ a ∈ l,
    l.find? (fun d => g d = g a) = some a
  | [], _, _, h => by cases h
  | x :: xs, hn, a, ha => by
    rw [List.map_cons, List.nodup_cons] at hn
    rw [List.find?_cons]
    rcases List.mem_cons.mp ha with rfl | ha
    · simp
    · have hne : g x ≠ g a := fun e => hn.1 (e ▸ List.mem_map.mpr ⟨a, ha, rfl⟩)
      simp only [hne, decide_false]
      exact find_of_map_nodup g xs hn.2 a ha

end List

section Nat

theorem digits (x : Nat) {y k : Nat} (h : y < k) : (x * k + y) / k = x ∧ (x * k + y) % k = y :=
  ⟨by rw [Nat.add_comm, Nat.add_mul_div_right _ _ (Nat.zero_lt_of_lt h), Nat.div_eq_of_lt h, Nat.zero_add],
   by rw [Nat.add_comm, Nat.add_mul_mod_self_right, Nat.mod_eq_of_lt h]⟩

theorem digits_lt {x y m k : Nat} (hx : x < m) (hy : y < k) : x * k + y < m * k :=
  calc x * k + y < x * k + k := Nat.add_lt_add_left hy _
    _ = (x + 1) * k := (Nat.succ_mul x k).symm
    _ ≤ m * k := Nat.mul_le_mul_right k hx

end Nat

section String

/-- Appending two string literals.  The kernel reads a literal as `String.ofList` of its characters (and the unifier finds
    `a b c` that way), so the characters are appended as lists and no string function is evaluated: evaluating `++` on
    strings rebuilds both byte arrays one `push` at a time. -/
theorem ofList_append_eq {a b c : List Char} (h : a ++ b = c) : String.ofList c = String.ofList a ++ String.ofList b :=
  h ▸ String.ofList_append

end String

end Nuts
