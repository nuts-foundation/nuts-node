/-
  C08 — `Load` rebuilds a contiguous tree from its persisted leaves (bottom-up pairing): the pairing keeps `Geo` and the
  leaves, and the leaves decide the shape (`Shape.of_leaves`).  Core Lean only.
-/
import NutsProofs.Lemmas.C08Shape

namespace Nuts.C08

variable {R G : Type}

/-- a row of consecutive nodes of height `h`, the first starting at page `a` -/
def Row (ls h : Nat) : Nat → List (Node G) → Prop
  | _, [] => True
  | a, n :: rest => Geo ls h a n ∧ Row ls h (a + 2 ^ h) rest

def allLeaves (ns : List (Node G)) : List (Nat × G) := ns.flatMap Node.leaves

theorem Geo.pair {ls h a : Nat} {x y : Node G} {d : G} (gx : Geo ls h a x) (gy : y = .nil ∨ Geo ls h (a + 2 ^ h) y) :
    Geo ls (h + 1) a (.branch x.limit (x.limit + ls * 2 ^ h) d x y) := by
  simp only [Geo]
  refine ⟨gx.limit, ?_, gx, gy⟩
  rw [gx.limit, Nat.two_pow_succ]; simp [Nat.mul_add]; omega

theorem pairUp_row {o : Ops R G} (L : Lawful o) {ls h : Nat} : ∀ (ns : List (Node G)) (a : Nat),
    Row ls h a ns → (∀ n ∈ ns, Wf o n) →
    Row ls (h + 1) a (pairUp o (ls * 2 ^ h) ns) ∧ (∀ n ∈ pairUp o (ls * 2 ^ h) ns, Wf o n) ∧
    allLeaves (pairUp o (ls * 2 ^ h) ns) = allLeaves ns ∧
    (pairUp o (ls * 2 ^ h) ns).length = (ns.length + 1) / 2 := by
  intro ns
  induction ns using pairUp.induct with
  | case1 => intro a _ _; simp [pairUp, Row, allLeaves]
  | case2 x =>
    intro a r w
    have wx := w x (by simp)
    simp only [pairUp, Row, List.mem_singleton, forall_eq]
    exact ⟨⟨Geo.pair r.1 (.inl rfl), trivial⟩, ⟨by rw [wx.data_eq]; simp [Node.total, L.add_zero], wx, trivial⟩,
      by simp [allLeaves, Node.leaves], by simp⟩
  | case3 x y rest ih =>
    intro a r w
    obtain ⟨gx, gy, rr⟩ := r
    have wx := w x (by simp)
    have wy := w y (by simp)
    obtain ⟨i1, i2, i3, i4⟩ := ih (a + 2 ^ h + 2 ^ h) rr (fun n hn => w n (by simp [hn]))
    simp only [pairUp, Row, List.mem_cons, forall_eq_or_imp]
    refine ⟨⟨Geo.pair gx (.inr gy), by rw [Nat.two_pow_succ, ← Nat.add_assoc]; exact i1⟩,
      ⟨⟨by rw [wx.data_eq, wy.data_eq], wx, wy⟩, i2⟩, ?_, by simp only [List.length_cons, i4]; omega⟩
    simp only [allLeaves, List.flatMap_cons, Node.leaves] at i3 ⊢
    rw [i3, List.append_assoc]

theorem buildF_row {o : Ops R G} (L : Lawful o) {ls : Nat} : ∀ (fuel h half : Nat) (ns : List (Node G)), ns ≠ [] →
    Row ls h 0 ns → (∀ n ∈ ns, Wf o n) → half * 2 = ls * 2 ^ h → ns.length ≤ 2 ^ fuel →
    ∃ h' r, buildF o fuel half ns = [r] ∧ Geo ls h' 0 r ∧ Wf o r ∧ r.leaves = allLeaves ns := by
  have one : ∀ (h : Nat) (ns : List (Node G)), ns ≠ [] → ¬ ns.length > 1 → Row ls h 0 ns → (∀ n ∈ ns, Wf o n) →
      ∃ h' r, ns = [r] ∧ Geo ls h' 0 r ∧ Wf o r ∧ r.leaves = allLeaves ns := by
    intro h ns hne hl r w
    match ns, hne, hl with
    | [x], _, _ => exact ⟨h, x, rfl, r.1, w x (by simp), by simp [allLeaves]⟩
    | _ :: _ :: _, _, hl => simp at hl
  intro fuel
  induction fuel with
  | zero => intro h half ns hne r w _ hlen; exact one h ns hne (by simp at hlen; omega) r w
  | succ f ih =>
    intro h half ns hne r w hh hlen
    by_cases hl : ns.length > 1
    · obtain ⟨p1, p2, p3, p4⟩ := pairUp_row L ns 0 r w
      simp only [buildF, hl, if_true, hh]
      obtain ⟨h', r', e, s, w', lv⟩ := ih (h + 1) (ls * 2 ^ h) (pairUp o (ls * 2 ^ h) ns)
        (fun e => by rw [e] at p4; simp at p4; omega) p1 p2
        (by rw [Nat.pow_succ, Nat.mul_assoc]) (by rw [p4]; rw [Nat.pow_succ] at hlen; omega)
      exact ⟨h', r', e, s, w', by rw [lv, p3]⟩
    · simp only [buildF, hl, if_false]
      exact one h ns hne hl r w

/-- the leaves as `Load` creates them form a row of height 0 -/
theorem leaf_row {o : Ops R G} {ls : Nat} (heven : ls % 2 = 0) : ∀ (m a : Nat) (val : Nat → G),
    Row ls 0 a ((pl ls a m val).map fun kv => Node.leaf kv.1 (kv.1 + ls / 2) kv.2) ∧
    (∀ n ∈ ((pl ls a m val).map fun kv => Node.leaf kv.1 (kv.1 + ls / 2) kv.2), Wf o n) ∧
    allLeaves ((pl ls a m val).map fun kv => Node.leaf kv.1 (kv.1 + ls / 2) kv.2) = pl ls a m val := by
  intro m
  induction m with
  | zero => intro a val; simp [pl_zero, Row, allLeaves]
  | succ m ih =>
    intro a val
    obtain ⟨r, w, lv⟩ := ih (a + 1) val
    rw [pl_cons]
    simp only [List.map_cons, Row, List.mem_cons, forall_eq_or_imp, Nat.pow_zero]
    refine ⟨⟨?_, r⟩, ⟨trivial, w⟩, ?_⟩
    · simp only [Geo, keyOf]; refine ⟨trivial, ?_⟩; rw [Nat.mul_add]; omega
    · simp only [allLeaves, List.flatMap_cons, Node.leaves] at lv ⊢
      rw [lv]; rfl

theorem Holds.load {o : Ops R G} (L : Lawful o) {ls : Nat} (hls : 0 < ls) (heven : ls % 2 = 0) (b : Bool) (t : Tree G)
    (m : Nat) (val : Nat → G) (hm : 1 ≤ m) :
    Holds o ls (Tree.load o b t (pl ls 0 m val)) m val ∧ (Tree.load o b t (pl ls 0 m val)).dirty = [] ∧
    (Tree.load o b t (pl ls 0 m val)).orphaned = [] := by
  obtain ⟨k, rfl⟩ : ∃ k, m = k + 1 := ⟨m - 1, by omega⟩
  obtain ⟨r, w, lv⟩ := leaf_row (o := o) heven (k + 1) 0 val
  have hk0 : keyOf ls 0 = ls / 2 := by simp [keyOf]
  obtain ⟨h', root, e, g, w', lvs⟩ := buildF_row L (k + 1) 0 (ls / 2) _ (by rw [pl_cons]; simp) r w (by simp; omega)
    (by simp only [List.length_map, pl_length]; exact Nat.le_of_lt Nat.lt_two_pow_self)
  have hcons : pl ls 0 (k + 1) val = (ls / 2, val 0) :: pl ls (0 + 1) k val := by rw [pl_cons, hk0]
  have hload : Tree.load o b t (pl ls 0 (k + 1) val) =
      { root := root, leafSize := 2 * (ls / 2), treeSize := root.limit, dirty := [], orphaned := [] } := by
    rw [hcons] at e ⊢
    simp only [Tree.load, List.length_cons, pl_length]
    rw [e]
  rw [hload]
  have h2 : 2 * (ls / 2) = ls := by omega
  rw [lv] at lvs
  refine ⟨⟨hls, h2, ⟨h', Shape.of_leaves hls g lvs, ?_⟩, w', lvs⟩, rfl, rfl⟩
  simp only [g.limit, Nat.zero_add]

end Nuts.C08
