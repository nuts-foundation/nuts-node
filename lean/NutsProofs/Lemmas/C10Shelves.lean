/-
  C10 — the shelf-level model (NutsModel/C10/Shelves.lean: MetaRef numbering, metadata keys DID+version, latest
  pointer, Resolve's walk by `Version - 1`) refines the per-DID chain model for every arrival sequence.
-/
import NutsModel.C10.Shelves
import NutsProofs.Lemmas.C10Did

namespace Nuts.C10

theorem putAll_get : ∀ (l : List (Doc × Meta)) (ms : List (Nat × (Doc × Meta))) (idx : Nat),
    (∀ j p, l[j]? = some p → p.2.version = idx + j) →
    ∀ i, alGet (putAll ms l) i = if idx ≤ i ∧ i < idx + l.length then l[i - idx]? else alGet ms i := by
  intro l
  induction l with
  | nil =>
    intro ms idx _ i
    have : ¬ (idx ≤ i ∧ i < idx + ([] : List (Doc × Meta)).length) := by simp only [List.length_nil]; omega
    rw [if_neg this]
    rfl
  | cons p ps ih =>
    intro ms idx hv i
    have hp : p.2.version = idx := by simpa using hv 0 p (by simp)
    have hv' : ∀ j q, ps[j]? = some q → q.2.version = (idx + 1) + j := by
      intro j q hq
      have := hv (j + 1) q (by simpa using hq)
      omega
    show alGet (putAll (putStep ms p) ps) i = _
    rw [ih (putStep ms p) (idx + 1) hv' i]
    unfold putStep
    rw [hp]
    by_cases h1 : idx + 1 ≤ i ∧ i < idx + 1 + ps.length
    · have h2 : idx ≤ i ∧ i < idx + (p :: ps).length := by simp only [List.length_cons]; omega
      simp only [h1, h2, and_self, if_true]
      have : i - idx = (i - (idx + 1)) + 1 := by omega
      rw [this, List.getElem?_cons_succ]
    · simp only [h1, if_false]
      by_cases h3 : i = idx
      · subst h3
        have h2 : i ≤ i ∧ i < i + (p :: ps).length := by simp only [List.length_cons]; omega
        simp only [h2, and_self, if_true, Nat.sub_self, List.getElem?_cons_zero]
        exact alGet_alPut_self _ _ _
      · have h2 : ¬ (idx ≤ i ∧ i < idx + (p :: ps).length) := by simp only [List.length_cons]; omega
        simp only [h2, if_false]
        exact alGet_alPut_of_ne _ _ h3

def renumberFrom : Nat → List Event → List SEvent
  | _, [] => []
  | k, x :: xs => ⟨x, some k⟩ :: renumberFrom (k + 1) xs

theorem renumberFrom_map : ∀ (l : List Event) (k : Nat), (renumberFrom k l).map (·.ev) = l := by
  intro l
  induction l with
  | nil => intro k; rfl
  | cons x xs ih => intro k; simp [renumberFrom, ih]

theorem renumberFrom_get : ∀ (l : List Event) (k i : Nat),
    (renumberFrom k l)[i]? = (l[i]?).map (fun e => (⟨e, some (k + i)⟩ : SEvent)) := by
  intro l
  induction l with
  | nil => intro k i; simp [renumberFrom]
  | cons x xs ih =>
    intro k i
    cases i with
    | zero => simp [renumberFrom]
    | succ i =>
      simp only [renumberFrom, List.getElem?_cons_succ]
      rw [ih (k + 1) i]
      have : k + 1 + i = k + (i + 1) := by omega
      rw [this]

theorem sRenumber_eq : ∀ (l : List SEvent) (k : Nat), sRenumber k l = renumberFrom k (l.map (·.ev)) := by
  intro l
  induction l with
  | nil => intro k; rfl
  | cons x xs ih => intro k; simp [sRenumber, renumberFrom, ih]

theorem sInsert_spec (n : SEvent) : ∀ (l : List SEvent),
    (sInsert n l).1.map (·.ev) = (insert n.ev (l.map (·.ev))).1 ∧ (sInsert n l).2 = (insert n.ev (l.map (·.ev))).2 ∧
    ∀ i, i < (sInsert n l).2 → (sInsert n l).1[i]? = l[i]? := by
  intro l
  induction l with
  | nil => exact ⟨rfl, rfl, fun i hi => by simp [sInsert] at hi⟩
  | cons x xs ih =>
    have hcond : (x.ev :: xs.map (·.ev)).all (fun y => before n.ev y) = (x :: xs).all (fun y => before n.ev y.ev) := by
      simp [List.all_map, Function.comp_def]
    unfold sInsert
    simp only [List.map_cons]
    unfold insert
    rw [hcond]
    by_cases h : (x :: xs).all (fun y => before n.ev y.ev) = true
    · simp only [h, if_true]
      exact ⟨by simp, by simp, fun i hi => by simp at hi⟩
    · simp only [h]
      obtain ⟨h1, h2, h3⟩ := ih
      refine ⟨by simp [h1], by simp [h2], ?_⟩
      intro i hi
      cases i with
      | zero => rfl
      | succ i =>
        simp only [List.getElem?_cons_succ]
        exact h3 i (by simpa using hi)

theorem contains_renumber (l : List Event) (e : Event) :
    (renumberFrom 0 l).any (fun x => x.ev.ref == e.ref) = contains l e := by
  unfold contains
  have : ∀ (k : Nat), (renumberFrom k l).any (fun x => x.ev.ref == e.ref) = l.any (fun x => x.ref == e.ref) := by
    induction l with
    | nil => intro k; rfl
    | cons x xs ih => intro k; simp [renumberFrom, ih]
  exact this 0

structure SInv (st : Shelves) (a : DidState) : Prop where
  events : st.events = renumberFrom 0 a.events
  metas : ∀ i, i < a.chain.length → alGet st.metas i = a.chain[i]?
  latest : st.latest = if a.chain.length = 0 then none else some (a.chain.length - 1)
  flag : st.conflicted = a.conflicted

theorem sInv_empty : SInv {} {} := ⟨rfl, fun i hi => by simp at hi, rfl, rfl⟩

theorem readBase_eq (st : Shelves) (a : DidState) (hs : SInv st a) (sevs : List SEvent) (idx : Nat)
    (hidx : idx ≤ a.events.length) (hlen : a.chain.length = a.events.length)
    (hpre : ∀ i, i < idx → sevs[i]? = (renumberFrom 0 a.events)[i]?) :
    readBase st sevs idx = .ok (if idx > 0 then (a.chain[idx - 1]?).map (·.2) else none) := by
  unfold readBase
  by_cases hpos : idx > 0
  · have hin : idx - 1 < a.events.length := by omega
    have hin' : idx - 1 < a.chain.length := by omega
    simp only [hpos, if_true, hpre _ (show idx - 1 < idx by omega), renumberFrom_get, List.getElem?_eq_getElem hin,
      Option.map_some, Nat.zero_add, hs.metas _ hin', List.getElem?_eq_getElem hin']
  · simp only [hpos, if_false]

theorem sInv_suffix (st : Shelves) (a : DidState) (hs : SInv st a) (idx : Nat) (hidx : idx ≤ a.chain.length)
    (suffix : List (Doc × Meta)) (last : Doc × Meta) (hlast : suffix.getLast? = some last)
    (hsv : ∀ j p, suffix[j]? = some p → p.2.version = idx + j) (sevs : List SEvent) (c : Bool) :
    SInv { events := sRenumber 0 sevs, metas := putAll st.metas suffix, latest := some last.2.version, conflicted := c }
      { events := sevs.map (·.ev), chain := a.chain.take idx ++ suffix, conflicted := c } := by
  have htl : (a.chain.take idx).length = idx := by rw [List.length_take]; omega
  have hpos : 0 < suffix.length := by
    cases suffix with
    | nil => cases hlast
    | cons _ _ => exact Nat.succ_pos _
  refine ⟨sRenumber_eq sevs 0, ?_, ?_, rfl⟩
  · intro i hi
    simp only [List.length_append, htl] at hi
    show alGet (putAll st.metas suffix) i = (a.chain.take idx ++ suffix)[i]?
    rw [putAll_get suffix st.metas _ hsv i]
    by_cases h1 : idx ≤ i
    · rw [if_pos ⟨h1, by omega⟩, List.getElem?_append_right (by omega), htl]
    · rw [if_neg (fun h => h1 h.1), List.getElem?_append_left (by omega), List.getElem?_take_of_lt (by omega)]
      exact hs.metas i (by omega)
  · show some last.2.version = if (a.chain.take idx ++ suffix).length = 0 then none else some ((a.chain.take idx ++ suffix).length - 1)
    rw [List.getLast?_eq_getElem?] at hlast
    rw [List.length_append, htl, if_neg (by omega), hsv _ _ hlast]
    congr 1
    omega

theorem sAdd_refines (cfg : Cfg) (st : Shelves) (a : DidState) (e : Event) (hinv : Inv cfg a) (hs : SInv st a) :
    match addDid cfg a e with
    | .ok none => sAdd cfg st e = .ok none
    | .ok (some a') => ∃ st', sAdd cfg st e = .ok (some st') ∧ SInv st' a'
    | .err x => sAdd cfg st e = .err x
    | .panic x => sAdd cfg st e = .panic x := by
  have hlen : a.chain.length = a.events.length := applyAll_length hinv.chain
  obtain ⟨hmap, hidx, hpre⟩ := sInsert_spec ⟨e, none⟩ (renumberFrom 0 a.events)
  rw [renumberFrom_map] at hmap hidx
  have hidxle : (insert e a.events).2 ≤ a.events.length := insert_idx_le e a.events
  have hperm : (insert e a.events).1.length = a.events.length + 1 := (insert_perm e a.events).length_eq
  unfold addDid sAdd
  rw [hs.events, contains_renumber]
  by_cases hc : contains a.events e = true
  · simp only [hc, if_true]
  simp only [hc, Bool.false_eq_true, if_false, hidx]
  rw [readBase_eq st a hs _ _ hidxle hlen (hidx ▸ hpre)]
  simp only [← hmap]
  -- from here on only the list and index that `insert` returns matter
  generalize (sInsert ⟨e, none⟩ (renumberFrom 0 a.events)).1 = sevs at hmap ⊢
  generalize (insert e a.events).2 = idx at hidxle ⊢
  rw [← hmap, List.length_map] at hperm
  have hnv : nextVersion (if idx > 0 then (a.chain[idx - 1]?).map (·.2) else none) = idx := by
    by_cases hpos : idx > 0
    · have hin' : idx - 1 < a.chain.length := by omega
      simp only [hpos, if_true, List.getElem?_eq_getElem hin', Option.map_some, nextVersion]
      have := inv_versions cfg a hinv _ _ (List.getElem?_eq_getElem hin')
      omega
    · simp only [hpos, if_false, nextVersion]; omega
  generalize (if idx > 0 then (a.chain[idx - 1]?).map (·.2) else none) = base at hnv ⊢
  -- both sides run the same `applyAll`
  cases happ : applyAll cfg (sevs.map (·.ev)) base ((sevs.map (·.ev)).drop idx) with
  | err x => rfl
  | panic x => rfl
  | ok suffix =>
    simp only
    have hsv : ∀ j p, suffix[j]? = some p → p.2.version = idx + j := by
      intro j p hp
      rw [← hnv]; exact applyAll_versions happ hp
    cases hlast : suffix.getLast? with
    | none =>
      -- impossible: the new event is applied
      have hsl := applyAll_length happ
      rw [List.getLast?_eq_none_iff.mp hlast, List.length_drop, List.length_map, hperm] at hsl
      simp only [List.length_nil] at hsl
      omega
    | some last =>
      have hlast' : (a.chain.take idx ++ suffix).getLast? = some last := by
        rw [List.getLast?_append, hlast]; rfl
      simp only [hlast']
      exact ⟨_, rfl, sInv_suffix st a hs idx (by omega) suffix last hlast hsv sevs _⟩

theorem take_succ_reverse {α} (l : List α) (k : Nat) (hk : k < l.length) :
    (l.take (k + 1)).reverse = l[k] :: (l.take k).reverse := by
  rw [List.take_add_one, List.getElem?_eq_getElem hk]
  simp

theorem sResolveFrom_eq (a : DidState) (metas : List (Nat × (Doc × Meta))) (rm : Option ResolveMeta)
    (hm : ∀ i, i < a.chain.length → alGet metas i = a.chain[i]?)
    (hv : ∀ (j : Nat) (p : Doc × Meta), a.chain[j]? = some p → p.2.version = j) :
    ∀ (k fuel : Nat), k < a.chain.length → k < fuel →
      sResolveFrom metas rm fuel k = resolveChain rm (a.chain.take (k + 1)).reverse := by
  intro k
  induction k using Nat.strongRecOn with
  | _ k ih =>
    intro fuel hk hf
    obtain ⟨fuel, rfl⟩ : ∃ f, fuel = f + 1 := ⟨fuel - 1, by omega⟩
    unfold sResolveFrom
    rw [hm k hk, List.getElem?_eq_getElem hk, take_succ_reverse a.chain k hk]
    cases hp : a.chain[k] with
    | mk d m =>
      have hver : m.version = k := hv k (d, m) (by rw [List.getElem?_eq_getElem hk, hp])
      simp only [resolveChain, hver]
      cases k with
      | zero => rfl
      | succ k => rw [if_neg (Nat.add_one_ne_zero k), Nat.add_sub_cancel, ih k (by omega) fuel (by omega) (by omega)]

theorem sResolve_refines (cfg : Cfg) (st : Shelves) (a : DidState) (hinv : Inv cfg a) (hs : SInv st a)
    (rm : Option ResolveMeta) : sResolve st rm = resolveChain rm a.chain.reverse := by
  unfold sResolve
  rw [hs.latest]
  by_cases h0 : a.chain.length = 0
  · have : a.chain = [] := List.eq_nil_of_length_eq_zero h0
    simp [this, resolveChain]
  · simp only [h0, if_false]
    rw [sResolveFrom_eq a st.metas rm hs.metas (inv_versions cfg a hinv) (a.chain.length - 1) _ (by omega) (by omega)]
    have : a.chain.length - 1 + 1 = a.chain.length := by omega
    rw [this, List.take_length]

theorem sAddAll_nil (cfg : Cfg) (st : Shelves) : sAddAll cfg st [] = .ok st := rfl

theorem sAddAll_cons (cfg : Cfg) (st : Shelves) (e : Event) (es : List Event) :
    sAddAll cfg st (e :: es) = (sAdd cfg st e).bind fun r => sAddAll cfg (r.getD st) es := by
  rw [sAddAll]
  rcases sAdd cfg st e with (_ | _) | _ | _ <;> rfl

theorem sAddAll_refines (cfg : Cfg) : ∀ (l : List Event) (st : Shelves) (a a' : DidState), Inv cfg a → SInv st a →
    addDidAll cfg a l = .ok a' → ∃ st', sAddAll cfg st l = .ok st' ∧ SInv st' a' ∧ Inv cfg a' := by
  intro l
  induction l with
  | nil => intro st a a' hinv hs h; cases h; exact ⟨st, rfl, hs, hinv⟩
  | cons e es ih =>
    intro st a a' hinv hs h
    rw [addDidAll_cons] at h
    obtain ⟨r, hadd, hr⟩ := Res.bind_eq_ok.mp h
    have href := sAdd_refines cfg st a e hinv hs
    rw [hadd] at href
    rw [sAddAll_cons]
    cases r with
    | none =>
      rw [href]
      exact ih st a a' hinv hs hr
    | some a1 =>
      obtain ⟨st1, hst1, hs1⟩ := href
      rw [hst1]
      exact ih st1 a1 a' (addDid_inv cfg a e hinv a1 hadd).1 hs1 hr

end Nuts.C10
