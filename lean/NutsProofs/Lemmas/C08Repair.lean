/-
  C08 — `xorTreeRepair.checkPage`: the step in closed form (`pageFix`, `checkPageWith_eq`); a healthy state is left
  alone; a state whose XOR leaves differ from the recomputed values (`XInv`) gets exactly the checked page restored.
  Core Lean only.
-/
import NutsProofs.Lemmas.C08Inv
import NutsProofs.Lemmas.C08Order

namespace Nuts.C08

variable {n : Nat}

theorem window_iff {ls p c : Nat} (hls : 0 < ls) : (p * ls ≤ c ∧ c < p * ls + ls) ↔ c / ls = p := by
  rw [Nat.div_eq_iff hls]; omega

theorem calcXor_page {ls : Nat} (hls : 0 < ls) {d : Disk n} (g : GInv d) (p : Nat) :
    ∃ txs, d.findBetweenLC (p * ls) (p * ls + ls) = .ok txs ∧
      calcXor ls txs = pageVal xorOps ls (refClocks d.txs) p := by
  refine ⟨_, findBetweenLC_eq g (p * ls) (p * ls + ls), ?_⟩
  generalize hperm : sortBy txLt _ = txs
  replace hperm : txs.Perm _ := hperm ▸ sortBy_perm txLt _
  have hfold : txs.foldl (fun t tx => t.insert xorOps tx.ref tx.clock) (Tree.new xorOps ls) =
      (refClocks txs).foldl (fun t rc => t.insert xorOps rc.1 rc.2) (Tree.new xorOps ls) := by
    unfold refClocks; rw [List.foldl_map]
  have i := insert_fold_new xor_lawful hls (refClocks txs)
  unfold calcXor
  rw [hfold, Tree.root_data xor_lawful _ i.1, i.2.1, i.2.2, List.filter_eq_self.mpr (fun _ _ => rfl)]
  unfold pageVal
  have h1 : (refClocks txs).Perm (refClocks (d.txs.filter (fun t => decide (p * ls ≤ t.clock ∧ t.clock < p * ls + ls)))) :=
    hperm.map _
  rw [specAll_perm xor_lawful h1]
  congr 1
  unfold refClocks
  rw [List.filter_map]
  congr 1
  apply List.filter_congr
  intro t _
  simp only [Function.comp]
  by_cases hw : p * ls ≤ t.clock ∧ t.clock < p * ls + ls
  · have := (window_iff hls).mp hw
    simp [hw, this]
  · have : ¬ t.clock / ls = p := fun e => hw ((window_iff hls).mpr e)
    simp [hw, this]

theorem pageXor_healthy {ls : Nat} {l : List (Ref × Nat)} {t : Tree (BitVec 256)} (i : TInv xorOps t) (e : t.leafSize = ls)
    (d : Digest xorOps ls l t) (p : Nat) : pageXor ls t p = pageVal xorOps ls l p := by
  subst e
  exact (page_by_zeroTo xor_lawful i p).trans (d _)

def xorSpec (cfg : Cfg) (s : State n) : Nat → BitVec 256 := pageVal xorOps cfg.pageSize (refClocks s.disk.txs)

/-- what `checkPage` finds out inside its write transaction: the recomputed value of the page it is at, when the scan
    succeeds and the tree holds something else there -/
def pageFix (cfg : Cfg) (s : State n) : Option (BitVec 256) :=
  match s.disk.findBetweenLC (s.mem.repairPage * cfg.pageSize) (s.mem.repairPage * cfg.pageSize + cfg.pageSize) with
  | .ok txs =>
    if xorOps.empty (xorOps.sub (pageXor cfg.pageSize s.mem.xorTree s.mem.repairPage) (calcXor cfg.pageSize txs)) then none
    else some (calcXor cfg.pageSize txs)
  | _ => none

theorem checkPageWith_eq (cfg : Cfg) (lc : Nat) (s : State n) :
    checkPageWith cfg lc s =
      if s.mem.circuit < 2 then s else
      match pageFix cfg s with
      | none => { s with mem := { s.mem with
          repairPage := if s.mem.repairPage * cfg.pageSize + cfg.pageSize > lc then 0 else s.mem.repairPage + 1 } }
      | some c =>
        { disk := { s.disk with xorLeaves :=
            (persist (s.mem.xorTree.replace xorOps (s.mem.repairPage * cfg.pageSize) c) s.disk.xorLeaves).2 },
          mem := { s.mem with
            xorTree := (persist (s.mem.xorTree.replace xorOps (s.mem.repairPage * cfg.pageSize) c) s.disk.xorLeaves).1,
            repairPage := if s.mem.repairPage * cfg.pageSize + cfg.pageSize > lc then 0 else s.mem.repairPage + 1 } } := by
  unfold checkPageWith pageFix
  by_cases hc : s.mem.circuit < 2
  · simp only [hc, if_true]
  · simp only [hc, if_false]
    cases s.disk.findBetweenLC (s.mem.repairPage * cfg.pageSize) (s.mem.repairPage * cfg.pageSize + cfg.pageSize) with
    | ok txs => simp only []; split <;> rfl
    | err e => rfl
    | panic e => rfl

theorem checkPageWith_txs (c : Cfg) (lc : Nat) (s : State n) : (checkPageWith c lc s).disk.txs = s.disk.txs := by
  rw [checkPageWith_eq]; split
  · rfl
  · split <;> rfl

theorem checkPageWith_clocks (c : Cfg) (lc : Nat) (s : State n) : (checkPageWith c lc s).disk.clocks = s.disk.clocks := by
  rw [checkPageWith_eq]; split
  · rfl
  · split <;> rfl

theorem pageFix_eq {cfg : Cfg} (hls : 0 < cfg.pageSize) {s : State n} (g : GInv s.disk) :
    pageFix cfg s = if pageXor cfg.pageSize s.mem.xorTree s.mem.repairPage = xorSpec cfg s s.mem.repairPage then none
      else some (xorSpec cfg s s.mem.repairPage) := by
  obtain ⟨txs, hf, hcalc⟩ := calcXor_page hls g s.mem.repairPage
  have he : ∀ a b : BitVec 256, xorOps.empty (xorOps.sub a b) = true ↔ a = b := by simp [xorOps]
  unfold pageFix xorSpec
  rw [hf]
  simp only [hcalc, he]

theorem SInv.checkPageWith {cfg : Cfg} (G : Good cfg) {s : State n} (h : SInv cfg s) (lcSeen : Nat) :
    SInv cfg (Nuts.C08.checkPageWith cfg lcSeen s) ∧ (Nuts.C08.checkPageWith cfg lcSeen s).disk = s.disk ∧
    (Nuts.C08.checkPageWith cfg lcSeen s).mem.xorTree = s.mem.xorTree ∧
    (Nuts.C08.checkPageWith cfg lcSeen s).mem.ibltTree = s.mem.ibltTree ∧
    (Nuts.C08.checkPageWith cfg lcSeen s).mem.lcHigh = s.mem.lcHigh := by
  rw [checkPageWith_eq]
  split
  · exact ⟨h, rfl, rfl, rfl, rfl⟩
  · have hx : pageXor cfg.pageSize s.mem.xorTree s.mem.repairPage = xorSpec cfg s s.mem.repairPage :=
      let ⟨i, e, d, _⟩ := h.x.view xor_lawful G.pos (key := (·.ref)); pageXor_healthy i e d _
    rw [pageFix_eq G.pos h.g, if_pos hx]
    exact ⟨⟨h.g, h.lc, h.x, h.i⟩, rfl, rfl, rfl, rfl⟩

theorem SInv.checkPage {cfg : Cfg} (G : Good cfg) {s : State n} (h : SInv cfg s) :
    SInv cfg (checkPage cfg s) ∧ (checkPage cfg s).disk = s.disk ∧
    (checkPage cfg s).mem.xorTree = s.mem.xorTree ∧ (checkPage cfg s).mem.ibltTree = s.mem.ibltTree ∧
    (checkPage cfg s).mem.lcHigh = s.mem.lcHigh := h.checkPageWith G s.mem.lcHigh

/-- a state whose XOR tree and shelf are in sync with each other but hold `val` instead of what the stored set implies
    (a corrupted XOR leaf that was loaded from disk); everything else is as in `SInv` -/
structure XInv (cfg : Cfg) (s : State n) (val : Nat → BitVec 256) : Prop where
  g : GInv s.disk
  lc : s.mem.lcHigh = s.disk.lcHigh
  ne : s.disk.txs ≠ []
  sync : Sync xorOps cfg.pageSize s.mem.xorTree s.disk.xorLeaves (maxClock s.disk.txs / cfg.pageSize + 1) val
  i : TreeOK (ibltOps n) cfg.pageSize (keyClocks s.disk.txs) (maxClock s.disk.txs) s.mem.ibltTree s.disk.ibltLeaves

theorem XInv.healthy {cfg : Cfg} (G : Good cfg) {s : State n} (h : XInv cfg s (xorSpec cfg s)) : SInv cfg s := by
  refine ⟨h.g, h.lc, Or.inr ⟨by simpa [refClocks] using h.ne, h.sync, ?_⟩, h.i⟩
  intro q
  rw [h.sync.holds.leaves]
  unfold xorSpec
  rw [fsum_pl_pageVal xor_lawful G.pos]
  congr 1
  apply List.filter_congr
  intro rc hrc
  simp only [refClocks, List.mem_map] at hrc
  obtain ⟨t, ht, rfl⟩ := hrc
  have : t.clock / cfg.pageSize ≤ maxClock s.disk.txs / cfg.pageSize := Nat.div_le_div_right (le_maxClock ht)
  have : t.clock / cfg.pageSize < maxClock s.disk.txs / cfg.pageSize + 1 := by omega
  simp [this]

theorem SInv.toX {cfg : Cfg} {s : State n} (h : SInv cfg s) (hne : s.disk.txs ≠ []) : XInv cfg s (xorSpec cfg s) := by
  rcases h.x with ⟨e, _⟩ | ⟨_, sy, _⟩
  · exact absurd (by simpa [refClocks] using e) hne
  · exact ⟨h.g, h.lc, hne, sy, h.i⟩

theorem XInv.checkPage {cfg : Cfg} (G : Good cfg) {s : State n} {val : Nat → BitVec 256} (h : XInv cfg s val)
    (hc : ¬ s.mem.circuit < 2) (hp : s.mem.repairPage ≤ maxClock s.disk.txs / cfg.pageSize) :
    XInv cfg (checkPage cfg s) (upd val s.mem.repairPage (xorSpec cfg s s.mem.repairPage)) ∧
    (checkPage cfg s).disk.txs = s.disk.txs ∧ (checkPage cfg s).disk.clocks = s.disk.clocks ∧
    (checkPage cfg s).disk.count = s.disk.count ∧ (checkPage cfg s).disk.lcHigh = s.disk.lcHigh ∧
    (checkPage cfg s).disk.head = s.disk.head ∧ (checkPage cfg s).disk.ibltLeaves = s.disk.ibltLeaves ∧
    (checkPage cfg s).mem.ibltTree = s.mem.ibltTree ∧ (checkPage cfg s).mem.lcHigh = s.mem.lcHigh := by
  have L := xor_lawful
  have hls := G.pos
  have hpm : s.mem.repairPage < maxClock s.disk.txs / cfg.pageSize + 1 := by omega
  have hpx : pageXor cfg.pageSize s.mem.xorTree s.mem.repairPage = val s.mem.repairPage := by
    have := page_by_zeroTo L h.sync.holds.inv s.mem.repairPage
    rwa [h.sync.holds.ls_eq, h.sync.holds.leaves, fsum_pl_page L hls, if_pos hpm] at this
  rw [show Nuts.C08.checkPage cfg s = checkPageWith cfg s.mem.lcHigh s from rfl, checkPageWith_eq, if_neg hc,
    pageFix_eq hls h.g, hpx]
  by_cases he : val s.mem.repairPage = xorSpec cfg s s.mem.repairPage
  · rw [if_pos he]
    have hupd : upd val s.mem.repairPage (xorSpec cfg s s.mem.repairPage) = val := by
      funext q; unfold upd; by_cases e : q = s.mem.repairPage
      · subst e; simp [he]
      · simp [e]
    rw [hupd]
    exact ⟨⟨h.g, h.lc, h.ne, h.sync, h.i⟩, rfl, rfl, rfl, rfl, rfl, rfl, rfl, rfl⟩
  · rw [if_neg he]
    exact ⟨⟨h.g.of_eq rfl rfl rfl rfl rfl, h.lc, h.ne, h.sync.replace L _ _ hpm, h.i⟩, rfl, rfl, rfl, rfl, rfl, rfl, rfl, rfl⟩

theorem SInv.corrupt_restart {cfg : Cfg} (G : Good cfg) {s : State n} (h : SInv cfg s) (hne : s.disk.txs ≠ [])
    (p : Nat) (hp : p ≤ maxClock s.disk.txs / cfg.pageSize) (v : BitVec 256) :
    XInv cfg (Nuts.C08.restart cfg (corruptDisk s (keyOf cfg.pageSize p) v)) (upd (xorSpec cfg s) p v) ∧
    (Nuts.C08.restart cfg (corruptDisk s (keyOf cfg.pageSize p) v)).disk.txs = s.disk.txs := by
  have hx := h.toX hne
  have hshelf : putSorted (keyOf cfg.pageSize p) v s.disk.xorLeaves =
      pl cfg.pageSize 0 (maxClock s.disk.txs / cfg.pageSize + 1) (upd (xorSpec cfg s) p v) := by
    rw [hx.sync.shelf_eq, putSorted_pl G.pos _ _ _ 0 _ (Nat.zero_le _) (by omega)]
    congr 1; omega
  refine ⟨⟨h.g.of_eq rfl rfl rfl rfl rfl, rfl, hne, ?_, ?_⟩, rfl⟩
  · exact Sync.load xor_lawful G.pos G.even _ _ (Nat.le_add_left 1 _) hshelf
  · show TreeOK (ibltOps n) cfg.pageSize _ _ (Tree.load (ibltOps n) cfg.loadEmptyResets (Tree.new (ibltOps n) cfg.pageSize)
        s.disk.ibltLeaves) s.disk.ibltLeaves
    rw [G.resets]
    exact h.i.load (iblt_lawful n) G.even _ rfl

end Nuts.C08
