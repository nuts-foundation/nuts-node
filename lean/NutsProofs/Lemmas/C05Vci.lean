/-
  C05, OpenID4VCI request level (vcr/issuer `HandleAccessTokenRequest`): whatever it answers, a token request leaves the
  code store as GetAndDelete(code) leaves it, so a pre-authorized code is honoured at most once until it is issued again.
-/
import NutsModel.C05.Vci
import NutsProofs.Lemmas.C05Forms

namespace Nuts.C05

theorem vciErrAt_ne_ok (i : Nat) : vciErrAt i ≠ .ok := by
  unfold vciErrAt
  split
  · split <;> simp
  · simp

theorem storeErrAt_ne_ok (l : List String) (i : Nat) : storeErrAt l i ≠ .ok := by
  unfold storeErrAt
  split <;> simp

theorem handlePreAuth_codes (c : Sq) (s : VciSt) (issuer code tok cn : String) :
    (handlePreAuth c s issuer code tok cn).st.codes = (gadSeq c s.codes (preAuthKey code)).2 := by
  fun_cases handlePreAuth c s issuer code tok cn with
  | case1 _ hg | case2 _ _ hg | case3 _ _ hg | case4 _ _ hg | case5 _ _ hg | case6 _ _ hg => rw [hg]

theorem handlePreAuth_flows (c : Sq) (s : VciSt) (issuer code tok cn : String) :
    (handlePreAuth c s issuer code tok cn).st.flows = s.flows := by
  fun_cases handlePreAuth c s issuer code tok cn <;> rfl

theorem handlePreAuth_kills (c : Sq) (s : VciSt) (issuer code tok cn : String) :
    stGet c.incl (handlePreAuth c s issuer code tok cn).st.codes c.now (preAuthKey code) = none := by
  rw [handlePreAuth_codes]; exact gadSeq_dead c s.codes _

theorem handlePreAuth_dead (c : Sq) (s : VciSt) (issuer code tok cn : String)
    (hd : stGet c.incl s.codes c.now (preAuthKey code) = none) :
    handlePreAuth c s issuer code tok cn = { ans := vciErrAt 0, st := s } := by
  simp only [handlePreAuth, gadSeq, hd]

theorem handlePreAuth_not_ok_of_dead (c : Sq) (s : VciSt) (issuer code tok cn : String)
    (hd : stGet c.incl s.codes c.now (preAuthKey code) = none) : (handlePreAuth c s issuer code tok cn).ans ≠ .ok := by
  rw [handlePreAuth_dead c s issuer code tok cn hd]; exact vciErrAt_ne_ok 0

theorem preAuthKey_inj (a b : String) (h : preAuthKey a = preAuthKey b) : a = b := by
  unfold preAuthKey at h; injection h

def isReissue (code : String) : VForm → Bool
  | .ref _ c => c == code
  | _ => false

theorem handleVForm_keeps_dead (c : Sq) (s : VciSt) (f : VForm) (code : String) (hf : isReissue code f = false)
    (hd : stGet c.incl s.codes c.now (preAuthKey code) = none) :
    stGet c.incl (handleVForm c s f).st.codes c.now (preAuthKey code) = none := by
  cases f with
  | flow id issuer => simp only [handleVForm]; fun_cases vStore c s id issuer <;> exact hd
  | ref fl c2 =>
    simp only [handleVForm]
    fun_cases vStoreCode c s fl c2 with
    | case4 =>
      -- the one return that stores: another code, by `hf`
      exact stGet_none_put_ne c.incl s.codes c.now _ _ _ (fun h => by simp [isReissue, preAuthKey_inj _ _ h] at hf) hd
    | _ => exact hd
  | token issuer c2 tok cn =>
    simp only [handleVForm]
    rw [handlePreAuth_codes]
    exact gadSeq_keeps_dead c s.codes _ _ hd

def isTokenFor (code : String) : VForm → Bool
  | .token _ c _ _ => c == code
  | _ => false

/-- the number of token requests naming `code` that were honoured -/
def honoured (code : String) : List (Nat × VForm) → List VRes → Nat
  | (_, f) :: fs, r :: rs => (if isTokenFor code f && r.ans == .ok then 1 else 0) + honoured code fs rs
  | _, _ => 0

def noReissue (code : String) (fs : List (Nat × VForm)) : Prop := ∀ x ∈ fs, isReissue code x.2 = false

instance (code : String) (fs : List (Nat × VForm)) : Decidable (noReissue code fs) := by
  unfold noReissue; infer_instance

theorem runVForms_dead (incl : Bool) (ttl : Kind → Nat) (code : String) (fs : List (Nat × VForm)) :
    ∀ (now : Nat) (s : VciSt), noReissue code fs → stGet incl s.codes now (preAuthKey code) = none →
      honoured code fs (runVForms incl ttl now s fs).1 = 0 ∧
      stGet incl (runVForms incl ttl now s fs).2.1.codes (runVForms incl ttl now s fs).2.2 (preAuthKey code) = none := by
  intro now s
  fun_induction runVForms incl ttl now s fs with
  | case1 => exact fun _ hd => ⟨rfl, hd⟩
  | case2 now s dt f rest r x ih =>
    intro hn hd
    have hd' := stGet_none_later incl s.codes now dt _ hd
    obtain ⟨h0, hend⟩ := ih (fun y hy => hn y (List.mem_cons_of_mem _ hy))
      (handleVForm_keeps_dead ⟨incl, now + dt, ttl⟩ s f code (hn (dt, f) (List.mem_cons_self ..)) hd')
    refine ⟨?_, hend⟩
    simp only [x, honoured, h0, Nat.add_zero, ite_eq_right_iff, Bool.and_eq_true, beq_iff_eq]
    rintro ⟨ht, hok⟩
    cases f with
    | token issuer c2 tok cn =>
      obtain rfl : c2 = code := by simpa [isTokenFor] using ht
      exact absurd hok (handlePreAuth_not_ok_of_dead ⟨incl, now + dt, ttl⟩ s issuer c2 tok cn hd')
    | _ => cases ht

theorem ite_bool_le_one (b : Bool) : (if b = true then 1 else 0) + 0 ≤ 1 := by cases b <;> simp

end Nuts.C05
