/-
  C05 — check, then act: one invariant over schedules (`Proto.Inv`) for both consumer families, kept by every step in which
  every other thread that is past its check sits inside the locked section (`Proto.Inv.step`), given seven laws about one step.
-/
import NutsProofs.Lemmas.C05Step

namespace Nuts.C05

def Cfg.locks (cfg : Cfg) : Kind → Bool
  | .burn _ => cfg.gadLocks
  | .mark m => cfg.markLocks m

theorem inCrit_locks (cfg : Cfg) (t : Thread) (h : t.inCrit cfg = true) : cfg.locks t.key.ns = true := by
  cases t <;> simp only [Thread.inCrit, Bool.and_eq_true] at h <;> exact h.1

/-- A check-then-act protocol on the threads of a world.  `win t = some f`: the request has been served (at time `f`);
    `mid t`: its check has passed and its act is still to come; `Wit st now k f`: what a request served at `f` leaves in the
    store for later checks to see; `Far k g n`: a request served at `g` does not stand in the way of serving one at `n`;
    `Mok t`: what is known of the consumer of a thread past its check (it is not the single-call shape). -/
structure Proto where
  win : Thread → Option Nat
  mid : Thread → Bool
  Wit : Store → Nat → Key → Nat → Prop
  Far : Key → Nat → Nat → Prop
  Mok : Thread → Prop

/- What the invariant needs of the protocol, of time, and of one step of any thread:
   `mid_win`  a thread past its check has not been served;
   `init`     a fresh request is neither served nor past its check;
   `wit_tick`, `far_tick`  witnesses and distances survive the clock;
   `frame`    no step of any thread destroys a witness;
   `newWin`   a request is served only in a step that leaves its witness, inside the locked section if there is one, and
              either its check passes on the store of that very step or it was past its check;
   `newMid`   a check that passes puts every witnessed request far from this instant. -/
structure Proto.Laws (cfg : Cfg) (P : Proto) : Prop where
  mid_win : ∀ t, P.mid t = true → P.win t = none
  init : ∀ r : Req, P.win r.thread = none ∧ P.mid r.thread = false
  wit_tick : ∀ st n dt k f, P.Wit st n k f → P.Wit st (n + dt) k f
  far_tick : ∀ k g n dt, P.Far k g n → P.Far k g (n + dt)
  frame : ∀ st now lock i t k f, P.Wit st now k f → P.Wit (stepThread cfg st now lock i t).2.1 now k f
  newWin : ∀ st now lock i t f, P.win (stepThread cfg st now lock i t).1 = some f → P.win t = some f ∨
    (P.win t = none ∧ P.Wit (stepThread cfg st now lock i t).2.1 now t.key f ∧ (cfg.locks t.key.ns = true → t.inCrit cfg = true) ∧
      ((∀ g, P.Wit st now t.key g → P.Far t.key g now) ∨ P.mid t = true) ∧ ∀ g, P.Far t.key g now → P.Far t.key g f)
  newMid : ∀ st now lock i t, P.mid (stepThread cfg st now lock i t).1 = true →
    P.Mok (stepThread cfg st now lock i t).1 ∧ ∀ g, P.Wit st now t.key g → P.Far t.key g now

structure Proto.Inv (cfg : Cfg) (P : Proto) (w : World) : Prop where
  lockd : ∀ (i : Nat) (t : Thread), w.ths[i]? = some t → t.inCrit cfg = true → w.lock = some i
  wit : ∀ (i : Nat) (t : Thread) (f : Nat), w.ths[i]? = some t → P.win t = some f → P.Wit w.store w.now t.key f
  sep : ∀ (i j : Nat) (ti tj : Thread) (fi fj : Nat), i ≠ j → w.ths[i]? = some ti → w.ths[j]? = some tj → ti.key = tj.key →
    P.win ti = some fi → P.win tj = some fj → P.Far ti.key fi fj ∨ P.Far ti.key fj fi
  mid : ∀ (a : Nat) (ta : Thread), w.ths[a]? = some ta → P.mid ta = true → P.Mok ta ∧
    ∀ (j : Nat) (tj : Thread) (fj : Nat), w.ths[j]? = some tj → tj.key = ta.key → P.win tj = some fj → P.Far ta.key fj w.now

theorem Proto.Inv.step {cfg : Cfg} {P : Proto} (L : P.Laws cfg) (w : World) (i : Nat)
    (hex : ∀ (a : Nat) (ta : Thread), w.ths[a]? = some ta → P.mid ta = true → P.Mok ta → a = i ∨ ta.inCrit cfg = true)
    (inv : Proto.Inv cfg P w) : Proto.Inv cfg P (stepW cfg w i) := by
  have Lk := lockd_stepW cfg w i inv.lockd
  unfold stepW at Lk ⊢
  cases hi : w.ths[i]? with
  | none => exact inv
  | some t =>
    simp only [hi] at Lk ⊢
    have hkey := stepThread_key cfg w.store w.now w.lock i t
    have hfr := L.frame w.store w.now w.lock i t
    have hnw := L.newWin w.store w.now w.lock i t
    have hnm := L.newMid w.store w.now w.lock i t
    generalize stepThread cfg w.store w.now w.lock i t = x at hkey hfr hnw hnm Lk
    have old : ∀ (j : Nat) (tj : Thread), (w.ths.set i x.1)[j]? = some tj → (j = i ∧ tj = x.1) ∨ (j ≠ i ∧ w.ths[j]? = some tj) :=
      fun j tj h => getElem?_set_cases _ _ _ _ _ h
    -- a served request of the new world: served before (same key, same time), or thread i served right now
    have winOld : ∀ (j : Nat) (tj : Thread) (f : Nat), (w.ths.set i x.1)[j]? = some tj → P.win tj = some f →
        (∃ t0, w.ths[j]? = some t0 ∧ t0.key = tj.key ∧ P.win t0 = some f) ∨ (j = i ∧ tj = x.1 ∧ P.win t = none) := by
      intro j tj f h hw
      rcases old j tj h with ⟨rfl, rfl⟩ | ⟨_, he⟩
      · rcases hnw f hw with h1 | ⟨h1, _⟩
        · exact .inl ⟨t, hi, hkey.symm, h1⟩
        · exact .inr ⟨rfl, rfl, h1⟩
      · exact .inl ⟨tj, he, rfl, hw⟩
    -- whoever was served before on the key thread i is served on right now is far from this instant
    have fresh : ∀ (j : Nat) (t0 : Thread) (g f : Nat), w.ths[j]? = some t0 → t0.key = t.key → P.win t0 = some g → P.win t = none → P.win x.1 = some f →
        P.Far t.key g f := by
      intro j t0 g f hj hk hg hn hf
      rcases hnw f hf with h1 | ⟨_, _, _, h4, h5⟩
      · rw [hn] at h1; cases h1
      · refine h5 g ?_
        rcases h4 with h4 | h4
        · exact h4 g (hk ▸ inv.wit j t0 g hj hg)
        · exact (inv.mid i t hi h4).2 j t0 g hj hk hg
    refine ⟨Lk, ?_, ?_, ?_⟩
    · intro j tj f h hw
      rcases winOld j tj f h hw with ⟨t0, h0, hk, hw0⟩ | ⟨rfl, rfl, hn⟩
      · rw [← hk]; exact hfr _ _ (inv.wit j t0 f h0 hw0)
      · rcases hnw f hw with h1 | ⟨_, h2, _⟩
        · rw [hn] at h1; cases h1
        · rw [hkey]; exact h2
    · intro a b ta tb fa fb hab hta htb hk hwa hwb
      rcases winOld a ta fa hta hwa with ⟨ta0, ha0, hka, hwa0⟩ | ⟨rfl, rfl, hna⟩ <;>
      rcases winOld b tb fb htb hwb with ⟨tb0, hb0, hkb, hwb0⟩ | ⟨rfl, rfl, hnb⟩
      · rw [← hka]; exact inv.sep a b ta0 tb0 fa fb hab ha0 hb0 (by rw [hka, hkb, hk]) hwa0 hwb0
      · left
        rw [hk, hkey]
        exact fresh a ta0 fa fb ha0 (by rw [hka, hk, hkey]) hwa0 hnb hwb
      · right
        rw [hkey]
        exact fresh b tb0 fb fa hb0 (by rw [hkb, ← hk, hkey]) hwb0 hna hwa
      · exact absurd rfl hab
    · intro a ta h hm
      rcases old a ta h with ⟨rfl, rfl⟩ | ⟨hne, he⟩
      · -- thread i has just passed its check: what it saw puts every served request far away
        obtain ⟨hok, hchk⟩ := hnm hm
        refine ⟨hok, fun j tj fj hj hkj hwj => ?_⟩
        rcases winOld j tj fj hj hwj with ⟨t0, h0, hk0, hw0⟩ | ⟨_, rfl, _⟩
        · rw [hkey]; exact hchk fj (by rw [← hkey, ← hkj, ← hk0]; exact inv.wit j t0 fj h0 hw0)
        · rw [L.mid_win _ hm] at hwj; cases hwj
      · obtain ⟨hok, hfar⟩ := inv.mid a ta he hm
        refine ⟨hok, fun j tj fj hj hkj hwj => ?_⟩
        rcases winOld j tj fj hj hwj with ⟨t0, h0, hk0, hw0⟩ | ⟨rfl, rfl, hn⟩
        · exact hfar j t0 fj h0 (by rw [hk0, hkj]) hw0
        · -- thread i is served while thread a ≠ i sits past its check under the lock: both would hold it
          rcases hex a ta he hm hok with h1 | h1
          · exact absurd h1 hne
          · rcases hnw fj hwj with h2 | ⟨_, _, h2, _⟩
            · rw [hn] at h2; cases h2
            · have hla := inv.lockd a ta he h1
              have hli := inv.lockd j t hi (h2 (by rw [← hkey, hkj]; exact inCrit_locks cfg ta h1))
              rw [hla] at hli; injection hli with hh
              exact absurd hh hne

theorem Proto.Inv.tick {cfg : Cfg} {P : Proto} (L : P.Laws cfg) (w : World) (dt : Nat) (inv : Proto.Inv cfg P w) :
    Proto.Inv cfg P { w with now := w.now + dt } :=
  ⟨inv.lockd, fun i t f h hw => L.wit_tick _ _ _ _ _ (inv.wit i t f h hw), inv.sep,
    fun a ta h hm => ⟨(inv.mid a ta h hm).1, fun j tj fj hj hk hw => L.far_tick _ _ _ _ ((inv.mid a ta h hm).2 j tj fj hj hk hw)⟩⟩

theorem Proto.Inv.of_init {cfg : Cfg} {P : Proto} (L : P.Laws cfg) (st : Store) (reqs : List Req) : Proto.Inv cfg P (init st reqs) := by
  have h0 : ∀ (i : Nat) (t : Thread), (init st reqs).ths[i]? = some t → t.inCrit cfg = false ∧ P.win t = none ∧ P.mid t = false := by
    intro i t h
    obtain ⟨r, rfl⟩ := init_thread st reqs i t h
    exact ⟨by cases r <;> simp [Req.thread, Thread.inCrit, BurnPc.inCrit, MarkPc.inCrit], L.init r⟩
  refine ⟨fun i t h hc => ?_, fun i t f h hw => ?_, fun i j ti tj fi fj _ h _ _ hw => ?_, fun a ta h hm => ?_⟩
  · rw [(h0 i t h).1] at hc; cases hc
  · rw [(h0 i t h).2.1] at hw; cases hw
  · rw [(h0 i ti h).2.1] at hw; cases hw
  · rw [(h0 a ta h).2.2] at hm; cases hm

end Nuts.C05
