/-
  C10 — what `Resolve` answers. The walk `resolveChain` is read through its own induction principle: an answer is the newest
  version that passes the filters, not-found means that none passes, and there is no other error than deactivated; the filters of
  `matchesMeta` spelled out; and what `Inv` adds (a DID that answers has events; a deactivation among the events makes the latest
  version deactivated, which `Resolve(id, nil)` reports).
-/
import NutsProofs.Lemmas.C10Did

namespace Nuts.C10

theorem resolveChain_sound (rm : Option ResolveMeta) (c : List (Doc × Meta)) (p : Doc × Meta)
    (h : resolveChain rm c = .ok p) :
    ∃ newer older, c = newer ++ p :: older ∧ matchesMeta p.2 rm = true ∧ ∀ q ∈ newer, matchesMeta q.2 rm = false := by
  fun_induction resolveChain rm c with
  | case1 => cases h
  | case2 d m older hd => cases h
  | case3 d m older hd hm => cases h; exact ⟨[], older, rfl, hm, fun _ h => nomatch h⟩
  | case4 d m older hd hm ih =>
    obtain ⟨newer, o, hc, hmatch, hall⟩ := ih h
    exact ⟨(d, m) :: newer, o, by rw [hc]; rfl, hmatch, List.forall_mem_cons.mpr ⟨Bool.eq_false_iff.mpr hm, hall⟩⟩

theorem resolveChain_not_found (rm : Option ResolveMeta) (c : List (Doc × Meta))
    (h : resolveChain rm c = .err "not-found") : ∀ q ∈ c, matchesMeta q.2 rm = false := by
  fun_induction resolveChain rm c with
  | case1 => exact fun _ h => nomatch h
  | case2 d m older hd => simp at h
  | case3 d m older hd hm => cases h
  | case4 d m older hd hm ih => exact List.forall_mem_cons.mpr ⟨Bool.eq_false_iff.mpr hm, ih h⟩

theorem resolveChain_errors (rm : Option ResolveMeta) (c : List (Doc × Meta)) (x : String)
    (h : resolveChain rm c = .err x) : x = "not-found" ∨ x = "deactivated" := by
  fun_induction resolveChain rm c with
  | case1 => exact Or.inl (Res.err.inj h).symm
  | case2 d m older hd => exact Or.inr (Res.err.inj h).symm
  | case3 d m older hd hm => cases h
  | case4 d m older hd hm ih => exact ih h

theorem resolveChain_head_deactivated {rm : Option ResolveMeta} {d : Doc} {m : Meta} {older : List (Doc × Meta)}
    (hm : m.deactivated = true) (hl : latestNonDeactivatedRequested rm = true) :
    resolveChain rm ((d, m) :: older) = .err "deactivated" := by
  rw [resolveChain, hm, hl]; rfl

theorem resolve_ok_mem_chain (s : Store) (id : String) (rm : Option ResolveMeta) (p : Doc × Meta)
    (h : resolve s id rm = .ok p) : p ∈ (s.get id).chain := by
  obtain ⟨newer, older, hc, _, _⟩ := resolveChain_sound rm _ p h
  exact List.mem_reverse.mp (hc ▸ List.mem_append_right _ List.mem_cons_self)

theorem resolve_ok_events_ne (cfg : Cfg) (s : Store) (id : String) (hinv : Inv cfg (s.get id))
    (rm : Option ResolveMeta) (p : Doc × Meta) (h : resolve s id rm = .ok p) : (s.get id).events ≠ [] := by
  intro hnil
  have hp := resolve_ok_mem_chain s id rm p h
  rw [(inv_nil hinv hnil).1] at hp
  cases hp

theorem resolve_allow_latest (s : Store) (id : String) :
    resolve s id (some { allowDeactivated := true }) =
      (match (s.get id).chain.reverse with | [] => .err "not-found" | p :: _ => .ok p) := by
  unfold resolve
  cases (s.get id).chain.reverse with
  | nil => rfl
  | cons p ps =>
    obtain ⟨d, m⟩ := p
    simp [resolveChain, latestNonDeactivatedRequested, matchesMeta]

theorem resolve_latest (s : Store) (id : String) (p : Doc × Meta) (hp : (s.get id).chain.getLast? = some p) :
    resolve s id (some { allowDeactivated := true }) = .ok p := by
  obtain ⟨ys, hys⟩ := List.getLast?_eq_some_iff.mp hp
  rw [resolve_allow_latest, hys, List.reverse_append]; rfl

theorem matchesMeta_some (m : Meta) (r : ResolveMeta) (h : matchesMeta m (some r) = true) :
    (m.deactivated = true → r.allowDeactivated = true) ∧
    (∀ x, r.hash = some x → m.hash = x) ∧
    (∀ t, r.time = some t → m.updated ≤ t ∧ m.created ≤ t) ∧
    (∀ tx, r.sourceTx = some tx → tx ∈ m.sourceTx) := by
  simp only [matchesMeta, Bool.ite_then_false] at h
  obtain ⟨h1, h2, h3, h4⟩ := h
  refine ⟨fun hd => ?_, fun x hx => ?_, fun t ht => ?_, fun tx hs => ?_⟩
  · simpa only [hd, Bool.true_and, Bool.not_eq_true', Bool.not_eq_false] using h1
  · simpa only [hx, Bool.not_eq_true', Bool.not_eq_false, beq_iff_eq] using h2
  · simpa only [ht, Bool.or_eq_true, decide_eq_true_eq, not_or, Nat.not_lt] using h3
  · simpa only [hs, List.contains_iff_mem] using h4

theorem matchesMeta_none (m : Meta) (h : matchesMeta m none = true) : m.deactivated = false := by
  unfold matchesMeta at h
  simpa using h

theorem applyAll_deact_last (cfg : Cfg) (evs : List Event) (es : List Event) (cur : Option Meta) (c : List (Doc × Meta))
    (h : applyAll cfg evs cur es = .ok c)
    (hyp : (∃ x, cur = some x ∧ x.deactivated = true) ∨ ∃ e ∈ es, isDeactivated e.doc = true)
    (p : Doc × Meta) (hp : c.getLast? = some p) : p.2.deactivated = true := by
  rcases hyp with ⟨x, rfl, hx⟩ | ⟨e, he, hd⟩
  · exact applyAll_deact hx h p (List.mem_of_getLast? hp)
  · -- split at the deactivating event: its version is deactivated, and so is everything on top of it
    obtain ⟨a, b, rfl⟩ := List.append_of_mem he
    obtain ⟨ca, cb, _, hb, rfl⟩ := applyAll_append_iff.mp h
    obtain ⟨d, m, rest, hm, hr, rfl⟩ := applyAll_cons_iff.mp hb
    have hmd : m.deactivated = true := by rw [(applyEvent_ok hm).2.1, hd, Bool.true_or]
    rw [List.getLast?_append, List.getLast?_cons] at hp
    simp only [Option.some_or, Option.some.injEq] at hp
    subst hp
    cases hl : rest.getLast? with
    | none => exact hmd
    | some q => exact applyAll_deact hmd hr q (List.mem_of_getLast? hl)

theorem inv_deactivated_resolve (cfg : Cfg) (st : DidState) (hinv : Inv cfg st) (e : Event) (he : e ∈ st.events)
    (hd : isDeactivated e.doc = true) :
    resolveChain none st.chain.reverse = .err "deactivated" ∧
    resolveChain (some {}) st.chain.reverse = .err "deactivated" := by
  have hne : st.events ≠ [] := fun h => by rw [h] at he; cases he
  obtain ⟨p, hp, _⟩ := inv_last cfg st hinv hne
  have hdeact := applyAll_deact_last cfg st.events st.events none st.chain hinv.chain (Or.inr ⟨e, he, hd⟩) p hp
  obtain ⟨ys, hys⟩ := List.getLast?_eq_some_iff.mp hp
  rw [hys, List.reverse_append]
  exact ⟨resolveChain_head_deactivated hdeact rfl, resolveChain_head_deactivated hdeact rfl⟩

end Nuts.C10
