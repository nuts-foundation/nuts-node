/-
  C05, request-level layer: every handler changes the one-time stores only by `Served` steps, so deadness of a burn-on-use
  key and liveness of a registration are proved once for that relation and hold through any sequence of requests.  Handler by
  handler in the order of Forms.lean: the store it leaves (`_snd`), hence `_served` and which key it kills; when it refuses.
  `Served` forgets WHICH namespace a handler touches: that it leaves every other key as it finds it is `_keeps_find`.
-/
import NutsModel.C05.Forms
import NutsProofs.Lemmas.C05Store
import NutsProofs.Lemmas.Base

namespace Nuts.C05

theorem errAt_ne_ok (l : List (String × String)) (i : Nat) : errAt l i ≠ .ok := by
  unfold errAt
  split
  · split <;> simp
  · simp

theorem gadSeq_of_dead (c : Sq) (st : Store) (k : Key) (h : stGet c.incl st c.now k = none) : gadSeq c st k = (none, st) := by
  simp only [gadSeq, h]

theorem gadSeq_of_live (c : Sq) (st : Store) (k : Key) (v : String) (h : stGet c.incl st c.now k = some v) :
    gadSeq c st k = (some v, stErase st k) := by
  simp only [gadSeq, h]

theorem gadSeq_dead (c : Sq) (st : Store) (k : Key) : stGet c.incl (gadSeq c st k).2 c.now k = none := by
  unfold gadSeq
  cases h : stGet c.incl st c.now k with
  | none => simpa using h
  | some v => simp [stGet_erase_self]

theorem gadSeq_keeps_dead (c : Sq) (st : Store) (k k' : Key) (h : stGet c.incl st c.now k = none) :
    stGet c.incl (gadSeq c st k').2 c.now k = none := by
  unfold gadSeq
  cases h' : stGet c.incl st c.now k' with
  | none => simpa using h
  | some v => simp [stGet_none_erase, h]

theorem gadOnly_keeps_dead (c : Sq) (st : Store) (k k' : Key) (h : stGet c.incl st c.now k = none) :
    stGet c.incl (gadSeq c st k').2 c.now k = none := gadSeq_keeps_dead c st k k' h

theorem gadSeq_keeps_find (c : Sq) (st : Store) (k k' : Key) (hne : k ≠ k') : stFind (gadSeq c st k').2 k = stFind st k := by
  unfold gadSeq
  cases stGet c.incl st c.now k' with
  | none => rfl
  | some v => exact stFind_erase_ne _ _ _ hne

/-- `Served c st st'`: `st'` comes from `st` by erasing burn-on-use keys and by registering mark keys that cannot be read
    at `c.now` — all any handler does. -/
inductive Served (c : Sq) : Store → Store → Prop
  | refl (st : Store) : Served c st st
  | erase {st st' : Store} (k : Key) (b : BurnKind) : k.ns = .burn b → Served c st st' → Served c st (stErase st' k)
  | put {st st' : Store} (k : Key) (m : MarkKind) (e : Entry) : k.ns = .mark m → stGet c.incl st' c.now k = none →
      Served c st st' → Served c st (stPut st' k e)

theorem Served.trans {c : Sq} {s1 s2 s3 : Store} (h1 : Served c s1 s2) (h2 : Served c s2 s3) : Served c s1 s3 := by
  induction h2 with
  | refl => exact h1
  | erase k b hk _ ih => exact .erase k b hk ih
  | put k m e hk hd _ ih => exact .put k m e hk hd ih

theorem Served.keeps_dead {c : Sq} {st st' : Store} (h : Served c st st') (k : Key) (b : BurnKind) (hk : k.ns = .burn b)
    (hd : stGet c.incl st c.now k = none) : stGet c.incl st' c.now k = none := by
  induction h with
  | refl => exact hd
  | erase k' _ _ _ ih => exact stGet_none_erase _ _ _ _ _ ih
  | put k' m e hk' _ _ ih => exact stGet_none_put_ne _ _ _ _ _ _ (fun he => by rw [he, hk'] at hk; cases hk) ih

/-- a live registration is neither removed nor replaced (a hit stores nothing; other secrets are other keys) -/
theorem Served.keeps_live {c : Sq} {st st' : Store} (h : Served c st st') (k : Key) (m : MarkKind) (hk : k.ns = .mark m)
    (e : Entry) (hl : c.now < e.exp) (hf : stFind st k = some e) : stFind st' k = some e := by
  induction h with
  | refl => exact hf
  | erase k' b hk' _ ih => rw [stFind_erase_ne _ _ _ (fun he => by rw [he, hk'] at hk; cases hk)]; exact ih
  | put k' _ _ _ hd _ ih =>
    rw [stFind_put_ne _ _ _ _ (fun he => by rw [← he, stGet_of_find_live _ _ _ _ e ih hl] at hd; cases hd)]; exact ih

theorem gadSeq_served (c : Sq) (st : Store) (k : Key) (b : BurnKind) (hk : k.ns = .burn b) : Served c st (gadSeq c st k).2 := by
  unfold gadSeq
  cases stGet c.incl st c.now k with
  | none => exact .refl st
  | some v => exact .erase k b hk (.refl st)

theorem pifSeq_served (c : Sq) (st : Store) (k : Key) (m : MarkKind) (hk : k.ns = .mark m) (v : String) :
    Served c st (pifSeq c st k v).2 := by
  unfold pifSeq
  cases hg : stGet c.incl st c.now k with
  | none => exact .put k m _ hk hg (.refl st)
  | some v => exact .refl st

theorem handleCode_snd (c : Sq) (pk : Pkce) (st : Store) (f : TokenForm) :
    (handleCode c pk st f).2 = match f.code with
      | none => st
      | some code => stErase (if f.codeVerifier.isSome && f.clientId.isSome then (gadSeq c st (codeKey code)).2 else st) (codeKey code) := by
  fun_cases handleCode c pk st f <;> simp +zetaDelta [*]

theorem handleCode_served (c : Sq) (pk : Pkce) (st : Store) (f : TokenForm) : Served c st (handleCode c pk st f).2 := by
  rw [handleCode_snd]
  cases f.code with
  | none => exact .refl st
  | some code =>
    refine .erase _ .code rfl ?_
    split
    · exact gadSeq_served c st _ .code rfl
    · exact .refl st

theorem handleCode_keeps_dead (c : Sq) (pk : Pkce) (st : Store) (f : TokenForm) (k : Key)
    (h : stGet c.incl st c.now k = none) : stGet c.incl (handleCode c pk st f).2 c.now k = none := by
  rw [handleCode_snd]
  cases f.code with
  | none => exact h
  | some code =>
    apply stGet_none_erase
    split
    · exact gadSeq_keeps_dead c st k _ h
    · exact h

theorem handleCode_keeps_find (c : Sq) (pk : Pkce) (st : Store) (f : TokenForm) (k : Key) (hk : k.ns ≠ .burn .code) :
    stFind (handleCode c pk st f).2 k = stFind st k := by
  rw [handleCode_snd]
  cases f.code with
  | none => rfl
  | some code =>
    have hne : k ≠ codeKey code := fun he => hk (he ▸ rfl)
    rw [stFind_erase_ne _ _ _ hne]
    split
    · exact gadSeq_keeps_find c st k _ hne
    · rfl

theorem handleCode_kills (c : Sq) (pk : Pkce) (st : Store) (f : TokenForm) (code : String) (h : f.code = some code) :
    stGet c.incl (handleCode c pk st f).2 c.now (codeKey code) = none := by
  rw [handleCode_snd, h]; exact stGet_erase_self _ _ _ _

theorem handleCode_not_ok_of_dead (c : Sq) (pk : Pkce) (st : Store) (f : TokenForm) (code : String) (h : f.code = some code)
    (hd : stGet c.incl st c.now (codeKey code) = none) : (handleCode c pk st f).1 ≠ .ok := by
  simp only [handleCode, h, gadSeq_of_dead c st _ hd]
  cases f.codeVerifier <;> cases f.clientId <;> simp [errAt_ne_ok]

theorem s2sLoop_served (c : Sq) (ns : List String) : ∀ st, Served c st (s2sLoop c st ns).2 := by
  intro st
  fun_induction s2sLoop c st ns with
  | case1 | case2 => exact .refl _
  | case3 st n _ _ st1 hp => exact congrArg Prod.snd hp ▸ pifSeq_served c st (s2sKey n) .s2s rfl (markVal .s2s)
  | case4 st n _ _ st1 hp ih => exact (congrArg Prod.snd hp ▸ pifSeq_served c st (s2sKey n) .s2s rfl (markVal .s2s)).trans ih

theorem s2sLoop_keeps_dead (c : Sq) (ns : List String) (k : Key) (b : BurnKind) (hk : k.ns = .burn b) :
    ∀ st, stGet c.incl st c.now k = none → stGet c.incl (s2sLoop c st ns).2 c.now k = none :=
  fun st h => (s2sLoop_served c ns st).keeps_dead k b hk h

theorem s2sKey_inj (a b : String) (h : s2sKey a = s2sKey b) : a = b := by
  simp [s2sKey] at h; exact h

theorem s2sLoop_ok (c : Sq) (httl : 0 < c.ttl (.mark .s2s)) (ns : List String) :
    ∀ st, (s2sLoop c st ns).1 = .ok →
      ns.Nodup ∧ (∀ n ∈ ns, n ≠ "" ∧ stGet c.incl st c.now (s2sKey n) = none) ∧
      (∀ n ∈ ns, stFind (s2sLoop c st ns).2 (s2sKey n) = some ⟨markVal .s2s, c.now + c.ttl (.mark .s2s)⟩) := by
  intro st
  fun_induction s2sLoop c st ns with
  | case1 => simp
  | case2 | case3 => dsimp only; exact fun h => absurd h (errAt_ne_ok _ _)
  | case4 st n rest hn st1 hp ih =>
    intro h
    unfold pifSeq at hp; split at hp <;> cases hp
    next hg =>
    have hlive : c.now < c.now + c.ttl (.mark .s2s) := by omega
    obtain ⟨hnd, hfresh, hreg⟩ := ih h
    -- the head nonce is readable in the store the tail runs on, so it is not among the tail's (all unused there)
    have hnotin : n ∉ rest := fun hin => by
      have := (hfresh n hin).2
      rw [stGet_put_self _ _ _ _ _ hlive] at this; cases this
    refine ⟨List.nodup_cons.mpr ⟨hnotin, hnd⟩, fun m hm => ?_, fun m hm => ?_⟩
    · cases List.mem_cons.mp hm with
      | inl he => subst he; exact ⟨hn, hg⟩
      | inr hr =>
        have := (hfresh m hr).2
        rw [stGet_put_ne _ _ _ _ _ _ fun he => hnotin (s2sKey_inj m n he ▸ hr)] at this
        exact ⟨(hfresh m hr).1, this⟩
    · cases List.mem_cons.mp hm with
      | inl he =>
        subst he
        exact (s2sLoop_served c rest _).keeps_live _ .s2s rfl _ hlive (stFind_put_self _ _ _)
      | inr hr => exact hreg m hr

theorem s2sLoop_keeps_find_ne (c : Sq) (ns : List String) (k : Key) (hk : k.ns ≠ .mark .s2s) :
    ∀ st, stFind (s2sLoop c st ns).2 k = stFind st k := by
  intro st
  fun_induction s2sLoop c st ns with
  | case1 | case2 => rfl
  | case3 st n _ _ st1 hp => unfold pifSeq at hp; split at hp <;> cases hp; rfl
  | case4 st n _ _ st1 hp ih =>
    unfold pifSeq at hp; split at hp <;> cases hp
    exact ih.trans (stFind_put_ne _ _ _ _ fun he => hk (he ▸ rfl))

theorem s2sLoop_keeps_marked (c : Sq) (ns : List String) (k : Key) :
    ∀ st, stGet c.incl st c.now k ≠ none → stGet c.incl (s2sLoop c st ns).2 c.now k ≠ none := by
  intro st
  fun_induction s2sLoop c st ns with
  | case1 | case2 => exact id
  | case3 st n _ _ st1 hp => unfold pifSeq at hp; split at hp <;> cases hp; exact id
  | case4 st n _ _ st1 hp ih =>
    unfold pifSeq at hp; split at hp <;> cases hp
    -- the nonce just registered was not readable, `k` is: another key
    next hg => exact fun h => ih (by rwa [stGet_put_ne _ _ _ k (s2sKey n) _ fun he => h (he ▸ hg)])

theorem s2sLoop_refuses_used (c : Sq) (ns : List String) (n : String) (hn : n ∈ ns) :
    ∀ st, stGet c.incl st c.now (s2sKey n) ≠ none → (s2sLoop c st ns).1 ≠ .ok := by
  intro st
  fun_induction s2sLoop c st ns with
  | case1 => cases hn
  | case2 | case3 => dsimp only; exact fun _ => errAt_ne_ok _ _
  | case4 st m rest _ st1 hp ih =>
    intro h
    unfold pifSeq at hp; split at hp <;> cases hp
    next hg =>
    rcases List.mem_cons.mp hn with rfl | hr
    · exact absurd hg h
    · exact ih hr (by rwa [stGet_put_ne _ _ _ (s2sKey n) (s2sKey m) _ fun he => h (he ▸ hg)])

theorem handleS2S_snd (c : Sq) (st : Store) (f : TokenForm) (ns : List String) : (handleS2S c st f ns).2 = (s2sLoop c st ns).2 := by
  fun_cases handleS2S c st f ns with
  | case1 _ h | case2 _ h => rw [h]
  | case3 => rfl

theorem handleS2S_ok_loop (c : Sq) (st : Store) (f : TokenForm) (ns : List String) (h : (handleS2S c st f ns).1 = .ok) :
    (s2sLoop c st ns).1 = .ok := by
  revert h
  fun_cases handleS2S c st f ns with
  | case1 _ h | case2 _ h => exact fun _ => by rw [h]
  | case3 => exact id

theorem handleToken_served (c : Sq) (pk : Pkce) (st : Store) (f : TokenForm) : Served c st (handleToken c pk st f).2 := by
  fun_cases handleToken c pk st f with
  | case1 => exact handleCode_served c pk st f
  | case3 _ _ _ ns => rw [handleS2S_snd]; exact s2sLoop_served c ns st
  | _ => exact .refl st

theorem burnAll_served (c : Sq) (ns : List String) : ∀ st, Served c st (burnAll st ns) := by
  induction ns with
  | nil => exact .refl
  | cons n rest ih => exact fun st => (Served.erase (vpKey n) .vpNonce rfl (.refl st)).trans (ih _)

theorem burnAll_keeps_dead (incl : Bool) (now : Nat) (ns : List String) (k : Key) :
    ∀ st, stGet incl st now k = none → stGet incl (burnAll st ns) now k = none := by
  induction ns with
  | nil => exact fun _ h => h
  | cons n rest ih => exact fun st h => ih _ (stGet_none_erase incl st now k _ h)

theorem burnAll_keeps_find (ns : List String) (k : Key) (hk : k.ns ≠ .burn .vpNonce) :
    ∀ st, stFind (burnAll st ns) k = stFind st k := by
  induction ns with
  | nil => exact fun _ => rfl
  | cons n rest ih => exact fun st => (ih _).trans (stFind_erase_ne _ _ _ fun he => hk (he ▸ rfl))

theorem burnAll_kills (incl : Bool) (now : Nat) (ns : List String) (n : String) (hn : n ∈ ns) :
    ∀ st, stGet incl (burnAll st ns) now (vpKey n) = none := by
  induction ns with
  | nil => cases hn
  | cons m rest ih =>
    intro st
    cases List.mem_cons.mp hn with
    | inl he =>
      subst he
      exact burnAll_keeps_dead incl now rest _ _ (stGet_erase_self incl st now _)
    | inr hr => exact ih hr _

theorem nonces_le_one (a : NAcc) (h : ¬ nonceErrs a > 0) : a.nonces.length ≤ 1 := by
  unfold nonceErrs at h
  by_cases hl : a.nonces.length > 1
  · simp [hl] at h
  · omega

theorem validateNonce_cases (c : Sq) (st : Store) (ps : List Pres) (state : String) :
    let E := errAt Facts.C05.errs_validatePresentationNonce
    (nonceErrs (collect ps) > 0 ∧ validateNonce c st ps state = (E 0, burnAll st (collect ps).nonces)) ∨
    (¬ nonceErrs (collect ps) > 0 ∧
      (((collect ps).nonces = [] ∧ validateNonce c st ps state = (.panic "validatePresentationNonce:nonces[0]", st)) ∨
       ∃ n, (collect ps).nonces = [n] ∧ validateNonce c st ps state =
         (match stGet c.incl st c.now (vpKey n) with
          | none => E 1
          | some s => if state ≠ s then E 2 else .ok, (gadSeq c st (vpKey n)).2))) := by
  unfold validateNonce
  by_cases he : nonceErrs (collect ps) > 0
  · exact .inl ⟨he, if_pos he⟩
  · refine .inr ⟨he, ?_⟩
    have hle := nonces_le_one _ he
    simp only [if_neg he]
    cases hn : (collect ps).nonces with
    | nil => exact .inl ⟨rfl, rfl⟩
    | cons n rest =>
      obtain rfl : rest = [] := by cases rest with | nil => rfl | cons _ _ => simp [hn] at hle
      refine .inr ⟨n, rfl, ?_⟩
      dsimp only
      unfold gadSeq
      cases stGet c.incl st c.now (vpKey n) with
      | none => rfl
      | some s => simp only; split <;> rfl

theorem validateNonce_served (c : Sq) (st : Store) (ps : List Pres) (state : String) : Served c st (validateNonce c st ps state).2 := by
  rcases validateNonce_cases c st ps state with ⟨_, e⟩ | ⟨_, ⟨_, e⟩ | ⟨n, _, e⟩⟩ <;> rw [e]
  · exact burnAll_served c _ st
  · exact .refl st
  · exact gadSeq_served c st _ .vpNonce rfl

theorem validateNonce_keeps_dead (c : Sq) (st : Store) (ps : List Pres) (state : String) (k : Key)
    (h : stGet c.incl st c.now k = none) : stGet c.incl (validateNonce c st ps state).2 c.now k = none := by
  rcases validateNonce_cases c st ps state with ⟨_, e⟩ | ⟨_, ⟨_, e⟩ | ⟨n, _, e⟩⟩ <;> rw [e]
  · exact burnAll_keeps_dead _ _ _ k st h
  · exact h
  · exact gadSeq_keeps_dead c st k _ h

theorem validateNonce_keeps_find (c : Sq) (st : Store) (ps : List Pres) (state : String) (k : Key) (hk : k.ns ≠ .burn .vpNonce) :
    stFind (validateNonce c st ps state).2 k = stFind st k := by
  rcases validateNonce_cases c st ps state with ⟨_, e⟩ | ⟨_, ⟨_, e⟩ | ⟨n, _, e⟩⟩ <;> rw [e]
  · exact burnAll_keeps_find _ k hk st
  · exact gadSeq_keeps_find c st k _ fun he => hk (he ▸ rfl)

theorem validateNonce_kills (c : Sq) (st : Store) (ps : List Pres) (state : String) (n : String) (hn : n ∈ (collect ps).nonces) :
    stGet c.incl (validateNonce c st ps state).2 c.now (vpKey n) = none := by
  rcases validateNonce_cases c st ps state with ⟨_, e⟩ | ⟨_, ⟨h0, _⟩ | ⟨m, h1, e⟩⟩
  · rw [e]; exact burnAll_kills c.incl c.now _ n hn st
  · rw [h0] at hn; cases hn
  · rw [h1] at hn; rw [e, List.mem_singleton.mp hn]; exact gadSeq_dead c st _

theorem validateNonce_not_ok_of_dead (c : Sq) (st : Store) (ps : List Pres) (state : String) (n : String) (hn : n ∈ (collect ps).nonces)
    (hd : stGet c.incl st c.now (vpKey n) = none) : (validateNonce c st ps state).1 ≠ .ok := by
  rcases validateNonce_cases c st ps state with ⟨_, e⟩ | ⟨_, ⟨_, e⟩ | ⟨m, h1, e⟩⟩ <;> simp only [e]
  · exact errAt_ne_ok _ _
  · nofun
  · rw [h1] at hn; rw [← List.mem_singleton.mp hn, hd]; exact errAt_ne_ok _ _

theorem nonceStep_mono (a : NAcc) (p : Pres) (x : String) (h : x ∈ a.nonces) : x ∈ (nonceStep a p).nonces := by
  unfold nonceStep
  simp only
  split
  · exact List.mem_append_left _ h
  · exact h

theorem foldl_nonceStep_mono (ps : List Pres) (a : NAcc) (x : String) (h : x ∈ a.nonces) : x ∈ (ps.foldl nonceStep a).nonces :=
  foldl_invariant (fun b : NAcc => x ∈ b.nonces) nonceStep ps a (fun p _ b => nonceStep_mono b p x) h

theorem nonceStep_adds (a : NAcc) (p : Pres) (h : presNonce p ≠ "") : presNonce p ∈ (nonceStep a p).nonces := by
  unfold nonceStep
  simp only
  by_cases hc : a.nonces.contains (presNonce p) = true
  · simp only [hc, Bool.not_true, Bool.and_false, Bool.false_eq_true, if_false]
    exact List.contains_iff_mem.mp hc
  · simp only [Bool.not_eq_true] at hc
    simp only [hc, Bool.not_false, Bool.and_true, bne_iff_ne, ne_eq, h, not_false_eq_true, if_true]
    exact List.mem_append_right _ (List.mem_singleton.mpr rfl)

theorem foldl_nonceStep_collects (ps : List Pres) : ∀ (a : NAcc) (p : Pres), p ∈ ps → presNonce p ≠ "" →
    presNonce p ∈ (ps.foldl nonceStep a).nonces := by
  induction ps with
  | nil => intro a p hp; cases hp
  | cons q rest ih =>
    intro a p hp hne
    simp only [List.foldl_cons]
    cases List.mem_cons.mp hp with
    | inl he => subst he; exact foldl_nonceStep_mono rest _ _ (nonceStep_adds a p hne)
    | inr hr => exact ih _ p hr hne

theorem foldl_nonceStep_allPresent (ps : List Pres) : ∀ (a : NAcc), (ps.foldl nonceStep a).allPresent = true →
    a.allPresent = true ∧ ∀ p ∈ ps, presNonce p ≠ "" := by
  induction ps with
  | nil => intro a h; exact ⟨h, by intro p hp; cases hp⟩
  | cons q rest ih =>
    intro a h
    simp only [List.foldl_cons] at h
    obtain ⟨h1, h2⟩ := ih _ h
    unfold nonceStep at h1
    simp only [Bool.and_eq_true, bne_iff_ne, ne_eq] at h1
    refine ⟨h1.1, ?_⟩
    intro p hp
    cases List.mem_cons.mp hp with
    | inl he => subst he; exact h1.2
    | inr hr => exact h2 p hr

theorem handleResponse_served (c : Sq) (st : Store) (r : VpResponse) : Served c st (handleResponse c st r).2 := by
  fun_cases handleResponse c st r with
  | case6 state _ p ps => exact validateNonce_served c st (p :: ps) state
  | _ => exact .refl st

theorem handleReqObj_snd (c : Sq) (st : Store) (r : ReqObjFetch) : (handleReqObj c st r).2 = (gadSeq c st (reqObjKey r.id)).2 := by
  fun_cases handleReqObj c st r with
  | case1 _ _ hg | case2 _ _ _ hg | case3 _ _ _ hg | case4 _ _ hg => rw [hg]

theorem handleReqObj_kills (c : Sq) (st : Store) (r : ReqObjFetch) : stGet c.incl (handleReqObj c st r).2 c.now (reqObjKey r.id) = none := by
  rw [handleReqObj_snd]; exact gadSeq_dead c st _

theorem handleReqObj_not_ok_of_dead (c : Sq) (st : Store) (r : ReqObjFetch) (hd : stGet c.incl st c.now (reqObjKey r.id) = none) :
    (handleReqObj c st r).1 ≠ .ok := by
  simp only [handleReqObj, gadSeq_of_dead c st _ hd]
  exact errAt_ne_ok _ _

theorem handleLanding_snd (c : Sq) (st : Store) (t : String) (ht : t ≠ "") : (handleLanding c st t).2 = (gadSeq c st (redirectKey t)).2 := by
  fun_cases handleLanding c st t with
  | case1 h => exact absurd h ht
  | case2 _ _ hg | case3 _ _ _ hg => rw [hg]

theorem handleLanding_served (c : Sq) (st : Store) (t : String) : Served c st (handleLanding c st t).2 := by
  by_cases ht : t = ""
  · unfold handleLanding; rw [if_pos ht]; exact .refl st
  · rw [handleLanding_snd c st t ht]; exact gadSeq_served c st _ .redirect rfl

theorem handleLanding_kills (c : Sq) (st : Store) (t : String) (ht : t ≠ "") : stGet c.incl (handleLanding c st t).2 c.now (redirectKey t) = none := by
  rw [handleLanding_snd c st t ht]; exact gadSeq_dead c st _

theorem handleLanding_not_ok_of_dead (c : Sq) (st : Store) (t : String) (hd : stGet c.incl st c.now (redirectKey t) = none) :
    (handleLanding c st t).1 ≠ .ok := by
  simp only [handleLanding, gadSeq_of_dead c st _ hd]
  split <;> nofun

theorem handleDpop_cases (c : Sq) (st : Store) (r : DpopReq) :
    ((handleDpop c st r).1 ≠ .ok ∧ (handleDpop c st r).2 = st) ∨
    ((handleDpop c st r).1 = .ok ∧ stGet c.incl st c.now (jtiKey r.jti) = none ∧
      (handleDpop c st r).2 = stPut st (jtiKey r.jti) ⟨markVal .jti, c.now + c.ttl (.mark .jti)⟩) := by
  fun_cases handleDpop c st r with
  | case1 | case2 | case3 | case4 => exact .inl ⟨Ans.noConfusion, rfl⟩
  | case5 _ _ _ _ _ hp =>
    unfold pifSeq at hp; split at hp <;> cases hp
    exact .inl ⟨Ans.noConfusion, rfl⟩
  | case6 _ _ _ _ _ hp =>
    unfold pifSeq at hp; split at hp <;> cases hp
    next hg => exact .inr ⟨rfl, hg, rfl⟩

theorem handleDpop_served (c : Sq) (st : Store) (r : DpopReq) : Served c st (handleDpop c st r).2 := by
  rcases handleDpop_cases c st r with ⟨_, h⟩ | ⟨_, hd, h⟩ <;> rw [h]
  · exact .refl st
  · exact .put _ .jti _ rfl hd (.refl st)

theorem handleDpop_ok_find (c : Sq) (st : Store) (r : DpopReq) (hok : (handleDpop c st r).1 = .ok) :
    stFind (handleDpop c st r).2 (jtiKey r.jti) = some ⟨markVal .jti, c.now + c.ttl (.mark .jti)⟩ := by
  rcases handleDpop_cases c st r with ⟨h1, _⟩ | ⟨_, _, h1⟩
  · exact absurd hok h1
  · rw [h1]; exact stFind_put_self _ _ _

theorem handleDpop_refuses_used (c : Sq) (st : Store) (r : DpopReq) (h : stGet c.incl st c.now (jtiKey r.jti) ≠ none) :
    (handleDpop c st r).1 ≠ .ok := by
  rcases handleDpop_cases c st r with ⟨h1, _⟩ | ⟨_, h1, _⟩
  · exact h1
  · exact absurd h1 h

theorem jtiKey_inj (a b : String) (h : jtiKey a = jtiKey b) : a = b := by
  simp [jtiKey] at h; exact h

theorem handleForm_served (c : Sq) (pk : Pkce) (st : Store) (f : Form) : Served c st (handleForm c pk st f).2 := by
  cases f with
  | token t => exact handleToken_served c pk st t
  | response r => exact handleResponse_served c st r
  | reqObj r => simp only [handleForm]; rw [handleReqObj_snd]; exact gadSeq_served c st _ .reqObj rfl
  | landing t => exact handleLanding_served c st t
  | dpop r => exact handleDpop_served c st r

theorem runForms_keeps_dead (incl : Bool) (ttl : Kind → Nat) (pk : Pkce) (k : Key) (b : BurnKind) (hk : k.ns = .burn b)
    (fs : List (Nat × Form)) : ∀ (now : Nat) (st : Store), stGet incl st now k = none →
      stGet incl (runForms incl ttl pk now st fs).2.1 (runForms incl ttl pk now st fs).2.2 k = none := by
  intro now st
  fun_induction runForms incl ttl pk now st fs with
  | case1 => exact id
  | case2 now st dt f _ _ _ ih =>
    exact fun h => ih ((handleForm_served ⟨incl, now + dt, ttl⟩ pk st f).keeps_dead k b hk (stGet_none_later incl st now dt k h))

theorem runForms_time_ge (incl : Bool) (ttl : Kind → Nat) (pk : Pkce) (fs : List (Nat × Form)) :
    ∀ now st, now ≤ (runForms incl ttl pk now st fs).2.2 := by
  intro now st
  fun_induction runForms incl ttl pk now st fs with
  | case1 => exact Nat.le_refl _
  | case2 _ _ _ _ _ _ _ ih => exact Nat.le_trans (Nat.le_add_right ..) ih

theorem runForms_keeps_live (incl : Bool) (ttl : Kind → Nat) (pk : Pkce) (k : Key) (m : MarkKind) (hk : k.ns = .mark m) (e : Entry)
    (fs : List (Nat × Form)) : ∀ now st, stFind st k = some e → (runForms incl ttl pk now st fs).2.2 < e.exp →
      stFind (runForms incl ttl pk now st fs).2.1 k = some e := by
  intro now st
  fun_induction runForms incl ttl pk now st fs with
  | case1 => exact fun h _ => h
  | case2 now st dt f rest r _ ih =>
    intro h hend
    exact ih ((handleForm_served ⟨incl, now + dt, ttl⟩ pk st f).keeps_live k m hk e
      (Nat.lt_of_le_of_lt (runForms_time_ge incl ttl pk rest (now + dt) r.2) hend) h) hend

end Nuts.C05
