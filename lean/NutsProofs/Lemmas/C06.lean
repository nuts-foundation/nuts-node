/-
  C06 — notifications and every reachable state.  The job shelf seen as a map (`typAt`), `saveEvent` and `Notify` in closed
  form, exactly one transaction event per admission and interested subscriber (`Once`); and the theorem over ALL doors,
  `inv_steps`: what `Add` and a late payload keep holds after any interleaving of all of them.  `C06Parse` and `C06Lin` are
  imported for the modules that import this one (the property module, `ComposeDag`); nothing here uses them.
-/
import NutsProofs.Lemmas.C06Parse
import NutsProofs.Lemmas.C06Inv
import NutsProofs.Lemmas.C06Lin

namespace Nuts.C06

theorem add_ledger {env : Env} {subs : List Sub} {s : St} {tx : Tx} {p : Option Nat}
    (hne : (add env subs s tx p).1 ≠ s) :
    (add env subs s tx p).1.ledger =
      (notifyAll subs tx p (saveEvent subs .tx tx (jobsAfterPayload subs s tx p), s.ledger)).2 := by
  obtain ⟨w, _, _, hw, he⟩ := add_changed hne
  obtain ⟨_, _, rfl⟩ := writeBody_ok_iff.mp hw
  rw [he]
  rfl

/-- the event type of the job stored for subscriber `n` and ref `r`, if there is one: all that the ledger ever shows of the job shelf -/
def typAt (jobs : List Job) (n : String) (r : Nat) : Option EvType :=
  (jobs.find? fun j => j.sub = n ∧ j.ref = r).map (·.typ)

theorem hasJob_eq_typAt (jobs : List Job) (n : String) (r : Nat) : hasJob jobs n r = (typAt jobs n r).isSome := by
  unfold hasJob typAt
  rw [Option.isSome_map, List.isSome_find?]

theorem typAt_none {jobs : List Job} {r : Nat} (h : ∀ j ∈ jobs, j.ref ≠ r) (n : String) : typAt jobs n r = none := by
  unfold typAt
  rw [List.find?_eq_none.mpr fun j hj => by simp [h j hj]]; rfl

theorem typAt_append (l : List Job) (j : Job) (n : String) (r : Nat) :
    typAt (l ++ [j]) n r = (typAt l n r).or (if j.sub = n ∧ j.ref = r then some j.typ else none) := by
  unfold typAt
  rw [List.find?_append, Option.map_or]
  congr 1
  by_cases h : j.sub = n ∧ j.ref = r <;> simp [h]

theorem typAt_filter_other {n n' : String} (h : n' ≠ n) (l : List Job) (r r' : Nat) :
    typAt (l.filter fun j => !(decide (j.sub = n' ∧ j.ref = r'))) n r = typAt l n r := by
  unfold typAt
  rw [List.find?_filter]
  congr 2
  funext j
  by_cases hj : j.sub = n <;> simp [hj, Ne.symm h]

theorem typAt_map_failed (c : Job → Prop) [DecidablePred c] (l : List Job) (n : String) (r : Nat) :
    typAt (l.map fun j => if c j then { j with failed := true } else j) n r = typAt l n r := by
  unfold typAt
  rw [List.find?_map, Option.map_map]
  congr 1
  · funext j; dsimp only [Function.comp]; split <;> rfl
  · congr 1; funext j; dsimp only [Function.comp]; split <;> rfl

theorem typAt_saveOne (typ : EvType) (tx : Tx) (jobs : List Job) (sub : Sub) (n : String) (r : Nat) :
    typAt (saveOne typ tx jobs sub) n r = (typAt jobs n r).or
      (if sub.persistent = true ∧ sub.accepts typ tx = true ∧ sub.name = n ∧ tx.ref = r then some typ else none) := by
  rw [saveOne_eq, hasJob_eq_typAt]
  by_cases hc : sub.persistent = true ∧ sub.accepts typ tx = true
  · simp only [hc.1, hc.2, true_and]
    by_cases hk : sub.name = n ∧ tx.ref = r
    · obtain ⟨rfl, rfl⟩ := hk
      cases h : typAt jobs sub.name tx.ref <;> simp [h, typAt_append]
    · rw [if_neg hk, Option.or_none]
      split
      · rw [typAt_append, if_neg hk, Option.or_none]
      · rfl
  · rw [if_neg fun h => hc ⟨h.1, h.2.1⟩, if_neg fun h => hc ⟨h.1, h.2.1⟩, Option.or_none]

/-- `saveEvent` in closed form, for any list of subscribers (`or` is idempotent, so a second subscriber of the same name adds nothing) -/
theorem typAt_saveEvent (typ : EvType) (tx : Tx) (n : String) (r : Nat) : ∀ (subs : List Sub) (jobs : List Job),
    typAt (saveEvent subs typ tx jobs) n r = (typAt jobs n r).or
      (if subs.any (fun sub => sub.persistent = true ∧ sub.accepts typ tx = true ∧ sub.name = n ∧ tx.ref = r) = true
       then some typ else none)
  | [], _ => (Option.or_none ..).symm
  | sub :: rest, jobs => by
    have ih := typAt_saveEvent typ tx n r rest (saveOne typ tx jobs sub)
    unfold saveEvent at ih ⊢
    rw [List.foldl_cons, ih, typAt_saveOne, Option.or_assoc, List.any_cons]
    congr 1
    by_cases h : sub.persistent = true ∧ sub.accepts typ tx = true ∧ sub.name = n ∧ tx.ref = r
    · rw [if_pos h, decide_eq_true h]; rfl
    · rw [if_neg h, decide_eq_false h]; rfl

/-- a ledger projected on one subscriber -/
def pe (n : String) (led : List Ev) : List Ev := led.filter (fun e => e.sub = n)

/-- what `notifyNow` hands to the receiver of `sub`: nothing when its filter refuses the event or its job is gone, otherwise one
    event — for a persistent subscriber of the STORED type -/
def emit (typ : EvType) (tx : Tx) (jobs : List Job) (sub : Sub) : Option Ev :=
  if sub.accepts typ tx = true then
    if sub.persistent = true then (typAt jobs sub.name tx.ref).map (⟨sub.name, ·, tx.ref⟩) else some ⟨sub.name, typ, tx.ref⟩
  else none

theorem notifyOne_ledger (typ : EvType) (tx : Tx) (jl : List Job × List Ev) (sub : Sub) :
    (notifyOne typ tx jl sub).2 = jl.2 ++ (emit typ tx jl.1 sub).toList := by
  unfold notifyOne emit typAt
  cases sub.accepts typ tx
  · simp
  cases sub.persistent
  · simp
  simp only [Bool.not_true, Bool.false_eq_true, if_false, if_true]
  cases jl.1.find? fun j => decide (j.sub = sub.name ∧ j.ref = tx.ref)
  · simp
  cases sub.outcome <;> rfl

theorem typAt_notifyOne {typ : EvType} {tx : Tx} {jl : List Job × List Ev} {sub : Sub} {n : String} (h : sub.name ≠ n) (r : Nat) :
    typAt (notifyOne typ tx jl sub).1 n r = typAt jl.1 n r := by
  fun_cases notifyOne typ tx jl sub with
  | case3 => exact typAt_filter_other h ..
  | case4 => exact typAt_map_failed ..
  | _ => rfl

/-- `Notify` in closed form (subscriber names are distinct): the receivers are called in the order of `subs`, each with what
    the job shelf held for it before the round -/
theorem notify_ledger {typ : EvType} {tx : Tx} : ∀ {subs : List Sub} (jl : List Job × List Ev), (subs.map (·.name)).Nodup →
    (notify subs typ tx jl).2 = jl.2 ++ subs.flatMap fun s => (emit typ tx jl.1 s).toList
  | [], _, _ => by simp [notify]
  | sub :: rest, jl, hnd => by
    rw [List.map_cons, List.nodup_cons] at hnd
    have ih := notify_ledger (typ := typ) (tx := tx) (notifyOne typ tx jl sub) hnd.2
    unfold notify at ih ⊢
    rw [List.foldl_cons, ih, notifyOne_ledger, List.append_assoc, List.flatMap_cons, List.flatMap_def, List.flatMap_def]
    congr 3
    refine List.map_congr_left fun s hs => ?_
    unfold emit
    rw [typAt_notifyOne fun he => hnd.1 (List.mem_map.mpr ⟨s, hs, he.symm⟩)]

theorem emit_sub {typ : EvType} {tx : Tx} {jobs : List Job} {sub : Sub} {e : Ev} (h : e ∈ emit typ tx jobs sub) : e.sub = sub.name := by
  unfold emit at h
  split at h
  · split at h
    · obtain ⟨_, _, rfl⟩ := Option.map_eq_some_iff.mp h; rfl
    · cases h; rfl
  · cases h

theorem pe_emit {typ : EvType} {tx : Tx} {jobs : List Job} {sub0 : Sub} : ∀ {subs : List Sub},
    (subs.map (·.name)).Nodup → sub0 ∈ subs →
    pe sub0.name (subs.flatMap fun s => (emit typ tx jobs s).toList) = (emit typ tx jobs sub0).toList
  | s :: rest, hnd, hm => by
    rw [List.map_cons, List.nodup_cons] at hnd
    have own : ∀ {s : Sub}, pe s.name (emit typ tx jobs s).toList = (emit typ tx jobs s).toList := fun {s} =>
      List.filter_eq_self.mpr fun e he => by simpa using emit_sub (Option.mem_toList.mp he)
    have other : ∀ {s : Sub} {n : String}, s.name ≠ n → pe n (emit typ tx jobs s).toList = [] := fun {s n} hn =>
      List.filter_eq_nil_iff.mpr fun e he => by simpa [emit_sub (Option.mem_toList.mp he)] using hn
    unfold pe at own other ⊢
    rw [List.flatMap_cons, List.filter_append]
    rcases List.mem_cons.mp hm with rfl | hm'
    · rw [own, List.filter_flatMap, List.flatMap_eq_nil_iff.mpr fun x hx => other fun he => hnd.1 (List.mem_map.mpr ⟨x, hx, he⟩),
        List.append_nil]
    · rw [other fun he => hnd.1 (List.mem_map.mpr ⟨sub0, hm', he.symm⟩), List.nil_append]
      exact pe_emit hnd.2 hm'

def evCount (led : List Ev) (n : String) (typ : EvType) (r : Nat) : Nat :=
  ((pe n led).filter (fun e => e.typ = typ ∧ e.ref = r)).length

/-- subscriber configuration as the node has it: unique names (registration refuses duplicates), and a persistent
    subscriber listens to ONE event type (its job key is the ref alone; the five the node registers do: `nats`, `vdr`,
    `vcr_vcs`, `vcr_revocations` the payload event, `private` the transaction event) -/
def SubsOK (subs : List Sub) : Prop :=
  (subs.map (·.name)).Nodup ∧ ∀ sub ∈ subs, sub.persistent = true → ¬(sub.wantTx = true ∧ sub.wantPayload = true)

theorem accepts_tx_want {sub : Sub} {tx : Tx} (h : sub.accepts .tx tx = true) : sub.wantTx = true := by
  unfold Sub.accepts at h
  simp only [Bool.and_eq_true] at h
  exact h.1

theorem accepts_payload_want {sub : Sub} {tx : Tx} (h : sub.accepts .payload tx = true) : sub.wantPayload = true := by
  unfold Sub.accepts at h
  simp only [Bool.and_eq_true] at h
  exact h.1

theorem jobsAfterPayload_self {subs : List Sub} {sub0 : Sub} {s : St} {tx : Tx} {p : Option Nat}
    (hok : SubsOK subs) (hm : sub0 ∈ subs) (hacc : sub0.accepts .tx tx = true) (r : Nat) :
    typAt (jobsAfterPayload subs s tx p) sub0.name r = typAt s.jobs sub0.name r := by
  cases p with
  | none => rfl
  | some q =>
    unfold jobsAfterPayload
    rw [typAt_saveEvent, if_neg, Option.or_none]
    intro h
    obtain ⟨sub, hs, hc⟩ := List.any_eq_true.mp h
    obtain ⟨hp, ha, hn, _⟩ := of_decide_eq_true hc
    cases pairwise_ne_inj (List.pairwise_map.mp hok.1) hs hm hn
    exact hok.2 sub0 hm hp ⟨accepts_tx_want hacc, accepts_payload_want ha⟩

theorem evCount_append {l a : List Ev} {n : String} {typ : EvType} {r : Nat} :
    evCount (l ++ a) n typ r = evCount l n typ r + evCount a n typ r := by
  unfold evCount pe
  simp [List.filter_append]

theorem evCount_zero {l : List Ev} {n : String} {typ : EvType} {r : Nat} (h : ∀ e ∈ l, e.ref ≠ r) :
    evCount l n typ r = 0 := by
  unfold evCount pe
  rw [List.length_eq_zero_iff, List.filter_eq_nil_iff]
  intro e he
  have := (List.mem_filter.mp he).1
  simp [h e this]

theorem evCount_notify {typ ty : EvType} {tx : Tx} {subs : List Sub} {sub0 : Sub} (hnd : (subs.map (·.name)).Nodup)
    (hm : sub0 ∈ subs) (jl : List Job × List Ev) (r : Nat) :
    evCount (notify subs typ tx jl).2 sub0.name ty r =
      evCount jl.2 sub0.name ty r + ((emit typ tx jl.1 sub0).toList.filter fun e => e.typ = ty ∧ e.ref = r).length := by
  rw [notify_ledger _ hnd, evCount_append]
  unfold evCount
  rw [pe_emit hnd hm]

theorem evCount_notifyTx {subs : List Sub} {sub0 : Sub} {tx : Tx} {jobs1 : List Job}
    (hok : SubsOK subs) (hm : sub0 ∈ subs) (hacc : sub0.accepts .tx tx = true)
    (hnone : typAt jobs1 sub0.name tx.ref = none) (led : List Ev) :
    evCount (notify subs .tx tx (saveEvent subs .tx tx jobs1, led)).2 sub0.name .tx tx.ref = evCount led sub0.name .tx tx.ref + 1 := by
  have : emit .tx tx (saveEvent subs .tx tx jobs1) sub0 = some ⟨sub0.name, .tx, tx.ref⟩ := by
    unfold emit
    rw [if_pos hacc]
    split
    · rename_i hp
      rw [typAt_saveEvent, hnone, if_pos (List.any_eq_true.mpr ⟨sub0, hm, decide_eq_true ⟨hp, hacc, rfl, rfl⟩⟩)]; rfl
    · rfl
  rw [evCount_notify hok.1 hm, this]
  simp

theorem evCount_notifyPayload {subs : List Sub} {sub0 : Sub} {tx : Tx} (hok : SubsOK subs) (hm : sub0 ∈ subs)
    (hw : sub0.wantTx = true) (jl : List Job × List Ev) (r : Nat) :
    evCount (notify subs .payload tx jl).2 sub0.name .tx r = evCount jl.2 sub0.name .tx r := by
  rw [evCount_notify hok.1 hm, List.filter_eq_nil_iff.mpr, List.length_nil, Nat.add_zero]
  intro e he
  have he := Option.mem_toList.mp he
  unfold emit at he
  split at he
  · rename_i ha
    split at he
    · rename_i hp; exact (hok.2 sub0 hm hp ⟨hw, accepts_payload_want ha⟩).elim
    · cases he; simp
  · cases he

def Once (subs : List Sub) (s : St) : Prop :=
  ∀ sub ∈ subs, ∀ t ∈ s.txs, sub.accepts .tx t = true → evCount s.ledger sub.name .tx t.ref = 1

theorem once_add {env : Env} {subs : List Sub} {s : St} {tx : Tx} {p : Option Nat}
    (hok : SubsOK subs) (hi : Inv env s) (ho : Once subs s) : Once subs (add env subs s tx p).1 := by
  by_cases hne : (add env subs s tx p).1 = s
  · rw [hne]; exact ho
  · obtain ⟨_, ha⟩ := (@add_cases env subs s tx p).resolve_left hne
    intro sub hm t ht hacc
    rw [ha.txs] at ht
    cases ht with
    | head =>
      -- the new transaction: no job and no event carries its ref yet (`Inv`), so the tx round brings the count from 0 to 1
      have htx := evCount_notifyTx hok hm hacc ((jobsAfterPayload_self (s := s) (p := p) hok hm hacc _).trans
        (typAt_none (r := tx.ref) (fun j hj hr => ha.fresh (hr ▸ hi.jobsRefs j hj)) _)) s.ledger
      rw [evCount_zero (r := tx.ref) fun e he hr => ha.fresh (hr ▸ hi.ledgerRefs e he)] at htx
      rw [add_ledger hne]
      unfold notifyAll
      split
      · rw [evCount_notifyPayload hok hm (accepts_tx_want hacc), htx]
      · exact htx
    | tail _ ht =>
      -- an older one: every new event carries the new ref
      obtain ⟨addl, hadd, hall⟩ := ha.ledger
      rw [hadd, evCount_append, ho sub hm t ht hacc, evCount_zero]
      exact fun e he hc => ha.fresh ((hall e he).symm.trans hc ▸ List.mem_map.mpr ⟨t, ht, rfl⟩)

theorem once_late {env : Env} {subs : List Sub} {s : St} (hok : SubsOK subs) (ref q : Nat) (ho : Once subs s) :
    Once subs (latePayload env subs s ref q).1 := by
  rcases latePayload_cases env subs s ref q with ⟨h, _⟩ | ⟨tx, _, _, _, h⟩
  · rw [h]; exact ho
  · rw [h]
    intro sub hm t ht hacc
    exact (evCount_notifyPayload hok hm (accepts_tx_want hacc) _ _).trans (ho sub hm t ht hacc)

def step (env : Env) (subs : List Sub) (s : St) : Call ⊕ Nat × Nat → St
  | .inl c => (add env subs s c.tx c.payload).1
  | .inr r => (latePayload env subs s r.1 r.2).1

theorem adds_eq_steps (env : Env) (subs : List Sub) (s : St) (cs : List Call) :
    adds env subs s cs = (cs.map .inl).foldl (step env subs) s := by
  rw [List.foldl_map]; rfl

/-- ALL DOORS: after any interleaving of single `Add`s — hence of offered bytes, TransactionLists, bursts of concurrent `Add`s
    (`offer_adds`, `handleList_adds`, `seqRun_adds`) — and late payloads, a valid DAG is a valid DAG again, and with the node's
    subscriber configuration every interested subscriber still has exactly one transaction event per stored transaction -/
theorem inv_steps {env : Env} {subs : List Sub} (ms : List (Call ⊕ Nat × Nat)) {s : St} (hi : Inv env s) :
    Inv env (ms.foldl (step env subs) s) ∧ (SubsOK subs → Once subs s → Once subs (ms.foldl (step env subs) s)) := by
  refine foldl_invariant (fun s' => Inv env s' ∧ (SubsOK subs → Once subs s → Once subs s')) _ ms s (fun m _ s' h => ?_)
    ⟨hi, fun _ ho => ho⟩
  cases m with
  | inl c => exact ⟨inv_add h.1, fun hok ho => once_add hok h.1 (h.2 hok ho)⟩
  | inr r => exact ⟨inv_late h.1 _ _, fun hok ho => once_late hok _ _ (h.2 hok ho)⟩

theorem inv_adds {env : Env} {subs : List Sub} {s : St} (cs : List Call) (h : Inv env s) : Inv env (adds env subs s cs) :=
  adds_eq_steps env subs s cs ▸ (inv_steps _ h).1

end Nuts.C06
