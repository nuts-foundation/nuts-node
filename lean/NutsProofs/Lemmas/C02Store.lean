/-
  C02 — the two containers of the model (NutsModel/C02/Token.lean): the session store over go-cache (`find` / `get` after
  `del` / `put`, `getAndDelete`; `AllVals`: a property of every stored value; `Live`: a once-only store remembers a key
  until a bound) and the JSON object (`objGet` after `objPut`, through the association list of `NutsModel.Base`).
-/
import NutsModel.C02.Token
import NutsProofs.Lemmas.Base

namespace Nuts.C02

namespace Store
variable {α : Type}

theorem find_eq_find? : ∀ (s : Store α) (k : String), s.find k = List.find? (fun e => e.key = k) s
  | [], _ => rfl
  | e :: s, k => by
    rw [find, List.find?_cons, find_eq_find? s k]
    by_cases h : e.key = k <;> simp [h]

theorem find_mem (s : Store α) (k : String) (e : Entry α) (h : s.find k = some e) : e ∈ s :=
  List.mem_of_find?_eq_some (find_eq_find? s k ▸ h)

theorem find_del_same (s : Store α) (k : String) : (s.del k).find k = none := by
  rw [find_eq_find?]
  exact List.find?_eq_none.2 fun e he => by simpa using (List.mem_filter.1 he).2

theorem find_del_ne (s : Store α) (k k' : String) (hne : k' ≠ k) : (s.del k').find k = s.find k := by
  rw [find_eq_find?, find_eq_find?, del, List.find?_filter]
  congr 1; funext e
  by_cases h : e.key = k <;> simp [h, Ne.symm hne]

theorem find_del_none (s : Store α) (k k' : String) (h : s.find k = none) : (s.del k').find k = none := by
  by_cases hk : k' = k
  · subst hk; exact find_del_same s k'
  · rw [find_del_ne s k k' hk]; exact h

theorem find_put_same (s : Store α) (now ttl : Nat) (k : String) (v : α) (httl : ttl ≠ 0) :
    (s.put now ttl k v).find k = some ⟨k, v, now + ttl⟩ := by
  simp [put, httl, find]

theorem find_put_ne (s : Store α) (now ttl : Nat) (k k' : String) (v : α) (hne : k' ≠ k) :
    (s.put now ttl k' v).find k = s.find k := by
  unfold put
  split
  · rfl
  · simp only [find, hne, if_false]; exact find_del_ne s k k' hne

theorem get_of_find_none {s : Store α} {k : String} (h : s.find k = none) (now : Nat) : s.get now k = none := by
  simp [get, h]

theorem get_of_find_some {s : Store α} {k : String} {e : Entry α} (h : s.find k = some e) (now : Nat) :
    s.get now k = if now ≤ e.exp then some e.val else none := by
  simp [get, h]

theorem get_del_same (s : Store α) (now : Nat) (k : String) : (s.del k).get now k = none :=
  get_of_find_none (find_del_same s k) now

theorem get_del_ne (s : Store α) (now : Nat) (k k' : String) (hne : k' ≠ k) : (s.del k').get now k = s.get now k := by
  simp [get, find_del_ne s k k' hne]

theorem get_put_same (s : Store α) (now ttl t : Nat) (k : String) (v : α) (httl : ttl ≠ 0) :
    (s.put now ttl k v).get t k = if t ≤ now + ttl then some v else none :=
  get_of_find_some (find_put_same s now ttl k v httl) t

theorem get_put_ne (s : Store α) (now ttl t : Nat) (k k' : String) (v : α) (hne : k' ≠ k) :
    (s.put now ttl k' v).get t k = s.get t k := by
  simp [get, find_put_ne s now ttl k k' v hne]

theorem get_none_later (s : Store α) (now later : Nat) (k : String) (hle : now ≤ later)
    (h : s.get now k = none) : s.get later k = none := by
  unfold get at *
  split at h
  · rename_i e he
    split at h
    · cases h
    · rename_i hexp
      have : ¬ later ≤ e.exp := by omega
      simp [this]
  · rfl

theorem put_inj (s : Store α) (now ttl : Nat) (k : String) (v v' : α) (httl : ttl ≠ 0)
    (h : s.put now ttl k v = s.put now ttl k v') : v = v' := by
  simp [put, httl] at h; exact h

theorem getAndDelete_some (s : Store α) (now : Nat) (k : String) (v : α) (s' : Store α)
    (h : s.getAndDelete now k = (some v, s')) : s.get now k = some v ∧ s' = s.del k := by
  unfold Store.getAndDelete at h
  split at h
  · rename_i v' hv'
    simp only [Prod.mk.injEq, Option.some.injEq] at h
    exact ⟨by rw [hv', h.1], h.2.symm⟩
  · simp at h

theorem getAndDelete_none (s : Store α) (now : Nat) (k : String) (s' : Store α)
    (h : s.getAndDelete now k = (none, s')) : s.get now k = none ∧ s' = s := by
  unfold Store.getAndDelete at h
  split at h
  · simp at h
  · rename_i hn
    simp only [Prod.mk.injEq, true_and] at h
    exact ⟨hn, h.symm⟩

theorem del_del (s : Store α) (k : String) : (s.del k).del k = s.del k := by
  unfold Store.del
  rw [List.filter_filter]
  congr 1
  funext e
  simp

theorem getAndDelete_del (s : Store α) (now : Nat) (k : String) :
    (s.getAndDelete now k).2.del k = s.del k := by
  unfold Store.getAndDelete
  split
  · exact del_del s k
  · rfl

end Store

def AllVals {α : Type} (P : α → Prop) (s : Store α) : Prop := ∀ e ∈ s, P e.val

theorem allVals_del {α : Type} (P : α → Prop) (s : Store α) (k : String) (h : AllVals P s) : AllVals P (s.del k) := by
  intro e he
  unfold Store.del at he
  exact h e (List.mem_filter.mp he).1

theorem allVals_put {α : Type} (P : α → Prop) (s : Store α) (now ttl : Nat) (k : String) (v : α) (h : AllVals P s)
    (hv : P v) : AllVals P (s.put now ttl k v) := by
  unfold Store.put
  split
  · exact h
  · intro e he
    rcases List.mem_cons.mp he with rfl | he
    · exact hv
    · exact allVals_del P s k h e he

theorem allVals_get {α : Type} (P : α → Prop) (s : Store α) (now : Nat) (k : String) (v : α) (h : AllVals P s)
    (hg : s.get now k = some v) : P v := by
  unfold Store.get at hg
  split at hg
  · rename_i e hf
    split at hg
    · simp only [Option.some.injEq] at hg; subst hg; exact h e (Store.find_mem s k e hf)
    · cases hg
  · cases hg

/-- a once-only store (s2s nonces, DPoP jti) remembers `n` at least until `bound` -/
def Live (st : Store Unit) (n : String) (bound : Nat) : Prop := ∃ e, st.find n = some e ∧ bound ≤ e.exp

theorem Live.get {st : Store Unit} {n : String} {b now : Nat} (h : Live st n b) (hb : now ≤ b) :
    st.get now n = some () := by
  obtain ⟨e, he, hexp⟩ := h
  rw [Store.get_of_find_some he, if_pos (by omega)]

theorem live_put (st : Store Unit) (now ttl : Nat) (k n : String) (b : Nat) (httl : ttl ≠ 0)
    (h : Live st n b) (hb : b ≤ now + ttl) : Live (st.put now ttl k ()) n b := by
  by_cases hk : k = n
  · subst hk; exact ⟨_, Store.find_put_same st now ttl k () httl, hb⟩
  · obtain ⟨e, he, hexp⟩ := h
    exact ⟨e, by rw [Store.find_put_ne st now ttl n k () hk]; exact he, hexp⟩

theorem live_put_self (st : Store Unit) (now ttl : Nat) (n : String) (httl : ttl ≠ 0) :
    Live (st.put now ttl n ()) n (now + ttl) :=
  ⟨_, Store.find_put_same st now ttl n () httl, Nat.le_refl _⟩

theorem objGet_eq_alGet : ∀ (o : Obj) (k : String), objGet o k = alGet o k
  | [], _ => rfl
  | (k', v) :: o, k => by rw [objGet, alGet_cons, objGet_eq_alGet o k]; simp

theorem objPut_eq_alPut (o : Obj) (k v : String) : objPut o k v = alPut o k v :=
  congrArg ((k, v) :: ·) (List.filter_congr fun p _ => by by_cases h : p.1 = k <;> simp [h])

theorem objGet_objPut_same (o : Obj) (k v : String) : objGet (objPut o k v) k = some v := by
  rw [objPut_eq_alPut, objGet_eq_alGet, alGet_alPut_self]

theorem objGet_objPut_ne (o : Obj) (k k' v : String) (h : k' ≠ k) : objGet (objPut o k' v) k = objGet o k := by
  rw [objPut_eq_alPut, objGet_eq_alGet, objGet_eq_alGet, alGet_alPut_of_ne o v h.symm]

end Nuts.C02
