/- C11, the verifier on one node: what `update`, `statusList`, `checkStatus` hand out, the loop `verifyStatuses` entry by
   entry, and `verify` with its wrappers (`verifyFullF`). -/
import NutsProofs.Lemmas.C11Tables
namespace Nuts.C11

theorem validate_ok {v : VC} {s : Subject} (h : validate v = .ok s) :
    v.body.subjects = [s] ∧ s.purpose ≠ "" ∧ v.proof.isSome = true := by
  revert h
  fun_cases validate v with
  | case13 _ _ _ _ _ _ _ hproof _ s' heq _ hpurp _ =>
    intro h; cases h
    refine ⟨heq, by simpa using hpurp, ?_⟩
    cases hh : v.proof with
    | none => simp [hh] at hproof
    | some _ => rfl
  | _ => intro h; cases h

theorem verifyList_ok {E : Env} {v : VC} {s : Subject} {bits : Bits} (h : verifyList E v = .ok (s, bits)) :
    v.body.subjects = [s] ∧ s.enc = .ok bits ∧ E.verify v = true := by
  revert h
  fun_cases verifyList E v with
  | case1 s' hv bits' henc hver => intro h; cases h; exact ⟨(validate_ok hv).1, henc, hver⟩
  | _ => intro h; cases h

theorem update_ok {E : Env} {now : Nat} {n n' : Node} {u : Url} {f : Fetch} {rec : CredRec}
    (h : update E now n u f = .ok (rec, n')) :
    ∃ v s, f = .vc v ∧ v.body.subjects = [s] ∧ s.id = u ∧ s.enc = .ok rec.bits ∧ E.verify v = true ∧
      rec.id = u ∧ rec.purpose = s.purpose ∧ rec.raw = v ∧ rec.createdAt = now ∧ rec.expires = v.body.expires ∧ n' = n.putCred rec := by
  revert h
  fun_cases update E now n u f with
  | case3 v s bits hv hid =>
    intro h; injection h with h; injection h with h1 h2; subst h1 h2
    obtain ⟨h1, h2, h3⟩ := verifyList_ok hv
    exact ⟨v, s, rfl, h1, by simp at hid; exact hid.symm, h2, h3, rfl, rfl, rfl, rfl, rfl, rfl⟩
  | _ => intro h; cases h

theorem update_named {E : Env} {now : Nat} {n n' : Node} {u : Url} {f : Fetch} {rec : CredRec}
    (h : update E now n u f = .ok (rec, n')) : rec.id = u ∧ Named rec := by
  obtain ⟨v, s, _, hsub, hsid, henc, _, hid, _, hraw, _⟩ := update_ok h
  exact ⟨hid, s, by rw [hraw]; exact hsub, by rw [hsid, hid], henc⟩

theorem statusList_ok {E : Env} {now : Nat} {n n' : Node} {u : Url} {f : Fetch} {rec : CredRec}
    (h : statusList E now n u f = .ok (rec, n')) :
    (n' = n ∧ n.cred? u = some rec) ∨ (update E now n u f = .ok (rec, n') ∧ (n.cred? u = none ∨ n.isManaged u = false)) := by
  revert h
  fun_cases statusList E now n u f with
  | case1 hnone => exact fun h => .inr ⟨h, .inl hnone⟩
  | case3 rec0 hsome hnm _ r hup => intro h; cases h; exact .inr ⟨hup, .inr (by simpa using hnm)⟩
  | case2 rec0 hsome | case4 rec0 hsome | case5 rec0 hsome => intro h; cases h; exact .inl ⟨rfl, hsome⟩

theorem update_step {E : Env} {K : KeyEnv} {F : CredRec → Prop} {now : Nat} {n n' : Node} {u : Url} {f : Fetch} {rec : CredRec}
    (hu : n.cred? u = none ∨ n.isManaged u = false) (h : update E now n u f = .ok (rec, n')) (hf : F rec) :
    NStep E K F n n' := by
  obtain ⟨hid, hnamed⟩ := update_named h
  obtain ⟨_, _, _, _, _, _, _, _, _, _, _, _, rfl⟩ := update_ok h
  exact .fetch rec hnamed (by rw [hid]; exact hu) hf

theorem statusList_some {E : Env} {now : Nat} {n : Node} {u : Url} {f : Fetch} {rec0 : CredRec} (h : n.cred? u = some rec0) :
    ∃ rec n', statusList E now n u f = .ok (rec, n') := by
  fun_cases statusList E now n u f with
  | case1 hnone => rw [h] at hnone; cases hnone
  | case3 _ _ _ _ r => exact ⟨r.1, r.2, rfl⟩
  | _ => exact ⟨_, _, rfl⟩

theorem statusList_managed {E : Env} {n : Node} {u : Url} {rec : CredRec} (hc : n.cred? u = some rec) (hm : n.isManaged u = true)
    (now : Nat) (f : Fetch) : statusList E now n u f = .ok (rec, n) ∧ needsFetch E now n u = false := by
  simp [statusList, needsFetch, hc, hm]

theorem statusList_named {E : Env} {now : Nat} {n n' : Node} {u : Url} {f : Fetch} {rec : CredRec} (hn : NInv E n)
    (h : statusList E now n u f = .ok (rec, n')) : rec.id = u ∧ Named rec := by
  rcases statusList_ok h with ⟨_, h2⟩ | ⟨h1, _⟩
  · exact ⟨(cred?_some h2).2, hn.named _ _ h2⟩
  · exact update_named h1

theorem checkStatus_eq {E : Env} {now : Nat} {n n' : Node} {st : StatusEntry} {f : Fetch} {rec : CredRec} {j : Int} {b : Bool}
    (hsl : statusList E now n st.list f = .ok (rec, n')) (hpu : rec.purpose = st.purpose) (hidx : st.idx = some j)
    (hb : rec.bits.bit j = .ok b) : checkStatus E now n st f = (if b then some .revoked else none, n') := by
  unfold checkStatus
  rw [hsl]
  simp only [hpu, hidx, hb, bne_self_eq_false, Bool.false_eq_true, if_false]
  cases b <;> rfl

theorem checkStatus_snd {E : Env} {now : Nat} {n n' : Node} {st : StatusEntry} {f : Fetch} {rec : CredRec}
    (hsl : statusList E now n st.list f = .ok (rec, n')) : (checkStatus E now n st f).2 = n' := by
  unfold checkStatus
  rw [hsl]
  simp only
  split
  · rfl
  · split
    · rfl
    · split <;> rfl

theorem checkStatus_revoked {E : Env} {now : Nat} {n : Node} {st : StatusEntry} {f : Fetch}
    (h : (checkStatus E now n st f).1 = some .revoked) :
    ∃ (j : Int) (rec : CredRec) (n' : Node), statusList E now n st.list f = .ok (rec, n') ∧ st.idx = some j ∧
      rec.bits.bit j = .ok true ∧ rec.purpose = st.purpose := by
  revert h
  fun_cases checkStatus E now n st f with
  | case3 rec n' hsl hpu j hj hb => exact fun _ => ⟨j, rec, n', hsl, hj, hb, by simpa using hpu⟩
  | _ => intro h; cases h

theorem checkStatus_node {E : Env} {now : Nat} {n : Node} {st : StatusEntry} {f : Fetch} :
    (checkStatus E now n st f).2 = n ∨
    ∃ rec, update E now n st.list f = .ok (rec, (checkStatus E now n st f).2) ∧
      (n.cred? st.list = none ∨ n.isManaged st.list = false) := by
  cases hsl : statusList E now n st.list f with
  | ok r =>
    rw [checkStatus_snd (rec := r.1) (n' := r.2) hsl]
    rcases statusList_ok (rec := r.1) (n' := r.2) hsl with ⟨h1, _⟩ | h
    · exact Or.inl h1
    · exact Or.inr ⟨r.1, h⟩
  | err e => unfold checkStatus; rw [hsl]; exact Or.inl rfl
  | panic m => unfold checkStatus; rw [hsl]; exact Or.inl rfl

theorem checkStatus_local {E : Env} (hE : EnvOK E) {n : Node} (hn : NInv E n) {u : Url} {j : Nat} (hm : n.isManaged u = true)
    (hle : j ≤ E.maxIndex) (now : Nat) (f : Fetch) (st : StatusEntry) (hst : st.list = u) (hpu : st.purpose = "revocation")
    (hidx : st.idx = some (j : Int)) :
    checkStatus E now n st f = (if j ∈ n.revsOf u then some .revoked else none, n) ∧ needsFetch E now n u = false := by
  obtain ⟨rec, hrec⟩ := hn.has u hm
  obtain ⟨hbits, _⟩ := hn.crec u rec hm hrec
  obtain ⟨_, _, _, hp, hiff, _⟩ := signed_served hE hn hm hrec
  obtain ⟨hlen, _⟩ := bits_exact hE (hn.revsOf_le u) hbits
  obtain ⟨hsl, hnf⟩ := statusList_managed (E := E) hrec hm now f
  refine ⟨?_, hnf⟩
  subst hst
  rw [checkStatus_eq hsl (hp.trans hpu.symm) hidx (bit_eq_getB (by rw [hlen]; have := hE.idx; omega))]
  by_cases hj : j ∈ n.revsOf st.list
  · rw [if_pos hj, (hiff j).mpr hj]; rfl
  · rw [if_neg hj, Bool.eq_false_iff.mpr (fun h => hj ((hiff j).mp h))]; rfl

theorem verifyStatuses_irrel (E : Env) (i : Bool) (w : World) {st : StatusEntry} (h : st.relevant = false) (rest : List StatusEntry) :
    verifyStatuses E i w (st :: rest) = verifyStatuses E i w rest := by
  simp only [verifyStatuses, h, Bool.not_false, if_true]

theorem verifyStatuses_skip (E : Env) (i : Bool) (w : World) (l : List StatusEntry) :
    ∀ (pre : List StatusEntry), (∀ s, s ∈ pre → s.relevant = false) → verifyStatuses E i w (pre ++ l) = verifyStatuses E i w l := by
  intro pre
  induction pre with
  | nil => intro _; rfl
  | cons s rest ih =>
    intro hpre
    rw [List.cons_append, verifyStatuses_irrel E i w (hpre s List.mem_cons_self)]
    exact ih fun x hx => hpre x (List.mem_cons_of_mem _ hx)

/-- the issuer's `revokeStatusList` picks the entry the verifier's loop judges first -/
theorem firstRevocationEntry_eq_find? (sts : List StatusEntry) : firstRevocationEntry sts = sts.find? (·.relevant) := by
  induction sts with
  | nil => rfl
  | cons st rest ih =>
    rw [firstRevocationEntry, List.find?_cons, ih, StatusEntry.relevant]
    cases st.type == "StatusList2021Entry" <;> cases hp : st.purpose == "revocation" <;> simp [bne, hp]

theorem verifyStatuses_cons (E : Env) (i : Bool) (w : World) {st : StatusEntry} (hrel : st.relevant = true) (rest : List StatusEntry) :
    ∃ f w1, (if needsFetch E w.now (w.get i) st.list = true then download E w st.list else (Fetch.fail, w)) = (f, w1) ∧
      verifyStatuses E i w (st :: rest) =
        match (checkStatus E w1.now (w1.get i) st f).1 with
        | some v => (v, w1.set i (checkStatus E w1.now (w1.get i) st f).2)
        | none => verifyStatuses E i (w1.set i (checkStatus E w1.now (w1.get i) st f).2) rest := by
  generalize hfw : (if needsFetch E w.now (w.get i) st.list = true then download E w st.list else (Fetch.fail, w)) = fw
  obtain ⟨f, w1⟩ := fw
  refine ⟨f, w1, rfl, ?_⟩
  simp only [verifyStatuses, hrel, Bool.not_true, Bool.false_eq_true, if_false, hfw]
  generalize checkStatus E w1.now (w1.get i) st f = r
  obtain ⟨o, n'⟩ := r
  cases o <;> rfl

theorem verify_snd (E : Env) (i : Bool) (w : World) (c : Cred) :
    (verify E i w c).2 = w ∨ (verify E i w c).2 = (statusVerify E i w c).2 := by
  fun_cases verify E i w c with
  | case1 => exact .inl rfl
  | case2 _ w' h => exact .inr (by rw [h])
  | case3 _ v w' _ h => exact .inr (by rw [h])

theorem credRevoked_of_mem {n : Node} {r : Revocation} {c : Cred} (hr : r ∈ n.netRevs) (hc : c.id = some r.subject) :
    n.credRevoked c = true := by
  simp only [Node.credRevoked, hc, Node.isRevoked, List.any_eq_true]
  exact ⟨r, hr, by simp⟩

theorem verify_of_credRevoked {E : Env} {i : Bool} {w : World} {c : Cred} (h : (w.get i).credRevoked c = true) :
    (verify E i w c).1 = .revoked := by
  unfold verify; rw [if_pos h]

theorem verify_of_status_revoked {E : Env} {i : Bool} {w : World} {c : Cred} (h : (statusVerify E i w c).1 = .revoked) :
    (verify E i w c).1 = .revoked := by
  unfold verify
  split
  · rfl
  · generalize statusVerify E i w c = r at h
    obtain ⟨v, w'⟩ := r
    simp only at h
    subst h
    rfl

theorem verify_ok_not_revoked {E : Env} {i : Bool} {w : World} {c : Cred} (h : (verify E i w c).1 = .ok) :
    (w.get i).credRevoked c = false := by
  cases hr : (w.get i).credRevoked c with
  | false => rfl
  | true => rw [verify_of_credRevoked hr] at h; cases h

theorem verifyFullF_cases (E : Env) (i : Bool) (w : World) (c : Cred) (nutsType rf : Bool) :
    (∃ e, verifyFullF E i w c nutsType rf = (.err e, w)) ∨
    (rf = false ∧ verifyFullF E i w c nutsType rf = verify E i w c) := by
  have store : ∀ id, c.id = some id → (∃ e, verifyWithStore E i w c rf = (.err e, w)) ∨
      (rf = false ∧ verifyWithStore E i w c rf = verify E i w c) := by
    intro id hid
    cases rf <;> simp [verifyWithStore, hid]
  fun_cases verifyFullF E i w c nutsType rf with
  | case1 _ _ hv =>
    cases hid : c.id with
    | none => simp [validateNutsId, hid] at hv
    | some id => exact store id hid
  | case5 _ id hid => exact store id hid
  | _ => exact .inl ⟨_, rfl⟩

/-- a credential the node holds a revocation for has an id, so the default validator and a healthy store let it through to
    `verify`, which answers revoked at once -/
theorem verifyFullF_of_credRevoked {E : Env} {i : Bool} {w : World} {c : Cred} (h : (w.get i).credRevoked c = true) :
    (verifyFullF E i w c false false).1 = .revoked := by
  cases hid : c.id with
  | none => simp [Node.credRevoked, hid] at h
  | some id => simp [verifyFullF, verifyWithStore, hid, verify_of_credRevoked h]

theorem credRevoked_mono {n n' : Node} (h : NMono n n') (c : Cred) (hr : n.credRevoked c = true) : n'.credRevoked c = true := by
  unfold Node.credRevoked at *
  cases hc : c.id with
  | none => simp [hc] at hr
  | some id =>
    simp only [hc, Node.isRevoked, List.any_eq_true] at hr ⊢
    obtain ⟨r, hm, hs⟩ := hr
    exact ⟨r, h.net r hm, hs⟩

end Nuts.C11
