/-
  C06 — creation.  The prevs and the clock `CreateTransaction` picks pass the prevs verifier on the state they were picked on
  (`create_verifies`).  The creation model (NutsModel/C06/Create.lean): `hash.ParseHex` inverts `Hash.String`, and what the
  steps of `ParseTransaction` read in the header `Sign` builds (`mkH_get`, `parsePrevEls_hex`, `parsePalEls_ok`) is what went in.
-/
import NutsModel.C06.Create
import NutsProofs.Lemmas.C06Inv

namespace Nuts.C06

theorem calcClock_highest {s : St} {ps : List Nat} {c0 c : Nat} (h : calcClock s ps c0 = .ok c) :
    highest s.txs ps (c0 : Int) = .ok (c : Int) := by
  fun_induction calcClock s ps c0 with
  | case1 c0 => cases h; rfl
  | case2 p ps c0 hf => cases h
  | case3 p ps c0 t hf ih =>
    have hm : (if (t.clock : Int) ≥ c0 then (t.clock : Int) else c0) = ((if t.clock > c0 then t.clock else c0 : Nat) : Int) := by
      split <;> split <;> omega
    rw [highest, show findTx s.txs p = some t from hf]
    show highest s.txs ps _ = _
    rw [hm]; exact ih h

theorem calcClock_spec {s : St} {ps : List Nat} {c0 c : Nat} (h : calcClock s ps c0 = .ok c) :
    c0 ≤ c ∧ (∀ p ∈ ps, ∃ u, findTx s.txs p = some u ∧ u.clock ≤ c) ∧
    (c = c0 ∨ ∃ p ∈ ps, ∃ u, findTx s.txs p = some u ∧ u.clock = c) := by
  obtain ⟨hall, hc⟩ := highest_ok (calcClock_highest h)
  obtain ⟨a, b, d⟩ := foldl_max_spec (prevClocks s.txs ps) c0
  rw [← hc] at a b d
  refine ⟨by omega, fun p hp => ?_, d.imp (by omega) fun hm => ?_⟩
  · obtain ⟨u, hu⟩ := Option.isSome_iff_exists.mp (hall p hp)
    exact ⟨u, hu, by have := b _ (mem_prevClocks.mpr ⟨p, hp, u, hu, rfl⟩); omega⟩
  · obtain ⟨p, hp, u, hu, e⟩ := mem_prevClocks.mp hm
    exact ⟨p, hp, u, hu, by omega⟩

theorem dedup_mem {ps acc : List Nat} {p : Nat} : p ∈ dedup ps acc ↔ p ∈ ps ∨ p ∈ acc := by
  fun_induction dedup ps acc with
  | case1 acc => simp
  | case2 q qs acc hc ih => rw [ih]; by_cases hp : p = q <;> simp_all
  | case3 q qs acc hc ih => simp [ih, or_assoc, or_comm, or_left_comm]

theorem dedup_nodup {ps acc : List Nat} (h : acc.Nodup) : (dedup ps acc).Nodup := by
  fun_induction dedup ps acc with
  | case1 acc => exact h
  | case2 p r acc hc ih => exact ih h
  | case3 p r acc hc ih =>
    exact ih (nodup_snoc h fun ha => hc (by simpa using ha))

theorem createFrom_verifies {s : St} {ps0 prevs : List Nat} {clock : Nat}
    (hemp : ps0 = [] → s.txs = [])
    (hc : createFrom s ps0 = .ok (prevs, clock)) (tx : Tx) (hp : tx.prevs = prevs) (hk : tx.clock = clock) :
    verifyPrevs s.txs tx = .ok () ∧ (tx.prevs = [] → hasRoot s.txs = false) := by
  revert hc
  fun_cases createFrom s ps0 with
  | case3 | case4 => nofun
  | case1 he =>
    rintro ⟨⟩
    rw [hemp (by simpa using he)]
    refine ⟨?_, fun _ => rfl⟩
    unfold verifyPrevs
    rw [hp, hk]; rfl
  | case2 hne c hcalc =>
    rintro ⟨⟩
    obtain ⟨hall, hcv⟩ := highest_ok (calcClock_highest hcalc)
    obtain ⟨p0, hp0⟩ := List.exists_mem_of_ne_nil ps0 (by simpa using hne)
    have hd : ∀ p, p ∈ dedup ps0 [] ↔ p ∈ ps0 := fun p => dedup_mem.trans (or_iff_left List.not_mem_nil)
    refine ⟨?_, fun hnil => absurd ((hd p0).mpr hp0) (by rw [← hp, hnil]; exact List.not_mem_nil)⟩
    obtain ⟨u0, hu0⟩ := Option.isSome_iff_exists.mp (hall p0 hp0)
    -- the verifier runs over the de-duplicated prevs from −1, `calculateLamportClock` over all of them from 0: the same
    -- set of clocks, and the clock of `p0` dominates both start values
    have : (prevClocks s.txs (dedup ps0 [])).foldl max (-1) = (c : Int) := by
      rw [hcv]
      refine foldl_max_congr (fun x => ?_) ⟨u0.clock, mem_prevClocks.mpr ⟨p0, (hd p0).mpr hp0, u0, hu0, rfl⟩, by omega, by omega⟩
      simp only [mem_prevClocks, hd]
    exact verifyPrevs_ok_iff.mpr ⟨by rw [hp]; exact fun p h => hall p ((hd p).mp h), by rw [hp, this, hk]; rfl⟩

theorem create_verifies {env : Env} {s : St} {additional prevs : List Nat} {clock : Nat}
    (hi : Inv env s) (hnz : ∀ t ∈ s.txs, t.ref ≠ 0)
    (hc : createPrevsClock s additional = .ok (prevs, clock)) (tx : Tx) (hp : tx.prevs = prevs) (hk : tx.clock = clock) :
    verifyPrevs s.txs tx = .ok () ∧ (tx.prevs = [] → hasRoot s.txs = false) := by
  unfold createPrevsClock at hc
  split at hc
  · cases hc
  · refine createFrom_verifies ?_ hc tx hp hk
    intro hemp
    have hhead : s.head = 0 := by
      by_cases h0 : s.head = 0
      · exact h0
      · simp [h0] at hemp
    rcases hi.head with ⟨h, _⟩ | ⟨t, ht, hr, _⟩
    · exact h
    · exact (hnz t ht (by rw [hr, hhead])).elim

theorem create_prevs_eq {s : St} {additional prevs : List Nat} {clock : Nat}
    (h : createPrevsClock s additional = .ok (prevs, clock)) :
    prevs = dedup ((if s.head ≠ 0 then [s.head] else []) ++ additional) [] := by
  unfold createPrevsClock at h
  split at h
  · cases h
  · revert h
    fun_cases createFrom s ((if s.head ≠ 0 then [s.head] else []) ++ additional) with
    | case1 he => rintro ⟨⟩; rw [List.isEmpty_iff.mp he]; rfl
    | case2 => rintro ⟨⟩; rfl
    | _ => nofun

end Nuts.C06

namespace Nuts.C06.Create

theorem hexDigit_hexChar_fin : ∀ d : Fin 16, hexDigit? (hexChar d.val) = some d.val := by decide

theorem hexDigit_hexChar {d : Nat} (h : d < 16) : hexDigit? (hexChar d) = some d := hexDigit_hexChar_fin ⟨d, h⟩

theorem hexVal_append (l : List Char) (c : Char) (acc : Nat) :
    hexVal? (l ++ [c]) acc = (hexVal? l acc).bind (fun v => (hexDigit? c).map (fun d => v * 16 + d)) := by
  induction l generalizing acc with
  | nil => simp [hexVal?]; cases hexDigit? c <;> simp
  | cons x r ih =>
    simp only [List.cons_append, hexVal?]
    cases hexDigit? x with
    | none => simp
    | some d => simp [ih]

theorem hexDigits_length (k n : Nat) : (hexDigits k n).length = k := by
  induction k generalizing n with
  | zero => rfl
  | succ k ih => simp [hexDigits, ih]

theorem hexVal_hexDigits (k n : Nat) : hexVal? (hexDigits k n) 0 = some (n % 16 ^ k) := by
  induction k generalizing n with
  | zero => simp [hexDigits, hexVal?, Nat.mod_one]
  | succ k ih =>
    rw [hexDigits, hexVal_append, ih, hexDigit_hexChar (Nat.mod_lt _ (by decide))]
    simp only [Option.bind_some, Option.map_some, Option.some.injEq]
    rw [Nat.pow_succ, Nat.mul_comm (16 ^ k) 16, Nat.mod_mul]
    omega

theorem parseHex_hex64 {n : Nat} (h : n < 16 ^ 64) : parseHex (hex64 n) = some n := by
  unfold parseHex hex64
  have hl : (String.ofList (hexDigits 64 n)).length = 64 := by simp [hexDigits_length]
  have he : (String.ofList (hexDigits 64 n)).isEmpty = false := by
    simp [String.isEmpty]
    intro e
    have := hexDigits_length 64 n
    rw [e] at this; simp at this
  rw [he]
  simp only [Bool.false_eq_true, if_false, hl, ne_eq, not_true_eq_false]
  simp [hexVal_hexDigits, Nat.mod_eq_of_lt h]

theorem parsePrevEls_hex (hn : String) (l : List Nat) (h : ∀ x ∈ l, x < 16 ^ 64) :
    parsePrevEls hn (l.map fun p => El.str (hex64 p)) = .ok l := by
  induction l with
  | nil => rfl
  | cons x r ih =>
    simp only [List.map_cons, parsePrevEls]
    rw [parseHex_hex64 (h x (by simp)), ih (fun y hy => h y (by simp [hy]))]

theorem parsePalEls_ok (b64 : String → Bool) (hn : String) (l : List String) (h : ∀ s ∈ l, b64 s = true) :
    parsePalEls b64 hn (l.map El.str) = .ok l := by
  induction l with
  | nil => rfl
  | cons x r ih =>
    simp only [List.map_cons, parsePalEls]
    rw [if_pos (h x (by simp)), ih (fun y hy => h y (by simp [hy]))]

theorem toInt64_int {v : Int} (h0 : -(2 : Int) ^ 63 ≤ v) (h1 : v < (2 : Int) ^ 63) : toInt64 v 0 = v := by
  unfold toInt64 truncZ
  simp only [ge_iff_le, Int.le_refl, if_true, Int.toNat_zero, Int.pow_zero, Int.mul_one]
  rw [if_pos ⟨h0, h1⟩]

theorem newTransaction_ok {p : Nat} {pt : String} {prevs : List Nat} {pal : Option (List String)} {lc : Nat} {u : Unsigned}
    (h : newTransaction p pt prevs pal lc = .ok u) :
    containsSlash pt = true ∧ (∀ x ∈ prevs, x ≠ 0) ∧
    u = { payload := p, payloadType := pt, version := currentVersion, pal := pal, clock := lc, prevs := dedup prevs [] } := by
  unfold newTransaction at h
  split at h
  · cases h
  · rename_i hs
    split at h
    · cases h
    · rename_i hz
      cases h
      refine ⟨by simpa using hs, ?_, rfl⟩
      intro x hx h0
      apply hz
      simp only [List.any_eq_true, decide_eq_true_eq]
      exact ⟨x, hx, h0⟩

abbrev mkH (p : Nat) (pt : String) (dp : List Nat) (pal : Option (List String)) (lc : Nat) (sigt : Int) (alg : String) (key : KeyRef) (ref : Nat) : Hdr :=
  signHdr ⟨p, pt, dp, pal, lc, currentVersion⟩ sigt alg key ref true

theorem mkH_get (p : Nat) (pt : String) (dp : List Nat) (pal : Option (List String)) (lc : Nat) (sigt : Int) (alg : String) (key : KeyRef) (ref : Nat) :
    let h := mkH p pt dp pal lc sigt alg key ref
    h.get "sigt" = some (.num sigt 0) ∧ h.get "prevs" = some (.arr (dp.map fun q => El.str (hex64 q))) ∧
    h.get "ver" = some (.num currentVersion 0) ∧ h.get "lc" = some (.num (lc : Int) 0) ∧
    h.get "pal" = pal.map (fun l => .arr (l.map El.str)) := by
  cases pal <;> simp [mkH, signHdr, Hdr.get, getLast]

end Nuts.C06.Create
