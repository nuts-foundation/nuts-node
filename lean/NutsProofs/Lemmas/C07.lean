/-
  The handlers of the protocol model (`NutsModel/C07/Handlers`): one case analysis each (`handle*_spec`), all with the same
  statement `Does` of what a handler does to the node and what it sends (`handle_spec` for `handle`); what follows for every
  handler: a DAG only grows, by transactions `addCheck` admitted, and a transaction list that goes out carries only the
  sender's own transactions. Shared by C07 and C15.
-/
import NutsModel.C07.Net
import NutsProofs.Lemmas.Sort
import NutsProofs.Lemmas.C07Chunk

namespace Nuts.Proto.L

theorem sendRequest_out (cfg : Cfg) (n : Node) (peer : Nat) (data : ConvData) (mk : Cid → Msg) (o : Nat × Msg)
    (h : o ∈ (sendRequest cfg n peer data mk).out) : ∃ cid, o = (peer, mk cid) := by
  unfold sendRequest at h
  split at h
  · cases h
  · rename_i n' cid _
    simp only [List.mem_singleton] at h
    exact ⟨cid, h⟩

/-- kinds of messages that carry no payload bytes at all -/
def isRequest : Msg → Bool
  | .state .. => true | .listQuery .. => true | .rangeQuery .. => true | .payloadQuery .. => true
  | .txSet .. => true | .gossip .. => true
  | _ => false

theorem privateRetry_out (env : Env) (n : Node) (tx : Tx) (o : Nat × Msg) (h : o ∈ privateRetry env n tx) :
    o.2 = .payloadQuery tx.ref := by
  unfold privateRetry at h
  split at h
  · cases h
  · split at h
    · simp only [List.mem_filterMap] at h
      obtain ⟨d, _, hd⟩ := h
      cases hf : firstConn n d with
      | none => simp [hf] at hd
      | some p => simp [hf] at hd; rw [← hd]
    · cases h

theorem notifyPrivate_out (env : Env) (n : Node) (tx : Tx) (o : Nat × Msg) (h : o ∈ notifyPrivate env n tx) :
    o.2 = .payloadQuery tx.ref := by
  unfold notifyPrivate at h
  split at h
  · exact privateRetry_out _ _ _ _ h
  · cases h

theorem addTx_out (cfg : Cfg) (env : Env) (n : Node) (tx : Tx) (pl : Option Payload) (o : Nat × Msg)
    (h : o ∈ (addTx cfg env n tx pl).2.1) : o.2 = .payloadQuery tx.ref := by
  unfold addTx at h
  split at h
  · exact notifyPrivate_out _ _ _ _ h
  · cases h

theorem addLoop_out (cfg : Cfg) (env : Env) : ∀ (l : List (Tx × Option Payload)) (n : Node) (o : Nat × Msg),
    o ∈ (addLoop cfg env n l).out → ∃ r, o.2 = .payloadQuery r := by
  intro l n o
  fun_induction addLoop cfg env n l with
  | case3 n tx pl rest _ n1 out1 hadd _ ih =>
    intro h
    rcases List.mem_append.mp h with h | h
    · exact ⟨_, addTx_out cfg env n tx pl o (hadd ▸ h)⟩
    · exact ih h
  | case4 _ _ _ _ _ _ _ _ ih => exact ih
  | _ => exact nofun

theorem retryOut_out (env : Env) (n : Node) (txs : List Tx) (o : Nat × Msg) (h : o ∈ retryOut env n txs) :
    ∃ r, o.2 = .payloadQuery r := by
  unfold retryOut at h
  simp only [List.mem_flatMap] at h
  obtain ⟨t, _, ht⟩ := h
  exact ⟨_, privateRetry_out _ _ _ _ ht⟩

theorem getTx_mem {d : List Tx} {r : Ref} {t : Tx} (h : getTx d r = some t) : t ∈ d :=
  List.mem_of_find?_eq_some h

theorem getTx_ref {d : List Tx} {r : Ref} {t : Tx} (h : getTx d r = some t) : t.ref = r := by
  have := List.find?_some h
  simpa using this

theorem findBetween_mem {d : List Tx} {a b : Nat} {t : Tx} (h : t ∈ findBetween d a b) : t ∈ d := by
  unfold findBetween at h
  have := (sortBy_perm txLt _).mem_iff.mp h
  exact (List.mem_filter.mp this).1

theorem collect_elems (n : Node) : ∀ (l : List Tx) (r : List NetTx), collect n l = some r →
    ∀ e ∈ r, ∃ t ∈ l, e.tx = some t ∧
      ((t.pal = [] ∧ e.payload = readPayload n t.payloadHash ∧ e.payload.isSome) ∨ (t.pal ≠ [] ∧ e.payload = none)) := by
  intro l
  fun_induction collect n l with
  | case1 => intro r h e he; cases h; cases he
  | case2 => exact nofun
  | case3 t ts hp p hrp ih =>
    intro r h e he
    obtain ⟨r', hc, rfl⟩ := Option.map_eq_some_iff.mp h
    rcases List.mem_cons.mp he with rfl | he'
    · exact ⟨t, List.mem_cons_self, rfl, .inl ⟨by simpa using hp, by simp [hrp], rfl⟩⟩
    · exact (ih r' hc e he').imp fun _ h => ⟨List.mem_cons_of_mem _ h.1, h.2⟩
  | case4 t ts hp ih =>
    intro r h e he
    obtain ⟨r', hc, rfl⟩ := Option.map_eq_some_iff.mp h
    rcases List.mem_cons.mp he with rfl | he'
    · exact ⟨t, List.mem_cons_self, rfl, .inr ⟨by simpa using hp, rfl⟩⟩
    · exact (ih r' hc e he').imp fun _ h => ⟨List.mem_cons_of_mem _ h.1, h.2⟩

/-- same DAG, payload store, gossip queues and connection list; the conversation bookkeeping (like every other field) is not compared -/
def ConvOnly (n n' : Node) : Prop := n'.dag = n.dag ∧ n'.payloads = n.payloads ∧ n'.queues = n.queues ∧ n'.peers = n.peers

theorem ConvOnly.refl (n : Node) : ConvOnly n n := ⟨rfl, rfl, rfl, rfl⟩

theorem ConvOnly.trans {a b c : Node} (h1 : ConvOnly a b) (h2 : ConvOnly b c) : ConvOnly a c :=
  ⟨h2.1.trans h1.1, h2.2.1.trans h1.2.1, h2.2.2.1.trans h1.2.2.1, h2.2.2.2.trans h1.2.2.2⟩

theorem sendRequest_convOnly (cfg : Cfg) (n : Node) (peer : Nat) (data : ConvData) (mk : Cid → Msg) :
    ConvOnly n (sendRequest cfg n peer data mk).node := by
  unfold sendRequest
  fun_cases startConversation cfg n peer data with
  | case1 => exact .refl n
  | case2 => dsimp only; split <;> exact ⟨rfl, rfl, rfl, rfl⟩

@[simp] theorem sendRequest_dag (cfg : Cfg) (n : Node) (peer : Nat) (data : ConvData) (mk : Cid → Msg) :
    (sendRequest cfg n peer data mk).node.dag = n.dag := (sendRequest_convOnly cfg n peer data mk).1

@[simp] theorem sendRequest_payloads (cfg : Cfg) (n : Node) (peer : Nat) (data : ConvData) (mk : Cid → Msg) :
    (sendRequest cfg n peer data mk).node.payloads = n.payloads := (sendRequest_convOnly cfg n peer data mk).2.1

@[simp] theorem convDone_dag (n : Node) (cid : Cid) : (convDone n cid).dag = n.dag := rfl
@[simp] theorem resetTimeout_dag (cfg : Cfg) (n : Node) (cid : Cid) : (resetTimeout cfg n cid).dag = n.dag := rfl
@[simp] theorem gossipReceived_dag (cfg : Cfg) (n : Node) (p : Nat) (r : List Ref) : (gossipReceived cfg n p r).dag = n.dag := rfl
@[simp] theorem transactionRegistered_dag (cfg : Cfg) (n : Node) (r : Ref) : (transactionRegistered cfg n r).dag = n.dag := rfl
@[simp] theorem evict_dag (n : Node) : (evict n).dag = n.dag := rfl

theorem sendRequest_req (cfg : Cfg) (n : Node) (peer : Nat) (data : ConvData) (mk : Cid → Msg)
    (hmk : ∀ c, isRequest (mk c) = true) (o : Nat × Msg) (h : o ∈ (sendRequest cfg n peer data mk).out) :
    isRequest o.2 = true := by
  obtain ⟨cid, rfl⟩ := sendRequest_out cfg n peer data mk o h
  exact hmk cid

theorem pq_req {o : Nat × Msg} (h : ∃ r, o.2 = .payloadQuery r) : isRequest o.2 = true := by
  obtain ⟨r, h⟩ := h; rw [h]; rfl

/-- a valid DAG, newest first: every transaction has a good signature verdict, is new, has all its prevs before it,
    carries the right clock, and there is at most one root -/
inductive DagOK : List Tx → Prop where
  | nil : DagOK []
  | cons (tx : Tx) (d : List Tx) : DagOK d → tx.sigOK = true → present d tx.ref = false →
      (∀ p ∈ tx.prevs, present d p = true) → tx.clock = expectedClock d tx.prevs →
      (tx.prevs = [] → ∀ t ∈ d, t.clock ≠ 0) → DagOK (tx :: d)

theorem addCheck_added {d : List Tx} {tx : Tx} {pl : Option Payload} (h : addCheck d tx pl = .added) :
    tx.sigOK = true ∧ present d tx.ref = false ∧ (∀ p ∈ tx.prevs, present d p = true) ∧
    tx.clock = expectedClock d tx.prevs ∧ (tx.prevs = [] → ∀ t ∈ d, t.clock ≠ 0) ∧
    (∀ p, pl = some p → p.sha = tx.payloadHash) := by
  revert h
  fun_cases addCheck d tx pl with
  | case7 h1 h2 h3 h4 h5 h6 =>
    refine fun _ => ⟨by simpa using h4, by simpa using h1, ?_, by simpa using h3, ?_, ?_⟩
    · intro p hp
      simp only [Bool.not_eq_eq_eq_not, Bool.not_true, Bool.not_eq_false] at h2
      exact List.all_eq_true.mp h2 p hp
    · intro he t ht hc
      apply h6
      simp only [Bool.and_eq_true, List.isEmpty_iff, List.any_eq_true]
      exact ⟨he, t, ht, by simpa using hc⟩
    · intro p hp
      subst hp
      simpa [payloadMismatch] using h5
  | _ => exact nofun

theorem addCheck_added_iff {d : List Tx} {tx : Tx} {pl : Option Payload} :
    addCheck d tx pl = .added ↔
    tx.sigOK = true ∧ present d tx.ref = false ∧ (∀ p ∈ tx.prevs, present d p = true) ∧
    tx.clock = expectedClock d tx.prevs ∧ (tx.prevs = [] → ∀ t ∈ d, t.clock ≠ 0) ∧
    (∀ p, pl = some p → p.sha = tx.payloadHash) := by
  refine ⟨addCheck_added, fun ⟨h1, h2, h3, h4, h5, h6⟩ => ?_⟩
  have h3' : tx.prevs.all (present d) = true := List.all_eq_true.mpr h3
  have h5' : (tx.prevs.isEmpty && d.any (fun t => t.clock == 0)) = false := by
    cases hp : tx.prevs with
    | nil => simpa using h5 hp
    | cons _ _ => rfl
  have h6' : payloadMismatch pl tx = false := by
    cases pl with
    | none => rfl
    | some p => simp [payloadMismatch, h6 p rfl]
  unfold addCheck
  simp [h1, h2, h3', ← h4, h5', h6']

theorem addTx_cases (cfg : Cfg) (env : Env) (n : Node) (tx : Tx) (pl : Option Payload) :
    ((addTx cfg env n tx pl).2.2 = .added ∧ addCheck n.dag tx pl = .added ∧ (addTx cfg env n tx pl).1 = commitTx cfg n tx pl) ∨
    ((addTx cfg env n tx pl).2.2 ≠ .added ∧ (addTx cfg env n tx pl).1 = n ∧ (addTx cfg env n tx pl).2.2 = addCheck n.dag tx pl) := by
  unfold addTx
  split
  · rename_i h; exact Or.inl ⟨rfl, h, rfl⟩
  · rename_i r h; exact Or.inr ⟨by simpa using h, rfl, rfl⟩

@[simp] theorem commitTx_dag (cfg : Cfg) (n : Node) (tx : Tx) (pl : Option Payload) : (commitTx cfg n tx pl).dag = tx :: n.dag := rfl

theorem dagOK_commit (cfg : Cfg) (n : Node) (tx : Tx) (pl : Option Payload) (h : DagOK n.dag) (ha : addCheck n.dag tx pl = .added) :
    DagOK (commitTx cfg n tx pl).dag := by
  obtain ⟨h1, h2, h3, h4, h5, _⟩ := addCheck_added ha
  exact DagOK.cons tx n.dag h h1 h2 h3 h4 h5

theorem addLoop_cons (cfg : Cfg) (env : Env) (n : Node) (tx : Tx) (pl : Option Payload) (rest : List (Tx × Option Payload)) :
    addLoop cfg env n ((tx, pl) :: rest) =
      if tx.pal.isEmpty && payloadEmpty pl then { node := n, res := .noPayload }
      else match addCheck n.dag tx pl with
        | .added =>
          { addLoop cfg env (commitTx cfg n tx pl) rest with
            out := notifyPrivate env (commitTx cfg n tx pl) tx ++ (addLoop cfg env (commitTx cfg n tx pl) rest).out,
            retry := (if needsRetry env (commitTx cfg n tx pl) tx then [tx] else []) ++ (addLoop cfg env (commitTx cfg n tx pl) rest).retry }
        | .present => addLoop cfg env n rest
        | .prevMissing => { node := n, res := .prevMissing }
        | r => { node := n, res := .addErr r } := by
  rw [addLoop]
  split
  · rfl
  · unfold addTx
    cases addCheck n.dag tx pl <;> rfl

theorem addLoop_cons_node (cfg : Cfg) (env : Env) (n : Node) (tx : Tx) (pl : Option Payload) (rest : List (Tx × Option Payload)) :
    (addLoop cfg env n ((tx, pl) :: rest)).node = n ∨
    (addLoop cfg env n ((tx, pl) :: rest)).node = (addLoop cfg env n rest).node ∨
    (addCheck n.dag tx pl = .added ∧ (tx.pal.isEmpty && payloadEmpty pl) = false ∧
      (addLoop cfg env n ((tx, pl) :: rest)).node = (addLoop cfg env (commitTx cfg n tx pl) rest).node) := by
  rw [addLoop_cons]
  split
  · exact .inl rfl
  · rename_i hnp
    cases hc : addCheck n.dag tx pl with
    | added => exact .inr (.inr ⟨rfl, by simpa using hnp, rfl⟩)
    | present => exact .inr (.inl rfl)
    | _ => exact .inl rfl

def Grew (P : Tx → Prop) (d d' : List Tx) : Prop := ∃ added, d' = added ++ d ∧ ∀ t ∈ added, P t

theorem Grew.refl (P : Tx → Prop) (d : List Tx) : Grew P d d := ⟨[], rfl, fun _ h => nomatch h⟩

theorem Grew.trans {P : Tx → Prop} {d d₁ d₂ : List Tx} : Grew P d d₁ → Grew P d₁ d₂ → Grew P d d₂
  | ⟨a₁, e₁, m₁⟩, ⟨a₂, e₂, m₂⟩ =>
    ⟨a₂ ++ a₁, by rw [e₂, e₁, List.append_assoc], fun t ht => (List.mem_append.mp ht).elim (m₂ t) (m₁ t)⟩

theorem Grew.mono {P Q : Tx → Prop} {d d' : List Tx} : Grew P d d' → (∀ t, P t → Q t) → Grew Q d d'
  | ⟨a, e, m⟩, hPQ => ⟨a, e, fun t ht => hPQ t (m t ht)⟩

theorem addLoop_dag (cfg : Cfg) (env : Env) : ∀ (l : List (Tx × Option Payload)) (n : Node), DagOK n.dag →
    DagOK (addLoop cfg env n l).node.dag ∧
    Grew (fun t => t.sigOK = true ∧ ∃ x ∈ l, x.1 = t) n.dag (addLoop cfg env n l).node.dag := by
  intro l
  induction l with
  | nil => intro n h; exact ⟨h, .refl _ _⟩
  | cons x xs ih =>
    intro n h
    obtain ⟨tx, pl⟩ := x
    have tail : ∀ {d d'}, Grew (fun t => t.sigOK = true ∧ ∃ x ∈ xs, x.1 = t) d d' →
        Grew (fun t => t.sigOK = true ∧ ∃ x ∈ (tx, pl) :: xs, x.1 = t) d d' :=
      fun g => g.mono fun _ ⟨s, y, hy, e⟩ => ⟨s, y, List.mem_cons_of_mem _ hy, e⟩
    rcases addLoop_cons_node cfg env n tx pl xs with hn | hn | ⟨hc, _, hn⟩ <;> rw [hn]
    · exact ⟨h, .refl _ _⟩
    · exact (ih n h).imp_right tail
    · exact (ih _ (dagOK_commit cfg n tx pl h hc)).imp_right fun g => .trans
        ⟨[tx], rfl, fun _ ht => (List.mem_singleton.mp ht).symm ▸ ⟨(addCheck_added hc).1, _, List.mem_cons_self, rfl⟩⟩ (tail g)

def msgTxs : Msg → List Tx
  | .txList _ _ _ txs => txs.filterMap (·.tx)
  | _ => []

def wireOf (x : Tx × Option Payload) : NetTx := { tx := some x.1, payload := x.2 }

theorem parseAll_wire : ∀ ps : List (Tx × Option Payload), parseAll (ps.map wireOf) = some ps
  | [] => rfl
  | x :: ps => by simp [parseAll, wireOf, parseAll_wire ps]

theorem parseAll_eq_some : ∀ {txs : List NetTx} {ps : List (Tx × Option Payload)}, parseAll txs = some ps → txs = ps.map wireOf
  | [], ps, h => by cases Option.some.inj h; rfl
  | t :: ts, ps, h => by
    unfold parseAll at h
    split at h
    · cases h
    · rename_i y hy
      obtain ⟨ps', hp, rfl⟩ := Option.map_eq_some_iff.mp h
      rw [List.map_cons, ← parseAll_eq_some hp]
      cases t; cases hy; rfl

def OrderSub (env : Env) : Prop := ∀ l t, t ∈ env.order l → t ∈ l

/-- what a handler does to the node before the conversation bookkeeping: nothing, or it logs the gossiped refs, or it runs
    `addLoop` over a TransactionList whose conversation check passed, or it stores a (non-empty) payload -/
inductive Core (cfg : Cfg) (env : Env) (n : Node) (peer : Peer) : Msg → Node → Prop
  | same (m : Msg) : Core cfg env n peer m n
  | logged (x : Ref) (lc : Nat) (refs : List Ref) : Core cfg env n peer (.gossip x lc refs) (gossipReceived cfg n peer.key refs)
  | added (cid : Cid) (num total : Nat) (txs : List NetTx) (ps : List (Tx × Option Payload)) :
      convCheck n cid (.txList cid num total txs) = none → parseAll txs = some ps →
      Core cfg env n peer (.txList cid num total txs) (addLoop cfg env n ps).node
  | stored (ref : Ref) (d : Option Payload) (p : Payload) : (p.len == 0) = false →
      Core cfg env n peer (.payload ref d) { n with payloads := Nuts.alPut n.payloads p.sha p }

/-- what a handler sends: a request, a list collected from the node's own transactions (for a list query provided the
    ordering oracle invents none), or the answer to a payload query -/
inductive Sent (cfg : Cfg) (env : Env) (n : Node) (peer : Peer) : Msg → Nat × Msg → Prop
  | request (m : Msg) (o : Nat × Msg) : isRequest o.2 = true → Sent cfg env n peer m o
  | reply (m : Msg) (o : Nat × Msg) (cid : Cid) (l : List Tx) (r : List NetTx) : (OrderSub env → ∀ t ∈ l, t ∈ n.dag) →
      collect n l = some r → o ∈ sendTransactionList cfg peer.key cid r → Sent cfg env n peer m o
  | refused (ref : Ref) : Sent cfg env n peer (.payloadQuery ref) (peer.key, .payload ref none)
  | released (ref : Ref) (tx : Tx) (p : Payload) : getTx n.dag ref = some tx → readPayload n tx.payloadHash = some p →
      (tx.pal ≠ [] → peer.authenticated = true ∧ ∃ dids, decryptPAL env n tx.pal = .pal dids ∧ peer.did ∈ dids) →
      Sent cfg env n peer (.payloadQuery ref) (peer.key, .payload ref (some p))

/-- **what a handler does**: the result `r` of handling `m` is the old node after one `Core` update, up to the conversation
    bookkeeping, and everything it sends is `Sent`. Facts about handlers are read off this, by cases on `Core` and `Sent`,
    without unfolding a handler or splitting on the message kind again. -/
def Does (cfg : Cfg) (env : Env) (n : Node) (peer : Peer) (m : Msg) (r : HR) : Prop :=
  ∃ n1, Core cfg env n peer m n1 ∧ ConvOnly n1 r.node ∧ ∀ o ∈ r.out, Sent cfg env n peer m o

section
variable {cfg : Cfg} {env : Env} {n : Node} {peer : Peer} {m : Msg} {r : HR}

theorem Does.conv (h : ConvOnly n r.node) (ho : ∀ o ∈ r.out, Sent cfg env n peer m o) : Does cfg env n peer m r :=
  ⟨n, .same m, h, ho⟩

theorem Does.quiet (h : ConvOnly n r.node) (ho : r.out = []) : Does cfg env n peer m r :=
  .conv h fun o h => by rw [ho] at h; cases h

theorem Does.send {n1 : Node} (hc : Core cfg env n peer m n1) {n2 : Node} (h : ConvOnly n1 n2) (key : Nat) (data : ConvData)
    (mk : Cid → Msg) (hmk : ∀ c, isRequest (mk c) = true) : Does cfg env n peer m (sendRequest cfg n2 key data mk) :=
  ⟨n1, hc, h.trans (sendRequest_convOnly ..), fun o ho => .request m o (sendRequest_req _ _ _ _ _ hmk o ho)⟩

end

theorem handleGossip_spec (cfg : Cfg) (env : Env) (n : Node) (peer : Peer) (x : Ref) (lc : Nat) (refs : List Ref) :
    Does cfg env n peer (.gossip x lc refs) (handleGossip cfg n peer x lc refs) := by
  have hn1 : Core cfg env n peer (.gossip x lc refs) (if refs.isEmpty then n else gossipReceived cfg n peer.key refs) := by
    split
    · exact .same _
    · exact .logged x lc refs
  fun_cases handleGossip cfg n peer x lc refs with
  | case1 => exact .quiet (.refl n) rfl
  | _ => exact .send hn1 (.refl _) _ _ _ (fun _ => rfl)

theorem handleState_spec (cfg : Cfg) (env : Env) (n : Node) (peer : Peer) (cid : Cid) (x : Ref) (lc : Nat) :
    Does cfg env n peer (.state cid x lc) (handleState cfg n peer cid x lc) := by
  unfold handleState
  split
  · exact .quiet (.refl n) rfl
  · exact .conv (.refl n) fun o h => .request _ o (List.mem_singleton.mp h ▸ rfl)

theorem handleTransactionSet_spec (cfg : Cfg) (env : Env) (n : Node) (peer : Peer) (cid : Cid) (a b : Nat) (i : IbltV) :
    Does cfg env n peer (.txSet cid a b i) (handleTransactionSet cfg env n peer cid a b i) := by
  have hcd : ConvOnly n (convDone n cid) := ⟨rfl, rfl, rfl, rfl⟩
  fun_cases handleTransactionSet cfg env n peer cid a b i with
  | case1 => exact .quiet (.refl n) rfl
  | case2 | case8 => exact .quiet hcd rfl
  | _ => exact .send (.same _) hcd _ _ _ (fun _ => rfl)

theorem handleTransactionList_spec (cfg : Cfg) (env : Env) (n : Node) (peer : Peer) (cid : Cid) (num total : Nat) (txs : List NetTx) :
    Does cfg env n peer (.txList cid num total txs) (handleTransactionList cfg env n peer cid num total txs) := by
  unfold handleTransactionList
  split
  · exact .quiet (.refl n) rfl
  · rename_i hcheck
    split
    · exact .quiet (.refl n) rfl
    · rename_i ps hps
      have hc : Core cfg env n peer _ _ := .added cid num total txs ps hcheck hps
      have hout : ∀ o ∈ (addLoop cfg env n ps).out, Sent cfg env n peer (.txList cid num total txs) o :=
        fun o ho => .request _ o (pq_req (addLoop_out cfg env ps n o ho))
      simp only
      split
      · exact ⟨_, hc, by split <;> exact ⟨rfl, rfl, rfl, rfl⟩, hout⟩
      · exact ⟨_, hc, .refl _, hout⟩
      · exact ⟨_, hc, .trans (b := convDone (addLoop cfg env n ps).node cid) ⟨rfl, rfl, rfl, rfl⟩ (sendRequest_convOnly ..),
          fun o ho => (List.mem_append.mp ho).elim (hout o) fun h => .request _ o (sendRequest_req _ _ _ _ _ (fun _ => rfl) o h)⟩
      · exact ⟨_, hc, .refl _, hout⟩

theorem handleTransactionList_accepted (cfg : Cfg) (env : Env) (n : Node) (peer : Peer) (cid : Cid) (num total : Nat)
    (txs : List NetTx) (ps : List (Tx × Option Payload)) (hc : convCheck n cid (.txList cid num total txs) = none)
    (hp : parseAll txs = some ps) {l : LoopOut} (hl : addLoop cfg env n ps = l) :
    handle cfg env n peer (.txList cid num total txs) =
      (match l.res with
        | .finished => { node := if num ≥ total then convDone l.node cid else resetTimeout cfg l.node cid, out := l.out, retry := l.retry }
        | .noPayload => { node := l.node, out := l.out, ret := "err:no-payload", retry := l.retry }
        | .prevMissing =>
          { sendState cfg (convDone l.node cid) peer.key (xorOf l.node.dag) (lcOf l.node.dag) with
            out := l.out ++ (sendState cfg (convDone l.node cid) peer.key (xorOf l.node.dag) (lcOf l.node.dag)).out, retry := l.retry }
        | .addErr e => { node := l.node, out := l.out, ret := e.cls, retry := l.retry }) := by
  subst hl
  simp only [handle]
  unfold handleTransactionList
  rw [hc]; simp only
  rw [hp]
  rfl

theorem handleListQuery_node (cfg : Cfg) (env : Env) (n : Node) (peer : Peer) (cid : Cid) (refs : List Ref) :
    (handleTransactionListQuery cfg env n peer cid refs).node = n := by
  fun_cases handleTransactionListQuery cfg env n peer cid refs <;> rfl

theorem handleRangeQuery_node (cfg : Cfg) (n : Node) (peer : Peer) (cid : Cid) (a b : Nat) :
    (handleTransactionRangeQuery cfg n peer cid a b).node = n := by
  fun_cases handleTransactionRangeQuery cfg n peer cid a b <;> rfl

theorem handlePayloadQuery_node (env : Env) (n : Node) (peer : Peer) (ref : Ref) :
    (handleTransactionPayloadQuery env n peer ref).node = n := by
  fun_cases handleTransactionPayloadQuery env n peer ref with
  | case6 | case7 => dsimp +zetaDelta only; split <;> rfl
  | _ => rfl

theorem handleListQuery_spec (cfg : Cfg) (env : Env) (n : Node) (peer : Peer) (cid : Cid) (refs : List Ref) :
    Does cfg env n peer (.listQuery cid refs) (handleTransactionListQuery cfg env n peer cid refs) := by
  unfold handleTransactionListQuery
  split
  · exact .quiet (.refl n) rfl
  · split
    · exact .quiet (.refl n) rfl
    · rename_i l hc
      refine .conv (.refl n) fun o h => .reply _ o cid _ l (fun hord t ht => ?_) hc h
      obtain ⟨_, _, hr⟩ := List.mem_filterMap.mp (hord _ _ ht)
      exact getTx_mem hr

theorem handleRangeQuery_spec (cfg : Cfg) (env : Env) (n : Node) (peer : Peer) (cid : Cid) (a b : Nat) :
    Does cfg env n peer (.rangeQuery cid a b) (handleTransactionRangeQuery cfg n peer cid a b) := by
  unfold handleTransactionRangeQuery
  split
  · exact .quiet (.refl n) rfl
  · simp only
    split
    · exact .quiet (.refl n) rfl
    · rename_i l hc
      exact .conv (.refl n) fun o h => .reply _ o cid _ l (fun _ t ht => findBetween_mem ht) hc h

theorem payloadQuery_release (env : Env) (n : Node) (peer : Peer) (ref : Ref) (o : Nat × Msg)
    (h : o ∈ (handleTransactionPayloadQuery env n peer ref).out) :
    o = (peer.key, .payload ref none) ∨
    ∃ tx p, getTx n.dag ref = some tx ∧ readPayload n tx.payloadHash = some p ∧ o = (peer.key, .payload ref (some p)) ∧
      (tx.pal ≠ [] → peer.authenticated = true ∧ ∃ dids, decryptPAL env n tx.pal = .pal dids ∧ peer.did ∈ dids) := by
  have hr : ∀ tx : Tx, o ∈ (match readPayload n tx.payloadHash with
        | none => ({ node := n, ret := "err:payload-not-found" } : HR)
        | some p => { node := n, out := [(peer.key, .payload ref (some p))] }).out →
      ∃ p, readPayload n tx.payloadHash = some p ∧ o = (peer.key, .payload ref (some p)) := by
    intro tx ho
    split at ho
    · cases ho
    · exact ⟨_, ‹_›, List.mem_singleton.mp ho⟩
  revert h
  fun_cases handleTransactionPayloadQuery env n peer ref with
  | case6 tx htx _ _ hauth dids hdec hmem =>
    exact fun h => have ⟨p, hp, ho⟩ := hr tx h
      .inr ⟨tx, p, htx, hp, ho, fun _ => ⟨by simpa using hauth, dids, hdec, by simpa using hmem⟩⟩
  | case7 tx htx _ hpal =>
    exact fun h => have ⟨p, hp, ho⟩ := hr tx h
      .inr ⟨tx, p, htx, hp, ho, fun hne => absurd (by simpa using hpal) hne⟩
  | _ => exact fun h => .inl (List.mem_singleton.mp h)

theorem handlePayloadQuery_spec (cfg : Cfg) (env : Env) (n : Node) (peer : Peer) (ref : Ref) :
    Does cfg env n peer (.payloadQuery ref) (handleTransactionPayloadQuery env n peer ref) := by
  refine .conv (by rw [handlePayloadQuery_node]; exact .refl n) fun o h => ?_
  rcases payloadQuery_release env n peer ref o h with rfl | ⟨tx, p, h1, h2, rfl, h3⟩
  · exact .refused ref
  · exact .released ref tx p h1 h2 h3

theorem payload_out_nil (n : Node) (ref : Ref) (data : Option Payload) : (handleTransactionPayload n ref data).out = [] := by
  fun_cases handleTransactionPayload n ref data <;> rfl

theorem handlePayload_spec (cfg : Cfg) (env : Env) (n : Node) (peer : Peer) (ref : Ref) (data : Option Payload) :
    Does cfg env n peer (.payload ref data) (handleTransactionPayload n ref data) := by
  fun_cases handleTransactionPayload n ref data with
  | case6 _ p hlen => exact ⟨_, .stored ref _ p (by simpa using hlen), .refl _, fun _ h => nomatch h⟩
  | _ => exact .quiet (.refl n) rfl

theorem handle_spec (cfg : Cfg) (env : Env) (n : Node) (peer : Peer) (m : Msg) :
    Does cfg env n peer m (handle cfg env n peer m) := by
  cases m with
  | gossip x lc refs => exact handleGossip_spec cfg env n peer x lc refs
  | state cid x lc => exact handleState_spec cfg env n peer cid x lc
  | txSet cid a b i => exact handleTransactionSet_spec cfg env n peer cid a b i
  | listQuery cid refs => exact handleListQuery_spec cfg env n peer cid refs
  | rangeQuery cid a b => exact handleRangeQuery_spec cfg env n peer cid a b
  | txList cid num total txs => exact handleTransactionList_spec cfg env n peer cid num total txs
  | payloadQuery ref => exact handlePayloadQuery_spec cfg env n peer ref
  | payload ref data => exact handlePayload_spec cfg env n peer ref data
  | diagnostics => exact Does.quiet (.refl n) rfl
  | unsupported => exact Does.quiet (.refl n) rfl

/-- **the only way a DAG changes**: a TransactionList whose conversation check passed; what is added is a list of
    transactions of that message with a good signature verdict, and the result is a valid DAG -/
theorem handle_dag (cfg : Cfg) (env : Env) (n : Node) (peer : Peer) (m : Msg) (h : DagOK n.dag) :
    DagOK (handle cfg env n peer m).node.dag ∧
    Grew (fun t => t.sigOK = true ∧ t ∈ msgTxs m) n.dag (handle cfg env n peer m).node.dag ∧
    ((handle cfg env n peer m).node.dag ≠ n.dag →
      ∃ cid num total txs, m = .txList cid num total txs ∧ convCheck n cid m = none) := by
  obtain ⟨n1, hcore, hco, _⟩ := handle_spec cfg env n peer m
  rw [hco.1]
  cases hcore with
  | added cid num total txs ps hchk hps =>
    obtain ⟨ok, g⟩ := addLoop_dag cfg env ps n h
    exact ⟨ok, g.mono fun t ⟨s, x, hx, hx2⟩ => ⟨s, List.mem_filterMap.mpr
      ⟨wireOf x, parseAll_eq_some hps ▸ List.mem_map_of_mem hx, congrArg some hx2⟩⟩, fun _ => ⟨cid, num, total, txs, rfl, hchk⟩⟩
  | _ => exact ⟨h, .refl _ _, fun hne => absurd rfl hne⟩

/-- stale, duplicated, unsolicited or conversation-mismatching responses change NOTHING in the node -/
theorem rejected_response_noop (cfg : Cfg) (env : Env) (n : Node) (peer : Peer) (cid : Cid) :
    (∀ num total txs, convCheck n cid (.txList cid num total txs) ≠ none →
        (handle cfg env n peer (.txList cid num total txs)).node = n ∧ (handle cfg env n peer (.txList cid num total txs)).out = []) ∧
    (∀ lcReq lc iblt, convCheck n cid (.txSet cid lcReq lc iblt) ≠ none →
        (handle cfg env n peer (.txSet cid lcReq lc iblt)).node = n ∧ (handle cfg env n peer (.txSet cid lcReq lc iblt)).out = []) := by
  constructor
  · intro num total txs hc
    simp only [handle]
    unfold handleTransactionList
    split
    · exact ⟨rfl, rfl⟩
    · rename_i hnone; exact absurd hnone hc
  · intro lcReq lc iblt hc
    simp only [handle]
    unfold handleTransactionSet
    split
    · exact ⟨rfl, rfl⟩
    · rename_i hnone; exact absurd hnone hc


theorem request_no_txs {m : Msg} (h : isRequest m = true) : msgTxs m = [] := by
  cases m <;> simp [isRequest] at h <;> rfl

theorem handle_out_txs (cfg : Cfg) (env : Env) (n : Node) (peer : Peer) (m : Msg) (hord : OrderSub env)
    (o : Nat × Msg) (ho : o ∈ (handle cfg env n peer m).out) (t : Tx) (ht : t ∈ msgTxs o.2) : t ∈ n.dag := by
  obtain ⟨_, _, _, hout⟩ := handle_spec cfg env n peer m
  cases hout o ho with
  | request _ _ h => rw [request_no_txs h] at ht; cases ht
  | refused => cases ht
  | released => cases ht
  | reply _ _ cid l r hl hc hso =>
    obtain ⟨_, k, total, c, heq, hsub⟩ := sendTransactionList_mem cfg peer.key cid r o hso
    rw [heq] at ht
    simp only [msgTxs, List.mem_filterMap] at ht
    obtain ⟨e, he, het⟩ := ht
    obtain ⟨t', ht', hte, _⟩ := collect_elems n l r hc e (hsub e he)
    rw [hte] at het
    cases het
    exact hl hord _ ht'

end Nuts.Proto.L
