/-
  C08 — `tree.DropLeaves`: every lowest branch becomes a leaf of the doubled page, so a page-filtered sum over the new
  leaves is the old one with the filter read on `p / 2`; the root data does not change.
-/
import NutsProofs.Lemmas.C08Tree
import NutsModel.C08.Drop

namespace Nuts.C08

variable {R G : Type}

theorem mul_two_mul (ls x : Nat) : ls * (2 * x) = 2 * ls * x := by rw [← Nat.mul_assoc, Nat.mul_comm ls 2]

theorem dropLeaves_branch (s l : Nat) (d : G) (sL lL : Nat) (dL : G) (a b right : Node G) :
    (Node.branch s l d (.branch sL lL dL a b) right).dropLeaves =
      (match (Node.branch sL lL dL a b).dropLeaves with
       | .ok (l', d1, o1) =>
         (match right.dropLeaves with
          | .ok (r', d2, o2) => .ok (.branch s l d l' r', d1 ++ d2, o1 ++ o2)
          | .err e => .err e
          | .panic p => .panic p)
       | .err e => .err e
       | .panic p => .panic p) := by
  rw [Node.dropLeaves]
  generalize (Node.branch sL lL dL a b).dropLeaves = x
  generalize right.dropLeaves = y
  cases x with
  | ok v =>
    obtain ⟨l', d1, o1⟩ := v
    cases y with
    | ok w => obtain ⟨r', d2, o2⟩ := w; rfl
    | err e => rfl
    | panic p => rfl
  | err e => rfl
  | panic p => rfl

theorem drop_node {o : Ops R G} (L : Lawful o) {ls : Nat} (hls : 0 < ls) :
    ∀ (h a : Nat) (n : Node G), Geo ls (h + 1) (2 * a) n → Wf o n →
    ∃ n' dk ok, n.dropLeaves = .ok (n', dk, ok) ∧ Geo (2 * ls) h a n' ∧ Wf o n' ∧ n'.total o = n.total o ∧
      n'.data o = n.data o ∧
      ∀ q : Nat → Bool, fsum o (2 * ls) q n'.leaves = fsum o ls (fun p => q (p / 2)) n.leaves := by
  intro h
  induction h with
  | zero =>
    intro a n g w
    obtain ⟨d, left, right, rfl, gL, gR⟩ := g.succ_inv
    obtain ⟨dL, rfl⟩ := gL.zero_inv
    have hd : d = o.add dL (right.total o) := by simpa [Wf, Node.total] using w.1
    have hs : ls * (2 * a + 2 ^ 0) = 2 * ls * a + 2 * ls / 2 := by
      rw [Nat.mul_div_cancel_left _ (by omega : 0 < 2), Nat.pow_zero, Nat.mul_add, Nat.mul_one, mul_two_mul]
    refine ⟨.leaf _ _ d, [_], _, rfl, ?_, trivial, ?_, rfl, ?_⟩
    · simp only [Geo]
      refine ⟨hs, ?_⟩
      rw [show 2 * a + 2 ^ (0 + 1) = 2 * (a + 1) by simp only [Nat.pow_succ, Nat.pow_zero]; omega, mul_two_mul]
    · simp [Node.total, hd]
    · intro q
      simp only [Node.leaves]
      rw [fsum_single L, hs, key_page (by omega : 0 < 2 * ls), fsum_append L, fsum_single L, key_page hls,
        show 2 * a / 2 = a by omega, hd]
      rcases gR with rfl | gR
      · simp only [Node.leaves, Node.total, fsum_nil, L.add_zero]
      · obtain ⟨dR, rfl⟩ := gR.zero_inv
        simp only [Node.leaves, Node.total]
        rw [fsum_single L, key_page hls, show (2 * a + 2 ^ 0) / 2 = a by simp only [Nat.pow_zero]; omega]
        by_cases hq : q a = true
        · simp [hq]
        · simp [hq, L.add_zero]
  | succ h ih =>
    intro a n g w
    obtain ⟨d, left, right, rfl, gL, gR⟩ := g.succ_inv
    obtain ⟨wd, wL, wR⟩ := w
    obtain ⟨l', d1, o1, e1, g1, w1, t1, _, f1⟩ := ih a left gL wL
    obtain ⟨dL, lL', lR', rfl, _⟩ := gL.succ_inv
    have hpow : 2 * a + 2 ^ (h + 1) = 2 * (a + 2 ^ h) := by rw [Nat.pow_succ]; omega
    have hs : ls * (2 * a + 2 ^ (h + 1)) = 2 * ls * (a + 2 ^ h) := by rw [hpow, mul_two_mul]
    have hl : ls * (2 * a + 2 ^ (h + 1 + 1)) = 2 * ls * (a + 2 ^ (h + 1)) := by
      rw [show 2 * a + 2 ^ (h + 1 + 1) = 2 * (a + 2 ^ (h + 1)) by rw [Nat.pow_succ 2 (h + 1)]; omega, mul_two_mul]
    rcases gR with rfl | gR
    · refine ⟨.branch (ls * (2 * a + 2 ^ (h + 1))) (ls * (2 * a + 2 ^ (h + 1 + 1))) d l' .nil, d1 ++ [], o1 ++ [], ?_, ?_, ?_, ?_, rfl, ?_⟩
      · rw [dropLeaves_branch, e1]; rfl
      · unfold Geo; exact ⟨hs, hl, g1, Or.inl rfl⟩
      · exact ⟨by rw [wd, t1], w1, trivial⟩
      · simp [Node.total, t1]
      · intro q
        simp only [Node.leaves, List.append_nil] at f1 ⊢; exact f1 q
    · obtain ⟨r', d2, o2, e2, g2, w2, t2, _, f2⟩ := ih (a + 2 ^ h) right (hpow ▸ gR) wR
      refine ⟨.branch (ls * (2 * a + 2 ^ (h + 1))) (ls * (2 * a + 2 ^ (h + 1 + 1))) d l' r', d1 ++ d2, o1 ++ o2, ?_, ?_, ?_, ?_, rfl, ?_⟩
      · rw [dropLeaves_branch, e1, e2]
      · unfold Geo; exact ⟨hs, hl, g1, Or.inr g2⟩
      · exact ⟨by rw [wd, t1, t2], w1, w2⟩
      · simp [Node.total, t1, t2]
      · intro q
        simp only [Node.leaves] at f1 f2 ⊢
        rw [fsum_append L, fsum_append L, f1 q, f2 q]

theorem dropLeaves_tree {o : Ops R G} (L : Lawful o) (t : Tree G) (i : TInv o t) :
    (t.treeSize = t.leafSize → t.dropLeaves = .ok t) ∧
    (t.treeSize ≠ t.leafSize →
      ∃ t', t.dropLeaves = .ok t' ∧ TInv o t' ∧ t'.leafSize = 2 * t.leafSize ∧ t'.treeSize = t.treeSize ∧
        t'.rootData o = t.rootData o ∧
        (∀ q : Nat → Bool, fsum o (2 * t.leafSize) q t'.root.leaves = fsum o t.leafSize (fun p => q (p / 2)) t.root.leaves) ∧
        (∃ orph, t'.orphaned = t.orphaned ++ orph)) := by
  obtain ⟨h, g, hs⟩ := i.shape
  have hls := i.ls_pos
  cases h with
  | zero =>
    constructor
    · intro _
      cases hr : t.root with
      | nil => rw [hr] at g; simp [Geo] at g
      | branch _ _ _ _ _ => rw [hr] at g; simp [Geo] at g
      | leaf s l d => simp [Tree.dropLeaves, hr]
    · intro hne; simp at hs; exact absurd hs hne
  | succ h =>
    constructor
    · intro he
      rw [he] at hs
      have : 2 ^ (h + 1) = 1 := by
        have := Nat.eq_of_mul_eq_mul_left hls (by rw [Nat.mul_one]; exact hs : t.leafSize * 1 = t.leafSize * 2 ^ (h + 1))
        exact this.symm
      have h2 : 2 ^ (h + 1) ≥ 2 := by rw [Nat.pow_succ]; have := Nat.one_le_two_pow (n := h); omega
      omega
    · intro _
      have g' : Geo t.leafSize (h + 1) (2 * 0) t.root := g
      obtain ⟨n', dk, ok, e, gn, wn, tn, dn, fn⟩ := drop_node L hls h 0 t.root g' i.wf
      cases hr : t.root with
      | nil => rw [hr] at g; simp [Geo] at g
      | leaf _ _ _ => rw [hr] at g; simp [Geo] at g
      | branch s l d left right =>
        rw [hr] at g e dn fn
        have hl : left ≠ .nil := by
          simp only [Geo] at g
          exact g.2.2.1.ne_nil
        have hd : t.dropLeaves = .ok { t with root := n', dirty := dk, orphaned := t.orphaned ++ ok, leafSize := t.leafSize * 2 } := by
          unfold Tree.dropLeaves
          rw [hr]
          cases left with
          | nil => exact absurd rfl hl
          | leaf _ _ _ => simp only [e]
          | branch _ _ _ _ _ => simp only [e]
        refine ⟨_, hd, ⟨by simp only; omega, ⟨h, ?_, ?_⟩, wn⟩, by simp only; omega, rfl, ?_, ?_, ⟨ok, rfl⟩⟩
        · simp only; rw [Nat.mul_comm]; exact gn
        · simp only; rw [hs, Nat.pow_succ]; rw [Nat.mul_assoc, Nat.mul_comm 2]
        · simp only [Tree.rootData, hr]; exact dn
        · intro q; exact fn q

end Nuts.C08
