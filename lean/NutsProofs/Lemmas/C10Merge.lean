/-
  C10 — merge.go: a list built by ranging over a Go map has unique ids, so a field that is sorted afterwards does not depend on the
  map's iteration order.
-/
import NutsModel.C10.DidStore
import NutsProofs.Lemmas.Sort
import NutsProofs.Lemmas.Base

namespace Nuts.C10

def UniqIds (l : List Entry) : Prop := l.Pairwise (fun a b => a.id ≠ b.id)

theorem mapPut_mem {l : List Entry} {e x : Entry} (h : x ∈ mapPut l e) : x = e ∨ x ∈ l := by
  fun_induction mapPut l e with
  | case1 e => exact Or.inl (List.mem_singleton.mp h)
  | case2 y ys e heq => exact (List.mem_cons.mp h).imp_right (List.mem_cons_of_mem _)
  | case3 y ys e hne ih =>
    rcases List.mem_cons.mp h with rfl | h
    · exact Or.inr List.mem_cons_self
    · exact (ih h).imp_right (List.mem_cons_of_mem _)

theorem mapPut_uniq (l : List Entry) (e : Entry) (h : UniqIds l) : UniqIds (mapPut l e) := by
  fun_induction mapPut l e with
  | case1 e => exact List.pairwise_singleton ..
  | case2 y ys e heq => exact List.pairwise_cons.mpr ⟨fun z hz => heq ▸ List.rel_of_pairwise_cons h hz, h.of_cons⟩
  | case3 y ys e hne ih =>
    refine List.pairwise_cons.mpr ⟨fun z hz => ?_, ih h.of_cons⟩
    rcases mapPut_mem hz with rfl | hz
    · exact hne
    · exact List.rel_of_pairwise_cons h hz

theorem foldl_mapPut_uniq (l acc : List Entry) (h : UniqIds acc) : UniqIds (l.foldl mapPut acc) :=
  foldl_invariant _ _ l acc (fun a _ s hs => mapPut_uniq s a hs) h

theorem buildMap_uniq (l : List Entry) : UniqIds (buildMap l) :=
  foldl_mapPut_uniq l [] List.Pairwise.nil

theorem entryLt_asymm (a b : Entry) (h : entryLt a b = true) : entryLt b a = false :=
  decide_str_lt_asymm a.id b.id h

theorem entryLt_trans (a b c : Entry) (h₁ : entryLt b a = false) (h₂ : entryLt c b = false) : entryLt c a = false :=
  decide_str_le_trans a.id b.id c.id h₁ h₂

theorem mergeField_sorted_indep (σ₁ σ₂ : List Entry → List Entry)
    (h₁ : ∀ l, (σ₁ l).Perm l) (h₂ : ∀ l, (σ₂ l).Perm l) (a b : List Entry) :
    mergeField σ₁ true a b = mergeField σ₂ true a b := by
  unfold mergeField
  simp only [if_true]
  apply sortBy_eq_of_perm entryLt entryLt_asymm entryLt_trans ((h₁ _).trans (h₂ _).symm)
  intro x hx y hy hxy hyx
  have hu := buildMap_uniq (a ++ b)
  apply pairwise_ne_inj hu ((h₁ _).subset hx) ((h₁ _).subset hy)
  exact String.le_antisymm (of_decide_eq_false hyx) (of_decide_eq_false hxy)

end Nuts.C10
