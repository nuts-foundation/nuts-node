/-
  C02 — the server's own request objects (NutsModel/C02/ReqObj.lean): what a leg stores, `requestJWT` by cases, and that a
  freshly stored object is served to its tenant.
-/
import NutsModel.C02.ReqObj
import NutsProofs.Lemmas.C02Store

namespace Nuts.C02

theorem createJarRequest_vpflow (cfg : Cfg) (signer clientId audience subject nonce state : String) :
    let r := createJarRequest signer clientId audience (vpFlowModifier cfg subject nonce state)
    objGet r.claims "nonce" = some nonce ∧ objGet r.claims "state" = some state ∧
    objGet r.claims "response_type" = some "vp_token" ∧ objGet r.claims "response_mode" = some "direct_post" ∧
    objGet r.claims "client_id" = some clientId ∧ r.client = clientId := by
  simp only [createJarRequest, vpFlowModifier, putAll]
  have hne : ∀ a b : String, a ≠ b → ∀ (o : Obj) (v : String), objGet (objPut o a v) b = objGet o b :=
    fun a b h o v => objGet_objPut_ne o b a v h
  refine ⟨?_, ?_, ?_, ?_, ?_, trivial⟩
  · rw [hne "state" "nonce" (by decide), objGet_objPut_same]
  · rw [objGet_objPut_same]
  · rw [hne "state" "response_type" (by decide), hne "nonce" "response_type" (by decide),
      hne "response_mode" "response_type" (by decide), hne "response_uri" "response_type" (by decide),
      hne "client_id_scheme" "response_type" (by decide), objGet_objPut_same]
  · rw [hne "state" "response_mode" (by decide), hne "nonce" "response_mode" (by decide), objGet_objPut_same]
  · rw [hne "state" "client_id" (by decide), hne "nonce" "client_id" (by decide),
      hne "response_mode" "client_id" (by decide), hne "response_uri" "client_id" (by decide),
      hne "client_id_scheme" "client_id" (by decide), hne "response_type" "client_id" (by decide)]
    split
    · rw [hne "aud" "client_id" (by decide), objGet_objPut_same]
    · rw [objGet_objPut_same]

theorem withWallet_get (c : Obj) (wi wn : Option String) (k : String) (h1 : k ≠ "wallet_nonce") (h2 : k ≠ "aud") :
    objGet (withWalletIssuer (withWalletNonce c wn) wi) k = objGet c k := by
  have s1 : objGet (withWalletNonce c wn) k = objGet c k := by
    cases wn with
    | none => rfl
    | some n => exact objGet_objPut_ne c k "wallet_nonce" n (fun hx => h1 hx.symm)
  cases wi with
  | none => exact s1
  | some i =>
    show objGet (if i ≠ selfIssued then objPut (withWalletNonce c wn) "aud" i else withWalletNonce c wn) k = _
    by_cases hi : i ≠ selfIssued
    · rw [if_pos hi, objGet_objPut_ne _ k "aud" _ (fun hx => h2 hx.symm)]; exact s1
    · rw [if_neg hi]; exact s1

theorem requestJWT_cases (cfg : Cfg) (ro : Store JarReq) (now : Nat) (post : Bool) (id subject : String)
    (wi wn : Option String) (out : Store JarReq × Res Obj) (h : requestJWT cfg ro now post id subject wi wn = out) :
    (ro.get now id = none ∧ ∃ e, out = (ro, .err e)) ∨
    ∃ r, ro.get now id = some r ∧ out.1 = ro.del id ∧
      if r.client = cfg.issuerURL subject ∧ r.method = (if post then "post" else "get") then
        out.2 = .ok (if post then withWalletIssuer (withWalletNonce r.claims wn) wi else r.claims)
      else ∃ e, out.2 = .err e := by
  unfold requestJWT at h
  generalize hg : ro.getAndDelete now id = gd at h
  obtain ⟨o, s⟩ := gd
  cases o with
  | none =>
    obtain ⟨hget, rfl⟩ := Store.getAndDelete_none ro now id s hg
    exact .inl ⟨hget, _, h.symm⟩
  | some r =>
  obtain ⟨hget, rfl⟩ := Store.getAndDelete_some ro now id r s hg
  dsimp only at h
  rcases ite_eq_cases h with ⟨hcl, rfl⟩ | ⟨hcl, h⟩
  · exact .inr ⟨r, hget, rfl, by rw [if_neg fun hh => hcl hh.1]; exact ⟨_, rfl⟩⟩
  cases post with
  | false =>
    rcases ite_eq_cases ((if_pos rfl).symm.trans h) with ⟨hm, rfl⟩ | ⟨hm, rfl⟩
    · exact .inr ⟨r, hget, rfl, by rw [if_neg fun hh => hm hh.2]; exact ⟨_, rfl⟩⟩
    · exact .inr ⟨r, hget, rfl, by rw [if_pos ⟨Decidable.not_not.mp hcl, Decidable.not_not.mp hm⟩]; rfl⟩
  | true =>
    rcases ite_eq_cases ((if_neg nofun).symm.trans h) with ⟨hm, rfl⟩ | ⟨hm, rfl⟩
    · exact .inr ⟨r, hget, rfl, by rw [if_neg fun hh => hm hh.2]; exact ⟨_, rfl⟩⟩
    · exact .inr ⟨r, hget, rfl, by rw [if_pos ⟨Decidable.not_not.mp hcl, Decidable.not_not.mp hm⟩]; rfl⟩

theorem requestJWT_after_put (cfg : Cfg) (ro : Store JarReq) (now later : Nat) (id subject : String) (r0 : JarReq)
    (post : Bool) (wi wn : Option String) (httl : cfg.tokenValidity ≠ 0) (hin : later ≤ now + cfg.tokenValidity)
    (hcl : r0.client = cfg.issuerURL subject) (hm : r0.method = if post then "post" else "get") :
    ∃ claims, (requestJWT cfg (ro.put now cfg.tokenValidity id r0) later post id subject wi wn).2 = .ok claims ∧
      ∀ k, k ≠ "wallet_nonce" → k ≠ "aud" → objGet claims k = objGet r0.claims k := by
  have hget := Store.get_put_same ro now cfg.tokenValidity later id r0 httl
  rw [if_pos hin] at hget
  rcases requestJWT_cases cfg _ later post id subject wi wn _ rfl with ⟨hg, _⟩ | ⟨r, hg, _, hx⟩
  · cases hget.symm.trans hg
  cases hget.symm.trans hg
  rw [if_pos ⟨hcl, hm⟩] at hx
  refine ⟨_, hx, fun k h1 h2 => ?_⟩
  cases post
  · rfl
  · exact withWallet_get r0.claims wi wn k h1 h2

end Nuts.C02
