/-
  C05 — the two instances of `Proto.Inv`: at `burnP` at most one request obtains a burn-on-use secret, at `markP` two acceptances of
  one nonce are a TTL apart.  Each holds along a schedule when the consume step is atomic, or when the schedule does not separate the
  two calls of a non-atomic one (`NoSplit`, `NoSplitMark`).
-/
import NutsProofs.Lemmas.C05Proto

namespace Nuts.C05

/-- the consume step of GetAndDelete is atomic: one call, or two calls under the database mutex, or the Delete
    reports a key that is already gone and GetAndDelete passes that on -/
def AtomicBurn (cfg : Cfg) : Prop :=
  cfg.gad = .singleCall ∨ cfg.gad = .locked ∨ (cfg.gadRawDelete = true ∧ cfg.strictDelete = true)

def Thread.midBurn : Thread → Bool
  | .burn _ (.atDel _) _ => true
  | _ => false

/-- whenever a request is between the Get and the Delete of GetAndDelete, the next event is its own step -/
def NoSplit (cfg : Cfg) : World → List Ev → Prop
  | _, [] => True
  | w, ev :: rest =>
    (∀ (j : Nat) (t : Thread), w.ths[j]? = some t → t.midBurn = true → ev = .step j) ∧ NoSplit cfg (applyEv cfg w ev) rest

theorem midBurn_eq (t : Thread) (h : t.midBurn = true) : ∃ r v f, t = .burn r (.atDel v) f := by
  cases t with
  | burn r pc f =>
    cases pc with
    | atDel v => exact ⟨r, v, f, rfl⟩
    | _ => cases h
  | mark r pc f => cases h

/-- burn consumers: served = GetAndDelete handed the value out, which leaves the key absent; nobody else may be served for the
    key, ever (`Far` is `False`).  A request between Get and Delete counts as past its check unless the Delete reports a key
    that is already gone and GetAndDelete passes that on: then the Delete checks again. -/
def burnP (cfg : Cfg) : Proto where
  win t := if t.took then some 0 else none
  mid t := t.midBurn && !(cfg.gadRawDelete && cfg.strictDelete)
  Wit st _ k _ := (∃ b, k.ns = .burn b) ∧ stFind st k = none
  Far _ _ _ := False
  Mok _ := cfg.gad ≠ .singleCall

theorem burnP_laws (cfg : Cfg) : (burnP cfg).Laws cfg where
  mid_win t h := by
    simp only [burnP, Bool.and_eq_true] at h ⊢
    obtain ⟨r, v, f, rfl⟩ := midBurn_eq t h.1
    rfl
  init r := by cases r <;> exact ⟨rfl, rfl⟩
  wit_tick _ _ _ _ _ h := h
  far_tick _ _ _ _ h := h
  frame st now lock i t k f h := ⟨h.1, h.1.elim fun b hb => stepThread_absent cfg st now lock i t k b hb h.2⟩
  newWin st now lock i t f h := by
    cases t with
    | mark r pc f0 => cases h
    | burn r pc f0 =>
      have P := stepBurn_path cfg st now lock i r pc
      simp only [burnP, stepThread, Thread.took_burn] at h ⊢
      cases hx : (stepBurn cfg st now lock i r pc).1.took
      · simp [hx] at h
      · cases h0 : pc.took
        · obtain ⟨h1, h2, h3, _⟩ := P.newTaker h0 hx
          refine .inr ⟨by simp, ⟨⟨r.kind, rfl⟩, by rw [h1]; exact stFind_erase_self _ _⟩,
            fun hg => by simp only [Thread.inCrit, show cfg.gadLocks = true from hg, h2 hg, Bool.and_self], ?_, fun _ hf => hf⟩
          rcases h3 with h3 | ⟨v, rfl, hns⟩
          · left
            intro _ hw
            obtain ⟨e, he⟩ := stGet_isSome_find _ _ _ _ h3
            rw [show (Thread.burn r pc f0).key = r.key from rfl, he] at hw; cases hw.2
          · right
            rw [Bool.eq_false_iff.mpr fun h => hns (Bool.and_eq_true_iff.mp h)]
            rfl
        · simpa [hx] using h
  newMid st now lock i t h := by
    simp only [burnP, Bool.and_eq_true] at h ⊢
    obtain ⟨r', v, f', hx⟩ := midBurn_eq _ h.1
    cases t with
    | mark r pc f0 => cases hx
    | burn r pc f0 =>
      simp only [stepThread] at hx
      injection hx with hr hpc
      obtain ⟨_, hg, hns⟩ := (stepBurn_path cfg st now lock i r pc).newMid v hpc
      refine ⟨hns, fun _ hw => ?_⟩
      obtain ⟨e, he, _⟩ := stGet_some _ _ _ _ _ hg
      rw [show (Thread.burn r pc f0).key = r.key from rfl, he] at hw; cases hw.2

theorem burnP_run (cfg : Cfg) (s : List Ev) (w : World) (hs : AtomicBurn cfg ∨ NoSplit cfg w s) (inv : Proto.Inv cfg (burnP cfg) w) :
    Proto.Inv cfg (burnP cfg) (run cfg s w) := by
  induction s generalizing w with
  | nil => exact inv
  | cons ev s ih =>
    refine ih _ (hs.imp_right And.right) ?_
    cases ev with
    | tick dt => exact Proto.Inv.tick (burnP_laws cfg) w dt inv
    | step i =>
      refine Proto.Inv.step (burnP_laws cfg) w i (fun a ta ha hm hok => ?_) inv
      simp only [burnP, Bool.and_eq_true, Bool.not_eq_true', Bool.and_eq_false_iff] at hm hok
      rcases hs with (h1 | h1 | h1) | h1
      · exact absurd h1 hok
      · obtain ⟨r, v, f, rfl⟩ := midBurn_eq ta hm.1
        exact .inr (by simp [Thread.inCrit, Cfg.gadLocks, h1, BurnPc.inCrit])
      · rcases hm.2 with h | h <;> simp [h1] at h
      · injection h1.1 a ta ha hm.1 with e
        exact .inl e.symm

theorem took_unique (cfg : Cfg) (w : World) (inv : Proto.Inv cfg (burnP cfg) w) (i j : Nat) (ti tj : Thread)
    (hi : w.ths[i]? = some ti) (hj : w.ths[j]? = some tj) (hk : ti.key = tj.key) (hti : ti.took = true) (htj : tj.took = true) :
    i = j :=
  Decidable.byContradiction fun hne =>
    (inv.sep i j ti tj 0 0 hne hi hj hk (by simp [burnP, hti]) (by simp [burnP, htj])).elim id id

theorem filter_length_le_one {α} (p : α → Bool) (l : List α)
    (h : ∀ (i j : Nat) (a b : α), l[i]? = some a → l[j]? = some b → p a = true → p b = true → i = j) :
    (l.filter p).length ≤ 1 := by
  induction l with
  | nil => simp
  | cons x l ih =>
    have ih' := ih (fun i j a b hi hj ha hb => by
      have := h (i + 1) (j + 1) a b (by simpa using hi) (by simpa using hj) ha hb
      omega)
    cases hx : p x with
    | false => simp [List.filter, hx]; exact ih'
    | true =>
      have : l.filter p = [] := by
        rw [List.filter_eq_nil_iff]
        intro b hb hpb
        obtain ⟨j, hj⟩ := List.getElem?_of_mem hb
        have := h 0 (j + 1) x b (by simp) (by simpa using hj) hx (by simpa using hpb)
        omega
      simp [List.filter, hx, this]

theorem won_took (t : Thread) (b : BurnKind) (hk : t.key.ns = .burn b) (h : t.won = true) : t.took = true := by
  cases t with
  | burn r pc f =>
    cases pc <;> simp_all [Thread.won, Thread.outcome, Thread.took, Outcome.took]
  | mark r pc f => simp [Thread.key, MarkReq.key] at hk

def midOk (w : World) (ev : Ev) : Bool :=
  (List.range w.ths.length).all (fun j =>
    match w.ths[j]? with
    | some t => !t.midBurn || decide (ev = .step j)
    | none => true)

def noSplitB (cfg : Cfg) : World → List Ev → Bool
  | _, [] => true
  | w, ev :: rest => midOk w ev && noSplitB cfg (applyEv cfg w ev) rest

theorem midOk_iff (w : World) (ev : Ev) :
    midOk w ev = true ↔ ∀ (j : Nat) (t : Thread), w.ths[j]? = some t → t.midBurn = true → ev = .step j := by
  unfold midOk
  rw [List.all_eq_true]
  constructor
  · intro h j t hj hm
    have hlt : j < w.ths.length := by
      rcases Nat.lt_or_ge j w.ths.length with h' | h'
      · exact h'
      · rw [List.getElem?_eq_none h'] at hj; cases hj
    have := h j (List.mem_range.mpr hlt)
    rw [hj] at this
    simp [hm] at this
    exact this
  · intro h j _
    cases hj : w.ths[j]? with
    | none => rfl
    | some t =>
      simp only
      cases hm : t.midBurn with
      | false => rfl
      | true => simp [h j t hj hm]

theorem noSplitB_iff (cfg : Cfg) (w : World) (s : List Ev) : noSplitB cfg w s = true ↔ NoSplit cfg w s := by
  induction s generalizing w with
  | nil => simp [noSplitB, NoSplit]
  | cons ev s ih =>
    simp only [noSplitB, NoSplit, Bool.and_eq_true]
    rw [midOk_iff, ih]

/-- check-and-register of the mark consumers is atomic: one call, or two calls under the database mutex -/
def AtomicMark (cfg : Cfg) : Prop := ∀ m, cfg.mark m ≠ .getThenPut

def Thread.midMark : Thread → Bool
  | .mark _ (.atPut true) _ => true
  | _ => false

def NoSplitMark (cfg : Cfg) : World → List Ev → Prop
  | _, [] => True
  | w, ev :: rest =>
    (∀ (j : Nat) (t : Thread), w.ths[j]? = some t → t.midMark = true → ev = .step j) ∧ NoSplitMark cfg (applyEv cfg w ev) rest

def Thread.okAt : Thread → Option Nat
  | .mark _ (.done .ok) f => some f
  | _ => none

theorem okAt_eq (t : Thread) (f : Nat) (h : t.okAt = some f) : ∃ r, t = .mark r (.done .ok) f := by
  unfold Thread.okAt at h
  split at h
  · injection h with h; subst h; exact ⟨_, rfl⟩
  · cases h

theorem midMark_eq (t : Thread) (h : t.midMark = true) : ∃ r f, t = .mark r (.atPut true) f := by
  unfold Thread.midMark at h
  split at h
  · exact ⟨_, _, rfl⟩
  · cases h

/-- mark consumers: served = accepted at `f`, which leaves a registration that expires no earlier than `f + ttl`; another
    request for the secret may be served a TTL later -/
def markP (cfg : Cfg) : Proto where
  win := Thread.okAt
  mid := Thread.midMark
  Wit st now k f := ∃ m e, k.ns = .mark m ∧ f ≤ now ∧ stFind st k = some e ∧ f + cfg.ttl k.ns ≤ e.exp
  Far k g n := g + cfg.ttl k.ns ≤ n
  Mok t := ∀ m, t.key.ns = .mark m → cfg.mark m ≠ .putIfAbsent

/-- a Get that misses puts every registration of the key a TTL into the past -/
theorem markP_check (cfg : Cfg) (st : Store) (now : Nat) (k : Key) (hg : stGet cfg.expInclusive st now k = none) (g : Nat)
    (hw : (markP cfg).Wit st now k g) : (markP cfg).Far k g now := by
  obtain ⟨m, e, _, _, he, hle⟩ := hw
  exact Nat.le_trans hle (stGet_none_find_some _ _ _ _ e hg he)

theorem markP_laws (cfg : Cfg) : (markP cfg).Laws cfg where
  mid_win t h := by obtain ⟨r, f, rfl⟩ := midMark_eq t h; rfl
  init r := by cases r <;> exact ⟨rfl, rfl⟩
  wit_tick st n dt k f := fun ⟨m, e, hk, hf, he, hle⟩ => ⟨m, e, hk, Nat.le_trans hf (Nat.le_add_right _ _), he, hle⟩
  far_tick k g n dt h := Nat.le_trans h (Nat.le_add_right _ _)
  frame st now lock i t k f := fun ⟨m, e, hk, hf, he, hle⟩ => by
    rcases stepThread_markKey cfg st now lock i t k m hk with h1 | ⟨_, h1⟩
    · exact ⟨m, e, hk, hf, by rw [h1]; exact he, hle⟩
    · exact ⟨m, _, hk, hf, h1, by rw [hk]; exact Nat.add_le_add_right hf _⟩
  newWin st now lock i t f h := by
    obtain ⟨r', hx⟩ := okAt_eq _ f h
    cases t with
    | burn r pc f0 => cases hx
    | mark r pc f0 =>
      simp only [stepThread] at hx
      injection hx with hr hpc hf
      by_cases hd : pc = .done .ok
      · subst hd
        rw [stepMark_done, if_pos rfl] at hf
        exact .inl (hf ▸ rfl)
      · obtain ⟨h1, h2, h3⟩ := (stepMark_path cfg st now lock i r pc).newWinner hd hpc
        rw [if_neg (by rw [hpc]; exact fun e => hd e.symm)] at hf
        subst hf
        refine .inr ⟨by rcases h3 with ⟨rfl, _⟩ | rfl <;> rfl,
          ⟨r.kind, _, rfl, Nat.le_refl _, by simp only [stepThread]; rw [h1]; exact stFind_put_self _ _ _, Nat.le_refl _⟩,
          fun hl => by simp only [Thread.inCrit, show cfg.markLocks r.kind = true from hl, h2 hl, Bool.and_self], ?_, fun _ hg => hg⟩
        rcases h3 with ⟨_, hg⟩ | rfl
        · exact .inl (markP_check cfg st now r.key hg)
        · exact .inr rfl
  newMid st now lock i t h := by
    obtain ⟨r', f', hx⟩ := midMark_eq _ h
    cases t with
    | burn r pc f0 => cases hx
    | mark r pc f0 =>
      rw [hx]
      simp only [stepThread] at hx
      injection hx with hr hpc
      subst hr
      obtain ⟨_, hg, hnp⟩ := (stepMark_path cfg st now lock i r pc).newMid hpc
      exact ⟨fun m hm => by injection hm with hm; exact hm ▸ hnp, markP_check cfg st now r.key hg⟩

theorem markLocks_of_atomic (cfg : Cfg) (ha : AtomicMark cfg) (m : MarkKind) (h : cfg.mark m ≠ .putIfAbsent) :
    cfg.markLocks m = true := by
  have := ha m
  unfold Cfg.markLocks
  cases hm : cfg.mark m <;> simp_all

theorem markP_run (cfg : Cfg) (s : List Ev) (w : World) (hs : AtomicMark cfg ∨ NoSplitMark cfg w s) (inv : Proto.Inv cfg (markP cfg) w) :
    Proto.Inv cfg (markP cfg) (run cfg s w) := by
  induction s generalizing w with
  | nil => exact inv
  | cons ev s ih =>
    refine ih _ (hs.imp_right And.right) ?_
    cases ev with
    | tick dt => exact Proto.Inv.tick (markP_laws cfg) w dt inv
    | step i =>
      refine Proto.Inv.step (markP_laws cfg) w i (fun a ta ha hm hok => ?_) inv
      rcases hs with h1 | h1
      · obtain ⟨r, f, rfl⟩ := midMark_eq ta hm
        exact .inr (by simp [Thread.inCrit, MarkPc.inCrit, markLocks_of_atomic cfg h1 r.kind (hok r.kind rfl)])
      · injection h1.1 a ta ha hm with e
        exact .inl e.symm

theorem accepted_apart (cfg : Cfg) (w : World) (inv : Proto.Inv cfg (markP cfg) w) (i j : Nat) (ri rj : MarkReq) (fi fj : Nat) (hij : i ≠ j)
    (hi : w.ths[i]? = some (Thread.mark ri (.done .ok) fi)) (hj : w.ths[j]? = some (Thread.mark rj (.done .ok) fj))
    (hk : ri.key = rj.key) : fi + cfg.ttl (.mark ri.kind) ≤ fj ∨ fj + cfg.ttl (.mark ri.kind) ≤ fi :=
  inv.sep i j _ _ fi fj hij hi hj hk rfl rfl

theorem accepted_past (cfg : Cfg) (w : World) (inv : Proto.Inv cfg (markP cfg) w) (i : Nat) (r : MarkReq) (f : Nat)
    (hi : w.ths[i]? = some (Thread.mark r (.done .ok) f)) : f ≤ w.now := by
  obtain ⟨_, _, _, h, _⟩ := inv.wit i _ f hi rfl
  exact h

end Nuts.C05
