import NutsModel.C13.Request
import NutsProofs.Lemmas.C13Op
import NutsProofs.Lemmas.Sort

namespace Nuts.C13
open Nuts

theorem applyOpt_subject (cls : CharClass) (p : CreateParams) (s : String) :
    applyOpt cls p (.subject s) =
      if matchesPlus cls s then .ok { p with subject := s } else .err "validation" := rfl

def CreateOpt.ok (cls : CharClass) : CreateOpt → Bool
  | .subject s => matchesPlus cls s
  | .unknown => false
  | _ => true

def CreateOpt.set (p : CreateParams) : CreateOpt → CreateParams
  | .subject s => { p with subject := s }
  | .encryptionKey => { p with keyAgreement := true }
  | .nutsLegacy => { p with legacy := true }
  | .unknown => p

theorem applyOpt_eq (cls : CharClass) (p : CreateParams) (o : CreateOpt) :
    applyOpt cls p o = if o.ok cls then .ok (o.set p) else .err "validation" := by
  cases o <;> rfl

theorem applyOpts_eq (cls : CharClass) : ∀ (opts : List CreateOpt) (p : CreateParams),
    applyOpts cls opts p = if opts.all (CreateOpt.ok cls) then .ok (opts.foldl CreateOpt.set p) else .err "validation"
  | [], _ => rfl
  | o :: os, p => by
    rw [applyOpts, applyOpt_eq, List.all_cons, List.foldl_cons]
    cases o.ok cls
    · rfl
    · exact applyOpts_eq cls os _

/-- the name the option loop ends with is the default one or passed the pattern -/
theorem applyOpts_subject (cls : CharClass) : ∀ (opts : List CreateOpt) (p p' : CreateParams),
    applyOpts cls opts p = .ok p' → p'.subject = p.subject ∨ matchesPlus cls p'.subject = true := by
  intro opts p p' h
  rw [applyOpts_eq] at h
  rcases ite_eq_cases h with ⟨hall, h⟩ | ⟨_, h⟩ <;> cases h
  refine foldl_invariant (fun q => q.subject = p.subject ∨ matchesPlus cls q.subject = true) CreateOpt.set opts p
    (fun o ho q hq => ?_) (.inl rfl)
  cases o with
  | subject s => exact .inr (List.all_eq_true.1 hall _ ho)
  | _ => exact hq

theorem foldl_set_keyAgreement : ∀ (opts : List CreateOpt) (p : CreateParams),
    p.keyAgreement = true ∨ CreateOpt.encryptionKey ∈ opts → (opts.foldl CreateOpt.set p).keyAgreement = true
  | [], _, h => h.resolve_right nofun
  | o :: os, p, h => by
    refine foldl_set_keyAgreement os _ ?_
    rcases h with h | h
    · exact .inl (by cases o with | encryptionKey => rfl | _ => exact h)
    · rcases List.mem_cons.1 h with rfl | h
      · exact .inl rfl
      · exact .inr h

theorem genLoop_eq (rw ka : Bool) : ∀ (ms : List Method) (n : Nat),
    genLoop rw ka ms n = if (rw && ka && ms.contains .web) = true then .err "keyagreement" else .ok (n + ms.length)
  | [], n => by simp [genLoop]
  | m :: ms, n => by
    rw [genLoop, genLoop_eq rw ka ms (n + 1), List.contains_cons, List.length_cons, Nat.add_assoc, Nat.add_comm 1]
    cases rw <;> cases ka <;> cases m <;> simp

theorem addKeyCheck_err_of_web (rows : List DidRow) : (∀ r ∈ rows, r.vers.isEmpty = false) →
    (∃ r ∈ rows, r.method = .web) → addKeyCheck true true rows = .err "keyagreement" := by
  fun_induction addKeyCheck true true rows with
  | case1 => exact fun _ ⟨_, h, _⟩ => nomatch h
  | case2 r rs he => exact fun hv _ => absurd he (by rw [hv r List.mem_cons_self]; nofun)
  | case3 => exact fun _ _ => rfl
  | case4 r rs he hw ih =>
    refine fun hv ⟨x, hx, hm⟩ => ih (fun r hr => hv r (List.mem_cons_of_mem _ hr)) ?_
    rcases List.mem_cons.1 hx with rfl | hx
    · simp [hm] at hw
    · exact ⟨x, hx, hm⟩

/-- for the Commit loop without an injected stop there is a stop point `k` that publishes the same and after which the
    clean-up does not run: the first failing did:nuts Commit, or "after the last call" -/
theorem commitLoop_stop_witness (f : Fault) (hf : f = .none ∨ f = .failNuts) (chs : List Change)
    (ms : List Method) (i : Nat) (pub : Nat → List Content) : ∃ k, i ≤ k ∧
      (commitLoop (.stop k) chs ms i pub).1 = (commitLoop f chs ms i pub).1 ∧
      ((commitLoop (.stop k) chs ms i pub).2 = .stopped ∨
        ∃ j, (commitLoop (.stop k) chs ms i pub).2 = .completed j ∧ j ≤ k) := by
  have hfi : ∀ j, f ≠ .stop j := by intro j; rcases hf with rfl | rfl <;> nofun
  -- where the loop for `f` stops at a call, `.stop i` stops before that call
  have here : ∀ {m ms i pub ch}, chs.find? (fun ch => ch.method = m) = some ch → ∃ k, i ≤ k ∧
      (commitLoop (.stop k) chs (m :: ms) i pub).1 = pub ∧
      ((commitLoop (.stop k) chs (m :: ms) i pub).2 = .stopped ∨
        ∃ j, (commitLoop (.stop k) chs (m :: ms) i pub).2 = .completed j ∧ j ≤ k) :=
    fun hfind => ⟨_, Nat.le_refl _, by rw [commitLoop_stop hfind], .inl (by rw [commitLoop_stop hfind])⟩
  fun_induction commitLoop f chs ms i pub with
  | case1 i pub => exact ⟨i, Nat.le_refl _, rfl, .inr ⟨i, rfl, Nat.le_refl _⟩⟩
  | case2 m ms i pub hfind ih =>
    obtain ⟨k, hk, h⟩ := ih
    exact ⟨k, hk, by rw [commitLoop_skip hfind]; exact h⟩
  | case3 m ms i pub ch hfind hs => exact absurd hs (hfi i)
  | case4 ms i pub ch hs hfind ih =>
    obtain ⟨k, hk, h⟩ := ih
    exact ⟨k, by omega, by rw [commitLoop_web hfind fun e => by cases e; omega]; exact h⟩
  | case6 ms i pub ch hs hn pub' hc hfind ih =>
    obtain ⟨k, hk, h⟩ := ih
    exact ⟨k, by omega, by rw [commitLoop_nuts hfind fun e => by cases e; omega, if_neg nofun, hc]; exact h⟩
  | case5 ms i pub ch hs hn hfind => exact here hfind
  | case7 ms i pub ch hs hn e hc hfind => exact here hfind
  | case8 ms i pub ch hs hn e hc hfind => exact here hfind
/-- a failing clean-up after a first transaction that wrote something: the stop point and what the Commit loop does
    there (the premises of `stopped_operation_resolved`) -/
theorem cleanup_failure_stop_point {cfg : Cfg} {w w1 : World} {o : Op} {chs : List Change} (order : List Method) (nf : Bool)
    (ht : tx1 cfg w o = .ok (w1, chs)) (hne : chs.isEmpty = false) :
    ∃ k, (stepOpCleanupFails cfg w o order nf).1 = (stepOp cfg w o order (.stop k)).1 ∧
      ((commitLoop (.stop k) chs order 0 w1.pub).2 = .stopped ∨
        ∃ i, (commitLoop (.stop k) chs order 0 w1.pub).2 = .completed i ∧ i ≤ k) := by
  obtain ⟨k, _, h1, h2⟩ := commitLoop_stop_witness (if nf = true then Fault.failNuts else Fault.none)
    (by cases nf <;> simp) chs order 0 w1.pub
  refine ⟨k, ?_, h2⟩
  rw [stepOp_eq_core (f := .stop k) (fun _ => rfl), stepOpCore_stopped order k ht h2, h1]
  simp only [stepOpCleanupFails, ht, hne, Bool.false_eq_true, if_false]

/-- **a database error in the clean-up transaction leaves a world that the same operation leaves under some fault**:
    the proof takes a process stop at some point of the Commit loop (`cleanup_failure_stop_point`), or no fault when
    the operation changed nothing -/
theorem cleanup_failure_is_a_stop (cfg : Cfg) (w : World) (o : Op) (order : List Method) (nf : Bool) :
    ∃ f, (stepOpCleanupFails cfg w o order nf).1 = (stepOp cfg w o order f).1 := by
  cases ht : tx1 cfg w o with
  | err e => exact ⟨.none, by simp only [stepOpCleanupFails, stepOp, stepOpCore, ht]⟩
  | panic e => exact ⟨.none, by simp only [stepOpCleanupFails, stepOp, stepOpCore, ht]⟩
  | ok r =>
    obtain ⟨w1, chs⟩ := r
    cases he : chs.isEmpty with
    | true => exact ⟨.none, by simp only [stepOpCleanupFails, ht, he, if_true]⟩
    | false =>
      obtain ⟨k, hk, _⟩ := cleanup_failure_stop_point order nf ht he
      exact ⟨.stop k, hk⟩

/-- the comparator without its (redundant) first branch -/
def lessKey (absent : Int) (order : List String) (a b : DidId) : Bool :=
  if methodRank absent order a.method = absent ∧ methodRank absent order b.method = absent
  then decide (a.method < b.method)
  else decide (methodRank absent order a.method < methodRank absent order b.method)

theorem lessDID_eq_lessKey (absent : Int) (order : List String) (a b : DidId) :
    lessDID absent order a b = lessKey absent order a b := by
  unfold lessDID lessKey
  by_cases hab : a = b
  · subst hab
    rw [if_pos rfl]
    split
    · rw [decide_eq_false (String.lt_irrefl _), decide_eq_false (String.lt_irrefl _)]
    · rw [decide_eq_false (String.lt_irrefl _), decide_eq_false (Int.lt_irrefl _)]
  · rw [if_neg hab]

theorem lessDID_asymm (absent : Int) (order : List String) (a b : DidId)
    (h : lessDID absent order a b = true) : lessDID absent order b a = false := by
  rw [lessDID_eq_lessKey] at *
  unfold lessKey at *
  by_cases hc : methodRank absent order a.method = absent ∧ methodRank absent order b.method = absent
  · rw [if_pos hc] at h
    rw [if_pos ⟨hc.2, hc.1⟩]
    exact decide_eq_false (String.lt_asymm (of_decide_eq_true h))
  · rw [if_neg hc] at h
    rw [if_neg (fun h' => hc ⟨h'.2, h'.1⟩)]
    have := of_decide_eq_true h
    exact decide_eq_false (by omega)

theorem lessDID_le_trans (absent : Int) (order : List String) (a b c : DidId)
    (h1 : lessDID absent order b a = false) (h2 : lessDID absent order c b = false) :
    lessDID absent order c a = false := by
  rw [lessDID_eq_lessKey] at *
  unfold lessKey at *
  by_cases ha : methodRank absent order a.method = absent <;>
  by_cases hb : methodRank absent order b.method = absent <;>
  by_cases hc : methodRank absent order c.method = absent <;>
  simp only [ha, hb, hc, and_self, and_true, and_false, if_true, if_false,
    decide_eq_false_iff_not] at h1 h2 ⊢
  · exact String.le_trans h1 h2
  all_goals omega

theorem methodRankFrom_spec : ∀ (order : List String) (k : Nat) (m : String) (acc : Int),
    methodRankFrom order k m acc = acc ∨
      ∃ i, i < order.length ∧ order[i]? = some m ∧ methodRankFrom order k m acc = ((k + i : Nat) : Int)
  | [], _, _, _ => .inl rfl
  | v :: vs, k, m, acc => by
    unfold methodRankFrom
    -- whatever the accumulator the tail starts from, its result is that accumulator or a later position
    have tail : ∀ acc', methodRankFrom vs (k + 1) m acc' = acc' ∨ ∃ i, i < (v :: vs).length ∧ (v :: vs)[i]? = some m ∧
        methodRankFrom vs (k + 1) m acc' = ((k + i : Nat) : Int) := fun acc' =>
      (methodRankFrom_spec vs (k + 1) m acc').imp_right fun ⟨i, hi, hget, h⟩ =>
        ⟨i + 1, Nat.succ_lt_succ hi, hget, by rw [h, Nat.add_assoc, Nat.add_comm 1 i]⟩
    by_cases hv : (v == m) = true
    · rw [if_pos hv]
      rcases tail k with h | h
      · exact .inr ⟨0, Nat.succ_pos _, by rw [eq_of_beq hv]; rfl, by rw [h]; rfl⟩
      · exact .inr h
    · rw [if_neg hv]; exact tail acc

/-- two DIDs the comparator cannot tell apart have equal ranks. With different methods: either both are unlisted, and
    then the comparator falls back on the method strings, which differ; or both are listed at the same rank, and a rank
    is a position, so the methods are the same. -/
theorem lessDID_total_of_method_ne (absent : Int) (habs : absent < 0) (order : List String) (a b : DidId)
    (hne : a.method ≠ b.method) (h1 : lessDID absent order a b = false) (h2 : lessDID absent order b a = false) : False := by
  rw [lessDID_eq_lessKey] at *
  unfold lessKey at *
  by_cases hc : methodRank absent order a.method = absent ∧ methodRank absent order b.method = absent
  · rw [if_pos hc] at h1
    rw [if_pos ⟨hc.2, hc.1⟩] at h2
    exact hne (String.le_antisymm (of_decide_eq_false h2) (of_decide_eq_false h1))
  · rw [if_neg hc] at h1
    rw [if_neg (fun h' => hc ⟨h'.2, h'.1⟩)] at h2
    have e1 := of_decide_eq_false h1
    have e2 := of_decide_eq_false h2
    have heq : methodRank absent order a.method = methodRank absent order b.method := by omega
    unfold methodRank at heq hc
    rcases methodRankFrom_spec order 0 a.method absent with ha | ⟨i, hi, hgi, ha⟩ <;>
    rcases methodRankFrom_spec order 0 b.method absent with hb | ⟨j, hj, hgj, hb⟩
    · exact hc ⟨ha, hb⟩
    · rw [ha, hb] at heq; omega
    · rw [ha, hb] at heq; omega
    · rw [ha, hb] at heq
      have : i = j := by omega
      subst this
      rw [hgi] at hgj
      exact hne (Option.some.inj hgj)

end Nuts.C13
