/-
  The model configuration with the regenerated constants, an ideal instance of the oracles, and a concrete
  two-node instance used by the non-vacuity examples of Props/C07.lean.
-/
import NutsModel.C07.Round
import NutsModel.Facts.C07
import NutsProofs.Lemmas.C07LiveN
open Nuts.Proto Nuts Nuts.Proto.L Nuts.Proto.Live

namespace Nuts.C07.Ex

def factCfg (maxMsg validity : Nat) : Cfg :=
  { pageSize := Facts.C07.pageSize, maxQueue := Facts.C07.maxQueueSize, rangePages := Facts.C07.rangeLimitPages,
    msgOverhead := Facts.C07.transactionListMessageOverhead, txOverhead := Facts.C07.transactionListTXOverhead,
    maxMsg := maxMsg, validity := validity,
    blockState := Facts.C07.blockable.contains "Envelope_State",
    blockList := Facts.C07.blockable.contains "Envelope_TransactionListQuery",
    blockRange := Facts.C07.blockable.contains "Envelope_TransactionRangeQuery",
    nextOne := (Facts.C07.nextPageOffsets.getD 0 0, Facts.C07.nextPageOffsets.getD 1 0),
    nextTwo := (Facts.C07.nextPageOffsets.getD 2 0, Facts.C07.nextPageOffsets.getD 3 0) }

def clockLt (a b : Tx) : Bool := a.clock < b.clock
/-- an ideal decoder and a sort by clock: one instance of the oracles that meets the contracts -/
def idealEnv : Env :=
  { decode := fun loc iblt => match iblt with
      | .ofSet peer => .ok (peer.filter (fun r => !loc.contains r))
      | .garbage => .err,
    order := fun l => Nuts.sortBy clockLt l,
    dec := fun _ _ => .fail }

theorem idealEnv_DC : DC idealEnv := by
  refine ⟨?_, ?_, ?_⟩
  · intro loc peer m _ _ h r
    simp only [idealEnv, DecodeRes.ok.injEq] at h
    subst h
    simp [List.mem_filter]
  · intro loc peer _ _ _; exact ⟨_, rfl⟩
  · intro loc peer _ _ h; simp [idealEnv] at h

theorem idealEnv_OrderOK : OrderOK idealEnv := by
  refine ⟨fun l => sortBy_perm clockLt l, fun l => ?_⟩
  have hasym : ∀ a b : Tx, clockLt a b = true → clockLt b a = false := by
    intro a b h; simp only [clockLt, decide_eq_true_eq, decide_eq_false_iff_not] at h ⊢; omega
  have htrans : ∀ a b c : Tx, clockLt b a = false → clockLt c b = false → clockLt c a = false := by
    intro a b c h1 h2; simp only [clockLt, decide_eq_false_iff_not] at h1 h2 ⊢; omega
  refine (sortBy_pairwise clockLt hasym htrans l).imp ?_
  intro x y h
  simp only [leOf, clockLt, decide_eq_false_iff_not] at h
  omega

theorem fact_hyp (maxMsg validity : Nat) (env : Env) (hdc : DC env) (hord : OrderOK env) : Hyp (factCfg maxMsg validity) env :=
  { ps := by show 0 < Facts.C07.pageSize; decide,
    bs := by show Facts.C07.blockable.contains "Envelope_State" = false; decide,
    rp := by show 1 ≤ Facts.C07.rangeLimitPages; decide,
    n1 := by show (Facts.C07.nextPageOffsets.getD 0 0, Facts.C07.nextPageOffsets.getD 1 0) = (1, 2); decide,
    n2 := by show (Facts.C07.nextPageOffsets.getD 2 0, Facts.C07.nextPageOffsets.getD 3 0) = (1, 3); decide,
    dc := hdc, ord := hord }

/-! a concrete instance: `b` is one transaction ahead of `a` -/
def exRoot : Tx := { ref := 1, clock := 0, prevs := [], pal := [], payloadHash := 10, sigOK := true, size := 100 }
def exX : Tx := { ref := 2, clock := 1, prevs := [1], pal := [], payloadHash := 20, sigOK := true, size := 100 }
def exU : List Tx := [exX, exRoot]
def exA : Node :=
  { id := 0, dag := [exRoot], payloads := [(10, ⟨"p-root", 6, 10⟩)], queues := [{ peer := 1, xor := 1, clock := 0 }],
    peers := [{ key := 1 }] }
def exB : Node :=
  { id := 1, dag := [exX, exRoot], payloads := [(20, ⟨"p-x", 3, 20⟩), (10, ⟨"p-root", 6, 10⟩)],
    queues := [{ peer := 0, xor := 3, clock := 1, queue := [2] }], peers := [{ key := 0 }] }
def exCfg : Cfg := factCfg 524288 30

theorem storeInv_of_all (n : Node) (h : ∀ e ∈ n.payloads, e.2.sha = e.1 ∧ e.2.len ≠ 0) : StoreInv n :=
  fun k p hp => h (k, p) (mem_of_alGet_eq_some hp)

theorem exA_ok : DagOK exA.dag :=
  DagOK.cons exRoot [] DagOK.nil rfl rfl (by decide) (by decide) (by decide)
theorem exB_ok : DagOK exB.dag :=
  DagOK.cons exX [exRoot] exA_ok rfl (by decide) (by decide) (by decide) (by decide)

theorem exPairInv : PairInv exU exA exB 0 1 :=
  { nia := ⟨storeInv_of_all exA (by decide), by unfold PubHave; decide, by unfold QSync; decide⟩,
    nib := ⟨storeInv_of_all exB (by decide), by unfold PubHave; decide, by unfold QSync; decide⟩,
    oka := exA_ok, okb := exB_ok, ua := by decide, ub := by decide, ra := by decide, rb := by decide,
    la := by unfold Linked; decide, lb := by unfold Linked; decide }

/-- XOR digests distinguish the valid DAGs over the example universe (hypothesis `hxf` of `converges`) -/
theorem exXF : ∀ d d' : List Tx, DagOK d → DagOK d' → (∀ t ∈ d, t ∈ exU) → (∀ t ∈ d', t ∈ exU) → xorOf d' = xorOf d → ∀ t ∈ d', t ∈ d := by
  have shape : ∀ d : List Tx, DagOK d → (∀ t ∈ d, t ∈ exU) → d = [] ∨ d = [exRoot] ∨ d = [exX, exRoot] := by
    intro d hd hu
    cases hd with
    | nil => exact Or.inl rfl
    | cons t rest hrest hs hnew hp hc hr =>
      have ht : t = exX ∨ t = exRoot := by simpa [exU] using hu t List.mem_cons_self
      cases hrest with
      | nil =>
        rcases ht with rfl | rfl
        · simp [exX, present] at hp
        · exact Or.inr (Or.inl rfl)
      | cons t2 rest2 hrest2 hs2 hnew2 hp2 hc2 hr2 =>
        have ht2 : t2 = exX ∨ t2 = exRoot := by simpa [exU] using hu t2 (List.mem_cons_of_mem _ List.mem_cons_self)
        cases hrest2 with
        | nil =>
          rcases ht with rfl | rfl <;> rcases ht2 with rfl | rfl
          · simp [present] at hnew
          · exact Or.inr (Or.inr rfl)
          · simp [exX, present] at hp2
          · simp [present] at hnew
        | cons t3 rest3 _ _ _ _ _ _ =>
          exfalso
          have ht3 : t3 = exX ∨ t3 = exRoot := by
            simpa [exU] using hu t3 (List.mem_cons_of_mem _ (List.mem_cons_of_mem _ List.mem_cons_self))
          have n1 := present_false_iff.mp hnew
          have n2 := present_false_iff.mp hnew2
          rcases ht with rfl | rfl <;> rcases ht2 with rfl | rfl <;> rcases ht3 with rfl | rfl <;>
            first
            | exact n1 _ List.mem_cons_self rfl
            | exact n1 _ (List.mem_cons_of_mem _ List.mem_cons_self) rfl
            | exact n2 _ List.mem_cons_self rfl
  intro d d' hd hd' hu hu' hx t ht
  rcases shape d hd hu with rfl | rfl | rfl <;> rcases shape d' hd' hu' with rfl | rfl | rfl <;>
    first
    | exact ht
    | (exfalso; revert hx; decide)
    | (revert t; decide)

end Nuts.C07.Ex
