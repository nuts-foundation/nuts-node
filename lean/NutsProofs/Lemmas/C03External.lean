import NutsModel.C03.External

namespace Nuts.C03

/-- not one of the bytes that would change what a request target addresses: `/`, `?`, `#`, NUL, `\` -/
def targetSafe (b : Nat) : Bool := b != SLASH && b != 63 && b != 35 && b != 0 && b != 92

theorem hexVal_hexUp : ∀ a, a < 16 → hexVal (hexUp a) = some a := by decide

theorem hexUp_out : ∀ a, a < 16 → targetSafe (hexUp a) = true ∧ hexUp a < 256 := by decide

theorem pathKeep_safe (c : Nat) (h : pathKeep c = true) : targetSafe c = true := by
  unfold pathKeep at h
  simp only [Bool.or_eq_true, Bool.and_eq_true, decide_eq_true_eq, beq_iff_eq] at h
  unfold targetSafe SLASH
  simp only [Bool.and_eq_true, bne_iff_ne, ne_eq]
  omega

theorem pathEscape_cons (c : Nat) (rest : Bytes) : pathEscape (c :: rest) = pathEscapeByte c ++ pathEscape rest := by
  simp [pathEscape, List.flatMap_cons]

theorem pathEscape_out (s : Bytes) (hs : ∀ c ∈ s, c < 256) : ∀ b ∈ pathEscape s, targetSafe b = true ∧ b < 256 := by
  intro b hb
  obtain ⟨c, hc, hbc⟩ := List.mem_flatMap.mp hb
  have hc := hs c hc
  unfold pathEscapeByte at hbc
  split at hbc
  · rename_i hk
    rw [List.mem_singleton.mp hbc]
    exact ⟨pathKeep_safe c hk, hc⟩
  · simp only [List.mem_cons, List.not_mem_nil, or_false] at hbc
    rcases hbc with rfl | rfl | rfl
    · decide
    · exact hexUp_out _ (by omega)
    · exact hexUp_out _ (by omega)

theorem pathUnescape_escape (s : Bytes) (hs : ∀ c ∈ s, c < 256) : pathUnescape (pathEscape s) = some s := by
  induction s with
  | nil => rfl
  | cons c rest ih =>
    have ihr := ih (fun c hc => hs c (List.mem_cons_of_mem _ hc))
    have hc : c < 256 := hs c List.mem_cons_self
    rw [pathEscape_cons]
    unfold pathEscapeByte
    split
    · rename_i hk
      have hne : c ≠ PCT := fun e => absurd (e ▸ hk) (by decide)
      simp only [List.singleton_append]
      unfold pathUnescape
      simp [hne, ihr]
    · simp only [List.cons_append, List.nil_append]
      unfold pathUnescape
      simp only [if_true]
      rw [hexVal_hexUp _ (by omega), hexVal_hexUp _ (by omega), ihr]
      simp only [Option.some.injEq, List.cons.injEq, and_true]
      omega

theorem pathEscape_injective (a b : Bytes) (ha : ∀ c ∈ a, c < 256) (hb : ∀ c ∈ b, c < 256)
    (h : pathEscape a = pathEscape b) : a = b := by
  have h1 := pathUnescape_escape a ha
  rw [h, pathUnescape_escape b hb] at h1
  exact (Option.some.inj h1).symm

end Nuts.C03
