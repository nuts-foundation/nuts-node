/-
  C09 — `callback` and what it runs (vdr/didnuts/ambassador.go): one inversion per operation (`callback`, `handleCreate`,
  `handleUpdate`, the signature verifier in front), the loops of `handleUpdate` as membership statements, and on them
  `ControllerFor` / `handleUpdate_authorised`: what an accepted update established.
-/
import NutsProofs.Lemmas.C09Resolver

namespace Nuts.C09
open Nuts Nuts.C10

theorem callback_ok_iff (c : Cfg) (s s' : Store) (tx : Tx) (pd : Option NDoc) :
    callback c s tx pd = .ok s' ↔
    checkTransactionIntegrity tx = .ok () ∧
    ∃ d, pd = some d ∧ validate c.thumb c.vmNilJwkErr c.validators d = .ok () ∧
      ((∃ k, tx.embedded = some k ∧ handleCreate c s tx k d = .ok s') ∨
       (tx.embedded = none ∧ handleUpdate c s tx d = .ok s')) := by
  constructor
  · fun_cases callback c s tx pd with
    | case6 hi d hv he => exact fun h => ⟨hi, d, rfl, hv, .inr ⟨he, h⟩⟩
    | case7 hi d hv k he => exact fun h => ⟨hi, d, rfl, hv, .inl ⟨k, he, h⟩⟩
    | _ => nofun
  · rintro ⟨hi, d, rfl, hv, ⟨k, hk, h⟩ | ⟨hk, h⟩⟩ <;> simpa only [callback, hi, hv, hk] using h

theorem storeAdd_ok_iff (c : Cfg) (s s' : Store) (tx : Tx) (d : NDoc) :
    storeAdd c s tx d = .ok s' ↔ add c.store s (eventOf tx d) = .ok s' := by
  unfold storeAdd
  cases add c.store s (eventOf tx d) <;> simp

theorem handleCreate_ok_iff (c : Cfg) (s s' : Store) (tx : Tx) (k : Key) (d : NDoc) :
    handleCreate c s tx k d = .ok s' ↔ d.idID = c.didThumb k ∧ add c.store s (eventOf tx d) = .ok s' := by
  rw [handleCreate, Res.ite_err_eq_ok, storeAdd_ok_iff, ne_eq, Classical.not_not]

theorem deliver_ok_inv (c : Cfg) (s s' : Store) (tx : Tx) (pd : Option NDoc) (h : deliver c s tx pd = .ok s') :
    verifySig s tx = .ok () ∧ callback c s tx pd = .ok s' := by
  unfold deliver at h
  split at h
  · rename_i hv; exact ⟨hv, h⟩
  · cases h
  · cases h

theorem verifySig_embedded (s : Store) (tx : Tx) (k : Key) (he : tx.embedded = some k)
    (h : verifySig s tx = .ok ()) : k = tx.signer := by
  unfold verifySig at h
  rw [he] at h
  simp only at h
  split at h
  · assumption
  · cases h

theorem verifySig_kid (s : Store) (tx : Tx) (he : tx.embedded = none)
    (h : verifySig s tx = .ok ()) : resolvePublicKeyStore s tx.kid tx.prevs = .ok tx.signer := by
  unfold verifySig at h
  rw [he] at h
  simp only at h
  split at h
  · rename_i k hk
    split at h
    · rename_i heq; rw [hk, heq]
    · cases h
  · cases h
  · cases h

theorem findKey_true (thumb : Key → String) (ne : Bool) (t : String) :
    ∀ l : List Entry, findKey thumb ne t l = .ok true →
      ∃ e ∈ l, ∃ k, KeyInfo.ofBody e.body = .key k ∧ thumb k = t := by
  intro l
  induction l with
  | nil => intro h; simp [findKey] at h
  | cons e es ih =>
    intro h
    unfold findKey at h
    split at h
    · cases h
    · split at h <;> cases h
    · rename_i k hk
      split at h
      · rename_i ht
        exact ⟨e, List.mem_cons_self, k, hk, ht⟩
      · obtain ⟨e', he', k', hk', ht'⟩ := ih h
        exact ⟨e', List.mem_cons_of_mem _ he', k', hk', ht'⟩

theorem findKey_not_true (thumb : Key → String) (ne : Bool) (t : String) :
    ∀ l : List Entry, (∀ e ∈ l, ∀ k, KeyInfo.ofBody e.body = .key k → thumb k ≠ t) → findKey thumb ne t l ≠ .ok true := by
  intro l hno h
  obtain ⟨e, he, k, hk, ht⟩ := findKey_true thumb ne t l h
  exact hno e he k hk ht

/-- the version the update succeeds: a previous transaction that is a source transaction of a version of the DID
    names it (`currentVersion` takes the first that does; the predicate does not say which); when none does, the latest
    version (the coded fallback) -/
def Succeeds (s : Store) (id : String) (prevs : List Nat) (cur : Doc) : Prop :=
  (∃ p ∈ prevs, ∃ m, resolve s id (some { allowDeactivated := true, sourceTx := some p }) = .ok (cur, m)) ∨
  ((∀ p ∈ prevs, resolve s id (some { allowDeactivated := true, sourceTx := some p }) = .err eNotFound) ∧
   ∃ m, resolve s id (some { allowDeactivated := true }) = .ok (cur, m))

theorem currentVersion_ok (s : Store) (id : String) :
    ∀ (prevs : List Nat) (cur : Doc), currentVersion s id prevs = .ok cur → Succeeds s id prevs cur := by
  intro prevs
  induction prevs with
  | nil =>
    intro cur h
    unfold currentVersion at h
    split at h
    · rename_i d m hr
      cases h
      exact Or.inr ⟨(by intro p hp; cases hp), m, hr⟩
    · cases h
    · cases h
  | cons p ps ih =>
    intro cur h
    unfold currentVersion at h
    split at h
    · rename_i d m hr
      cases h
      exact Or.inl ⟨p, List.mem_cons_self, m, hr⟩
    · rename_i e hr
      split at h
      · rename_i he
        subst he
        rcases ih cur h with ⟨q, hq, m, hm⟩ | ⟨hall, m, hm⟩
        · exact Or.inl ⟨q, List.mem_cons_of_mem _ hq, m, hm⟩
        · refine Or.inr ⟨?_, m, hm⟩
          intro q hq
          rcases List.mem_cons.mp hq with rfl | hq
          · exact hr
          · exact hall q hq
      · cases h
    · cases h

/-- the metadata forms under which the ambassador looks controllers up for `tx`:
    by each previous transaction, or (fallback) by the signing time -/
def MetaFor (tx : Tx) (rm : ResolveMeta) : Prop :=
  (∃ p ∈ tx.prevs, rm = { sourceTx := some p }) ∨ rm = { time := some tx.sigTime }

theorem ctrlsPerPrev_mem (c : Cfg) (s : Store) (doc : Doc) :
    ∀ (prevs : List Nat) (l : List Doc), ctrlsPerPrev c s doc prevs = .ok l →
      ∀ x ∈ l, ∃ p ∈ prevs, ∃ l', resolveControllersTop c.maxDepth s (some { sourceTx := some p }) doc = .ok l' ∧ x ∈ l' := by
  intro prevs
  induction prevs with
  | nil => intro l h x hx; simp [ctrlsPerPrev] at h; subst h; cases hx
  | cons p ps ih =>
    intro l h x hx
    unfold ctrlsPerPrev at h
    split at h
    · rename_i cs hcs
      split at h
      · rename_i rest hrest
        cases h
        rcases List.mem_append.mp hx with hx | hx
        · exact ⟨p, List.mem_cons_self, cs, hcs, hx⟩
        · obtain ⟨q, hq, l', hl', hx'⟩ := ih rest hrest x hx
          exact ⟨q, List.mem_cons_of_mem _ hq, l', hl', hx'⟩
      · cases h
      · cases h
    · split at h
      · obtain ⟨q, hq, l', hl', hx'⟩ := ih l h x hx
        exact ⟨q, List.mem_cons_of_mem _ hq, l', hl', hx'⟩
      · cases h
    · cases h

theorem ambControllers_mem (c : Cfg) (s : Store) (doc : Doc) (tx : Tx) (l : List Doc)
    (h : ambControllers c s doc tx = .ok l) :
    ∀ x ∈ l, ∃ rm, MetaFor tx rm ∧ ∃ l', resolveControllersTop c.maxDepth s (some rm) doc = .ok l' ∧ x ∈ l' := by
  intro x hx
  unfold ambControllers at h
  split at h
  · rename_i cs hcs
    split at h
    · exact ⟨{ time := some tx.sigTime }, Or.inr rfl, l, h, hx⟩
    · simp only [Res.ok.injEq] at h
      subst h
      obtain ⟨p, hp, l', hl', hx'⟩ := ctrlsPerPrev_mem c s doc tx.prevs cs hcs x hx
      exact ⟨{ sourceTx := some p }, Or.inl ⟨p, hp, rfl⟩, l', hl', hx'⟩
  · cases h
  · cases h

theorem allowOf_metaFor (tx : Tx) (rm : ResolveMeta) (h : MetaFor tx rm) : allowOf (some rm) = false := by
  rcases h with ⟨p, _, rfl⟩ | rfl <;> rfl

/-- `ctrl` is a controller of the version `cur` as the ambassador establishes it for `tx`: not deactivated, and
    either `cur` itself (it lists itself or nobody, and has capabilityInvocation keys), or the version of a listed
    foreign controller DID that the store resolves for the transaction's prevs / signing time, that controller
    being active within the depth limit -/
def ControllerFor (c : Cfg) (s : Store) (tx : Tx) (cur ctrl : Doc) : Prop :=
  isDeactivated ctrl = false ∧
  ((ctrl = cur ∧ (cur.f .capInv).isEmpty = false ∧ (controllersOf cur = [] ∨ cur.id ∈ controllersOf cur)) ∨
   (∃ r ∈ controllersOf cur, r ≠ cur.id ∧ ∃ rm, MetaFor tx rm ∧ storeDoc s (some rm) r = .ok ctrl ∧
      ActiveWithin (storeDoc s (some rm)) c.maxDepth r ∧
      ActiveWithin (resolverResolve c.maxDepth s (some rm)) c.maxDepth r))

theorem ambControllers_sound (c : Cfg) (s : Store) (cur : Doc) (tx : Tx) (l : List Doc)
    (h : ambControllers c s cur tx = .ok l) : ∀ x ∈ l, ControllerFor c s tx cur x := by
  intro x hx
  obtain ⟨rm, hrm, l', hl', hx'⟩ := ambControllers_mem c s cur tx l h x hx
  unfold resolveControllersTop at hl'
  obtain ⟨hd, hc⟩ := ctrlsWith_mem _ cur l' hl' x hx'
  refine ⟨hd, ?_⟩
  rcases hc with hself | ⟨r, hr, hne, hres⟩
  · exact Or.inl hself
  · refine Or.inr ⟨r, hr, hne, rm, hrm, ?_⟩
    have hallow := allowOf_metaFor tx rm hrm
    rw [hallow] at hres
    obtain ⟨h1, h2⟩ := resolveN_ok _ _ r x hres
    rw [resolverResolve_of_not_allow _ s _ hallow] at h1
    obtain ⟨h3, h4⟩ := resolveN_ok _ _ r x h1
    exact ⟨h3, h4, h2⟩

theorem authorisedBy_true (c : Cfg) (s : Store) (tx : Tx) (t : String) (v : Doc) (h : authorisedBy c s tx t v = .ok true) :
    ∃ ctrl e k', ControllerFor c s tx v ctrl ∧ e ∈ ctrl.f .capInv ∧ KeyInfo.ofBody e.body = .key k' ∧ c.thumb k' = t := by
  unfold authorisedBy at h
  split at h
  · cases h
  · cases h
  · rename_i ctrls hc
    obtain ⟨e, he, k', hk', ht⟩ := findKey_true c.thumb c.findKeyNilJwkErr t _ h
    obtain ⟨ctrl, hctrl, hmem⟩ := List.mem_flatMap.mp he
    exact ⟨ctrl, e, k', ambControllers_sound c s v tx ctrls hc ctrl hctrl, hmem, hk', ht⟩

theorem handleUpdate_ok_iff (c : Cfg) (s s' : Store) (tx : Tx) (d : NDoc) :
    handleUpdate c s tx d = .ok s' ↔
    ∃ cur ctrls k others, currentVersion s d.id tx.prevs = .ok cur ∧ ambControllers c s cur tx = .ok ctrls ∧
      resolvePublicKey c.maxDepth s tx.kid tx.prevs = .ok k ∧
      findKey c.thumb c.findKeyNilJwkErr (c.thumb k) (capInvOf ctrls) = .ok true ∧
      otherNamed s d.id tx.prevs = .ok others ∧ checkOthers c s tx (c.thumb k) others = .ok true ∧
      add c.store s (eventOf tx d) = .ok s' := by
  constructor
  · fun_cases handleUpdate c s tx d with
    | case15 cur hcur ctrls hctrls k hk hf others ho hco =>
      exact fun h => ⟨cur, ctrls, k, others, hcur, hctrls, hk, hf, ho, hco, (storeAdd_ok_iff c s s' tx d).mp h⟩
    | _ => nofun
  · rintro ⟨cur, ctrls, k, others, h1, h2, h3, h4, h5, h6, h7⟩
    simpa only [handleUpdate, h1, h2, h3, h4, h5, h6] using (storeAdd_ok_iff c s s' tx d).mpr h7

theorem checkOthers_true (c : Cfg) (s : Store) (tx : Tx) (t : String) :
    ∀ l : List Doc, checkOthers c s tx t l = .ok true → ∀ v ∈ l, authorisedBy c s tx t v = .ok true := by
  intro l
  induction l with
  | nil => intro _ v hv; cases hv
  | cons x xs ih =>
    intro h v hv
    unfold checkOthers at h
    split at h
    · rename_i hx
      rcases List.mem_cons.mp hv with rfl | hv
      · exact hx
      · exact ih h v hv
    · cases h
    · cases h
    · cases h

/-- The succeeded version's check is written out in `handleUpdate`; it is the first round of `checkOthers` over
    `cur :: others`. -/
theorem handleUpdate_authorised (c : Cfg) (s s' : Store) (tx : Tx) (d : NDoc) (h : handleUpdate c s tx d = .ok s') :
    ∃ cur k others, currentVersion s d.id tx.prevs = .ok cur ∧
      resolvePublicKey c.maxDepth s tx.kid tx.prevs = .ok k ∧ otherNamed s d.id tx.prevs = .ok others ∧
      (∀ v ∈ cur :: others, ∃ ctrl e k', ControllerFor c s tx v ctrl ∧ e ∈ ctrl.f .capInv ∧
        KeyInfo.ofBody e.body = .key k' ∧ c.thumb k' = c.thumb k) ∧
      add c.store s (eventOf tx d) = .ok s' := by
  obtain ⟨cur, ctrls, k, others, hcur, hc, hk, hf, ho, hco, hadd⟩ := (handleUpdate_ok_iff c s s' tx d).mp h
  refine ⟨cur, k, others, hcur, hk, ho, fun v hv => authorisedBy_true c s tx _ v
    (checkOthers_true c s tx _ (cur :: others) ?_ v hv), hadd⟩
  simp only [checkOthers, authorisedBy, hc, hf, hco]

theorem dedupByHash_mem : ∀ (l : List (Doc × Hash)) (seen : List Hash) (v : Doc),
    v ∈ dedupByHash l seen → ∃ h, (v, h) ∈ l := by
  intro l
  induction l with
  | nil => intro seen v hv; simp [dedupByHash] at hv
  | cons p l ih =>
    intro seen v hv
    obtain ⟨d, h⟩ := p
    unfold dedupByHash at hv
    split at hv
    · obtain ⟨h', hm⟩ := ih seen v hv
      exact ⟨h', List.mem_cons_of_mem _ hm⟩
    · rcases List.mem_cons.mp hv with rfl | hv
      · exact ⟨h, List.mem_cons_self⟩
      · obtain ⟨h', hm⟩ := ih _ v hv
        exact ⟨h', List.mem_cons_of_mem _ hm⟩

theorem namedVersions_mem (s : Store) (id : String) :
    ∀ (prevs : List Nat) (l : List (Doc × Hash)), namedVersions s id prevs = .ok l →
      ∀ v h, (v, h) ∈ l → ∃ p ∈ prevs, ∃ m, resolve s id (some { allowDeactivated := true, sourceTx := some p }) = .ok (v, m) := by
  intro prevs
  induction prevs with
  | nil => intro l h v hh hv; simp [namedVersions] at h; subst h; cases hv
  | cons p ps ih =>
    intro l h v hh hv
    unfold namedVersions at h
    split at h
    · rename_i d m hr
      split at h
      · rename_i l' hl'
        cases h
        rcases List.mem_cons.mp hv with heq | hv
        · cases heq
          exact ⟨p, List.mem_cons_self, m, hr⟩
        · obtain ⟨q, hq, m', hm'⟩ := ih l' hl' v hh hv
          exact ⟨q, List.mem_cons_of_mem _ hq, m', hm'⟩
      · cases h
      · cases h
    · split at h
      · obtain ⟨q, hq, m', hm'⟩ := ih l h v hh hv
        exact ⟨q, List.mem_cons_of_mem _ hq, m', hm'⟩
      · cases h
    · cases h

theorem otherNamed_mem (s : Store) (id : String) (prevs : List Nat) (others : List Doc)
    (h : otherNamed s id prevs = .ok others) :
    ∀ v ∈ others, ∃ p ∈ prevs, ∃ m, resolve s id (some { allowDeactivated := true, sourceTx := some p }) = .ok (v, m) := by
  intro v hv
  unfold otherNamed at h
  split at h
  · cases h; cases hv
  · rename_i d0 h0 l hn
    cases h
    obtain ⟨hh, hm⟩ := dedupByHash_mem l [h0] v hv
    exact namedVersions_mem s id prevs _ hn v hh (List.mem_cons_of_mem _ hm)
  · cases h
  · cases h

end Nuts.C09
