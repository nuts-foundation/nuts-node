import NutsModel.C17.Framing
namespace Nuts.C17.Framing

/-- `chr` lands in the alphabet: on a sextet `idx` undoes it, anything larger is sent to `_` -/
theorem idx_chr_min (s : Nat) : idx (chr s) = some (min s 63) := by
  by_cases h : s < 64
  · have tab : ∀ s, s < 64 → idx (chr s) = some (min s 63) := by decide +kernel
    exact tab s h
  · have : chr s = 95 := by
      unfold chr
      rw [if_neg (by omega), if_neg (by omega), if_neg (by omega), if_neg (by omega)]
    rw [this, Nat.min_eq_right (by omega)]
    rfl

theorem idx_chr {s : Nat} (h : s < 64) : idx (chr s) = some s := by
  rw [idx_chr_min, Nat.min_eq_left (by omega)]

theorem idx_chr_isSome (s : Nat) : (idx (chr s)).isSome = true := by
  rw [idx_chr_min]; rfl

theorem chr_ne_of_idx_none {c : Nat} (hc : idx c = none) (s : Nat) : chr s ≠ c := fun h => by
  have := idx_chr_isSome s
  rw [h, hc] at this
  cases this

theorem chr_not_nl (s : Nat) : ¬ (chr s = 10 ∨ chr s = 13) :=
  fun h => h.elim (chr_ne_of_idx_none rfl s) (chr_ne_of_idx_none rfl s)

theorem chr_ne_dot (s : Nat) : chr s ≠ 46 := chr_ne_of_idx_none rfl s

theorem sextets_map_chr : ∀ (l : List Nat), (∀ s ∈ l, s < 64) → sextets (l.map chr) = some l
  | [], _ => rfl
  | s :: r, h => by
    have hs : s < 64 := h s (by simp)
    have hr := sextets_map_chr r (fun x hx => h x (by simp [hx]))
    simp only [List.map, sextets, if_neg (chr_not_nl s), idx_chr hs, hr, Option.map]

/-! the arithmetic of one 3-byte group; the 2- and 1-byte tails are the same terms with `0` for the missing bytes -/

theorem group_lt {x y z : Nat} (hx : x < 256) (hy : y < 256) (hz : z < 256) :
    x / 4 < 64 ∧ x % 4 * 16 + y / 16 < 64 ∧ y % 16 * 4 + z / 64 < 64 ∧ z % 64 < 64 := by omega

theorem group_inv {x y z : Nat} (hy : y < 256) (hz : z < 256) :
    x / 4 * 4 + (x % 4 * 16 + y / 16) / 16 = x ∧
    (x % 4 * 16 + y / 16) % 16 * 16 + (y % 16 * 4 + z / 64) / 4 = y ∧
    (y % 16 * 4 + z / 64) % 4 * 64 + z % 64 = z := by omega

theorem encSextets_lt : ∀ (b : Bytes), (∀ x ∈ b, x < 256) → ∀ s ∈ encSextets b, s < 64 := by
  intro b
  induction b using encSextets.induct with
  | case1 x y z rest ih =>
    intro h s hs
    obtain ⟨h1, h2, h3, h4⟩ := group_lt (h x (by simp)) (h y (by simp)) (h z (by simp))
    simp only [encSextets, List.mem_cons] at hs
    rcases hs with rfl | rfl | rfl | rfl | hs
    · exact h1
    · exact h2
    · exact h3
    · exact h4
    · exact ih (fun w hw => h w (by simp [hw])) s hs
  | case2 x y =>
    intro h s hs
    obtain ⟨h1, h2, h3, _⟩ := group_lt (z := 0) (h x (by simp)) (h y (by simp)) (by decide)
    simp only [encSextets, List.mem_cons, List.not_mem_nil, or_false] at hs
    rcases hs with rfl | rfl | rfl
    · exact h1
    · exact h2
    · exact h3
  | case3 x =>
    intro h s hs
    obtain ⟨h1, h2, _⟩ := group_lt (y := 0) (z := 0) (h x (by simp)) (by decide) (by decide)
    simp only [encSextets, List.mem_cons, List.not_mem_nil, or_false] at hs
    rcases hs with rfl | rfl
    · exact h1
    · exact h2
  | case4 => intro _ s hs; cases hs

theorem dec_enc_sextets : ∀ (b : Bytes), (∀ x ∈ b, x < 256) → decSextets (encSextets b) = some b := by
  intro b
  induction b using encSextets.induct with
  | case1 x y z rest ih =>
    intro h
    obtain ⟨e1, e2, e3⟩ := group_inv (x := x) (h y (by simp)) (h z (by simp))
    simp only [encSextets, decSextets, ih (fun w hw => h w (by simp [hw])), Option.map, e1, e2, e3]
  | case2 x y =>
    intro h
    obtain ⟨e1, e2, _⟩ := group_inv (x := x) (z := 0) (h y (by simp)) (by decide)
    simp only [encSextets, decSextets]
    rw [e1]
    exact congrArg (fun b => some [x, b]) e2
  | case3 x =>
    intro h
    obtain ⟨e1, _⟩ := group_inv (x := x) (y := 0) (z := 0) (by decide) (by decide)
    simp only [encSextets, decSextets]
    exact congrArg (fun a => some [a]) e1
  | case4 => intro _; rfl

theorem decode_encode (b : Bytes) (h : ∀ x ∈ b, x < 256) : decode (encode b) = some b := by
  unfold decode encode
  rw [sextets_map_chr _ (encSextets_lt b h)]
  exact dec_enc_sextets b h

theorem encode_canonical (b : Bytes) (h : ∀ x ∈ b, x < 256) : canonical (encode b) = true := by
  unfold canonical
  rw [decode_encode b h]
  simp

theorem canonical_eq {s : Bytes} (h : canonical s = true) : ∃ d, decode s = some d ∧ encode d = s := by
  unfold canonical at h
  split at h
  · cases h
  · next d hd => exact ⟨d, hd, by simpa using h⟩

theorem canonical_unique {a b : Bytes} (ha : canonical a = true) (hb : canonical b = true) (h : decode a = decode b) : a = b := by
  obtain ⟨da, ha1, ha2⟩ := canonical_eq ha
  obtain ⟨db, hb1, hb2⟩ := canonical_eq hb
  rw [ha1, hb1] at h
  cases h
  rw [← ha2, ← hb2]

theorem segments_eq : ∀ l : Bytes, segments l = l.splitOn 46
  | [] => rfl
  | x :: xs => by
    have ih := segments_eq xs
    unfold segments at ih ⊢
    rw [splitDot, List.splitOn_cons_eq_if_modifyHead, ← ih]
    by_cases h : x = 46 <;> simp [h]

theorem joinDot_eq : ∀ (h : Bytes) (t : List Bytes), joinDot h t = [46].intercalate (h :: t)
  | h, [] => by simp [joinDot]
  | h, x :: t => by rw [joinDot, List.intercalate_cons_cons, joinDot_eq x t]; simp

theorem join_split (l : Bytes) : joinDot (splitDot l).1 (splitDot l).2 = l := by
  rw [joinDot_eq]
  exact (segments_eq l ▸ List.intercalate_splitOn 46 : [46].intercalate (segments l) = l)

theorem encode_no_dot (b : Bytes) : ∀ c ∈ encode b, c ≠ 46 := by
  intro c hc
  unfold encode at hc
  obtain ⟨x, _, rfl⟩ := List.mem_map.mp hc
  exact chr_ne_dot x

theorem canonical_no_dot {s : Bytes} (h : canonical s = true) : ∀ c ∈ s, c ≠ 46 := by
  obtain ⟨d, _, rfl⟩ := canonical_eq h
  exact encode_no_dot d

theorem segments_nodot (x : Bytes) (h : ∀ c ∈ x, c ≠ 46) : segments x = [x] :=
  segments_eq x ▸ List.splitOn_eq_singleton fun hm => h 46 hm rfl

theorem segments_append (x r : Bytes) (h : ∀ c ∈ x, c ≠ 46) : segments (x ++ 46 :: r) = x :: segments r := by
  rw [segments_eq, segments_eq]
  exact List.splitOn_append_cons_self_of_not_mem (fun hm => h 46 hm rfl) r

theorem segments_compact (a b c : Bytes) (ha : ∀ x ∈ a, x ≠ 46) (hb : ∀ x ∈ b, x ≠ 46) (hc : ∀ x ∈ c, x ≠ 46) :
    segments (a ++ 46 :: (b ++ 46 :: c)) = [a, b, c] := by
  rw [segments_append a _ ha, segments_append b _ hb, segments_nodot c hc]

theorem trim_space_cons (a : Bytes) : trimLeftSpace (32 :: a) = trimLeftSpace a := by
  unfold trimLeftSpace
  simp [trimN, stripSpace, spaceSeqs, List.findSome?]

end Nuts.C17.Framing
