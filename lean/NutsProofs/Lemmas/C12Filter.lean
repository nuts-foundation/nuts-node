/-
  C12 — the value filter (`filterTail`, `matchCore` / `matchAny`, the `enum` loop, `matchFilter`): it never panics under
  the array guard, and it is sound and complete against `Matches` / `FilterMatches` of NutsModel/C12/Spec.lean.
-/
import NutsModel.C12.Spec
import NutsProofs.Lemmas.Base
namespace Nuts.C12
open Nuts

theorem filterTail_noPanic {re : Regex} {ty : String} {c p : Option String} {v : J}
    (h : ty = "string" → ∃ s, v = .str s) : (filterTail re ty c p v).isPanic = false := by
  fun_cases filterTail re ty c p v with
  | case2 _ pat hty =>
    obtain ⟨s, rfl⟩ := h (by simpa using hty)
    unfold patternTail
    dsimp only
    split <;> rfl
  | _ => rfl

mutual
theorem matchCore_noPanic (cfg : Cfg) (hg : cfg.arrayGuard = true) (re : Regex) (ty : String) (c p : Option String) :
    ∀ v, (matchCore cfg re ty c p v).isPanic = false
  | .str s => by
    unfold matchCore; split
    · rfl
    · exact filterTail_noPanic (fun _ => ⟨s, rfl⟩)
  | .num s => by
    unfold matchCore; split
    · rfl
    · next h => exact filterTail_noPanic (fun h' => by simp [h'] at h)
  | .bool b => by
    unfold matchCore; split
    · rfl
    · next h => exact filterTail_noPanic (fun h' => by simp [h'] at h)
  | .null => by unfold matchCore; rfl
  | .obj _ => by unfold matchCore; rfl
  | .arr l => by
    unfold matchCore
    have ih := matchAny_noPanic cfg hg re ty c p l
    split
    · rfl
    · split
      · rfl
      · next h =>
        apply filterTail_noPanic
        intro h'
        simp [hg, h'] at h
    · rfl
    · next s heq => exact absurd heq (Res.ne_panic_of_isPanic_false ih s)
theorem matchAny_noPanic (cfg : Cfg) (hg : cfg.arrayGuard = true) (re : Regex) (ty : String) (c p : Option String) :
    ∀ l, (matchAny cfg re ty c p l).isPanic = false
  | [] => by unfold matchAny; rfl
  | e :: es => by
    unfold matchAny
    have ih1 := matchCore_noPanic cfg hg re ty c p e
    have ih2 := matchAny_noPanic cfg hg re ty c p es
    split
    · rfl
    · exact ih2
    · rfl
    · next s heq => exact absurd heq (Res.ne_panic_of_isPanic_false ih1 s)
end

section
variable (cfg : Cfg) (hg : cfg.arrayGuard = true) (re : Regex)
include hg

theorem matchEnum_noPanic (v : J) (es : List String) : (matchEnum cfg re v es).isPanic = false := by
  fun_induction matchEnum cfg re v es with
  | case3 e _ s h => exact absurd h (Res.ne_panic_of_isPanic_false (matchCore_noPanic cfg hg re "string" (some e) none v) s)
  | case4 _ _ _ _ ih => exact ih
  | _ => rfl

theorem matchFilter_noPanic (f : Filter) (v : J) :
    (matchFilter cfg re f v).isPanic = false := by
  unfold matchFilter
  split
  · exact matchEnum_noPanic cfg hg re v _
  · exact matchCore_noPanic cfg hg re _ _ _ v

end

theorem constOK_iff (c : Option String) (v : J) : constOK c v = true ↔ ConstHolds c v := by
  unfold constOK ConstHolds
  cases c with
  | none => simp
  | some cv =>
    cases v <;> simp

/-- the value `matchFilter` reports for a matching value: the value itself, or the regexp result when the filter has a pattern -/
def ValueRel (re : Regex) (p : Option String) (v x : J) : Prop :=
  x = v ∨ ∃ s pat m, v = .str s ∧ p = some pat ∧ (re pat s = .whole m ∨ re pat s = .cap m) ∧ x = .str m

/-- what `matchFilter` checks on a value of the filter's type: `const`, and `pattern` on a string -/
def TailHolds (re : Regex) (c p : Option String) (v : J) : Prop :=
  ConstHolds c v ∧ ∀ s, v = .str s → PatternHolds re p s

theorem ConstHolds.eq_none {c : Option String} {v : J} (h : ConstHolds c v) (hv : ∀ s, v ≠ .str s) : c = none := by
  cases c with
  | none => rfl
  | some cv => exact absurd h (hv cv)

theorem filterTail_spec (re : Regex) (ty : String) (c p : Option String) (v : J)
    (hty : (ty == "string") = match v with | .str _ => true | _ => false) :
    (∀ x, filterTail re ty c p v = .ok (some x) → TailHolds re c p v ∧ ValueRel re p v x) ∧
    (filterTail re ty c p v = .ok none → ¬ TailHolds re c p v) := by
  unfold filterTail
  split
  · next hc => exact ⟨nofun, fun _ ht => by simp [(constOK_iff c v).2 ht.1] at hc⟩
  · next hc =>
    have hc' : ConstHolds c v := (constOK_iff c v).1 (by simpa using hc)
    cases p with
    | none => exact ⟨fun x hx => by cases hx; exact ⟨⟨hc', fun _ _ => trivial⟩, .inl rfl⟩, nofun⟩
    | some pat =>
      dsimp only
      cases v with
      | str s =>
        rw [if_pos hty]
        unfold patternTail
        dsimp only
        cases hr : re pat s with
        | whole m =>
          exact ⟨fun x hx => by cases hx; exact ⟨⟨hc', fun _ hs => by cases hs; exact ⟨m, .inl hr⟩⟩,
            .inr ⟨s, pat, m, rfl, rfl, .inl hr, rfl⟩⟩, nofun⟩
        | cap m =>
          exact ⟨fun x hx => by cases hx; exact ⟨⟨hc', fun _ hs => by cases hs; exact ⟨m, .inr hr⟩⟩,
            .inr ⟨s, pat, m, rfl, rfl, .inr hr, rfl⟩⟩, nofun⟩
        | noMatch =>
          refine ⟨nofun, fun _ ht => ?_⟩
          obtain ⟨m, hm⟩ := ht.2 s rfl
          rw [hr] at hm
          exact hm.elim nofun nofun
        | _ => exact ⟨nofun, nofun⟩
      | _ =>
        rw [if_neg (hty ▸ Bool.false_ne_true)]
        exact ⟨fun x hx => by cases hx; exact ⟨⟨hc', nofun⟩, .inl rfl⟩, nofun⟩

theorem filterTail_nonstr {re : Regex} {ty : String} {c p : Option String} {v : J} (hty : ty ≠ "string") :
    filterTail re ty c p v = if constOK c v then .ok (some v) else .ok none := by
  unfold filterTail
  have : (ty == "string") = false := by simpa using hty
  cases constOK c v <;> cases p <;> simp [this]

/-- one arm of `matchFilter`'s type switch, for values `v` of the JSON type named `T`: `v` matches (`M`) exactly if
    the filter asks for `T` and the keywords hold -/
theorem typed_spec (re : Regex) (ty : String) (c p : Option String) (T : String) (v : J)
    (hT : (T == "string") = match v with | .str _ => true | _ => false) (M : Prop)
    (intro : ty = T → TailHolds re c p v → M) (elim : M → ty = T ∧ TailHolds re c p v) :
    (∀ x, (if ty != T then Res.ok none else filterTail re ty c p v) = .ok (some x) → M ∧ ValueRel re p v x) ∧
    ((if ty != T then Res.ok none else filterTail re ty c p v) = .ok none → ¬ M) := by
  by_cases hty : ty = T
  · subst hty
    rw [if_neg (by simp)]
    have ft := filterTail_spec re ty c p v hT
    exact ⟨fun x hx => ⟨intro rfl (ft.1 x hx).1, (ft.1 x hx).2⟩, fun hn hm => ft.2 hn (elim hm).2⟩
  · rw [if_pos (by simpa using hty)]
    exact ⟨nofun, fun _ hm => hty (elim hm).1⟩

mutual
theorem matchCore_spec (cfg : Cfg) (hg : cfg.arrayGuard = true) (re : Regex) (ty : String) (c p : Option String) :
    ∀ v, (∀ x, matchCore cfg re ty c p v = .ok (some x) → Matches re ty c p v ∧ ValueRel re p v x) ∧
         (matchCore cfg re ty c p v = .ok none → ¬ Matches re ty c p v)
  | .str s => by
    unfold matchCore
    exact typed_spec re ty c p "string" (.str s) rfl _ (fun h t => .str s h t.1 (t.2 s rfl))
      (fun hm => by cases hm with | str _ h1 h2 h3 => exact ⟨h1, h2, fun _ hs => by cases hs; exact h3⟩)
  | .num s => by
    unfold matchCore
    exact typed_spec re ty c p "number" (.num s) rfl _ (fun h t => .num s h (t.1.eq_none nofun))
      (fun hm => by cases hm with | num _ h1 h2 => exact ⟨h1, h2 ▸ trivial, nofun⟩)
  | .bool b => by
    unfold matchCore
    exact typed_spec re ty c p "boolean" (.bool b) rfl _ (fun h t => .bool b h (t.1.eq_none nofun))
      (fun hm => by cases hm with | bool _ h1 h2 => exact ⟨h1, h2 ▸ trivial, nofun⟩)
  | .null => by unfold matchCore; exact ⟨nofun, nofun⟩
  | .obj _ => by unfold matchCore; exact ⟨nofun, nofun⟩
  | .arr l => by
    unfold matchCore
    have ih := matchAny_spec cfg hg re ty c p l
    split
    · next heq =>
      obtain ⟨e, he, hm⟩ := ih.1 heq
      exact ⟨fun x hx => by cases hx; exact ⟨.elem l e he hm, .inl rfl⟩, nofun⟩
    · next heq =>
      rw [hg, Bool.true_and]
      exact typed_spec re ty c p "array" (.arr l) rfl _ (fun h t => .arrSelf l h (t.1.eq_none nofun)) (fun hm => by
        cases hm with
        | elem _ e he hme => exact absurd hme (ih.2 heq e he)
        | arrSelf _ h1 h2 => exact ⟨h1, h2 ▸ trivial, nofun⟩)
    · exact ⟨nofun, nofun⟩
    · exact ⟨nofun, nofun⟩
theorem matchAny_spec (cfg : Cfg) (hg : cfg.arrayGuard = true) (re : Regex) (ty : String) (c p : Option String) :
    ∀ l, (matchAny cfg re ty c p l = .ok true → ∃ e ∈ l, Matches re ty c p e) ∧
         (matchAny cfg re ty c p l = .ok false → ∀ e ∈ l, ¬ Matches re ty c p e)
  | [] => by
    unfold matchAny
    exact ⟨fun h => (by cases h), fun _ e he => (by cases he)⟩
  | e :: es => by
    unfold matchAny
    have ih1 := matchCore_spec cfg hg re ty c p e
    have ih2 := matchAny_spec cfg hg re ty c p es
    split
    · next x heq =>
      exact ⟨fun _ => ⟨e, List.mem_cons_self, (ih1.1 x heq).1⟩, fun h => (by cases h)⟩
    · next heq =>
      refine ⟨fun h => ?_, fun h e' he' => ?_⟩
      · obtain ⟨e', he', hm⟩ := ih2.1 h
        exact ⟨e', List.mem_cons_of_mem _ he', hm⟩
      · cases he' with
        | head => exact ih1.2 heq
        | tail _ h' => exact ih2.2 h e' h'
    · exact ⟨fun h => (by cases h), fun h => (by cases h)⟩
    · exact ⟨fun h => (by cases h), fun h => (by cases h)⟩
end

section
variable {cfg : Cfg} (hg : cfg.arrayGuard = true) {re : Regex}
include hg

theorem matchEnum_sound {v : J} {es : List String} {x : J} :
    matchEnum cfg re v es = .ok (some x) → (∃ e ∈ es, Matches re "string" (some e) none v) ∧ x = v := by
  fun_induction matchEnum cfg re v es with
  | case1 | case3 => exact fun h => nomatch h
  | case2 e es y heq =>
    intro h; cases h
    have := (matchCore_spec cfg hg re "string" (some e) none v).1 _ heq
    refine ⟨⟨e, List.mem_cons_self, this.1⟩, ?_⟩
    rcases this.2 with h | ⟨_, _, _, _, hp, _⟩
    · exact h
    · cases hp
  | case4 _ _ _ _ ih => exact fun h => (ih h).imp_left fun ⟨e', he', hm⟩ => ⟨e', List.mem_cons_of_mem _ he', hm⟩

theorem matchFilter_sound {f : Filter} {v x : J}
    (h : matchFilter cfg re f v = .ok (some x)) : FilterMatches re f v ∧ ValueRel re f.pattern v x := by
  unfold matchFilter at h
  unfold FilterMatches
  split at h
  · next es heq =>
    rw [heq]
    have := matchEnum_sound hg h
    exact ⟨this.1, Or.inl this.2⟩
  · next heq =>
    rw [heq]
    exact (matchCore_spec cfg hg re f.type f.const f.pattern v).1 x h

theorem matchEnum_complete {v : J} (hs : EnumErrorsHideNothing cfg re v) {es : List String} :
    matchEnum cfg re v es = .ok none → ∀ e ∈ es, ¬ Matches re "string" (some e) none v := by
  fun_induction matchEnum cfg re v es with
  | case1 => exact fun _ _ he => nomatch he
  | case2 | case3 => exact fun h => nomatch h
  | case4 e0 es hns hnp ih =>
    intro h e he
    cases he with
    | tail _ h' => exact ih h e h'
    | head =>
      cases hr : matchCore cfg re "string" (some e0) none v with
      | ok o =>
        cases o with
        | some x => exact absurd hr (hns x)
        | none => exact (matchCore_spec cfg hg re "string" (some e0) none v).2 hr
      | err msg => exact hs e0 msg hr
      | panic s => exact absurd hr (hnp s)

theorem matchFilter_complete {f : Filter} {v : J}
    (hs : EnumErrorsHideNothing cfg re v) (h : matchFilter cfg re f v = .ok none) : ¬ FilterMatches re f v := by
  unfold matchFilter at h
  unfold FilterMatches
  split at h
  · next es heq =>
    rw [heq]
    intro ⟨e, he, hm⟩
    exact matchEnum_complete hg hs h e he hm
  · next heq =>
    rw [heq]
    exact (matchCore_spec cfg hg re f.type f.const f.pattern v).2 h

end

end Nuts.C12
