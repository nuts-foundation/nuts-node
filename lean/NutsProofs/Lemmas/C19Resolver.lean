/-
  vdr/resolver key.go and service.go (NutsModel/C19/Resolver.lean): where baseUrl, ResolveKeyByID and ResolveKey can panic; the depth
  bound of ResolveEx.
-/
import NutsModel.C19.Resolver
import NutsProofs.Lemmas.Base

namespace Nuts.C19.Lemmas
open Nuts.C19.Resolver

variable {P : String → Prop}

theorem baseUrl_panicsIn (c : Cfg) (h : c.baseChecked = false → P "baseUrl:val.(string)") (ctx : List J) :
    Res.PanicsIn (baseUrl c ctx) P := by
  fun_induction baseUrl c ctx with
  | case1 | case3 => exact .ok
  | case5 _ _ _ _ _ hc => exact .panic (h (eq_false_of_ne_true hc))
  | _ => assumption

/-- the go-did contract: PublicKey() does not panic on any relationship of the list -/
def KeysTotal (l : List Rel) : Prop := ∀ r ∈ l, r.key ≠ .libPanic

theorem publicKey_panicsIn (fn : String) (r : Rel)
    (h : r.key = .libPanic → P (fn ++ ">did.VerificationMethod.PublicKey:PublicKey()(go-did)")) : Res.PanicsIn (publicKey fn r) P := by
  unfold publicKey
  split
  · exact .ok
  · exact .err
  · exact .panic (h ‹_›)

theorem findKey_panicsIn {c : Cfg} (keyID : String) (base : Option String)
    (hn : c.nilVMChecked = false → P "ResolveKeyByID:rel.ID(nil *VerificationMethod)") :
    ∀ l, (∀ r ∈ l, Res.PanicsIn (publicKey "ResolveKeyByID" r) P) → Res.PanicsIn (findKey c keyID base l) P
  | [], _ => .err
  | r :: rest, hk => by
    have tl := findKey_panicsIn keyID base hn rest fun x hx => hk x (.tail _ hx)
    have hd := hk r (.head _)
    unfold findKey
    refine .ite (.flag tl hn) (.ite hd ?_)
    split
    · exact .ite (.ite hd tl) tl
    · exact tl

theorem firstKey_panicsIn {c : Cfg} (hn : c.nilVMChecked = false → P "ResolveKey:keys[0].PublicKey()(nil *VerificationMethod)") :
    ∀ l, (∀ r ∈ l, Res.PanicsIn (publicKey "ResolveKey" r) P) → Res.PanicsIn (firstKey c l) P
  | [], _ => .err
  | r :: rest, hk => by
    unfold firstKey
    exact .ite (.flag (firstKey_panicsIn hn rest fun x hx => hk x (.tail _ hx)) hn) (hk r (.head _))

theorem resolveKeyByID_panicsIn (c : Cfg) (keyID : String) (didOk : Bool) (doc : Option KeyDoc) (rt : Nat)
    (hb : c.baseChecked = false → P "baseUrl:val.(string)")
    (hn : c.nilVMChecked = false → P "ResolveKeyByID:rel.ID(nil *VerificationMethod)")
    (hk : ∀ d, doc = some d → ∀ r ∈ d.rels rt, Res.PanicsIn (publicKey "ResolveKeyByID" r) P) :
    Res.PanicsIn (resolveKeyByID c keyID didOk doc rt) P := by
  fun_cases resolveKeyByID c keyID didOk doc rt with
  | case3 _ _ _ hp => exact .pass (baseUrl_panicsIn c hb _) hp
  | case6 => exact findKey_panicsIn keyID _ hn _ (hk _ rfl)
  | _ => exact .err

theorem resolveKey_panicsIn (c : Cfg) (doc : Option KeyDoc) (rt : Nat)
    (hn : c.nilVMChecked = false → P "ResolveKey:keys[0].PublicKey()(nil *VerificationMethod)")
    (hk : ∀ d, doc = some d → ∀ r ∈ d.rels rt, Res.PanicsIn (publicKey "ResolveKey" r) P) :
    Res.PanicsIn (resolveKey c doc rt) P := by
  unfold resolveKey
  cases doc with
  | none => exact .err
  | some d => exact .ite .err (firstKey_panicsIn hn _ (hk d rfl))

theorem resolveEx_spec (env : Env) (endpoint : String) (depth maxDepth : Int) :
    (resolveEx env false endpoint depth maxDepth).2 ≤ (maxDepth - depth).toNat + 1 ∧
      Res.PanicsIn (resolveEx env false endpoint depth maxDepth).1 P := by
  -- every exit but the recursive call is one iteration that returns an error or the service
  fun_induction resolveEx env false endpoint depth maxDepth with
  | case4 => contradiction   -- the write to a nil cache map
  | case8 => rename_i ih; exact ⟨Nat.succ_le_succ (Nat.le_trans ih.1 (by omega)), ih.2⟩
  | case9 | case10 => exact ⟨Nat.le_add_left 1 _, .ok⟩
  | _ => exact ⟨Nat.le_add_left 1 _, .err⟩

end Nuts.C19.Lemmas
