import NutsProofs.Lemmas.C13

namespace Nuts.C13
open Nuts

/-! ### the one elementary update behind both clean-ups and the sweep

`d t = some true`: transaction `t` is committed — its change records go; `some false`: it is abandoned — its versions go
(and the DIDs it created); `none`: it is left alone. -/

def strip (v : Ver) : Ver := { v with pending := none }

def settleRow (cfg : Cfg) (d : Nat → Option Bool) (r : DidRow) : Option DidRow :=
  match r.vers with
  | v :: vs =>
    match v.pending with
    | some p =>
      match d p.tx with
      | some true => some { r with vers := strip v :: vs }
      | some false => if cfg.rollbackDeletesCreatedDID = true ∧ p.typ = .created then none else some { r with vers := vs }
      | none => some r
    | none => some r
  | [] => some r

def settle (cfg : Cfg) (d : Nat → Option Bool) (dids : List DidRow) : List DidRow := dids.filterMap (settleRow cfg d)

def only (t : Nat) (b : Bool) (x : Nat) : Option Bool := if x = t then some b else none

def TopOnly (r : DidRow) : Prop := ∀ v ∈ r.vers.tail, v.pending = none

theorem settleRow_cases (cfg : Cfg) (d : Nat → Option Bool) (r : DidRow) :
    (settleRow cfg d r = some r ∧ ∀ t, headTx r = some t → d t = none) ∨
    ∃ v vs p, r.vers = v :: vs ∧ v.pending = some p ∧
      ((d p.tx = some true ∧ settleRow cfg d r = some { r with vers := strip v :: vs }) ∨
       (d p.tx = some false ∧ ¬ (cfg.rollbackDeletesCreatedDID = true ∧ p.typ = .created) ∧
          settleRow cfg d r = some { r with vers := vs }) ∨
       (d p.tx = some false ∧ (cfg.rollbackDeletesCreatedDID = true ∧ p.typ = .created) ∧ settleRow cfg d r = none)) := by
  fun_cases settleRow cfg d r with
  | case1 v vs hv p hp hd => exact .inr ⟨v, vs, p, hv, hp, .inl ⟨hd, rfl⟩⟩
  | case2 v vs hv p hp hd hc => exact .inr ⟨v, vs, p, hv, hp, .inr (.inr ⟨hd, hc, rfl⟩)⟩
  | case3 v vs hv p hp hd hc => exact .inr ⟨v, vs, p, hv, hp, .inr (.inl ⟨hd, hc, rfl⟩)⟩
  | case4 v vs hv p hp hd => exact .inl ⟨rfl, fun t ht => by rw [headTx_cons hv hp] at ht; cases ht; exact hd⟩
  | case5 v vs hv hp => exact .inl ⟨rfl, fun t ht => by simp [headTx, hv, hp] at ht⟩
  | case6 hv => exact .inl ⟨rfl, fun t ht => by simp [headTx, hv] at ht⟩

theorem settleRow_abort {cfg : Cfg} {d : Nat → Option Bool} {r : DidRow} {v : Ver} {vs : List Ver} {p : Pending}
    (hv : r.vers = v :: vs) (hp : v.pending = some p) (hd : d p.tx = some false) :
    settleRow cfg d r =
      if cfg.rollbackDeletesCreatedDID = true ∧ p.typ = .created then none else some { r with vers := vs } := by
  unfold settleRow
  rw [hv]
  simp only [hp, hd]

theorem settleRow_untouched {cfg : Cfg} {d : Nat → Option Bool} {r : DidRow} (h : ∀ t, headTx r = some t → d t = none) :
    settleRow cfg d r = some r := by
  rcases settleRow_cases cfg d r with ⟨he, _⟩ | ⟨v, vs, p, hv, hp, ⟨hd, _⟩ | ⟨hd, _⟩ | ⟨hd, _⟩⟩
  · exact he
  all_goals rw [h _ (headTx_cons hv hp)] at hd; cases hd

theorem settleRow_older {cfg : Cfg} {d : Nat → Option Bool} {dids : List DidRow} {n : Nat} (h : Inv dids n) {r : DidRow}
    (hr : r ∈ dids) (hd : ∀ t, t ≠ n → d t = none) : settleRow cfg d r = some r :=
  settleRow_untouched fun t ht => hd t (Nat.ne_of_lt (headTx_lt h r hr t ht))

theorem settleRow_bind (cfg : Cfg) (d₁ d₂ : Nat → Option Bool) (r : DidRow) (h : TopOnly r) :
    (settleRow cfg d₁ r).bind (settleRow cfg d₂) = settleRow cfg (fun t => (d₁ t).orElse fun _ => d₂ t) r := by
  fun_cases settleRow cfg d₁ r with
  | case3 v vs hv p hp hd hc =>
    cases vs with
    | nil => simp [settleRow, hv, hp, hd, hc]
    | cons u us => simp [settleRow, hv, hp, hd, hc, h u (hv ▸ List.mem_cons_self ..)]
  | _ => simp [settleRow, strip, *]

theorem settle_settle (cfg : Cfg) (d₁ d₂ : Nat → Option Bool) {dids : List DidRow} (h : ∀ r ∈ dids, TopOnly r) :
    settle cfg d₂ (settle cfg d₁ dids) = settle cfg (fun t => (d₁ t).orElse fun _ => d₂ t) dids := by
  unfold settle
  rw [List.filterMap_filterMap]
  exact filterMap_congr' fun r hr => settleRow_bind cfg d₁ d₂ r (h r hr)

theorem mem_settle {cfg : Cfg} {d : Nat → Option Bool} {dids : List DidRow} {r' : DidRow} :
    r' ∈ settle cfg d dids ↔ ∃ r ∈ dids, settleRow cfg d r = some r' := List.mem_filterMap

theorem settleRow_ids {cfg : Cfg} {d : Nat → Option Bool} {r r' : DidRow} (h : settleRow cfg d r = some r') :
    r'.id = r.id ∧ r'.subject = r.subject ∧ r'.method = r.method := by
  rcases settleRow_cases cfg d r with ⟨he, _⟩ | ⟨v, vs, p, _, _, ⟨_, he⟩ | ⟨_, _, he⟩ | ⟨_, _, he⟩⟩ <;>
    rw [he] at h <;> cases h <;> exact ⟨rfl, rfl, rfl⟩

theorem settle_congr {cfg : Cfg} {d d' : Nat → Option Bool} {dids : List DidRow}
    (h : ∀ r ∈ dids, ∀ t, headTx r = some t → d t = d' t) : settle cfg d dids = settle cfg d' dids := by
  refine filterMap_congr' fun r hr => ?_
  have := h r hr
  obtain ⟨id, m, s, vers⟩ := r
  cases vers with
  | nil => rfl
  | cons v vs =>
    cases hp : v.pending with
    | none => simp only [settleRow, hp]
    | some p => simp only [settleRow, hp, this p.tx (headTx_cons rfl hp)]

theorem settle_of_none {cfg : Cfg} {d : Nat → Option Bool} {dids : List DidRow}
    (h : ∀ r ∈ dids, ∀ t, headTx r = some t → d t = none) : settle cfg d dids = dids :=
  filterMap_eq_self _ _ fun r hr => settleRow_untouched (h r hr)

/-- every row afterwards is a row from before that lost some of its newest versions (and change records);
    a change record afterwards was there before -/
def Fate (dids dids' : List DidRow) : Prop :=
  ∀ r' ∈ dids', ∃ r ∈ dids, r'.id = r.id ∧ (∃ k, r'.vers.map strip = (r.vers.drop k).map strip) ∧
    ∀ v' ∈ r'.vers, ∀ p, v'.pending = some p → ∃ v ∈ r.vers, v.pending = some p ∧ v.ts = v'.ts

theorem Fate.refl (dids : List DidRow) : Fate dids dids :=
  fun r hr => ⟨r, hr, rfl, ⟨0, rfl⟩, fun v hv _ hp => ⟨v, hv, hp, rfl⟩⟩

theorem Fate.trans {a b c : List DidRow} (h1 : Fate a b) (h2 : Fate b c) : Fate a c := by
  intro r'' hr''
  obtain ⟨r', hr', hid2, ⟨k2, hk2⟩, hp2⟩ := h2 r'' hr''
  obtain ⟨r, hr, hid1, ⟨k1, hk1⟩, hp1⟩ := h1 r' hr'
  refine ⟨r, hr, hid2.trans hid1, ⟨k1 + k2, ?_⟩, fun v'' hv'' p hp => ?_⟩
  · rw [hk2, List.map_drop, hk1, ← List.map_drop, List.drop_drop]
  · obtain ⟨v', hv', hpv', hts'⟩ := hp2 v'' hv'' p hp
    obtain ⟨v, hv, hpv, hts⟩ := hp1 v' hv' p hpv'
    exact ⟨v, hv, hpv, hts.trans hts'⟩

def settleSig (d : Nat → Option Bool) :
    List (Nat × List String × Option Pending) → List (Nat × List String × Option Pending)
  | (n, s, some p) :: tl =>
    match d p.tx with
    | some true => (n, s, none) :: tl
    | some false => tl
    | none => (n, s, some p) :: tl
  | sg => sg

theorem sig_settleRow {cfg : Cfg} {d : Nat → Option Bool} {r r' : DidRow} (h : settleRow cfg d r = some r') :
    sig r' = settleSig d (sig r) := by
  revert h
  fun_cases settleRow cfg d r with
  | case2 => nofun
  | case1 v vs hv p hp hd => rintro ⟨⟩; simp only [sig, hv, List.map_cons, hp, settleSig, hd]; rfl
  | case3 v vs hv p hp hd => rintro ⟨⟩; simp only [sig, hv, List.map_cons, hp, settleSig, hd]
  | case4 v vs hv p hp hd => rintro ⟨⟩; simp only [sig, hv, List.map_cons, hp, settleSig, hd]
  | case5 v vs hv hp => rintro ⟨⟩; simp only [sig, hv, List.map_cons, hp, settleSig]
  | case6 hv => rintro ⟨⟩; simp only [sig, hv, List.map_nil, settleSig]

theorem inv_settle {cfg : Cfg} {dids n} (hfix : Fixed cfg) (d : Nat → Option Bool) (h : Inv dids n) :
    Inv (settle cfg d dids) n := by
  refine inv_filterMap _ h (Nat.le_refl _) (fun _ _ => settleRow_ids) ?_ ?_
  · intro r hr r' hF
    have hv := h.vers hr
    rcases settleRow_cases cfg d r with ⟨he, _⟩ | ⟨v, vs, p, hvs, hp, ⟨_, he⟩ | ⟨_, hnc, he⟩ | ⟨_, _, he⟩⟩ <;>
      rw [he] at hF <;> cases hF
    · exact hv
    · rw [hvs] at hv
      -- below the head nothing is pending, so stripping the head is stripping every version
      have e : strip v :: vs = (v :: vs).map strip := by
        rw [List.map_cons, (List.map_congr_left fun u hu => (by rw [strip, ← hv.topOnly u hu]; rfl : strip u = id u)).trans (List.map_id vs)]
      rw [e]
      exact hv.map (fun _ => rfl) (fun _ => rfl) (fun _ _ hq => nomatch hq)
    · rw [hvs] at hv
      -- the head was not the only version: it would be a `created` one, and the row would have gone with it
      exact hv.tail fun he => hnc ⟨hfix.delDid, (hv.createdIff v vs p rfl hp).2 he⟩
  · intro r hr r2 hr2 hs r' r2' hF hF2
    rw [sig_settleRow hF, sig_settleRow hF2, h.uniform r hr r2 hr2 hs]

theorem keeps_settle {cfg : Cfg} {dids n} (d : Nat → Option Bool) (h : Inv dids n) : Keeps dids (settle cfg d dids) := by
  intro r hr v hv hpn
  rcases settleRow_cases cfg d r with ⟨he, _⟩ | ⟨v0, vs, p, hvs, hp, hcase⟩
  · exact ⟨r, mem_settle.2 ⟨r, hr, he⟩, rfl, hv⟩
  · have hin : v ∈ vs := by
      rw [hvs] at hv
      rcases List.mem_cons.1 hv with rfl | hin
      · rw [hpn] at hp; cases hp
      · exact hin
    rcases hcase with ⟨_, he⟩ | ⟨_, _, he⟩ | ⟨_, hc, _⟩
    · exact ⟨_, mem_settle.2 ⟨r, hr, he⟩, rfl, List.mem_cons_of_mem _ hin⟩
    · exact ⟨_, mem_settle.2 ⟨r, hr, he⟩, rfl, hin⟩
    · rw [(h.createdIff r hr v0 vs p hvs hp).1 hc.2] at hin; cases hin

theorem fate_settle (cfg : Cfg) (d : Nat → Option Bool) (dids : List DidRow) : Fate dids (settle cfg d dids) := by
  intro r' hr'
  rcases mem_settle.1 hr' with ⟨r, hr, hF⟩
  refine ⟨r, hr, (settleRow_ids hF).1, ?_⟩
  rcases settleRow_cases cfg d r with ⟨he, _⟩ | ⟨v0, vs, p, hvs, hp, ⟨_, he⟩ | ⟨_, _, he⟩ | ⟨_, _, he⟩⟩ <;>
    rw [he] at hF <;> cases hF
  · exact ⟨⟨0, rfl⟩, fun v hv p hp => ⟨v, hv, hp, rfl⟩⟩
  · refine ⟨⟨0, by rw [hvs]; rfl⟩, fun v hv q hq => ?_⟩
    rcases List.mem_cons.1 hv with rfl | hin
    · cases hq
    · exact ⟨v, by rw [hvs]; exact List.mem_cons_of_mem _ hin, hq, rfl⟩
  · exact ⟨⟨1, by rw [hvs]; rfl⟩, fun v hv q hq => ⟨v, by rw [hvs]; exact List.mem_cons_of_mem _ hv, hq, rfl⟩⟩

theorem settle_pending {cfg : Cfg} {d : Nat → Option Bool} {dids n} (h : Inv dids n) {r' : DidRow}
    (hr' : r' ∈ settle cfg d dids) {v : Ver} (hv : v ∈ r'.vers) {p : Pending} (hp : v.pending = some p) :
    d p.tx = none ∧ r' ∈ dids := by
  rcases mem_settle.1 hr' with ⟨r, hr, hF⟩
  have below : ∀ {v0 vs}, r.vers = v0 :: vs → v ∉ vs := fun hvs hin => by
    have := h.topOnly r hr v (by rw [hvs]; exact hin)
    rw [this] at hp; cases hp
  rcases settleRow_cases cfg d r with ⟨he, hd⟩ | ⟨v0, vs, q, hvs, hq, ⟨_, he⟩ | ⟨_, _, he⟩ | ⟨_, _, he⟩⟩ <;>
    rw [he] at hF <;> cases hF
  · obtain ⟨vs, hvs⟩ := h.head_of_pending hr hv hp
    exact ⟨hd _ (headTx_cons hvs hp), hr⟩
  · rcases List.mem_cons.1 hv with rfl | hin
    · cases hp
    · exact absurd hin (below hvs)
  · exact absurd hv (below hvs)

theorem clearRow_settle (cfg : Cfg) (t : Nat) (r : DidRow) (h : TopOnly r) :
    settleRow cfg (only t true) r = some (clearRow t r) := by
  obtain ⟨id, m, s, vers⟩ := r
  cases vers with
  | nil => rfl
  | cons v vs =>
    have htl : vs.map (clearTx t) = vs :=
      (List.map_congr_left fun u hu => clearTx_of_none (h u hu)).trans (List.map_id _)
    simp only [clearRow, List.map_cons, htl]
    cases hp : v.pending with
    | none => simp only [settleRow, hp, clearTx_of_none hp]
    | some p =>
      by_cases ht : p.tx = t
      · simp [settleRow, strip, hp, only, ht, clearTx]
      · simp only [settleRow, hp, only, if_neg ht, clearTx_of_ne hp ht]

theorem deleteLogTx_settle {cfg : Cfg} {n : Nat} (t : Nat) (w : World) (h : Inv w.dids n) :
    (deleteLogTx t w).dids = settle cfg (only t true) w.dids := by
  rw [deleteLogTx_dids, ← List.filterMap_eq_map']
  exact filterMap_congr' fun r hr => (clearRow_settle cfg t r (h.topOnly r hr)).symm

theorem dropRow_eq {sel chs dids n} (h : Inv dids n) (g : GroupOf sel chs dids) (r : DidRow) (hr : r ∈ dids) :
    (sel r = false → dropVersions chs r = r ∧ createdIn chs r = false) ∧
    (sel r = true → ∃ v vs p, r.vers = v :: vs ∧ v.pending = some p ∧ dropVersions chs r = { r with vers := vs } ∧
        (createdIn chs r = true ↔ p.typ = .created) ∧ createdIn chs { r with vers := vs } = createdIn chs r) := by
  have uniq : ∀ r2 ∈ dids, r2.id = r.id → r2 = r := fun r2 hr2 he => pairwise_ne_inj (List.pairwise_map.mp h.idsNodup) hr2 hr he
  constructor
  · intro hs
    have none : ∀ ch ∈ chs, ch.did ≠ r.id := by
      intro ch hch he
      rcases g.sound ch hch with ⟨r2, hr2, hs2, hid, _⟩
      have := uniq r2 hr2 (by rw [← hid, he])
      rw [this, hs] at hs2; cases hs2
    constructor
    · unfold dropVersions
      have : r.vers.filter (fun v => !chs.any (fun ch => ch.did = r.id ∧ ch.row = v.row)) = r.vers := by
        apply List.filter_eq_self.2
        intro v _
        simp only [Bool.not_eq_eq_eq_not, Bool.not_true, List.any_eq_false, decide_eq_true_eq, not_and]
        intro ch hch he
        exact absurd he (none ch hch)
      rw [this]
    · unfold createdIn
      simp only [List.any_eq_false, decide_eq_true_eq, not_and]
      intro ch hch _ he
      exact none ch hch he
  · intro hs
    rcases g.complete r hr hs with ⟨ch0, hch0, hid0, v, vs, p, hv, hp, hrow0, htyp0⟩
    have fromHead : ∀ ch ∈ chs, ch.did = r.id → ch.row = v.row ∧ ch.typ = p.typ := by
      intro ch hch he
      rcases g.sound ch hch with ⟨r2, hr2, _, hid, v2, vs2, p2, hv2, hp2, hrow, htyp⟩
      have := uniq r2 hr2 (by rw [← hid, he])
      subst this
      rw [hv] at hv2
      simp only [List.cons.injEq] at hv2
      rcases hv2 with ⟨rfl, rfl⟩
      rw [hp] at hp2; cases hp2
      exact ⟨hrow, htyp⟩
    have hnd := h.rowsNodup r hr
    rw [hv, List.map_cons, List.nodup_cons] at hnd
    refine ⟨v, vs, p, hv, hp, ?_, ?_, ?_⟩
    · unfold dropVersions
      rw [hv, List.filter_cons]
      have hv' : (!chs.any (fun ch => decide (ch.did = r.id ∧ ch.row = v.row))) = false := by
        simp only [Bool.not_eq_false', List.any_eq_true, decide_eq_true_eq]
        exact ⟨ch0, hch0, hid0, hrow0⟩
      rw [hv']
      simp only [Bool.false_eq_true, ↓reduceIte]
      have : vs.filter (fun u => !chs.any (fun ch => decide (ch.did = r.id ∧ ch.row = u.row))) = vs := by
        apply List.filter_eq_self.2
        intro u hu
        simp only [Bool.not_eq_eq_eq_not, Bool.not_true, List.any_eq_false, decide_eq_true_eq, not_and]
        intro ch hch he hrow
        have := (fromHead ch hch he).1
        exact hnd.1 (List.mem_map.2 ⟨u, hu, by rw [← hrow, this]⟩)
      rw [this]
    · unfold createdIn
      simp only [List.any_eq_true, decide_eq_true_eq]
      constructor
      · rintro ⟨ch, hch, htyp, he⟩
        rw [← (fromHead ch hch he).2]; exact htyp
      · intro hc
        exact ⟨ch0, hch0, by rw [htyp0]; exact hc, hid0⟩
    · rfl

theorem deleteChanges_settle {cfg : Cfg} {chs n} {t : Nat} (w : World) (h : Inv w.dids n)
    (g : GroupOf (selTx t) chs w.dids) : (deleteChanges cfg chs w).dids = settle cfg (only t false) w.dids := by
  have row : ∀ r ∈ w.dids, settleRow cfg (only t false) r =
      if cfg.rollbackDeletesCreatedDID = true ∧ createdIn chs (dropVersions chs r) = true then none
      else some (dropVersions chs r) := by
    intro r hr
    by_cases hs : selTx t r = true
    · rcases (dropRow_eq h g r hr).2 hs with ⟨v, vs, p, hv, hp, hd, hc, hc2⟩
      have hpt : p.tx = t := by simpa [selTx, headTx_cons hv hp] using hs
      rw [hd, hc2, settleRow_abort hv hp (by rw [hpt]; exact if_pos rfl)]
      simp only [hc]
    · rcases (dropRow_eq h g r hr).1 (by simpa using hs) with ⟨hd, hc⟩
      rw [hd, hc, if_neg (by simp)]
      refine settleRow_untouched fun x hx => if_neg fun he => hs ?_
      simp [selTx, hx, he]
  unfold deleteChanges settle
  simp only
  split
  · rename_i hdel
    refine map_filter_eq_filterMap _ _ _ _ fun r hr => ?_
    rw [row r hr]
    cases createdIn chs (dropVersions chs r) <;> simp [hdel]
  · rename_i hdel
    rw [← List.filterMap_eq_map']
    exact filterMap_congr' fun r hr => by rw [row r hr, if_neg fun hh => hdel hh.1]

theorem GroupOf.settle {cfg : Cfg} {d : Nat → Option Bool} {t : Nat} {chs dids n} (h : Inv dids n)
    (g : GroupOf (selTx t) chs dids) (hd : d t = none) : GroupOf (selTx t) chs (settle cfg d dids) := by
  constructor
  · intro ch hch
    obtain ⟨r, hr, hs, rest⟩ := g.sound ch hch
    refine ⟨r, mem_settle.2 ⟨r, hr, settleRow_untouched fun x hx => ?_⟩, hs, rest⟩
    simp only [selTx, beq_iff_eq] at hs
    rw [hs] at hx; cases hx; exact hd
  · intro r' hr' hs
    obtain ⟨v, vs, p, hv, hp, _⟩ := headTx_some (beq_iff_eq.1 hs)
    exact g.complete r' (settle_pending h hr' (hv ▸ List.mem_cons_self ..) hp).2 hs

end Nuts.C13
