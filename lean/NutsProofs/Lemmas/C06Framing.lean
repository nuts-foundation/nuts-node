/-
  C06 — the byte-level framing model (NutsModel/C06/Framing.lean): the base64url decoder inverts the encoder, so an accepted
  compact input is exactly three canonical segments and the compact serialization of any three byte strings is accepted.
-/
import NutsModel.C06.Framing
import NutsProofs.Lemmas.Base
namespace Nuts.C06.Framing

theorem enc6_alpha_fin : ∀ n : Fin 64, isAlpha (enc6 n.val) = true := by decide
theorem dec6_enc6_fin : ∀ n : Fin 64, dec6 (enc6 n.val) = some n.val := by decide

theorem enc6_alpha (n : Nat) : isAlpha (enc6 n) = true := by
  by_cases h : n < 64
  · exact enc6_alpha_fin ⟨n, h⟩
  · have : enc6 n = 95 := by
      unfold enc6
      rw [if_neg (by omega), if_neg (by omega), if_neg (by omega), if_neg (by omega)]
    rw [this]; decide

theorem dec6_enc6 {n : Nat} (h : n < 64) : dec6 (enc6 n) = some n := dec6_enc6_fin ⟨n, h⟩

theorem alpha_not_nl {c : Nat} (h : isAlpha c = true) : isNL c = false := by
  unfold isAlpha dec6 at h
  unfold isNL
  simp
  constructor <;> (intro hc; subst hc; simp at h)

theorem encode_alpha (d : List Nat) : ∀ c ∈ b64Encode d, isAlpha c = true := by
  fun_induction b64Encode d with
  | case1 a b c rest ih => simp only [List.forall_mem_cons, enc6_alpha, true_and]; exact ih
  | case2 a b | case3 a => simp only [List.forall_mem_cons, enc6_alpha, true_and]; exact fun _ h => nomatch h
  | case4 => exact fun _ h => nomatch h

theorem canonical_eq {seg : List Nat} (h : canonical seg = true) : ∃ d, b64Decode seg = some d ∧ b64Encode d = seg := by
  unfold canonical at h
  split at h
  · simp at h
  · rename_i d hd; exact ⟨d, hd, by simpa using h⟩

theorem canonical_alpha {seg : List Nat} (h : canonical seg = true) : ∀ c ∈ seg, isAlpha c = true := by
  obtain ⟨d, _, he⟩ := canonical_eq h
  rw [← he]; exact encode_alpha d

theorem canonical_unique {a b : List Nat} (ha : canonical a = true) (hb : canonical b = true)
    (h : b64Decode a = b64Decode b) : a = b := by
  obtain ⟨da, hda, ea⟩ := canonical_eq ha
  obtain ⟨db, hdb, eb⟩ := canonical_eq hb
  rw [hda, hdb] at h
  cases h
  rw [← ea, ← eb]

theorem splitOn_eq (sep : Nat) : ∀ l : List Nat, splitOn sep l = l.splitOn sep
  | [] => rfl
  | x :: xs => by
    rw [splitOn, List.splitOn_cons_eq_if_modifyHead, splitOn_eq sep xs]
    have := List.splitOn_ne_nil sep xs
    cases h : xs.splitOn sep <;> simp_all

theorem joinWith_eq (c : Nat) : ∀ ps : List (List Nat), joinWith c ps = [c].intercalate ps
  | [] => rfl
  | [p] => by simp [joinWith]
  | p :: q :: ps => by
    rw [joinWith, List.intercalate_cons_cons, joinWith_eq c (q :: ps)]; simp; intro h; cases h

theorem join_split (sep : Nat) (l : List Nat) : joinWith sep (splitOn sep l) = l := by
  rw [splitOn_eq, joinWith_eq]; exact List.intercalate_splitOn sep

theorem compact_of_isJWS {input : List Nat} (h : isJWSSerialization input = true) (hj : jsonStart input = false) :
    ∃ s1 s2 s3, splitOn 46 input = [s1, s2, s3] ∧ canonical s1 = true ∧ canonical s2 = true ∧ canonical s3 = true := by
  unfold isJWSSerialization at h
  rw [hj] at h
  simp only [Bool.false_eq_true, if_false] at h
  split at h
  · simp at h
  · rename_i hl
    match hs : splitOn 46 input, hl with
    | [s1, s2, s3], _ =>
      rw [hs] at h
      simp [List.all] at h
      exact ⟨s1, s2, s3, rfl, h.1, h.2.1, h.2.2⟩
    | [], hl => simp at hl
    | [_], hl => simp at hl
    | [_, _], hl => simp at hl
    | _ :: _ :: _ :: _ :: _, hl => simp at hl

theorem compact_unique {a b : List Nat}
    (ha : isJWSSerialization a = true) (hja : jsonStart a = false)
    (hb : isJWSSerialization b = true) (hjb : jsonStart b = false)
    (h : decodedSegments a = decodedSegments b) : a = b := by
  obtain ⟨a1, a2, a3, sa, ca1, ca2, ca3⟩ := compact_of_isJWS ha hja
  obtain ⟨b1, b2, b3, sb, cb1, cb2, cb3⟩ := compact_of_isJWS hb hjb
  unfold decodedSegments at h
  rw [sa, sb] at h
  simp at h
  have e1 := canonical_unique ca1 cb1 h.1
  have e2 := canonical_unique ca2 cb2 h.2.1
  have e3 := canonical_unique ca3 cb3 h.2.2
  rw [← join_split 46 a, ← join_split 46 b, sa, sb, e1, e2, e3]

theorem stripNL_alpha {s : List Nat} (h : ∀ c ∈ s, isAlpha c = true) : stripNL s = s := by
  unfold stripNL
  apply List.filter_eq_self.mpr
  intro c hc
  simp [alpha_not_nl (h c hc)]

theorem sextets_value (a b c : Nat) :
    ((a / 4 * 64 + (a % 4 * 16 + b / 16)) * 64 + (b % 16 * 4 + c / 64)) * 64 + c % 64 = (a * 256 + b) * 256 + c := by
  have h : ∀ a1 a0 b1 b0 c1 c0 : Nat, ((a1 * 64 + (a0 * 16 + b1)) * 64 + (b0 * 4 + c1)) * 64 + c0 =
      ((4 * a1 + a0) * 256 + (16 * b1 + b0)) * 256 + (64 * c1 + c0) := by
    intros; simp +arith
  rw [h, Nat.div_add_mod, Nat.div_add_mod, Nat.div_add_mod]

theorem bytes_of_value {a b c : Nat} (hb : b < 256) (hc : c < 256) :
    ((a * 256 + b) * 256 + c) / 65536 = a ∧ ((a * 256 + b) * 256 + c) / 256 % 256 = b ∧ ((a * 256 + b) * 256 + c) % 256 = c := by
  refine ⟨?_, ?_, (digits _ hc).2⟩
  · rw [show 65536 = 256 * 256 from rfl, ← Nat.div_div_eq_div_mul, (digits _ hc).1, (digits _ hb).1]
  · rw [(digits _ hc).1, (digits _ hb).2]

/-- the low bits of one byte and the high bits of the next make a sextet -/
theorem sextet_lt {x y m k n : Nat} (hm : 0 < m) (hy : y < n * k) : x % m * k + y / n < m * k :=
  digits_lt (Nat.mod_lt x hm) (Nat.div_lt_of_lt_mul hy)

/-- the quanta decoder inverts the encoder on bytes: the decoder rebuilds the 24-bit value of a quantum (`sextets_value`) and
    cuts it into bytes again (`bytes_of_value`); a short last quantum is the same with zero bytes in the missing places -/
theorem decQ_encode (d : List Nat) (hb : ∀ x ∈ d, x < 256) : decQ (b64Encode d) = some d := by
  fun_induction b64Encode d with
  | case1 a b c rest ih =>
    have ha : a < 256 := hb a (by simp)
    have hb' : b < 256 := hb b (by simp)
    have hc : c < 256 := hb c (by simp)
    obtain ⟨e1, e2, e3⟩ := bytes_of_value (a := a) hb' hc
    simp only [decQ]
    rw [dec6_enc6 (Nat.div_lt_of_lt_mul ha), dec6_enc6 (sextet_lt (by decide) hb'), dec6_enc6 (sextet_lt (by decide) hc),
      dec6_enc6 (Nat.mod_lt _ (by decide)), ih (fun x hx => hb x (by simp [hx]))]
    simp only [sextets_value, e1, e2, e3]
  | case2 a b =>
    have ha : a < 256 := hb a (by simp)
    have hb' : b < 256 := hb b (by simp)
    have q := sextets_value a b 0
    have r := bytes_of_value (a := a) hb' (Nat.zero_lt_succ _ : 0 < 256)
    simp only [Nat.zero_div, Nat.zero_mod, Nat.add_zero] at q r
    simp only [decQ]
    rw [dec6_enc6 (Nat.div_lt_of_lt_mul ha), dec6_enc6 (sextet_lt (by decide) hb'),
      dec6_enc6 ((Nat.mul_lt_mul_right (by decide : 0 < 4)).mpr (Nat.mod_lt b (by decide)))]
    simp only [q, r.1, r.2.1]
  | case3 a =>
    have ha : a < 256 := hb a (by simp)
    simp only [decQ]
    rw [dec6_enc6 (Nat.div_lt_of_lt_mul ha), dec6_enc6 ((Nat.mul_lt_mul_right (by decide : 0 < 16)).mpr (Nat.mod_lt a (by decide)))]
    simp only [Option.some.injEq, List.cons.injEq, and_true]
    omega
  | case4 => rfl

theorem decode_encode (d : List Nat) (hb : ∀ x ∈ d, x < 256) : b64Decode (b64Encode d) = some d := by
  unfold b64Decode
  rw [stripNL_alpha (encode_alpha d)]
  exact decQ_encode d hb

theorem canonical_encode (d : List Nat) (hb : ∀ x ∈ d, x < 256) : canonical (b64Encode d) = true := by
  unfold canonical
  rw [decode_encode d hb]
  simp

theorem splitOn_no_sep {sep : Nat} {s : List Nat} (h : sep ∉ s) : splitOn sep s = [s] := by
  rw [splitOn_eq]; exact List.splitOn_eq_singleton h

theorem splitOn_append {sep : Nat} {s : List Nat} (t : List Nat) (h : sep ∉ s) :
    splitOn sep (s ++ sep :: t) = s :: splitOn sep t := by
  rw [splitOn_eq, splitOn_eq]; exact List.splitOn_append_cons_self_of_not_mem h t

theorem encode_no_dot (d : List Nat) : 46 ∉ b64Encode d := fun h => by
  have := encode_alpha d 46 h
  revert this; decide

theorem compact_accepted (d1 d2 d3 : List Nat) (h1 : ∀ x ∈ d1, x < 256) (h2 : ∀ x ∈ d2, x < 256) (h3 : ∀ x ∈ d3, x < 256) :
    isJWSSerialization (b64Encode d1 ++ 46 :: (b64Encode d2 ++ 46 :: b64Encode d3)) = true := by
  unfold isJWSSerialization
  split
  · rfl
  · rw [splitOn_append _ (encode_no_dot d1), splitOn_append _ (encode_no_dot d2), splitOn_no_sep (encode_no_dot d3)]
    simp [List.all, canonical_encode _ h1, canonical_encode _ h2, canonical_encode _ h3]

theorem encode_len (d : List Nat) : (b64Encode d).length % 4 ≠ 1 := by
  fun_induction b64Encode d with
  | case1 a b c rest ih => simp only [List.length_cons]; omega
  | case2 a b | case3 a | case4 => simp

theorem canonical_len {seg : List Nat} (h : canonical seg = true) : seg.length % 4 ≠ 1 := by
  obtain ⟨d, _, he⟩ := canonical_eq h
  rw [← he]; exact encode_len d

theorem spaceRune_brace (rest : List Nat) : spaceRune (123 :: rest) = 0 := rfl

end Nuts.C06.Framing
