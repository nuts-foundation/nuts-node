/-
  C06 — one `Add`.  `phase1_cases` and `phase2_cases` read the two phases, by outcome; the models that share them
  (`stepThread`, `addP`, `addCounter`, `addCancelled`) are read through these.  `add_cases`: an `Add` leaves the state as it
  was, or ran both phases to the commit, and then `Admitted` says everything that is true (the notifier's bookkeeping only
  touches jobs and events of the transaction's own ref); `add_success` is the converse: what passes the checks is stored.
-/
import NutsProofs.Lemmas.C06Chain

namespace Nuts.C06

variable {env : Env} {subs : List Sub} {s w : St} {tx : Tx} {p : Option Nat}

theorem add_present (h : s.present tx.ref = true) : add env subs s tx p = (s, .ok ()) := by
  unfold add phase1
  simp [h]

theorem phase2_present (h : s.present tx.ref = true) : phase2 env subs s tx p = (s, .ok ()) := by
  unfold phase2
  simp [h]

theorem saveOne_eq (typ : EvType) (tx : Tx) (jobs : List Job) (sub : Sub) :
    saveOne typ tx jobs sub =
      if sub.persistent = true ∧ sub.accepts typ tx = true ∧ hasJob jobs sub.name tx.ref = false
      then jobs ++ [{ sub := sub.name, ref := tx.ref, typ := typ, failed := false }] else jobs := by
  unfold saveOne
  cases sub.persistent <;> cases sub.accepts typ tx <;> cases hasJob jobs sub.name tx.ref <;> rfl

theorem saveOne_mem {typ : EvType} {tx : Tx} {jobs : List Job} {sub : Sub} {j : Job}
    (h : j ∈ saveOne typ tx jobs sub) : j ∈ jobs ∨ j.ref = tx.ref := by
  rw [saveOne_eq] at h
  split at h
  · rcases List.mem_append.mp h with h | h
    · exact Or.inl h
    · exact Or.inr (by rw [List.mem_singleton.mp h])
  · exact Or.inl h

theorem saveEvent_mem {typ : EvType} {tx : Tx} : ∀ {subs : List Sub} {jobs : List Job} {j : Job},
    j ∈ saveEvent subs typ tx jobs → j ∈ jobs ∨ j.ref = tx.ref := by
  intro subs
  induction subs with
  | nil => intro jobs j h; exact Or.inl h
  | cons sub subs ih =>
    intro jobs j h
    unfold saveEvent at h
    simp only [List.foldl_cons] at h
    rcases ih h with h | h
    · exact saveOne_mem h
    · exact Or.inr h

/-- ledger extension by events that all carry `r` -/
def ExtBy (r : Nat) (old new : List Ev) : Prop := ∃ add, new = old ++ add ∧ ∀ e ∈ add, e.ref = r

theorem ExtBy.refl (r : Nat) (l : List Ev) : ExtBy r l l := ⟨[], by simp, by simp⟩
theorem ExtBy.trans {r : Nat} {a b c : List Ev} (h1 : ExtBy r a b) (h2 : ExtBy r b c) : ExtBy r a c := by
  obtain ⟨x, hx, hx'⟩ := h1
  obtain ⟨y, hy, hy'⟩ := h2
  refine ⟨x ++ y, by rw [hy, hx, List.append_assoc], ?_⟩
  intro e he
  rcases List.mem_append.mp he with he | he
  · exact hx' e he
  · exact hy' e he

theorem ExtBy.forall {r : Nat} {old new : List Ev} (h : ExtBy r old new) {P : Ev → Prop}
    (ho : ∀ e ∈ old, P e) (hr : ∀ e, e.ref = r → P e) : ∀ e ∈ new, P e := by
  obtain ⟨add, rfl, hall⟩ := h
  exact fun e he => (List.mem_append.mp he).elim (ho e) fun h => hr e (hall e h)

theorem notifyOne_spec {typ : EvType} {tx : Tx} {jl : List Job × List Ev} {sub : Sub} :
    (∀ j ∈ (notifyOne typ tx jl sub).1, j ∈ jl.1 ∨ j.ref = tx.ref) ∧ ExtBy tx.ref jl.2 (notifyOne typ tx jl sub).2 := by
  have one : ∀ e : Ev, e.ref = tx.ref → ExtBy tx.ref jl.2 (jl.2 ++ [e]) := fun e he => ⟨[e], rfl, by simpa using he⟩
  fun_cases notifyOne typ tx jl sub with
  | case1 | case2 => exact ⟨fun j hj => Or.inl hj, ExtBy.refl _ _⟩
  | case3 => exact ⟨fun j hj => Or.inl (List.mem_filter.mp hj).1, one _ rfl⟩
  | case4 =>
    refine ⟨fun j hj => ?_, one _ rfl⟩
    obtain ⟨j', hj', he⟩ := List.mem_map.mp hj
    split at he
    · rename_i hc; subst he; exact Or.inr hc.2
    · subst he; exact Or.inl hj'
  | case5 => exact ⟨fun j hj => Or.inl hj, one _ rfl⟩

theorem notify_spec {typ : EvType} {tx : Tx} : ∀ {subs : List Sub} {jl : List Job × List Ev},
    (∀ j ∈ (notify subs typ tx jl).1, j ∈ jl.1 ∨ j.ref = tx.ref) ∧ ExtBy tx.ref jl.2 (notify subs typ tx jl).2 := by
  intro subs
  induction subs with
  | nil => intro jl; exact ⟨fun j h => Or.inl h, ExtBy.refl _ _⟩
  | cons sub subs ih =>
    intro jl
    unfold notify
    simp only [List.foldl_cons]
    have h1 := @notifyOne_spec typ tx jl sub
    have h2 := @ih (notifyOne typ tx jl sub)
    unfold notify at h2
    refine ⟨?_, h1.2.trans h2.2⟩
    intro j hj
    rcases h2.1 j hj with h | h
    · exact h1.1 j h
    · exact Or.inr h

/-- everything that is true when `Add` changed the state -/
structure Admitted (env : Env) (s : St) (tx : Tx) (p : Option Nat) (s' : St) : Prop where
  fresh : tx.ref ∉ refsOf s.txs
  prevsOK : verifyPrevs s.txs tx = .ok ()
  sigOK : verifySig env tx = .ok ()
  rootOK : tx.prevs = [] → hasRoot s.txs = false
  payloadOK : ∀ q, p = some q → env.sha q = tx.payloadHash
  txs : s'.txs = tx :: s.txs
  count : s'.count = s.count + 1
  lcHigh : s'.lcHigh = if tx.clock > s.lcHigh ∨ tx.clock = 0 then tx.clock else s.lcHigh
  head : s'.head = if tx.clock > s.lcHigh ∨ tx.clock = 0 then tx.ref else s.head
  lcAtomic : s'.lcAtomic = if s.lcAtomic ≥ tx.clock then s.lcAtomic else tx.clock
  xor : s'.xor = s.xor ^^^ tx.ref
  payloads : s'.payloads = putPayload s.payloads tx.payloadHash p
  jobs : ∀ j ∈ s'.jobs, j ∈ s.jobs ∨ j.ref = tx.ref
  ledger : ExtBy tx.ref s.ledger s'.ledger

/-- the job shelf after `saveEvent(payloadEvent)` (only run when a payload came with the transaction) -/
def jobsAfterPayload (subs : List Sub) (s : St) (tx : Tx) : Option Nat → List Job
  | none => s.jobs
  | some _ => saveEvent subs .payload tx s.jobs

/-- the AfterCommit notifications: the tx event, then the payload event if a payload came with the transaction -/
def notifyAll (subs : List Sub) (tx : Tx) (p : Option Nat) (jl : List Job × List Ev) : List Job × List Ev :=
  if p.isSome then notify subs .payload tx (notify subs .tx tx jl) else notify subs .tx tx jl

theorem notifyAll_spec {subs : List Sub} {tx : Tx} {p : Option Nat} {jl : List Job × List Ev} :
    (∀ j ∈ (notifyAll subs tx p jl).1, j ∈ jl.1 ∨ j.ref = tx.ref) ∧ ExtBy tx.ref jl.2 (notifyAll subs tx p jl).2 := by
  unfold notifyAll
  have h1 := @notify_spec .tx tx subs jl
  split
  · have h2 := @notify_spec .payload tx subs (notify subs .tx tx jl)
    exact ⟨fun j hj => (h2.1 j hj).elim (h1.1 j) Or.inr, h1.2.trans h2.2⟩
  · exact h1

theorem writePayloadStep_ok (h : writePayloadStep env subs s tx p = .ok w) :
    (∀ q, p = some q → env.sha q = tx.payloadHash) ∧
    w = { s with payloads := putPayload s.payloads tx.payloadHash p, jobs := jobsAfterPayload subs s tx p } := by
  revert h
  fun_cases writePayloadStep env subs s tx p with
  | case1 => rintro ⟨⟩; exact ⟨fun _ => nofun, rfl⟩
  | case2 q hs => nofun
  | case3 q hs => rintro ⟨⟩; exact ⟨fun q' hq' => by cases hq'; exact Decidable.not_not.mp hs, rfl⟩

theorem graphAdd_ok {w w2 : St} {tx : Tx} (h : graphAdd w tx = .ok w2) :
    (tx.prevs = [] → hasRoot w.txs = false) ∧
    w2 = { w with txs := tx :: w.txs, count := w.count + 1,
                  lcHigh := if tx.clock > w.lcHigh ∨ tx.clock = 0 then tx.clock else w.lcHigh,
                  head := if tx.clock > w.lcHigh ∨ tx.clock = 0 then tx.ref else w.head } := by
  unfold graphAdd at h
  split at h
  · cases h
  · rename_i hroot
    cases h
    simp only [Bool.and_eq_true, List.isEmpty_iff, not_and, Bool.not_eq_true] at hroot
    exact ⟨hroot, by simp only [Bool.or_eq_true, decide_eq_true_eq]⟩

theorem writeBody_ok_iff :
    writeBody env subs s tx p = .ok w ↔
    (∀ q, p = some q → env.sha q = tx.payloadHash) ∧ (tx.prevs = [] → hasRoot s.txs = false) ∧
    w = finishWrite subs
      { s with payloads := putPayload s.payloads tx.payloadHash p, jobs := jobsAfterPayload subs s tx p,
               txs := tx :: s.txs, count := s.count + 1,
               lcHigh := if tx.clock > s.lcHigh ∨ tx.clock = 0 then tx.clock else s.lcHigh,
               head := if tx.clock > s.lcHigh ∨ tx.clock = 0 then tx.ref else s.head } tx := by
  constructor
  · fun_cases writeBody env subs s tx p with
    | case1 w1 hw1 w2 hw2 =>
      intro h
      obtain ⟨hq, rfl⟩ := writePayloadStep_ok hw1
      obtain ⟨hroot, rfl⟩ := graphAdd_ok hw2
      exact ⟨hq, hroot, (Res.ok.inj h).symm⟩
    | _ => nofun
  · rintro ⟨hq, hr, rfl⟩
    have hroot : (tx.prevs.isEmpty && hasRoot s.txs) = false := by
      cases hps : tx.prevs with
      | nil => rw [hr hps]; rfl
      | cons a b => rfl
    unfold writeBody writePayloadStep graphAdd
    cases p with
    | none =>
      simp only [hroot, Bool.false_eq_true, if_false, Bool.or_eq_true, decide_eq_true_eq]
      rfl
    | some x =>
      simp only [hq x rfl, ne_eq, not_true_eq_false, hroot, Bool.false_eq_true, if_false, Bool.or_eq_true, decide_eq_true_eq]
      rfl

theorem verify_ok_iff :
    verify env s tx = .ok () ↔ verifyPrevs s.txs tx = .ok () ∧ verifySig env tx = .ok () := by
  unfold verify
  cases verifyPrevs s.txs tx <;> simp

theorem add_eq_of_ok (hp : s.present tx.ref = false) (hv : verify env s tx = .ok ()) (hw : writeBody env subs s tx p = .ok w) :
    add env subs s tx p = (afterCommit subs w tx p, .ok ()) := by
  unfold add phase1 phase2
  rw [hp, if_neg Bool.false_ne_true, hv, if_neg Bool.false_ne_true, hw]

theorem phase1_cases :
    match phase1 env s tx with
    | .present => s.present tx.ref = true ∧ add env subs s tx p = (s, .ok ())
    | .rejected e => s.present tx.ref = false ∧ verify env s tx = .err e ∧ add env subs s tx p = (s, .err e)
    | .panicked q => s.present tx.ref = false ∧ verify env s tx = .panic q ∧ add env subs s tx p = (s, .panic q)
    | .verified => s.present tx.ref = false ∧ verify env s tx = .ok () ∧ add env subs s tx p = phase2 env subs s tx p := by
  unfold add phase1
  cases hp : s.present tx.ref
  · rw [if_neg Bool.false_ne_true]
    cases hv : verify env s tx <;> exact ⟨rfl, rfl, rfl⟩
  · exact ⟨rfl, rfl⟩

theorem phase2_cases (hp : s.present tx.ref = false) :
    match writeBody env subs s tx p with
    | .ok w => phase2 env subs s tx p = (afterCommit subs w tx p, .ok ())
    | .err e => phase2 env subs s tx p = (s, .err e)
    | .panic q => phase2 env subs s tx p = (s, .panic q) := by
  unfold phase2
  rw [hp, if_neg Bool.false_ne_true]
  cases writeBody env subs s tx p <;> rfl

theorem add_changed (hne : (add env subs s tx p).1 ≠ s) :
    ∃ w, s.present tx.ref = false ∧ verify env s tx = .ok () ∧ writeBody env subs s tx p = .ok w ∧
      add env subs s tx p = (afterCommit subs w tx p, .ok ()) := by
  have h1 := @phase1_cases env subs s tx p
  cases hph : phase1 env s tx <;> simp only [hph] at h1
  · exact absurd (by rw [h1.2]) hne
  · exact absurd (by rw [h1.2.2]) hne
  · exact absurd (by rw [h1.2.2]) hne
  · have h2 := @phase2_cases env subs _ _ p h1.1
    cases hw : writeBody env subs s tx p <;> simp only [hw] at h2
    · exact ⟨_, h1.1, h1.2.1, rfl, h1.2.2.trans h2⟩
    · exact absurd (by rw [h1.2.2, h2]) hne
    · exact absurd (by rw [h1.2.2, h2]) hne

theorem admitted_of_ok (hp : s.present tx.ref = false) (hv : verify env s tx = .ok ()) (hw : writeBody env subs s tx p = .ok w) :
    Admitted env s tx p (afterCommit subs w tx p) := by
  obtain ⟨hq, hroot, rfl⟩ := writeBody_ok_iff.mp hw
  have hn := @notifyAll_spec subs tx p (saveEvent subs .tx tx (jobsAfterPayload subs s tx p), s.ledger)
  refine
    { fresh := present_false_iff.mp hp, prevsOK := (verify_ok_iff.mp hv).1, sigOK := (verify_ok_iff.mp hv).2,
      rootOK := hroot, payloadOK := hq, txs := rfl, count := rfl, lcHigh := rfl, head := rfl, lcAtomic := rfl, xor := rfl,
      payloads := rfl, jobs := fun j hj => ?_, ledger := hn.2 }
  rcases hn.1 j hj with h | h
  · rcases saveEvent_mem h with h | h
    · cases p with
      | none => exact Or.inl h
      | some q => exact saveEvent_mem h
    · exact Or.inr h
  · exact Or.inr h

theorem add_cases :
    (add env subs s tx p).1 = s ∨
    ((add env subs s tx p).2 = .ok () ∧ Admitted env s tx p (add env subs s tx p).1) := by
  by_cases hne : (add env subs s tx p).1 = s
  · exact Or.inl hne
  · obtain ⟨w, hp, hv, hw, he⟩ := add_changed hne
    rw [he]
    exact Or.inr ⟨rfl, admitted_of_ok hp hv hw⟩

theorem add_not_ok (h : (add env subs s tx p).2 ≠ .ok ()) : (add env subs s tx p).1 = s :=
  add_cases.resolve_right fun h' => h h'.1

theorem add_success (hfresh : tx.ref ∉ refsOf s.txs) (hv : verifyPrevs s.txs tx = .ok ()) (hs : verifySig env tx = .ok ())
    (hr : tx.prevs = [] → hasRoot s.txs = false) (hq : ∀ x, p = some x → env.sha x = tx.payloadHash) :
    (add env subs s tx p).2 = .ok () ∧ (add env subs s tx p).1.txs = tx :: s.txs := by
  rw [add_eq_of_ok (present_false_iff.mpr hfresh) (verify_ok_iff.mpr ⟨hv, hs⟩) (writeBody_ok_iff.mpr ⟨hq, hr, rfl⟩)]
  exact ⟨rfl, rfl⟩

end Nuts.C06
