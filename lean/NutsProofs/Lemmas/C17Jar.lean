import NutsModel.C17.JarSet
import NutsProofs.Lemmas.C17

namespace Nuts.C17.JarSet

theorem lookupKeyID_eq_find? (kid : String) : ∀ l : List Entry, lookupKeyID kid l = l.find? (·.kid = kid)
  | [] => rfl
  | e :: r => by
    rw [lookupKeyID, List.find?_cons, lookupKeyID_eq_find? kid r]
    by_cases h : e.kid = kid <;> simp [h]

theorem lookup_some {kid : String} {l : List Entry} {e : Entry} (h : lookupKeyID kid l = some e) :
    ∃ pre post, l = pre ++ e :: post ∧ e.kid = kid ∧ ∀ x ∈ pre, x.kid ≠ kid := by
  rw [lookupKeyID_eq_find?, List.find?_eq_some_iff_append] at h
  obtain ⟨he, pre, post, hl, hpre⟩ := h
  exact ⟨pre, post, hl, by simpa using he, by simpa using hpre⟩

theorem lookup_none {kid : String} : ∀ {l : List Entry}, lookupKeyID kid l = none ↔ ∀ x ∈ l, x.kid ≠ kid := by
  simp [lookupKeyID_eq_find?]

theorem lookup_append_of_not_mem {kid : String} (pre rest : List Entry) (h : ∀ x ∈ pre, x.kid ≠ kid) :
    lookupKeyID kid (pre ++ rest) = lookupKeyID kid rest := by
  simp only [lookupKeyID_eq_find?, List.find?_append]
  rw [List.find?_eq_none.2 (by simpa using h)]; rfl

theorem compare_true {e : Entry} {t : Option String} (h : compareThumbprint e t = true) :
    ∃ x, e.tp = some x ∧ t = some x := by
  unfold compareThumbprint at h
  cases he : e.tp with
  | none => rw [he] at h; cases h
  | some l =>
    cases t with
    | none => rw [he] at h; cases h
    | some r =>
      rw [he] at h
      have hlr : l = r := by simpa using h
      subst hlr
      exact ⟨l, rfl, rfl⟩

def exitOf (J : SetEnv) (kid : String) (k : Key) : Exit :=
  if !J.clientIdMatches then .clientIdClaim
  else if !J.configOK then .configUnavailable
  else match lookupKeyID kid J.keys with
    | none => .notOwner
    | some e => if compareThumbprint e (J.tpOf k) then .ok else .keyMismatch

theorem exitOf_eq_ok {J : SetEnv} {kid : String} {k : Key} :
    exitOf J kid k = .ok ↔
      J.clientIdMatches = true ∧ J.configOK = true ∧ ∃ e, lookupKeyID kid J.keys = some e ∧ compareThumbprint e (J.tpOf k) = true := by
  unfold exitOf
  cases J.clientIdMatches <;> cases J.configOK <;> cases lookupKeyID kid J.keys <;> simp

variable {sup : List String} {E : Env} {J : SetEnv} {j : Jws}

theorem validateExit_of_reject (hp : parseJWT sup E j = .reject) :
    validateExit sup E J j = (.sigInvalid, .reject) := by
  unfold validateExit; rw [hp]

theorem validateExit_of_accept {v : Verified} {kid : String}
    (hp : parseJWT sup E j = .accept [v]) (hsrc : v.src = .resolver kid) :
    validateExit sup E J j = (exitOf J kid v.key, if exitOf J kid v.key = .ok then .accept [v] else .reject) := by
  unfold validateExit exitOf
  rw [hp]
  simp only [hsrc]
  cases J.clientIdMatches <;> cases J.configOK <;> try rfl
  cases lookupKeyID kid J.keys with
  | none => rfl
  | some e => by_cases hq : compareThumbprint e (J.tpOf v.key) = true <;> simp [hq]

theorem validate_accept {vs : List Verified} (h : validate sup E J j = .accept vs) :
    ∃ s k e, j.sigs = [s] ∧ vs = [{ key := k, src := .resolver s.kid, alg := s.alg, idx := 0, overSigningInput := true }] ∧
      E.resolve s.kid = some k ∧ s.alg ∈ sup ∧ E.verifies k s.alg 0 = true ∧ E.fits k s.alg = true ∧
      J.clientIdMatches = true ∧ J.configOK = true ∧ lookupKeyID s.kid J.keys = some e ∧ compareThumbprint e (J.tpOf k) = true := by
  unfold validate at h
  cases hp : parseJWT sup E j with
  | reject => rw [validateExit_of_reject hp] at h; cases h
  | accept us =>
    obtain ⟨s, k, hs, rfl, hres, hal, hver, hfit, _⟩ := parseJWT_accept hp
    rw [validateExit_of_accept hp rfl] at h
    obtain ⟨hx, hv⟩ := of_accept_or_reject h
    obtain ⟨hcid, hcfg, e, he, hc⟩ := exitOf_eq_ok.mp hx
    exact ⟨s, k, e, hs, hv, hres, hal, hver, hfit, hcid, hcfg, he, hc⟩

end Nuts.C17.JarSet
