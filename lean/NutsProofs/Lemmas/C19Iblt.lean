/-
  network/dag/tree/iblt.go (NutsModel/C19/Iblt.lean): UnmarshalBinary is total and the loop of Subtract stays in range; the repaired
  bucketIndices as a capped fold (k distinct buckets in range, for every hash function and table size); one pass of Decode (`PassInv`)
  and the termination of its outer loop; the unbounded chain of the unrepaired source.
-/
import NutsModel.C19.Iblt
import NutsProofs.Lemmas.Base

namespace Nuts.C19.Lemmas
open Nuts.C19.Iblt

variable {P : String → Prop}

theorem nodup_lt_length_le (n : Nat) (l : List Nat) (hn : l.Nodup) (hlt : ∀ x ∈ l, x < n) : l.length ≤ n := by
  have hsub : l ⊆ List.range n := fun x hx => List.mem_range.mpr (hlt x hx)
  have := List.Nodup.length_le_of_subset hn hsub
  simpa using this

theorem nodup_keys_length_le (l : List Key) (hn : l.Nodup) : l.length ≤ keySpace := by
  have h1 : (l.map BitVec.toNat).Nodup :=
    List.Pairwise.map BitVec.toNat (fun a b hab h => hab (BitVec.toNat_inj.mp h)) hn
  have h2 : ∀ x ∈ l.map BitVec.toNat, x < 2 ^ 256 := by
    intro x hx
    obtain ⟨k, _, rfl⟩ := List.mem_map.mp hx
    exact k.isLt
  have := nodup_lt_length_le (2 ^ 256) _ h1 h2
  simpa [keySpace] using this

theorem bucketUnmarshal_ok (data : List Nat) (h : data.length = bucketBytes) : ∃ b, bucketUnmarshal data = .ok b := by
  unfold bucketUnmarshal
  simp [h]

theorem unmarshalLoop_ok : ∀ (n : Nat) (buf : List Nat) (acc : Array Bucket), buf.length = n * bucketBytes →
    ∃ bs, unmarshalLoop n buf acc = .ok bs ∧ bs.size = acc.size + n := by
  intro n
  induction n with
  | zero => intro buf acc _; exact ⟨acc, rfl, rfl⟩
  | succ n ih =>
    intro buf acc h
    have h44 : (buf.take bucketBytes).length = bucketBytes := by
      simp [List.length_take, h, bucketBytes]; omega
    obtain ⟨b, hb⟩ := bucketUnmarshal_ok _ h44
    have hrest : (buf.drop bucketBytes).length = n * bucketBytes := by
      simp [List.length_drop, h, bucketBytes]; omega
    obtain ⟨bs, hbs, hsz⟩ := ih (buf.drop bucketBytes) (acc.push b) hrest
    refine ⟨bs, ?_, ?_⟩
    · unfold unmarshalLoop; rw [hb]; exact hbs
    · rw [hsz]; simp; omega

theorem iblt_unmarshal_spec (data : List Nat) :
    (data.length % bucketBytes = 0 → ∃ bs, unmarshal data = .ok bs ∧ bs.size = data.length / bucketBytes) ∧
    (data.length % bucketBytes ≠ 0 → unmarshal data = .err "invalid data length") := by
  unfold unmarshal
  simp only
  constructor
  · intro h
    have hlen : data.length = data.length / bucketBytes * bucketBytes := by
      have := Nat.div_add_mod data.length bucketBytes
      rw [h] at this; rw [Nat.mul_comm]; omega
    have hne : ¬ data.length ≠ data.length / bucketBytes * bucketBytes := by omega
    simp only [hne, ↓reduceIte]
    obtain ⟨bs, h1, h2⟩ := unmarshalLoop_ok (data.length / bucketBytes) data #[] hlen
    exact ⟨bs, h1, by simpa using h2⟩
  · intro h
    have hne : data.length ≠ data.length / bucketBytes * bucketBytes := by
      intro heq
      apply h
      rw [heq]; exact Nat.mul_mod_left _ _
    simp [hne]

theorem subtractLoop_ok (ob : Array Bucket) (t idx : Nat) (ib : Array Bucket) (h : idx + t = ib.size) (hsz : ib.size = ob.size) :
    ∃ r, subtractLoop ob t idx ib = .ok r ∧ r.size = ib.size := by
  fun_induction subtractLoop ob t idx ib with
  | case1 => exact ⟨_, rfl, rfl⟩
  | case2 _ _ _ _ _ _ _ ih =>
    obtain ⟨r, hr, hrs⟩ := ih (by simp; omega) (by simpa using hsz)
    exact ⟨r, hr, by simpa using hrs⟩
  | case3 _ _ _ hn | case4 _ _ _ hn => rw [Array.getElem?_eq_none_iff] at hn; omega

theorem iblt_validate_spec (i o : Table) :
    (∀ s, validate i o ≠ .panic s) ∧ (validate i o = .ok () → i.buckets.size = o.buckets.size) ∧
    (i.buckets.size ≠ o.buckets.size → validate i o = .err "number of buckets do not match") := by
  unfold validate
  exact ⟨Res.PanicsIn.total (.ite .err <| .ite .err <| .ite .err <| .ite .err .ok),
    fun h => Decidable.not_not.1 (Res.ite_err_eq_ok.mp h).1, fun h => if_pos h⟩

theorem addIndex_lt (ind : List Nat) (b n : Nat) (hb : b < n) (h : ∀ i ∈ ind, i < n) : ∀ i ∈ addIndex ind b, i < n := by
  intro i hi
  unfold addIndex at hi
  split at hi
  · exact h i hi
  · rcases List.mem_append.mp hi with h1 | h1
    · exact h i h1
    · simp at h1; omega

theorem addIndex_nodup (ind : List Nat) (b : Nat) (h : ind.Nodup) : (addIndex ind b).Nodup := by
  unfold addIndex
  split
  · exact h
  · rename_i hc
    exact nodup_snoc h fun hm => hc (by simpa using hm)

theorem addIndex_length_le (ind : List Nat) (b : Nat) : (addIndex ind b).length ≤ ind.length + 1 := by
  unfold addIndex; split <;> simp

theorem addIndex_mem_self (ind : List Nat) (b : Nat) : b ∈ addIndex ind b := by
  unfold addIndex
  split
  · rename_i h; simpa using h
  · simp

theorem addIndex_subset (ind : List Nat) (b x : Nat) (h : x ∈ ind) : x ∈ addIndex ind b := by
  unfold addIndex; split
  · exact h
  · simp [h]

theorem addIndex_mem (ind : List Nat) (b : Nat) (h : b ∈ ind) : addIndex ind b = ind := by
  unfold addIndex
  have : ind.contains b = true := by simpa using h
  rw [if_pos this]

/-! ## bucketIndices as a fold

Both loops of the repaired bucketIndices do the same thing to the index list: add the next bucket unless it is there already,
and do nothing once `k` are found.  So the result is that step folded over the buckets the hash chain visits, then over the
buckets linear probing visits; everything Insert/Delete need is a fact about the fold. -/

/-- one iteration of either loop on (indices, last bucket) -/
def capAdd (k : Nat) (p : List Nat × Nat) (b : Nat) : List Nat × Nat :=
  if p.1.length ≥ k then p else (addIndex p.1 b, b)

/-- the buckets the hash chain visits in `s` steps -/
def chainRes (H : Hash) (n : Nat) : Nat → BitVec 32 → List Nat
  | 0, _ => []
  | s + 1, nx => nx.toNat % n :: chainRes H n s (H.next nx)

/-- the buckets linear probing visits: offsets `off … off+s-1` from `last` -/
def probeRes (n last s off : Nat) : List Nat := (List.range' off s).map fun o => (last + o) % two32 % n

theorem foldl_capAdd_full {k : Nat} : ∀ (l : List Nat) {p : List Nat × Nat}, p.1.length ≥ k → l.foldl (capAdd k) p = p
  | [], _, _ => rfl
  | b :: l, p, h => by rw [List.foldl_cons, capAdd, if_pos h]; exact foldl_capAdd_full l h

theorem foldl_capAdd_fst {k : Nat} : ∀ (l : List Nat) (ind : List Nat) (x y : Nat),
    (l.foldl (capAdd k) (ind, x)).1 = (l.foldl (capAdd k) (ind, y)).1
  | [], _, _, _ => rfl
  | b :: l, ind, x, y => by
    rw [List.foldl_cons, List.foldl_cons, capAdd, capAdd]
    by_cases h : ind.length ≥ k
    · rw [if_pos h, if_pos h]; exact foldl_capAdd_fst l ind x y
    · rw [if_neg h, if_neg h]

/-- phase 1 never divides by zero when k ≤ n: while indices are missing there is a bucket -/
theorem chainPhase_eq (H : Hash) {n k : Nat} (hk : k ≤ n) : ∀ (s : Nat) (nx : BitVec 32) (last : Nat) (ind : List Nat),
    chainPhase H n k s nx last ind = .ok ((chainRes H n s nx).foldl (capAdd k) (ind, last))
  | 0, _, _, _ => rfl
  | s + 1, nx, last, ind => by
    unfold chainPhase chainRes
    by_cases h : ind.length ≥ k
    · rw [if_pos h, foldl_capAdd_full _ h]
    · rw [if_neg h, if_neg (by omega), List.foldl_cons, capAdd, if_neg h]
      exact chainPhase_eq H hk s _ _ _

theorem probePhase_eq {n k : Nat} (hk : k ≤ n) (last : Nat) : ∀ (s off : Nat) (ind : List Nat),
    probePhase n k last s off ind = .ok ((probeRes n last s off).foldl (capAdd k) (ind, last)).1
  | 0, _, _ => rfl
  | s + 1, off, ind => by
    unfold probePhase probeRes
    by_cases h : ind.length ≥ k
    · rw [if_pos h, foldl_capAdd_full _ h]
    · rw [if_neg h, if_neg (by omega), List.range'_succ, List.map_cons, List.foldl_cons, capAdd, if_neg h,
        probePhase_eq hk last s (off + 1), foldl_capAdd_fst]
      rfl

def CapInv (n k : Nat) (p : List Nat × Nat) : Prop :=
  (∀ i ∈ p.1, i < n) ∧ p.1.Nodup ∧ p.1.length ≤ k ∧ (p.1 = [] ∨ p.2 ∈ p.1)

/-- the buckets folded are residues modulo `n`: in range as soon as there is a bucket at all -/
theorem CapInv.foldl {n k : Nat} (hk : k ≤ n) (l : List Nat) (hl : ∀ b ∈ l, 0 < n → b < n) {p : List Nat × Nat} (h : CapInv n k p) :
    CapInv n k (l.foldl (capAdd k) p) := by
  refine foldl_invariant (CapInv n k) _ l p (fun b hb p hp => ?_) h
  unfold capAdd
  by_cases hf : p.1.length ≥ k
  · rw [if_pos hf]; exact hp
  · rw [if_neg hf]
    exact ⟨addIndex_lt _ _ n (hl b hb (by omega)) hp.1, addIndex_nodup _ _ hp.2.1,
      Nat.le_trans (addIndex_length_le _ _) (Nat.lt_of_not_ge hf), .inr (addIndex_mem_self _ _)⟩

theorem mem_foldl_capAdd {k x : Nat} (l : List Nat) (p : List Nat × Nat) (h : x ∈ p.1) : x ∈ (l.foldl (capAdd k) p).1 := by
  refine foldl_invariant (x ∈ ·.1) _ l p (fun b _ p hp => ?_) h
  unfold capAdd
  split
  · exact hp
  · exact addIndex_subset _ _ _ hp

theorem foldl_capAdd_covers {k : Nat} : ∀ (l : List Nat) (p : List Nat × Nat),
    k ≤ (l.foldl (capAdd k) p).1.length ∨ ∀ b ∈ l, b ∈ (l.foldl (capAdd k) p).1
  | [], _ => .inr nofun
  | b :: l, p => by
    rw [List.foldl_cons]
    by_cases h : p.1.length ≥ k
    · rw [capAdd, if_pos h, foldl_capAdd_full _ h]; exact .inl h
    · refine (foldl_capAdd_covers l _).imp_right fun hl x hx => ?_
      rcases List.mem_cons.mp hx with rfl | hx
      · exact mem_foldl_capAdd l _ (by rw [capAdd, if_neg h]; exact addIndex_mem_self _ _)
      · exact hl x hx

theorem chainRes_lt (H : Hash) {n : Nat} (hn : 0 < n) : ∀ (s : Nat) (nx : BitVec 32), ∀ b ∈ chainRes H n s nx, b < n
  | s + 1, nx, b, hb => by
    rcases List.mem_cons.mp hb with rfl | hb
    · exact Nat.mod_lt _ hn
    · exact chainRes_lt H hn s _ b hb

/-- (index list, last bucket) after the chain phase, and after probing from there; `n` = the number of buckets as a uint32 -/
def indexFold (c : Cfg) (H : Hash) (n : Nat) (hash : BitVec 64) : (List Nat × Nat) × (List Nat × Nat) :=
  let p := (chainRes H n c.maxChain (H.first hash)).foldl (capAdd (min c.k n)) ([], 0)
  (p, (probeRes n p.2 (n - 1) 1).foldl (capAdd (min c.k n)) p)

theorem bucketIndicesNew_eq (c : Cfg) (hk : c.k < two32) (H : Hash) (numBuckets : Nat) (hash : BitVec 64) :
    bucketIndicesNew c H numBuckets hash = .ok (indexFold c H (numBuckets % two32) hash).2.1 := by
  unfold bucketIndicesNew
  have hk' : (if c.k % two32 > numBuckets % two32 then numBuckets % two32 else c.k) = min c.k (numBuckets % two32) := by
    rw [Nat.mod_eq_of_lt hk]; split <;> omega
  simp only [hk']
  rw [chainPhase_eq H (Nat.min_le_right _ _)]
  exact probePhase_eq (Nat.min_le_right _ _) _ _ _ _

theorem indexFold_inv (c : Cfg) (H : Hash) (n : Nat) (hash : BitVec 64) :
    CapInv n (min c.k n) (indexFold c H n hash).1 ∧ CapInv n (min c.k n) (indexFold c H n hash).2 := by
  have h1 := CapInv.foldl (Nat.min_le_right c.k n) (chainRes H n c.maxChain (H.first hash))
    (fun b hb hn => chainRes_lt H hn _ _ b hb) (p := ([], 0)) ⟨nofun, .nil, Nat.zero_le _, .inl rfl⟩
  refine ⟨h1, CapInv.foldl (Nat.min_le_right _ _) _ (fun b hb hn => ?_) h1⟩
  obtain ⟨o, _, rfl⟩ := List.mem_map.mp hb
  exact Nat.mod_lt _ hn

theorem bucketIndicesNew_spec (c : Cfg) (hk : c.k < two32) (H : Hash) (numBuckets : Nat) (hash : BitVec 64) :
    ∃ ind, bucketIndicesNew c H numBuckets hash = .ok ind ∧ ∀ i ∈ ind, i < numBuckets :=
  ⟨_, bucketIndicesNew_eq c hk H numBuckets hash,
    fun i hi => Nat.lt_of_lt_of_le ((indexFold_inv c H _ hash).2.1 i hi) (Nat.mod_le _ _)⟩

theorem residue_reached {n last r M : Nat} (hl : last < n) (hr : r < n) (hne : r ≠ last) (hM : 2 * n ≤ M) :
    ∃ o, 1 ≤ o ∧ o < n ∧ (last + o) % M % n = r := by
  by_cases hge : r > last
  · exact ⟨r - last, by omega, by omega,
      by rw [show last + (r - last) = r by omega, Nat.mod_eq_of_lt (show r < M by omega), Nat.mod_eq_of_lt hr]⟩
  · exact ⟨r + n - last, by omega, by omega, by
      rw [show last + (r + n - last) = r + n by omega, Nat.mod_eq_of_lt (show r + n < M by omega), Nat.add_mod_right,
        Nat.mod_eq_of_lt hr]⟩

/-- from a last bucket that is an index, probing either fills the list or reaches every residue -/
theorem probeFold_full {n k : Nat} (hk : k ≤ n) (hn : n ≤ 2147483648) {p : List Nat × Nat} (g : CapInv n k p) (hne : p.1 ≠ []) :
    k ≤ ((probeRes n p.2 (n - 1) 1).foldl (capAdd k) p).1.length := by
  rcases foldl_capAdd_covers (k := k) (probeRes n p.2 (n - 1) 1) p with hfull | hall
  · exact hfull
  · have hlast : p.2 ∈ p.1 := g.2.2.2.resolve_left hne
    have hsub : ∀ r ∈ List.range n, r ∈ ((probeRes n p.2 (n - 1) 1).foldl (capAdd k) p).1 := fun r hr => by
      have hr' : r < n := List.mem_range.mp hr
      by_cases hrl : r = p.2
      · exact mem_foldl_capAdd _ _ (hrl ▸ hlast)
      · obtain ⟨o, ho1, ho2, ho3⟩ := residue_reached (g.1 _ hlast) hr' hrl (M := two32) (by unfold two32; omega)
        exact ho3 ▸ hall _ (List.mem_map.mpr ⟨o, List.mem_range'_1.mpr ⟨ho1, by omega⟩, rfl⟩)
    have := List.Nodup.length_le_of_subset List.nodup_range hsub
    rw [List.length_range] at this
    omega

theorem bucketIndicesNew_card (c : Cfg) (hk : c.k < two32) (hmc : 0 < c.maxChain) (H : Hash) (numBuckets : Nat)
    (hnb : numBuckets ≤ 2147483648) (hash : BitVec 64) (ind : List Nat)
    (h : bucketIndicesNew c H numBuckets hash = .ok ind) :
    ind.Nodup ∧ ind.length = min c.k numBuckets := by
  rw [bucketIndicesNew_eq c hk, Nat.mod_eq_of_lt (by unfold two32; omega)] at h
  cases h
  obtain ⟨g1, g2⟩ := indexFold_inv c H numBuckets hash
  refine ⟨g2.2.1, Nat.le_antisymm g2.2.2.1 ?_⟩
  by_cases hk0 : min c.k numBuckets = 0
  · exact hk0 ▸ Nat.zero_le _
  · obtain ⟨s, hs⟩ : ∃ s, c.maxChain = s + 1 := ⟨c.maxChain - 1, by omega⟩
    refine probeFold_full (Nat.min_le_right _ _) hnb g1 fun hnil => ?_
    -- the chain made at least one step, so the chain phase leaves an index
    rcases foldl_capAdd_covers (k := min c.k numBuckets) (chainRes H numBuckets c.maxChain (H.first hash)) ([], 0) with hf | ha
    · rw [hnil] at hf; exact hk0 (Nat.le_zero.mp hf)
    · have := ha _ (by rw [hs]; exact List.mem_cons_self)
      rw [hnil] at this; cases this

theorem applyAt_spec (dc : BitVec 32) (key : Key) (h : BitVec 64) (ind : List Nat) (bs : Array Bucket)
    (hlt : ∀ i ∈ ind, i < bs.size) : ∃ r, applyAt bs dc key h ind = .ok r ∧ r.size = bs.size := by
  fun_induction applyAt bs dc key h ind with
  | case1 => exact ⟨_, rfl, rfl⟩
  | case2 _ _ _ _ ih =>
    obtain ⟨r, hr, hs⟩ := ih fun j hj => by simpa using hlt j (.tail _ hj)
    exact ⟨r, hr, by simpa using hs⟩
  | case3 _ _ _ hi => exact absurd (hlt _ (.head _)) hi

theorem insDel_spec (c : Cfg) (hb : c.chainBounded = true) (hk : c.k < two32) (H : Hash) (bs : Array Bucket) (dc : BitVec 32) (key : Key) :
    ∃ r, insDel c H bs dc key = .ok r ∧ r.size = bs.size := by
  unfold insDel bucketIndices
  simp only [hb, ↓reduceIte]
  obtain ⟨ind, hi, hlt⟩ := bucketIndicesNew_spec c hk H bs.size (H.hashKey key)
  rw [hi]
  exact applyAt_spec dc key _ ind bs hlt

/-- what one inner pass does to the decode state -/
structure PassInv (s s' : DState) (upd upd' : Bool) : Prop where
  size : s'.buckets.size = s.buckets.size
  nodup : s.pures.Nodup → s'.pures.Nodup
  mono : s.pures.length ≤ s'.pures.length
  grow : upd = false → upd' = true → s.pures.length < s'.pures.length
  passes : s'.passes = s.passes
  cnt : s'.remaining.length + s'.missing.length + s.pures.length = s.remaining.length + s.missing.length + s'.pures.length

/-- peeling one key in front of a pass: the key joins `pures` and one of the two output lists -/
theorem PassInv.peel {s s2 s' : DState} {upd upd' : Bool} {k : Key} (inv : PassInv s2 s' true upd')
    (hk : k ∉ s.pures) (hsz : s2.buckets.size = s.buckets.size) (hpu : s2.pures = k :: s.pures) (hpa : s2.passes = s.passes)
    (hcn : s2.remaining.length + s2.missing.length = s.remaining.length + s.missing.length + 1) : PassInv s s' upd upd' := by
  have hmono := inv.mono
  have hcnt := inv.cnt
  rw [hpu, List.length_cons] at hmono hcnt
  exact ⟨inv.size.trans hsz, fun hnd => inv.nodup (hpu ▸ List.nodup_cons.mpr ⟨hk, hnd⟩), by omega, fun _ _ => by omega,
    inv.passes.trans hpa, by omega⟩

theorem iblt_pass_spec (c : Cfg) (hb : c.chainBounded = true) (hk : c.k < two32) (H : Hash) (t idx : Nat) (s : DState) (upd : Bool) :
    idx + t = s.buckets.size →
      (∃ s' upd', pass c H t idx s upd = .ok (s', upd') ∧ PassInv s s' upd upd') ∨ pass c H t idx s upd = .err "ErrDecodeLoop" := by
  fun_induction pass c H t idx s upd with
  | case1 _ s upd => exact fun _ => .inl ⟨s, upd, rfl, ⟨rfl, id, Nat.le_refl _, fun h1 h2 => by simp_all, rfl, by omega⟩⟩
  | case2 t idx s _ hnone => intro h; rw [Array.getElem?_eq_none_iff] at hnone; omega
  | case3 => exact fun _ => .inr rfl
  -- a pure bucket whose key is new: Delete (count 1) or Insert succeeds and keeps the size, the rest of the pass goes on behind the peeled key
  | case4 t idx s upd b _ _ tx hin _ bs hd ih | case7 t idx s upd b _ _ tx hin _ bs hd ih =>
    intro h
    obtain ⟨r, hr, hsz⟩ := insDel_spec c hb hk H s.buckets _ tx
    cases hr.symm.trans hd
    have h' : idx + 1 + t = bs.size := by omega
    have hnot : tx ∉ s.pures := fun hm => hin (List.contains_iff_mem.mpr hm)
    exact (ih h').imp (fun ⟨s', upd', hs', inv⟩ => ⟨s', upd', hs', inv.peel hnot hsz rfl rfl (by simp; omega)⟩) id
  -- … and neither of them fails
  | case5 _ _ s _ _ _ _ tx _ _ _ hd | case6 _ _ s _ _ _ _ tx _ _ _ hd | case8 _ _ s _ _ _ _ tx _ _ _ hd | case9 _ _ s _ _ _ _ tx _ _ _ hd =>
    obtain ⟨r, hr, _⟩ := insDel_spec c hb hk H s.buckets _ tx
    cases hr.symm.trans hd
  | case10 _ _ _ _ _ _ _ ih => exact fun h => ih (by omega)

/-- A successful result made at most one pass more than it peeled keys, whatever the fuel; and the loop returns for any fuel that
    exceeds the number of keys not yet peeled, and not with a panic.  One induction: both rest on what `iblt_pass_spec` says of
    the pass in front. -/
theorem decodeLoop_spec (c : Cfg) (hb : c.chainBounded = true) (hk : c.k < two32) (H : Hash) :
    ∀ (fuel : Nat) (s : DState),
      (∀ r, decodeLoop c H fuel s = some (.ok r) → s.passes ≤ s.pures.length →
        s.pures.length = s.remaining.length + s.missing.length → r.passes ≤ r.remaining.length + r.missing.length + 1) ∧
      (s.pures.Nodup → fuel + s.pures.length > keySpace → ∃ r, decodeLoop c H fuel s = some r ∧ ∀ p, r ≠ .panic p) := by
  intro fuel
  induction fuel with
  | zero =>
    refine fun s => ⟨nofun, fun hnd hf => ?_⟩
    have := nodup_keys_length_le s.pures hnd
    omega
  | succ f ih =>
    intro s
    unfold decodeLoop
    rcases iblt_pass_spec c hb hk H s.buckets.size 0 s false (by simp) with ⟨s', upd', hs', inv⟩ | herr
    · rw [hs']
      have hcnt := inv.cnt
      have hpass := inv.passes
      cases upd' with
      | true =>
        simp only
        have hgrow := inv.grow rfl rfl
        obtain ⟨hbd, hret⟩ := ih { s' with passes := s'.passes + 1 }
        exact ⟨fun r hr h1 h2 => hbd r hr (by simp; omega) (by simp; omega), fun hnd hf => hret (inv.nodup hnd) (by simp; omega)⟩
      | false =>
        simp only
        have hmono := inv.mono
        refine ⟨fun r hr h1 h2 => ?_, fun _ _ => ⟨_, rfl, fun p => by split <;> simp⟩⟩
        split at hr
        · cases hr; simp; omega
        · cases hr
    · rw [herr]; exact ⟨nofun, fun _ _ => ⟨_, rfl, by simp⟩⟩

theorem iblt_decode_spec (c : Cfg) (hb : c.chainBounded = true) (hk : c.k < two32) (H : Hash) (bs : Array Bucket) :
    ∃ r, decode c H bs = some r ∧ (∀ p, r ≠ .panic p) ∧
      ∀ r', r = .ok r' → r'.passes ≤ r'.remaining.length + r'.missing.length + 1 := by
  unfold decode
  obtain ⟨hbd, hret⟩ := decodeLoop_spec c hb hk H (keySpace + 1) (DState.init bs)
  obtain ⟨r, h, hp⟩ := hret (by simp [DState.init]) (by simp [DState.init])
  exact ⟨r, h, hp, fun r' hr' => hbd r' (hr' ▸ h) (by simp [DState.init]) (by simp [DState.init])⟩

/-- on a fixed point of the chain the loop of the unrepaired bucketIndices never exits (k ≥ 2): the index list stays at
    the one bucket of the fixed point -/
theorem chainOld_fixed_point_hangs (H : Hash) (n k : Nat) (hn : n ≠ 0) (hk : 2 ≤ k) (x : BitVec 32) (hx : H.next x = x) :
    ∀ fuel ind, ind = [] ∨ ind = [x.toNat % n] → chainOld H n k fuel x ind = none := by
  intro fuel
  induction fuel with
  | zero => intro ind hi; unfold chainOld; rcases hi with rfl | rfl <;> simp <;> omega
  | succ f ih =>
    intro ind hi
    unfold chainOld
    have h1 : ¬ ind.length ≥ k := by rcases hi with rfl | rfl <;> simp <;> omega
    rw [if_neg h1, if_neg hn, hx]
    refine ih _ (.inr ?_)
    rcases hi with rfl | rfl
    · simp [addIndex]
    · exact addIndex_mem _ _ (by simp)

theorem chainOld_small_table_hangs (H : Hash) (n k : Nat) (hn : n ≠ 0) (hk : n < k) :
    ∀ fuel nx ind, ind.Nodup → (∀ i ∈ ind, i < n) → chainOld H n k fuel nx ind = none := by
  intro fuel
  induction fuel with
  | zero =>
    intro nx ind hnd hlt
    have := nodup_lt_length_le n ind hnd hlt
    unfold chainOld
    have h1 : ¬ (ind.length ≥ k) := by omega
    rw [if_neg h1]
  | succ f ih =>
    intro nx ind hnd hlt
    have := nodup_lt_length_le n ind hnd hlt
    unfold chainOld
    have h1 : ¬ (ind.length ≥ k) := by omega
    rw [if_neg h1, if_neg hn]
    exact ih _ _ (addIndex_nodup _ _ hnd) (addIndex_lt _ _ n (Nat.mod_lt _ (by omega)) hlt)

theorem chainOld_zero_buckets_panics (H : Hash) (k : Nat) (hk : 0 < k) (fuel : Nat) (nx : BitVec 32) :
    chainOld H 0 k (fuel + 1) nx [] = some (.panic "bucketIndices:next % numBuckets") := by
  unfold chainOld
  have h1 : ¬ (([] : List Nat).length ≥ k) := by simp; omega
  rw [if_neg h1]; simp

end Nuts.C19.Lemmas
