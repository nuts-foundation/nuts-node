/-
  auth/api/iam openid4vp.go (NutsModel/C19/Callback.lean): inside handleAuthorizeResponseSubmission `withCallbackURI` never sees a raw
  error and `nonces[0]` is in range.
-/
import NutsModel.C19.Callback
import NutsProofs.Lemmas.Base

namespace Nuts.C19.Lemmas
open Nuts.C19.Callback

variable {P : String → Prop}

theorem withCallbackURI_oauth2 (c : Cfg) (code : String) : withCallbackURI c (.oauth2 code) = .ok (.oauth2 code) := rfl

theorem validatePresentationAudience_not_raw (p : Pres) (h : extractChallengeErr p = false) :
    ∀ m, validatePresentationAudience p ≠ some (.raw m) := by
  intro m
  unfold validatePresentationAudience
  unfold extractChallengeErr at h
  simp [h]

theorem withCallbackURI_panicsIn (c : Cfg) (e : GoErr) (h : c.assertChecked = false → P "withCallbackURI:err.(oauth.OAuth2Error)") :
    Res.PanicsIn (withCallbackURI c e) P := by
  unfold withCallbackURI
  split
  · exact .ok
  · exact .flag .ok h

theorem audienceLoop_panicsIn (c : Cfg) : ∀ ps : List (Pres × Bool), (∀ p ∈ ps, extractChallengeErr p.1 = false) →
    Res.PanicsIn (audienceLoop c ps) P
  | [], _ => .ok
  | (p, signerOk) :: rest, h => by
    unfold audienceLoop
    refine .ite (by rw [withCallbackURI_oauth2]; exact .ok) ?_
    split
    · rename_i e he
      cases e with
      | oauth2 code => rw [withCallbackURI_oauth2]; exact .ok
      | raw m => exact absurd he (validatePresentationAudience_not_raw p (h _ (.head _)) m)
    · exact audienceLoop_panicsIn c rest fun q hq => h q (.tail _ hq)

/-- validatePresentationNonce, exit by exit: with at least one presentation `nonces[0]` is in range (past the second test every nonce is
    present, so `nonces` is not empty); no exit hands on a raw error; the success exit lies behind the test for extraction errors -/
theorem validatePresentationNonce_spec (ps : List Pres) (storeOk : Bool) :
    (ps ≠ [] → Res.PanicsIn (validatePresentationNonce ps storeOk) P) ∧
    (∀ m, validatePresentationNonce ps storeOk ≠ .ok (some (.raw m))) ∧
    (validatePresentationNonce ps storeOk = .ok none → ∀ p ∈ ps, extractChallengeErr p = false) := by
  fun_cases validatePresentationNonce ps storeOk with
  | case4 _ hall _ hnil =>   -- the exit at `nonces[0]`
    refine ⟨fun hne => ?_, nofun, nofun⟩
    obtain ⟨p, t, rfl⟩ := List.exists_cons_of_ne_nil hne
    have hp : p.nonce ≠ "" := fun hh => hall (List.any_eq_true.mpr ⟨p, by simp, by simp [hh]⟩)
    have hmem : p.nonce ∈ noncesOf (p :: t) := List.mem_eraseDups.2 (by simp [List.mem_filter, hp])
    rw [hnil] at hmem; cases hmem
  | case6 hany =>   -- the success exit
    refine ⟨fun _ => .ok, nofun, fun _ p hp => ?_⟩
    cases hx : extractChallengeErr p
    · rfl
    · exact absurd (List.any_eq_true.mpr ⟨p, hp, hx⟩) hany
  | _ => exact ⟨fun _ => .ok, nofun, nofun⟩

theorem handleSubmission_panicsIn (c : Cfg) (hg : c.envelopeGuard = true) (ps : List (Pres × Bool)) (storeOk : Bool) :
    Res.PanicsIn (handleSubmission c ps storeOk) P := by
  fun_cases handleSubmission c ps storeOk with
  | case1 | case4 => exact .ok
  | case2 he _ hv =>
    refine .pass ((validatePresentationNonce_spec _ _).1 fun h => he ?_) hv
    rw [hg, List.map_eq_nil_iff.mp h]; rfl
  | case6 _ e hv _ hp =>
    cases e with
    | oauth2 => cases hp
    | raw m => exact absurd hv ((validatePresentationNonce_spec (P := P) _ _).2.1 m)
  | case7 _ hv =>
    exact audienceLoop_panicsIn c ps fun p hp =>
      (validatePresentationNonce_spec (P := P) _ _).2.2 hv p.1 (List.mem_map.mpr ⟨p, hp, rfl⟩)
  | _ => exact .err

end Nuts.C19.Lemmas
