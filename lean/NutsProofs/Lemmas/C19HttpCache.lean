import NutsModel.C19.HttpCache
namespace Nuts.C19.Lemmas
open Nuts.C19.HttpCache

theorem hc_step_decreases (c : Cfg) (hg : c.headGuard = true) (len : Int) (s s' : St) (h : step c len s = some s') :
    s'.list.length < s.list.length := by
  unfold step at h
  split at h
  · rename_i hc
    cases h
    unfold loopCond at hc
    simp only [hg, Bool.not_true, Bool.false_or, Bool.and_eq_true] at hc
    unfold pop
    cases hl : s.list with
    | nil => simp [hl] at hc
    | cons e rest => simp
  · cases h

theorem hc_iter_exits (c : Cfg) (hg : c.headGuard = true) (len : Int) :
    ∀ (n : Nat) (s : St), s.list.length ≤ n → iter c len (n + 1) s = none := by
  intro n
  induction n with
  | zero =>
    intro s hs
    have hl : s.list = [] := List.eq_nil_of_length_eq_zero (Nat.le_zero.mp hs)
    simp [iter, step, loopCond, hg, hl]
  | succ k ih =>
    intro s hs
    unfold iter
    cases hst : step c len s with
    | none => rfl
    | some s' =>
      have := hc_step_decreases c hg len s s' hst
      exact ih s' (by omega)

theorem hc_make_room_no_hang (c : Cfg) (hg : c.headGuard = true) (len max : Int) (l idx : List Entry) (cur : Int) :
    makeRoomL c len max l idx cur ≠ .hang := by
  fun_induction makeRoomL c len max l idx cur with
  | case1 _ _ h => simp [hg] at h
  | case3 _ _ _ _ _ ih => exact ih
  | _ => nofun

theorem hc_make_room_done (c : Cfg) (len max : Int) (l idx : List Entry) (cur : Int) (s' : St) :
    makeRoomL c len max l idx cur = .done s' →
      step c len s' = none ∧ s'.max = max ∧ (∃ pre, l = pre ++ s'.list) ∧ (cur = sumSizes l → s'.cur = sumSizes s'.list) := by
  fun_induction makeRoomL c len max l idx cur with
  | case1 => nofun
  | case3 e rest _ cur _ ih =>
    intro h
    obtain ⟨h1, h2, ⟨pre, h3⟩, h4⟩ := ih h
    refine ⟨h1, h2, ⟨e :: pre, by rw [h3]; rfl⟩, fun hc => h4 ?_⟩
    simp only [sumSizes, List.foldr_cons] at hc ⊢
    omega
  -- the two exits: the loop condition is false in the state returned
  | case2 _ _ hc | case4 _ _ _ _ hc =>
    intro h; cases h
    refine ⟨?_, rfl, ⟨[], rfl⟩, id⟩
    unfold step loopCond
    simp_all

theorem hc_insert_no_hang (c : Cfg) (hg : c.headGuard = true) (e : Entry) (s : St) : HttpCache.insert c e s ≠ .hang := by
  fun_cases HttpCache.insert c e s with
  | case2 _ hm => exact absurd hm (hc_make_room_no_hang c hg _ _ _ _ _)
  | _ => nofun

theorem hc_sum_insertAfterHead (e : Entry) : ∀ l, sumSizes (insertAfterHead e l) = (e.size : Int) + sumSizes l := by
  intro l
  induction l with
  | nil => rfl
  | cons n rest ih =>
    unfold insertAfterHead
    split
    · simp only [sumSizes, List.foldr_cons] at ih ⊢; omega
    · simp [sumSizes, List.foldr_cons]

theorem hc_sum_insertOrdered (e : Entry) (l : List Entry) : sumSizes (insertOrdered e l) = (e.size : Int) + sumSizes l := by
  cases l with
  | nil => rfl
  | cons h rest =>
    simp only [insertOrdered]
    split
    · simp [sumSizes, List.foldr_cons]
    · have := hc_sum_insertAfterHead e rest
      simp only [sumSizes, List.foldr_cons] at this ⊢; omega

theorem hc_sum_nonneg : ∀ l, 0 ≤ sumSizes l := by
  intro l
  induction l with
  | nil => simp [sumSizes]
  | cons e rest ih => simp only [sumSizes, List.foldr_cons] at ih ⊢; omega

/-- the bookkeeping invariant: currentSizeBytes is the sum of the sizes on the expiry list, and it never exceeds maxBytes -/
def Inv (s : St) : Prop := s.cur = sumSizes s.list ∧ s.cur ≤ s.max

theorem hc_pop_inv (s : St) (h : Inv s) : Inv (pop s) ∧ (pop s).max = s.max := by
  unfold pop
  cases hl : s.list with
  | nil => simpa [hl] using h
  | cons e rest =>
    obtain ⟨h1, h2⟩ := h
    simp only [hl, sumSizes, List.foldr_cons] at h1
    refine ⟨⟨?_, ?_⟩, rfl⟩
    · simp only [sumSizes]; omega
    · have := hc_sum_nonneg rest
      simp only [sumSizes] at this
      show s.cur - (e.size : Int) ≤ s.max
      omega

theorem hc_removeExpired_inv (now : Int) (l : List Entry) (s : St) :
    Inv s → Inv (removeExpired now l s) ∧ (removeExpired now l s).max = s.max := by
  fun_induction removeExpired now l s with
  | case2 _ _ s _ ih => exact fun h => have ⟨hp, hm⟩ := hc_pop_inv s h; have ⟨h1, h2⟩ := ih hp; ⟨h1, h2.trans hm⟩
  | _ => exact fun h => ⟨h, rfl⟩

theorem hc_insert_inv (c : Cfg) (e : Entry) (s s' : St) (h : Inv s) (hi : HttpCache.insert c e s = .done s') : Inv s' ∧ s'.max = s.max := by
  revert hi
  fun_cases HttpCache.insert c e s with
  | case1 => intro hi; cases hi; exact ⟨h, rfl⟩
  | case2 => nofun
  | case3 hsz m hm =>
    intro hi; cases hi
    unfold makeRoom at hm
    obtain ⟨hexit, hmax, ⟨pre, hpre⟩, hsum⟩ := hc_make_room_done c e.size s.max s.list s.index s.cur m hm
    have hcur := hsum h.1
    refine ⟨⟨?_, ?_⟩, hmax⟩
    · show m.cur + (e.size : Int) = sumSizes (insertOrdered e m.list)
      rw [hc_sum_insertOrdered]; omega
    · show m.cur + (e.size : Int) ≤ m.max
      -- the loop exited: either the new entry fits, or (guarded loop) the list is empty and then cur = 0
      unfold step at hexit
      split at hexit
      · cases hexit
      · rename_i hc
        unfold loopCond over at hc
        cases hl : m.list with
        | nil =>
          have : m.cur = 0 := by rw [hcur, hl]; rfl
          rw [hmax]; omega
        | cons x xs =>
          simp only [hl, List.isEmpty_cons, Bool.not_false, Bool.or_true, Bool.true_and] at hc
          cases hs : c.strict <;> simp [hs] at hc <;> omega

end Nuts.C19.Lemmas
