/-
  C13 — the sweep is one `settle` (`sweep_settle`: every transaction with an old change record is decided by the
  `committed` loop, nothing else happens), hence `Inv` in every reachable world (`reach_inv`); an operation that stopped,
  then the sweep (`stopped_then_swept`); young change records are left alone.
-/
import NutsProofs.Lemmas.C13Op

namespace Nuts.C13
open Nuts

theorem isCommitted_ok {cfg : Cfg} (hfix : cfg.notFoundIsUncommitted = true) (pub : Nat → List Content) (ch : Change) :
    ∃ b, isCommitted cfg pub ch = .ok b := by
  fun_cases isCommitted cfg pub ch with
  | case3 _ _ hn => exact absurd hfix hn
  | _ => exact ⟨_, rfl⟩

theorem isCommitted_nuts {cfg : Cfg} {pub : Nat → List Content} {ch : Change} (hm : ch.method = .nuts)
    (h : isCommitted cfg pub ch = .ok true) : pubLatest pub ch.did = some ch.c := by
  revert h
  fun_cases isCommitted cfg pub ch with
  | case1 hw => rw [hm] at hw; cases hw
  | case4 _ cur hcur =>
    intro h
    simp only [Res.ok.injEq, Bool.and_eq_true, beq_iff_eq] at h
    rw [hcur, h.1]
  | _ => nofun

theorem committedLoop_ok {cfg : Cfg} (hfix : cfg.notFoundIsUncommitted = true) (pub : Nat → List Content)
    (group : List Change) : ∃ b, committedLoop cfg pub group = .ok b := by
  fun_induction committedLoop cfg pub group with
  | case1 => exact ⟨true, rfl⟩
  | case2 _ _ _ ih => exact ih
  | case3 ch => exact isCommitted_ok hfix pub ch

theorem committedLoop_true {cfg : Cfg} (pub : Nat → List Content) (group : List Change) :
    committedLoop cfg pub group = .ok true → ∀ ch ∈ group, isCommitted cfg pub ch = .ok true := by
  fun_induction committedLoop cfg pub group with
  | case1 => exact fun _ _ h => nomatch h
  | case2 c cs hc ih => exact fun h ch hch => (List.mem_cons.1 hch).elim (· ▸ hc) (ih h ch)
  | case3 c cs hne => exact fun h => absurd h hne
def verdict (cfg : Cfg) (pub : Nat → List Content) (old : List Change) (t : Nat) : Bool :=
  match committedLoop cfg pub (old.filter (fun ch => ch.tx = t)) with
  | .ok b => b
  | _ => false

theorem verdict_true {cfg : Cfg} {pub : Nat → List Content} {old : List Change} {t : Nat}
    (h : verdict cfg pub old t = true) : ∀ ch ∈ old, ch.tx = t → isCommitted cfg pub ch = .ok true := by
  intro ch hch ht
  unfold verdict at h
  split at h
  · rename_i b hc
    subst h
    exact committedLoop_true pub _ hc ch (List.mem_filter.2 ⟨hch, by simpa using ht⟩)
  · cases h

def decisions (f : Nat → Bool) : List Nat → Nat → Option Bool
  | [] => fun _ => none
  | t :: ts => fun x => (only t (f t) x).orElse fun _ => decisions f ts x

theorem decisions_eq (f : Nat → Bool) (x : Nat) : ∀ ts : List Nat, decisions f ts x = if x ∈ ts then some (f x) else none
  | [] => by simp [decisions]
  | t :: ts => by
    unfold decisions only
    by_cases hx : x = t
    · subst hx; simp
    · simp [hx, decisions_eq f x ts]

theorem only_orElse (t : Nat) (b : Bool) : (fun x => (only t false x).orElse fun _ => only t b x) = only t false := by
  funext x
  unfold only
  split <;> rfl

theorem sweepApply_settle {cfg : Cfg} (hfix : Fixed cfg) {t : Nat} {group : List Change} (w : World) (b : Bool)
    (h : Inv w.dids w.next) (g : GroupOf (selTx t) group w.dids) :
    sweepApply cfg w group t b = { w with dids := settle cfg (only t b) w.dids } := by
  have hdid : (sweepApply cfg w group t b).dids = settle cfg (only t b) w.dids := by
    unfold sweepApply
    cases b with
    | true => exact deleteLogTx_settle t w h
    | false =>
      have hd := deleteChanges_settle (cfg := cfg) w h g
      have h' : Inv (deleteChanges cfg group w).dids w.next := hd ▸ inv_settle hfix _ h
      rw [if_neg (by simp), deleteLogTx_settle (cfg := cfg) t _ h', hd, settle_settle cfg _ _ fun r hr => h.topOnly r hr,
        only_orElse]
  rw [← hdid]
  cases b <;> rfl

theorem sweepTxs_settle {cfg : Cfg} (hfix : Fixed cfg) (old : List Change) :
    ∀ (ts : List Nat) (w : World), ts.Nodup → Inv w.dids w.next →
      (∀ t ∈ ts, GroupOf (selTx t) (old.filter (fun ch => ch.tx = t)) w.dids) →
      sweepTxs cfg old ts w = .ok { w with dids := settle cfg (decisions (verdict cfg w.pub old) ts) w.dids }
  | [], w, _, _, _ => by
    rw [settle_of_none (d := decisions _ []) fun _ _ _ _ => rfl]; rfl
  | t :: ts, w, hnd, h, hg => by
    rw [List.nodup_cons] at hnd
    rcases committedLoop_ok hfix.notFound w.pub (old.filter (fun ch => ch.tx = t)) with ⟨b, hb⟩
    have hv : verdict cfg w.pub old t = b := by unfold verdict; rw [hb]
    unfold sweepTxs
    simp only [hb]
    -- the groups of the transactions to come are untouched by this step, and the two decisions compose
    rw [sweepApply_settle hfix w b h (hg t (List.mem_cons_self ..)),
      sweepTxs_settle hfix old ts _ hnd.2 (inv_settle hfix _ h)
        (fun t' ht' => (hg t' (List.mem_cons_of_mem _ ht')).settle h (if_neg fun (he : t' = t) => hnd.1 (he ▸ ht'))),
      settle_settle cfg _ _ fun r hr => h.topOnly r hr, ← hv]
    rfl

theorem mem_allChanges (w : World) (ch : Change) :
    ch ∈ allChanges w ↔ ∃ r ∈ w.dids, ∃ v ∈ r.vers, ∃ p, v.pending = some p ∧
      ch = { did := r.id, method := r.method, row := v.row, typ := p.typ, tx := p.tx, ts := v.ts, c := v.c } := by
  unfold allChanges pendingOf
  simp only [List.mem_flatMap, List.mem_filterMap]
  constructor
  · rintro ⟨r, hr, v, hv, hm⟩
    cases hp : v.pending with
    | none => rw [hp] at hm; cases hm
    | some p =>
      rw [hp] at hm
      simp only [Option.map_some, Option.some.injEq] at hm
      exact ⟨r, hr, v, hv, p, hp, hm.symm⟩
  · rintro ⟨r, hr, v, hv, p, hp, rfl⟩
    exact ⟨r, hr, v, hv, by rw [hp]; rfl⟩

def sweepVerdict (cfg : Cfg) (w : World) (t : Nat) : Option Bool :=
  if (oldChanges cfg w).any (fun o => o.tx = t) then some (verdict cfg w.pub (sweepChanges cfg w) t) else none

theorem mem_sweepChanges {cfg : Cfg} (hfix : Fixed cfg) (w : World) (ch : Change) :
    ch ∈ sweepChanges cfg w ↔ ch ∈ allChanges w ∧ (oldChanges cfg w).any (fun o => o.tx = ch.tx) = true := by
  unfold sweepChanges
  rw [if_pos hfix.wholeTx, List.mem_filter]

theorem groupOf_sweep {cfg : Cfg} {w : World} (hfix : Fixed cfg) (h : Inv w.dids w.next) {t : Nat}
    (ht : (oldChanges cfg w).any (fun o => o.tx = t) = true) :
    GroupOf (selTx t) ((sweepChanges cfg w).filter (fun ch => ch.tx = t)) w.dids := by
  constructor
  · intro ch hch
    rcases List.mem_filter.1 hch with ⟨hsw, htx⟩
    rcases (mem_allChanges w ch).1 ((mem_sweepChanges hfix w ch).1 hsw).1 with ⟨r, hr, v, hv, p, hp, rfl⟩
    obtain ⟨vs, hvs⟩ := h.head_of_pending hr hv hp
    refine ⟨r, hr, ?_, rfl, v, vs, p, hvs, hp, rfl, rfl⟩
    simp only [selTx, headTx_cons hvs hp, beq_iff_eq]
    simpa using htx
  · intro r hr hs
    obtain ⟨v, vs, p, hvs, hp, hpt⟩ := headTx_some (beq_iff_eq.1 hs)
    refine ⟨{ did := r.id, method := r.method, row := v.row, typ := p.typ, tx := p.tx, ts := v.ts, c := v.c }, ?_, rfl,
      v, vs, p, hvs, hp, rfl, rfl⟩
    refine List.mem_filter.2 ⟨(mem_sweepChanges hfix w _).2
      ⟨(mem_allChanges w _).2 ⟨r, hr, v, by rw [hvs]; exact List.mem_cons_self .., p, hp, rfl⟩, ?_⟩, by simpa using hpt⟩
    rw [hpt]; exact ht

theorem sweep_settle {cfg : Cfg} {w : World} (ord : List Nat → List Nat) (hfix : Fixed cfg)
    (hord : ∀ l, (ord l).Perm l) (h : Inv w.dids w.next) :
    sweep cfg ord w = ({ w with dids := settle cfg (sweepVerdict cfg w) w.dids }, "ok") := by
  have hperm := hord ((sweepChanges cfg w).map (·.tx)).eraseDups
  have hmem : ∀ t, t ∈ ord ((sweepChanges cfg w).map (·.tx)).eraseDups ↔ (oldChanges cfg w).any (fun o => o.tx = t) = true := by
    intro t
    rw [hperm.mem_iff, List.mem_eraseDups, List.mem_map]
    constructor
    · rintro ⟨ch, hch, rfl⟩
      exact ((mem_sweepChanges hfix w ch).1 hch).2
    · intro ht
      obtain ⟨o, ho, hot⟩ := List.any_eq_true.1 ht
      have hot : o.tx = t := by simpa using hot
      refine ⟨o, (mem_sweepChanges hfix w o).2 ⟨(List.mem_filter.1 ho).1, List.any_eq_true.2 ⟨o, ho, by simp⟩⟩, hot⟩
  unfold sweep
  simp only
  rw [sweepTxs_settle hfix _ _ w (hperm.nodup_iff.2 (nodup_eraseDups _)) h fun t ht => groupOf_sweep hfix h ((hmem t).1 ht)]
  simp only
  congr 2
  apply settle_congr
  intro r _ t _
  rw [decisions_eq]
  unfold sweepVerdict
  by_cases ht : (oldChanges cfg w).any (fun o => o.tx = t) = true
  · rw [if_pos ((hmem t).2 ht), if_pos ht]
  · rw [if_neg fun hh => ht ((hmem t).1 hh), if_neg ht]

/-- Worlds reachable by operations (any fault, any commit order) that start on a subject without change records,
    clock ticks, restamps and sweeps (any transaction order). -/
inductive Reach (cfg : Cfg) : World → Prop
  | init : Reach cfg {}
  | op {w : World} (o : Op) (order : List Method) (f : Fault) :
      Reach cfg w → Clean w.dids o.subject → Reach cfg (stepOp cfg w o order f).1
  | tick {w : World} (d : Nat) : Reach cfg w → Reach cfg (tick d w)
  | sweep {w : World} (ord : List Nat → List Nat) :
      Reach cfg w → (∀ l, (ord l).Perm l) → Reach cfg (sweep cfg ord w).1
  | restamp {w : World} (f : DidRow → Ver → Nat) : Reach cfg w → Reach cfg (restamp f w)

theorem reach_inv {cfg : Cfg} (hfix : Fixed cfg) (hms : cfg.methods.Nodup) {w : World} (h : Reach cfg w) :
    Inv w.dids w.next := by
  induction h with
  | init => exact inv_nil 0
  | op o order f _ hc ih => exact stepOp_inv o order f hfix hms ih hc
  | tick d _ ih => exact ih
  | sweep ord _ hord ih => rw [sweep_settle ord hfix hord ih]; exact inv_settle hfix _ ih
  | restamp f _ ih => exact inv_restamp f ih

theorem logCount_zero (w : World) (h : ∀ r ∈ w.dids, ∀ v ∈ r.vers, v.pending = none) : logCount w = 0 := by
  refine List.sum_eq_zero_iff_forall_eq_nat.2 fun n hn => ?_
  obtain ⟨r, hr, rfl⟩ := List.mem_map.1 hn
  rw [List.filter_eq_nil_iff.2 fun v hv => by rw [h r hr v hv]; simp]
  rfl

theorem stopped_then_swept {cfg : Cfg} (hfix : Fixed cfg) (hms : cfg.methods.Nodup) {w0 w1 : World} {o : Op}
    {chs : List Change} (hi : Inv w0.dids w0.next) (hnone : ∀ r ∈ w0.dids, ∀ v ∈ r.vers, v.pending = none)
    (ht : tx1 cfg w0 o = .ok (w1, chs)) (pub : Nat → List Content) (d : Nat) (hd : cfg.threshold < d)
    (ord : List Nat → List Nat) (hord : ∀ l, (ord l).Perm l) :
    ((sweep cfg ord (tick d { w1 with pub := pub })).1.dids = w0.dids ∨
     ((sweep cfg ord (tick d { w1 with pub := pub })).1.dids = w1.dids.map (clearRow w0.next) ∧
      ∀ r ∈ w1.dids, ∀ v vs p, r.vers = v :: vs → v.pending = some p → r.method = .nuts → pubLatest pub r.id = some v.c)) ∧
    (sweep cfg ord (tick d { w1 with pub := pub })).1.pub = pub := by
  have h1 := tx1_inv hms hi (fun r hr _ v hv => hnone r hr v hv) ht
  generalize hwS : tick d { w1 with pub := pub } = wS
  have hSd : wS.dids = w1.dids := by rw [← hwS]; rfl
  have hSnow : wS.now = w0.now + d := by rw [← hwS]; simp [tick, (tx1_cases ht).2.2.1]
  have hSpub : wS.pub = pub := by rw [← hwS]; rfl
  have hiS : Inv wS.dids wS.next := by rw [hSd, ← hwS]; exact h1
  rw [sweep_settle ord hfix hord hiS]
  refine ⟨?_, hSpub⟩
  show settle cfg (sweepVerdict cfg wS) wS.dids = _ ∨ settle cfg (sweepVerdict cfg wS) wS.dids = _ ∧ _
  -- every change record belongs to the one transaction and is old
  have hpo : ∀ r ∈ w1.dids, ∀ v ∈ r.vers, ∀ p, v.pending = some p →
      p.tx = w0.next ∧ (oldChanges cfg wS).any (fun o => o.tx = w0.next) = true := by
    intro r hr v hv p hp
    have := tx1_pending hnone ht r hr v hv p hp
    refine ⟨this.1, List.any_eq_true.2 ⟨_, List.mem_filter.2
      ⟨(mem_allChanges wS _).2 ⟨r, hSd ▸ hr, v, hv, p, hp, rfl⟩, ?_⟩, by simp [this.1]⟩⟩
    simp only [decide_eq_true_eq, this.2, hSnow]
    omega
  -- so, on the rows there are, the sweep decides that transaction and no other
  have hone : ∀ r ∈ wS.dids, ∀ t, headTx r = some t →
      sweepVerdict cfg wS t = only w0.next (verdict cfg pub (sweepChanges cfg wS) w0.next) t := by
    intro r hr t hh
    obtain ⟨v, vs, p, hv, hp, rfl⟩ := headTx_some hh
    have := hpo r (hSd ▸ hr) v (hv ▸ List.mem_cons_self ..) p hp
    simp only [sweepVerdict, this.1, this.2, if_true, only, hSpub]
  rw [settle_congr hone, hSd]
  cases hb : verdict cfg pub (sweepChanges cfg wS) w0.next with
  | false => exact .inl (tx1_restore hfix hi ht)
  | true =>
    refine .inr ⟨by rw [← deleteLogTx_settle (cfg := cfg) w0.next w1 h1]; rfl, ?_⟩
    intro r hr v vs p hv hp hm
    have hin : v ∈ r.vers := hv ▸ List.mem_cons_self ..
    have := hpo r hr v hin p hp
    exact isCommitted_nuts hm (verdict_true hb _ ((mem_sweepChanges hfix wS _).2
      ⟨(mem_allChanges wS _).2 ⟨r, hSd ▸ hr, v, hin, p, hp, rfl⟩, by rw [this.1]; exact this.2⟩) this.1)

theorem sweep_young_noop (cfg : Cfg) (ord : List Nat → List Nat) (hord : ∀ l, (ord l).Perm l) (w : World)
    (hy : ∀ r ∈ w.dids, ∀ v ∈ r.vers, v.pending ≠ none → ¬ (v.ts + cfg.threshold < w.now)) :
    sweep cfg ord w = (w, "ok") := by
  have hold : oldChanges cfg w = [] := by
    unfold oldChanges
    apply List.filter_eq_nil_iff.2
    intro ch hch
    rcases (mem_allChanges w ch).1 hch with ⟨r, hr, v, hv, p, hp, rfl⟩
    simpa using hy r hr v hv (by rw [hp]; simp)
  have hsw : sweepChanges cfg w = [] := by
    unfold sweepChanges
    rw [hold]
    split
    · apply List.filter_eq_nil_iff.2
      intro ch _
      simp
    · rfl
  unfold sweep
  simp only [hsw, List.map_nil]
  have : ord ([] : List Nat).eraseDups = [] := List.Perm.eq_nil (hord _)
  rw [this]
  rfl

theorem in_flight_sweep_noop {cfg : Cfg} {w0 w1 : World} {o : Op} {chs : List Change}
    (hnone : ∀ r ∈ w0.dids, ∀ v ∈ r.vers, v.pending = none) (ht : tx1 cfg w0 o = .ok (w1, chs))
    (pub : Nat → List Content) (d : Nat) (hd : d ≤ cfg.threshold) (ord : List Nat → List Nat) (hord : ∀ l, (ord l).Perm l) :
    sweep cfg ord (tick d { w1 with pub := pub }) = (tick d { w1 with pub := pub }, "ok") := by
  apply sweep_young_noop cfg ord hord
  intro r hr v hv hp
  cases hpv : v.pending with
  | none => exact absurd hpv hp
  | some p =>
    have := (tx1_pending hnone ht r hr v hv p hpv).2
    have hnow : (tick d { w1 with pub := pub }).now = w1.now + d := rfl
    have hw1 : w1.now = w0.now := (tx1_cases ht).2.2.1
    rw [hnow, hw1, this]
    omega

end Nuts.C13
