/-
  C16 — the two nodes along ADMISSIBLE histories (`Reach`: an honest server, one poller, presentation ids that name one
  presentation, refreshes that do not expire earlier): the replica stays in step with the list and a quiescent poll
  brings the live sets together.
-/
import NutsProofs.Lemmas.C16Hist

namespace Nuts.C16

/-! ### replica invariants -/

def keyIn (rows : List Row) (subj id : String) : Prop := ∃ r ∈ rows, r.subject = subj ∧ r.id = id

/-- every live server row at or below `τ` is held by the client -/
def J2 (S C : Store) (t τ : Nat) : Prop :=
  ∀ r ∈ S.rows, r.ts ≤ τ → t < r.exp → keyIn C.rows r.subject r.id

/-- every live client row is listed by the server, or its subject has a newer entry (above `τ`) that does not expire earlier -/
def J3 (S C : Store) (t τ : Nat) : Prop :=
  ∀ c ∈ C.rows, t < c.exp → keyIn S.rows c.subject c.id ∨ ∃ r ∈ S.rows, r.subject = c.subject ∧ τ < r.ts ∧ c.exp ≤ r.exp

theorem same_key {K : VP → Prop} (hK : IdFun K) {a b : Row} (wa : RowWF a) (wb : RowWF b) (ka : K a.vp) (kb : K b.vp)
    (hs : a.subject = b.subject) (hi : a.id = b.id) : a.vp = b.vp ∧ a.exp = b.exp := by
  obtain ⟨⟨ma, sa⟩, ia, ea, _⟩ := wa
  obtain ⟨⟨mb, sb⟩, ib, eb, _⟩ := wb
  have : a.vp = b.vp := hK a.vp b.vp ka kb a.subject ma mb sa (by rw [hs]; exact sb) (by rw [ia, ib, hi])
  refine ⟨this, ?_⟩
  rw [this, eb] at ea
  exact (Option.some.inj ea).symm

theorem vpwf_of_row {r : Row} (h : RowWF r) {subj id : String} {e : Nat} (hv : VPWF r.vp subj id e) :
    subj = r.subject ∧ id = r.id ∧ e = r.exp := by
  obtain ⟨⟨m, s1⟩, i1, e1, _⟩ := h
  obtain ⟨⟨m', s2⟩, i2, e2, _⟩ := hv
  rw [s1] at s2; rw [i1] at i2; rw [e1] at e2
  cases s2; cases i2; cases e2
  exact ⟨rfl, rfl, rfl⟩

/-- the rows part that holds of every replica, synchronised or not -/
structure PA (K : VP → Prop) (c : Store) : Prop where
  wf : ∀ r ∈ c.rows, RowWF r
  k : ∀ r ∈ c.rows, K r.vp
  one : c.rows.Pairwise (fun a b => a.subject ≠ b.subject)

theorem pa_addOk {K : VP → Prop} {c : Store} {t : Nat} {vp : VP} {subj id : String} {e seed ts : Nat}
    (h : PA K c) (hkv : K vp) (hv : VPWF vp subj id e) : PA K (addOk c t vp subj id e seed ts).1 :=
  ⟨forall_addOk h.wf hv, forall_addOk h.k hkv, pairwise_addOk h.one fun _ _ hne => hne⟩

structure PB (K : VP → Prop) (S : Store) (t after : Nat) (done : List VP) (c : Store) : Prop where
  wf : ∀ r ∈ c.rows, RowWF r
  k : ∀ r ∈ c.rows, K r.vp
  one : c.rows.Pairwise (fun a b => a.subject ≠ b.subject)
  j2 : J2 S c t after
  j3 : J3 S c t after
  q : ∀ vp ∈ done, ∀ r ∈ S.rows, r.vp = vp → t < r.exp → keyIn c.rows r.subject r.id

theorem PB.pa {K : VP → Prop} {S : Store} {t after : Nat} {done : List VP} {c : Store} (h : PB K S t after done c) : PA K c :=
  ⟨h.wf, h.k, h.one⟩

/-- one round of the loop on the presentation of the list's row `rv`: a live row of the list whose key the replica holds keeps
    it there — the replica's row expires with it, and is not of `rv`'s subject unless it is `rv`'s own — and `rv` gets one -/
theorem held_iter {K : VP → Prop} (hK : IdFun K) {S : Store} (hS : SInv S) (hSK : ∀ r ∈ S.rows, K r.vp)
    (d : Def) (t seed ts : Nat) {c : Store} (hC : PA K c) (ctr : Nat) {subj id : String} {e : Nat}
    {rv : Row} (hrv : rv ∈ S.rows) (hv : VPWF rv.vp subj id e) {r : Row} (hr : r ∈ S.rows) (hl : t < r.exp)
    (h : keyIn c.rows r.subject r.id ∨ r = rv) :
    keyIn (clientIter d t seed ts c ctr rv.vp subj id e).1.rows r.subject r.id := by
  obtain ⟨rfl, rfl, rfl⟩ := vpwf_of_row (hS.wf rv hrv) hv
  cases hk : c.hasKey rv.subject rv.id with
  | true =>
    rw [clientIter_skip hk]
    rcases h with h | rfl
    · exact h
    · exact (hasKey_iff c _ _).mp hk
  | false =>
    rw [iter_rows_add hk]
    rcases h with ⟨x, hx, h1, h2⟩ | rfl
    · refine ⟨x, mem_addOk.mpr (.inl ⟨hx, ?_, fun hxs => ?_⟩), h1, h2⟩
      · have := (same_key hK (hC.wf x hx) (hS.wf r hr) (hC.k x hx) (hSK r hr) h1 h2).2
        omega
      · -- one row per subject on the list: `r` would be `rv`, whose key the replica does not hold
        cases pairwise_ne_inj hS.onePer hr hrv (h1.symm.trans hxs)
        exact Bool.false_ne_true (hk ▸ (hasKey_iff c _ _).mpr ⟨x, hx, h1, h2⟩)
    · exact ⟨_, mem_addOk.mpr (.inr rfl), rfl, rfl⟩

theorem pb_step {K : VP → Prop} (hK : IdFun K) {S : Store} (hS : SInv S) (hSK : ∀ r ∈ S.rows, K r.vp)
    (d : Def) {t after : Nat} (seed ts : Nat) {done : List VP} {c : Store} (ctr : Nat) {subj id : String} {e : Nat}
    {rv : Row} (hrv : rv ∈ S.rows) (hv : VPWF rv.vp subj id e) (h : PB K S t after done c) :
    PB K S t after (rv.vp :: done) (clientIter d t seed ts c ctr rv.vp subj id e).1 := by
  have held := fun {r} => held_iter hK hS hSK d t seed ts h.pa ctr hrv hv (r := r)
  have hj2 : J2 S (clientIter d t seed ts c ctr rv.vp subj id e).1 t after :=
    fun r hr hts hl => held hr hl (.inl (h.j2 r hr hts hl))
  have hq : ∀ v ∈ rv.vp :: done, ∀ r ∈ S.rows, r.vp = v → t < r.exp →
      keyIn (clientIter d t seed ts c ctr rv.vp subj id e).1.rows r.subject r.id := by
    intro v hvm r hr hrvp hl
    rcases List.mem_cons.mp hvm with rfl | hd
    · -- the same presentation has the same signer, so it is the same row of the list
      have s1 := (vpwf_of_row (hS.wf r hr) (hrvp ▸ hv)).1
      have s2 := (vpwf_of_row (hS.wf rv hrv) hv).1
      exact held hr hl (.inr (pairwise_ne_inj hS.onePer hr hrv (s1.symm.trans s2)))
    · exact held hr hl (.inl (h.q v hd r hr hrvp hl))
  obtain ⟨rfl, rfl, rfl⟩ := vpwf_of_row (hS.wf rv hrv) hv
  cases hk : c.hasKey rv.subject rv.id with
  | true => rw [clientIter_skip hk] at hq hj2 ⊢; exact ⟨h.wf, h.k, h.one, hj2, h.j3, hq⟩
  | false =>
    have hrows := iter_rows_add (d := d) (now := t) (seed := seed) (ts := ts) (ctr := ctr) (vp := rv.vp) (e := rv.exp) hk
    have hpa := pa_addOk (t := t) (seed := seedOf c seed ts (ctr + 1)) (ts := tsOf c ts) h.pa (hSK rv hrv) hv
    refine ⟨hrows ▸ hpa.wf, hrows ▸ hpa.k, hrows ▸ hpa.one, hj2, fun y hy hl => ?_, hq⟩
    rcases mem_addOk.mp (hrows ▸ hy) with ⟨h1, _, _⟩ | rfl
    · exact h.j3 y h1 hl
    · exact .inl ⟨rv, hrv, rfl, rfl⟩

/-- what the response of `get` is made of: presentations of rows of the list -/
def RespOf (S : Store) (resp : List VP) : Prop := ∀ vp ∈ resp, ∃ rv ∈ S.rows, rv.vp = vp

theorem pa_loop {K : VP → Prop} {S : Store} (hS : SInv S) (hSK : ∀ r ∈ S.rows, K r.vp)
    (d : Def) (t seed ts : Nat) (resp : List VP) (hresp : RespOf S resp) (c : Store) (ctr : Nat) (h : PA K c) :
    PA K (clientLoop d t seed ts c ctr resp).1 :=
  clientLoop_inv d t seed ts (fun c _ => PA K c) resp
    (fun c ctr vp c' o hvp hc ha => by
      obtain ⟨rv, hrv, rfl⟩ := hresp vp hvp
      obtain ⟨⟨m, hs⟩, hi, he, hj, hcr⟩ := (hS.wf rv hrv).vpwf
      rw [add_eq c t rv.vp seed ts (ctr + 1) _ m _ _ hs hi he hj hcr] at ha
      cases ha
      have := pa_addOk (t := t) (seed := seedOf c seed ts (ctr + 1)) (ts := tsOf c ts) hc (hSK rv hrv) (hS.wf rv hrv).vpwf
      exact ⟨this, fun _ _ _ => ⟨this.wf, this.k, this.one⟩⟩) c ctr h

/-- the one loop invariant that tracks which presentations have been processed: its own induction over the response -/
theorem pb_loop {K : VP → Prop} (hK : IdFun K) {S : Store} (hS : SInv S) (hSK : ∀ r ∈ S.rows, K r.vp)
    (d : Def) (t after seed ts : Nat) :
    ∀ (resp done : List VP) (c : Store) (ctr : Nat), RespOf S resp → PB K S t after done c →
      PB K S t after (resp.reverse ++ done) (clientLoop d t seed ts c ctr resp).1 := by
  intro resp
  induction resp with
  | nil => intro done c ctr _ h; exact h
  | cons vp rest ih =>
    intro done c ctr hresp h
    obtain ⟨rv, hrv, rfl⟩ := hresp vp List.mem_cons_self
    have hv := (hS.wf rv hrv).vpwf
    rw [clientLoop_cons d t seed ts c ctr _ rest _ _ _ hv, List.reverse_cons, List.append_assoc]
    exact ih _ _ _ (fun v hv' => hresp v (List.mem_cons_of_mem _ hv')) (pb_step hK hS hSK d seed ts ctr hrv hv h)

theorem pb_upgrade {K : VP → Prop} {S : Store} {t after : Nat} {done : List VP} {c : Store}
    (h : PB K S t after done c) (hall : ∀ r ∈ S.rows, after < r.ts → r.vp ∈ done) :
    (∀ r ∈ S.rows, t < r.exp → keyIn c.rows r.subject r.id) ∧ (∀ y ∈ c.rows, t < y.exp → keyIn S.rows y.subject y.id) := by
  have h1 : ∀ r ∈ S.rows, t < r.exp → keyIn c.rows r.subject r.id := by
    intro r hr hlive
    by_cases hts : r.ts ≤ after
    · exact h.j2 r hr hts hlive
    · exact h.q _ (hall r hr (by omega)) r hr rfl hlive
  refine ⟨h1, ?_⟩
  intro y hy hlive
  rcases h.j3 y hy hlive with hk | ⟨r, hr, hs, _, hexp⟩
  · exact hk
  · obtain ⟨x, hx, hxs, hxi⟩ := h1 r hr (by omega)
    have : x = y := pairwise_ne_inj h.one hx hy (hxs.trans hs)
    subst this
    exact ⟨r, hr, hxs.symm, hxi.symm⟩

/-! ### the invariant of the two nodes -/

def Sync (S C : Store) (t : Nat) : Prop := C.lastTs ≤ S.lastTs ∧ J2 S C t C.lastTs ∧ J3 S C t C.lastTs

/-- what holds of the two nodes along admissible histories only; `SInv w.S` and `SeedsBounded w` hold along every history.
    `pend`: a poll in progress started at the replica's timestamp and carries a seed and timestamp the list had. -/
structure WInv (K : VP → Prop) (w : World) : Prop where
  sK : ∀ r ∈ w.S.rows, K r.vp
  cli : PA K w.C
  cz : w.C.seed = 0 → w.C.lastTs = 0 ∧ w.C.rows = []
  pend : ∀ p, w.pending = some p → p.after = w.C.lastTs ∧ (p.ts = 0 ↔ p.seed = 0) ∧ (p.seed = w.S.seed → p.ts ≤ w.S.lastTs)
  sync : w.C.seed = w.S.seed → Sync w.S w.C w.t

theorem winv_init (K : VP → Prop) (t : Nat) : WInv K { t := t } where
  sK := fun _ h => nomatch h
  cli := ⟨fun _ h => (nomatch h), fun _ h => (nomatch h), List.Pairwise.nil⟩
  cz := fun _ => ⟨rfl, rfl⟩
  pend := fun _ h => nomatch h
  sync := fun _ => ⟨Nat.le_refl _, fun _ h => (nomatch h), fun _ h => (nomatch h)⟩

theorem sync_mono {S C : Store} {t t' : Nat} (h : Sync S C t) (ht : t ≤ t') : Sync S C t' :=
  ⟨h.1, fun r hr hts hl => h.2.1 r hr hts (by omega), fun c hc hl => h.2.2 c hc (by omega)⟩

theorem winv_frame {K : VP → Prop} {w w' : World} (h : WInv K w) (hS : w'.S = w.S) (hr : w'.C.rows = w.C.rows)
    (hs : w'.C.seed = w.C.seed) (hl : w'.C.lastTs = w.C.lastTs) (ht : w.t ≤ w'.t)
    (hp : ∀ p, w'.pending = some p → w.pending = some p) : WInv K w' where
  sK := hS ▸ h.sK
  cli := ⟨hr ▸ h.cli.wf, hr ▸ h.cli.k, hr ▸ h.cli.one⟩
  cz := by rw [hs, hl, hr]; exact h.cz
  pend := fun p hp' => let q := h.pend p (hp p hp'); ⟨hl ▸ q.1, q.2.1, hS ▸ q.2.2⟩
  sync := fun e => by
    simpa only [Sync, J2, J3, hS, hr, hl] using sync_mono (h.sync (hs ▸ hS ▸ e)) ht

theorem winv_reset {K : VP → Prop} (cfg : Cfg) (d : Def) (w : World) (h : WInv K w) :
    WInv K (step cfg d w .reset).1 := by
  show WInv K { w with S := {} }
  refine ⟨fun _ hr => (nomatch hr), h.cli, h.cz, fun p hp => ?_, fun hs => ?_⟩
  · obtain ⟨q1, q2, _⟩ := h.pend p hp
    refine ⟨q1, q2, fun hs => ?_⟩
    have : p.ts = 0 := q2.mpr hs
    show p.ts ≤ 0
    omega
  · obtain ⟨h1, h2⟩ := h.cz hs
    refine ⟨(by show w.C.lastTs ≤ 0; omega), fun _ hr => (nomatch hr), ?_⟩
    intro c hc
    rw [h2] at hc; cases hc

theorem winv_pollA {K : VP → Prop} (cfg : Cfg) (hcfg : cfg.serviceFirst = true) (d : Def) (w : World) (hS : SInv w.S)
    (h : WInv K w) : WInv K (step cfg d w .pollA).1 := by
  show WInv K { w with pending := some _ }
  simp only [hcfg, if_true]
  refine ⟨h.sK, h.cli, h.cz, ?_, h.sync⟩
  intro p hp
  cases hp
  refine ⟨rfl, ⟨fun h0 => ?_, fun h0 => (hS.seed0 h0).1⟩, fun _ => Nat.le_refl _⟩
  apply Decidable.byContradiction
  intro hne
  have := (hS.seedPos hne).1
  have h0' : w.S.lastTs = 0 := h0
  omega

/-- an accepted registration keeps a replica in step: the new row lies above the replica's timestamp, and a row of the same
    subject that it replaces does not expire later (`hmono`, from `ExpMono`) -/
theorem sync_addOk {K : VP → Prop} (hK : IdFun K) {S C : Store} {t : Nat} {vp : VP} {subj id : String} {e seed : Nat}
    (hS : SInv S) (hSK : ∀ r ∈ S.rows, K r.vp) (hC : PA K C)
    (hmono : ∀ r ∈ S.rows, r.subject = subj → r.exp ≤ e) (h : Sync S C t) :
    Sync (addOk S t vp subj id e seed (S.lastTs + 1)).1 C t := by
  obtain ⟨hle, hj2, hj3⟩ := h
  refine ⟨Nat.le_succ_of_le hle, ?_, ?_⟩
  · intro r hr hts hlive
    rcases mem_addOk.mp hr with ⟨h1, _, _⟩ | h1
    · exact hj2 r h1 hts hlive
    · subst h1
      have : S.lastTs + 1 ≤ C.lastTs := hts
      omega
  · intro c hc hlive
    have hrepl : ∀ r0 ∈ S.rows, r0.subject = c.subject → c.exp ≤ r0.exp → r0.subject = subj →
        ∃ r ∈ (addOk S t vp subj id e seed (S.lastTs + 1)).1.rows, r.subject = c.subject ∧ C.lastTs < r.ts ∧ c.exp ≤ r.exp :=
      fun r0 hr0 hs0 he0 hsub => ⟨_, mem_addOk.mpr (Or.inr rfl), hsub.symm.trans hs0, Nat.lt_succ_of_le hle,
        Nat.le_trans he0 (hmono r0 hr0 hsub)⟩
    rcases hj3 c hc hlive with ⟨r0, hr0, hs0, hi0⟩ | ⟨r1, hr1, hs1, hts1, he1⟩
    · have hexp : c.exp = r0.exp :=
        (same_key hK (hC.wf c hc) (hS.wf r0 hr0) (hC.k c hc) (hSK r0 hr0) hs0.symm hi0.symm).2
      by_cases hsub : r0.subject = subj
      · exact Or.inr (hrepl r0 hr0 hs0 (Nat.le_of_eq hexp) hsub)
      · exact Or.inl ⟨r0, mem_addOk.mpr (Or.inl ⟨hr0, by omega, hsub⟩), hs0, hi0⟩
    · by_cases hsub : r1.subject = subj
      · exact Or.inr (hrepl r1 hr1 hs1 he1 hsub)
      · exact Or.inr ⟨r1, mem_addOk.mpr (Or.inl ⟨hr1, by omega, hsub⟩), hs1, hts1, he1⟩

theorem winv_register {K : VP → Prop} (hK : IdFun K) (cfg : Cfg) (d : Def) (w : World) (vp : VP)
    (hkv : K vp) (hmono : ExpMono d w vp) (hS : SInv w.S) (hb : Props.SeedsBounded w) (h : WInv K w) :
    WInv K (step cfg d w (.register vp)).1 := by
  show WInv K { w with S := (register d w.S w.t (w.ctr + 1) vp).1, ctr := w.ctr + 1 }
  rcases register_cases d w.S w.t (w.ctr + 1) vp with ⟨x, _, ho⟩ | ⟨subj, e, id, hA, hid, _, hreg⟩
  · rw [ho]; exact ⟨h.sK, h.cli, h.cz, h.pend, h.sync⟩
  · obtain ⟨m, hsig, _⟩ := hA.signer
    have hmono' := hmono (by rw [hreg]) subj m e hsig hA.exp
    rw [hreg]
    -- the list keeps its seed; an empty list draws `w.ctr + 1`, which neither the replica nor a poll in progress carries yet
    have hseed : ∀ σ, σ ≤ w.ctr → σ = (if w.S.seed = 0 then w.ctr + 1 else w.S.seed) → σ = w.S.seed := by
      intro σ hle hσ
      split at hσ
      · omega
      · exact hσ
    refine ⟨forall_addOk (seed := if w.S.seed = 0 then w.ctr + 1 else w.S.seed) h.sK hkv, h.cli, h.cz, fun p hp => ?_, fun hs => ?_⟩
    · obtain ⟨q1, q2, q3⟩ := h.pend p hp
      exact ⟨q1, q2, fun hs => Nat.le_succ_of_le (q3 (hseed _ (hb.pend p hp) hs))⟩
    · exact sync_addOk (seed := if w.S.seed = 0 then w.ctr + 1 else w.S.seed) hK hS h.sK h.cli hmono' (h.sync (hseed _ hb.c hs))

theorem respOf_perm {S : Store} {after : Nat} {perm : List VP → List VP} (hperm : ∀ l, (perm l).Perm l) :
    RespOf S (perm ((S.rowsAfter after).map (·.vp))) ∧
    ∀ r ∈ S.rows, after < r.ts → r.vp ∈ perm ((S.rowsAfter after).map (·.vp)) := by
  constructor
  · intro vp hvp
    have := (hperm _).mem_iff.mp hvp
    obtain ⟨rv, hrv, rfl⟩ := List.mem_map.mp this
    exact ⟨rv, (List.mem_filter.mp hrv).1, rfl⟩
  · intro r hr hts
    apply (hperm _).mem_iff.mpr
    exact List.mem_map.mpr ⟨r, List.mem_filter.mpr ⟨hr, by simpa using hts⟩, rfl⟩

theorem pb_init {K : VP → Prop} {w : World} (hS : SInv w.S) (h : WInv K w) (hc : w.C.seed = w.S.seed ∨ w.C.seed = 0) :
    PB K w.S w.t w.C.lastTs [] w.C := by
  refine ⟨h.cli.wf, h.cli.k, h.cli.one, ?_, ?_, (by intro vp hvp; cases hvp)⟩
  · rcases hc with hc | hc
    · exact (h.sync hc).2.1
    · intro r hr hts _
      have := (hS.bound r hr).1
      have := (h.cz hc).1
      omega
  · rcases hc with hc | hc
    · exact (h.sync hc).2.2
    · intro c hcm
      rw [(h.cz hc).2] at hcm; cases hcm

theorem winv_pollB {K : VP → Prop} (hK : IdFun K) (cfg : Cfg) (hsf : cfg.serviceFirst = true) (hrw : cfg.restartOnWipe = true)
    (d : Def) (w : World) (perm : List VP → List VP) (hperm : ∀ l, (perm l).Perm l) (hS : SInv w.S) (hb : Props.SeedsBounded w)
    (h : WInv K w) : WInv K (step cfg d w (.pollB perm)).1 := by
  unfold step
  cases hp : w.pending with
  | none => simp only; exact h
  | some p =>
    simp only [hsf, if_true]
    obtain ⟨qa, qz, qb⟩ := h.pend p hp
    obtain ⟨hresp, hall⟩ := respOf_perm (S := w.S) (after := p.after) hperm
    generalize perm ((w.S.rowsAfter p.after).map (·.vp)) = resp at hresp hall ⊢
    rcases clientApply_cases cfg hrw d w.C w.t w.ctr p.seed p.ts resp with ⟨_, _, heq⟩ | ⟨hnw, heq⟩
    · rw [heq]
      refine ⟨h.sK, ⟨fun _ hr => (nomatch hr), fun _ hr => (nomatch hr), List.Pairwise.nil⟩,
        fun _ => ⟨rfl, rfl⟩, fun _ hp' => (nomatch hp'), fun _ => ?_⟩
      refine ⟨Nat.zero_le _, ?_, fun _ hc => (nomatch hc)⟩
      intro r hr hts _
      have := (hS.bound r hr).1
      have : r.ts ≤ 0 := hts
      omega
    · rw [heq]
      have hpa := pa_loop hS h.sK d w.t p.seed p.ts _ hresp w.C w.ctr h.cli
      have h0 : p.ts = 0 → p.seed = 0 ∧ w.C.seed = 0 := by
        intro hz
        have := qz.mp hz
        refine ⟨this, ?_⟩
        rcases hnw with h1 | h1
        · rw [h1]; exact this
        · exact h1
      have h1 : p.ts ≠ 0 → p.seed ≠ 0 := fun hne hz => hne (qz.mpr hz)
      have hpt := pt_loop h0 h1 d w.t resp w.C w.ctr ⟨Nat.le_refl _, h.cz, Or.inl ⟨rfl, rfl⟩⟩
      refine ⟨h.sK, hpa, hpt.z, fun _ hp' => (nomatch hp'), fun hs => ?_⟩
      have hs' : (clientLoop d w.t p.seed p.ts w.C w.ctr resp).1.seed = w.S.seed := hs
      have hfin : (w.C.seed = w.S.seed ∨ w.C.seed = 0) →
          (clientLoop d w.t p.seed p.ts w.C w.ctr resp).1.lastTs ≤ w.S.lastTs →
          Sync w.S (clientLoop d w.t p.seed p.ts w.C w.ctr resp).1 w.t := by
        intro hc hle
        have hpb := pb_loop hK hS h.sK d w.t p.after p.seed p.ts _ [] w.C w.ctr hresp (qa ▸ pb_init hS h hc)
        obtain ⟨u1, u2⟩ := pb_upgrade hpb fun r hr hts => List.mem_append_left _ (List.mem_reverse.mpr (hall r hr hts))
        exact ⟨hle, fun r hr _ hl => u1 r hr hl, fun c hc hl => Or.inl (u2 c hc hl)⟩
      rcases hpt.tr with ⟨t1, t2⟩ | ⟨_, t1, t2⟩ | ⟨_, t1⟩
      · have hc : w.C.seed = w.S.seed := by rw [← t1]; exact hs'
        exact hfin (Or.inl hc) (by rw [t2]; exact (h.sync hc).1)
      · have hps : p.seed = w.S.seed := by rw [← t1]; exact hs'
        refine hfin ?_ (by rw [t2]; exact qb hps)
        rcases hnw with h2 | h2
        · exact Or.inl (h2.trans hps)
        · exact Or.inr h2
      · -- a seed drawn during this loop is not the list's
        have := hb.s
        omega

/-! ### admissible histories -/

theorem winv_step {K : VP → Prop} (hK : IdFun K) (cfg : Cfg) (hsf : cfg.serviceFirst = true) (hrw : cfg.restartOnWipe = true)
    (d : Def) (w : World) (e : Ev) (he : EvOK K d w e) (hS : SInv w.S) (hb : Props.SeedsBounded w) (h : WInv K w) :
    WInv K (step cfg d w e).1 := by
  cases e with
  | tick n => exact winv_frame h rfl rfl rfl rfl (Nat.le_add_right _ _) fun _ hp => hp
  | register vp => exact winv_register hK cfg d w vp he.1 he.2 hS hb h
  | reset => exact winv_reset cfg d w h
  | pollA => exact winv_pollA cfg hsf d w hS h
  | pollB perm => exact winv_pollB hK cfg hsf hrw d w perm he hS hb h
  | validate | clientVerifier up | restartServer => exact winv_frame h rfl rfl rfl rfl (Nat.le_refl _) fun _ hp => hp
  | restartClient => exact winv_frame h rfl rfl rfl rfl (Nat.le_refl _) fun _ hp => nomatch hp
  | dpollStart => exact he.elim
  | dpollFinish i perm => exact he.elim

theorem winv_reach {K : VP → Prop} (hK : IdFun K) (cfg : Cfg) (hsf : cfg.serviceFirst = true) (hrw : cfg.restartOnWipe = true)
    (d : Def) {w : World} (h : Reach cfg d K w) : WInv K w := by
  induction h with
  | init t => exact winv_init K t
  | step w e hw he ih => exact winv_step hK cfg hsf hrw d w e he hw.serverOK.inv hw.seedsBounded ih

/-! ### convergence -/

theorem mem_liveKeys {s : Store} {t : Nat} {k : String × String} :
    k ∈ s.liveKeys t ↔ ∃ r ∈ s.rows, t < r.exp ∧ r.subject = k.1 ∧ r.id = k.2 := by
  unfold Store.liveKeys
  simp only [List.mem_map, List.mem_filter, Row.live, decide_eq_true_eq]
  constructor
  · rintro ⟨r, ⟨h1, h2⟩, rfl⟩; exact ⟨r, h1, h2, rfl, rfl⟩
  · rintro ⟨r, h1, h2, h3, h4⟩; exact ⟨r, ⟨h1, h2⟩, by rw [h3, h4]⟩

theorem liveEq_of_upgrade {K : VP → Prop} (hK : IdFun K) {S C : Store} {t : Nat}
    (hSwf : ∀ r ∈ S.rows, RowWF r) (hSK : ∀ r ∈ S.rows, K r.vp) (hC : PA K C)
    (u1 : ∀ r ∈ S.rows, t < r.exp → keyIn C.rows r.subject r.id)
    (u2 : ∀ y ∈ C.rows, t < y.exp → keyIn S.rows y.subject y.id) : LiveEq S C t := by
  intro k
  rw [mem_liveKeys, mem_liveKeys]
  constructor
  · rintro ⟨r, hr, hl, h1, h2⟩
    obtain ⟨x, hx, hs, hi⟩ := u1 r hr hl
    have := (same_key hK (hC.wf x hx) (hSwf r hr) (hC.k x hx) (hSK r hr) hs hi).2
    exact ⟨x, hx, by omega, hs.trans h1, hi.trans h2⟩
  · rintro ⟨y, hy, hl, h1, h2⟩
    obtain ⟨x, hx, hs, hi⟩ := u2 y hy hl
    have := (same_key hK (hSwf x hx) (hC.wf y hy) (hSK x hx) (hC.k y hy) hs hi).2
    exact ⟨x, hx, by omega, hs.trans h1, hi.trans h2⟩

def quietResp (w : World) (perm : List VP → List VP) : List VP := perm ((w.S.rowsAfter w.C.lastTs).map (·.vp))

theorem poll_eq (cfg : Cfg) (hsf : cfg.serviceFirst = true) (d : Def) (w : World) (perm : List VP → List VP) :
    poll cfg d w perm =
      { w with C := (clientApply cfg d w.C w.t w.ctr w.S.seed w.S.lastTs (quietResp w perm)).1,
               ctr := (clientApply cfg d w.C w.t w.ctr w.S.seed w.S.lastTs (quietResp w perm)).2.1,
               pending := none } := by
  simp [poll, step, hsf, quietResp]

theorem winv_poll {K : VP → Prop} (hK : IdFun K) (cfg : Cfg) (hsf : cfg.serviceFirst = true) (hrw : cfg.restartOnWipe = true)
    (d : Def) (w : World) (perm : List VP → List VP) (hperm : ∀ l, (perm l).Perm l) (hS : SInv w.S) (hb : Props.SeedsBounded w)
    (h : WInv K w) : WInv K (poll cfg d w perm) :=
  winv_pollB hK cfg hsf hrw d _ perm hperm hS (seedsBounded_step cfg d w .pollA hb) (winv_pollA cfg hsf d w hS h)

theorem poll_wipes (cfg : Cfg) (hsf : cfg.serviceFirst = true) (hrw : cfg.restartOnWipe = true)
    (d : Def) (w : World) (perm : List VP → List VP) (h1 : w.C.seed ≠ w.S.seed) (h2 : w.C.seed ≠ 0) :
    (poll cfg d w perm).C = { w.C with seed := w.S.seed, lastTs := 0, rows := [] } ∧
    (poll cfg d w perm).S = w.S ∧ (poll cfg d w perm).t = w.t := by
  rw [poll_eq cfg hsf]
  refine ⟨?_, rfl, rfl⟩
  rcases clientApply_cases cfg hrw d w.C w.t w.ctr w.S.seed w.S.lastTs (quietResp w perm) with ⟨_, _, heq⟩ | ⟨hc, _⟩
  · show (clientApply cfg d w.C w.t w.ctr w.S.seed w.S.lastTs (quietResp w perm)).1 = _
    rw [heq]
  · rcases hc with hc | hc
    · exact absurd hc h1
    · exact absurd hc h2

/-- in client mode an empty replica stores the first row of a response made of the list's rows, and with it the response's seed -/
theorem loop_sets_seed {S : Store} (hS : SInv S) (d : Def) (t seed ts : Nat) (hts : ts ≠ 0) (hseed : seed ≠ 0)
    (c : Store) (ctr : Nat) (hc : c.rows = []) :
    ∀ (resp : List VP), resp ≠ [] → RespOf S resp → (clientLoop d t seed ts c ctr resp).1.seed = seed := by
  intro resp hne hresp
  cases resp with
  | nil => exact absurd rfl hne
  | cons vp rest =>
    obtain ⟨rv, hrv, hvp⟩ := hresp vp List.mem_cons_self
    have hk : c.hasKey rv.subject rv.id = false := by simp [Store.hasKey, hc]
    rw [clientLoop_cons d t seed ts c ctr vp rest _ _ _ (hvp ▸ (hS.wf rv hrv).vpwf)]
    apply loop_keeps_seed d t seed ts hts hseed
    simp only [clientIter, hk, Bool.false_eq_true, if_false]
    split <;> (show seedOf c seed ts (ctr + 1) = seed; rw [seedOf, if_neg hts])

theorem converge_one {K : VP → Prop} (hK : IdFun K) (cfg : Cfg) (hsf : cfg.serviceFirst = true) (hrw : cfg.restartOnWipe = true)
    (d : Def) (w : World) (perm : List VP → List VP) (hperm : ∀ l, (perm l).Perm l) (hS : SInv w.S) (h : WInv K w)
    (hc : w.C.seed = w.S.seed ∨ w.C.seed = 0) :
    (poll cfg d w perm).S = w.S ∧ (poll cfg d w perm).t = w.t ∧
    LiveEq w.S (poll cfg d w perm).C w.t ∧ (poll cfg d w perm).C.seed = w.S.seed := by
  rw [poll_eq cfg hsf]
  unfold quietResp
  refine ⟨rfl, rfl, ?_⟩
  obtain ⟨hresp, hall⟩ := respOf_perm (S := w.S) (after := w.C.lastTs) hperm
  generalize perm ((w.S.rowsAfter w.C.lastTs).map (·.vp)) = resp at hresp hall ⊢
  rcases clientApply_cases cfg hrw d w.C w.t w.ctr w.S.seed w.S.lastTs resp with ⟨h1, h2, _⟩ | ⟨_, heq⟩
  · rcases hc with hc | hc
    · exact absurd hc h1
    · exact absurd hc h2
  rw [heq]
  show LiveEq w.S (clientLoop d w.t w.S.seed w.S.lastTs w.C w.ctr resp).1 w.t ∧
    (clientLoop d w.t w.S.seed w.S.lastTs w.C w.ctr resp).1.seed = w.S.seed
  constructor
  · have hpb := pb_loop hK hS h.sK d w.t w.C.lastTs w.S.seed w.S.lastTs _ [] w.C w.ctr hresp (pb_init hS h hc)
    obtain ⟨u1, u2⟩ := pb_upgrade hpb fun r hr hts => List.mem_append_left _ (List.mem_reverse.mpr (hall r hr hts))
    exact liveEq_of_upgrade hK hS.wf h.sK hpb.pa u1 u2
  by_cases hs0 : w.S.seed = 0
  · -- an empty list: nothing to apply
    have hrows : w.S.rows = [] := (hS.seed0 hs0).2
    have : resp = [] := List.eq_nil_iff_forall_not_mem.mpr fun vp hvp => by
      obtain ⟨rv, hrv, _⟩ := hresp vp hvp
      rw [hrows] at hrv
      cases hrv
    rw [this]
    simp only [clientLoop]
    rcases hc with hc | hc
    · exact hc
    · rw [hc, hs0]
  · have hts : w.S.lastTs ≠ 0 := by have := (hS.seedPos hs0).1; omega
    rcases hc with hc | hc
    · exact loop_keeps_seed d w.t _ _ hts hs0 resp w.C w.ctr hc
    · obtain ⟨hl0, hr0⟩ := h.cz hc
      apply loop_sets_seed hS d w.t w.S.seed w.S.lastTs hts hs0 w.C w.ctr hr0 _ _ hresp
      -- the list is not empty, so neither is the response
      intro hnil
      obtain ⟨r, hr⟩ := List.exists_mem_of_ne_nil _ (hS.seedPos hs0).2
      have := hall r hr (by have := (hS.bound r hr).1; omega)
      rw [hnil] at this
      cases this

/-- two quiescent polls always suffice: the first may only have wiped a replica that carried another seed -/
theorem converge_two {K : VP → Prop} (hK : IdFun K) (cfg : Cfg) (hsf : cfg.serviceFirst = true) (hrw : cfg.restartOnWipe = true)
    (d : Def) (w : World) (p1 p2 : List VP → List VP) (hp1 : ∀ l, (p1 l).Perm l) (hp2 : ∀ l, (p2 l).Perm l)
    (hS : SInv w.S) (hb : Props.SeedsBounded w) (h : WInv K w) :
    (poll cfg d (poll cfg d w p1) p2).S = w.S ∧ (poll cfg d (poll cfg d w p1) p2).t = w.t ∧
    LiveEq w.S (poll cfg d (poll cfg d w p1) p2).C w.t ∧ (poll cfg d (poll cfg d w p1) p2).C.seed = w.S.seed := by
  have hw1 := winv_poll hK cfg hsf hrw d w p1 hp1 hS hb h
  have key : (poll cfg d w p1).S = w.S ∧ (poll cfg d w p1).t = w.t ∧ (poll cfg d w p1).C.seed = w.S.seed := by
    by_cases hc : w.C.seed = w.S.seed ∨ w.C.seed = 0
    · obtain ⟨a, b, _, c⟩ := converge_one hK cfg hsf hrw d w p1 hp1 hS h hc
      exact ⟨a, b, c⟩
    · obtain ⟨a, b, c⟩ := poll_wipes cfg hsf hrw d w p1 (fun x => hc (Or.inl x)) (fun x => hc (Or.inr x))
      exact ⟨b, c, by rw [a]⟩
  obtain ⟨hS', ht, hseed⟩ := key
  have := converge_one hK cfg hsf hrw d (poll cfg d w p1) p2 hp2 (hS' ▸ hS) hw1 (by rw [hS']; exact Or.inl hseed)
  rw [hS', ht] at this
  exact this

end Nuts.C16
