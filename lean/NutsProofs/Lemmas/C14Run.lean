/-
  C14 — the delivering operations (`afterCommit`, `fire`, `restart`) are receiver calls and newly started retry loops:
  `Run c σ tr σ' stopped` with the list `tr` of what was done.  Each level of the call structure (`notify`, `notifyAll`, `runCalls`,
  `spawnAll`, `runSub`, `runAll`) says which list it can produce (`*_run`); what holds of every delivery is proved over the
  four constructors of `Run`.  (In comments `Run` is notifier.Run of the source, modelled by `runSub`; the relation is `Run c …`.)
-/
import NutsProofs.Lemmas.C14
namespace Nuts.C14

/-- the two things a delivery (`Notify`, `state.notify`, `Run`) does: call a receiver, start a retry loop -/
inductive Act where
  | now (s r : Nat)
  | spawn (s r k : Nat)

/-- a delivery with the list of what it did, oldest first; the flag says that the node stopped inside a receiver, which ends it -/
inductive Run (c : Cfg) : St → List Act → St → Bool → Prop where
  | nil (σ : St) : Run c σ [] σ false
  | now (σ : St) (s r : Nat) : Run c σ [.now s r] (notifyNow c σ s r).1 (decide ((notifyNow c σ s r).2 = .crashed))
  | spawn (σ : St) (s r k : Nat) : Run c σ [.spawn s r k] (spawn c σ s r k) false
  | trans {a b d : St} {t1 t2 : List Act} {f : Bool} : Run c a t1 b false → Run c b t2 d f → Run c a (t1 ++ t2) d f

/-- what `Notify` of subscriber `s` may do for event `ev` -/
def plan (c : Cfg) (ev : Nat × EvType) (s : Nat) : List Act :=
  if c.sel s ev.1 ev.2 then [.now s ev.1, .spawn s ev.1 0] else []

theorem notify_run (c : Cfg) (σ : St) (s : Nat) (ev : Nat × EvType) :
    ∃ tr, tr.Sublist (plan c ev s) ∧ Run c σ tr (notify c σ s ev).1 (notify c σ s ev).2 := by
  unfold notify plan
  split
  · have h := Run.now (c := c) σ s ev.1
    generalize notifyNow c σ s ev.1 = p at h
    obtain ⟨σ', res⟩ := p
    have one : [Act.now s ev.1].Sublist [.now s ev.1, .spawn s ev.1 0] := (List.nil_sublist _).cons_cons _
    cases res
    · exact ⟨_, one, h⟩
    · exact ⟨_, .refl _, h.trans (.spawn _ _ _ _)⟩
    · exact ⟨_, one, h⟩
    · exact ⟨_, one, h⟩
    · exact ⟨_, .refl _, h.trans (.spawn _ _ _ _)⟩
  · exact ⟨[], .refl _, .nil σ⟩

theorem notify_of_err {c : Cfg} {σ : St} {s : Nat} {ev : Nat × EvType} (hsel : c.sel s ev.1 ev.2 = true)
    (hres : (notifyNow c σ s ev.1).2 = .err ∨ (notifyNow c σ s ev.1).2 = .unrec) :
    (notify c σ s ev).1 = spawn c (notifyNow c σ s ev.1).1 s ev.1 0 ∧ (notify c σ s ev).2 = false := by
  unfold notify
  rw [if_pos hsel]
  generalize notifyNow c σ s ev.1 = p at hres
  obtain ⟨σ', res⟩ := p
  rcases hres with h | h <;> (simp only at h; subst h; exact ⟨rfl, rfl⟩)

theorem notify_shelf (c : Cfg) (σ : St) (s : Nat) (ev : Nat × EvType) (hsel : c.sel s ev.1 ev.2 = true) :
    (notify c σ s ev).1.shelf = (notifyNow c σ s ev.1).1.shelf := by
  unfold notify
  rw [if_pos hsel]
  generalize notifyNow c σ s ev.1 = p
  obtain ⟨σ', res⟩ := p
  cases res
  · rfl
  · exact spawn_shelf c σ' s ev.1 0
  · rfl
  · rfl
  · exact spawn_shelf c σ' s ev.1 0

theorem notifyAll_run (c : Cfg) (ev : Nat × EvType) (order : List Nat) (σ : St) :
    ∃ tr, tr.Sublist (order.flatMap (plan c ev)) ∧ Run c σ tr (notifyAll c ev order σ).1 (notifyAll c ev order σ).2 := by
  fun_induction notifyAll c ev order σ with
  | case1 σ => exact ⟨[], .refl _, .nil σ⟩
  | case2 s _ σ _ hq =>
    obtain ⟨t1, s1, h⟩ := hq ▸ notify_run c σ s ev
    exact ⟨t1, s1.trans (List.sublist_append_left _ _), h⟩
  | case3 s _ σ _ hq ih =>
    obtain ⟨t1, s1, h⟩ := hq ▸ notify_run c σ s ev
    obtain ⟨t2, s2, h2⟩ := ih
    exact ⟨t1 ++ t2, s1.append s2, h.trans h2⟩

theorem runCalls_cons (c : Cfg) (s r ret : Nat) (rest : List (Nat × Nat)) (σ : St) (acc : List (Nat × Nat)) :
    runCalls c s ((r, ret) :: rest) σ acc =
      if (notifyNow c σ s r).2 = .crashed then ((notifyNow c σ s r).1, acc, true)
      else runCalls c s rest (notifyNow c σ s r).1
        (if (notifyNow c σ s r).2 = .nil then acc else if ret < c.maxRetries then acc ++ [(r, ret)] else acc) := by
  conv => lhs; unfold runCalls
  generalize notifyNow c σ s r = p
  obtain ⟨σ', res⟩ := p
  cases res <;> rfl

theorem runCalls_run (c : Cfg) (s : Nat) (l : List (Nat × Nat)) (σ : St) (acc : List (Nat × Nat)) :
    ∃ tr failed, tr.Sublist (l.map fun p => Act.now s p.1) ∧ failed.Sublist l ∧ (runCalls c s l σ acc).2.1 = acc ++ failed ∧
      Run c σ tr (runCalls c s l σ acc).1 (runCalls c s l σ acc).2.2 := by
  induction l generalizing σ acc with
  | nil => exact ⟨[], [], .refl _, .refl _, (List.append_nil _).symm, .nil σ⟩
  | cons p rest ih =>
    rw [runCalls_cons]
    have h := Run.now (c := c) σ s p.1
    split
    · next hc =>
      rw [decide_eq_true hc] at h
      exact ⟨_, [], (List.nil_sublist _).cons_cons _, List.nil_sublist _, (List.append_nil _).symm, h⟩
    · next hc =>
      rw [decide_eq_false hc] at h
      obtain ⟨t2, f2, s1, s2, e, h2⟩ := ih (notifyNow c σ s p.1).1
        (if (notifyNow c σ s p.1).2 = .nil then acc else if p.2 < c.maxRetries then acc ++ [(p.1, p.2)] else acc)
      refine ⟨_ :: t2, if (notifyNow c σ s p.1).2 = .nil then f2 else if p.2 < c.maxRetries then p :: f2 else f2,
        s1.cons_cons _, ?_, ?_, h.trans h2⟩
      · split
        · exact s2.cons _
        · split
          · exact s2.cons_cons _
          · exact s2.cons _
      · rw [e]; split
        · rfl
        · split
          · exact List.append_assoc _ _ _
          · rfl

theorem spawnAll_run (c : Cfg) (s : Nat) (failed : List (Nat × Nat)) (σ : St) :
    Run c σ (failed.map fun p => Act.spawn s p.1 p.2) (spawnAll c s failed σ) false := by
  unfold spawnAll
  induction failed generalizing σ with
  | nil => exact .nil σ
  | cons p rest ih => exact (Run.spawn σ s p.1 p.2).trans (ih _)

/-- what `Run` of subscriber `s` may do: one call per job of its snapshot, then one retry loop per job -/
def runPlan (s : Nat) (snap : List (Nat × Nat)) : List Act :=
  (snap.map fun p => Act.now s p.1) ++ snap.map fun p => Act.spawn s p.1 p.2

theorem now_mem_runPlan {s0 s r : Nat} {snap : List (Nat × Nat)} (h : Act.now s r ∈ runPlan s0 snap) :
    s = s0 ∧ ∃ p, p ∈ snap ∧ p.1 = r := by
  rcases List.mem_append.mp h with h | h <;> obtain ⟨p, hp, e⟩ := List.mem_map.mp h <;> cases e
  exact ⟨rfl, p, hp, rfl⟩

theorem runSub_run (c : Cfg) (σ : St) (s : Nat) :
    ∃ tr, tr.Sublist (runPlan s (runSnapshot c σ s)) ∧ Run c σ tr (runSub c σ s).1 (runSub c σ s).2 := by
  obtain ⟨t1, failed, s1, s2, e, h⟩ := runCalls_run c s (runSnapshot c σ s) σ []
  fun_cases runSub c σ s with
  | case1 σ1 _ hq => rw [hq] at h; exact ⟨t1, s1.trans (List.sublist_append_left _ _), h⟩
  | case2 σ1 f hq =>
    rw [hq] at e h; cases e
    exact ⟨_, s1.append (s2.map _), h.trans (spawnAll_run c s _ σ1)⟩

theorem runAll_run (c : Cfg) (order : List Nat) (σ : St) : ∃ tr, Run c σ tr (runAll c order σ).1 (runAll c order σ).2 := by
  fun_induction runAll c order σ with
  | case1 σ => exact ⟨[], .nil σ⟩
  | case2 s _ σ _ h => exact h ▸ (runSub_run c σ s).imp fun _ => And.right
  | case3 s _ σ _ h ih =>
    obtain ⟨_, _, h1⟩ := h ▸ runSub_run c σ s
    exact ih.elim fun _ h2 => ⟨_, h1.trans h2⟩

theorem spawnAll_same (c : Cfg) (s : Nat) (failed : List (Nat × Nat)) (σ : St) : SameDurable σ (spawnAll c s failed σ) := by
  unfold spawnAll
  induction failed generalizing σ with
  | nil => exact SameDurable.refl _
  | cons p rest ih => exact (spawn_same c σ s p.1 p.2).trans (ih _)

theorem spawnAll_pending (c : Cfg) (s : Nat) (failed : List (Nat × Nat)) (σ : St) : (spawnAll c s failed σ).pending = σ.pending := by
  unfold spawnAll
  induction failed generalizing σ with
  | nil => rfl
  | cons p rest ih => rw [List.foldl_cons, ih, spawn_pending]

theorem Run.dstep {c : Cfg} {σ σ' : St} {tr : List Act} {b : Bool} (d : Run c σ tr σ' b) : DStep c σ σ' := by
  induction d with
  | nil σ => exact DStep.refl c σ
  | now σ s r => exact (notifyNow_step c σ s r).dstep
  | spawn σ s r k => exact .vol (spawn_same c σ s r k)
  | trans _ _ ih1 ih2 => exact ih1.trans ih2

/-- how `state.notify` and `Network.Start` end: a delivery that was stopped inside a receiver leaves the node stopped -/
def settle (p : St × Bool) : St := if p.2 then crashSt p.1 else p.1

theorem settle_same (p : St × Bool) : SameDurable p.1 (settle p) := by
  unfold settle; split
  · exact crashSt_same _
  · exact SameDurable.refl _

theorem settle_of_false {p : St × Bool} (h : p.2 = false) : settle p = p.1 := by
  unfold settle; rw [h]; rfl

theorem afterCommit_spec (c : Cfg) (σ : St) (order : List Nat) :
    afterCommit c σ order = σ ∨
    ∃ ev rest, σ.pending = ev :: rest ∧ afterCommit c σ order = settle (notifyAll c ev order { σ with pending := rest }) := by
  unfold afterCommit settle
  split
  · exact .inl rfl
  · next ev rest hp =>
    refine .inr ⟨ev, rest, hp, ?_⟩
    generalize notifyAll c ev order { σ with pending := rest } = p
    obtain ⟨σ', b⟩ := p
    cases b <;> rfl

theorem restart_spec (c : Cfg) (σ : St) (order : List Nat) : restart c σ order = settle (runAll c order σ) := by
  unfold restart settle
  generalize runAll c order σ = p
  obtain ⟨σ', b⟩ := p
  cases b <;> rfl

def loopGoesOn (c : Cfg) (t : Task) (res : NRes) : Prop :=
  1 < t.left ∧ (res = .err ∨ res = .unrec ∧ c.storageFaultEndsLoop = false)

theorem fire_spec (c : Cfg) (σ : St) (s r : Nat) :
    σ.running.find? (Task.isFor s r) = none ∧ fire c σ s r = σ ∨ ∃ t, σ.running.find? (Task.isFor s r) = some t ∧
      ∀ σ' res, notifyNow c { σ with running := σ.running.erase t } s r = (σ', res) →
        (res = .crashed ∧ fire c σ s r = crashSt σ') ∨
        (res ≠ .crashed ∧ loopGoesOn c t res ∧
          fire c σ s r = { σ' with running := σ'.running ++ [{ t with left := t.left - 1, n := t.n + 1 }] }) ∨
        (res ≠ .crashed ∧ ¬loopGoesOn c t res ∧ fire c σ s r = σ') := by
  unfold fire loopGoesOn
  split
  · next h => exact .inl ⟨h, rfl⟩
  · next t ht =>
    refine .inr ⟨t, ht, fun σ' res e => ?_⟩
    simp only [e]
    cases res <;> simp only
    · exact .inr (.inr ⟨by decide, fun h => by simp at h, trivial⟩)
    · by_cases hl : t.left ≤ 1
      · rw [if_pos hl]; exact .inr (.inr ⟨by decide, fun h => by omega, rfl⟩)
      · rw [if_neg hl]; exact .inr (.inl ⟨by decide, ⟨by omega, .inl trivial⟩, rfl⟩)
    · exact .inr (.inr ⟨by decide, fun h => by simp at h, trivial⟩)
    · exact .inl ⟨trivial, trivial⟩
    · by_cases hl : (c.storageFaultEndsLoop || decide (t.left ≤ 1)) = true
      · rw [if_pos hl]
        refine .inr (.inr ⟨by decide, fun h => ?_, rfl⟩)
        simp only [Bool.or_eq_true, decide_eq_true_eq] at hl
        rcases hl with hl | hl
        · simp [hl] at h
        · omega
      · rw [if_neg hl]
        simp only [Bool.or_eq_true, decide_eq_true_eq, not_or, Bool.not_eq_true] at hl
        exact .inr (.inl ⟨by decide, ⟨by omega, .inr ⟨trivial, hl.1⟩⟩, rfl⟩)

theorem afterCommit_dstep (c : Cfg) (σ : St) (order : List Nat) : DStep c σ (afterCommit c σ order) := by
  rcases afterCommit_spec c σ order with e | ⟨ev, rest, _, e⟩ <;> rw [e]
  · exact DStep.refl _ _
  · obtain ⟨_, _, h⟩ := notifyAll_run c ev order { σ with pending := rest }
    exact .trans (.trans (b := { σ with pending := rest }) (.vol ⟨rfl, rfl, rfl, rfl, rfl, rfl⟩) h.dstep) (.vol (settle_same _))

theorem restart_dstep (c : Cfg) (σ : St) (order : List Nat) : DStep c σ (restart c σ order) := by
  rw [restart_spec]
  obtain ⟨_, h⟩ := runAll_run c order σ
  exact h.dstep.trans (.vol (settle_same _))

theorem fire_dstep (c : Cfg) (σ : St) (s r : Nat) : DStep c σ (fire c σ s r) := by
  rcases fire_spec c σ s r with ⟨_, e⟩ | ⟨t, _, h⟩
  · rw [e]; exact DStep.refl _ _
  · have st := notifyNow_step c { σ with running := σ.running.erase t } s r
    have d : DStep c σ (notifyNow c { σ with running := σ.running.erase t } s r).1 :=
      .trans (b := { σ with running := σ.running.erase t }) (.vol ⟨rfl, rfl, rfl, rfl, rfl, rfl⟩) st.dstep
    rcases h _ _ rfl with ⟨_, e⟩ | ⟨_, _, e⟩ | ⟨_, _, e⟩ <;> rw [e]
    · exact d.trans (.vol (crashSt_same _))
    · exact d.trans (.vol ⟨rfl, rfl, rfl, rfl, rfl, rfl⟩)
    · exact d

theorem step_dstep (c : Cfg) (σ : St) (op : Op) : DStep c σ (step c σ op) := by
  cases op with
  | add a => exact addTx_dstep c σ a
  | afterCommit order => exact afterCommit_dstep c σ order
  | writePayload r cf => exact writePayload_dstep c σ r cf
  | finishedExt s r f => exact finishedExt_dstep c σ s r f
  | fire s r => exact fire_dstep c σ s r
  | crash => exact .vol (crashSt_same σ)
  | restart order => exact restart_dstep c σ order

def hasCrash (l : List Entry) : Prop := ∃ s r ty k, Entry.call s r ty k .crash ∈ l

theorem hasCrash_append_left {a b : List Entry} (h : hasCrash b) : hasCrash (a ++ b) := by
  obtain ⟨s, r, ty, k, hm⟩ := h; exact ⟨s, r, ty, k, List.mem_append_right _ hm⟩

theorem hasCrash_append_right {a b : List Entry} (h : hasCrash a) : hasCrash (a ++ b) := by
  obtain ⟨s, r, ty, k, hm⟩ := h; exact ⟨s, r, ty, k, List.mem_append_left _ hm⟩

theorem resAfter_crashed {o : Outcome} (h : resAfter o = .crashed) : o = .crash := by
  cases o with
  | crash => rfl
  | _ => cases h

theorem Run.info {c : Cfg} {σ σ' : St} {tr : List Act} {b : Bool} (d : Run c σ tr σ' b) :
    ∃ new, σ'.ledger = new ++ σ.ledger ∧ (b = true → hasCrash new) := by
  induction d with
  | nil σ => exact ⟨[], rfl, fun h => nomatch h⟩
  | spawn σ s r k => exact ⟨[], spawn_ledger c σ s r k, fun h => nomatch h⟩
  | now σ s r =>
    cases hj : σ.shelf s r with
    | none => rw [notifyNow_none hj]; exact ⟨[], rfl, fun h => nomatch h⟩
    | some j =>
      rw [notifyNow_some hj]
      refine ⟨entriesAfter s r j _, rfl, fun hb => ⟨s, r, j.type, j.retries, ?_⟩⟩
      rw [← resAfter_crashed (of_decide_eq_true hb)]
      exact call_mem_entriesAfter s r j _
  | trans _ _ ih1 ih2 =>
    obtain ⟨n1, e1, _⟩ := ih1
    obtain ⟨n2, e2, c2⟩ := ih2
    exact ⟨n2 ++ n1, by rw [e2, e1, List.append_assoc], fun hb => hasCrash_append_right (c2 hb)⟩

theorem Run.quiet {c : Cfg} {σ σ' : St} {tr : List Act} {b : Bool} (d : Run c σ tr σ' b) {s r : Nat}
    (h : Act.now s r ∉ tr ∨ σ.shelf s r = none) :
    σ'.shelf s r = σ.shelf s r ∧ ∃ new, σ'.ledger = new ++ σ.ledger ∧ ∀ e, e ∈ new → e.isCallOf s r = false := by
  induction d with
  | nil σ => exact ⟨rfl, [], rfl, fun _ he => nomatch he⟩
  | spawn σ s0 r0 k => exact ⟨by rw [spawn_shelf], [], spawn_ledger c σ s0 r0 k, fun _ he => nomatch he⟩
  | now σ s0 r0 =>
    cases notifyNow_step c σ s0 r0 with
    | skip _ e => rw [e]; exact ⟨rfl, [], rfl, fun _ he => nomatch he⟩
    | call j o hj e =>
      rw [e]
      have hne : ¬(s = s0 ∧ r = r0) := fun hk => h.elim (fun hm => hm (by rw [hk.1, hk.2]; exact List.mem_singleton.mpr rfl))
        fun hn => by rw [hk.1, hk.2, hj] at hn; cases hn
      exact ⟨if_neg hne, entriesAfter s0 r0 j o, rfl, fun e he => (Entry.other_key (mem_entriesAfter he) hne).2⟩
  | trans _ _ ih1 ih2 =>
    obtain ⟨a1, n1, e1, c1⟩ := ih1 (h.imp (fun hm hx => hm (List.mem_append_left _ hx)) id)
    obtain ⟨a2, n2, e2, c2⟩ := ih2 (h.imp (fun hm hx => hm (List.mem_append_right _ hx)) a1.trans)
    exact ⟨a2.trans a1, n2 ++ n1, by rw [e2, e1, List.append_assoc], fun e he => (List.mem_append.mp he).elim (c2 e) (c1 e)⟩

theorem Run.untouched {c : Cfg} {σ σ' : St} {tr : List Act} {b : Bool} (d : Run c σ tr σ' b) {s r : Nat} (h : Act.now s r ∉ tr) :
    σ'.shelf s r = σ.shelf s r ∧ attemptNo σ' s r = attemptNo σ s r := by
  obtain ⟨a, new, e, hc⟩ := d.quiet (.inl h)
  refine ⟨a, ?_⟩
  unfold attemptNo
  rw [e, List.filter_append, List.filter_eq_nil_iff.mpr fun x hx => by rw [hc x hx]; decide]
  rfl

theorem Run.absent {c : Cfg} {σ σ' : St} {tr : List Act} {b : Bool} (d : Run c σ tr σ' b) {s r : Nat}
    (h : σ.shelf s r = none) :
    ∃ new, σ'.ledger = new ++ σ.ledger ∧ (∀ e, e ∈ new → e.isCallOf s r = false) ∧ σ'.shelf s r = none :=
  (d.quiet (.inr h)).elim fun a ⟨new, e, hc⟩ => ⟨new, e, hc, a.trans h⟩

end Nuts.C14
