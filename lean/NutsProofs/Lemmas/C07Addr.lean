/-
  The loop of `connectionList.get` (NutsModel/C07/Addr.lean) is core `List.findIdx?`: it returns the first connection that
  all predicates match, and `none` only when no connection matches them all.
-/
import NutsModel.C07.Addr

namespace Nuts.Proto.Addr

theorem getFrom_eq (q : List Pred) : ∀ (l : List Conn) (i : Nat),
    getFrom q l i = (l.findIdx? (matchesAll q)).map (· + i)
  | [], _ => rfl
  | c :: r, i => by
    rw [getFrom, List.findIdx?_cons, getFrom_eq q r (i + 1)]
    split
    · simp
    · simp [Option.map_map, Function.comp_def, Nat.add_assoc, Nat.add_comm 1 i]

theorem get_eq (l : List Conn) (q : List Pred) : get l q = if q.isEmpty then none else l.findIdx? (matchesAll q) := by
  simp [get, getFrom_eq]

theorem get_some {l : List Conn} {q : List Pred} {k : Nat} (h : get l q = some k) :
    q ≠ [] ∧ ∃ c, l[k]? = some c ∧ matchesAll q c = true ∧
      ∀ j' c', j' < k → l[j']? = some c' → matchesAll q c' = false := by
  rw [get_eq] at h
  split at h
  · cases h
  · rename_i hq
    obtain ⟨hk, hm, hmin⟩ := List.findIdx?_eq_some_iff_getElem.mp h
    refine ⟨by simpa using hq, l[k], List.getElem?_eq_getElem hk, hm, fun j' c' hj hg => ?_⟩
    obtain ⟨hlt, rfl⟩ := List.getElem?_eq_some_iff.mp hg
    simpa using hmin j' hj

theorem get_none_of_nonempty {l : List Conn} {q : List Pred} (hq : q ≠ []) (h : get l q = none) :
    ∀ c ∈ l, matchesAll q c = false := by
  rw [get_eq, if_neg (by simpa using hq)] at h
  exact List.findIdx?_eq_none_iff.mp h

theorem matchesAll_gossip (p : TPeer) (c : Conn) :
    matchesAll (gossipQuery p) c = true ↔ c.connected = true ∧ c.peer.key = p.key := by
  simp [matchesAll, gossipQuery, Pred.matches]

end Nuts.Proto.Addr
