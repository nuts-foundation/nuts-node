/-
  C03 — the key store state machine (NutsModel/C03/KeyStore.lean): the elementary updates its operations are made of, each
  operation by cases over them, and the three facts kept along every history (`Bound`, `SameButKeys`, where the backend changes).
-/
import NutsModel.C03.KeyStore
import NutsProofs.Lemmas.Base

namespace Nuts.C03

section AL
variable {ν : Type}

theorem alGet_nil (k : String) : alGet ([] : List (String × ν)) k = none := rfl

end AL

/-- what was published for a kid is the public half of whatever key the kid's reference can reach -/
def Bound (s : Store) : Prop :=
  ∀ kid k, s.pubd kid = some k → ∃ r, s.ref kid = some r ∧ ∀ k', s.key r.keyName = some k' → k' = k

theorem same_ite {c : Prop} [Decidable c] {a b a' b' : Store} (h1 : SameButKeys a a') (h2 : SameButKeys b b') :
    SameButKeys (if c then a else b) (if c then a' else b') := by
  split <;> assumption

theorem same_key_isSome {s t : Store} (h : SameButKeys s t) (n : String) : (s.key n).isSome = (t.key n).isSome := by
  rw [Bool.eq_iff_iff, Store.key, Store.key, alGet_isSome_iff, alGet_isSome_iff, h.2]

theorem same_ref {s t : Store} (h : SameButKeys s t) (kid : String) : s.ref kid = t.ref kid := by
  unfold Store.ref; rw [h.1]

namespace Store

def putKey (s : Store) (name : String) : Store :=
  { s with backend := alPut s.backend name s.nextKey, nextKey := s.nextKey + 1 }

def delKey (s : Store) (name : String) : Store := { s with backend := alDel s.backend name }

/-- the reference table becomes `refs` (it differs at `kid` only) and nothing counts as published for `kid` any more -/
def unbind (s : Store) (kid : String) (refs : List (String × KeyRef)) : Store :=
  { s with refs := refs, published := alDel s.published kid }

def bind (s : Store) (kid name : String) (k : Nat) : Store :=
  { s with refs := alPut s.refs kid { keyName := name, version := "1" }, published := alPut s.published kid k }

theorem key_putKey (s : Store) {n name : String} (e : name ≠ n) : (s.putKey n).key name = s.key name :=
  alGet_alPut_of_ne _ _ e

theorem key_delKey (s : Store) {n name : String} (e : name ≠ n) : (s.delKey n).key name = s.key name :=
  alGet_alDel_of_ne _ e

end Store

open Store in
theorem bound_putKey {s : Store} (h : Bound s) (name : String) (hfr : ∀ p ∈ s.refs, p.2.keyName ≠ name) :
    Bound (s.putKey name) := by
  intro kid k0 hp
  obtain ⟨r, hr, hk⟩ := h kid k0 hp
  exact ⟨r, hr, fun k' hk' => hk k' ((key_putKey s (hfr _ (mem_of_alGet_eq_some hr))).symm.trans hk')⟩

theorem bound_delKey {s : Store} (h : Bound s) (name : String) : Bound (s.delKey name) := by
  intro kid k hp
  obtain ⟨r, hr, hk⟩ := h kid k hp
  exact ⟨r, hr, fun k' hk' => hk k' (alGet_of_alDel hk')⟩

theorem bound_unbind {s : Store} (h : Bound s) (kid : String) (refs : List (String × KeyRef))
    (hrefs : ∀ kid', kid' ≠ kid → alGet refs kid' = s.ref kid') : Bound (s.unbind kid refs) := by
  intro kid' k hp
  by_cases e : kid' = kid
  · rw [e] at hp
    cases (alGet_alDel_self _ _).symm.trans hp
  · obtain ⟨r, hr, hk⟩ := h kid' k ((alGet_alDel_of_ne _ e).symm.trans hp)
    exact ⟨r, (hrefs kid' e).trans hr, hk⟩

theorem bound_bind {s : Store} (h : Bound s) (kid name : String) (k : Nat) (hk : s.key name = some k) :
    Bound (s.bind kid name k) := by
  intro kid' k0 hp
  by_cases e : kid' = kid
  · rw [e] at hp ⊢
    cases (alGet_alPut_self _ _ _).symm.trans hp
    exact ⟨_, alGet_alPut_self _ _ _, fun k' hk' => Option.some.inj (hk'.symm.trans hk)⟩
  · obtain ⟨r, hr, hk⟩ := h kid' k0 ((alGet_alPut_of_ne _ _ e).symm.trans hp)
    exact ⟨r, (alGet_alPut_of_ne _ _ e).trans hr, hk⟩

theorem same_putKey {s t : Store} (h : SameButKeys s t) (n : String) : SameButKeys (s.putKey n) (t.putKey n) :=
  ⟨h.1, by simp only [Store.putKey, map_fst_alPut, h.2]⟩

theorem same_delKey {s t : Store} (h : SameButKeys s t) (n : String) : SameButKeys (s.delKey n) (t.delKey n) :=
  ⟨h.1, by simp only [Store.delKey, map_fst_alDel, h.2]⟩

theorem same_unbind {s t : Store} (h : SameButKeys s t) (kid : String) {r r' : List (String × KeyRef)} (hr : r = r') :
    SameButKeys (s.unbind kid r) (t.unbind kid r') := ⟨hr, h.2⟩

theorem same_bind {s t : Store} (h : SameButKeys s t) (kid name : String) (k k' : Nat) :
    SameButKeys (s.bind kid name k) (t.bind kid name k') := ⟨by simp only [Store.bind, h.1], h.2⟩

section
variable (valid : String → Bool)

theorem saveRef_ok (c : Bool) (s : Store) (kid : String) (r : KeyRef) (s1 : Store) (h : saveRef c s kid r = .ok s1) :
    s1 = { s with refs := alPut s.refs kid r } := by
  unfold saveRef at h
  split at h
  · cases h
  · cases h; rfl

theorem wDelete_ok (s : Store) (name : String) (s2 : Store) (h : wDelete valid s name = .ok s2) :
    valid name = true ∧ s2 = s.delKey name := by
  unfold wDelete at h
  split at h
  · cases h
  · split at h
    · cases h; exact ⟨by simpa using ‹¬(!valid name) = true›, rfl⟩
    · cases h

theorem wSave_ok (s : Store) (name : String) (s2 : Store) (k : Nat) (h : wSave valid s name = .ok (s2, k)) :
    valid name = true ∧ s2 = s.putKey name := by
  unfold wSave at h
  split at h
  · cases h
  · split at h
    · cases h
    · cases h; exact ⟨by simpa using ‹¬(!valid name) = true›, rfl⟩

/-! Each operation by cases: the guards read `valid`, the kids of `refs` and the names of `backend`, nothing else. -/

theorem new_fst (s : Store) (name : String) (naming : Option String) :
    (new s name naming).1 =
      if (s.key name).isSome then { s with nextKey := s.nextKey + 1 } else
      match naming with
      | none => s.putKey name
      | some kid => if (s.ref kid).isSome then s.putKey name else (s.putKey name).bind kid name s.nextKey := by
  have hk : ({ s with nextKey := s.nextKey + 1 } : Store).key name = s.key name := rfl
  unfold new wNew
  simp only [hk]
  cases s.key name with
  | some _ => rfl
  | none =>
    cases naming with
    | none => rfl
    | some kid =>
      have hr : ({ s with nextKey := s.nextKey + 1, backend := alPut s.backend name s.nextKey } : Store).ref kid = s.ref kid := rfl
      simp only [saveRef, hr, true_or, true_and]
      by_cases hc : (s.ref kid).isSome = true
      · simp only [if_pos hc]; rfl
      · simp only [if_neg hc]; rfl

theorem link_fst (s : Store) (kid n v : String) :
    (link s kid n v).1 =
      if kid = "" ∧ (s.ref kid).isSome then s else s.unbind kid (alPut s.refs kid { keyName := n, version := v }) := by
  unfold link saveRef
  simp only [Bool.false_eq_true, false_or]
  by_cases hc : kid = "" ∧ (s.ref kid).isSome = true
  · simp only [if_pos hc]
  · simp only [if_neg hc]; rfl

theorem delete_fst (s : Store) (kid : String) :
    (delete valid s kid).1 = match s.ref kid with
      | none => s
      | some r =>
        if valid r.keyName = true ∧ (s.key r.keyName).isSome then (s.unbind kid (alDel s.refs kid)).delKey r.keyName
        else s.unbind kid (alDel s.refs kid) := by
  have hk : ∀ n, ({ s with refs := alDel s.refs kid, published := alDel s.published kid } : Store).key n = s.key n :=
    fun _ => rfl
  unfold delete findRef wDelete
  cases s.ref kid with
  | none => rfl
  | some r =>
    simp only [hk]
    by_cases hv : valid r.keyName = true <;> cases s.key r.keyName <;> simp [hv] <;> rfl

theorem step_save (s : Store) (name : String) :
    step valid s (.save name) = if valid name = true ∧ (s.key name).isSome = false then s.putKey name else s := by
  unfold step wSave
  by_cases hv : valid name = true <;> cases hk : s.key name <;> simp [hv, hk] <;> rfl

theorem migrate_induct {P : Store → Prop} (hl : ∀ s kid n v, P s → P (link s kid n v).1) (s : Store) (h : P s) :
    P (migrate s) :=
  foldl_invariant P migrateOne _ s (fun n _ s h => by
    unfold migrateOne
    split
    · exact h
    · exact hl s n n "1" h) h

theorem link_backend (s : Store) (kid n v : String) : (link s kid n v).1.backend = s.backend := by
  rw [link_fst]; split <;> rfl

theorem migrate_backend (s : Store) : (migrate s).backend = s.backend :=
  migrate_induct (P := fun s' => s'.backend = s.backend) (fun s' kid n v h => (link_backend s' kid n v).trans h) s rfl

theorem bound_empty : Bound {} := by
  intro kid k h; cases h

theorem bound_link {s : Store} (h : Bound s) (kid n v : String) : Bound (link s kid n v).1 := by
  rw [link_fst]
  split
  · exact h
  · exact bound_unbind h kid _ fun _ e => alGet_alPut_of_ne _ _ e

theorem bound_migrate (s : Store) (h : Bound s) : Bound (migrate s) :=
  migrate_induct (P := Bound) (fun _ kid n v h => bound_link h kid n v) s h

theorem bound_step (s : Store) (op : Op)
    (hf : match op with | .new n _ => FreshName s n | .save n => FreshName s n | _ => True) (h : Bound s) :
    Bound (step valid s op) := by
  cases op with
  | new n f =>
    have h1 := bound_putKey h n hf.2
    show Bound (new s n f).1
    rw [new_fst]
    split
    · exact h
    · split
      · exact h1
      · split
        · exact h1
        · exact bound_bind h1 _ n _ (alGet_alPut_self _ _ _)
  | link k n v => exact bound_link h k n v
  | delete k =>
    have h1 := bound_unbind h k (alDel s.refs k) fun _ e => alGet_alDel_of_ne _ e
    show Bound (delete valid s k).1
    rw [delete_fst]
    split
    · exact h
    · split
      · exact bound_delKey h1 _
      · exact h1
  | migrate => exact bound_migrate s h
  | save n =>
    rw [step_save]
    split
    · exact bound_putKey h n hf.2
    · exact h

theorem bound_run (s : Store) (ops : List Op) (hf : FreshHist valid s ops) (h : Bound s) : Bound (run valid s ops) := by
  induction ops generalizing s with
  | nil => exact h
  | cons op rest ih =>
    obtain ⟨h1, h2⟩ := hf
    exact ih _ h2 (bound_step valid s op h1 h)

theorem resErr_eq_cases {α : Type} {a b : KRes α} (h : resErr a = resErr b) :
    (∃ x y, a = .ok x ∧ b = .ok y) ∨ ∃ e, a = .error e ∧ b = .error e := by
  cases a <;> cases b <;> simp only [resErr] at h
  · exact .inr ⟨_, rfl, by rw [Option.some.inj h]⟩
  · cases h
  · cases h
  · exact .inl ⟨_, _, rfl, rfl⟩

theorem getPrivateKey_eq (s : Store) (kid : String) :
    getPrivateKey valid s kid = match s.ref kid with
      | none => .error .privateKeyNotFound
      | some r =>
        if valid r.keyName = true then
          match s.key r.keyName with
          | some k => .ok k
          | none => .error .privateKeyNotFound
        else .error .invalidKid := by
  unfold getPrivateKey findRef wGet
  cases s.ref kid with
  | none => rfl
  | some r => dsimp only; cases valid r.keyName <;> cases s.key r.keyName <;> rfl

theorem resolve_eq (s : Store) (kid : String) : resolve valid s kid = getPrivateKey valid s kid := rfl

theorem same_getPrivateKey {s t : Store} (h : SameButKeys s t) (kid : String) :
    resErr (getPrivateKey valid s kid) = resErr (getPrivateKey valid t kid) := by
  rw [getPrivateKey_eq, getPrivateKey_eq, same_ref h]
  cases t.ref kid with
  | none => rfl
  | some r =>
    have := same_key_isSome h r.keyName
    dsimp only
    cases hs : s.key r.keyName <;> cases ht : t.key r.keyName <;> simp [hs, ht] at this <;> split <;> rfl

theorem same_resolve {s t : Store} (h : SameButKeys s t) (kid : String) :
    resErr (resolve valid s kid) = resErr (resolve valid t kid) := by
  rw [resolve_eq, resolve_eq]; exact same_getPrivateKey valid h kid

theorem same_errText (keyDir : String) {s t : Store} (h : SameButKeys s t) (q : Req) (e : KErr) :
    errText keyDir s q e = errText keyDir t q e := by
  have href : ∀ kid, s.ref kid = t.ref kid := fun kid => same_ref h kid
  cases e <;> cases q <;> simp only [errText, href] <;> (try rfl)

theorem same_wGet {s t : Store} (h : SameButKeys s t) (n v : String) :
    resErr (wGet valid s n v) = resErr (wGet valid t n v) := by
  unfold wGet
  have := same_key_isSome h n
  cases hs : s.key n <;> cases ht : t.key n <;> simp [hs, ht] at this <;> split <;> rfl

theorem same_saveRef (c : Bool) {s t : Store} (h : SameButKeys s t) (kid : String) (r : KeyRef) :
    (∃ e, saveRef c s kid r = .error e ∧ saveRef c t kid r = .error e) ∨
    (∃ s' t', saveRef c s kid r = .ok s' ∧ saveRef c t kid r = .ok t' ∧ SameButKeys s' t') := by
  unfold saveRef
  rw [same_ref h kid]
  split
  · exact .inl ⟨_, rfl, rfl⟩
  · exact .inr ⟨_, _, rfl, rfl, by rw [h.1], h.2⟩

theorem same_wDelete {s t : Store} (h : SameButKeys s t) (name : String) :
    (∃ e, wDelete valid s name = .error e ∧ wDelete valid t name = .error e) ∨
    (∃ s' t', wDelete valid s name = .ok s' ∧ wDelete valid t name = .ok t' ∧ SameButKeys s' t') := by
  unfold wDelete
  have hk := same_key_isSome h name
  split
  · exact .inl ⟨_, rfl, rfl⟩
  · cases hs : s.key name <;> cases ht : t.key name <;> simp [hs, ht] at hk
    · exact .inl ⟨_, rfl, rfl⟩
    · exact .inr ⟨_, _, rfl, rfl, same_delKey h name⟩

theorem same_link {s t : Store} (h : SameButKeys s t) (kid n v : String) :
    SameButKeys (link s kid n v).1 (link t kid n v).1 := by
  rw [link_fst, link_fst, same_ref h]
  exact same_ite h (same_unbind h kid (by rw [h.1]))

theorem same_migrateOne {s t : Store} (h : SameButKeys s t) (name : String) :
    SameButKeys (migrateOne s name) (migrateOne t name) := by
  unfold migrateOne
  rw [h.1]
  exact same_ite h (same_link h name name "1")

theorem same_migrate {s t : Store} (h : SameButKeys s t) : SameButKeys (migrate s) (migrate t) := by
  unfold migrate migrateNames fsListOrder
  rw [h.2]
  exact List.foldl_rel h fun n _ _ _ h => same_migrateOne h n

theorem same_step {s t : Store} (h : SameButKeys s t) (op : Op) : SameButKeys (step valid s op) (step valid t op) := by
  cases op with
  | new n f =>
    have h1 := same_putKey h n
    show SameButKeys (new s n f).1 (new t n f).1
    rw [new_fst, new_fst, same_key_isSome h]
    cases f with
    | none => exact same_ite h h1
    | some kid =>
      simp only
      rw [same_ref h]
      exact same_ite h (same_ite h1 (same_bind h1 kid n _ _))
  | link k n v => exact same_link h k n v
  | delete k =>
    have h1 : SameButKeys (s.unbind k (alDel s.refs k)) (t.unbind k (alDel t.refs k)) := same_unbind h k (by rw [h.1])
    show SameButKeys (delete valid s k).1 (delete valid t k).1
    rw [delete_fst, delete_fst, same_ref h]
    cases t.ref k with
    | none => exact h
    | some r =>
      simp only
      rw [same_key_isSome h]
      exact same_ite (same_delKey h1 _) h1
  | migrate => exact same_migrate h
  | save n =>
    rw [step_save, step_save, same_key_isSome h]
    exact same_ite (same_putKey h n) h

theorem same_delete {s t : Store} (h : SameButKeys s t) (kid : String) :
    SameButKeys (delete valid s kid).1 (delete valid t kid).1 ∧
    resErr (delete valid s kid).2 = resErr (delete valid t kid).2 := by
  refine ⟨same_step valid h (.delete kid), ?_⟩
  unfold delete findRef
  rw [same_ref h kid]
  cases t.ref kid with
  | none => rfl
  | some r =>
    rcases same_wDelete valid (same_unbind h kid (congrArg (alDel · kid) h.1)) r.keyName with ⟨e, h1, h2⟩ | ⟨s', t', h1, h2, _⟩
    · simp only [Store.unbind] at h1 h2; simp only [h1, h2]
    · simp only [Store.unbind] at h1 h2; simp only [h1, h2]

theorem same_new {s t : Store} (h : SameButKeys s t) (name : String) (naming : Option String) :
    SameButKeys (new s name naming).1 (new t name naming).1 ∧ resErr (new s name naming).2 = resErr (new t name naming).2 := by
  refine ⟨same_step (fun _ => true) h (.new name naming), ?_⟩
  unfold new wNew
  have hk := same_key_isSome h name
  have hs' : ({ s with nextKey := s.nextKey + 1 } : Store).key name = s.key name := rfl
  have ht' : ({ t with nextKey := t.nextKey + 1 } : Store).key name = t.key name := rfl
  simp only [hs', ht']
  cases hs : s.key name <;> cases ht : t.key name <;> simp [hs, ht] at hk
  · cases naming with
    | none => rfl
    | some kid =>
      rcases same_saveRef true (same_putKey h name) kid { keyName := name, version := "1" } with ⟨e, h1, h2⟩ | ⟨s', t', h1, h2, _⟩
      · simp only [Store.putKey] at h1 h2; simp only [h1, h2]
      · simp only [Store.putKey] at h1 h2; simp only [h1, h2]; rfl
  · rfl

theorem same_run {s t : Store} (h : SameButKeys s t) (ops : List Op) : SameButKeys (run valid s ops) (run valid t ops) :=
  List.foldl_rel h fun op _ _ _ h => same_step valid h op

theorem same_audit {s t : Store} (h : SameButKeys s t) (r : Req) : auditOf valid s r = auditOf valid t r := by
  cases r with
  | op o =>
    cases o with
    | new n f =>
      simp only [auditOf, wNew]
      have hk := same_key_isSome h n
      have hs' : ({ s with nextKey := s.nextKey + 1 } : Store).key n = s.key n := rfl
      have ht' : ({ t with nextKey := t.nextKey + 1 } : Store).key n = t.key n := rfl
      simp only [hs', ht']
      cases hs : s.key n <;> cases ht : t.key n <;> simp [hs, ht] at hk <;> cases f <;> rfl
    | delete k =>
      simp only [auditOf, findRef, same_ref h k]
    | link _ _ _ => rfl
    | migrate => rfl
    | save _ => rfl
  | sign how kid iss sub =>
    simp only [auditOf]
    rcases resErr_eq_cases (same_getPrivateKey valid h kid) with ⟨x, y, hs, ht⟩ | ⟨e, hs, ht⟩ <;> simp only [hs, ht]
  | decryptJWE kid c =>
    simp only [auditOf]
    rcases resErr_eq_cases (same_getPrivateKey valid h kid) with ⟨x, y, hs, ht⟩ | ⟨e, hs, ht⟩ <;> simp only [hs, ht]
  | resolve _ => rfl
  | keyExists _ => rfl
  | list => rfl
  | decrypt _ _ => rfl

theorem backend_touched (s : Store) (op : Op) (name : String)
    (h : (step valid s op).key name ≠ s.key name) :
    valid name = true ∨ ∃ f, op = .new name f := by
  by_cases hvn : valid name = true
  · exact .inl hvn
  · have hv : ∀ {n}, valid n = true → name ≠ n := fun hn e => hvn (e ▸ hn)
    refine .inr ?_
    cases op with
    | new n f =>
      by_cases e : name = n
      · exact ⟨f, by rw [e]⟩
      · refine absurd ?_ h
        show (new s n f).1.key name = _
        rw [new_fst]
        split
        · rfl
        · split
          · exact Store.key_putKey s e
          · split <;> exact Store.key_putKey s e
    | link k n v => exact absurd (congrArg (alGet · name) (link_backend s k n v)) h
    | migrate => exact absurd (congrArg (alGet · name) (migrate_backend s)) h
    | delete k =>
      refine absurd ?_ h
      show (delete valid s k).1.key name = _
      rw [delete_fst]
      split
      · rfl
      · split
        · exact Store.key_delKey _ (hv (And.left ‹_›))
        · rfl
    | save n =>
      refine absurd ?_ h
      rw [step_save]
      split
      · exact Store.key_putKey s (hv (And.left ‹_›))
      · rfl

theorem step_key_name (s : Store) (op : Op) (name : String) (k : Nat) (h : (step valid s op).key name = some k) :
    s.key name = some k ∨ valid name = true ∨ ∃ f, op = .new name f := by
  by_cases e : (step valid s op).key name = s.key name
  · exact Or.inl (e ▸ h)
  · exact Or.inr (backend_touched valid s op name e)

end

end Nuts.C03
