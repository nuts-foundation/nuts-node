/- C11, the bitstring: `isSet`/`putBit` on one byte read through `BitVec.getLsbD`; `bit`/`setBit` at a natural index are a
   byte lookup; `getB` (the bit as a Bool, `false` out of range) is what the table invariant and the served lists are stated in. -/
import NutsModel.C11.Revocation
namespace Nuts.C11

/-- no `r < 8` is needed: for `r ≥ 8` both sides read bit 0. Masking the shifted byte with 1 leaves 1 or 0. -/
theorem isSet_eq (b : Byte) (r : Nat) : isSet b r = b.getLsbD (7 - r) := by
  have h : (b >>> (7 - r)) &&& 1#8 = if b.getLsbD (7 - r) then 1#8 else 0#8 := by
    ext i hi
    cases hb : b.getLsbD (7 - r) <;> cases i <;> simp [hb]
  unfold isSet
  rw [h]
  cases b.getLsbD (7 - r) <;> rfl

theorem putBit_get (b : Byte) (r s : Nat) (v : Bool) (hr : r < 8) (hs : s < 8) :
    isSet (putBit b r v) s = if r = s then v else isSet b s := by
  unfold putBit
  split
  · next h =>
    have : (flipBit b r).getLsbD (7 - s) = (b.getLsbD (7 - s) ^^ decide (r = s)) := by
      show (b ^^^ BitVec.twoPow 8 (7 - r)).getLsbD (7 - s) = _
      rw [BitVec.getLsbD_xor, BitVec.getLsbD_twoPow]
      congr 1
      rw [Bool.eq_iff_iff]; simp only [Bool.and_eq_true, decide_eq_true_eq]; omega
    rw [isSet_eq, this]
    by_cases e : r = s
    · subst e; rw [isSet_eq] at h; revert h; cases b.getLsbD (7 - r) <;> cases v <;> simp
    · simp [e, isSet_eq]
  · next h =>
    by_cases e : r = s
    · subst e; simp at h; simp [h]
    · simp [e]

theorem isSet_zero (r : Nat) : isSet 0#8 r = false := by
  rw [isSet_eq]; simp

theorem bit_nat (bs : Bits) (j : Nat) :
    bs.bit (j : Int) = match bs[j / 8]? with | some b => .ok (isSet b (j % 8)) | none => .err "index" := by
  unfold Bits.bit
  rw [if_neg (by omega), Int.toNat_natCast]
  by_cases h : j / 8 < bs.length
  · rw [if_neg (by omega)]; rw [List.getElem?_eq_getElem h]
  · rw [if_pos (by omega), List.getElem?_eq_none (by omega)]

theorem setBit_nat (bs : Bits) (i : Nat) (v : Bool) :
    bs.setBit (i : Int) v =
      match bs[i / 8]? with | some b => .ok (bs.set (i / 8) (putBit b (i % 8) v)) | none => .err "index" := by
  unfold Bits.setBit
  rw [if_neg (by omega), Int.toNat_natCast]
  by_cases h : i / 8 < bs.length
  · rw [if_neg (by omega)]; rw [List.getElem?_eq_getElem h]
  · rw [if_pos (by omega), List.getElem?_eq_none (by omega)]

theorem setBit_inv {bs bs' : Bits} {i : Nat} {v : Bool} (h : bs.setBit (i : Int) v = .ok bs') :
    ∃ b, bs[i / 8]? = some b ∧ bs' = bs.set (i / 8) (putBit b (i % 8) v) := by
  rw [setBit_nat] at h
  cases hb : bs[i / 8]? with
  | none => rw [hb] at h; cases h
  | some b => rw [hb] at h; cases h; exact ⟨b, rfl, rfl⟩

theorem setBit_length {bs bs' : Bits} {i : Nat} {v : Bool} (h : bs.setBit (i : Int) v = .ok bs') : bs'.length = bs.length := by
  obtain ⟨_, _, rfl⟩ := setBit_inv h; exact List.length_set

theorem setBit_ok (bs : Bits) (i : Nat) (v : Bool) (h : i < 8 * bs.length) : ∃ bs', bs.setBit (i : Int) v = .ok bs' := by
  rw [setBit_nat, List.getElem?_eq_getElem (by omega)]; exact ⟨_, rfl⟩

theorem bit_setBit (bs bs' : Bits) (i j : Nat) (v : Bool) (hj : j < 8 * bs.length)
    (h : bs.setBit (i : Int) v = .ok bs') :
    bs'.bit (j : Int) = if i = j then .ok v else bs.bit (j : Int) := by
  obtain ⟨b, hb, rfl⟩ := setBit_inv h
  rw [bit_nat, bit_nat, List.getElem?_set]
  by_cases hq : i / 8 = j / 8
  · -- same byte: `putBit` decides, and `i = j` exactly when the positions inside the byte agree
    rw [if_pos hq, if_pos (by omega), ← hq, hb]
    simp only
    rw [putBit_get _ _ _ _ (Nat.mod_lt _ (by omega)) (Nat.mod_lt _ (by omega))]
    by_cases hij : i = j
    · rw [if_pos hij, if_pos (by rw [hij])]
    · rw [if_neg hij, if_neg (by omega)]
  · rw [if_neg hq, if_neg (fun e => hq (by rw [e]))]

def getB (bs : Bits) (j : Nat) : Bool := match bs.bit (j : Int) with | .ok b => b | _ => false

theorem getB_eq (bs : Bits) (j : Nat) : getB bs j = match bs[j / 8]? with | some b => isSet b (j % 8) | none => false := by
  unfold getB; rw [bit_nat]; cases bs[j / 8]? <;> rfl

theorem getB_oob {bits : Bits} {j : Nat} (h : ¬ (j < 8 * bits.length)) : getB bits j = false := by
  rw [getB_eq, List.getElem?_eq_none (by omega)]

theorem bit_eq_getB {bits : Bits} {j : Nat} (h : j < 8 * bits.length) : bits.bit (j : Int) = .ok (getB bits j) := by
  rw [getB_eq, bit_nat, List.getElem?_eq_getElem (by omega)]

theorem getB_true {bits : Bits} {j : Nat} (h : getB bits j = true) : bits.bit (j : Int) = .ok true := by
  unfold getB at h
  split at h
  · rename_i b hb; rw [hb, h]
  · cases h

theorem getB_newBits (n j : Nat) : getB (newBits n) j = false := by
  rw [getB_eq, newBits, List.getElem?_replicate]
  by_cases h : j / 8 < n
  · rw [if_pos h]; exact isSet_zero _
  · rw [if_neg h]

theorem getB_setBit {bs bs' : Bits} {i j : Nat} (hj : j < 8 * bs.length) (h : bs.setBit (i : Int) true = .ok bs') :
    getB bs' j = (decide (i = j) || getB bs j) := by
  unfold getB
  rw [bit_setBit bs bs' i j true hj h]
  by_cases e : i = j <;> simp [e]

theorem setAll_spec : ∀ (is : List Nat) (bs : Bits), (∀ i, i ∈ is → i < 8 * bs.length) →
    ∃ bs', setAll bs is = .ok bs' ∧ bs'.length = bs.length ∧ ∀ j, j < 8 * bs.length → getB bs' j = (decide (j ∈ is) || getB bs j) := by
  intro is
  induction is with
  | nil => intro bs _; exact ⟨bs, rfl, rfl, by intro j _; simp⟩
  | cons i rest ih =>
    intro bs hr
    obtain ⟨bs1, h1⟩ := setBit_ok bs i true (hr i List.mem_cons_self)
    have hl1 := setBit_length h1
    obtain ⟨bs2, h2, hl2, hb2⟩ := ih bs1 (by intro k hk; rw [hl1]; exact hr k (List.mem_cons_of_mem _ hk))
    refine ⟨bs2, by simp only [setAll, h1]; exact h2, by rw [hl2, hl1], ?_⟩
    intro j hj
    rw [hb2 j (by rw [hl1]; exact hj), getB_setBit hj h1]
    by_cases e1 : i = j
    · subst e1; simp
    · have e1' : ¬ (j = i) := fun e => e1 e.symm
      by_cases e2 : j ∈ rest <;> simp [e1, e1', e2]

/-- revocation rows carry natural indexes, at which `setBit` answers or refuses: building a bitstring never panics -/
theorem setAll_ne_panic (s : String) : ∀ (is : List Nat) (bs : Bits), setAll bs is ≠ .panic s
  | [], _ => nofun
  | i :: is, bs => by
    rw [setAll, setBit_nat]
    cases bs[i / 8]? with
    | none => nofun
    | some b => exact setAll_ne_panic s is _

end Nuts.C11
