/-
  C10 — the conflicted cache under rolled-back Adds (NutsModel/C10/Cache.lean). A rolled-back Add changes the cache only, and any Add
  changes it at the key it touches only; so a run with roll-backs ends with the shelves of its committed deliveries and with their cache
  except at the keys `dirtyAll` lists (`rb_run`), and delivering a rolled-back transaction again is the undisturbed Add (`redelivery`).
-/
import NutsModel.C10.Cache
import NutsProofs.Lemmas.C10

namespace Nuts.C10

theorem addRolledBack_ok {cfg : Cfg} {s t : Store} {e : Event} (h : addRolledBack cfg s e = .ok t) :
    ∃ s', add cfg s e = .ok s' ∧ t = { s with cache := s'.cache } := by
  unfold addRolledBack at h
  split at h
  · exact ⟨_, ‹_›, (Res.ok.inj h).symm⟩
  · cases h
  · cases h

theorem rolled_back_keeps (cfg : Cfg) (s t : Store) (e : Event) (h : addRolledBack cfg s e = .ok t) :
    t.dids = s.dids ∧ t.conflictedCount = s.conflictedCount ∧ t.documentCount = s.documentCount := by
  obtain ⟨_, _, rfl⟩ := addRolledBack_ok h
  exact ⟨rfl, rfl, rfl⟩

theorem redelivery (cfg : Cfg) (s t : Store) (e : Event) (h : addRolledBack cfg s e = .ok t) :
    add cfg t e = add cfg s e := by
  obtain ⟨s', hs, rfl⟩ := addRolledBack_ok h
  rcases add_cases hs with ⟨_, rfl⟩ | ⟨st', hd⟩
  · rfl
  · -- the second run repeats the cache write of the first on top of it
    obtain ⟨p, hp, _, ha⟩ := add_new hd
    obtain ⟨p', hp', _, hb⟩ := add_new (s := { s with cache := s'.cache }) hd
    cases hp'.symm.trans hp
    rw [hb, ha, congrArg Store.cache (Res.ok.inj (hs.symm.trans ha))]
    cases st'.conflicted
    · simp only [Bool.false_eq_true, if_false, alDel_alDel_same]; rfl
    · simp only [if_true, alPut_alPut_same]; rfl

theorem add_agree (cfg : Cfg) (t u : Store) (e : Event) (t' : Store)
    (hd : t.dids = u.dids) (hcc : t.conflictedCount = u.conflictedCount) (hdc : t.documentCount = u.documentCount)
    (h : add cfg t e = .ok t') :
    ∃ u', add cfg u e = .ok u' ∧ t'.dids = u'.dids ∧ t'.conflictedCount = u'.conflictedCount ∧
      t'.documentCount = u'.documentCount ∧
      ∀ k, (alGet t.cache k = alGet u.cache k ∨ touched cfg t e = some k) → alGet t'.cache k = alGet u'.cache k := by
  obtain ⟨td, tcc, tdc, tc⟩ := t
  obtain ⟨ud, ucc, udc, uc⟩ := u
  simp only at hd hcc hdc
  subst hd hcc hdc
  rcases add_cases h with ⟨hn, rfl⟩ | ⟨st', hst⟩
  · refine ⟨_, add_of_none (s := ⟨td, tcc, tdc, uc⟩) hn, rfl, rfl, rfl, fun k hk => hk.resolve_right ?_⟩
    simp only [touched, hn]
    nofun
  · obtain ⟨p, hp, _, ht⟩ := add_new hst
    obtain ⟨p', hp', _, hu⟩ := add_new (s := ⟨td, tcc, tdc, uc⟩) hst
    cases hp'.symm.trans hp
    obtain rfl := Res.ok.inj (ht.symm.trans h)
    refine ⟨_, hu, rfl, rfl, rfl, fun k hk => ?_⟩
    simp only [touched, hst, hp, Option.map_some] at hk
    dsimp only
    rw [alGet_put_or_del, alGet_put_or_del]
    by_cases hkp : (k == p.1.id) = true
    · rw [if_pos hkp, if_pos hkp]
    · rw [if_neg hkp, if_neg hkp]
      exact hk.resolve_right fun hh => hkp (beq_iff_eq.mpr (Option.some.inj hh).symm)

theorem add_cache_local (cfg : Cfg) (t : Store) (e : Event) (t' : Store) (h : add cfg t e = .ok t') :
    ∀ k, touched cfg t e ≠ some k → alGet t'.cache k = alGet t.cache k := by
  intro k hk
  rcases add_cases h with ⟨_, rfl⟩ | ⟨st', hd⟩
  · rfl
  · obtain ⟨p, hp, _, ha⟩ := add_new hd
    obtain rfl := Res.ok.inj (ha.symm.trans h)
    simp only [touched, hd, hp, Option.map_some] at hk
    dsimp only
    rw [alGet_put_or_del]
    exact if_neg fun hb => hk (congrArg some (eq_of_beq hb).symm)

theorem not_mem_dirtyStep {cfg : Cfg} {t : Store} {D : List String} {e : Event} {rb : Bool} {k : String}
    (hk : k ∉ dirtyStep cfg t D e rb) :
    (k ∉ D ∧ (rb = true → touched cfg t e ≠ some k)) ∨ (rb = false ∧ touched cfg t e = some k) := by
  unfold dirtyStep at hk
  cases ht : touched cfg t e with
  | none => rw [ht] at hk; exact Or.inl ⟨hk, fun _ => nofun⟩
  | some k0 =>
    rw [ht] at hk
    cases rb with
    | true => exact Or.inl ⟨fun h => hk (List.mem_cons_of_mem _ h), fun _ h => hk (Option.some.inj h ▸ List.mem_cons_self)⟩
    | false =>
      by_cases hkD : k ∈ D
      · refine Or.inr ⟨rfl, congrArg some (Classical.byContradiction fun hne => hk ?_)⟩
        exact List.mem_filter.mpr ⟨hkD, bne_iff_ne.mpr (Ne.symm hne)⟩
      · exact Or.inl ⟨hkD, nofun⟩

theorem addAllRb_nil (cfg : Cfg) (s : Store) : addAllRb cfg s [] = .ok s := rfl

theorem addAllRb_cons (cfg : Cfg) (s : Store) (e : Event) (rb : Bool) (rest : List (Event × Bool)) :
    addAllRb cfg s ((e, rb) :: rest) =
      (if rb then addRolledBack cfg s e else add cfg s e).bind fun s' => addAllRb cfg s' rest := by
  rw [addAllRb]
  cases (if rb = true then addRolledBack cfg s e else add cfg s e) <;> rfl

theorem rb_run (cfg : Cfg) : ∀ (l : List (Event × Bool)) (t u : Store) (D : List String) (t' : Store),
    t.dids = u.dids → t.conflictedCount = u.conflictedCount → t.documentCount = u.documentCount →
    (∀ k, k ∉ D → alGet t.cache k = alGet u.cache k) → addAllRb cfg t l = .ok t' →
    ∃ u', addAll cfg u (committed l) = .ok u' ∧ t'.dids = u'.dids ∧ t'.conflictedCount = u'.conflictedCount ∧
      t'.documentCount = u'.documentCount ∧ ∀ k, k ∉ dirtyAll cfg t D l → alGet t'.cache k = alGet u'.cache k
  | [], t, u, D, t', hd, hcc, hdc, hag, h => by
    cases h
    exact ⟨u, rfl, hd, hcc, hdc, hag⟩
  | (e, false) :: rest, t, u, D, t', hd, hcc, hdc, hag, h => by
    rw [addAllRb_cons] at h
    obtain ⟨s', hs', hr⟩ := Res.bind_eq_ok.mp h
    replace hs' : add cfg t e = .ok s' := hs'
    obtain ⟨u1, hu1, h1, h2, h3, h4⟩ := add_agree cfg t u e s' hd hcc hdc hs'
    have hag' : ∀ k, k ∉ dirtyStep cfg t D e false → alGet s'.cache k = alGet u1.cache k :=
      fun k hk => h4 k ((not_mem_dirtyStep hk).imp (fun h => hag k h.1) (·.2))
    obtain ⟨u', hu', r⟩ := rb_run cfg rest s' u1 _ t' h1 h2 h3 hag' hr
    refine ⟨u', ?_, ?_⟩
    · simp only [committed, List.filter, Bool.not_false, List.map, addAll_cons, hu1]
      exact hu'
    · simpa only [dirtyAll, Bool.false_eq_true, if_false, hs'] using r
  | (e, true) :: rest, t, u, D, t', hd, hcc, hdc, hag, h => by
    rw [addAllRb_cons] at h
    obtain ⟨s', hs', hr⟩ := Res.bind_eq_ok.mp h
    replace hs' : addRolledBack cfg t e = .ok s' := hs'
    obtain ⟨k1, k2, k3⟩ := rolled_back_keeps cfg t s' e hs'
    have hag' : ∀ k, k ∉ dirtyStep cfg t D e true → alGet s'.cache k = alGet u.cache k := by
      intro k hk
      obtain ⟨a, ha, rfl⟩ := addRolledBack_ok hs'
      rcases not_mem_dirtyStep hk with ⟨hkD, hne⟩ | ⟨hrb, _⟩
      · exact (add_cache_local cfg t e a ha k (hne rfl)).trans (hag k hkD)
      · cases hrb
    obtain ⟨u', hu', r⟩ := rb_run cfg rest s' u _ t' (k1.trans hd) (k2.trans hcc) (k3.trans hdc) hag' hr
    refine ⟨u', ?_, ?_⟩
    · simpa only [committed, List.filter, Bool.not_true] using hu'
    · simpa only [dirtyAll, if_true, hs'] using r

theorem addAllRb_append (cfg : Cfg) : ∀ (l l' : List (Event × Bool)) (s : Store),
    addAllRb cfg s (l ++ l') = (addAllRb cfg s l).bind fun s' => addAllRb cfg s' l'
  | [], _, _ => rfl
  | (e, rb) :: rest, l', s => by
    rw [List.cons_append, addAllRb_cons, addAllRb_cons]
    cases (if rb = true then addRolledBack cfg s e else add cfg s e) with
    | ok s1 => exact addAllRb_append cfg rest l' s1
    | err x => rfl
    | panic x => rfl

theorem dirtyAll_snoc (cfg : Cfg) : ∀ (l : List (Event × Bool)) (s : Store) (D : List String) (s' : Store) (x : Event × Bool),
    addAllRb cfg s l = .ok s' →
    dirtyAll cfg s D (l ++ [x]) = dirtyAll cfg s' (dirtyAll cfg s D l) [x]
  | [], s, D, s', x, h => by cases h; rfl
  | (e, rb) :: rest, s, D, s', x, h => by
    rw [addAllRb_cons] at h
    obtain ⟨s1, hs1, hr⟩ := Res.bind_eq_ok.mp h
    simp only [List.cons_append, dirtyAll, hs1]
    exact dirtyAll_snoc cfg rest s1 _ s' x hr

theorem committed_cleans (cfg : Cfg) (l : List (Event × Bool)) (s s' s'' : Store) (D : List String) (e : Event) (k : String)
    (h : addAllRb cfg s l = .ok s') (ha : add cfg s' e = .ok s'') (hk : touched cfg s' e = some k) :
    k ∉ dirtyAll cfg s D (l ++ [(e, false)]) := by
  rw [dirtyAll_snoc cfg l s D s' _ h]
  simp only [dirtyAll, Bool.false_eq_true, if_false, ha, dirtyStep, hk]
  simp

end Nuts.C10
