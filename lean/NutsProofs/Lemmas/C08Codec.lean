/-
  C08 — the byte layer (NutsModel/C08/Codec.lean) round-trips: each decoder undoes its encoder on what the node writes,
  so a shelf read back from bytes is the abstract shelf; big-endian keys order like the numbers they encode.
-/
import NutsModel.C08.Codec
import NutsProofs.Lemmas.C08Shelf

namespace Nuts.C08.Codec

theorem leBytes_length (k v : Nat) : (leBytes k v).length = k := by
  induction k generalizing v with
  | zero => rfl
  | succ k ih => simp [leBytes, ih]

theorem leVal_leBytes (k v : Nat) : leVal (leBytes k v) = v % 256 ^ k := by
  induction k generalizing v with
  | zero => simp [leBytes, leVal, Nat.mod_one]
  | succ k ih =>
    have hb : (UInt8.ofNat (v % 256)).toNat = v % 256 := by simp
    simp only [leBytes, leVal, ih, hb]
    rw [Nat.pow_succ, Nat.mul_comm (256 ^ k) 256, Nat.mod_mul]

theorem leVal_lt (b : Bytes) : leVal b < 256 ^ b.length := by
  induction b with
  | nil => simp [leVal]
  | cons x r ih =>
    have hx := x.toNat_lt
    simp only [leVal, List.length_cons, Nat.pow_succ]
    omega

theorem leBytes_leVal (b : Bytes) : leBytes b.length (leVal b) = b := by
  induction b with
  | nil => rfl
  | cons x r ih =>
    have hx := x.toNat_lt
    have h1 : (x.toNat + 256 * leVal r) % 256 = x.toNat := by omega
    have h2 : (x.toNat + 256 * leVal r) / 256 = leVal r := by omega
    simp only [List.length_cons, leBytes, leVal, h1, h2, ih, UInt8.ofNat_toNat]

theorem beBytes_length (k v : Nat) : (beBytes k v).length = k := by simp [beBytes, leBytes_length]

theorem beVal_beBytes (k v : Nat) : beVal (beBytes k v) = v % 256 ^ k := by
  simp [beVal, beBytes, leVal_leBytes]

theorem beBytes_beVal (b : Bytes) : beBytes b.length (beVal b) = b := by
  have := leBytes_leVal b.reverse
  simp only [List.length_reverse] at this
  simp [beBytes, beVal, this]

theorem beVal_lt (b : Bytes) : beVal b < 256 ^ b.length := by
  have := leVal_lt b.reverse
  simpa [beVal] using this

theorem pow256_4 : (256 : Nat) ^ 4 = 2 ^ 32 := by decide
theorem pow256_8 : (256 : Nat) ^ 8 = 2 ^ 64 := by decide
theorem pow256_32 : (256 : Nat) ^ 32 = 2 ^ 256 := by decide

theorem bytesOfRef_length (r : Ref) : (bytesOfRef r).length = 32 := by simp [bytesOfRef, beBytes_length, hashSize]

theorem refOfBytes_bytesOfRef (r : Ref) : refOfBytes (bytesOfRef r) = r := by
  simp only [refOfBytes, bytesOfRef, beVal_beBytes, hashSize, pow256_32]
  rw [Nat.mod_eq_of_lt r.isLt]
  simp

theorem bytesOfRef_refOfBytes (b : Bytes) (h : b.length = 32) : bytesOfRef (refOfBytes b) = b := by
  have hlt := beVal_lt b
  rw [h, pow256_32] at hlt
  simp only [bytesOfRef, refOfBytes, hashSize, BitVec.toNat_ofNat, Nat.mod_eq_of_lt hlt]
  have := beBytes_beVal b
  rwa [h] at this

def flat (refs : List Ref) : Bytes := (refs.map bytesOfRef).flatten

theorem flat_length (refs : List Ref) : (flat refs).length = 32 * refs.length := by
  induction refs with
  | nil => rfl
  | cons r rest ih =>
    simp only [flat, List.map_cons, List.flatten_cons, List.length_append, bytesOfRef_length, List.length_cons] at *
    omega

theorem foldl_append_flat (refs : List Ref) (acc : Bytes) : refs.foldl appendHashList acc = acc ++ flat refs := by
  induction refs generalizing acc with
  | nil => simp [flat]
  | cons r rest ih => simp [List.foldl_cons, ih, appendHashList, flat, List.append_assoc]

theorem encodeHashList_eq (refs : List Ref) : encodeHashList refs = flat refs := by
  simp [encodeHashList, foldl_append_flat]

theorem parseHashListF_flat (refs : List Ref) (tail : Bytes) : parseHashListF refs.length (flat refs ++ tail) = refs := by
  induction refs with
  | nil => rfl
  | cons r rest ih =>
    have h1 : flat (r :: rest) ++ tail = bytesOfRef r ++ (flat rest ++ tail) := by simp [flat, List.append_assoc]
    simp only [List.length_cons, parseHashListF, h1, hashSize, List.take_left' (bytesOfRef_length r),
      List.drop_left' (bytesOfRef_length r), refOfBytes_bytesOfRef, ih]

theorem parseHashList_flat_tail (refs : List Ref) (tail : Bytes) (ht : tail.length < 32) :
    parseHashList (encodeHashList refs ++ tail) = refs := by
  rw [encodeHashList_eq]
  unfold parseHashList
  have hl : (flat refs ++ tail).length = 32 * refs.length + tail.length := by simp [flat_length]
  split
  · next h0 =>
    rw [hl] at h0
    have : refs.length = 0 := by omega
    exact (List.length_eq_zero_iff.mp this).symm
  · have hn : ((flat refs ++ tail).length - (flat refs ++ tail).length % hashSize) / hashSize = refs.length := by
      rw [hl]; simp only [hashSize]; omega
    rw [hn, parseHashListF_flat]

theorem encodeHashList_append (refs : List Ref) (h : Ref) :
    appendHashList (encodeHashList refs) h = encodeHashList (refs ++ [h]) := by
  simp [encodeHashList, List.foldl_append]

theorem xorUnmarshal_marshal (x : BitVec 256) : xorUnmarshal (xorMarshal x) = .ok x := by
  have := refOfBytes_bytesOfRef x
  simp only [refOfBytes, bytesOfRef] at this
  simp [xorUnmarshal, xorMarshal, beBytes_length, this]

theorem xorMarshal_unmarshal (d : Bytes) (x : BitVec 256) (h : xorUnmarshal d = .ok x) : xorMarshal x = d := by
  unfold xorUnmarshal at h
  split at h
  · cases h
  · next hl =>
    have hl' : d.length = 32 := by simpa [hashSize] using hl
    cases h
    exact bytesOfRef_refOfBytes d hl'

theorem bucketMarshal_length (b : Bucket) : (bucketMarshal b).length = 44 := by
  simp [bucketMarshal, leBytes_length, beBytes_length, hashSize]

theorem bucketUnmarshal_marshal (b : Bucket) : bucketUnmarshal (bucketMarshal b) = .ok b := by
  have hk := refOfBytes_bytesOfRef b.keySum
  simp only [refOfBytes, bytesOfRef] at hk
  have hc : BitVec.ofNat 32 (b.count.toNat % 256 ^ 4) = b.count := by
    rw [pow256_4, Nat.mod_eq_of_lt b.count.isLt]; simp
  have hh : BitVec.ofNat 64 (b.hashSum.toNat % 256 ^ 8) = b.hashSum := by
    rw [pow256_8, Nat.mod_eq_of_lt b.hashSum.isLt]; simp
  have e1 : ((bucketMarshal b).drop countOff).take 4 = leBytes 4 b.count.toNat := by
    simp only [bucketMarshal, countOff, List.drop_zero, List.append_assoc]
    exact List.take_left' (leBytes_length _ _)
  have e2 : ((bucketMarshal b).drop hashSumOff).take 8 = leBytes 8 b.hashSum.toNat := by
    simp only [bucketMarshal, hashSumOff, List.append_assoc]
    rw [List.drop_left' (leBytes_length _ _)]
    exact List.take_left' (leBytes_length _ _)
  have e3 : (bucketMarshal b).drop keySumOff = beBytes hashSize b.keySum.toNat := by
    simp only [bucketMarshal, keySumOff]
    exact List.drop_left' (by simp [leBytes_length])
  unfold bucketUnmarshal
  rw [e1, e2, e3]
  simp only [bucketMarshal_length, bucketBytes, leVal_leBytes, hc, hh, hk]
  simp

theorem ibltMarshal_length (bs : List Bucket) : (ibltMarshal bs).length = 44 * bs.length := by
  induction bs with
  | nil => rfl
  | cons b rest ih => simp only [ibltMarshal, List.length_append, bucketMarshal_length, ih, List.length_cons]; omega

theorem ibltUnmarshalF_marshal (bs : List Bucket) : ibltUnmarshalF bs.length (ibltMarshal bs) = .ok bs := by
  induction bs with
  | nil => rfl
  | cons b rest ih =>
    simp only [List.length_cons, ibltUnmarshalF, ibltMarshal, bucketBytes,
      List.take_left' (bucketMarshal_length b), List.drop_left' (bucketMarshal_length b), bucketUnmarshal_marshal, ih]

theorem ibltUnmarshal_marshal (bs : List Bucket) : ibltUnmarshal (ibltMarshal bs) = .ok bs := by
  unfold ibltUnmarshal
  have hl := ibltMarshal_length bs
  have hn : (ibltMarshal bs).length / bucketBytes = bs.length := by rw [hl]; simp only [bucketBytes]; omega
  simp only [hn]
  rw [if_neg (by rw [hl]; simp only [bucketBytes]; omega)]
  exact ibltUnmarshalF_marshal bs

theorem toIblt_toList {n : Nat} (g : Iblt n) : toIblt n g.toList = some g := by
  unfold toIblt
  have h : g.toList.length = n := by simp
  rw [dif_pos h]
  congr 1

theorem unmarshalLeaves_xor (shelf : List (Nat × BitVec 256)) :
    unmarshalLeaves xorUnmarshal (shelf.map fun kv => (kv.1, xorMarshal kv.2)) = .ok shelf := by
  induction shelf with
  | nil => rfl
  | cons kv rest ih => simp only [List.map_cons, unmarshalLeaves, xorUnmarshal_marshal, ih]

theorem unmarshalLeaves_iblt {n : Nat} (shelf : List (Nat × Iblt n)) :
    unmarshalLeaves ibltUnmarshal (shelf.map fun kv => (kv.1, ibltMarshalV kv.2))
      = .ok (shelf.map fun kv => (kv.1, kv.2.toList)) := by
  induction shelf with
  | nil => rfl
  | cons kv rest ih =>
    have h : ibltUnmarshal (ibltMarshalV kv.2) = .ok kv.2.toList := ibltUnmarshal_marshal _
    simp only [List.map_cons, unmarshalLeaves, h, ih]

theorem allToIblt_toList {n : Nat} (shelf : List (Nat × Iblt n)) :
    allToIblt n (shelf.map fun kv => (kv.1, kv.2.toList)) = some shelf := by
  induction shelf with
  | nil => rfl
  | cons kv rest ih => simp only [List.map_cons, allToIblt, toIblt_toList, ih]

theorem keyToClock_clockToKey (c : Nat) (h : c < 2 ^ 32) : keyToClock (clockToKey c) = .ok c := by
  simp only [keyToClock, clockToKey, uintLE, leBytes_length, Nat.lt_irrefl, if_false,
    List.take_of_length_le (Nat.le_of_eq (leBytes_length 4 c)), leVal_leBytes, pow256_4, Nat.mod_eq_of_lt h]

theorem bytesToClock_uint32Key (c : Nat) (h : c < 2 ^ 32) : bytesToClock (uint32Key c) = .ok c := by
  simp only [bytesToClock, uint32Key, uintBE, beBytes_length, Nat.lt_irrefl, if_false,
    List.take_of_length_le (Nat.le_of_eq (beBytes_length 4 c)), beVal_beBytes, pow256_4, Nat.mod_eq_of_lt h]

theorem bytesToCount_countBytes (c : Nat) (h : c < 2 ^ 64) : bytesToCount (countBytes c) = .ok c := by
  simp only [bytesToCount, countBytes, uintBE, beBytes_length, Nat.lt_irrefl, if_false,
    List.take_of_length_le (Nat.le_of_eq (beBytes_length 8 c)), beVal_beBytes, pow256_8, Nat.mod_eq_of_lt h]

theorem readShelf_encode {α : Type} (enc : α → Bytes) (shelf : List (Nat × α)) (hs : Sorted shelf) (hb : ∀ x ∈ shelf, x.1 < 2 ^ 32) :
    readShelf (shelf.map fun kv => (clockToKey kv.1, enc kv.2)) = .ok (shelf.map fun kv => (kv.1, enc kv.2)) := by
  induction shelf with
  | nil => rfl
  | cons kv rest ih =>
    have hs' := List.pairwise_cons.mp hs
    have ih' := ih hs'.2 (fun x hx => hb x (by simp [hx]))
    simp only [List.map_cons, readShelf, keyToClock_clockToKey kv.1 (hb kv (by simp)), ih']
    congr 1
    apply putSorted_head
    intro x hx
    obtain ⟨y, hy, rfl⟩ := List.mem_map.mp hx
    exact hs'.1 y hy

theorem lexLt_append_of_lt : ∀ (A B s t : Bytes), A.length = B.length → lexLt A B = true → lexLt (A ++ s) (B ++ t) = true
  | [], [], _, _, _, h => by simp [lexLt] at h
  | [], _ :: _, _, _, hl, _ => by simp at hl
  | _ :: _, [], _, _, hl, _ => by simp at hl
  | a :: as, b :: bs, s, t, hl, h => by
    simp only [lexLt, List.cons_append, Bool.or_eq_true, decide_eq_true_eq, Bool.and_eq_true, beq_iff_eq] at h ⊢
    rcases h with h | ⟨h1, h2⟩
    · exact Or.inl h
    · exact Or.inr ⟨h1, lexLt_append_of_lt as bs s t (by simpa using hl) h2⟩

theorem lexLt_append_same : ∀ (A s t : Bytes), lexLt (A ++ s) (A ++ t) = lexLt s t
  | [], _, _ => rfl
  | a :: as, s, t => by
    simp only [List.cons_append, lexLt, Nat.lt_irrefl, decide_false, Bool.false_or, beq_self_eq_true, Bool.true_and]
    exact lexLt_append_same as s t

theorem beBytes_succ (k v : Nat) : beBytes (k + 1) v = beBytes k (v / 256) ++ [UInt8.ofNat (v % 256)] := by
  simp [beBytes, leBytes]

theorem beBytes_lt (k : Nat) : ∀ (a b : Nat), a < b → b < 256 ^ k → lexLt (beBytes k a) (beBytes k b) = true := by
  induction k with
  | zero => intro a b h1 h2; simp at h2; omega
  | succ k ih =>
    intro a b h1 h2
    rw [beBytes_succ, beBytes_succ]
    have hb : b / 256 < 256 ^ k := by
      rw [Nat.pow_succ] at h2
      exact Nat.div_lt_of_lt_mul (by rw [Nat.mul_comm]; exact h2)
    by_cases hq : a / 256 < b / 256
    · exact lexLt_append_of_lt _ _ _ _ (by simp [beBytes_length]) (ih _ _ hq hb)
    · have he : a / 256 = b / 256 := by omega
      rw [he, lexLt_append_same]
      have hm : a % 256 < b % 256 := by omega
      have h1 : (UInt8.ofNat (a % 256)).toNat = a % 256 := by simp
      have h2 : (UInt8.ofNat (b % 256)).toNat = b % 256 := by simp
      simp [lexLt, h1, h2, hm]

theorem encodeClocks_sorted (clocks : List (Nat × List Ref)) (hs : Sorted clocks) (hb : ∀ x ∈ clocks, x.1 < 2 ^ 32) :
    (encodeClocks clocks).Pairwise (fun a b => lexLt a.1 b.1 = true) := by
  unfold encodeClocks
  rw [List.pairwise_map]
  refine List.Pairwise.imp_of_mem ?_ hs
  intro x y hx hy hlt
  exact beBytes_lt 4 x.1 y.1 hlt (by rw [pow256_4]; exact hb y hy)

theorem fromSlice_bytesOfRef (r : Ref) : fromSlice (bytesOfRef r) = r := by
  unfold fromSlice
  have hl := bytesOfRef_length r
  rw [List.take_of_length_le (Nat.le_of_eq (by simpa [hashSize] using hl))]
  simp only [hl, hashSize, Nat.sub_self, List.replicate_zero, List.append_nil]
  exact refOfBytes_bytesOfRef r

theorem metadata_getters (lc cnt : Nat) (h : Option Ref) (hlc : lc < 2 ^ 32) (hcnt : cnt < 2 ^ 64) :
    getHighestClockValue (.value (uint32Key lc)) = .ok lc ∧
    getNumberOfTransactions (.value (countBytes cnt)) = .ok cnt ∧
    getHead (headBytes h) = .ok (h.getD 0) := by
  refine ⟨bytesToClock_uint32Key lc hlc, bytesToCount_countBytes cnt hcnt, ?_⟩
  cases h with
  | none => rfl
  | some r => simp [headBytes, getHead, fromSlice_bytesOfRef]

end Nuts.C08.Codec
