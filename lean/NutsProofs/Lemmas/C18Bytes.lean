/-
  C18 — byte strings under the URL model (NutsModel/C18/Url.lean): Go's one-byte `strings.Cut` / `Split` / `Join` / `LastIndex` as
  modelled (`Split` and `Join` are core `List.splitOn` and `intercalate`), percent escapes on text without '%', and one step of
  did:web's `percentDecodeString` (NutsModel/C18/DidWeb.lean) for any set of decodable characters.
-/
import NutsModel.C18.DidWeb

namespace Nuts.C18

theorem cut_fst_prefix (c : Nat) : ∀ s : Bytes, (cut c s).1 <+: s
  | [] => by simp [cut]
  | x :: xs => by
    unfold cut
    split
    · simp
    · simp only; exact (List.cons_prefix_cons).mpr ⟨rfl, cut_fst_prefix c xs⟩

theorem not_mem_cut_fst (c : Nat) : ∀ s : Bytes, c ∉ (cut c s).1
  | [] => by simp [cut]
  | x :: xs => by
    unfold cut
    split
    · simp
    · rename_i h; simp only [List.mem_cons, not_or]; exact ⟨fun e => h e.symm, not_mem_cut_fst c xs⟩

theorem cut_notin (c : Nat) : ∀ s : Bytes, c ∉ s → cut c s = (s, none)
  | [], _ => by simp [cut]
  | x :: xs, h => by
    simp only [List.mem_cons, not_or] at h
    simp [cut, Ne.symm h.1, cut_notin c xs h.2]

theorem cut_append (c : Nat) : ∀ (a b : Bytes), c ∉ a → cut c (a ++ c :: b) = (a, some b)
  | [], b, _ => by simp [cut]
  | x :: xs, b, h => by
    simp only [List.mem_cons, not_or] at h
    simp [cut, Ne.symm h.1, cut_append c xs b h.2]

theorem splitOn_eq (c : Nat) : ∀ s : Bytes, splitOn c s = s.splitOn c
  | [] => rfl
  | x :: xs => by
    rw [splitOn, List.splitOn_cons_eq_if_modifyHead, splitOn_eq c xs]
    have := List.splitOn_ne_nil c xs
    cases h : xs.splitOn c <;> simp_all

theorem joinWith_eq (c : Nat) : ∀ ps : List Bytes, joinWith c ps = [c].intercalate ps
  | [] => rfl
  | [p] => by simp [joinWith]
  | p :: q :: ps => by
    rw [joinWith, List.intercalate_cons_cons, joinWith_eq c (q :: ps)]; simp; intro h; cases h

theorem splitOn_notin (c : Nat) (s : Bytes) (h : c ∉ s) : splitOn c s = [s] := by
  rw [splitOn_eq]; exact List.splitOn_eq_singleton h

theorem splitOn_append (c : Nat) (a b : Bytes) (h : c ∉ a) : splitOn c (a ++ c :: b) = a :: splitOn c b := by
  rw [splitOn_eq, splitOn_eq]; exact List.splitOn_append_cons_self_of_not_mem h b

theorem splitOn_ne_nil (c : Nat) (s : Bytes) : splitOn c s ≠ [] := by
  rw [splitOn_eq]; exact List.splitOn_ne_nil c s

theorem joinWith_cons_cons (c : Nat) (p q : Bytes) (ps : List Bytes) :
    joinWith c (p :: q :: ps) = p ++ c :: joinWith c (q :: ps) := by simp [joinWith]

theorem joinWith_cons (c : Nat) (p : Bytes) (ps : List Bytes) :
    joinWith c (p :: ps) = p ++ if ps = [] then [] else c :: joinWith c ps := by
  cases ps <;> simp [joinWith]

theorem join_splitOn (c : Nat) (s : Bytes) : joinWith c (splitOn c s) = s := by
  rw [splitOn_eq, joinWith_eq]; exact List.intercalate_splitOn c

theorem splitOn_joinWith (c : Nat) (p : Bytes) (ps : List Bytes) (h : ∀ q ∈ p :: ps, c ∉ q) :
    splitOn c (joinWith c (p :: ps)) = p :: ps := by
  rw [joinWith_eq, splitOn_eq]; exact List.splitOn_intercalate c h (List.cons_ne_nil _ _)

/-- a path `/s₁/s₂…` is the join of `"" :: segments` -/
theorem flatMap_sep_eq_join (c : Nat) : ∀ (s : Bytes) (ss : List Bytes),
    (s :: ss).flatMap (fun x => c :: x) = joinWith c ([] :: s :: ss)
  | s, [] => by simp [joinWith]
  | s, t :: ts => by
    have := flatMap_sep_eq_join c t ts
    rw [joinWith_cons_cons, List.nil_append] at this
    rw [List.flatMap_cons, this, joinWith_cons_cons, joinWith_cons_cons, List.nil_append]; rfl

theorem splitOn_parts_notin (c : Nat) : ∀ s : Bytes, ∀ p ∈ splitOn c s, c ∉ p := by
  intro s
  fun_induction splitOn c s with
  | case1 => simp
  | case2 xs ih => exact List.forall_mem_cons.mpr ⟨List.not_mem_nil, ih⟩
  | case3 x xs hx hs => simp [Ne.symm hx]
  | case4 x xs hx q qs hs ih =>
    rw [hs] at ih
    refine List.forall_mem_cons.mpr ⟨?_, fun p hp => ih p (List.mem_cons_of_mem _ hp)⟩
    simp only [List.mem_cons, not_or]; exact ⟨Ne.symm hx, ih q List.mem_cons_self⟩

theorem afterLast_length (c : Nat) : ∀ (s r : Bytes), afterLast c s = some r → r.length < s.length := by
  intro s
  fun_induction afterLast c s with
  | case1 | case4 => nofun
  | case2 x xs r' hr ih => exact fun r h => Option.some.inj h ▸ Nat.lt_succ_of_lt (ih r' hr)
  | case3 x xs => exact fun r h => Option.some.inj h ▸ Nat.lt_succ_self _

theorem afterLast_notin (c : Nat) : ∀ s : Bytes, c ∉ s → afterLast c s = none
  | [], _ => by simp [afterLast]
  | x :: xs, h => by
    simp only [List.mem_cons, not_or] at h
    simp [afterLast, afterLast_notin c xs h.2, Ne.symm h.1]

theorem afterLast_append (c : Nat) : ∀ (a b : Bytes), c ∉ b → afterLast c (a ++ c :: b) = some b
  | [], b, h => by simp [afterLast, afterLast_notin c b h]
  | x :: xs, b, h => by simp [afterLast, afterLast_append c xs b h]

theorem beforeLast_append (c : Nat) : ∀ (a b : Bytes), c ∉ a → c ∉ b → beforeLast c (a ++ c :: b) = a
  | [], b, _, h => by simp [beforeLast, afterLast_notin c b h]
  | x :: xs, b, ha, h => by
    simp only [List.mem_cons, not_or] at ha
    simp [beforeLast, afterLast_append c xs b h, beforeLast_append c xs b ha.2 h]

theorem hasDouble_append_notin (c : Nat) : ∀ (a b : Bytes), c ∉ a → hasDouble c (a ++ b) = hasDouble c b
  | [], b, _ => by simp
  | [x], b, h => by
    simp only [List.mem_cons, List.mem_nil_iff, or_false] at h
    cases b with
    | nil => simp [hasDouble]
    | cons y ys => simp [hasDouble, Ne.symm h]
  | x :: y :: rest, b, h => by
    simp only [List.mem_cons, not_or] at h
    have ih := hasDouble_append_notin c (y :: rest) b (by simp only [List.mem_cons, not_or]; exact h.2)
    simp only [List.cons_append] at ih ⊢
    simp [hasDouble, Ne.symm h.1, ih]

theorem hasSuffix_mem {c : Nat} {l : Bytes} (h : hasSuffix [c] l = true) : c ∈ l :=
  (List.isSuffixOf_iff_suffix.mp h).subset (by simp)

theorem unescapeAll_append_noPct : ∀ (a b : Bytes), (∀ c ∈ a, c ≠ 37) → unescapeAll (a ++ b) = a ++ unescapeAll b
  | [], b, _ => by simp
  | x :: xs, b, h => by
    have hx : x ≠ 37 := h x (by simp)
    have ih := unescapeAll_append_noPct xs b (fun c hc => h c (by simp [hc]))
    simp only [List.cons_append]
    rw [unescapeAll]
    · rw [ih]
    · intros; simp_all

theorem validEscapes_append_noPct : ∀ (a b : Bytes), (∀ c ∈ a, c ≠ 37) → validEscapes (a ++ b) = validEscapes b
  | [], b, _ => by simp
  | x :: xs, b, h => by
    have hx : x ≠ 37 := h x (by simp)
    have ih := validEscapes_append_noPct xs b (fun c hc => h c (by simp [hc]))
    simp only [List.cons_append]
    rw [validEscapes]
    · exact ih
    all_goals (intros; simp_all)

theorem validEscapes_noPct (s : Bytes) (h : ∀ c ∈ s, c ≠ 37) : validEscapes s = true := by
  have := validEscapes_append_noPct s [] h
  rw [List.append_nil] at this
  exact this

theorem unescapeAll_noPct (s : Bytes) (h : ∀ c ∈ s, c ≠ 37) : unescapeAll s = s := by
  have := unescapeAll_append_noPct s [] h
  rw [List.append_nil] at this
  exact this.trans (List.append_nil s)

theorem pd_plain (dec : List Nat) (c : Nat) (t : Bytes) (h : c ≠ 37) :
    percentDecode dec (c :: t) = c :: percentDecode dec t := by
  have : decodeAt dec (c :: t) = none := by
    unfold decodeAt; split
    · rename_i he; simp at he; exact absurd he.1 h
    · rfl
  simp [percentDecode, percentDecodeAux, this]

theorem pd_triple (dec : List Nat) (a b : Nat) (t : Bytes)
    (h : (isHex a && isHex b && dec.contains (unhex a * 16 + unhex b)) = true) :
    percentDecode dec (37 :: a :: b :: t) = (unhex a * 16 + unhex b) :: percentDecode dec t := by
  simp only [percentDecode, percentDecodeAux, decodeAt, h, if_true]

end Nuts.C18
