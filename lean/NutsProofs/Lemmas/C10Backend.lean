/-
  C10 — `store.Add` with its two write transactions does not need "a write transaction reads its own writes":
  on a backend whose in-transaction reads see committed data only (NutsModel/C10/Backend.lean) it does exactly what
  `addDid` does, for every arrival sequence.
-/
import NutsModel.C10.Backend
import NutsProofs.Lemmas.C10Did

namespace Nuts.C10

theorem addDidVis_eq_addDid (cfg : Cfg) (visible : Ref → Bool) (st : DidState) (e : Event)
    (h : ∀ x ∈ (insert e st.events).1, visible x.ref = true) : addDidVis cfg visible st e = addDid cfg st e := by
  simp only [addDidVis, List.filter_eq_self.mpr h]; rfl

def CInv (c : CState) : Prop := ∀ x ∈ c.st.events, x.ref ∈ c.idx

theorem cInv_empty : CInv {} := fun x hx => by cases hx

theorem addTwoTx_refines (cfg : Cfg) (c : CState) (e : Event) (hc : CInv c) :
    match addDid cfg c.st e with
    | .ok r => ∃ c', addTwoTx cfg c e = .ok c' ∧ c'.st = r.getD c.st ∧ CInv c'
    | .err x => addTwoTx cfg c e = .err x
    | .panic x => addTwoTx cfg c e = .panic x := by
  have hvis : ∀ x ∈ (insert e c.st.events).1, (fun r => (e.ref :: c.idx).contains r) x.ref = true := by
    intro x hx
    rcases List.mem_cons.mp ((insert_perm e c.st.events).subset hx) with rfl | hx
    · simp
    · simp only [List.contains_eq_mem, List.mem_cons, decide_eq_true_eq]
      exact Or.inr (hc x hx)
  unfold addTwoTx
  simp only
  rw [addDidVis_eq_addDid cfg _ c.st e hvis]
  cases hadd : addDid cfg c.st e with
  | err x => rfl
  | panic x => rfl
  | ok r =>
    cases r with
    | none => exact ⟨_, rfl, rfl, fun x hx => List.mem_cons_of_mem _ (hc x hx)⟩
    | some st' =>
      refine ⟨_, rfl, rfl, fun x hx => ?_⟩
      obtain ⟨_, _, _, _, _, rfl⟩ := addDid_some hadd
      rcases List.mem_cons.mp ((insert_perm e c.st.events).subset hx) with rfl | hx
      · exact List.mem_cons_self ..
      · exact List.mem_cons_of_mem _ (hc x hx)

def twoTxAll (cfg : Cfg) : CState → List Event → Res CState
  | c, [] => .ok c
  | c, e :: es =>
    match addTwoTx cfg c e with
    | .ok c' => twoTxAll cfg c' es
    | .err x => .err x
    | .panic x => .panic x

theorem twoTxAll_nil (cfg : Cfg) (c : CState) : twoTxAll cfg c [] = .ok c := rfl

theorem twoTxAll_cons (cfg : Cfg) (c : CState) (e : Event) (es : List Event) :
    twoTxAll cfg c (e :: es) = (addTwoTx cfg c e).bind fun c' => twoTxAll cfg c' es := by
  rw [twoTxAll]
  cases addTwoTx cfg c e <;> rfl

theorem twoTxAll_refines (cfg : Cfg) : ∀ (l : List Event) (c : CState) (a : DidState), CInv c →
    addDidAll cfg c.st l = .ok a → ∃ c', twoTxAll cfg c l = .ok c' ∧ c'.st = a ∧ CInv c' := by
  intro l
  induction l with
  | nil => intro c a hc h; exact ⟨c, rfl, Res.ok.inj h, hc⟩
  | cons e es ih =>
    intro c a hc h
    rw [addDidAll_cons] at h
    obtain ⟨r, hadd, hr⟩ := Res.bind_eq_ok.mp h
    have href := addTwoTx_refines cfg c e hc
    rw [hadd] at href
    obtain ⟨c1, h1, hst, hc1⟩ := href
    rw [twoTxAll_cons, h1]
    exact ih c1 a hc1 (hst ▸ hr)

end Nuts.C10
