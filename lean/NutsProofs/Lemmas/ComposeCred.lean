/-
  Composition C11 → C01 → (C12) → C02; the maps are in NutsModel/Compose/Cred.lean.  The bridge C11 → C01: C11's loop on one
  relevant status entry answers revoked exactly when the record `statusRecord` hands to C01 has the entry's purpose and bit
  (`verifyStatuses_single_revoked_iff`), hence C01's refusal (`verify_not_ok_of_entry_revoked`).  The read-back C02 → C01/C12:
  what a 200 on the computed request established (`issue_ok`, `established_of_issued`).  Histories: the two layers of a composed
  history are a C11 history and a C02 history (`runEv_rw`, `runEv_as`), a C02 operation of the trace is a request event of the
  history (`trace_split`; so the trace meets the `HistWF` that C02's history theorems ask for, `trace_wf`), and `RevokedIn`
  lists the three ways a C11 history revokes a C01 credential.
-/
import NutsModel.Compose.Cred
import NutsProofs.Lemmas.C01
import NutsProofs.Lemmas.C11
import NutsProofs.Lemmas.C02History
import NutsProofs.Lemmas.Base
namespace Nuts.Compose.Cred

theorem verifyStatuses_single_revoked_iff (E : C11.Env) (i : Bool) (w : C11.World) {st : C11.StatusEntry}
    (hrel : st.relevant = true) :
    (C11.verifyStatuses E i w [st]).1 = .revoked ↔
      ∃ rec j, statusRecord E i w st.list = some rec ∧ rec.purpose = st.purpose ∧ st.idx = some j ∧
        rec.bits.bit j = .ok true := by
  obtain ⟨f, w1, hfw, hvs⟩ := C11.verifyStatuses_cons E i w hrel []
  rw [hvs]
  unfold statusRecord
  rw [hfw]
  constructor
  · intro h
    cases hc : (C11.checkStatus E w1.now (w1.get i) st f).1 with
    | none => rw [hc] at h; cases h
    | some v =>
      rw [hc] at h
      cases (show v = .revoked from h)
      obtain ⟨j, rec, n', hsl, hj, hb, hp⟩ := C11.checkStatus_revoked hc
      exact ⟨rec, j, by simp only [hsl], hp, hj, hb⟩
  · rintro ⟨rec, j, hr, hp, hj, hb⟩
    cases hsl : C11.statusList E w1.now (w1.get i) st.list f with
    | ok r =>
      simp only [hsl] at hr
      cases hr
      rw [C11.checkStatus_eq (rec := r.1) (n' := r.2) hsl hp hj hb]
      rfl
    | err e => simp only [hsl] at hr; cases hr
    | panic e => simp only [hsl] at hr; cases hr

theorem relevant_status11 (g : Glue) (s : C01.Status) :
    (status11 g s).relevant = true ↔ s.typ = C01.statusListEntryType ∧ s.purpose = "revocation" := by
  simp [C11.StatusEntry.relevant, status11, C01.statusListEntryType]

theorem slOf_bit {rec : C11.CredRec} {n : Nat} {b : Bool} : (slOf rec).bit n = some b ↔ rec.bits.bit (n : Int) = .ok b := by
  cases h : rec.bits.bit (n : Int) <;> simp [slOf, h]

theorem statusVerdictL_revoked (E1 : C01.Env) (pre post : List C01.Status) (s : C01.Status) (sl : C01.StatusList) (j : Nat)
    (hpre : ∀ p ∈ pre, skipped p = true) (hty : s.typ = C01.statusListEntryType) (hv : s.entryValid = true)
    (hpu : s.purpose = "revocation") (hi : s.index = some j)
    (hsl : E1.statusList s.listCred = some sl) (hp : sl.purpose = s.purpose) (hb : sl.bit j = some true) :
    C01.statusVerdictL E1 (pre ++ s :: post) = .revoked := by
  induction pre with
  | nil => rw [List.nil_append, C01.statusVerdictL_cons_revocation E1 post hty hv hpu hsl hp hi, hb]
  | cons p rest ih =>
    rw [List.cons_append, C01.statusVerdictL_cons_skip E1 _ (by simpa [skipped] using hpre p List.mem_cons_self)]
    exact ih fun q hq => hpre q (List.mem_cons_of_mem _ hq)

theorem verify_not_ok_of_entry_revoked (g : Glue) (E : C11.Env) (i : Bool) (W : C11.World) {c : C01.Cred}
    {pre post : List C01.Status} {s : C01.Status} (hc : c.statuses = some (pre ++ s :: post))
    (hpre : ∀ p ∈ pre, skipped p = true) (hty : s.typ = C01.statusListEntryType) (hv : s.entryValid = true)
    (hpu : s.purpose = "revocation")
    (h11 : (C11.verify E i W { id := none, issuer := "", statuses := some [status11 g s] }).1 = .revoked)
    (cfg : C01.Cfg) (P : C01.Crypto) (base : C01.Env) (au cs : Bool) (at_ : Option C01.Time) :
    C01.verify cfg P (revEnv g E i W base) au cs at_ c ≠ .ok () := by
  -- the credential has no id, so C11's verdict is the one of its loop on the single entry
  have hvs : (C11.verifyStatuses E i W [status11 g s]).1 = .revoked := by
    simp only [C11.verify, C11.Node.credRevoked, C11.statusVerify, Bool.false_eq_true, if_false] at h11
    split at h11
    · next heq => rw [heq]
    · cases h11
  obtain ⟨rec, j, hrec, hpurp, hj, hbit⟩ :=
    (verifyStatuses_single_revoked_iff E i W ((relevant_status11 g s).mpr ⟨hty, hpu⟩)).mp hvs
  obtain ⟨n, hn, rfl⟩ := Option.map_eq_some_iff.mp hj
  apply C01.verify_ne_ok_of_status
  rw [C01.statusVerdict_some hc]
  exact statusVerdictL_revoked _ pre post s (slOf rec) n hpre hty hv hpu hn (congrArg (Option.map slOf) hrec) hpurp
    (slOf_bit.mpr hbit)

theorem s2sOf_vps (x : Ctx) (rw : C11.World) (t : Nat) (r : Req) : (s2sOf x rw t r).vps = r.vps.map (fun p => vpOf x rw t p.1 p.2) := rfl
theorem s2sOf_scope (x : Ctx) (rw : C11.World) (t : Nat) (r : Req) : (s2sOf x rw t r).scope = r.wire.scope := rfl
theorem s2sOf_subDefId (x : Ctx) (rw : C11.World) (t : Nat) (r : Req) : (s2sOf x rw t r).subDefId = r.wire.subDefId := rfl

theorem s2sOf_wf (x : Ctx) (rw : C11.World) (t : Nat) (r : Req) (hdid : ∀ u, x.base.didOfURL u ≠ some "") :
    ∀ vp ∈ (s2sOf x rw t r).vps, vp.signer ≠ some "" := by
  intro vp hvp
  rw [s2sOf_vps] at hvp
  obtain ⟨p, _, rfl⟩ := List.mem_map.mp hvp
  exact fun h => let ⟨_, _, _, hk⟩ := C01.presentationSigner_eq_empty h; hdid _ hk

theorem vpVerifies_accepts {x : Ctx} {rw : C11.World} {t : Nat} {cfg2 : C02.Cfg} {now : Nat} {vp : C01.Pres} {wire : C02.VP}
    (h : C02.vpVerifies cfg2 now (vpOf x rw t vp wire) = true) : accepts x rw t vp = true := by
  unfold C02.vpVerifies at h
  simp only [Bool.and_eq_true] at h
  exact h.1

/-- the composed 200: C02's `s2s_token_only_if` (`issueS2S_ok`) read back through the maps -/
theorem issue_ok (x : Ctx) (cfg2 : C02.Cfg) (rw : C11.World) (w w' : C02.World) (now : Nat) (r : Req) (resp : C02.TokenResponse)
    (hchk : cfg2.emptyVpChecked = true) (httl : cfg2.nonceTtl ≠ 0) (hdid : ∀ u, x.base.didOfURL u ≠ some "")
    (h : C02.issueS2S cfg2 w now (s2sOf x rw now r) = (w', .ok resp)) :
    (∀ p ∈ r.vps, accepts x rw now p.1 = true) ∧
    ∃ defs d vals dpop, cfg2.definitions r.wire.scope = some defs ∧ C02.findDef defs r.wire.subDefId = some d ∧
      fieldsOf x rw now r.pres r.sub d.key = .ok vals ∧
      w'.tokens = w.tokens.put now cfg2.tokenTtl (C02.tokName w.nextTok)
        { issuer := cfg2.issuerURL r.wire.subject, clientId := r.wire.clientId, scope := r.wire.scope, issuedAt := now,
          expiration := now + cfg2.tokenValidity, dpop := dpop, claims := x.g.render vals, defs := defs,
          submissions := [r.wire.subDefId], vps := r.vps.length } := by
  obtain ⟨s, d, hc, he⟩ := C02.issueS2S_ok cfg2 w w' now _ resp hchk httl (s2sOf_wf x rw now r hdid) h
  refine ⟨?_, ?_⟩
  · intro p hp
    have := hc.verified (vpOf x rw now p.1 p.2) (by rw [s2sOf_vps]; exact List.mem_map.mpr ⟨p, hp, rfl⟩)
    exact vpVerifies_accepts this
  · obtain ⟨defs, hdefs, hfind⟩ := hc.scope
    obtain ⟨defs', claims, dpop, hdefs', hmerge, _, hrec⟩ := he.record
    have hpex := hc.pex
    rw [s2sOf_scope] at hdefs hdefs'
    rw [s2sOf_subDefId] at hfind
    rw [hdefs] at hdefs'
    cases hdefs'
    have hpex' : (fieldsOf x rw now r.pres r.sub d.key).isOk = true := hpex
    cases hf : fieldsOf x rw now r.pres r.sub d.key with
    | err e => rw [hf] at hpex'; cases hpex'
    | panic e => rw [hf] at hpex'; cases hpex'
    | ok vals =>
      have hcl : (s2sOf x rw now r).claims d.key = x.g.render vals := by
        show (match fieldsOf x rw now r.pres r.sub d.key with | .ok vals => x.g.render vals | _ => []) = _
        rw [hf]
      rw [hcl, C02.mergeClaims_single] at hmerge
      cases hmerge
      refine ⟨defs, d, vals, dpop, hdefs, hfind, hf, ?_⟩
      rw [hrec]
      simp [s2sOf]

theorem accepts_iff (x : Ctx) (rw : C11.World) (t : Nat) (vp : C01.Pres) :
    accepts x rw t vp = true ↔ C01.verifyVP x.cfg1 x.P (x.env rw t) true true none vp = .ok () := by
  unfold accepts
  constructor
  · intro h; obtain ⟨⟨⟩, e⟩ := Res.exists_ok_of_isOk h; exact e
  · intro h; rw [h]; rfl

theorem fieldsOf_ok {x : Ctx} {rw : C11.World} {t : Nat} {vps : List C01.Pres} {sub : List C12.Mapping} {k : Nat} {vals : C12.Values}
    (h : fieldsOf x rw t vps sub k = .ok vals) :
    ∃ m cm, C12.validate x.cfg12 x.re x.decode (x.g.pdOf k) (envelopeOf x rw t vps) sub = .ok m ∧
      C12.resolve x.cfg12 x.decode (x.g.envJ vps) [] sub = .ok cm ∧
      C12.resolveFields x.cfg12 x.re (x.g.pdOf k) [] cm = .ok vals := by
  unfold fieldsOf at h
  split at h
  · rename_i m hm
    split at h
    · rename_i cm hcm
      exact ⟨m, cm, hm, hcm, h⟩
    · cases h
    · cases h
  · cases h
  · cases h

/-- what the composed request established when C02 answers 200 -/
def Established (x : Ctx) (cfg2 : C02.Cfg) (rw : C11.World) (t : Nat) (r : Req) (claims : C02.Claims) : Prop :=
  (∀ p ∈ r.vps, C01.verifyVP x.cfg1 x.P (x.env rw t) true true none p.1 = .ok ()) ∧
  ∃ defs d m cm vals, cfg2.definitions r.wire.scope = some defs ∧ C02.findDef defs r.wire.subDefId = some d ∧
    C12.validate x.cfg12 x.re x.decode (x.g.pdOf d.key) (envelopeOf x rw t r.pres) r.sub = .ok m ∧
    C12.resolve x.cfg12 x.decode (x.g.envJ r.pres) [] r.sub = .ok cm ∧
    C12.resolveFields x.cfg12 x.re (x.g.pdOf d.key) [] cm = .ok vals ∧
    claims = x.g.render vals

/-- **what an issued token established**: a token C02 `Issued` for the request the maps compute stems from presentations C01
    accepted and a submission C12 validated, and the claims of its record are the rendering of what C12 resolved -/
theorem established_of_issued (x : Ctx) (cfg2 : C02.Cfg) (sha : String → String) (rw : C11.World) (w : C02.World) (t : Nat)
    (r : Req) (name : String) (rec : C02.TokenRec)
    (hchk : cfg2.emptyVpChecked = true) (httl : cfg2.nonceTtl ≠ 0) (httl' : cfg2.tokenTtl ≠ 0)
    (hdid : ∀ u, x.base.didOfURL u ≠ some "")
    (h : C02.Issued cfg2 sha w t (.s2s (s2sOf x rw t r)) name rec) : Established x cfg2 rw t r rec.claims := by
  obtain ⟨resp, hstep, _, hname, htoks, _⟩ := h
  obtain ⟨hacc, defs, d, vals, dpop, hd, hf, hfo, hrec⟩ := issue_ok x cfg2 rw w _ t r resp hchk httl hdid
    (Prod.ext rfl (C02.Out.token.inj hstep) :
      C02.issueS2S cfg2 w t (s2sOf x rw t r) = ((C02.step cfg2 sha w t (.s2s (s2sOf x rw t r))).1, .ok resp))
  obtain ⟨m, cm, hm, hcm, hv⟩ := fieldsOf_ok hfo
  -- the record `Issued` speaks of is the one `issue_ok` read out of the token store
  rw [htoks, hname] at hrec
  cases C02.Store.put_inj _ _ _ _ _ _ httl' hrec
  exact ⟨fun p hp => (accepts_iff x rw t p.1).mp (hacc p hp), defs, d, m, cm, vals, hd, hf, hm, hcm, hv, rfl⟩

theorem issueS2S_of_stepEv {x : Ctx} {cfg2 : C02.Cfg} {s : St} {t : Nat} {r : Req} {resp : C02.TokenResponse}
    (h : (stepEv x cfg2 s (.req t r)).2 = some (.ok resp)) :
    C02.issueS2S cfg2 s.as t (s2sOf x s.rw t r) = ((stepEv x cfg2 s (.req t r)).1.as, .ok resp) :=
  Prod.ext rfl (Option.some.inj h)

theorem runEv_cons (x : Ctx) (cfg2 : C02.Cfg) (s : St) (e : Ev) (rest : List Ev) :
    runEv x cfg2 s (e :: rest) = runEv x cfg2 (stepEv x cfg2 s e).1 rest := rfl

theorem runEv_append (x : Ctx) (cfg2 : C02.Cfg) (s : St) (a b : List Ev) :
    runEv x cfg2 s (a ++ b) = runEv x cfg2 (runEv x cfg2 s a) b :=
  List.foldl_append

theorem runEv_rw (x : Ctx) (cfg2 : C02.Cfg) (evs : List Ev) : ∀ s : St,
    (runEv x cfg2 s evs).rw = C11.run x.E11 x.K s.rw (revActs evs) := by
  induction evs with
  | nil => intro s; rfl
  | cons e rest ih =>
    intro s
    rw [runEv_cons, ih]
    cases e with
    | rev a => simp [stepEv, revActs, C11.run]
    | req t r => simp [stepEv, revActs]

theorem runEv_as (x : Ctx) (cfg2 : C02.Cfg) (sha : String → String) (evs : List Ev) : ∀ s : St,
    (runEv x cfg2 s evs).as = C02.after cfg2 sha (trace x cfg2 s evs) s.as := by
  induction evs with
  | nil => intro s; simp [runEv, trace, C02.after, C02.run]
  | cons e rest ih =>
    intro s
    rw [runEv_cons, ih]
    cases e with
    | rev a => simp [trace, opOf, stepEv]
    | req t r => simp [trace, opOf, C02.after_cons, stepEv, C02.step]

theorem trace_append (x : Ctx) (cfg2 : C02.Cfg) (a b : List Ev) : ∀ s : St,
    trace x cfg2 s (a ++ b) = trace x cfg2 s a ++ trace x cfg2 (runEv x cfg2 s a) b := by
  induction a with
  | nil => intro s; rfl
  | cons e rest ih =>
    intro s
    simp only [List.cons_append, trace, runEv_cons]
    cases opOf x s e <;> simp [ih]

/-- credential `c` (a C01 document) was revoked for node `i` in the C11 history `acts` from `w0`: either a network
    revocation whose subject is the credential's id was ACCEPTED by node `i` at some point (C11 `registerRevocation`),
    or the issuer's `Revoke` of the list position named by the credential's first relevant status entry SUCCEEDED on node `i`
    (the node that manages the list).  What happens before and after is arbitrary. -/
inductive RevokedIn (g : Glue) (E : C11.Env) (K : C11.KeyEnv) (w0 : C11.World) (i : Bool) (c : C01.Cred) : List C11.Act → Prop where
  | network (before after : List C11.Act) (r : C11.Revocation) (n' : C11.Node)
      (hacc : C11.registerRevocation K ((C11.run E K w0 before).get i) r = .ok n') (hc : c.id = some r.subject) :
      RevokedIn g E K w0 i c (before ++ [.register i r] ++ after)
  | status (before after : List C11.Act) (credId : String) (e : C11.StatusEntry) (n1 : C11.Node)
      (hrev : C11.revoke E (C11.run E K w0 before).now ((C11.run E K w0 before).get i) credId e = .ok n1)
      (pre post : List C01.Status) (s : C01.Status) (hc : c.statuses = some (pre ++ s :: post))
      (hpre : ∀ p ∈ pre, skipped p = true) (hty : s.typ = C01.statusListEntryType) (hv : s.entryValid = true)
      (hpu : s.purpose = "revocation") (hlist : g.urlOf s.listCred = e.list) (hidx : s.index.map Int.ofNat = e.idx) :
      RevokedIn g E K w0 i c (before ++ [.revoke i credId e] ++ after)
  /-- the list is managed by the OTHER node: node `i` has, at some point, refreshed its record of that list after the issuer set
      the bit (C11 `Pin`: it holds a record with purpose revocation and the bit set; `refresh_after_revocation_pins` says when) -/
  | refreshed (before after : List C11.Act) (hc0 : C11.CacheSound w0) (ob iss : String) (p j : Nat)
      (hpin : C11.Pin (C11.run E K w0 before) i ob iss p j)
      (pre post : List C01.Status) (s : C01.Status) (hc : c.statuses = some (pre ++ s :: post))
      (hpre : ∀ p ∈ pre, skipped p = true) (hty : s.typ = C01.statusListEntryType) (hv : s.entryValid = true)
      (hpu : s.purpose = "revocation") (hlist : g.urlOf s.listCred = .sl ob iss p) (hidx : s.index = some j) :
      RevokedIn g E K w0 i c (before ++ after)

theorem RevokedIn.extend {g : Glue} {E : C11.Env} {K : C11.KeyEnv} {w0 : C11.World} {i : Bool} {c : C01.Cred} {acts : List C11.Act}
    (h : RevokedIn g E K w0 i c acts) (more : List C11.Act) : RevokedIn g E K w0 i c (acts ++ more) := by
  cases h with
  | network before after r n' hacc hc =>
    rw [List.append_assoc]; exact .network before (after ++ more) r n' hacc hc
  | status before after credId e n1 hrev pre post s hc hpre hty hv hpu hlist hidx =>
    rw [List.append_assoc]; exact .status before (after ++ more) credId e n1 hrev pre post s hc hpre hty hv hpu hlist hidx
  | refreshed before after hc0 ob iss p j hpin pre post s hc hpre hty hv hpu hlist hidx =>
    rw [List.append_assoc]; exact .refreshed before (after ++ more) hc0 ob iss p j hpin pre post s hc hpre hty hv hpu hlist hidx

theorem revActs_append (a b : List Ev) : revActs (a ++ b) = revActs a ++ revActs b := by
  induction a with
  | nil => rfl
  | cons e rest ih => cases e <;> simp [revActs, ih]

theorem trace_split (x : Ctx) (cfg2 : C02.Cfg) : ∀ (evs : List Ev) (s : St) (pre' post' : List (Nat × C02.Op)) (t : Nat) (op : C02.Op),
    trace x cfg2 s evs = pre' ++ (t, op) :: post' →
    ∃ pre r post, evs = pre ++ Ev.req t r :: post ∧ trace x cfg2 s pre = pre' ∧
      op = .s2s (s2sOf x (runEv x cfg2 s pre).rw t r) := by
  intro evs
  induction evs with
  | nil => intro s pre' post' t op h; simp [trace] at h
  | cons e rest ih =>
    intro s pre' post' t op h
    cases e with
    | rev a =>
      simp only [trace, opOf] at h
      obtain ⟨pre, r, post, h1, h2, h3⟩ := ih _ pre' post' t op h
      exact ⟨.rev a :: pre, r, post, by simp [h1], by simp [trace, opOf, h2], by rw [runEv_cons]; exact h3⟩
    | req t0 r0 =>
      simp only [trace, opOf] at h
      cases pre' with
      | nil =>
        simp only [List.nil_append, List.cons.injEq, Prod.mk.injEq] at h
        obtain ⟨⟨rfl, rfl⟩, _⟩ := h
        exact ⟨[], r0, rest, rfl, rfl, rfl⟩
      | cons q pre'' =>
        simp only [List.cons_append, List.cons.injEq] at h
        obtain ⟨hq, h⟩ := h
        obtain ⟨pre, r, post, h1, h2, h3⟩ := ih _ pre'' post' t op h
        exact ⟨.req t0 r0 :: pre, r, post, by simp [h1], by simp [trace, opOf, h2, hq], by rw [runEv_cons]; exact h3⟩

theorem trace_wf (x : Ctx) (cfg2 : C02.Cfg) (hdid : ∀ u, x.base.didOfURL u ≠ some "") (evs : List Ev) (s : St) :
    C02.HistWF (trace x cfg2 s evs) := by
  intro t r h
  obtain ⟨pre', post', e⟩ := List.append_of_mem h
  obtain ⟨pre, r', post, -, -, hop⟩ := trace_split x cfg2 evs s pre' post' t _ e
  cases hop
  exact s2sOf_wf x _ t r' hdid

end Nuts.Compose.Cred
