/-
  C02 — the vp_token-bearer grant: the nonce loop (`PutIfAbsent` per presentation), `issueS2S` by cases in code order,
  the only-if theorem (`S2SChecked` / `S2SEffect`), its part that needs no side condition on signers, what the handler
  does to the world whatever it answers, and the single defects of a request.
-/
import NutsProofs.Lemmas.C02Gates
import NutsProofs.Lemmas.C02Token

namespace Nuts.C02

theorem nonceLoop_live (cfg : Cfg) (now : Nat) (httl : cfg.nonceTtl ≠ 0) (n : String) (b : Nat)
    (hb : b ≤ now + cfg.nonceTtl) :
    ∀ (vps : List VP) (st : Store Unit), Live st n b → Live (s2sNonceLoop cfg now vps st).1 n b := by
  intro vps st h
  fun_induction s2sNonceLoop cfg now vps st with
  | case1 | case2 | case3 => exact h
  | case4 vp rest st _ _ ih => exact ih (live_put st now cfg.nonceTtl vp.nonce n b httl h hb)

theorem nonceLoop_ok (cfg : Cfg) (now : Nat) (httl : cfg.nonceTtl ≠ 0) :
    ∀ (vps : List VP) (st st' : Store Unit), s2sNonceLoop cfg now vps st = (st', .ok ()) →
      (∀ vp ∈ vps, vp.nonce ≠ "" ∧ st.get now vp.nonce = none ∧ Live st' vp.nonce (now + cfg.nonceTtl)) ∧
      (vps.map (·.nonce)).Nodup := by
  intro vps st st' h
  fun_induction s2sNonceLoop cfg now vps st with
  | case1 => exact ⟨fun _ hvp => (nomatch hvp), List.nodup_nil⟩
  | case2 | case3 => cases h
  | case4 v rest st hne hnone ih =>
    have hrest := ih h
    have hlive_head : Live st' v.nonce (now + cfg.nonceTtl) := by
      have := nonceLoop_live cfg now httl v.nonce (now + cfg.nonceTtl) (Nat.le_refl _) rest _
        (live_put_self st now cfg.nonceTtl v.nonce httl)
      rw [h] at this; exact this
    have hdiff : ∀ vp ∈ rest, vp.nonce ≠ v.nonce := by
      intro vp hvp heq
      have := (hrest.1 vp hvp).2.1
      rw [heq, Store.get_put_same st now cfg.nonceTtl now v.nonce () httl] at this
      rw [if_pos (by omega)] at this; cases this
    refine ⟨?_, ?_⟩
    · intro vp hvp
      rcases List.mem_cons.mp hvp with rfl | hvp
      · exact ⟨hne, hnone, hlive_head⟩
      · obtain ⟨h1, h2, h3⟩ := hrest.1 vp hvp
        refine ⟨h1, ?_, h3⟩
        rw [Store.get_put_ne st now cfg.nonceTtl now vp.nonce v.nonce () (fun e => hdiff vp hvp e.symm)] at h2
        exact h2
    · simp only [List.map_cons, List.nodup_cons]
      refine ⟨?_, hrest.2⟩
      intro hmem
      obtain ⟨vp, hvp, heq⟩ := List.mem_map.mp hmem
      exact hdiff vp hvp heq

theorem nonceLoop_rejects (cfg : Cfg) (now : Nat) (httl : cfg.nonceTtl ≠ 0) :
    ∀ (vps : List VP) (st : Store Unit) (vp : VP) (b : Nat), vp ∈ vps → Live st vp.nonce b → now ≤ b →
      b ≤ now + cfg.nonceTtl → (s2sNonceLoop cfg now vps st).2 ≠ .ok () := by
  intro vps st vp b hvp hlive hnow _ h
  cases (hlive.get hnow).symm.trans ((nonceLoop_ok cfg now httl vps st _ (Prod.ext rfl h)).1 vp hvp).2.1

theorem nonceCheck_ok (cfg : Cfg) (now : Nat) (fault : Bool) (vps : List VP) (st st' : Store Unit) (u : Unit)
    (h : nonceCheck cfg now fault vps st = (st', .ok u)) : s2sNonceLoop cfg now vps st = (st', .ok ()) := by
  unfold nonceCheck at h
  split at h
  · split at h <;> simp at h
  · exact h

theorem nonceCheck_fst (cfg : Cfg) (now : Nat) (fault : Bool) (vps : List VP) (st : Store Unit) :
    (nonceCheck cfg now fault vps st).1 = st ∨ (nonceCheck cfg now fault vps st).1 = (s2sNonceLoop cfg now vps st).1 := by
  unfold nonceCheck
  split
  · left; split <;> rfl
  · right; rfl

theorem nonceCheck_fault (cfg : Cfg) (now : Nat) (vps : List VP) (st : Store Unit) (hne : vps ≠ []) :
    ∀ u, (nonceCheck cfg now true vps st).2 ≠ .ok u := by
  intro u
  unfold nonceCheck
  cases vps with
  | nil => exact absurd rfl hne
  | cons vp rest => simp only; split <;> simp

/-- everything the vp_token-bearer handler has established when it answers 200 -/
structure S2SChecked (cfg : Cfg) (w : World) (now : Nat) (r : S2SReq) (s : String) (d : Def) : Prop where
  subject : r.subject ∈ cfg.subjects
  params : r.paramsPresent = true
  envelope : r.envelopeOK = true
  submission : r.submissionOK = true
  pre : ∀ vp ∈ r.vps, PreOK cfg r.subject vp s
  scope : ∃ defs, cfg.definitions r.scope = some defs ∧ findDef defs r.subDefId = some d
  pex : r.pex d.key = true
  nonce : ∀ vp ∈ r.vps, vp.nonce ≠ "" ∧ w.s2sNonces.get now vp.nonce = none
  nonceDistinct : (r.vps.map (·.nonce)).Nodup
  dpop : r.dpop ≠ .invalid
  verified : ∀ vp ∈ r.vps, vpVerifies cfg now vp = true

theorem mergeClaims_single (c : Claims) : mergeClaims [c] [] = .ok c := by
  simp [mergeClaims]

/-- the state change of a 200 answer: the nonces are remembered, exactly one token record is stored -/
structure S2SEffect (cfg : Cfg) (w w' : World) (now : Nat) (r : S2SReq) (d : Def) (resp : TokenResponse) : Prop where
  nonces : ∀ vp ∈ r.vps, Live w'.s2sNonces vp.nonce (now + cfg.nonceTtl)
  token : resp.token = tokName w.nextTok
  scope : resp.scope = r.scope
  record : ∃ defs claims dpop, cfg.definitions r.scope = some defs ∧ mergeClaims [r.claims d.key] [] = .ok claims ∧
    parseDPoP r.dpop = .ok dpop ∧
    w'.tokens = w.tokens.put now cfg.tokenTtl (tokName w.nextTok)
      { issuer := cfg.issuerURL r.subject, clientId := r.clientId, scope := r.scope, issuedAt := now,
        expiration := now + cfg.tokenValidity, dpop := dpop, claims := claims, defs := defs,
        submissions := [r.subDefId], vps := r.vps.length }
  next : w'.nextTok = w.nextTok + 1
  others : w'.states = w.states ∧ w'.oauthNonces = w.oauthNonces ∧ w'.codes = w.codes ∧ w'.nextCode = w.nextCode

theorem issueS2S_cases (cfg : Cfg) (w : World) (now : Nat) (r : S2SReq) (out : World × Res TokenResponse)
    (h : issueS2S cfg w now r = out) :
    (∃ x, out = (w, x) ∧ x.isOk = false) ∨
    (∃ x, out = ({ w with s2sNonces := (nonceCheck cfg now r.nonceFault r.vps w.s2sNonces).1 }, x) ∧
      x.isOk = false) ∨
    ∃ s defs consumer dpop, r.subject ∈ cfg.subjects ∧ r.paramsPresent = true ∧ r.envelopeOK = true ∧
      r.submissionOK = true ∧ s2sPre cfg r.subject r.vps "" = .ok s ∧ cfg.definitions r.scope = some defs ∧
      fulfill ⟨defs, [], [], 0⟩ r.subDefId r.pex r.claims r.vps.length = .ok consumer ∧
      (nonceCheck cfg now r.nonceFault r.vps w.s2sNonces).2 = .ok () ∧ parseDPoP r.dpop = .ok dpop ∧
      verifyAll cfg now r.vps = .ok () ∧
      out = createAccessToken cfg { w with s2sNonces := (nonceCheck cfg now r.nonceFault r.vps w.s2sNonces).1 } now
        (cfg.issuerURL r.subject) r.clientId r.scope consumer dpop := by
  subst h
  fun_cases issueS2S cfg w now r with
  | case1 | case2 | case3 | case4 | case5 | case6 | case7 | case8 | case9 => exact .inl ⟨_, rfl, rfl⟩
  | case16 hs hp he hsub s hpre defs hdefs consumer hful nonces w1 u dpop hd u' hver hn =>
    exact .inr (.inr ⟨s, defs, consumer, dpop, Decidable.not_not.mp hs, Bool.of_not_eq_false hp, Bool.of_not_eq_false he,
      Bool.of_not_eq_false hsub, hpre, hdefs, hful, by rw [hn], hd, hver, by rw [hn]⟩)
  | case10 | case11 | case12 | case13 | case14 | case15 =>
    exact .inr (.inl ⟨_, by rw [‹nonceCheck cfg now r.nonceFault r.vps w.s2sNonces = _›], rfl⟩)

theorem issueS2S_ok (cfg : Cfg) (w w' : World) (now : Nat) (r : S2SReq) (resp : TokenResponse)
    (hchk : cfg.emptyVpChecked = true) (httl : cfg.nonceTtl ≠ 0) (hwf : ∀ vp ∈ r.vps, vp.signer ≠ some "")
    (h : issueS2S cfg w now r = (w', .ok resp)) :
    ∃ s d, S2SChecked cfg w now r s d ∧ S2SEffect cfg w w' now r d resp := by
  rcases issueS2S_cases cfg w now r _ h with ⟨x, hx, hno⟩ | ⟨x, hx, hno⟩ |
    ⟨s, defs, consumer, dpop, hsubj, hparams, henv, hsub, hpre, hdefs, hful, hnonce, hdpop, hver, hcreate⟩
  · cases hx; cases hno
  · cases hx; cases hno
  obtain ⟨d, hd, _, hpex, hcons⟩ := fulfill_ok _ _ _ _ _ _ hful
  obtain ⟨claims, hclaims, htok, hscope, _, _, _, hw'⟩ := createAccessToken_ok _ _ _ _ _ _ _ _ _ _ hcreate.symm
  have hloop := nonceLoop_ok cfg now httl r.vps w.s2sNonces _ (nonceCheck_ok cfg now r.nonceFault r.vps w.s2sNonces _ ()
    (Prod.ext rfl hnonce))
  subst hw' hcons
  exact ⟨s, d,
    { subject := hsubj, params := hparams, envelope := henv, submission := hsub
      pre := (s2sPre_ok cfg r.subject hchk r.vps "" s hwf hpre).1
      scope := ⟨defs, hdefs, hd⟩, pex := hpex
      nonce := fun vp hvp => ⟨(hloop.1 vp hvp).1, (hloop.1 vp hvp).2.1⟩
      nonceDistinct := hloop.2
      dpop := by intro hi; rw [hi] at hdpop; cases hdpop
      verified := verifyAll_ok cfg now r.vps hver },
    { nonces := fun vp hvp => (hloop.1 vp hvp).2.2
      token := htok, scope := hscope
      record := ⟨defs, claims, dpop, hdefs, hclaims, hdpop, by simp⟩
      next := rfl, others := ⟨rfl, rfl, rfl, rfl⟩ }⟩

/-- the part of `issueS2S_ok` that needs no side condition on signers -/
theorem issueS2S_ok_window (cfg : Cfg) (w w' : World) (now : Nat) (r : S2SReq) (resp : TokenResponse)
    (httl : cfg.nonceTtl ≠ 0) (h : issueS2S cfg w now r = (w', .ok resp)) :
    ∀ vp ∈ r.vps, checkValidity cfg vp = .ok () ∧ vpVerifies cfg now vp = true ∧
      Live w'.s2sNonces vp.nonce (now + cfg.nonceTtl) := by
  rcases issueS2S_cases cfg w now r _ h with ⟨x, hx, hno⟩ | ⟨x, hx, hno⟩ |
    ⟨s, _, c, dpop, _, _, _, _, hpre, _, _, hnonce, _, hver, hcreate⟩
  · cases hx; cases hno
  · cases hx; cases hno
  have hloop := nonceLoop_ok cfg now httl r.vps w.s2sNonces _ (nonceCheck_ok cfg now r.nonceFault r.vps w.s2sNonces _ ()
    (Prod.ext rfl hnonce))
  have hw := (createAccessToken_mint cfg { w with s2sNonces := (nonceCheck cfg now r.nonceFault r.vps w.s2sNonces).1 }
    now (cfg.issuerURL r.subject) r.clientId r.scope c dpop).others.1
  rw [← hcreate] at hw
  intro vp hvp
  exact ⟨(s2sPre_codePre cfg r.subject r.vps "" s hpre).2 vp hvp, verifyAll_ok cfg now r.vps hver vp hvp,
    hw ▸ (hloop.1 vp hvp).2.2⟩

theorem issueS2S_rejects_live (cfg : Cfg) (w : World) (t : Nat) (r : S2SReq) (httl : cfg.nonceTtl ≠ 0)
    (vp : VP) (hvp : vp ∈ r.vps) (b : Nat) (hlive : Live w.s2sNonces vp.nonce b) (ht : t ≤ b) :
    ∀ resp, (issueS2S cfg w t r).2 ≠ .ok resp := by
  intro resp hok
  rcases issueS2S_cases cfg w t r _ rfl with ⟨x, hx, hno⟩ | ⟨x, hx, hno⟩ | ⟨_, _, _, _, _, _, _, _, _, _, _, hn, _⟩
  · rw [hx] at hok; cases hok; cases hno
  · rw [hx] at hok; cases hok; cases hno
  · have := ((nonceLoop_ok cfg t httl r.vps w.s2sNonces _ (nonceCheck_ok cfg t r.nonceFault r.vps w.s2sNonces _ ()
      (Prod.ext rfl hn))).1 vp hvp).2.1
    rw [hlive.get ht] at this
    cases this

theorem issueS2S_world (cfg : Cfg) (w : World) (t : Nat) (r : S2SReq) :
    ∃ nonces, (nonces = w.s2sNonces ∨ nonces = (s2sNonceLoop cfg t r.vps w.s2sNonces).1) ∧
      MintOrNot cfg t { w with s2sNonces := nonces } (issueS2S cfg w t r) := by
  rcases issueS2S_cases cfg w t r _ rfl with ⟨x, hx, hno⟩ | ⟨x, hx, hno⟩ | ⟨_, _, c, dpop, _, _, _, _, _, _, _, _, _, _, hx⟩
  · rw [hx]; exact ⟨_, .inl rfl, .inl ⟨rfl, hno⟩⟩
  · rw [hx]; exact ⟨_, nonceCheck_fst cfg t r.nonceFault r.vps w.s2sNonces, .inl ⟨rfl, hno⟩⟩
  · rw [hx]; exact ⟨_, nonceCheck_fst cfg t r.nonceFault r.vps w.s2sNonces, createAccessToken_mint ..⟩

/-- the single defects of a vp_token-bearer request; the property quantifies over every non-empty set of them -/
inductive Defect where
  | unknownSubject | missingParam | garbageAssertion | garbageSubmission
  | overlongOrUndated | signerNotSubject | mixedSigners | wrongAudience
  | unfulfilledOrForeign | missingNonce | reusedNonce | duplicateNonce | badDPoP | verifyFails
  deriving DecidableEq, Repr

/-- the observable condition that makes a request carry the defect -/
def Defect.present (cfg : Cfg) (w : World) (now : Nat) (r : S2SReq) : Defect → Prop
  | .unknownSubject => r.subject ∉ cfg.subjects
  | .missingParam => r.paramsPresent = false
  | .garbageAssertion => r.envelopeOK = false
  | .garbageSubmission => r.submissionOK = false
  | .overlongOrUndated => ∃ vp ∈ r.vps, ¬ ∃ c e, vp.created = some c ∧ vp.expires = some e ∧ e ≤ c + cfg.maxValidity
  | .signerNotSubject => ∃ vp ∈ r.vps, ∃ x ∈ vp.subjects, x ≠ vp.signer ∧ x ≠ some ""
  | .mixedSigners => ∃ v₁ ∈ r.vps, ∃ v₂ ∈ r.vps, v₁.signer ≠ v₂.signer
  | .wrongAudience => ∃ vp ∈ r.vps, cfg.issuerURL r.subject ∉ vp.aud
  | .unfulfilledOrForeign =>
      ∀ defs d, cfg.definitions r.scope = some defs → findDef defs r.subDefId = some d → r.pex d.key = false
  | .missingNonce => ∃ vp ∈ r.vps, vp.nonce = ""
  | .reusedNonce => ∃ vp ∈ r.vps, w.s2sNonces.get now vp.nonce ≠ none
  | .duplicateNonce => ¬ (r.vps.map (·.nonce)).Nodup
  | .badDPoP => r.dpop = .invalid
  | .verifyFails => ∃ vp ∈ r.vps, vpVerifies cfg now vp = false

theorem defect_contradicts_checked (cfg : Cfg) (w : World) (now : Nat) (r : S2SReq) (s : String) (d : Def)
    (hc : S2SChecked cfg w now r s d) (x : Defect) (hx : x.present cfg w now r) : False := by
  cases x with
  | unknownSubject => exact hx hc.subject
  | missingParam => cases hc.params.symm.trans hx
  | garbageAssertion => cases hc.envelope.symm.trans hx
  | garbageSubmission => cases hc.submission.symm.trans hx
  | overlongOrUndated => obtain ⟨vp, hvp, hn⟩ := hx; exact hn (hc.pre vp hvp).validity
  | signerNotSubject =>
    obtain ⟨vp, hvp, x, hxm, hne, hne'⟩ := hx
    have hp := hc.pre vp hvp
    rcases hp.subjects x hxm with h | h
    · exact hne (by rw [h, hp.signer])
    · exact hne' h
  | mixedSigners =>
    obtain ⟨v₁, h₁, v₂, h₂, hne⟩ := hx
    exact hne (by rw [(hc.pre v₁ h₁).signer, (hc.pre v₂ h₂).signer])
  | wrongAudience => obtain ⟨vp, hvp, hn⟩ := hx; exact hn (hc.pre vp hvp).audience
  | unfulfilledOrForeign =>
    obtain ⟨defs, hdefs, hd⟩ := hc.scope
    have := hx defs d hdefs hd
    rw [hc.pex] at this; cases this
  | missingNonce => obtain ⟨vp, hvp, hn⟩ := hx; exact (hc.nonce vp hvp).1 hn
  | reusedNonce => obtain ⟨vp, hvp, hn⟩ := hx; exact hn (hc.nonce vp hvp).2
  | duplicateNonce => exact hx hc.nonceDistinct
  | badDPoP => exact hc.dpop hx
  | verifyFails =>
    obtain ⟨vp, hvp, hn⟩ := hx
    rw [hc.verified vp hvp] at hn; cases hn

end Nuts.C02
