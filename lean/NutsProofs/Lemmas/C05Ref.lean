/-
  C05: refinement of the request-level handlers to threads of the schedule model.  Each handler leaves the store as its
  threads leave it when they run one after the other, each alone, and answers 200 only if each of them ends `ok`
  (`handleForm_threads`): `validatePresentationNonce` INCLUDING its burn-all branch (one Delete-only thread per collected
  nonce), `RequestJWTByGet/Post` (GetAndDelete first, two comparisons on the consumed value), the mark consumers.
-/
import NutsModel.C05.Threads
import NutsProofs.Lemmas.C05Solo
import NutsProofs.Lemmas.C05Forms

namespace Nuts.C05

/-- the store after the given requests ran one after the other, each alone through its five steps -/
def soloStores (cfg : Cfg) (now : Nat) : Store → List BurnReq → Store
  | st, [] => st
  | st, r :: rest =>
    soloStores cfg now (run cfg soloSched { store := st, now := now, lock := none, ths := [.burn r .start 0] }).store rest

/-- outcomes of the same sequential execution -/
def soloOutcomes (cfg : Cfg) (now : Nat) : Store → List BurnReq → List (Option Outcome)
  | _, [] => []
  | st, r :: rest =>
    let w := run cfg soloSched { store := st, now := now, lock := none, ths := [.burn r .start 0] }
    (w.ths[0]?.bind Thread.outcome) :: soloOutcomes cfg now w.store rest

theorem burnAll_eq_soloStores (cfg : Cfg) (hl : cfg.gad = .locked) (hx : cfg.ext .vpNonce = false) (now : Nat) (state : String)
    (ns : List String) : ∀ st : Store,
    soloStores cfg now st (ns.map (fun n => ({ kind := .vpNonce, id := n, want := state, pre := false } : BurnReq))) = burnAll st ns ∧
    soloOutcomes cfg now st (ns.map (fun n => ({ kind := .vpNonce, id := n, want := state, pre := false } : BurnReq)))
      = ns.map (fun _ => some Outcome.missingParam) := by
  induction ns with
  | nil => intro st; simp [soloStores, soloOutcomes, burnAll]
  | cons n rest ih =>
    intro st
    have h := solo_burn_run cfg hl ({ kind := .vpNonce, id := n, want := state, pre := false } : BurnReq) hx rfl rfl st now
    simp only [soloBurn, Bool.not_false, if_true] at h
    simp only [List.map_cons, soloStores, soloOutcomes, burnAll, List.foldl_cons]
    rw [h.2.1, h.1]
    have ih' := ih (stErase st (BurnReq.key { kind := .vpNonce, id := n, want := state, pre := false }))
    refine ⟨?_, ?_⟩
    · rw [ih'.1]; rfl
    · rw [ih'.2]

def vpOutcome (a : Ans) : Option Outcome :=
  let E := errAt Facts.C05.errs_validatePresentationNonce
  if a = .ok then some .ok
  else if a = E 0 then some .missingParam
  else if a = E 1 then some .notFound
  else if a = E 2 then some .mismatch
  else none

theorem vpOutcome_ok : vpOutcome .ok = some .ok := by decide
theorem vpOutcome_errs :
    let E := errAt Facts.C05.errs_validatePresentationNonce
    vpOutcome (E 0) = some .missingParam ∧ vpOutcome (E 1) = some .notFound ∧ vpOutcome (E 2) = some .mismatch := by
  decide +kernel

theorem validateNonce_eq_threads (cfg : Cfg) (hl : cfg.gad = .locked) (hx : cfg.ext .vpNonce = false) (ttl : Kind → Nat) (now : Nat)
    (st : Store) (ps : List Pres) (state : String) :
    soloStores cfg now st (responseThreads ps state) = (validateNonce ⟨cfg.expInclusive, now, ttl⟩ st ps state).2 ∧
    ∀ o ∈ soloOutcomes cfg now st (responseThreads ps state), o = vpOutcome (validateNonce ⟨cfg.expInclusive, now, ttl⟩ st ps state).1 := by
  unfold responseThreads
  rcases validateNonce_cases ⟨cfg.expInclusive, now, ttl⟩ st ps state with ⟨he, e⟩ | ⟨he, ⟨hn, e⟩ | ⟨n, hn, e⟩⟩
  · simp only [e, he, if_true]
    have h := burnAll_eq_soloStores cfg hl hx now state (collect ps).nonces st
    refine ⟨h.1, fun o ho => ?_⟩
    rw [h.2] at ho
    obtain ⟨_, _, rfl⟩ := List.mem_map.mp ho
    exact vpOutcome_errs.1.symm
  · simp only [e, he, hn, if_false]
    exact ⟨rfl, fun _ h => nomatch h⟩
  · simp only [e, he, hn, if_false]
    have h := solo_burn_run cfg hl ({ kind := .vpNonce, id := n, want := state } : BurnReq) hx rfl rfl st now
    simp only at h
    simp only [soloStores, soloOutcomes, List.mem_singleton, forall_eq]
    rw [h.1, h.2.1]
    unfold soloBurn gadSeq
    simp only [BurnReq.key, vpKey]
    cases hg : stGet cfg.expInclusive st now ⟨.burn .vpNonce, n⟩ with
    | none => simp [vpOutcome_errs.2.1]
    | some v =>
      simp only [verdict]
      by_cases hm : v = state
      · subst hm; simp [vpOutcome_ok]
      · have hm' : state ≠ v := fun e => hm e.symm
        simp [hm, hm', vpOutcome_errs.2.2]

/-- the store the threads of a request leave when they run one after the other, each alone -/
def threadsStore (cfg : Cfg) (now : Nat) (st : Store) (rs : List Req) : Store := (soloCalls cfg now st rs).2

theorem threadsStore_nil (cfg : Cfg) (now : Nat) (st : Store) : threadsStore cfg now st [] = st := rfl

theorem threadsStore_cons (cfg : Cfg) (now : Nat) (st : Store) (r : Req) (rest : List Req) :
    threadsStore cfg now st (r :: rest)
      = threadsStore cfg now (run cfg soloSched { store := st, now := now, lock := none, ths := [r.thread] }).store rest := rfl

theorem threadsStore_burns (cfg : Cfg) (now : Nat) (rs : List BurnReq) : ∀ st : Store,
    threadsStore cfg now st (rs.map Req.burn) = soloStores cfg now st rs := by
  induction rs with
  | nil => intro st; rfl
  | cons r rest ih => intro st; simp only [List.map_cons, threadsStore_cons, soloStores, Req.thread]; exact ih _

/-- outcomes of the threads of a request when they run one after the other, each alone -/
def threadsOutcomes (cfg : Cfg) (now : Nat) : Store → List Req → List (Option Outcome)
  | _, [] => []
  | st, r :: rest =>
    let w := run cfg soloSched { store := st, now := now, lock := none, ths := [r.thread] }
    (w.ths[0]?.bind Thread.outcome) :: threadsOutcomes cfg now w.store rest

theorem threadsOutcomes_burns (cfg : Cfg) (now : Nat) (rs : List BurnReq) : ∀ st : Store,
    threadsOutcomes cfg now st (rs.map Req.burn) = soloOutcomes cfg now st rs := by
  induction rs with
  | nil => intro st; rfl
  | cons r rest ih => intro st; simp only [List.map_cons, threadsOutcomes, soloOutcomes, Req.thread]; rw [ih]

theorem s2sLoop_threads (cfg : Cfg) (hl : cfg.mark .s2s = .locked) (now : Nat) (ns : List String) : ∀ st : Store,
    threadsStore cfg now st ((s2sMarks ⟨cfg.expInclusive, now, cfg.ttl⟩ st ns).map Req.mark) = (s2sLoop ⟨cfg.expInclusive, now, cfg.ttl⟩ st ns).2 ∧
    ((s2sLoop ⟨cfg.expInclusive, now, cfg.ttl⟩ st ns).1 = .ok →
      threadsOutcomes cfg now st ((s2sMarks ⟨cfg.expInclusive, now, cfg.ttl⟩ st ns).map Req.mark) = ns.map (fun _ => some Outcome.ok)) := by
  induction ns with
  | nil => exact fun st => ⟨rfl, fun _ => rfl⟩
  | cons n rest ih =>
    intro st
    unfold s2sMarks s2sLoop
    by_cases hn : n = ""
    · simp only [hn, if_true]
      exact ⟨rfl, fun hok => absurd hok (errAt_ne_ok _ _)⟩
    · have h := solo_mark_run cfg ({ kind := .s2s, id := n } : MarkReq) hl rfl rfl st now
      simp only [hn, if_false, pifSeq, s2sKey, soloMark, MarkReq.key] at h ⊢
      cases hg : stGet cfg.expInclusive st now ⟨.mark .s2s, n⟩ with
      | some v =>
        simp only [hg, List.map_cons, List.map_nil, threadsStore_cons, threadsStore_nil] at h ⊢
        exact ⟨h.2.1, fun hok => absurd hok (errAt_ne_ok _ _)⟩
      | none =>
        simp only [hg, List.map_cons, threadsStore_cons, threadsOutcomes, Req.thread] at h ⊢
        rw [h.1, h.2.1]
        exact ⟨(ih _).1, fun hok => by rw [(ih _).2 hok]⟩

theorem s2sLoop_eq_threads (cfg : Cfg) (hl : cfg.mark .s2s = .locked) (now : Nat) (ns : List String) : ∀ st : Store,
    threadsStore cfg now st ((s2sMarks ⟨cfg.expInclusive, now, cfg.ttl⟩ st ns).map Req.mark) = (s2sLoop ⟨cfg.expInclusive, now, cfg.ttl⟩ st ns).2 :=
  fun st => (s2sLoop_threads cfg hl now ns st).1

theorem s2sLoop_ok_threads (cfg : Cfg) (hl : cfg.mark .s2s = .locked) (now : Nat) (ns : List String) : ∀ st : Store,
    (s2sLoop ⟨cfg.expInclusive, now, cfg.ttl⟩ st ns).1 = .ok →
    threadsOutcomes cfg now st ((s2sMarks ⟨cfg.expInclusive, now, cfg.ttl⟩ st ns).map Req.mark) = ns.map (fun _ => some Outcome.ok) :=
  fun st => (s2sLoop_threads cfg hl now ns st).2

theorem threadsStore_one_burn (cfg : Cfg) (now : Nat) (st : Store) (r : BurnReq) :
    threadsStore cfg now st [.burn r] = (run cfg soloSched { store := st, now := now, lock := none, ths := [.burn r .start 0] }).store :=
  threadsStore_cons cfg now st (.burn r) []

theorem threadsStore_one_mark (cfg : Cfg) (now : Nat) (st : Store) (r : MarkReq) :
    threadsStore cfg now st [.mark r] = (run cfg soloSched { store := st, now := now, lock := none, ths := [.mark r .start 0] }).store :=
  threadsStore_cons cfg now st (.mark r) []

/-- a request that stands for one thread: if the handler answers and leaves the store as the thread does when it runs alone
    (`out` = the outcome class of an answer), the thread's store is the handler's and an honoured request is an honoured thread -/
theorem one_thread (cfg : Cfg) (now : Nat) (st : Store) (r : Req) (out : Ans → Option Outcome) (hout : out .ok = some .ok)
    (a : Ans × Store) (s : Outcome × Store)
    (h1 : let w := run cfg soloSched { store := st, now := now, lock := none, ths := [r.thread] }
      (w.ths[0]?.bind Thread.outcome) = some s.1 ∧ w.store = s.2 ∧ w.lock = none)
    (h2 : out a.1 = some s.1 ∧ a.2 = s.2) :
    threadsStore cfg now st [r] = a.2 ∧ (a.1 = .ok → ∀ o ∈ threadsOutcomes cfg now st [r], o = some .ok) := by
  refine ⟨?_, fun ha o ho => ?_⟩
  · rw [threadsStore_cons, threadsStore_nil]
    exact h1.2.1.trans h2.2.symm
  rw [ha, hout] at h2
  simp only [threadsOutcomes, List.mem_singleton] at ho
  rw [ho, h1.1, ← Option.some.inj h2.1]

theorem handleForm_threads (cfg : Cfg) (hg : cfg.gad = .locked) (hm : ∀ m, cfg.mark m = .locked) (hx : ∀ b, cfg.ext b = false)
    (pk : Pkce) (now : Nat) (st : Store) (f : Form) :
    threadsStore cfg now st (formThreads ⟨cfg.expInclusive, now, cfg.ttl⟩ pk st f) = (handleForm ⟨cfg.expInclusive, now, cfg.ttl⟩ pk st f).2 ∧
    ((handleForm ⟨cfg.expInclusive, now, cfg.ttl⟩ pk st f).1 = .ok →
      ∀ o ∈ threadsOutcomes cfg now st (formThreads ⟨cfg.expInclusive, now, cfg.ttl⟩ pk st f), o = some .ok) := by
  -- a request refused before the store stands for no thread: those returns are closed by `threadsStore_nil`, `errAt_ne_ok`
  cases f with
  | token t =>
    simp only [formThreads, handleForm]
    fun_cases handleToken ⟨cfg.expInclusive, now, cfg.ttl⟩ pk st t with
    | case1 a ha =>
      rw [if_pos ha]
      cases htb : t.toBurn pk with
      | none => simp [handleCode, toBurn_none pk t htb, threadsStore_nil, errAt_ne_ok]
      | some r =>
        obtain ⟨_, hfg, hfd⟩ := toBurn_props pk t r htb
        exact one_thread cfg now st (.burn r) codeOutcome codeOutcome_ok _ _ (solo_burn_run cfg hg r (hx _) hfg hfd st now)
          (handleCode_eq_solo cfg cfg.ttl pk now st t r htb)
    | case3 a hna hs nonces hasr hc =>
      rw [if_neg hna, if_pos hs]; simp only [hasr, hc, Bool.false_eq_true, if_false]
      obtain ⟨h1, h2⟩ := s2sLoop_threads cfg (hm .s2s) now nonces st
      refine ⟨h1.trans (handleS2S_snd _ st t nonces).symm, fun hok o ho => ?_⟩
      rw [h2 (handleS2S_ok_loop _ st t nonces hok)] at ho
      obtain ⟨_, _, rfl⟩ := List.mem_map.mp ho
      rfl
    | _ => simp +zetaDelta [*, threadsStore_nil, errAt_ne_ok]
  | response r =>
    simp only [formThreads, handleForm]
    fun_cases handleResponse ⟨cfg.expInclusive, now, cfg.ttl⟩ st r with
    | case6 state hs p ps hv hk ht =>
      simp only [hs, hv, hk, ht, Bool.or_self, Bool.false_eq_true, if_false]
      rw [threadsStore_burns, threadsOutcomes_burns]
      obtain ⟨h1, h2⟩ := validateNonce_eq_threads cfg hg (hx .vpNonce) cfg.ttl now st (p :: ps) state
      exact ⟨h1, fun hok o ho => by rw [h2 o ho, hok, vpOutcome_ok]⟩
    | _ => simp +zetaDelta [*, threadsStore_nil, errAt_ne_ok]
  | reqObj r =>
    exact one_thread cfg now st _ (reqObjOutcome r) (by simp [reqObjOutcome]) _ _
      (solo_burn_run cfg hg (reqObjReq r ((stGet cfg.expInclusive st now (reqObjKey r.id)).getD "")) (hx _) rfl rfl st now)
      (handleReqObj_eq_solo cfg cfg.ttl now st r _ (by intro x hx'; rw [hx']; rfl))
  | landing t =>
    simp only [formThreads, handleForm]
    by_cases ht : t = ""
    · simp only [ht, handleLanding, if_true]
      exact ⟨rfl, nofun⟩
    · simp only [ht, if_false]
      exact one_thread cfg now st (.burn (landingReq t)) landingOutcome rfl _ _
        (solo_burn_run cfg hg (landingReq t) (hx _) rfl rfl st now)
        (handleLanding_eq_solo cfg cfg.ttl now st t ht)
  | dpop r =>
    simp only [formThreads, handleForm]
    fun_cases handleDpop ⟨cfg.expInclusive, now, cfg.ttl⟩ st r with
    | case1 h | case2 _ h | case3 _ _ h | case4 _ _ _ h => simp at h; simp [h, threadsStore_nil]
    | case5 h1 h2 h3 h4 st1 hp | case6 h1 h2 h3 h4 st1 hp =>
      simp at h1 h2 h3 h4
      rw [if_pos (by simp [h1, h2, h3, h4])]
      refine one_thread cfg now st (.mark _) (fun | .ok => some .ok | _ => some .used) rfl _ _
        (solo_mark_run cfg { kind := .jti, id := r.jti } (hm .jti) rfl rfl st now) ?_
      unfold soloMark
      unfold pifSeq at hp
      simp only [MarkReq.key, jtiKey] at hp ⊢
      split at hp <;> cases hp <;> simp [*]

theorem handleForm_ok_threads (cfg : Cfg) (hg : cfg.gad = .locked) (hm : ∀ m, cfg.mark m = .locked) (hx : ∀ b, cfg.ext b = false)
    (pk : Pkce) (now : Nat) (st : Store) (f : Form)
    (hok : (handleForm ⟨cfg.expInclusive, now, cfg.ttl⟩ pk st f).1 = .ok) :
    ∀ o ∈ threadsOutcomes cfg now st (formThreads ⟨cfg.expInclusive, now, cfg.ttl⟩ pk st f), o = some .ok :=
  (handleForm_threads cfg hg hm hx pk now st f).2 hok

end Nuts.C05
