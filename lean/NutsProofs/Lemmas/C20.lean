/-
  C20 — start-up as a sequence of engine steps (`step`: the first refusal wins), what each step decides in strict mode, and the
  same sequence over the TLS file options (NutsModel/C20/Engines.lean).
-/
import NutsModel.C20.Engines
import NutsProofs.Lemmas.C18Bytes

namespace Nuts.C20
open Nuts Nuts.C18

def step (engine : String) (verdict : Option String) (rest : Outcome) : Outcome :=
  match verdict with
  | some r => .refuse engine r
  | none => rest

theorem step_isRefuse (e : String) (v : Option String) (rest : Outcome) :
    (step e v rest).isRefuse = (v.isSome || rest.isRefuse) := by
  cases v <;> rfl

theorem step_eq_ok (e : String) (v : Option String) (rest : Outcome) (r : Running) :
    step e v rest = .ok r ↔ v = none ∧ rest = .ok r := by
  cases v <;> simp [step]

theorem step_none (e : String) (rest : Outcome) : step e none rest = rest := rfl

theorem step_ite (e x : String) (p : Prop) [Decidable p] (v : Option String) (rest : Outcome) :
    step e (if p then some x else v) rest = if p then .refuse e x else step e v rest := by
  split <;> rfl

theorem start_steps (tlds l2s : List Bytes) (c : Config) :
    start tlds l2s c =
      match load c with
      | some (e, r) => .refuse e r
      | none =>
        step "storage" (storageConfigure c) <| step "crypto" (cryptoConfigure c) <| step "vdr" (vdrConfigure tlds l2s c) <|
        step "network" (networkConfigure c) <| step "auth" (authConfigure c) <|
        .ok { dummyMeans := c.dummy && !c.strict, unlistedRemoteContexts := !c.strict, clientStrict := c.strict } := rfl

theorem start_of_load {tlds l2s : List Bytes} {c : Config} {e r : String} (h : load c = some (e, r)) :
    start tlds l2s c = .refuse e r := by
  rw [start_steps, h]

theorem load_eq_cli_secret {c : Config} : load c = some ("load", "cli-secret") ↔ c.cliFlags.any isSecretFlag = true := by
  unfold load
  cases c.cliFlags.any isSecretFlag <;> cases c.movedKey <;> simp

theorem start_isRefuse (tlds l2s : List Bytes) (c : Config) :
    (start tlds l2s c).isRefuse =
      ((load c).isSome || (storageConfigure c).isSome || (cryptoConfigure c).isSome || (vdrConfigure tlds l2s c).isSome ||
        (networkConfigure c).isSome || (authConfigure c).isSome) := by
  rw [start_steps]
  cases load c with
  | some p => rfl
  | none =>
    simp only [step_isRefuse]
    simp only [Outcome.isRefuse, Option.isSome_none, Bool.false_or, Bool.or_false, Bool.or_assoc]

theorem start_eq_ok (tlds l2s : List Bytes) (c : Config) (r : Running) :
    start tlds l2s c = .ok r ↔
      load c = none ∧ storageConfigure c = none ∧ cryptoConfigure c = none ∧ vdrConfigure tlds l2s c = none ∧
      networkConfigure c = none ∧ authConfigure c = none ∧
      r = { dummyMeans := c.dummy && !c.strict, unlistedRemoteContexts := !c.strict, clientStrict := c.strict } := by
  rw [start_steps]
  cases load c with
  | some p => simp
  | none => simp only [step_eq_ok, Outcome.ok.injEq, true_and, @eq_comm _ r]

theorem isReserved_ok (tlds l2s : List Bytes) (h : Bytes) : ∃ b, isReserved tlds l2s h = .ok b := by
  unfold isReserved
  simp only
  cases hl : (splitOn cDot (lower h)).getLast? with
  | none => exact absurd (List.getLast?_eq_none_iff.mp hl) (splitOn_ne_nil _ _)
  | some tld =>
    simp only
    split
    · exact ⟨_, rfl⟩
    · split <;> exact ⟨_, rfl⟩

theorem parsePublicURL_strict (tlds l2s : List Bytes) (url : Bytes) (u : URL) (hp : parseURL url = .ok u) (b : Bool)
    (hr : isReserved tlds l2s (hostname u.host) = .ok b) :
    parsePublicURL tlds l2s url true =
      if u.scheme = [] ∨ hostname u.host = [] then .err "no-scheme-or-host" else
      if u.scheme ≠ sHttpsB then .err "scheme" else
      if isIP (hostname u.host) then .err "ip" else
      if b then .err "reserved" else .ok u.host := by
  unfold parsePublicURL parsePublicURLWithScheme
  simp only [hp, hr, Bool.not_true, Bool.false_eq_true, if_false, Bool.not_false, Bool.and_true, Bool.or_eq_true,
    decide_eq_true_eq, List.isEmpty_cons, List.contains_cons, List.contains_nil, Bool.or_false, Bool.true_and,
    Bool.not_eq_true', beq_eq_false_iff_ne, ne_eq]
  cases b <;> rfl

theorem parsePublicURL_strict_err (tlds l2s : List Bytes) (url : Bytes) (u : URL) (hp : parseURL url = .ok u)
    (hbad : u.scheme ≠ sHttpsB ∨ isIP (hostname u.host) = true ∨ isReserved tlds l2s (hostname u.host) = .ok true) :
    ∃ e, parsePublicURL tlds l2s url true = .err e := by
  obtain ⟨b, hr⟩ := isReserved_ok tlds l2s (hostname u.host)
  rw [parsePublicURL_strict tlds l2s url u hp b hr]
  by_cases h0 : u.scheme = [] ∨ hostname u.host = []
  · exact ⟨_, if_pos h0⟩
  · rw [if_neg h0]
    by_cases h1 : u.scheme ≠ sHttpsB
    · exact ⟨_, if_pos h1⟩
    · rw [if_neg h1]
      by_cases h2 : isIP (hostname u.host) = true
      · exact ⟨_, if_pos h2⟩
      · rw [if_neg h2]
        have hb : b = true := by
          rcases hbad with h | h | h
          · exact absurd h h1
          · exact absurd h h2
          · exact Res.ok.inj (hr.symm.trans h)
        exact ⟨_, if_pos hb⟩

theorem serverURL_strict_err (tlds l2s : List Bytes) (url : Bytes) (u : URL) (hp : parseURL url = .ok u)
    (hbad : u.scheme ≠ sHttpsB ∨ isIP (hostname u.host) = true ∨ isReserved tlds l2s (hostname u.host) = .ok true) :
    ∃ e, serverURL tlds l2s url true = .err e := by
  obtain ⟨e, he⟩ := parsePublicURL_strict_err tlds l2s url u hp hbad
  unfold serverURL
  split
  · exact ⟨_, rfl⟩
  · rw [he]; exact ⟨_, rfl⟩

theorem serverURL_strict_cases (tlds l2s : List Bytes) (url : Bytes) (u : URL) (hp : parseURL url = .ok u)
    (hne : url ≠ []) (hsc : u.scheme ≠ []) (hh : hostname u.host ≠ []) (b : Bool)
    (hr : isReserved tlds l2s (hostname u.host) = .ok b) :
    serverURL tlds l2s url true =
      if u.scheme ≠ sHttpsB then .err "url:scheme" else
      if isIP (hostname u.host) then .err "url:ip" else
      if b then .err "url:reserved" else .ok u.host := by
  unfold serverURL
  rw [if_neg hne, parsePublicURL_strict tlds l2s url u hp b hr, if_neg (not_or.mpr ⟨hsc, hh⟩)]
  by_cases h1 : u.scheme = sHttpsB <;> cases h2 : isIP (hostname u.host) <;> cases b <;> simp [h1]

theorem storageConfigure_strict (tlds l2s : List Bytes) (c : Config) (hs : c.strict = true) :
    storageConfigure c = if hasInsecure tlds l2s .sqlImplicit c then some "sql-implicit" else none := by
  simp [storageConfigure, hasInsecure, hs]

theorem cryptoConfigure_strict (tlds l2s : List Bytes) (c : Config) (hs : c.strict = true) (hc : c.cryptoStorage ≠ .invalid) :
    cryptoConfigure c = if hasInsecure tlds l2s .cryptoImplicit c then some "crypto-implicit" else none := by
  unfold cryptoConfigure hasInsecure
  cases hcs : c.cryptoStorage with
  | invalid => exact absurd hcs hc
  | implicit => simp [hs]
  | explicit => rfl

theorem networkConfigure_strict (tlds l2s : List Bytes) (c : Config) (hs : c.strict = true) :
    networkConfigure c = if hasInsecure tlds l2s .tlsOff c then some "tls-off" else none := by
  unfold networkConfigure hasInsecure
  cases c.nuts <;> cases c.tls <;> simp [hs]

theorem authConfigure_strict (tlds l2s : List Bytes) (c : Config) (hs : c.strict = true) :
    authConfigure c = if hasInsecure tlds l2s .irmaNonProduction c then some "irma-scheme" else none := by
  simp [authConfigure, hasInsecure, hs]

theorem vdrConfigure_strict (tlds l2s : List Bytes) (c : Config) (hs : c.strict = true) (hm : c.nuts = true ∨ c.web = true)
    (hu : c.url ≠ [] ∧ ∃ u, parseURL c.url = .ok u ∧ u.scheme ≠ [] ∧ hostname u.host ≠ []) :
    vdrConfigure tlds l2s c =
      if hasInsecure tlds l2s .urlNotHttps c then some "url:scheme" else
      if hasInsecure tlds l2s .urlIP c then some "url:ip" else
      if hasInsecure tlds l2s .urlReserved c then some "url:reserved" else none := by
  obtain ⟨hne, u, hp, hsc, hh⟩ := hu
  obtain ⟨b, hr⟩ := isReserved_ok tlds l2s (hostname u.host)
  have hd : (!c.nuts && !c.web) = false := by rcases hm with h | h <;> simp [h]
  unfold vdrConfigure
  rw [hs, serverURL_strict_cases tlds l2s c.url u hp hne hsc hh b hr]
  simp only [hasInsecure, hp, hr, decide_eq_true_eq]
  by_cases h1 : u.scheme ≠ sHttpsB
  · rw [if_pos h1, if_pos h1]
  · rw [if_neg h1, if_neg h1]
    by_cases h2 : isIP (hostname u.host) = true
    · rw [if_pos h2, if_pos h2]
    · rw [if_neg h2, if_neg h2]
      cases b
      · simp [hd]
      · rfl

theorem strict_refuses_aux (tlds l2s : List Bytes) (c : Config) (hs : c.strict = true) (i : Insecure)
    (hi : hasInsecure tlds l2s i c = true) : (start tlds l2s c).isRefuse = true := by
  rw [start_isRefuse]
  have hurl : ∀ u, parseURL c.url = .ok u →
      (u.scheme ≠ sHttpsB ∨ isIP (hostname u.host) = true ∨ isReserved tlds l2s (hostname u.host) = .ok true) →
      (vdrConfigure tlds l2s c).isSome = true := by
    intro u hp hbad
    obtain ⟨e, he⟩ := serverURL_strict_err tlds l2s c.url u hp hbad
    simp [vdrConfigure, hs, he]
  cases i with
  | urlNotHttps =>
    simp only [hasInsecure] at hi
    split at hi
    · next u hp => simp [hurl u hp (Or.inl (of_decide_eq_true hi))]
    · cases hi
  | urlIP =>
    simp only [hasInsecure] at hi
    split at hi
    · next u hp => simp [hurl u hp (Or.inr (Or.inl hi))]
    · cases hi
  | urlReserved =>
    simp only [hasInsecure] at hi
    split at hi
    · next u hp =>
      split at hi
      · next b hr => simp [hurl u hp (Or.inr (Or.inr (hi ▸ hr)))]
      · cases hi
    · cases hi
  | tlsOff => simp [networkConfigure_strict tlds l2s c hs, hi]
  | cryptoImplicit =>
    have : c.cryptoStorage = .implicit := of_decide_eq_true hi
    simp [cryptoConfigure, this, hs]
  | sqlImplicit => simp [storageConfigure_strict tlds l2s c hs, hi]
  | irmaNonProduction => simp [authConfigure_strict tlds l2s c hs, hi]

theorem start_strict_formula (tlds l2s : List Bytes) (c : Config) (hs : c.strict = true)
    (hf : c.cliFlags.any isSecretFlag = false) (hk : c.movedKey = false) (hc : c.cryptoStorage ≠ .invalid)
    (hm : c.nuts = true ∨ c.web = true)
    (hu : c.url ≠ [] ∧ ∃ u, parseURL c.url = .ok u ∧ u.scheme ≠ [] ∧ hostname u.host ≠ []) :
    start tlds l2s c =
      if hasInsecure tlds l2s .sqlImplicit c then .refuse "storage" "sql-implicit" else
      if hasInsecure tlds l2s .cryptoImplicit c then .refuse "crypto" "crypto-implicit" else
      if hasInsecure tlds l2s .urlNotHttps c then .refuse "vdr" "url:scheme" else
      if hasInsecure tlds l2s .urlIP c then .refuse "vdr" "url:ip" else
      if hasInsecure tlds l2s .urlReserved c then .refuse "vdr" "url:reserved" else
      if hasInsecure tlds l2s .tlsOff c then .refuse "network" "tls-off" else
      if hasInsecure tlds l2s .irmaNonProduction c then .refuse "auth" "irma-scheme" else
      .ok { dummyMeans := false, unlistedRemoteContexts := false, clientStrict := true } := by
  rw [start_steps, show load c = none by simp [load, hf, hk], storageConfigure_strict tlds l2s c hs,
    cryptoConfigure_strict tlds l2s c hs hc, vdrConfigure_strict tlds l2s c hs hm hu, networkConfigure_strict tlds l2s c hs,
    authConfigure_strict tlds l2s c hs, hs]
  simp only [step_ite, step_none, Bool.not_true, Bool.and_false]

theorem lenient_accepts_aux (tlds l2s : List Bytes) (c : Config) (hs : c.strict = false) (h : Bytes)
    (hu : c.url ≠ [] ∧ parsePublicURL tlds l2s c.url false = .ok h) (hm : c.nuts = true ∨ c.web = true)
    (hc : c.cryptoStorage ≠ .invalid) (hk : c.movedKey = false) (hf : c.cliFlags.any isSecretFlag = false) :
    start tlds l2s c = .ok { dummyMeans := c.dummy, unlistedRemoteContexts := true, clientStrict := false } := by
  have h3 : cryptoConfigure c = none := by
    unfold cryptoConfigure
    cases hcs : c.cryptoStorage with
    | explicit => rfl
    | implicit => simp [hs]
    | invalid => exact absurd hcs hc
  have h4 : vdrConfigure tlds l2s c = none := by
    unfold vdrConfigure serverURL
    rw [hs, if_neg hu.1, hu.2]
    rcases hm with hm | hm <;> simp [hm]
  refine (start_eq_ok tlds l2s c _).mpr ⟨?_, ?_, h3, h4, ?_, ?_, ?_⟩
  · simp [load, hf, hk]
  · simp [storageConfigure, hs]
  · simp [networkConfigure, hs]
  · simp [authConfigure, hs]
  · simp [hs]

theorem startFiles_steps (en : Nat → Nat → Nat → Bool) (tlds l2s : List Bytes) (c : Config) (f : TLSFiles) :
    startFiles en tlds l2s c f =
      match load c with
      | some (e, r) => .refuse e r
      | none =>
        step "storage" (storageConfigure c) <| step "crypto" (cryptoConfigure c) <| step "vdr" (vdrConfigure tlds l2s c) <|
        step "vcr" (tlsLoad en f) <| step "network" (networkConfigureFiles en c f) <| step "auth" (authConfigure c) <|
        step "goldenhammer" (tlsLoad en f) <|
        .ok { dummyMeans := c.dummy && !c.strict, unlistedRemoteContexts := !c.strict, clientStrict := c.strict } := rfl

theorem startFiles_ok_tlsLoad (en : Nat → Nat → Nat → Bool) (tlds l2s : List Bytes) (c : Config) (f : TLSFiles) (r : Running)
    (h : startFiles en tlds l2s c f = .ok r) : tlsLoad en f = none := by
  rw [startFiles_steps] at h
  cases hl : load c with
  | some p => rw [hl] at h; cases h
  | none =>
    rw [hl] at h
    simp only [step_eq_ok] at h
    exact h.2.2.2.1

theorem startFiles_eq_start (en : Nat → Nat → Nat → Bool) (tlds l2s : List Bytes) (c : Config) (f : TLSFiles)
    (hg : tlsLoad en f = none) :
    startFiles en tlds l2s c f = start tlds l2s { c with tls := en f.certLen f.keyLen f.trustLen } := by
  have hn : networkConfigureFiles en c f = networkConfigure { c with tls := en f.certLen f.keyLen f.trustLen } := by
    unfold networkConfigureFiles networkConfigure
    rw [hg]
  rw [startFiles_steps, start_steps, hg, hn]
  rfl

/-- `fun a b _ => a > 0 ∨ b > 0` is `TLSConfig.Enabled` as regenerated (`Facts.C20.tlsEnabled`): certificate or key configured -/
theorem tlsLoad_eq_none_iff (f : TLSFiles) :
    tlsLoad (fun a b _ => decide (a > 0 ∨ b > 0)) f = none ↔
      (f.certLen > 0 ∧ f.keyLen > 0 ∧ f.trustLen > 0 ∧ f.valid = true) ∨ (f.certLen = 0 ∧ f.keyLen = 0) := by
  simp only [tlsLoad, Nat.pos_iff_ne_zero]
  by_cases a0 : f.certLen = 0
  · by_cases b0 : f.keyLen = 0 <;> simp [a0, b0]
  · by_cases b0 : f.keyLen = 0
    · simp [a0, b0]
    · by_cases t0 : f.trustLen = 0 <;> cases f.valid <;> simp [a0, b0, t0]

theorem startFiles_refines (tlds l2s : List Bytes) (c : Config) (f : TLSFiles) (hc : f.consistent = true) :
    startFiles (fun a b _ => decide (a > 0 ∨ b > 0)) tlds l2s c f = start tlds l2s { c with tls := decide (f.certLen > 0 ∨ f.keyLen > 0) } := by
  apply startFiles_eq_start
  unfold TLSFiles.consistent at hc
  simp only [Bool.or_eq_true, Bool.and_eq_true, decide_eq_true_eq] at hc
  rcases hc with ⟨⟨⟨h1, h2⟩, h3⟩, h4⟩ | ⟨⟨h1, h2⟩, _⟩
  · exact (tlsLoad_eq_none_iff f).mpr (Or.inl ⟨h1, h2, h3, h4⟩)
  · exact (tlsLoad_eq_none_iff f).mpr (Or.inr ⟨h1, h2⟩)

theorem startFiles_ok (tlds l2s : List Bytes) (c : Config) (f : TLSFiles) (r : Running)
    (h : startFiles (fun a b _ => decide (a > 0 ∨ b > 0)) tlds l2s c f = .ok r) :
    (f.certLen > 0 ∧ f.keyLen > 0 ∧ f.trustLen > 0 ∧ f.valid = true) ∨ (f.certLen = 0 ∧ f.keyLen = 0 ∧ (c.strict = true → c.nuts = false)) := by
  have hg := startFiles_ok_tlsLoad _ tlds l2s c f r h
  rw [startFiles_eq_start _ tlds l2s c f hg] at h
  have hn := ((start_eq_ok _ _ _ r).mp h).2.2.2.2.1
  rcases (tlsLoad_eq_none_iff f).mp hg with hfull | ⟨a0, b0⟩
  · exact Or.inl hfull
  · refine Or.inr ⟨a0, b0, fun hs => ?_⟩
    simpa [networkConfigure, a0, b0, hs] using hn

end Nuts.C20
