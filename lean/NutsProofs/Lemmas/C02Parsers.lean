/-
  C02 — the two pure parsers in front of the handlers: request objects (jar.go `Parse` / `validate`: what accepted
  parameters were established from, `JarAccepted`, and which remote calls are made on the way, `JarCallsOK`) and the
  policy directory (policy/local.go: what a successful load maps every scope to).
-/
import NutsModel.C02.Jar
import NutsModel.C02.Policy
import NutsProofs.Lemmas.Base

namespace Nuts.C02

/-- everything `jar.Parse` established when it returns parameters -/
def JarAccepted (env : JarEnv) (q : JarQuery) (p : Params) : Prop :=
  ∃ raw t keys,
    ((q.request = raw ∧ raw ≠ "" ∧ q.requestURI = "") ∨
     (q.request = "" ∧ q.requestURI ≠ "" ∧
        (((q.requestURIMethod = "" ∨ q.requestURIMethod = "get") ∧ env.fetchGet q.requestURI = some raw) ∨
         (q.requestURIMethod = "post" ∧ env.fetchPost q.requestURI = some raw)))) ∧
    env.parse raw = some t ∧ p = t.claims ∧ pget p "client_id" = q.clientId ∧
    env.config q.clientId = some keys ∧ lookupKid keys t.kid = some t.keyThumb

theorem jarValidate_ok (env : JarEnv) (raw cid : String) (calls : List JarCall) (p : Params)
    (h : jarValidate env raw cid = (calls, .ok p)) :
    ∃ t keys, env.parse raw = some t ∧ p = t.claims ∧ pget t.claims "client_id" = cid ∧
      env.config cid = some keys ∧ lookupKid keys t.kid = some t.keyThumb ∧ calls = [.config cid] := by
  revert h
  fun_cases jarValidate env raw cid with
  | case6 t ht hc keys hk thumb hl hth =>
    intro h
    exact ⟨t, keys, ht, (Res.ok.inj (Prod.mk.inj h).2).symm, (Decidable.not_not.mp hc).symm, hk, by rw [hl, Decidable.not_not.mp hth],
      (Prod.mk.inj h).1.symm⟩
  | _ => intro h; cases h

theorem jarValidate_calls (env : JarEnv) (raw cid : String) :
    (jarValidate env raw cid).1 = [] ∨
    ((jarValidate env raw cid).1 = [.config cid] ∧ ∃ t, env.parse raw = some t ∧ pget t.claims "client_id" = cid) := by
  fun_cases jarValidate env raw cid with
  | case1 | case2 => exact .inl rfl
  | case3 t ht hc | case4 t ht hc | case5 t ht hc | case6 t ht hc => exact .inr ⟨rfl, t, ht, (Decidable.not_not.mp hc).symm⟩

theorem jarParse_ok (env : JarEnv) (q : JarQuery) (calls : List JarCall) (p : Params)
    (h : jarParse env q = (calls, .ok p)) : JarAccepted env q p := by
  revert h
  fun_cases jarParse env q with
  | case2 hreq huri =>
    intro h
    obtain ⟨t, keys, ht, hp, hc, hk, hl, _⟩ := jarValidate_ok env q.request q.clientId calls p h
    exact ⟨q.request, t, keys, .inl ⟨rfl, hreq, Decidable.not_not.mp huri⟩, ht, hp, by rw [hp]; exact hc, hk, hl⟩
  | case4 hreq huri hm raw hf =>
    intro h
    obtain ⟨t, keys, ht, hp, hc, hk, hl, _⟩ :=
      jarValidate_ok env raw q.clientId (jarValidate env raw q.clientId).1 p (by rw [← (Prod.mk.inj h).2])
    exact ⟨raw, t, keys, .inr ⟨Decidable.not_not.mp hreq, huri, .inl ⟨hm, hf⟩⟩, ht, hp, by rw [hp]; exact hc, hk, hl⟩
  | case6 hreq huri _ hm raw hf =>
    intro h
    obtain ⟨t, keys, ht, hp, hc, hk, hl, _⟩ :=
      jarValidate_ok env raw q.clientId (jarValidate env raw q.clientId).1 p (by rw [← (Prod.mk.inj h).2])
    exact ⟨raw, t, keys, .inr ⟨Decidable.not_not.mp hreq, huri, .inr ⟨hm, hf⟩⟩, ht, hp, by rw [hp]; exact hc, hk, hl⟩
  | _ => intro h; cases h

/-- the remote calls of `jar.Parse`, whatever the outcome: at most one fetch - of the announced request_uri, by the
    announced method - followed by at most one configuration request, for the client id of the query, and that one only
    after a request object verified whose signed client_id claim is that client id -/
def JarCallsOK (env : JarEnv) (q : JarQuery) (calls : List JarCall) : Prop :=
  (∃ pre, (pre = [] ∨ pre = [JarCall.get q.requestURI] ∨ pre = [JarCall.post q.requestURI]) ∧
     (calls = pre ∨ calls = pre ++ [JarCall.config q.clientId])) ∧
  (JarCall.config q.clientId ∈ calls → ∃ raw t, env.parse raw = some t ∧ pget t.claims "client_id" = q.clientId) ∧
  (q.requestURI = "" → calls = [] ∨ calls = [JarCall.config q.clientId])

def KeysNodup (m : Policy) : Prop := (m.map (·.1)).Nodup

theorem lookupPolicy_eq_alGet : ∀ (m : Policy) (s : String), lookupPolicy m s = alGet m s
  | [], _ => rfl
  | (k, v) :: m, s => by rw [lookupPolicy, alGet_cons, lookupPolicy_eq_alGet m s]; simp

theorem lookupPolicy_none_iff (m : Policy) (s : String) : lookupPolicy m s = none ↔ s ∉ m.map (·.1) := by
  rw [lookupPolicy_eq_alGet]; exact alGet_eq_none_iff

theorem lookupPolicy_some_iff (m : Policy) (hn : KeysNodup m) (s : String) (d : List (String × Def)) :
    lookupPolicy m s = some d ↔ (s, d) ∈ m := by
  rw [lookupPolicy_eq_alGet]; exact ⟨mem_of_alGet_eq_some, alGet_of_mem_of_nodup hn⟩

theorem keysNodup_append_one (m : Policy) (hn : KeysNodup m) (s : String) (d : List (String × Def))
    (h : lookupPolicy m s = none) : KeysNodup (m ++ [(s, d)]) := by
  unfold KeysNodup at *
  rw [List.map_append]
  exact nodup_snoc hn ((lookupPolicy_none_iff m s).mp h)

theorem addScopes_ok (m file m' : Policy) (hn : KeysNodup m) (h : addScopes m file = .ok m') :
    KeysNodup m' ∧ ∀ p, p ∈ m' ↔ p ∈ m ∨ p ∈ file := by
  fun_induction addScopes m file with
  | case1 m => cases h; exact ⟨hn, by simp⟩
  | case2 => cases h
  | case3 m s d rest hl ih =>
    obtain ⟨hn', hm⟩ := ih (keysNodup_append_one m hn s d hl) h
    exact ⟨hn', fun p => by rw [hm p, List.mem_append, List.mem_singleton, List.mem_cons, or_assoc]⟩

theorem addScopes_err (m file : Policy) (x : String) (h : addScopes m file = .err x) : x = "duplicate-scope" := by
  fun_induction addScopes m file with
  | case1 => cases h
  | case2 => exact (Res.err.inj h).symm
  | case3 _ _ _ _ _ ih => exact ih h

theorem loadDir_skip (m : Policy) (e : DirEntry) (rest : List DirEntry) (hl : e.loaded = false) :
    loadDir m (e :: rest) = loadDir m rest := by
  conv => lhs; unfold loadDir
  cases hd : e.isDir
  · rw [if_neg nofun, if_pos (by simpa [DirEntry.loaded, hd] using hl)]
  · rw [if_pos rfl]

theorem loadDir_ok (m : Policy) (entries : List DirEntry) (pol : Policy) (hn : KeysNodup m)
    (h : loadDir m entries = .ok pol) :
    KeysNodup pol ∧
    (∀ e ∈ entries, e.loaded = true → e.content ≠ none) ∧
    ∀ p, p ∈ pol ↔ p ∈ m ∨ ∃ e ∈ entries, e.loaded = true ∧ ∃ l, e.content = some l ∧ p ∈ l := by
  fun_induction loadDir m entries with
  | case1 m => cases h; exact ⟨hn, fun _ h => (nomatch h), by simp⟩
  | case2 m e rest hd ih | case3 m e rest hd hj ih =>
    have hl : e.loaded = false := by simp [DirEntry.loaded, *]
    obtain ⟨h1, h2, h3⟩ := ih hn h
    refine ⟨h1, fun e' he' hl' => ?_, fun p => ?_⟩
    · rcases List.mem_cons.mp he' with rfl | he'
      · rw [hl] at hl'; cases hl'
      · exact h2 e' he' hl'
    · rw [h3 p]; simp [hl]
  | case5 m e rest hd hj scopes hc m' hadd ih =>
    have hl : e.loaded = true := by simp [DirEntry.loaded, *]
    obtain ⟨hn', hm'⟩ := addScopes_ok m scopes m' hn hadd
    obtain ⟨h1, h2, h3⟩ := ih hn' h
    refine ⟨h1, fun e' he' hl' => ?_, fun p => ?_⟩
    · rcases List.mem_cons.mp he' with rfl | he'
      · rw [hc]; simp
      · exact h2 e' he' hl'
    · rw [h3 p, hm' p]; simp [hl, hc, or_assoc]
  | case4 | case6 | case7 => cases h

end Nuts.C02
