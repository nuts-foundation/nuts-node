/-
  C01 — `strconv.Atoi` on a `statusListIndex` text (NutsModel/C01/Atoi.lean): the parser on the sign/body split of its text,
  and what that split does.
-/
import NutsModel.C01.Atoi
namespace Nuts.C01

theorem indexOfText_iff_split (s : String) (n : Nat) :
    indexOfText s = some n ↔
      (splitSign s.toList).2 ≠ [] ∧ (splitSign s.toList).2.all isAsciiDigit = true ∧ decVal (splitSign s.toList).2 0 = n ∧
      if (splitSign s.toList).1 then n = 0 else n ≤ maxInt64 := by
  unfold indexOfText goAtoi
  generalize splitSign s.toList = p
  obtain ⟨neg, body⟩ := p
  by_cases he : body = []
  · simp [he]
  by_cases hd : body.all isAsciiDigit = true
  · cases neg
    · by_cases hr : decVal body 0 ≤ maxInt64 <;> simp [he, hd, hr] <;> omega
    · by_cases hr : decVal body 0 ≤ maxInt64 + 1 <;> simp [he, hd, hr] <;> omega
  · simp [he, hd]

theorem splitSign_cases (cs : List Char) :
    (cs = (splitSign cs).2 ∧ (splitSign cs).1 = false) ∨ (cs = '+' :: (splitSign cs).2 ∧ (splitSign cs).1 = false) ∨
      (cs = '-' :: (splitSign cs).2 ∧ (splitSign cs).1 = true) := by
  fun_cases splitSign cs with
  | case1 => exact .inl ⟨rfl, rfl⟩
  | case2 => exact .inr (.inr ⟨rfl, rfl⟩)
  | case3 => exact .inr (.inl ⟨rfl, rfl⟩)
  | case4 => exact .inl ⟨rfl, rfl⟩

theorem digit_not_sign {c : Char} (h : isAsciiDigit c = true) : c ≠ '-' ∧ c ≠ '+' := by
  constructor <;> (intro e; subst e; revert h; decide)

theorem splitSign_digits {body : List Char} (hdig : ∀ c ∈ body, isAsciiDigit c = true) : splitSign body = (false, body) := by
  cases body with
  | nil => rfl
  | cons c r =>
    have h := digit_not_sign (hdig c List.mem_cons_self)
    simp only [splitSign, if_neg h.1, if_neg h.2]

end Nuts.C01
