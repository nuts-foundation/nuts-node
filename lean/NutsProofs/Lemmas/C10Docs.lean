/-
  C10 — lemmas for NutsModel/C10/DocShelves.lean: the content-addressed shelves txRefV2 / documentsV2 hold, after every
  sequence of Adds (also Adds whose first or second write transaction failed), the bytes of every document an event or a
  metadata record refers to; the 4-byte big-endian counter codec.
-/
import NutsModel.C10.DocShelves
import NutsProofs.Lemmas.C10

namespace Nuts.C10

theorem dec_enc_u32 (n : Nat) (h : n < 4294967296) : decU32 (some (encU32 n)) = .ok n := by
  simp only [encU32, decU32, Res.ok.injEq]
  rw [Nat.mod_eq_of_lt (show n / 16777216 < 256 by omega)]
  omega

theorem u32_of_small (n : Nat) (h : n < 4294967296) : u32 (n : Int) = n := by
  unfold u32
  rw [Int.emod_eq_of_lt (by omega) (by omega)]
  rfl

theorem u32_pred (n : Nat) (h1 : 1 ≤ n) (h : n < 4294967296) : u32 ((n : Int) - 1) = n - 1 := by
  have := u32_of_small (n - 1) (Nat.lt_of_le_of_lt (Nat.sub_le n 1) h)
  rwa [Int.natCast_sub h1] at this

theorem u32_lt (z : Int) : u32 z < 4294967296 := by
  unfold u32; omega

def CA (docs : List (Hash × String)) : Prop := ∀ h str, alGet docs h = some str → h = "H:" ++ str

theorem ca_nil : CA [] := by intro h str hg; simp [alGet] at hg

theorem ca_put {docs : List (Hash × String)} (hc : CA docs) (s : String) : CA (alPut docs ("H:" ++ s) s) := by
  intro h str hg
  by_cases hh : h = "H:" ++ s
  · subst hh
    rw [alGet_alPut_self] at hg
    cases hg; rfl
  · rw [alGet_alPut_of_ne _ _ hh] at hg
    exact hc h str hg

theorem ca_put_mono {docs : List (Hash × String)} (hc : CA docs) (s : String) {h str : String}
    (hg : alGet docs h = some str) : alGet (alPut docs ("H:" ++ s) s) h = some str := by
  by_cases hh : h = "H:" ++ s
  · have := hc h str hg
    rw [hh] at this
    have hs : s = str := (String.append_right_inj "H:").mp this
    subst hs; subst hh
    exact alGet_alPut_self _ _ _
  · rw [alGet_alPut_of_ne _ _ hh]; exact hg

def MergedCA (l : List (Doc × Meta)) : Prop := ∀ q ∈ l, q.2.isConflicted = true → q.2.hash = "H:" ++ q.1.render

theorem writeMerged_spec : ∀ (l : List (Doc × Meta)) (docs : List (Hash × String)), CA docs → MergedCA l →
    CA (writeMerged docs l) ∧ (∀ h str, alGet docs h = some str → alGet (writeMerged docs l) h = some str) ∧
    ∀ p ∈ l, p.2.isConflicted = true → alGet (writeMerged docs l) p.2.hash = some p.1.render := by
  intro l
  induction l with
  | nil => intro docs hc _; exact ⟨hc, fun _ _ h => h, nofun⟩
  | cons q l ih =>
    intro docs hc hm
    -- one step: a content-addressed Put, or nothing
    have hstep : CA (writeMergedStep docs q) ∧
        (∀ h str, alGet docs h = some str → alGet (writeMergedStep docs q) h = some str) ∧
        (q.2.isConflicted = true → alGet (writeMergedStep docs q) q.2.hash = some q.1.render) := by
      unfold writeMergedStep
      by_cases hq : q.2.isConflicted = true
      · rw [if_pos hq, hm q List.mem_cons_self hq]
        exact ⟨ca_put hc _, fun _ _ => ca_put_mono hc _, fun _ => alGet_alPut_self _ _ _⟩
      · rw [if_neg hq]; exact ⟨hc, fun _ _ h => h, fun h => absurd h hq⟩
    obtain ⟨c1, s1, g1⟩ := hstep
    obtain ⟨c2, s2, g2⟩ := ih (writeMergedStep docs q) c1 (fun x hx => hm x (List.mem_cons_of_mem _ hx))
    refine ⟨c2, fun h str hg => s2 h str (s1 h str hg), fun p hp hpc => ?_⟩
    rcases List.mem_cons.mp hp with rfl | hp
    · exact s2 _ _ (g1 hpc)
    · exact g2 p hp hpc

theorem applyEvent_doc_hash (cfg : Cfg) (evs : List Event) (cur : Option Meta) (e : Event) (d : Doc) (m : Meta)
    (h : applyEvent cfg evs cur e = .ok (d, m)) :
    (d = e.doc ∧ m.hash = e.payloadHash) ∨ (m.hash = "H:" ++ d.render ∧ m.isConflicted = true) := by
  obtain ⟨_, _, ⟨hd, hh, _⟩ | ⟨c, _, hne, hf, hh⟩⟩ := applyEvent_ok h
  · exact Or.inl ⟨hd, hh⟩
  · -- the sources are the event itself and the merged ones
    have hpos := List.length_pos_iff.mpr hne
    refine Or.inr ⟨hh, ?_⟩
    simp only [Meta.isConflicted, foldl_step_srcs hf, List.length_append, List.length_cons,
      List.length_nil, decide_eq_true_eq]
    omega

theorem applyAll_doc_hash (cfg : Cfg) (evs : List Event) :
    ∀ (es : List Event) (cur : Option Meta) (c : List (Doc × Meta)), applyAll cfg evs cur es = .ok c →
      ∀ p ∈ c, (∃ e ∈ es, p.1 = e.doc ∧ p.2.hash = e.payloadHash) ∨
        (p.2.hash = "H:" ++ p.1.render ∧ p.2.isConflicted = true) := by
  intro es cur c h p hp
  obtain ⟨cur', e, he, h'⟩ := applyAll_mem h p hp
  exact (applyEvent_doc_hash cfg evs cur' e p.1 p.2 h').imp_left fun ⟨a, b⟩ => ⟨e, he, a, b⟩

theorem mergedCA_of_applyAll (cfg : Cfg) (evs es : List Event) (cur : Option Meta) (c : List (Doc × Meta))
    (hconv : ∀ e ∈ es, e.payloadHash = "H:" ++ e.doc.render) (h : applyAll cfg evs cur es = .ok c) : MergedCA c := by
  intro q hq _
  rcases applyAll_doc_hash cfg evs es cur c h q hq with ⟨e, he, a, b⟩ | hx
  · rw [b, a]; exact hconv e he
  · exact hx.1

theorem addDid_chain_split (cfg : Cfg) (st st' : DidState) (e : Event) (hi : Inv cfg st)
    (h : addDid cfg st e = .ok (some st')) :
    st'.chain.take (insert e st.events).2 = st.chain.take (insert e st.events).2 := by
  have hlen : st.chain.length = st.events.length := applyAll_length hi.chain
  have hidx := insert_idx_le e st.events
  obtain ⟨_, _, _, _, _, rfl⟩ := addDid_some h
  rw [List.take_append_of_le_length (by rw [List.length_take]; omega), List.take_take, Nat.min_self]

/-- `U` = the accepted transactions that may arrive. A payload hash is the hash of the published bytes; a ref names one
    transaction (so one payload hash). -/
structure Accepted (U : List Event) : Prop where
  conv : ∀ e ∈ U, e.payloadHash = "H:" ++ e.doc.render
  ref : ∀ a ∈ U, ∀ b ∈ U, a.ref = b.ref → a.payloadHash = b.payloadHash

structure DInv (cfg : Cfg) (U : List Event) (b : Blob) (s : Store) : Prop where
  inv : StoreInv cfg s
  ca : CA b.docs
  sub : ∀ id, ∀ e ∈ (s.get id).events, e ∈ U
  ev : ∀ id, ∀ e ∈ (s.get id).events,
    alGet b.txRef e.ref = some e.payloadHash ∧ alGet b.docs e.payloadHash = some e.doc.render
  ch : ∀ id, ∀ p ∈ (s.get id).chain, alGet b.docs p.2.hash = some p.1.render
  tx : ∀ r h, alGet b.txRef r = some h → ∃ e ∈ U, e.ref = r ∧ e.payloadHash = h

theorem dinv_empty (cfg : Cfg) (U : List Event) : DInv cfg U {} {} :=
  ⟨storeInv_empty cfg, ca_nil, (fun _ e he => by cases he), (fun _ e he => by cases he), (fun _ p hp => by cases hp),
   (fun r h hg => by simp [alGet] at hg)⟩

theorem dinv_writeDocument (cfg : Cfg) (U : List Event) (hU : Accepted U) (b : Blob) (s : Store) (e : Event) (he : e ∈ U)
    (h : DInv cfg U b s) : DInv cfg U (writeDocument b e) s ∧
      alGet (writeDocument b e).txRef e.ref = some e.payloadHash ∧
      alGet (writeDocument b e).docs e.payloadHash = some e.doc.render := by
  have hconv := hU.conv e he
  have hdocs : ∀ k str, alGet b.docs k = some str → alGet (writeDocument b e).docs k = some str := by
    intro k str hg
    simp only [writeDocument]
    rw [hconv]
    exact ca_put_mono h.ca _ hg
  refine ⟨⟨h.inv, ?_, h.sub, ?_, ?_, ?_⟩, ?_, ?_⟩
  · simp only [writeDocument]; rw [hconv]; exact ca_put h.ca _
  · intro id x hx
    obtain ⟨a, c⟩ := h.ev id x hx
    refine ⟨?_, hdocs _ _ c⟩
    simp only [writeDocument]
    by_cases hr : x.ref = e.ref
    · rw [hr, alGet_alPut_self, hU.ref x (h.sub id x hx) e he hr]
    · rw [alGet_alPut_of_ne _ _ hr]; exact a
  · intro id p hp
    exact hdocs _ _ (h.ch id p hp)
  · intro r k hg
    simp only [writeDocument] at hg
    by_cases hr : r = e.ref
    · subst hr
      rw [alGet_alPut_self] at hg
      cases hg
      exact ⟨e, he, rfl, rfl⟩
    · rw [alGet_alPut_of_ne _ _ hr] at hg
      exact h.tx r k hg
  · simp only [writeDocument]; exact alGet_alPut_self _ _ _
  · simp only [writeDocument]; exact alGet_alPut_self _ _ _

theorem dAdd_cases {cfg : Cfg} {b b' : Blob} {s s' : Store} {e : Event} {mode : Nat}
    (h : dAdd cfg b s e mode = .ok (b', s')) :
    (mode = 1 ∧ b' = b ∧ s' = s) ∨ (mode = 2 ∧ b' = writeDocument b e ∧ s' = s) ∨
    (mode ≠ 1 ∧ mode ≠ 2 ∧ add cfg s e = .ok s' ∧
      b' = match addDid cfg (s.get e.doc.id) e with
        | .ok (some _) =>
          { writeDocument b e with
            docs := writeMerged (writeDocument b e).docs (appliedSuffix (s.get e.doc.id) (s'.get e.doc.id) e) }
        | _ => writeDocument b e) := by
  revert h
  fun_cases dAdd cfg b s e mode with
  | case1 h1 => rintro ⟨⟩; exact Or.inl ⟨h1, rfl, rfl⟩
  | case2 h1 _ h2 => intro h; obtain ⟨rfl, rfl⟩ := Prod.mk.inj (Res.ok.inj h); exact Or.inr (Or.inl ⟨h2, rfl, rfl⟩)
  | case5 h1 _ h2 s1 hA st hd =>
    intro h; obtain ⟨rfl, rfl⟩ := Prod.mk.inj (Res.ok.inj h)
    exact Or.inr (Or.inr ⟨h1, h2, hA, by rw [hd]⟩)
  | case6 h1 _ h2 s1 hA hd =>
    intro h; obtain ⟨rfl, rfl⟩ := Prod.mk.inj (Res.ok.inj h)
    refine Or.inr (Or.inr ⟨h1, h2, hA, ?_⟩)
    split
    · exact absurd ‹_› (hd _)
    · rfl
  | _ => nofun

theorem dAdd_dinv (cfg : Cfg) (U : List Event) (hU : Accepted U) (b b' : Blob) (s s' : Store) (e : Event) (mode : Nat)
    (he : e ∈ U) (h : DInv cfg U b s) (hadd : dAdd cfg b s e mode = .ok (b', s')) : DInv cfg U b' s' := by
  obtain ⟨hw, hwt, hwd⟩ := dinv_writeDocument cfg U hU b s e he h
  rcases dAdd_cases hadd with ⟨_, rfl, rfl⟩ | ⟨_, rfl, rfl⟩ | ⟨_, _, hA, hb⟩
  · exact h
  · exact hw
  rcases add_step h.inv hA with ⟨hn, rfl⟩ | ⟨st', p, hc⟩
  · rw [hn] at hb; exact hb ▸ hw
  have hsome := hc.did
  have hInew := hc.inv
  have hg := get_of_dids (congrArg Store.dids hc.store)
  rw [hsome, hg, if_pos rfl] at hb
  have hmem : ∀ x ∈ st'.events, x = e ∨ x ∈ (s.get e.doc.id).events := fun x hx => List.mem_cons.mp (hc.perm.mem_iff.mp hx)
  have hsubNew : ∀ x ∈ st'.events, x ∈ U := fun x hx => (hmem x hx).elim (· ▸ he) (h.sub _ x)
  -- the re-applied suffix: merged documents are stored under the hash of their bytes
  have hmc : MergedCA (appliedSuffix (s.get e.doc.id) st' e) := fun q hq =>
    mergedCA_of_applyAll cfg _ _ none _ (fun x hx => hU.conv x (hsubNew x hx)) hInew.chain q (List.mem_of_mem_drop hq)
  obtain ⟨hca, hmono, hget⟩ := writeMerged_spec _ _ hw.ca hmc
  subst hb
  have hevNew : ∀ x ∈ st'.events, alGet (writeDocument b e).txRef x.ref = some x.payloadHash ∧
      alGet (writeMerged (writeDocument b e).docs (appliedSuffix (s.get e.doc.id) st' e)) x.payloadHash =
        some x.doc.render := fun x hx =>
    (hmem x hx).elim (fun hxe => by subst hxe; exact ⟨hwt, hmono _ _ hwd⟩) fun hx =>
      ⟨(hw.ev _ x hx).1, hmono _ _ (hw.ev _ x hx).2⟩
  refine ⟨add_storeInv cfg s s' e h.inv hA, hca, fun id x hx => ?_, fun id x hx => ?_, fun id q hq => ?_, hw.tx⟩
  · rw [hg] at hx; split at hx
    · exact hsubNew x hx
    · exact h.sub id x hx
  · rw [hg] at hx; split at hx
    · exact hevNew x hx
    · exact ⟨(hw.ev id x hx).1, hmono _ _ (hw.ev id x hx).2⟩
  · rw [hg] at hq; split at hq
    · rcases applyAll_doc_hash cfg _ _ none _ hInew.chain q hq with ⟨x, hx, a, c⟩ | ⟨_, hconf⟩
      · -- the published document of a listed event
        rw [c, a]; exact (hevNew x hx).2
      · -- a merged document: kept from before the insertion point, or written by this transaction
        rw [← List.take_append_drop (insert e (s.get e.doc.id).events).2 st'.chain] at hq
        rcases List.mem_append.mp hq with hq | hq
        · rw [addDid_chain_split cfg _ _ e (get_inv cfg s h.inv _) hsome] at hq
          exact hmono _ _ (hw.ch _ q (List.mem_of_mem_take hq))
        · exact hget q hq hconf
    · exact hmono _ _ (hw.ch id q hq)

theorem dAddAll_nil (cfg : Cfg) (bs : Blob × Store) : dAddAll cfg bs [] = .ok bs := rfl

theorem dAddAll_cons (cfg : Cfg) (bs : Blob × Store) (e : Event) (mode : Nat) (rest : List (Event × Nat)) :
    dAddAll cfg bs ((e, mode) :: rest) = (dAdd cfg bs.1 bs.2 e mode).bind fun bs' => dAddAll cfg bs' rest := by
  rw [dAddAll]
  cases dAdd cfg bs.1 bs.2 e mode <;> rfl

theorem dAddAll_dinv (cfg : Cfg) (U : List Event) (hU : Accepted U) :
    ∀ (l : List (Event × Nat)) (bs bs' : Blob × Store), (∀ p ∈ l, p.1 ∈ U) → DInv cfg U bs.1 bs.2 →
      dAddAll cfg bs l = .ok bs' → DInv cfg U bs'.1 bs'.2 := by
  intro l
  induction l with
  | nil => intro bs bs' _ h hr; cases hr; exact h
  | cons p l ih =>
    intro bs bs' hl h hr
    obtain ⟨e, mode⟩ := p
    rw [dAddAll_cons] at hr
    obtain ⟨bs1, hA, hr⟩ := Res.bind_eq_ok.mp hr
    exact ih bs1 bs' (fun q hq => hl q (List.mem_cons_of_mem _ hq))
      (dAdd_dinv cfg U hU _ _ _ _ e mode (hl (e, mode) List.mem_cons_self) h hA) hr

/-- the events of a sequence whose Add ran both write transactions -/
def applied (l : List (Event × Nat)) : List Event :=
  (l.filter (fun p => !(p.2 == 1 || p.2 == 2))).map (·.1)

theorem dAddAll_store (cfg : Cfg) :
    ∀ (l : List (Event × Nat)) (bs bs' : Blob × Store), dAddAll cfg bs l = .ok bs' →
      addAll cfg bs.2 (applied l) = .ok bs'.2 := by
  intro l
  induction l with
  | nil => intro bs bs' h; cases h; rfl
  | cons p l ih =>
    intro bs bs' h
    obtain ⟨e, mode⟩ := p
    rw [dAddAll_cons] at h
    obtain ⟨bs1, hA, hr⟩ := Res.bind_eq_ok.mp h
    have hrec := ih bs1 bs' hr
    rcases dAdd_cases hA with ⟨rfl, _, hs⟩ | ⟨rfl, _, hs⟩ | ⟨h1, h2, ha, _⟩
    · exact hs ▸ hrec
    · exact hs ▸ hrec
    · have hf : (!(mode == 1 || mode == 2)) = true := by simp [h1, h2]
      simp only [applied, List.filter_cons, hf, if_true, List.map_cons, addAll_cons, ha]
      exact hrec

theorem statsStep_refines (st : Stats) (c d : Nat) (was now : Bool) (lv : Nat)
    (hc : decU32 st.cc = .ok c) (hd : decU32 st.dc = .ok d) (hcb : c + 1 < 4294967296) (hdb : d + 1 < 4294967296)
    (hpos : was = true → now = false → 1 ≤ c) :
    ∃ st', statsStep st was now lv = .ok st' ∧
      decU32 st'.cc = .ok (if now then (if was then c else c + 1) else (if was then c - 1 else c)) ∧
      decU32 st'.dc = .ok (if lv = 0 then d + 1 else d) := by
  have e1 : u32 ((c : Int) + 1) = c + 1 := u32_of_small (c + 1) hcb
  have e3 : u32 ((d : Int) + 1) = d + 1 := u32_of_small (d + 1) hdb
  generalize hc' : (if now then (if was then c else u32 (c + 1)) else (if was then u32 ((c : Int) - 1) else c)) = c'
  have hc'v : c' = (if now then (if was then c else c + 1) else (if was then c - 1 else c)) := by
    rw [← hc']
    cases was <;> cases now <;> simp only [if_true, if_false, Bool.false_eq_true, e1]
    exact u32_pred c (hpos rfl rfl) (by omega)
  have hc'lt : c' < 4294967296 := by
    rw [hc'v]; cases was <;> cases now <;> simp only [if_true, if_false, Bool.false_eq_true] <;> omega
  unfold statsStep
  simp only [hc, hc']
  by_cases hlv : lv = 0
  · simp only [hlv, if_true, hd, e3]
    exact ⟨_, rfl, by rw [← hc'v]; exact dec_enc_u32 _ hc'lt, dec_enc_u32 _ (by omega)⟩
  · simp only [hlv, if_false]
    exact ⟨_, rfl, by rw [← hc'v]; exact dec_enc_u32 _ hc'lt, hd⟩

/-- `n` bounds the number of Adds so far -/
structure StatsInv (cfg : Cfg) (s : Store) (st : Stats) (n : Nat) : Prop where
  inv : StoreInv cfg s
  cc : decU32 st.cc = .ok s.conflictedCount
  dc : decU32 st.dc = .ok s.documentCount
  bound : s.documentCount ≤ n

theorem conflicted_le_documents (cfg : Cfg) (s : Store) (h : StoreInv cfg s) : s.conflictedCount ≤ s.documentCount := by
  rw [h.confl, h.docs]; exact List.length_filter_le _ _

theorem conflicted_pos (cfg : Cfg) (s : Store) (h : StoreInv cfg s) (id : String) (hc : (s.get id).conflicted = true) :
    1 ≤ s.conflictedCount := by
  rw [h.confl, ← List.length_map (·.1)]
  exact List.length_pos_of_mem ((mem_conflKeys_iff cfg s h id).mpr hc)

theorem dAddS_step (cfg : Cfg) (b b' : Blob) (s s' : Store) (st : Stats) (e : Event) (mode n : Nat)
    (hn : n + 2 < 4294967296) (h : StatsInv cfg s st n) (hadd : dAdd cfg b s e mode = .ok (b', s')) :
    ∃ st', dAddS cfg b s st e mode = .ok (b', s', st') ∧ StatsInv cfg s' st' (n + 1) := by
  unfold dAddS
  simp only [hadd]
  have hskip : StatsInv cfg s st (n + 1) := ⟨h.inv, h.cc, h.dc, Nat.le_succ_of_le h.bound⟩
  rcases dAdd_cases hadd with ⟨h1, _, rfl⟩ | ⟨h2, _, rfl⟩ | ⟨h1, h2, ha, _⟩
  · exact ⟨st, by rw [if_pos (Or.inl h1)], hskip⟩
  · exact ⟨st, by rw [if_pos (Or.inr (Or.inl h2))], hskip⟩
  rcases add_step h.inv ha with ⟨hdup, rfl⟩ | ⟨st', p, hc⟩
  · exact ⟨st, by rw [if_pos (Or.inr (Or.inr (addDid_none hdup)))], hskip⟩
  -- `applyFrom` ran: the statistics code sees the flags and the last version `add` saw
  have hcon : ¬ (mode = 1 ∨ mode = 2 ∨ contains (s.get e.doc.id).events e = true) := by
    simp only [h1, h2, (addDid_some hc.did).1, Bool.false_eq_true, or_self, not_false_eq_true]
  have hle := conflicted_le_documents cfg s h.inv
  have hb := h.bound
  obtain ⟨st1, hst, hcc', hdc'⟩ := statsStep_refines st s.conflictedCount s.documentCount
    (s.get e.doc.id).conflicted st'.conflicted p.2.version
    h.cc h.dc (by omega) (by omega) (fun hw _ => conflicted_pos cfg s h.inv _ hw)
  have hlv : lastVersionOf st' = p.2.version := by simp only [lastVersionOf, hc.last]
  rw [if_neg hcon, get_of_dids (congrArg Store.dids hc.store), if_pos rfl, hlv, hst]
  refine ⟨st1, rfl, add_storeInv cfg s s' e h.inv ha, hc.store ▸ hcc', hc.store ▸ hdc', ?_⟩
  rw [hc.store]
  dsimp only
  split <;> omega

theorem dAddSAll_nil (cfg : Cfg) (t : Blob × Store × Stats) : dAddSAll cfg t [] = .ok t := rfl

theorem dAddSAll_cons (cfg : Cfg) (t : Blob × Store × Stats) (e : Event) (mode : Nat) (rest : List (Event × Nat)) :
    dAddSAll cfg t ((e, mode) :: rest) = (dAddS cfg t.1 t.2.1 t.2.2 e mode).bind fun t' => dAddSAll cfg t' rest := by
  rw [dAddSAll]
  cases dAddS cfg t.1 t.2.1 t.2.2 e mode <;> rfl

theorem dAddSAll_total (cfg : Cfg) :
    ∀ (l : List (Event × Nat)) (b : Blob) (s : Store) (st : Stats) (n : Nat) (bs' : Blob × Store),
      n + l.length + 1 < 4294967296 → StatsInv cfg s st n → dAddAll cfg (b, s) l = .ok bs' →
      ∃ st', dAddSAll cfg (b, s, st) l = .ok (bs'.1, bs'.2, st') ∧ StatsInv cfg bs'.2 st' (n + l.length) := by
  intro l
  induction l with
  | nil => intro b s st n bs' _ h hr; cases hr; exact ⟨st, rfl, h⟩
  | cons p l ih =>
    intro b s st n bs' hn h hr
    obtain ⟨e, mode⟩ := p
    rw [dAddAll_cons] at hr
    obtain ⟨bs1, hA, hr⟩ := Res.bind_eq_ok.mp hr
    simp only [List.length_cons] at hn
    obtain ⟨st1, hs1, hi1⟩ := dAddS_step cfg b bs1.1 s bs1.2 st e mode n (by omega) h hA
    obtain ⟨st', hs', hi'⟩ := ih bs1.1 bs1.2 st1 (n + 1) bs' (by omega) hi1 hr
    refine ⟨st', by rw [dAddSAll_cons, hs1]; exact hs', ?_⟩
    rw [List.length_cons, show n + (l.length + 1) = n + 1 + l.length by omega]
    exact hi'

/-- what `HistorySinceVersion` returns when every document read succeeds: the published bytes of the listed events -/
def rawList (created : Nat) : Nat → List Event → List (String × Nat × Nat × Nat)
  | _, [] => []
  | v, e :: es => (e.doc.render, created, e.sigTime, v) :: rawList created (v + 1) es

theorem historyRawFrom_ok (b : Blob) (created : Nat) :
    ∀ (es : List Event) (v : Nat), (∀ e ∈ es, alGet b.docs e.payloadHash = some e.doc.render) →
      historyRawFrom b created v es = .ok (rawList created v es) := by
  intro es
  induction es with
  | nil => intro v _; rfl
  | cons e es ih =>
    intro v h
    unfold historyRawFrom
    simp only [h e (List.mem_cons_self ..), ih (v + 1) (fun x hx => h x (List.mem_cons_of_mem _ hx))]
    rfl

end Nuts.C10
