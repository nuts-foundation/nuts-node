/-
  C08 — shelves as association lists sorted by key (`putSorted` / `getSorted`): what a put does to a lookup and to a
  contiguous run of keys, that keys and lookups determine the list, and that a put keeps the keys strictly ascending
  (`Codec.Sorted`, the shape the byte layer reads back).  Core Lean only.
-/
import NutsModel.C08.State

namespace Nuts.C08

theorem getSorted_putSorted {α : Type} (k k' : Nat) (v : α) (l : List (Nat × α)) :
    getSorted k' (putSorted k v l) = if k' = k then some v else getSorted k' l := by
  fun_induction putSorted k v l with
  | case1 => rfl
  | case2 kx vx rest h1 => rfl
  | case3 vx rest h1 => simp only [getSorted]; split <;> rfl
  | case4 kx vx rest h1 h2 ih =>
    simp only [getSorted, ih]
    split
    · rw [if_neg (by omega)]
    · rfl

theorem putSorted_run {α : Type} (κ : Nat → Nat) (hκ : ∀ i j, i < j → κ i < κ j) (c : Nat) (v : α) :
    ∀ (k s : Nat) (f : Nat → α), s ≤ c → c ≤ s + k →
    putSorted (κ c) v ((List.range' s k).map fun i => (κ i, f i)) =
      (List.range' s (max k (c - s + 1))).map fun i => (κ i, if i = c then v else f i) := by
  intro k
  induction k with
  | zero =>
    intro s f h1 h2
    obtain rfl : c = s := by omega
    simp [putSorted, List.range'_succ]
  | succ k ih =>
    intro s f h1 h2
    by_cases h : c = s
    · subst h
      rw [show max (k + 1) (c - c + 1) = k + 1 by omega]
      simp only [List.range'_succ, List.map_cons, putSorted, Nat.lt_irrefl, if_false, if_true, List.cons.injEq, true_and]
      exact List.map_congr_left fun i hi => by rw [if_neg (by have := (List.mem_range'_1.mp hi).1; omega)]
    · have := hκ s c (by omega)
      rw [show max (k + 1) (c - s + 1) = max k (c - (s + 1) + 1) + 1 by omega]
      simp only [List.range'_succ, List.map_cons, putSorted, Nat.lt_asymm this, Nat.ne_of_gt this, if_false,
        ih (s + 1) f (by omega) (by omega), if_neg (Ne.symm h)]

theorem putSorted_keys {α : Type} (c : Nat) (v : α) : ∀ (l : List (Nat × α)) (s k : Nat),
    l.map (·.1) = List.range' s k → s ≤ c → c ≤ s + k →
    (putSorted c v l).map (·.1) = List.range' s (max k (c - s + 1)) := by
  intro l
  fun_induction putSorted c v l with
  | case1 =>
    intro s k h h1 h2
    obtain rfl : k = 0 := by simpa using (congrArg List.length h).symm
    obtain rfl : c = s := by omega
    simp [List.range'_succ]
  | case2 kx vx rest hlt =>
    intro s k h h1 h2
    simp only [List.map_cons] at h
    obtain ⟨rfl, _, _⟩ := List.range'_eq_cons_iff.mp h.symm
    omega
  | case3 vx rest hnlt =>
    intro s k h h1 h2
    simp only [List.map_cons] at h
    obtain ⟨rfl, hk, h⟩ := List.range'_eq_cons_iff.mp h.symm
    rw [show max k (s - s + 1) = k - 1 + 1 by omega, List.range'_succ, List.map_cons, h]
  | case4 kx vx rest hnlt hne ih =>
    intro s k h h1 h2
    simp only [List.map_cons] at h
    obtain ⟨rfl, hk, h⟩ := List.range'_eq_cons_iff.mp h.symm
    rw [List.map_cons, ih _ _ h (by omega) (by omega),
      show max k (c - s + 1) = max (k - 1) (c - (s + 1) + 1) + 1 by omega, List.range'_succ]

theorem assoc_eq_of_keys {α : Type} (f : Nat → α) (dflt : α) : ∀ (l : List (Nat × α)) (ks : List Nat),
    l.map (·.1) = ks → ks.Nodup → (∀ c ∈ ks, (getSorted c l).getD dflt = f c) → l = ks.map (fun c => (c, f c)) := by
  intro l
  induction l with
  | nil => intro ks h _ _; simp at h; subst h; rfl
  | cons x rest ih =>
    intro ks h nd hf
    obtain ⟨c, v⟩ := x
    cases ks with
    | nil => simp at h
    | cons c' ks' =>
      simp only [List.map_cons, List.cons.injEq] at h
      obtain ⟨hc, hrest⟩ := h
      subst hc
      have hnd := List.nodup_cons.mp nd
      have hv : v = f c := by
        have := hf c (by simp)
        simpa [getSorted] using this
      rw [List.map_cons, hv]
      congr 1
      apply ih ks' hrest hnd.2
      intro c2 hc2
      have hne : c2 ≠ c := fun e => hnd.1 (e ▸ hc2)
      have := hf c2 (by simp [hc2])
      simpa [getSorted, hne] using this

def Codec.Sorted {α : Type} (l : List (Nat × α)) : Prop := l.Pairwise (fun a b => a.1 < b.1)

theorem putSorted_head {α : Type} (k : Nat) (v : α) (l : List (Nat × α)) (h : ∀ x ∈ l, k < x.1) :
    putSorted k v l = (k, v) :: l := by
  cases l with
  | nil => rfl
  | cons x rest =>
    have := h x (by simp)
    obtain ⟨k', v'⟩ := x
    simp only [putSorted]
    rw [if_pos this]

theorem putSorted_mem {α : Type} (k : Nat) (v : α) (l : List (Nat × α)) (x : Nat × α) (hx : x ∈ putSorted k v l) :
    x = (k, v) ∨ x ∈ l := by
  fun_induction putSorted k v l with
  | case1 => exact .inl (List.mem_singleton.mp hx)
  | case2 kx vx rest h1 => exact List.mem_cons.mp hx
  | case3 vx rest h1 => exact (List.mem_cons.mp hx).imp_right (List.mem_cons_of_mem _)
  | case4 kx vx rest h1 h2 ih =>
    rcases List.mem_cons.mp hx with h | h
    · exact .inr (h ▸ List.mem_cons_self)
    · exact (ih h).imp_right (List.mem_cons_of_mem _)

theorem putSorted_sorted {α : Type} (k : Nat) (v : α) (l : List (Nat × α)) (hs : Codec.Sorted l) : Codec.Sorted (putSorted k v l) := by
  fun_induction putSorted k v l with
  | case1 => exact List.pairwise_singleton _ _
  | case2 kx vx rest h1 =>
    exact List.pairwise_cons.mpr ⟨fun x hx => (List.mem_cons.mp hx).elim (· ▸ h1)
      (fun h => Nat.lt_trans h1 ((List.pairwise_cons.mp hs).1 x h)), hs⟩
  | case3 vx rest h1 => exact List.pairwise_cons.mpr (List.pairwise_cons.mp hs)
  | case4 kx vx rest h1 h2 ih =>
    have hs' := List.pairwise_cons.mp hs
    refine List.pairwise_cons.mpr ⟨fun x hx => ?_, ih hs'.2⟩
    rcases putSorted_mem k v rest x hx with rfl | h
    · show kx < k; omega
    · exact hs'.1 x h

end Nuts.C08
