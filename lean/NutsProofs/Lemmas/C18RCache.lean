import NutsModel.C18.RCache
import NutsProofs.Lemmas.Base

namespace Nuts.C18

/-! ### the stateful response cache (http/client/caching.go, as repaired by b991549) -/

theorem eraseEntry_sub (h : CEntry) (l : List CEntry) : ∀ e ∈ eraseEntry h l, e ∈ l := by
  induction l with
  | nil => simp [eraseEntry]
  | cons x xs ih =>
    intro e he
    simp only [eraseEntry] at he
    split at he
    · exact List.mem_cons_of_mem _ he
    · rcases List.mem_cons.mp he with h1 | h1
      · simp [h1]
      · exact List.mem_cons_of_mem _ (ih e h1)

theorem sumSizes_cons (e : CEntry) (l : List CEntry) : sumSizes (e :: l) = (e.size : Int) + sumSizes l := rfl

theorem sumSizes_append (a b : List CEntry) : sumSizes (a ++ b) = sumSizes a + sumSizes b := by
  simp [sumSizes, List.sum_append]

theorem sumSizes_nonneg (l : List CEntry) : 0 ≤ sumSizes l := by
  induction l with
  | nil => simp [sumSizes]
  | cons x xs ih => simp only [sumSizes, List.map_cons, List.sum_cons] at ih ⊢; omega

theorem sumSizes_perm {a b : List CEntry} (h : a.Perm b) : sumSizes a = sumSizes b := by
  induction h with
  | nil => rfl
  | cons x _ ih => rw [sumSizes_cons, sumSizes_cons, ih]
  | swap x y l => simp only [sumSizes_cons]; omega
  | trans _ _ ih1 ih2 => exact ih1.trans ih2

/-- pointer identities are distinct, so `pop` removes from the index exactly the head entry itself -/
theorem eraseEntry_eq_erase {h : CEntry} : ∀ {l : List CEntry}, h ∈ l → (l.map (·.id)).Nodup → eraseEntry h l = l.erase h
  | x :: xs, hm, nd => by
    rw [List.map_cons, List.nodup_cons] at nd
    by_cases hx : x = h
    · rw [hx, eraseEntry, if_pos ⟨rfl, rfl⟩, List.erase_cons_head]
    · have hm' : h ∈ xs := (List.mem_cons.mp hm).resolve_left (Ne.symm hx)
      have hk : ¬ (x.key = h.key ∧ x.id = h.id) := fun e => nd.1 (e.2 ▸ List.mem_map_of_mem hm')
      rw [eraseEntry, if_neg hk, List.erase_cons_tail (by simpa using hx), eraseEntry_eq_erase hm' nd.2]

/-- invariant on the three fields the loops touch (+ the id counter) -/
structure InvT (l all : List CEntry) (size : Int) (next : Nat) : Prop where
  same : ∀ e, e ∈ l ↔ e ∈ all
  sorted : l.Pairwise (fun a b => a.exp ≤ b.exp)
  ids : ∀ e ∈ all, e.id < next
  nodupAll : (all.map (·.id)).Nodup
  nodupList : (l.map (·.id)).Nodup
  acct : size = sumSizes all
  acctL : size = sumSizes l

theorem nodup_of_map_id {l : List CEntry} (h : (l.map (·.id)).Nodup) : l.Nodup :=
  (List.pairwise_map.mp h).imp fun hne e => hne (congrArg (·.id) e)

/-- the expiry list is a permutation of the index: `same`, `nodupList` and `acctL` say no more than that -/
theorem InvT.perm {l all : List CEntry} {size : Int} {next : Nat} (hi : InvT l all size next) : l.Perm all :=
  (List.perm_ext_iff_of_nodup (nodup_of_map_id hi.nodupList) (nodup_of_map_id hi.nodupAll)).mpr hi.same

theorem InvT.of_perm {l all : List CEntry} {size : Int} {next : Nat} (hp : l.Perm all)
    (hs : l.Pairwise (fun a b => a.exp ≤ b.exp)) (hid : ∀ e ∈ all, e.id < next) (nd : (all.map (·.id)).Nodup)
    (ha : size = sumSizes all) : InvT l all size next :=
  ⟨fun _ => hp.mem_iff, hs, hid, nd, (hp.map _).nodup_iff.mpr nd, ha, ha.trans (sumSizes_perm hp).symm⟩

theorem InvT.pop {h : CEntry} {t all : List CEntry} {size : Int} {next : Nat} (hi : InvT (h :: t) all size next) :
    InvT t (eraseEntry h all) (size - (h.size : Int)) next := by
  have hp := hi.perm
  have hm : h ∈ all := hp.subset (List.mem_cons_self ..)
  rw [eraseEntry_eq_erase hm hi.nodupAll]
  refine .of_perm (List.cons_perm_iff_perm_erase.mp hp).2 (List.pairwise_cons.mp hi.sorted).2
    (fun e he => hi.ids e (List.mem_of_mem_erase he)) (hi.nodupAll.sublist (List.erase_sublist.map _)) ?_
  rw [hi.acct, sumSizes_perm (List.perm_cons_erase hm), sumSizes_cons]
  omega

theorem popWhile_allSub (p : CEntry → Int → Bool) (l all : List CEntry) (size : Int) :
    ∀ e ∈ (popWhile p l all size).2.1, e ∈ all := by
  fun_induction popWhile p l all size with
  | case1 | case3 => exact fun _ he => he
  | case2 h t all size _ ih => exact fun e he => eraseEntry_sub h all e (ih e he)

/-- what a `popWhile` loop guarantees -/
structure PopW (p : CEntry → Int → Bool) (size : Int) (next : Nat) (r : List CEntry × List CEntry × Int) : Prop where
  inv : InvT r.1 r.2.1 r.2.2 next
  sizeLe : r.2.2 ≤ size
  stop : r.1 = [] ∨ ∃ h t, r.1 = h :: t ∧ p h r.2.2 = false

theorem popWhile_spec (p : CEntry → Int → Bool) (l all : List CEntry) (size : Int) (next : Nat) (hi : InvT l all size next) :
    PopW p size next (popWhile p l all size) := by
  revert hi
  fun_induction popWhile p l all size with
  | case1 => exact fun hi => ⟨hi, Int.le_refl _, Or.inl rfl⟩
  | case2 h t all size _ ih =>
    intro hi
    have r := ih hi.pop
    exact ⟨r.inv, by have := r.sizeLe; omega, r.stop⟩
  | case3 h t all size hp => exact fun hi => ⟨hi, Int.le_refl _, Or.inr ⟨h, t, rfl, by simpa using hp⟩⟩

theorem linkAfter_perm (e : CEntry) (l : List CEntry) : (linkAfter e l).Perm (e :: l) := by
  induction l with
  | nil => exact List.Perm.refl _
  | cons x xs ih =>
    unfold linkAfter
    split
    · exact (List.Perm.cons x ih).trans (List.Perm.swap e x xs)
    · exact List.Perm.refl _

theorem linkIn_perm (e : CEntry) (l : List CEntry) : (linkIn e l).Perm (e :: l) := by
  cases l with
  | nil => exact List.Perm.refl _
  | cons h t =>
    simp only [linkIn]
    split
    · exact List.Perm.refl _
    · exact (List.Perm.cons h (linkAfter_perm e t)).trans (List.Perm.swap e h t)

theorem linkAfter_sorted (e : CEntry) (l : List CEntry) (hs : l.Pairwise (fun a b => a.exp ≤ b.exp)) :
    (linkAfter e l).Pairwise (fun a b => a.exp ≤ b.exp) := by
  induction l with
  | nil => simp [linkAfter]
  | cons x xs ih =>
    have hx := List.pairwise_cons.mp hs
    unfold linkAfter
    split
    · rename_i hlt
      refine List.pairwise_cons.mpr ⟨?_, ih hx.2⟩
      intro y hy
      rcases List.mem_cons.mp ((linkAfter_perm e xs).mem_iff.mp hy) with h1 | h1
      · rw [h1]; omega
      · exact hx.1 y h1
    · rename_i hge
      refine List.pairwise_cons.mpr ⟨?_, hs⟩
      intro y hy
      rcases List.mem_cons.mp hy with h1 | h1
      · rw [h1]; omega
      · have := hx.1 y h1; omega

theorem linkIn_sorted (e : CEntry) (l : List CEntry) (hs : l.Pairwise (fun a b => a.exp ≤ b.exp)) :
    (linkIn e l).Pairwise (fun a b => a.exp ≤ b.exp) := by
  cases l with
  | nil => simp [linkIn]
  | cons h t =>
    have hx := List.pairwise_cons.mp hs
    simp only [linkIn]
    split
    · rename_i hlt
      refine List.pairwise_cons.mpr ⟨?_, hs⟩
      intro y hy
      rcases List.mem_cons.mp hy with h1 | h1
      · rw [h1]; omega
      · have := hx.1 y h1; omega
    · rename_i hge
      refine List.pairwise_cons.mpr ⟨?_, linkAfter_sorted e t hx.2⟩
      intro y hy
      rcases List.mem_cons.mp ((linkAfter_perm e t).mem_iff.mp hy) with h1 | h1
      · rw [h1]; omega
      · exact hx.1 y h1

/-- invariant of every reachable cache state -/
structure RCache.Inv (c : RCache) : Prop where
  t : InvT c.list c.all c.size c.nextId
  cap : c.list = [] ∨ c.size ≤ c.maxBytes

theorem popWhile_inv (c : RCache) (hi : c.Inv) (p : CEntry → Int → Bool) :
    (c.popWhile p).Inv ∧ PopW p c.size c.nextId (popWhile p c.list c.all c.size) := by
  have r := popWhile_spec p c.list c.all c.size c.nextId hi.t
  refine ⟨⟨r.inv, ?_⟩, r⟩
  show (popWhile p c.list c.all c.size).1 = [] ∨ (popWhile p c.list c.all c.size).2.2 ≤ c.maxBytes
  rcases hi.cap with h | h
  · left; rw [h]; rfl
  · right; have := r.sizeLe; omega

theorem pop_inv (c : RCache) (hi : c.Inv) : c.pop.Inv ∧ (∀ e ∈ c.pop.all, e ∈ c.all) := by
  unfold RCache.pop
  cases hl : c.list with
  | nil => exact ⟨hi, fun _ he => he⟩
  | cons h t =>
    have ht := hi.t
    rw [hl] at ht
    refine ⟨⟨ht.pop, ?_⟩, fun e he => eraseEntry_sub h c.all e he⟩
    show t = [] ∨ c.size - (h.size : Int) ≤ c.maxBytes
    rcases hi.cap with hc | hc
    · rw [hl] at hc; cases hc
    · right; omega

theorem insert_inv (c : RCache) (hi : c.Inv) (key method query : Bytes) (size : Nat) (exp : Int) :
    (c.insert key method query size exp).Inv ∧ (c.insert key method query size exp).maxBytes = c.maxBytes := by
  unfold RCache.insert
  simp only
  have hi0 : ({ c with nextId := c.nextId + 1 } : RCache).Inv :=
    ⟨⟨hi.t.same, hi.t.sorted, fun e he => Nat.lt_succ_of_lt (hi.t.ids e he), hi.t.nodupAll, hi.t.nodupList, hi.t.acct, hi.t.acctL⟩, hi.cap⟩
  split
  · exact ⟨hi0, rfl⟩
  · rename_i hsz
    obtain ⟨i1, r⟩ := popWhile_inv { c with nextId := c.nextId + 1 } hi0 (fun _ sz => decide (sz + (size : Int) > c.maxBytes))
    let e : CEntry := { id := c.nextId, key := key, method := method, query := query, size := size, exp := exp }
    let c1 := ({ c with nextId := c.nextId + 1 } : RCache).makeRoom size
    have hc1 : c1 = ({ c with nextId := c.nextId + 1 } : RCache).popWhile (fun _ sz => decide (sz + (size : Int) > c.maxBytes)) := rfl
    have it : InvT c1.list c1.all c1.size (c.nextId + 1) := by rw [hc1]; exact i1.t
    have hfresh : ∀ y ∈ c1.all, y.id < c.nextId := fun y hy => hi.t.ids y (by rw [hc1] at hy; exact popWhile_allSub _ _ _ _ y hy)
    have hperm : (linkIn e c1.list).Perm (c1.all ++ [e]) :=
      (linkIn_perm e c1.list).trans ((it.perm.cons e).trans (List.perm_append_singleton e c1.all).symm)
    refine ⟨⟨.of_perm hperm (linkIn_sorted e c1.list it.sorted) ?_ ?_ ?_, ?_⟩, rfl⟩
    · intro x hx
      rcases List.mem_append.mp hx with h | h
      · exact Nat.lt_succ_of_lt (hfresh x h)
      · rw [List.mem_singleton.mp h]; exact Nat.lt_succ_self _
    · rw [List.map_append]
      refine nodup_snoc it.nodupAll fun ha => ?_
      obtain ⟨y, hy, he⟩ := List.mem_map.mp ha
      exact Nat.ne_of_lt (hfresh y hy) he
    · show c1.size + (size : Int) = sumSizes (c1.all ++ [e])
      rw [sumSizes_append, it.acct]; rfl
    · right
      show c1.size + (size : Int) ≤ c.maxBytes
      rcases r.stop with h0 | ⟨hh, tt, _, h2⟩
      · have hsl : c1.size = sumSizes c1.list := it.acctL
        rw [show c1.list = [] from h0] at hsl
        have h0' : sumSizes [] = 0 := rfl
        have hsz' : ¬ ((size : Int) > c.maxBytes) := hsz
        omega
      · exact Int.not_lt.mp (of_decide_eq_false h2)

theorem get_hit (c : RCache) (now : Int) (k m q : Bytes) (e : CEntry) (h : (c.get now k m q).2 = some e) :
    e.key = k ∧ e.method = m ∧ e.query = q ∧ e ∈ (c.get now k m q).1.all := by
  unfold RCache.get at h ⊢
  simp only at h ⊢
  have h1 := List.find?_some h
  have h2 := List.mem_of_find?_eq_some h
  have h3 := List.mem_filter.mp h2
  simp at h1 h3
  exact ⟨h3.2, h1.1, h1.2, h3.1⟩

theorem removeExpired_fresh (c : RCache) (hi : c.Inv) (now : Int) : ∀ e ∈ (c.removeExpired now).all, ¬ e.exp < now := by
  obtain ⟨i1, r⟩ := popWhile_inv c hi (fun h _ => decide (h.exp < now))
  intro e he
  have hl : e ∈ (c.removeExpired now).list := (i1.t.same e).mpr he
  rcases r.stop with h0 | ⟨h, t, h1, h2⟩
  · have : (c.removeExpired now).list = [] := h0
    rw [this] at hl; cases hl
  · have hlist : (c.removeExpired now).list = h :: t := h1
    have hs : List.Pairwise (fun a b => a.exp ≤ b.exp) (c.removeExpired now).list := i1.t.sorted
    rw [hlist] at hs hl
    have hh : ¬ h.exp < now := by simpa using h2
    rcases List.mem_cons.mp hl with h3 | h3
    · rw [h3]; exact hh
    · have := (List.pairwise_cons.mp hs).1 e h3; omega

theorem get_inv (c : RCache) (hi : c.Inv) (now : Int) (k m q : Bytes) :
    (c.get now k m q).1.Inv ∧ (c.get now k m q).1.maxBytes = c.maxBytes :=
  ⟨(popWhile_inv c hi _).1, rfl⟩

theorem rtMiss_cases (c : RCache) (now mc : Int) (k m q : Bytes) (i : Inner) :
    (c.rtMiss now mc k m q i).1 = c ∨ ∃ size t, i = .resp size (some t) ∧ m = sGET ∧
      (c.rtMiss now mc k m q i).1 = c.insert k m q size (if t > now + mc then now + mc else t) := by
  unfold RCache.rtMiss
  cases i with
  | fail => exact .inl rfl
  | resp size cacheable =>
    dsimp only
    by_cases hm : m ≠ sGET
    · rw [if_pos hm]; exact .inl rfl
    · rw [if_neg hm]
      cases cacheable with
      | none => exact .inl rfl
      | some t => exact .inr ⟨size, t, rfl, Decidable.not_not.mp hm, rfl⟩

/-- a round trip is an optional lookup followed by an optional miss path -/
theorem roundTrip_cases (c : RCache) (now mc : Int) (k m q : Bytes) (i : Inner) :
    ∃ c1, (c1 = c ∨ c1 = (c.get now k m q).1) ∧
      ((c.roundTrip now mc k m q i).1 = c1 ∨ (c.roundTrip now mc k m q i).1 = (c1.rtMiss now mc k m q i).1) := by
  unfold RCache.roundTrip
  split
  · split
    · rename_i c1 e heq; exact ⟨c1, .inr (by rw [heq]), .inl rfl⟩
    · rename_i c1 heq; exact ⟨c1, .inr (by rw [heq]), .inr rfl⟩
  · exact ⟨c, .inl rfl, .inr rfl⟩

theorem roundTrip_inv (c : RCache) (hi : c.Inv) (now mc : Int) (k m q : Bytes) (i : Inner) :
    (c.roundTrip now mc k m q i).1.Inv ∧ (c.roundTrip now mc k m q i).1.maxBytes = c.maxBytes := by
  obtain ⟨c1, hc1, hr⟩ := roundTrip_cases c now mc k m q i
  have g : c1.Inv ∧ c1.maxBytes = c.maxBytes := by
    rcases hc1 with rfl | rfl
    · exact ⟨hi, rfl⟩
    · exact get_inv c hi now k m q
  rcases hr with h | h <;> rw [h]
  · exact g
  · rcases rtMiss_cases c1 now mc k m q i with h' | ⟨size, t, _, _, h'⟩ <;> rw [h']
    · exact g
    · have := insert_inv c1 g.1 k m q size (if t > now + mc then now + mc else t)
      exact ⟨this.1, this.2.trans g.2⟩

theorem new_inv (m : Int) : (RCache.new m).Inv :=
  ⟨⟨fun _ => Iff.rfl, .nil, nofun, .nil, .nil, rfl, rfl⟩, .inl rfl⟩

theorem step_inv (c : RCache) (hi : c.Inv) (o : COp) : (c.step o).Inv ∧ (c.step o).maxBytes = c.maxBytes := by
  cases o with
  | get now k m q => exact get_inv c hi now k m q
  | insert k m q sz t => exact insert_inv c hi k m q sz t
  | pop =>
    refine ⟨(pop_inv c hi).1, ?_⟩
    show c.pop.maxBytes = c.maxBytes
    unfold RCache.pop; split <;> rfl
  | roundTrip now mc k m q i => exact roundTrip_inv c hi now mc k m q i

theorem run_inv (ops : List COp) (c : RCache) (hi : c.Inv) : (c.run ops).Inv ∧ (c.run ops).maxBytes = c.maxBytes := by
  induction ops generalizing c with
  | nil => exact ⟨hi, rfl⟩
  | cons o os ih =>
    obtain ⟨a, b⟩ := step_inv c hi o
    obtain ⟨a2, b2⟩ := ih (c.step o) a
    exact ⟨a2, b2.trans b⟩

/-! ### what a round trip can add to the cache -/

theorem insert_all (c : RCache) (k m q : Bytes) (s : Nat) (t : Int) :
    ∀ x ∈ (c.insert k m q s t).all, x ∈ c.all ∨ x = { id := c.nextId, key := k, method := m, query := q, size := s, exp := t } := by
  intro x hx
  unfold RCache.insert at hx
  simp only at hx
  split at hx
  · left; exact hx
  · rcases List.mem_append.mp hx with h | h
    · left; exact popWhile_allSub _ _ _ _ x h
    · right; simpa using h

theorem get_allSub (c : RCache) (now : Int) (k m q : Bytes) : ∀ x ∈ (c.get now k m q).1.all, x ∈ c.all :=
  fun x hx => popWhile_allSub _ _ _ _ x hx

theorem rtMiss_all (c : RCache) (now mc : Int) (k m q : Bytes) (i : Inner) :
    ∀ x ∈ (c.rtMiss now mc k m q i).1.all, x ∈ c.all ∨
      (m = sGET ∧ x.key = k ∧ x.method = m ∧ x.query = q ∧ x.exp ≤ now + mc ∧ ∃ size t, i = .resp size (some t) ∧ x.size = size ∧ x.exp ≤ t) := by
  intro x hx
  rcases rtMiss_cases c now mc k m q i with h | ⟨size, t, hi, hm, h⟩ <;> rw [h] at hx
  · exact .inl hx
  · refine (insert_all c k m q size _ x hx).imp_right fun hx => ?_
    rw [hx]
    refine ⟨hm, rfl, rfl, rfl, ?_, size, t, hi, rfl, ?_⟩
    · show (if t > now + mc then now + mc else t) ≤ now + mc
      split <;> omega
    · show (if t > now + mc then now + mc else t) ≤ t
      split <;> omega

end Nuts.C18
