/-
  C06 — the byte-level store model (NutsModel/C06/Shelf.lean): the clocks shelf decodes to the stored transactions, so the
  root check and the range scan read off the bytes what the abstract state says; `Refines` is that correspondence.
-/
import NutsModel.C06.Shelf
import NutsProofs.Lemmas.Sort
namespace Nuts.C06.Shelf

theorem get_put_same {κ : Type} [DecidableEq κ] (sh : Shelf κ) (k : κ) (v : List Nat) : get (put sh k v) k = some v := by
  simp [get, put]

theorem get_put_other {κ : Type} [DecidableEq κ] (sh : Shelf κ) {k k' : κ} (v : List Nat) (h : k' ≠ k) :
    get (put sh k v) k' = get sh k' := by
  unfold get put
  rw [List.find?_cons_of_neg (by simpa using fun e => h e.symm), List.find?_filter]
  congr 2
  funext a
  by_cases ha : a.1 = k'
  · simp [ha, h]
  · simp [ha]

theorem be_length (n v : Nat) : (be n v).length = n := by
  induction n generalizing v with
  | zero => rfl
  | succ n ih => simp [be, ih]

theorem ofBe_append (l : List Nat) (b : Nat) : ofBe (l ++ [b]) = ofBe l * 256 + b := by
  simp [ofBe, List.foldl_append]

theorem ofBe_be (n v : Nat) : ofBe (be n v) = v % 256 ^ n := by
  induction n generalizing v with
  | zero => simp [be, ofBe, Nat.mod_one]
  | succ n ih =>
    rw [be, ofBe_append, ih, Nat.pow_succ]
    have := Nat.mod_mul_right_div_self v 256 (256 ^ n)
    rw [Nat.mul_comm (256 ^ n) 256, Nat.mod_mul, Nat.mul_comm]
    omega

theorem parseHashList_eq {l : List Nat} {n : Nat} (hl : l.length = hashSize * n) :
    parseHashList l = (List.range n).map (fun i => (l.drop (i * hashSize)).take hashSize) := by
  unfold parseHashList
  simp only [hashSize] at *
  split
  · rename_i h0
    have : n = 0 := by omega
    subst this; rfl
  · have : (l.length - l.length % 32) / 32 = n := by omega
    rw [this]

theorem parseHashList_append {l h : List Nat} (hl : l.length % hashSize = 0) (hh : h.length = hashSize) :
    parseHashList (appendHashList l h) = parseHashList l ++ [h] := by
  simp only [hashSize] at *
  obtain ⟨n, hn⟩ : ∃ n, l.length = 32 * n := ⟨l.length / 32, by omega⟩
  have h1 : (appendHashList l h).length = hashSize * (n + 1) := by simp [appendHashList, hashSize, hn, hh]; omega
  rw [parseHashList_eq h1, parseHashList_eq (n := n) (by simpa [hashSize] using hn), List.range_succ, List.map_append]
  congr 1
  · apply List.map_congr_left
    intro i hi
    have hi' : i < n := by simpa using hi
    simp only [appendHashList, hashSize]
    rw [List.drop_append_of_le_length (by omega), List.take_append_of_le_length (by simp; omega)]
  · simp only [appendHashList, hashSize, List.map_cons, List.map_nil]
    have : n * 32 = l.length := by omega
    rw [this, List.drop_left, ← hh, List.take_length]

def WF (sh : Shelf Nat) : Prop := ∀ k v, get sh k = some v → v.length % hashSize = 0 ∧ v.length ≠ 0

theorem wf_getD {sh : Shelf Nat} (h : WF sh) (k : Nat) : ((get sh k).getD []).length % hashSize = 0 := by
  cases hg : get sh k with
  | none => simp
  | some v => simpa using (h k v hg).1

theorem get_index (sh : Shelf Nat) (c : Nat) (ref : List Nat) (k : Nat) :
    get (indexClockValue sh c ref) k =
      if k = c ∧ ref ∉ refsAt sh c then some (appendHashList ((get sh c).getD []) ref) else get sh k := by
  unfold indexClockValue refsAt
  simp only
  split
  · rename_i hc; rw [if_neg (fun h => h.2 (by simpa using hc))]
  · rename_i hc
    by_cases hk : k = c
    · subst hk; rw [get_put_same, if_pos ⟨rfl, by simpa using hc⟩]
    · rw [get_put_other _ _ hk, if_neg (fun h => hk h.1)]

theorem wf_index {sh : Shelf Nat} (h : WF sh) (c : Nat) {ref : List Nat} (hr : ref.length = hashSize) :
    WF (indexClockValue sh c ref) := by
  intro k v hg
  rw [get_index] at hg
  split at hg
  · cases hg
    have := wf_getD h c
    simp only [appendHashList, List.length_append, hr, hashSize] at *
    omega
  · exact h k v hg

theorem refsAt_index {sh : Shelf Nat} (h : WF sh) (c : Nat) {ref : List Nat} (hr : ref.length = hashSize) (c' : Nat) :
    refsAt (indexClockValue sh c ref) c' =
      if c' = c ∧ ref ∉ refsAt sh c then refsAt sh c ++ [ref] else refsAt sh c' := by
  rw [show refsAt (indexClockValue sh c ref) c' = parseHashList ((get (indexClockValue sh c ref) c').getD []) from rfl, get_index]
  split
  · exact parseHashList_append (wf_getD h c) hr
  · rfl

theorem hashBytes_length (r : Nat) : (hashBytes r).length = hashSize := be_length _ _

theorem wf_build (txs : List Tx) : WF (buildClocks txs) := by
  induction txs with
  | nil => intro k v hg; simp [buildClocks, get] at hg
  | cons t r ih => exact wf_index ih _ (hashBytes_length _)

theorem refsAt_build (txs : List Tx) (hn : (txs.map (fun t => hashBytes t.ref)).Nodup) (c : Nat) :
    refsAt (buildClocks txs) c = ((txs.filter (fun t => t.clock = c)).reverse.map (fun t => hashBytes t.ref)) := by
  induction txs generalizing c with
  | nil => simp [buildClocks, refsAt, get, parseHashList]
  | cons t r ih =>
    simp only [List.map_cons] at hn
    have hn' := List.nodup_cons.mp hn
    have ih' := ih hn'.2 c
    simp only [buildClocks]
    rw [refsAt_index (wf_build r) _ (hashBytes_length _)]
    have hfresh : hashBytes t.ref ∉ refsAt (buildClocks r) t.clock := by
      rw [ih hn'.2 t.clock]
      intro hm
      apply hn'.1
      simp only [List.mem_map, List.mem_reverse, List.mem_filter] at hm ⊢
      obtain ⟨u, ⟨hu, _⟩, he⟩ := hm
      exact ⟨u, hu, he⟩
    by_cases hc : c = t.clock
    · subst hc
      simp only [hfresh, not_false_eq_true, and_self, if_true]
      rw [ih']
      simp
    · simp only [hc, false_and, if_false]
      rw [ih']
      have : ¬ (t.clock = c) := fun e => hc e.symm
      simp [this]

theorem hashBytes_inj {a b : Nat} (ha : a < 256 ^ hashSize) (hb : b < 256 ^ hashSize) (h : hashBytes a = hashBytes b) : a = b := by
  have := congrArg ofBe h
  simp only [hashBytes, ofBe_be] at this
  rwa [Nat.mod_eq_of_lt ha, Nat.mod_eq_of_lt hb] at this

theorem parseHashList_nil : parseHashList [] = [] := by simp [parseHashList]

theorem mem_refsAt_build (txs : List Tx) (c : Nat) (h : List Nat) :
    h ∈ refsAt (buildClocks txs) c ↔ ∃ t ∈ txs, t.clock = c ∧ hashBytes t.ref = h := by
  induction txs with
  | nil => simp [buildClocks, refsAt, get, parseHashList]
  | cons t r ih =>
    rw [buildClocks, refsAt_index (wf_build r) _ (hashBytes_length _)]
    simp only [List.mem_cons, exists_eq_or_imp, ← ih]
    by_cases hc : c = t.clock
    · subst hc
      by_cases hm : hashBytes t.ref ∈ refsAt (buildClocks r) t.clock
      · simp only [hm, not_true_eq_false, and_false, if_false, true_and]
        exact ⟨Or.inr, fun o => o.elim (fun e => e ▸ hm) id⟩
      · simp [hm, eq_comm, or_comm]
    · simp [hc, Ne.symm hc]

theorem isSome_get_iff {sh : Shelf Nat} (hw : WF sh) (k : Nat) : (get sh k).isSome = true ↔ ∃ h, h ∈ refsAt sh k := by
  unfold refsAt
  cases hg : get sh k with
  | none => simp [parseHashList_nil]
  | some v =>
    obtain ⟨h1, h2⟩ := hw k v hg
    simp only [hashSize] at h1
    rw [Option.getD_some, parseHashList_eq (n := v.length / hashSize) (by simp only [hashSize]; omega)]
    exact ⟨fun _ => ⟨_, List.mem_map.mpr ⟨0, List.mem_range.mpr (by simp only [hashSize]; omega), rfl⟩⟩, fun _ => rfl⟩

theorem isSome_build (txs : List Tx) (k : Nat) : (get (buildClocks txs) k).isSome = txs.any (fun t => t.clock = k) := by
  rw [Bool.eq_iff_iff, isSome_get_iff (wf_build txs)]
  simp only [mem_refsAt_build, List.any_eq_true, decide_eq_true_eq]
  exact ⟨fun ⟨_, t, ht, hc, _⟩ => ⟨t, ht, hc⟩, fun ⟨t, ht, hc⟩ => ⟨_, t, ht, hc, rfl⟩⟩

theorem roots_build (txs : List Tx) : rootsNonNil (buildClocks txs) = hasRoot txs := by
  rw [hasRoot, ← isSome_build]
  unfold rootsNonNil
  cases hg : get (buildClocks txs) 0 with
  | none => rfl
  | some v => simpa [parseHashListNonNil] using (wf_build txs 0 v hg).2

def Contig (sh : Shelf Nat) : Prop := ∀ k, (get sh k).isSome = true → ∀ j, j ≤ k → (get sh j).isSome = true

theorem walk_sound {sh : Shelf Nat} {fuel k to : Nat} {e : Nat × List Nat} (h : e ∈ walk sh fuel k to) :
    get sh e.1 = some e.2 ∧ k ≤ e.1 ∧ e.1 < to := by
  fun_induction walk sh fuel k to with
  | case1 | case2 | case4 => cases h
  | case3 fuel k to hk v hv ih =>
    rcases List.mem_cons.mp h with h | h
    · subst h; exact ⟨hv, Nat.le_refl _, hk⟩
    · have := ih h; exact ⟨this.1, by omega, this.2.2⟩

theorem walk_complete {sh : Shelf Nat} (hc : Contig sh) {fuel k to j : Nat} {v : List Nat}
    (hg : get sh j = some v) (hkj : k ≤ j) (hjt : j < to) (hf : to - k ≤ fuel) : (j, v) ∈ walk sh fuel k to := by
  fun_induction walk sh fuel k to with
  | case1 | case4 => omega
  | case2 fuel k to hk hn => have := hc j (by simp [hg]) k hkj; simp [hn] at this
  | case3 fuel k to hk vk hgk ih =>
    by_cases hjk : j = k
    · subst hjk; rw [hgk] at hg; cases hg; exact List.mem_cons_self
    · exact List.mem_cons_of_mem _ (ih (by omega) hjt (by omega))

theorem minKey_eq : ∀ l : List Nat, minKey l = l.min?
  | [] => rfl
  | k :: r => by
    rw [minKey, minKey_eq r, List.min?_cons]
    cases r.min? <;> simp [Nat.min_def]

theorem mem_keys_iff {sh : Shelf Nat} {k : Nat} : (get sh k).isSome = true ↔ k ∈ sh.map (·.1) := by
  unfold get
  simp only [Option.isSome_map, List.find?_isSome, List.mem_map]
  constructor
  · rintro ⟨e, he, h⟩; exact ⟨e, he, by simpa using h⟩
  · rintro ⟨e, he, h⟩; exact ⟨e, he, by simpa using h⟩

theorem seek_some {sh : Shelf Nat} {frm k0 : Nat} (h : seek sh frm = some k0) :
    frm ≤ k0 ∧ (get sh k0).isSome = true ∧ ∀ j, (get sh j).isSome = true → frm ≤ j → k0 ≤ j := by
  obtain ⟨hm, hle⟩ := List.min?_eq_some_iff.mp ((minKey_eq _).symm.trans h)
  simp only [List.mem_filter, decide_eq_true_eq] at hm
  refine ⟨hm.2, mem_keys_iff.mpr hm.1, ?_⟩
  intro j hj hfj
  exact hle j (by simp only [List.mem_filter, decide_eq_true_eq]; exact ⟨mem_keys_iff.mp hj, hfj⟩)

theorem seek_none {sh : Shelf Nat} {frm : Nat} (h : seek sh frm = none) : ∀ j, (get sh j).isSome = true → j < frm := by
  intro j hj
  have := List.min?_eq_none_iff.mp ((minKey_eq _).symm.trans h)
  by_cases hf : frm ≤ j
  · have hm : j ∈ (sh.map (·.1)).filter (fun k => frm ≤ k) := by
      simp only [List.mem_filter, decide_eq_true_eq]; exact ⟨mem_keys_iff.mp hj, hf⟩
    rw [this] at hm; cases hm
  · omega

theorem mem_range {sh : Shelf Nat} (hc : Contig sh) (frm to : Nat) (e : Nat × List Nat) :
    e ∈ range sh frm to ↔ (get sh e.1 = some e.2 ∧ frm ≤ e.1 ∧ e.1 < to) := by
  unfold range
  constructor
  · intro h
    split at h
    · cases h
    · rename_i k0 hk
      have := walk_sound h
      exact ⟨this.1, Nat.le_trans (seek_some hk).1 this.2.1, this.2.2⟩
  · rintro ⟨hg, hf, ht⟩
    split
    · rename_i hk
      have := seek_none hk e.1 (by simp [hg])
      omega
    · rename_i k0 hk
      have hle := (seek_some hk).2.2 e.1 (by simp [hg]) hf
      exact walk_complete hc hg hle ht (Nat.le_refl _)

theorem insertSorted_eq (x : List Nat) (l : List (List Nat)) : insertSorted x l = Nuts.insertSorted bytesLE x l := by
  induction l with
  | nil => rfl
  | cons y ys ih => simp only [insertSorted, Nuts.insertSorted, ih]

theorem mem_insertSorted (x : List Nat) (l : List (List Nat)) (y : List Nat) : y ∈ insertSorted x l ↔ y = x ∨ y ∈ l := by
  rw [insertSorted_eq, (insertSorted_perm bytesLE x l).mem_iff, List.mem_cons]

theorem sortRefs_eq_sortBy (l : List (List Nat)) : sortRefs l = sortBy bytesLE l := by
  unfold sortRefs sortBy
  congr 1
  funext x ys
  exact insertSorted_eq x ys

theorem mem_sortRefs (l : List (List Nat)) (y : List Nat) : y ∈ sortRefs l ↔ y ∈ l := by
  rw [sortRefs_eq_sortBy]
  exact (sortBy_perm bytesLE l).mem_iff

def NoGap (txs : List Tx) : Prop := ∀ t ∈ txs, ∀ j, j ≤ t.clock → ∃ u ∈ txs, u.clock = j

theorem contig_build {txs : List Tx} (h : NoGap txs) : Contig (buildClocks txs) := by
  intro k hk j hj
  rw [isSome_build] at hk ⊢
  simp only [List.any_eq_true, decide_eq_true_eq] at hk ⊢
  obtain ⟨t, ht, hc⟩ := hk
  exact h t ht j (by omega)

theorem mem_visit {txs : List Tx} (hg : NoGap txs) (a b : Nat) (h : List Nat) :
    h ∈ visitBetweenLC (buildClocks txs) a b ↔ ∃ t ∈ txs, hashBytes t.ref = h ∧ a ≤ t.clock ∧ t.clock < b := by
  unfold visitBetweenLC
  simp only [List.mem_flatMap, mem_sortRefs]
  constructor
  · rintro ⟨e, he, hm⟩
    obtain ⟨hge, ha, hb⟩ := (mem_range (contig_build hg) a b e).mp he
    have hr : refsAt (buildClocks txs) e.1 = parseHashList e.2 := by simp [refsAt, hge]
    obtain ⟨t, ht, hc, hh⟩ := (mem_refsAt_build txs e.1 h).mp (hr ▸ hm)
    exact ⟨t, ht, hh, by omega, by omega⟩
  · rintro ⟨t, ht, hh, ha, hb⟩
    have hm : h ∈ refsAt (buildClocks txs) t.clock := (mem_refsAt_build txs _ h).mpr ⟨t, ht, rfl, hh⟩
    cases hge : get (buildClocks txs) t.clock with
    | none => simp [refsAt, hge, parseHashList_nil] at hm
    | some v =>
      exact ⟨(t.clock, v), (mem_range (contig_build hg) a b _).mpr ⟨hge, ha, hb⟩, by simpa [refsAt, hge] using hm⟩

/-- the store holds the abstract DAG state `s` (documents, clocks and metadata shelves) -/
structure Refines (st : Store) (s : St) : Prop where
  clocks : st.clocks = buildClocks s.txs
  docs : st.docs = s.txs.map (fun t => hashBytes t.ref)
  count : getCounter st.md numberOfTransactionsKey = s.count
  lcHigh : getCounter st.md highestClockValue = s.lcHigh
  head : (get st.md headRefKey).getD (be hashSize 0) = hashBytes s.head

theorem refines_empty : Refines {} {} :=
  { clocks := rfl, docs := rfl, count := rfl, lcHigh := rfl, head := rfl }

theorem getCounter_put_same (md : Shelf String) (k : String) (n v : Nat) (h : v < 256 ^ n) :
    getCounter (put md k (be n v)) k = v := by
  unfold getCounter
  rw [get_put_same]
  simp only [ofBe_be, Nat.mod_eq_of_lt h]

theorem getCounter_put_other (md : Shelf String) {k k' : String} (v : List Nat) (h : k' ≠ k) :
    getCounter (put md k v) k' = getCounter md k' := by
  unfold getCounter
  rw [get_put_other _ _ h]

theorem getCounter_putIf (md : Shelf String) {k k' : String} (v : List Nat) (c : Prop) [Decidable c] (h : k' ≠ k) :
    getCounter (if c then put md k v else md) k' = getCounter md k' := by
  split
  · exact getCounter_put_other _ _ h
  · rfl

theorem nogap_of_links {txs : List Tx} (h : ∀ t ∈ txs, t.clock = 0 ∨ ∃ u ∈ txs, t.clock = u.clock + 1) : NoGap txs := by
  intro t ht j hj
  generalize hd : t.clock - j = d
  induction d generalizing t with
  | zero => exact ⟨t, ht, by omega⟩
  | succ d ih =>
    rcases h t ht with h0 | ⟨u, hu, hc⟩
    · omega
    · exact ih u hu (by omega) (by omega)

theorem nodup_hashBytes {txs : List Tx} (hn : (refsOf txs).Nodup) (hb : ∀ t ∈ txs, t.ref < 256 ^ hashSize) :
    (txs.map (fun t => hashBytes t.ref)).Nodup := by
  induction txs with
  | nil => simp
  | cons t r ih =>
    simp only [refsOf, List.map_cons] at hn ⊢
    have hn' := List.nodup_cons.mp hn
    refine List.nodup_cons.mpr ⟨?_, ih hn'.2 (fun u hu => hb u (List.mem_cons_of_mem _ hu))⟩
    intro hm
    obtain ⟨u, hu, he⟩ := List.mem_map.mp hm
    have := hashBytes_inj (hb u (List.mem_cons_of_mem _ hu)) (hb t List.mem_cons_self) he
    exact hn'.1 (List.mem_map.mpr ⟨u, hu, this⟩)
end Nuts.C06.Shelf
