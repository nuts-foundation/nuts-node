/-
  C08 — the two `Data` implementations (XOR, IBLT) satisfy the laws the tree theorems ask for: `Lawful` (commutative
  group; insert = add a singleton) and `DelLawful` (delete = subtract it, undoing insert; for the IBLT bucket-wise, for
  arbitrary bucket indices incl. repeated ones).  Core Lean only.
-/
import NutsModel.C08.Data
import NutsProofs.Lemmas.C08Tree

namespace Nuts.C08

theorem xor_lawful : Lawful xorOps where
  add_comm a b := BitVec.xor_comm a b
  add_assoc a b c := BitVec.xor_assoc a b c
  add_zero a := by simp [xorOps]
  add_sub a b := by simp [xorOps, BitVec.xor_assoc]
  ins_eq g r := by simp [xorOps]

theorem xor_sub_self (a : BitVec 256) : xorOps.sub a a = xorOps.zero := by simp [xorOps]

theorem xor_empty_iff (g : BitVec 256) : xorOps.empty g = true ↔ g = xorOps.zero := by simp [xorOps]

theorem xor_del_lawful : DelLawful xorOps where
  del_eq g r := by simp [xorOps]
  del_ins g r := by simp [xorOps, BitVec.xor_assoc]

namespace Bucket

theorem add_comm (a b : Bucket) : a.add b = b.add a := by
  simp [Bucket.add, BitVec.add_comm, BitVec.xor_comm]

theorem add_assoc (a b c : Bucket) : (a.add b).add c = a.add (b.add c) := by
  simp [Bucket.add, BitVec.add_assoc, BitVec.xor_assoc]

theorem add_zero (a : Bucket) : a.add Bucket.zero = a := by
  cases a; simp [Bucket.add, Bucket.zero]

theorem add_sub (a b : Bucket) : (a.add b).sub b = a := by
  cases a; cases b; simp [Bucket.add, Bucket.sub, BitVec.add_sub_cancel, BitVec.xor_assoc]

theorem sub_self (a : Bucket) : a.sub a = Bucket.zero := by
  cases a; simp [Bucket.sub, Bucket.zero]

theorem add_ins (a b : Bucket) (k : Ref) (hk : BitVec 64) : (a.add b).ins k hk = a.add (b.ins k hk) := by
  simp [Bucket.add, Bucket.ins, BitVec.add_assoc, BitVec.xor_assoc]

theorem sub_ins_zero (a : Bucket) (k : Ref) (hk : BitVec 64) : a.del k hk = a.sub (Bucket.zero.ins k hk) := by
  cases a; simp [Bucket.sub, Bucket.del, Bucket.ins, Bucket.zero]

theorem add_del (a b : Bucket) (k : Ref) (hk : BitVec 64) : (a.add b).del k hk = a.add (b.del k hk) := by
  cases a; cases b
  simp only [Bucket.add, Bucket.del, BitVec.xor_assoc, Bucket.mk.injEq, and_true]
  simp only [BitVec.sub_eq_add_neg, BitVec.add_assoc]

theorem del_ins (a : Bucket) (k : Ref) (hk : BitVec 64) : (a.ins k hk).del k hk = a := by
  cases a; simp [Bucket.ins, Bucket.del, BitVec.xor_assoc, BitVec.add_sub_cancel]

theorem del_ins_comm (a : Bucket) (k : Ref) (hk : BitVec 64) : (a.ins k hk).del k hk = (a.del k hk).ins k hk := by
  cases a; simp [Bucket.ins, Bucket.del, BitVec.xor_assoc, BitVec.add_sub_cancel, BitVec.sub_add_cancel]

end Bucket

/-- a bucket map that commutes with adding on the left — `insert` and `delete` do — commutes with it on whole IBLTs -/
theorem Iblt.modify_add {n : Nat} (f : Bucket → Bucket) (hf : ∀ a b : Bucket, f (a.add b) = a.add (f b)) (g z : Iblt n) (h : Nat) :
    Iblt.modify ((ibltOps n).add g z) h f = (ibltOps n).add g (Iblt.modify z h f) := by
  unfold Iblt.modify
  by_cases hh : h < n
  · simp only [hh, dite_true, ibltOps]
    apply Vector.ext
    intro i hi
    simp only [Vector.getElem_zipWith, Vector.getElem_set]
    by_cases e : h = i
    · subst e; simp [hf]
    · simp [e]
  · simp [hh]

theorem Iblt.foldl_modify_add {n : Nat} (f : Bucket → Bucket) (hf : ∀ a b : Bucket, f (a.add b) = a.add (f b)) (idx : List Nat)
    (g z : Iblt n) :
    idx.foldl (fun g h => Iblt.modify g h f) ((ibltOps n).add g z) = (ibltOps n).add g (idx.foldl (fun g h => Iblt.modify g h f) z) := by
  induction idx generalizing z with
  | nil => rfl
  | cons h t ih => simp only [List.foldl_cons]; rw [Iblt.modify_add f hf, ih]

theorem iblt_add_zero {n : Nat} (a : Iblt n) : (ibltOps n).add a (ibltOps n).zero = a := by
  apply Vector.ext; intro i hi
  simp [ibltOps, Bucket.add_zero]

theorem iblt_lawful (n : Nat) : Lawful (ibltOps n) where
  add_comm a b := by
    apply Vector.ext; intro i hi; simp [ibltOps, Bucket.add_comm]
  add_assoc a b c := by
    apply Vector.ext; intro i hi; simp [ibltOps, Bucket.add_assoc]
  add_zero := iblt_add_zero
  add_sub a b := by
    apply Vector.ext; intro i hi; simp [ibltOps, Bucket.add_sub]
  ins_eq g r := by
    have := Iblt.foldl_modify_add (fun b => b.ins r.ref r.hk) (fun a b => Bucket.add_ins a b _ _) r.idx g (ibltOps n).zero
    rw [iblt_add_zero] at this
    exact this

theorem Iblt.modify_comm {n : Nat} (x : Iblt n) (h h' : Nat) (f g : Bucket → Bucket) (hfg : ∀ b, f (g b) = g (f b)) :
    Iblt.modify (Iblt.modify x h' g) h f = Iblt.modify (Iblt.modify x h f) h' g := by
  unfold Iblt.modify
  by_cases hh : h < n <;> by_cases hh' : h' < n <;> simp only [hh, hh', dite_true, dite_false]
  apply Vector.ext
  intro i hi
  simp only [Vector.getElem_set]
  by_cases e : h = i <;> by_cases e' : h' = i
  · subst e; subst e'; simp [hfg]
  · subst e; simp [e']
  · subst e'; simp [e]
  · simp [e, e']

theorem Iblt.del_insF {n : Nat} (k : Ref) (hk : BitVec 64) (h : Nat) (idx : List Nat) (y : Iblt n) :
    Iblt.modify (idx.foldl (fun g h => Iblt.modify g h (fun b => b.ins k hk)) y) h (fun b => b.del k hk) =
    idx.foldl (fun g h => Iblt.modify g h (fun b => b.ins k hk)) (Iblt.modify y h (fun b => b.del k hk)) := by
  induction idx generalizing y with
  | nil => rfl
  | cons a t ih =>
    simp only [List.foldl_cons]
    rw [ih, Iblt.modify_comm y h a _ _ (fun b => Bucket.del_ins_comm b k hk)]

theorem Iblt.modify_del_ins {n : Nat} (z : Iblt n) (h : Nat) (k : Ref) (hk : BitVec 64) :
    Iblt.modify (Iblt.modify z h (fun b => b.ins k hk)) h (fun b => b.del k hk) = z := by
  unfold Iblt.modify
  by_cases hh : h < n
  · simp only [hh, dite_true]
    apply Vector.ext
    intro i hi
    simp only [Vector.getElem_set]
    by_cases e : h = i
    · subst e; simp [Bucket.del_ins]
    · simp [e]
  · simp [hh]

theorem Iblt.delF_insF {n : Nat} (k : Ref) (hk : BitVec 64) (idx : List Nat) (z : Iblt n) :
    idx.foldl (fun g h => Iblt.modify g h (fun b => b.del k hk))
      (idx.foldl (fun g h => Iblt.modify g h (fun b => b.ins k hk)) z) = z := by
  induction idx generalizing z with
  | nil => rfl
  | cons h t ih =>
    simp only [List.foldl_cons]
    rw [Iblt.del_insF, Iblt.modify_del_ins, ih]

theorem iblt_del_lawful (n : Nat) : DelLawful (ibltOps n) where
  del_eq g r := by
    have := Iblt.foldl_modify_add (fun b => b.del r.ref r.hk) (fun a b => Bucket.add_del a b _ _) r.idx g (ibltOps n).zero
    rw [iblt_add_zero] at this
    exact this
  del_ins g r := Iblt.delF_insF r.ref r.hk r.idx g

end Nuts.C08
