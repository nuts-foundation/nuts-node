/-
  C18 — where did:web resolution goes and what it returns: the origin of the URL `DIDToURL` returns (user-info would make the
  parsed host strictly shorter than the authority, which is a prefix of the very host it has to equal), the requests of the
  redirect loop of `StrictHTTPClient.Do`, and `Resolve` by cases.
-/
import NutsModel.C18.Resolve
import NutsProofs.Lemmas.C18Url

namespace Nuts.C18

theorem slashfree_prefix_length_le {A H P : Bytes} (hA : A <+: H ++ P) (hs : cSlash ∉ A) (hP : P = [] ∨ ∃ t, P = cSlash :: t) :
    A.length ≤ H.length := by
  rcases hP with rfl | ⟨t, rfl⟩
  · simpa using hA.length_le
  · by_cases hl : A.length ≤ H.length
    · exact hl
    · exfalso
      have h1 : H ++ [cSlash] <+: H ++ cSlash :: t := by
        have : H ++ cSlash :: t = (H ++ [cSlash]) ++ t := by simp
        rw [this]; exact List.prefix_append _ _
      have h2 : H ++ [cSlash] <+: A := List.prefix_of_prefix_length_le h1 hA (by simp; omega)
      exact hs (h2.subset (by simp))

/-- **origin of the URL `DIDToURL` returns.** For EVERY `did.DID` value (any bytes): if `DIDToURL` succeeds, the URL is
    https, its host is exactly the percent-decoded first component of the identifier, it has no user-info, and the host
    name is not an IP address. -/
theorem didToURL_origin (dec : List Nat) (d : DID) (u : URL) (h : didToURL dec d = .ok u) :
    d.method = sWeb ∧ u.scheme = sHttps ∧ u.hasUser = false ∧ u.opaq = [] ∧
    pathUnescape (cut cColon d.id).1 = .ok u.host ∧ isIP (hostname u.host) = false := by
  revert h
  fun_cases didToURL dec d with
  | case9 hm _ H hpu v hpp hhost hip =>
    intro h
    cases h
    have hhost' : u.host = H := Decidable.not_not.mp hhost
    have hPs : percentDecode dec (didPath d.id) = [] ∨ ∃ t, percentDecode dec (didPath d.id) = cSlash :: t := by
      unfold didPath
      cases (cut cColon d.id).2 with
      | none => left; simp [percentDecode, percentDecodeAux]
      | some t => right; exact ⟨_, pd_plain dec _ _ (by decide)⟩
    rw [List.append_assoc] at hpp
    obtain ⟨hs, ho, A, hA, hsl, hauth⟩ := parseURL_https _ u hpp
    have hAl := slashfree_prefix_length_le hA hsl hPs
    refine ⟨Decidable.not_not.mp hm, hs, ?_, ho, by rw [hhost']; exact hpu, by simpa using hip⟩
    rcases parseAuthority_host_length hauth with ⟨hu, _⟩ | ⟨_, hlt⟩
    · exact hu
    · exfalso; rw [hhost'] at hlt; omega
  | _ => nofun

theorem clientLoop_reqs (pol : Policy) (strict : Bool) (srv : Nat → Req → Option Resp) (first : Req) (P : Req → Prop)
    (hnext : ∀ nxt n, checkRedirect pol strict first nxt n = .ok () → P nxt) :
    ∀ fuel reqs cur, (∀ r ∈ reqs, P r) → P cur → ∀ r ∈ (clientLoop pol strict srv first fuel reqs cur).1, P r := by
  have hall : ∀ reqs cur, (∀ r ∈ reqs, P r) → P cur → ∀ r ∈ reqs ++ [cur], P r := fun reqs cur hr hc r hm =>
    (List.mem_append.mp hm).elim (hr r) fun h => List.mem_singleton.mp h ▸ hc
  intro fuel reqs cur
  fun_induction clientLoop pol strict srv first fuel reqs cur with
  | case1 => exact fun hr _ => hr
  | case9 _ reqs cur _ _ _ _ _ nxt _ hck ih => exact fun hr hc => ih (hall _ _ hr hc) (hnext _ _ hck)
  | _ => exact hall _ _

theorem strictDo_reqs (pol : Policy) (strict : Bool) (srv : Nat → Req → Option Resp) (first : Req) (P : Req → Prop)
    (hfirst : P first) (hnext : ∀ nxt n, checkRedirect pol strict first nxt n = .ok () → P nxt) :
    ∀ r ∈ (strictDo pol strict srv first).1, P r := by
  intro r hm
  unfold strictDo at hm
  split at hm
  · simp at hm
  · have h := clientLoop_reqs pol strict srv first P hnext (pol.maxRedirects + 2) [] first (by simp) hfirst
    split at hm
    · rename_i reqs resp heq
      have : reqs = (clientLoop pol strict srv first (pol.maxRedirects + 2) [] first).1 := by rw [heq]
      split at hm <;> (simp only at hm; exact h r (this ▸ hm))
    · exact h r hm

theorem checkRedirect_sameOrigin {pol : Policy} {strict : Bool} {first nxt : Req} {n : Nat}
    (hp : pol.sameOriginRedirect = true) (h : checkRedirect pol strict first nxt n = .ok ()) :
    nxt.scheme = first.scheme ∧ nxt.host = first.host := by
  revert h
  fun_cases checkRedirect pol strict first nxt n with
  | case4 _ _ hn => exact fun _ => by simpa [hp] using hn
  | _ => nofun

theorem checkRedirect_strictHttps {pol : Policy} {first nxt : Req} {n : Nat}
    (hp : pol.strictHttpsRedirect = true) (h : checkRedirect pol true first nxt n = .ok ()) :
    nxt.scheme = sHttps := by
  unfold checkRedirect at h
  split at h
  · cases h
  · rename_i hn
    simpa [hp] using hn

theorem resolveWeb_spec (dec : List Nat) (cts : List Bytes) (pol : Policy) (strict : Bool) (d : DID)
    (srv : Nat → Req → Option Resp) :
    ∃ r, resolveWeb dec cts pol strict d srv =
        ((match didToURL dec d with | .ok u => (strictDo pol strict srv (firstReq u)).1 | _ => []), r) ∧
      ∀ id, r = .ok id → id = d.str := by
  unfold resolveWeb
  by_cases hm : d.method ≠ sWeb
  · exact ⟨.err _, by rw [if_pos hm, didToURL, if_pos hm], nofun⟩
  rw [if_neg hm]
  cases didToURL dec d with
  | err e => exact ⟨.err _, rfl, nofun⟩
  | panic p => exact ⟨.panic _, rfl, nofun⟩
  | ok u =>
    dsimp only
    generalize strictDo pol strict srv (firstReq u) = x
    obtain ⟨reqs, resp | _ | _⟩ := x
    case err => exact ⟨.err _, rfl, nofun⟩
    case panic => exact ⟨.panic _, rfl, nofun⟩
    obtain ⟨st, mt, loc, body⟩ := resp
    dsimp only
    cases !(decide (200 ≤ st) && decide (st < 300))
    case true => exact ⟨.err _, rfl, nofun⟩
    cases mt with
    | none => exact ⟨.err _, rfl, nofun⟩
    | some ct =>
    dsimp only
    cases !cts.contains ct
    case true => exact ⟨.err _, rfl, nofun⟩
    cases body with
    | doc idStr =>
      dsimp only
      cases parseDID idStr with
      | ok docID =>
        dsimp only
        by_cases hid : docID.str = d.str
        · exact ⟨.ok _, by rw [if_pos hid]; rfl, fun _ h => Res.ok.inj h ▸ hid⟩
        · exact ⟨.err _, by rw [if_neg hid]; rfl, nofun⟩
      | err e => exact ⟨.err _, rfl, nofun⟩
      | panic p => exact ⟨.err _, rfl, nofun⟩
    | raw parsed =>
      cases parsed with
      | none => exact ⟨.err _, rfl, nofun⟩
      | some pid =>
        dsimp only
        by_cases hid : pid = d.str
        · exact ⟨.ok _, by rw [if_pos hid]; rfl, fun _ h => Res.ok.inj h ▸ hid⟩
        · exact ⟨.err _, by rw [if_neg hid]; rfl, nofun⟩
    | badjson => exact ⟨.err _, rfl, nofun⟩
    | big => exact ⟨.err _, rfl, nofun⟩
    | empty => exact ⟨.err _, rfl, nofun⟩

end Nuts.C18
