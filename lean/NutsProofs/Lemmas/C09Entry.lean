/-
  C09 — the entry layer (NutsModel/C09/Entry.lean) by cases: `callbackF` accepts exactly when no failing store call is
  executed and `callback` accepts; `notify` then answers `finished` with `callback`'s store, and in every other case leaves
  the store alone; an executed failing lookup is answered by its kind.
-/
import NutsModel.C09.Entry
import NutsProofs.Lemmas.C09Runs
namespace Nuts.C09
open Nuts Nuts.C10

theorem callbackF_ok_iff (c : Cfg) (s s' : Store) (tx : Tx) (pd : Option NDoc) (f : Option AddFault) :
    callbackF c s tx pd f = .ok s' ↔ faultHit c s tx pd f = false ∧ callback c s tx pd = .ok s' := by
  cases f with
  | none => simp [callbackF, faultHit]
  | some ft =>
    cases hs : ft.site with
    | add =>
      simp only [callbackF, faultHit, hs]
      cases callback c s tx pd with
      | ok _ => simp
      | err x => by_cases hx : isStoreErr x = true <;> simp [hx]
      | panic _ => simp
    | lookup ks fb =>
      simp only [callbackF, hs]
      by_cases hh : faultHit c s tx pd (some ft) = true
      · simp [hh]
      · have hh' : faultHit c s tx pd (some ft) = false := Bool.eq_false_iff.mpr hh
        simp [hh']

theorem handleNetworkEvent_fst (b : Bool) (c : Cfg) (s : Store) (ev : DagEvent) (f : Option AddFault) :
    (handleNetworkEvent b c s ev f).1 = (match callbackF c s ev.tx ev.payload f with | .ok s' => s' | _ => s) := by
  unfold handleNetworkEvent
  cases callbackF c s ev.tx ev.payload f with
  | ok _ | panic _ => rfl
  | err x => by_cases hb : (b && !isDatabaseErr f x) = true <;> simp [hb]

theorem handleNetworkEvent_finished (b : Bool) (c : Cfg) (s : Store) (ev : DagEvent) (f : Option AddFault) :
    (handleNetworkEvent b c s ev f).2 = .finished ↔ ∃ s', callbackF c s ev.tx ev.payload f = .ok s' := by
  unfold handleNetworkEvent
  cases callbackF c s ev.tx ev.payload f with
  | ok _ | panic _ => simp
  | err x => by_cases hb : (b && !isDatabaseErr f x) = true <;> simp [hb]

theorem notify_accepted (e : EntryCfg) (b : Bool) (c : Cfg) (s s' : Store) (ev : DagEvent) (f : Option AddFault)
    (hf : selectionFilter e ev = true) (hh : faultHit c s ev.tx ev.payload f = false)
    (hc : callback c s ev.tx ev.payload = .ok s') : notify e b c s ev f = (s', some .finished) := by
  unfold notify handleNetworkEvent
  rw [if_pos hf, (callbackF_ok_iff c s s' ev.tx ev.payload f).mpr ⟨hh, hc⟩]

theorem notify_not_accepted (e : EntryCfg) (b : Bool) (c : Cfg) (s : Store) (ev : DagEvent) (f : Option AddFault)
    (h : ¬ (selectionFilter e ev = true ∧ faultHit c s ev.tx ev.payload f = false ∧
      ∃ s', callback c s ev.tx ev.payload = .ok s')) :
    (notify e b c s ev f).1 = s ∧ (notify e b c s ev f).2 ≠ some .finished := by
  unfold notify
  split
  · next hf =>
    have hno : ¬ ∃ s', callbackF c s ev.tx ev.payload f = .ok s' := fun ⟨s', hcb⟩ =>
      h ⟨hf, ((callbackF_ok_iff c s s' ev.tx ev.payload f).mp hcb).imp_right fun h2 => ⟨s', h2⟩⟩
    refine ⟨?_, fun hfin => hno ((handleNetworkEvent_finished b c s ev f).mp (Option.some.inj hfin))⟩
    rw [handleNetworkEvent_fst]
    split
    · exact absurd ⟨_, ‹_›⟩ hno
    · rfl
  · simp

theorem notify_events (e : EntryCfg) (b : Bool) (c : Cfg) (s : Store) (ev : DagEvent) (f : Option AddFault) (id : String)
    (x : Event) (h : x ∈ ((notify e b c s ev f).1.get id).events) :
    x ∈ (s.get id).events ∨
    (selectionFilter e ev = true ∧ faultHit c s ev.tx ev.payload f = false ∧
      ∃ d s', ev.payload = some d ∧ callback c s ev.tx (some d) = .ok s' ∧ x = eventOf ev.tx d ∧ d.id = id) := by
  by_cases hacc : selectionFilter e ev = true ∧ faultHit c s ev.tx ev.payload f = false ∧
      ∃ s', callback c s ev.tx ev.payload = .ok s'
  · obtain ⟨hf, hh, s', hc⟩ := hacc
    rw [notify_accepted e b c s s' ev f hf hh hc] at h
    exact (callback_events c s s' ev.tx ev.payload id x hc h).imp_right
      fun ⟨d, hpd, hd⟩ => ⟨hf, hh, d, s', hpd, hpd ▸ hc, hd⟩
  · rw [(notify_not_accepted e b c s ev f hacc).1] at h
    exact Or.inl h

theorem notify_lookup_hit (e : EntryCfg) (c : Cfg) (s : Store) (ev : DagEvent) (f : AddFault) (ks : List Nat) (fb : Bool)
    (hf : selectionFilter e ev = true) (hs : f.site = .lookup ks fb) (hh : faultHit c s ev.tx ev.payload (some f) = true) :
    notify e true c s ev (some f) = (s, some (if f.isDb then .retry (faultErr f) else .fatal (faultErr f))) := by
  unfold notify handleNetworkEvent
  simp only [hf, if_true, callbackF, hs, hh]
  cases hdb : f.isDb <;> simp [isDatabaseErr, hdb]

end Nuts.C09
