/-
  C06 — the stored transactions.  Presence by ref; the prevs loop in closed form (`highest_eq`: all prevs stored, result = maximum
  of their clocks; `verifyPrevs_ok_iff`); `ChainOK`: each stored transaction was admissible against the transactions stored
  before it, and what that implies for every stored transaction.
-/
import NutsModel.C06.Admit
import NutsProofs.Lemmas.Base

namespace Nuts.C06

theorem findTx_some_ref {l : List Tx} {r : Nat} {t : Tx} (h : findTx l r = some t) : t.ref = r ∧ t ∈ l := by
  unfold findTx at h
  have h1 := List.find?_some h
  have h2 := List.mem_of_find?_eq_some h
  exact ⟨by simpa using h1, h2⟩

theorem findTx_none_iff {l : List Tx} {r : Nat} : findTx l r = none ↔ r ∉ refsOf l := by
  unfold findTx refsOf
  simp [List.find?_eq_none]

theorem findTx_isSome_iff {l : List Tx} {r : Nat} : (findTx l r).isSome = true ↔ r ∈ refsOf l := by
  cases h : findTx l r with
  | none => simp; exact findTx_none_iff.mp h
  | some t =>
    simp
    have := findTx_some_ref h
    unfold refsOf
    exact List.mem_map.mpr ⟨t, this.2, this.1⟩

theorem present_iff {s : St} {r : Nat} : s.present r = true ↔ r ∈ refsOf s.txs := by
  unfold St.present St.find
  exact findTx_isSome_iff

theorem present_false_iff {s : St} {r : Nat} : s.present r = false ↔ r ∉ refsOf s.txs := by
  rw [← present_iff]; cases s.present r <;> simp

theorem findTx_cons_of_ne {l : List Tx} {t : Tx} {r : Nat} (h : t.ref ≠ r) : findTx (t :: l) r = findTx l r := by
  unfold findTx
  simp [h]

theorem findTx_cons_self {l : List Tx} {t : Tx} : findTx (t :: l) t.ref = some t := by
  unfold findTx
  simp

def prevClocks (l : List Tx) (ps : List Nat) : List Int := ps.filterMap fun p => (findTx l p).map fun t => (t.clock : Int)

theorem mem_prevClocks {l : List Tx} {ps : List Nat} {c : Int} :
    c ∈ prevClocks l ps ↔ ∃ p ∈ ps, ∃ u, findTx l p = some u ∧ (u.clock : Int) = c := by
  simp [prevClocks, List.mem_filterMap]

theorem highest_eq (l : List Tx) (ps : List Nat) (h : Int) : highest l ps h =
    if ∀ p ∈ ps, (findTx l p).isSome = true then .ok ((prevClocks l ps).foldl max h) else .err "prev-missing" := by
  fun_induction highest l ps h with
  | case1 h => rfl
  | case2 p ps h hf => exact (if_neg fun hall => by simpa [hf] using hall p List.mem_cons_self).symm
  | case3 p ps h t hf ih =>
    rw [ih, prevClocks, prevClocks, List.filterMap_cons, hf]
    simp only [List.forall_mem_cons, hf, Option.isSome_some, true_and]
    rfl

theorem highest_ok {l : List Tx} {ps : List Nat} {h h' : Int} (hh : highest l ps h = .ok h') :
    (∀ p ∈ ps, (findTx l p).isSome = true) ∧ h' = (prevClocks l ps).foldl max h := by
  rw [highest_eq] at hh
  split at hh
  · rename_i hall; exact ⟨hall, (Res.ok.inj hh).symm⟩
  · cases hh

theorem verifyPrevs_ok_iff {l : List Tx} {tx : Tx} : verifyPrevs l tx = .ok () ↔
    (∀ p ∈ tx.prevs, (findTx l p).isSome = true) ∧ (tx.clock : Int) = (prevClocks l tx.prevs).foldl max (-1) + 1 := by
  unfold verifyPrevs
  rw [highest_eq]
  by_cases hall : ∀ p ∈ tx.prevs, (findTx l p).isSome = true
  · rw [if_pos hall]; simpa using fun _ => hall
  · rw [if_neg hall]; simp [hall]

theorem highest_cons {l : List Tx} {t' : Tx} (hn : t'.ref ∉ refsOf l) {ps : List Nat} {h h' : Int}
    (hh : highest l ps h = .ok h') : highest (t' :: l) ps h = .ok h' := by
  obtain ⟨hall, rfl⟩ := highest_ok hh
  have e : ∀ p ∈ ps, findTx (t' :: l) p = findTx l p := fun p hp =>
    findTx_cons_of_ne fun he => hn (he ▸ findTx_isSome_iff.mp (hall p hp))
  have ec : prevClocks (t' :: l) ps = prevClocks l ps := filterMap_congr' fun p hp => congrArg _ (e p hp)
  rw [highest_eq, if_pos fun p hp => e p hp ▸ hall p hp, ec]

theorem verifyPrevs_cons {l : List Tx} {t' tx : Tx} (hn : t'.ref ∉ refsOf l)
    (h : verifyPrevs l tx = .ok ()) : verifyPrevs (t' :: l) tx = .ok () := by
  unfold verifyPrevs at h ⊢
  split at h
  · rename_i v hv; rw [highest_cons hn hv]; exact h
  · cases h
  · cases h

/-- each stored transaction was admissible with respect to the transactions stored before it (newest first) -/
def ChainOK (env : Env) : List Tx → Prop
  | [] => True
  | t :: rest => ChainOK env rest ∧ t.ref ∉ refsOf rest ∧ verifyPrevs rest t = .ok () ∧ verifySig env t = .ok () ∧
      (t.prevs = [] → hasRoot rest = false)

theorem eq_of_ref {l : List Tx} (nd : (refsOf l).Nodup) {x y : Tx} (hx : x ∈ l) (hy : y ∈ l) (h : x.ref = y.ref) : x = y :=
  pairwise_ne_inj (List.pairwise_map.mp nd) hx hy h

theorem chain_nodup {env : Env} {l : List Tx} (h : ChainOK env l) : (refsOf l).Nodup := by
  fun_induction ChainOK env l with
  | case1 => exact List.nodup_nil
  | case2 t rest ih => exact List.nodup_cons.mpr ⟨h.2.1, ih h.1⟩

theorem chain_sig {env : Env} {l : List Tx} (h : ChainOK env l) : ∀ t ∈ l, verifySig env t = .ok () := by
  fun_induction ChainOK env l with
  | case1 => exact fun _ h => nomatch h
  | case2 t rest ih => exact List.forall_mem_cons.mpr ⟨h.2.2.2.1, ih h.1⟩

/-- in a reachable store every stored transaction passes the prevs verifier against the WHOLE store (not only against the
    part that was there when it was admitted) -/
theorem chain_verifyPrevs {env : Env} {l : List Tx} (h : ChainOK env l) : ∀ t ∈ l, verifyPrevs l t = .ok () := by
  fun_induction ChainOK env l with
  | case1 => exact fun _ h => nomatch h
  | case2 t' rest ih =>
    exact List.forall_mem_cons.mpr ⟨verifyPrevs_cons h.2.1 h.2.2.1, fun t ht => verifyPrevs_cons h.2.1 (ih h.1 t ht)⟩

theorem verifyPrevs_spec {l : List Tx} {tx : Tx} (h : verifyPrevs l tx = .ok ()) :
    (∀ p ∈ tx.prevs, ∃ u ∈ l, u.ref = p ∧ u.clock < tx.clock) ∧
    (tx.prevs = [] → tx.clock = 0) ∧
    (tx.prevs ≠ [] → ∃ u ∈ l, u.ref ∈ tx.prevs ∧ tx.clock = u.clock + 1) := by
  obtain ⟨hall, hc⟩ := verifyPrevs_ok_iff.mp h
  obtain ⟨_, b, d⟩ := foldl_max_spec (prevClocks l tx.prevs) (-1)
  have hb : ∀ p ∈ tx.prevs, ∃ u, findTx l p = some u ∧ (u.clock : Int) ≤ (prevClocks l tx.prevs).foldl max (-1) := fun p hp =>
    let ⟨u, hu⟩ := Option.isSome_iff_exists.mp (hall p hp); ⟨u, hu, b _ (mem_prevClocks.mpr ⟨p, hp, u, hu, rfl⟩)⟩
  refine ⟨fun p hp => ?_, fun he => ?_, fun hne => ?_⟩
  · obtain ⟨u, hu, hle⟩ := hb p hp
    exact ⟨u, (findTx_some_ref hu).2, (findTx_some_ref hu).1, Int.ofNat_lt.mp (hc ▸ Int.lt_add_one_of_le hle)⟩
  · rw [he] at hc; exact Int.ofNat_eq_zero.mp hc
  · rcases d with d | d
    · obtain ⟨p, hp⟩ := List.exists_mem_of_ne_nil _ hne
      obtain ⟨u, _, hle⟩ := hb p hp
      omega
    · obtain ⟨p, hp, u, hu, hcl⟩ := mem_prevClocks.mp d
      exact ⟨u, (findTx_some_ref hu).2, (findTx_some_ref hu).1 ▸ hp, by omega⟩

theorem chain_mem {env : Env} : ∀ {l : List Tx}, ChainOK env l → ∀ t ∈ l,
    (∀ p ∈ t.prevs, ∃ u ∈ l, u.ref = p ∧ u.clock < t.clock) ∧ (t.prevs = [] → t.clock = 0) ∧
    (t.prevs ≠ [] → ∃ u ∈ l, u.ref ∈ t.prevs ∧ t.clock = u.clock + 1) := by
  intro l
  induction l with
  | nil => intro _ t ht; cases ht
  | cons t rest ih =>
    intro h u hu
    obtain ⟨a, b, c⟩ := (List.mem_cons.mp hu).elim (fun e => e ▸ verifyPrevs_spec h.2.2.1) (ih h.1 u)
    exact ⟨fun p hp => let ⟨v, hv, hr⟩ := a p hp; ⟨v, List.mem_cons_of_mem _ hv, hr⟩, b,
      fun hne => let ⟨v, hv, hr⟩ := c hne; ⟨v, List.mem_cons_of_mem _ hv, hr⟩⟩

theorem hasRoot_false_iff {l : List Tx} : hasRoot l = false ↔ ∀ t ∈ l, t.clock ≠ 0 := by
  unfold hasRoot
  simp

theorem chain_root_unique {env : Env} : ∀ {l : List Tx}, ChainOK env l → ∀ t ∈ l, ∀ u ∈ l,
    t.prevs = [] → u.prevs = [] → t = u := by
  intro l
  induction l with
  | nil => intro _ t ht; cases ht
  | cons x rest ih =>
    intro h t ht u hu hpt hpu
    have key : ∀ a ∈ rest, a.prevs = [] → x.prevs = [] → False := by
      intro a ha hpa hpx
      have h0 : a.clock = 0 := (chain_mem h.1 a ha).2.1 hpa
      have := hasRoot_false_iff.mp (h.2.2.2.2 hpx) a ha
      exact this h0
    cases ht with
    | head =>
      cases hu with
      | head => rfl
      | tail _ hu => exact (key u hu hpu hpt).elim
    | tail _ ht =>
      cases hu with
      | head => exact (key t ht hpt hpu).elim
      | tail _ hu => exact ih h.1 t ht u hu hpt hpu

end Nuts.C06
