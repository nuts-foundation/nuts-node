/-
  Why a requester takes what a peer replies with: a transaction of the peer's valid DAG is admitted once its prevs are
  there, so a reply that is prev-closed over what the requester has is absorbed whole, chunk by chunk; one that is not
  makes the requester start over with a `State` request.
-/
import NutsModel.C07.Round
import NutsProofs.Lemmas.C07Dag
open Nuts.Proto Nuts Nuts.Proto.L

namespace Nuts.Proto.Live

theorem toPeer_cons_driving (key : Nat) (m : Msg) (rest : Out) (h : driving m = true) :
    toPeer key ((key, m) :: rest) = m :: toPeer key rest := by
  simp [toPeer, h]

theorem toPeer_single (key : Nat) (m : Msg) (h : driving m = true) : toPeer key [(key, m)] = [m] :=
  toPeer_cons_driving key m [] h

theorem toPeer_append (key : Nat) (o1 o2 : Out) : toPeer key (o1 ++ o2) = toPeer key o1 ++ toPeer key o2 := by
  simp [toPeer]

theorem toPeer_pq (key : Nat) (out : Out) (h : ∀ o ∈ out, ∃ r, o.2 = .payloadQuery r) : toPeer key out = [] := by
  unfold toPeer
  have : out.filter (fun o => o.1 == key && driving o.2) = [] := by
    apply List.filter_eq_nil_iff.mpr
    intro o ho
    obtain ⟨r, hr⟩ := h o ho
    simp [hr, driving]
  rw [this]; rfl

theorem toPeer_sub (key : Nat) (out : Out) : ∀ m ∈ toPeer key out, ∃ o ∈ out, o.2 = m := by
  intro m hm
  unfold toPeer at hm
  obtain ⟨o, ho, rfl⟩ := List.mem_map.mp hm
  exact ⟨o, (List.mem_filter.mp ho).1, rfl⟩

theorem toPeer_numbered (key : Nat) (cid : Cid) (total : Nat) : ∀ (chunks : List (List NetTx)) (k : Nat),
    toPeer key ((numberChunks cid total k chunks).map (fun m => (key, m))) = numberChunks cid total k chunks := by
  intro chunks
  induction chunks with
  | nil => intro k; rfl
  | cons c cs ih =>
    intro k
    simp only [numberChunks, List.map_cons]
    rw [toPeer_cons_driving key _ _ rfl, ih (k + 1)]

theorem absorb_cons (cfg : Cfg) (env : Env) (n : Node) (p : Peer) (m : Msg) (ms : List Msg) :
    absorb cfg env n p (m :: ms) =
      ((absorb cfg env (handle cfg env n p m).node p ms).1,
       toPeer p.key (handle cfg env n p m).out ++ (absorb cfg env (handle cfg env n p m).node p ms).2) := rfl

theorem absorb_single (cfg : Cfg) (env : Env) (n : Node) (p : Peer) (m : Msg) :
    absorb cfg env n p [m] = ((handle cfg env n p m).node, toPeer p.key (handle cfg env n p m).out) := by
  simp [absorb]

theorem absorb_keeps (cfg : Cfg) (env : Env) (p : Peer) (P : Node → Prop) : ∀ (msgs : List Msg),
    (∀ n, ∀ m ∈ msgs, P n → P (handle cfg env n p m).node) → ∀ n, P n → P (absorb cfg env n p msgs).1 := by
  intro msgs
  induction msgs with
  | nil => intro _ n h; exact h
  | cons m ms ih =>
    intro hP n h
    rw [absorb_cons]
    exact ih (fun n m' hm' => hP n m' (List.mem_cons_of_mem _ hm')) _ (hP n m List.mem_cons_self h)

/-- refs identify transactions across the two DAGs (SHA-256 is injective on what occurs) -/
def RefFun (a b : List Tx) : Prop :=
  ∀ t, (t ∈ a ∨ t ∈ b) → ∀ t', (t' ∈ a ∨ t' ∈ b) → t.ref = t'.ref → t = t'

/-- the root of `b` is in `a` -/
def RootIn (a b : List Tx) : Prop := ∀ t ∈ b, t.prevs = [] → t ∈ a

theorem mem_of_present {a b : List Tx} (hf : RefFun a b) {t : Tx} (hb : t ∈ b) (hp : present a t.ref = true) : t ∈ a := by
  obtain ⟨t', ht', hr⟩ := present_iff.mp hp
  have := hf t' (Or.inl ht') t (Or.inr hb) hr
  rwa [← this]

theorem refFun_grow {a a' b : List Tx} (hf : RefFun a b) (h : ∀ t ∈ a', t ∈ a ∨ t ∈ b) : RefFun a' b := by
  intro t ht t' ht' he
  have conv : ∀ z, (z ∈ a' ∨ z ∈ b) → (z ∈ a ∨ z ∈ b) := by
    intro z hz
    rcases hz with hz | hz
    · exact h z hz
    · exact Or.inr hz
  exact hf t (conv t ht) t' (conv t' ht') he

theorem refFun_symm {a b : List Tx} (h : RefFun a b) : RefFun b a := by
  intro t ht t' ht' he
  exact h t ht.symm t' ht'.symm he

theorem admit {a b : List Tx} (hb : DagOK b) (hf : RefFun a b) (hroot : RootIn a b)
    {t : Tx} (ht : t ∈ b) (hnew : present a t.ref = false) (hprev : ∀ p ∈ t.prevs, present a p = true)
    (pl : Option Payload) (hpl : ∀ p, pl = some p → p.sha = t.payloadHash) : addCheck a t pl = .added := by
  obtain ⟨suf, hsub, _, hsig, _, hpres, hclk, _⟩ := dagOK_mem hb t ht
  refine addCheck_added_iff.mpr ⟨hsig, hnew, hprev, ?_, fun he => ?_, hpl⟩
  · rw [hclk]
    apply expectedClock_congr
    intro p hp
    obtain ⟨t1, hg1, hm1, hr1⟩ := getTx_of_present (hpres p hp)
    obtain ⟨t2, hg2, hm2, hr2⟩ := getTx_of_present (hprev p hp)
    rw [hg1, hg2, hf t1 (Or.inr (hsub t1 hm1)) t2 (Or.inl hm2) (by rw [hr1, hr2])]
  · -- `t` would be the root, which `a` has
    rw [present_iff.mpr ⟨t, hroot t ht he, rfl⟩] at hnew; cases hnew

/-- the prevs of every element are among the given refs or among the elements before it -/
inductive PrevClosed : List Ref → List Tx → Prop where
  | nil (h : List Ref) : PrevClosed h []
  | cons (h : List Ref) (t : Tx) (ts : List Tx) : (∀ p ∈ t.prevs, p ∈ h) → PrevClosed (t.ref :: h) ts → PrevClosed h (t :: ts)

def OfferOK (l : List (Tx × Option Payload)) : Prop :=
  ∀ x ∈ l, (x.1.pal = [] → ∃ p, x.2 = some p ∧ p.len ≠ 0) ∧ (∀ p, x.2 = some p → p.sha = x.1.payloadHash)

/-- every public transaction of the node has a non-empty payload with the right hash in the store -/
def PayloadsOK (n : Node) : Prop :=
  ∀ t ∈ n.dag, t.pal = [] → ∃ p, readPayload n t.payloadHash = some p ∧ p.sha = t.payloadHash ∧ p.len ≠ 0

def netOf (n : Node) (t : Tx) : NetTx :=
  { tx := some t, payload := if t.pal.isEmpty then readPayload n t.payloadHash else none }

theorem collect_eq (n : Node) (hp : PayloadsOK n) : ∀ (l : List Tx), (∀ t ∈ l, t ∈ n.dag) → collect n l = some (l.map (netOf n)) := by
  intro l
  induction l with
  | nil => intro _; rfl
  | cons t ts ih =>
    intro h
    have iht := ih (fun x hx => h x (List.mem_cons_of_mem _ hx))
    unfold collect
    by_cases hpal : t.pal.isEmpty = true
    · obtain ⟨p, hr, _, _⟩ := hp t (h t List.mem_cons_self) (by simpa using hpal)
      simp [hpal, hr, iht, netOf]
    · simp [hpal, iht, netOf]

def offerOf (n : Node) (t : Tx) : Tx × Option Payload := (t, (netOf n t).payload)

theorem parseAll_netOf (n : Node) (l : List Tx) : parseAll (l.map (netOf n)) = some (l.map (offerOf n)) := by
  rw [← parseAll_wire (l.map (offerOf n)), List.map_map]; rfl

theorem offerOK_of (n : Node) (hp : PayloadsOK n) (l : List Tx) (hl : ∀ t ∈ l, t ∈ n.dag) : OfferOK (l.map (offerOf n)) := by
  intro x hx
  obtain ⟨t, ht, rfl⟩ := List.mem_map.mp hx
  simp only [offerOf, netOf]
  constructor
  · intro hpal
    obtain ⟨p, hr, _, hlen⟩ := hp t (hl t ht) hpal
    exact ⟨p, by simp [hpal, hr], hlen⟩
  · intro p hpp
    by_cases hpal : t.pal = []
    · obtain ⟨p', hr, hsha, _⟩ := hp t (hl t ht) hpal
      simp [hpal, hr] at hpp
      subst hpp; exact hsha
    · have : t.pal.isEmpty = false := by
        cases h : t.pal with
        | nil => exact absurd h hpal
        | cons _ _ => rfl
      simp [this] at hpp

theorem prevClosed_append : ∀ (l1 l2 : List Tx) (h : List Ref), PrevClosed h (l1 ++ l2) →
    PrevClosed h l1 ∧ PrevClosed ((l1.map (·.ref)).reverse ++ h) l2 := by
  intro l1
  induction l1 with
  | nil => intro l2 h hp; exact ⟨PrevClosed.nil h, by simpa using hp⟩
  | cons t ts ih =>
    intro l2 h hp
    cases hp with
    | cons _ _ _ h1 h2 =>
      obtain ⟨i1, i2⟩ := ih l2 (t.ref :: h) h2
      refine ⟨PrevClosed.cons h t ts h1 i1, ?_⟩
      simpa [List.map_cons, List.reverse_cons, List.append_assoc] using i2

@[simp] theorem commitTx_convs (cfg : Cfg) (n : Node) (tx : Tx) (pl : Option Payload) : (commitTx cfg n tx pl).convs = n.convs := rfl
@[simp] theorem commitTx_peers (cfg : Cfg) (n : Node) (tx : Tx) (pl : Option Payload) : (commitTx cfg n tx pl).peers = n.peers := rfl
@[simp] theorem commitTx_now (cfg : Cfg) (n : Node) (tx : Tx) (pl : Option Payload) : (commitTx cfg n tx pl).now = n.now := rfl
@[simp] theorem commitTx_id (cfg : Cfg) (n : Node) (tx : Tx) (pl : Option Payload) : (commitTx cfg n tx pl).id = n.id := rfl
@[simp] theorem commitTx_nextCid (cfg : Cfg) (n : Node) (tx : Tx) (pl : Option Payload) : (commitTx cfg n tx pl).nextCid = n.nextCid := rfl
@[simp] theorem commitTx_lastConv (cfg : Cfg) (n : Node) (tx : Tx) (pl : Option Payload) : (commitTx cfg n tx pl).lastConv = n.lastConv := rfl

def SameShape (n n' : Node) : Prop := n'.peers = n.peers ∧ n'.queues.map (·.peer) = n.queues.map (·.peer)

theorem SameShape.refl (n : Node) : SameShape n n := ⟨rfl, rfl⟩
theorem SameShape.trans {a b c : Node} (h1 : SameShape a b) (h2 : SameShape b c) : SameShape a c :=
  ⟨h2.1.trans h1.1, h2.2.trans h1.2⟩

theorem logStep_keeps (cfg : Cfg) (q : PeerQueue) (r : Ref) :
    (logStep cfg q r).peer = q.peer ∧ (logStep cfg q r).xor = q.xor ∧ (logStep cfg q r).clock = q.clock ∧
    ∀ x ∈ (logStep cfg q r).queue, x ∈ q.queue := by
  unfold logStep
  exact ⟨rfl, rfl, rfl, fun x hx => (List.mem_filter.mp hx).1⟩

theorem logReceived_keeps (cfg : Cfg) : ∀ (refs : List Ref) (q : PeerQueue),
    (q.logReceived cfg refs).peer = q.peer ∧ (q.logReceived cfg refs).xor = q.xor ∧ (q.logReceived cfg refs).clock = q.clock ∧
    ∀ x ∈ (q.logReceived cfg refs).queue, x ∈ q.queue := by
  intro refs
  induction refs with
  | nil => intro q; exact ⟨rfl, rfl, rfl, fun x hx => hx⟩
  | cons r rs ih =>
    intro q
    obtain ⟨a1, a2, a3, a4⟩ := logStep_keeps cfg q r
    obtain ⟨b1, b2, b3, b4⟩ := ih (logStep cfg q r)
    unfold PeerQueue.logReceived
    simp only [List.foldl_cons]
    exact ⟨b1.trans a1, b2.trans a2, b3.trans a3, fun x hx => a4 x (b4 x hx)⟩

theorem enqueue_keeps (cfg : Cfg) (q : PeerQueue) (clock : Nat) (x r : Ref) :
    (q.enqueue cfg clock x r).peer = q.peer ∧ (q.enqueue cfg clock x r).xor = x ∧ (q.enqueue cfg clock x r).clock = clock ∧
    ∀ y ∈ (q.enqueue cfg clock x r).queue, y ∈ q.queue ∨ y = r := by
  unfold PeerQueue.enqueue
  simp only
  split
  · exact ⟨rfl, rfl, rfl, fun y hy => .inl hy⟩
  · split
    · exact ⟨rfl, rfl, rfl, fun y hy => .inl hy⟩
    · refine ⟨rfl, rfl, rfl, fun y hy => ?_⟩
      unfold uAdd at hy
      split at hy
      · exact .inl hy
      · simpa using hy

theorem gossipReceived_shape (cfg : Cfg) (n : Node) (peer : Nat) (refs : List Ref) : SameShape n (gossipReceived cfg n peer refs) := by
  refine ⟨rfl, ?_⟩
  simp only [gossipReceived, List.map_map]
  refine List.map_congr_left fun q _ => ?_
  simp only [Function.comp]
  split
  · exact (logReceived_keeps cfg refs q).1
  · rfl

theorem commitTx_shape (cfg : Cfg) (n : Node) (tx : Tx) (pl : Option Payload) : SameShape n (commitTx cfg n tx pl) := by
  refine ⟨rfl, ?_⟩
  simp only [commitTx, transactionRegistered, List.map_map]
  exact List.map_congr_left fun q _ => (enqueue_keeps cfg q _ _ _).1

theorem addLoop_frame (cfg : Cfg) (env : Env) : ∀ (l : List (Tx × Option Payload)) (n : Node),
    (addLoop cfg env n l).node.convs = n.convs ∧ SameShape n (addLoop cfg env n l).node := by
  intro l
  induction l with
  | nil => intro n; exact ⟨rfl, .refl n⟩
  | cons x xs ih =>
    intro n
    obtain ⟨tx, pl⟩ := x
    rcases addLoop_cons_node cfg env n tx pl xs with hn | hn | ⟨_, _, hn⟩ <;> rw [hn]
    · exact ⟨rfl, .refl n⟩
    · exact ih n
    · exact ⟨(ih _).1, (commitTx_shape cfg n tx pl).trans (ih _).2⟩

theorem handle_shape (cfg : Cfg) (env : Env) (n : Node) (p : Peer) (m : Msg) : SameShape n (handle cfg env n p m).node := by
  obtain ⟨n1, hcore, hco, _⟩ := handle_spec cfg env n p m
  refine .trans ?_ ⟨hco.2.2.2, by rw [hco.2.2.1]⟩
  cases hcore with
  | logged x lc refs => exact gossipReceived_shape cfg n p.key refs
  | added cid num total txs ps _ _ => exact (addLoop_frame cfg env ps n).2
  | _ => exact ⟨rfl, rfl⟩

theorem absorb_shape (cfg : Cfg) (env : Env) (p : Peer) (msgs : List Msg) (n : Node) : SameShape n (absorb cfg env n p msgs).1 :=
  absorb_keeps cfg env p (SameShape n) msgs (fun n' m _ h => h.trans (handle_shape cfg env n' p m)) n (.refl n)

def Accepts : ConvData → List Tx → Prop
  | .listQuery refs, l => ∀ t ∈ l, t.ref ∈ refs
  | .rangeQuery a b, l => ∀ t ∈ l, a ≤ t.clock ∧ t.clock < b
  | .state _, _ => False

theorem checkResponse_accepts (n : Node) (D : ConvData) (l : List Tx) (h : Accepts D l) (cid : Cid) (num total : Nat) :
    checkResponse D (.txList cid num total (l.map (netOf n))) = none := by
  cases D with
  | state lc => exact absurd h (by simp [Accepts])
  | listQuery refs =>
    simp only [checkResponse, parseAll_netOf]
    have : (l.map (offerOf n)).all (fun p => refs.contains p.1.ref) = true := by
      simp only [List.all_eq_true, List.mem_map]
      rintro x ⟨t, ht, rfl⟩
      simpa [offerOf] using h t ht
    rw [this]; rfl
  | rangeQuery a b =>
    simp only [checkResponse, parseAll_netOf]
    have : (l.map (offerOf n)).all (fun p => decide (a ≤ p.1.clock) && decide (p.1.clock < b)) = true := by
      simp only [List.all_eq_true, List.mem_map]
      rintro x ⟨t, ht, rfl⟩
      have := h t ht
      simp [offerOf, this.1, this.2]
    rw [this]; rfl

theorem txList_rejected_state (cfg : Cfg) (env : Env) (n : Node) (p : Peer) (c : Conv) (lc : Nat) (hc : n.convs = [c])
    (hd : c.data = .state lc) (cid : Cid) (num total : Nat) (txs : List NetTx) :
    (handle cfg env n p (.txList cid num total txs)).node = n ∧ (handle cfg env n p (.txList cid num total txs)).out = [] := by
  apply (rejected_response_noop cfg env n p cid).1
  unfold convCheck findConv
  rw [hc]
  by_cases h : c.cid = cid
  · simp [h, hd, checkResponse]
  · have : (c.cid == cid) = false := by simpa using h
    simp [List.find?, this]

theorem absorb_rejected (cfg : Cfg) (env : Env) (n : Node) (p : Peer) (c : Conv) (lc : Nat) (hc : n.convs = [c])
    (hd : c.data = .state lc) (cid : Cid) (total : Nat) : ∀ (chunks : List (List NetTx)) (k : Nat),
    absorb cfg env n p (numberChunks cid total k chunks) = (n, []) := by
  intro chunks
  induction chunks with
  | nil => intro k; rfl
  | cons ch rest ih =>
    intro k
    simp only [numberChunks, absorb_cons]
    obtain ⟨h1, h2⟩ := txList_rejected_state cfg env n p c lc hc hd cid (k + 1) total ch
    rw [h1, h2, ih (k + 1)]
    rfl

theorem prevClosed_of_sorted {b : List Tx} (hb : DagOK b) : ∀ (l : List Tx) (have_ : List Ref),
    l.Pairwise (fun x y => x.clock ≤ y.clock) → (∀ t ∈ l, t ∈ b) →
    (∀ t ∈ l, ∀ p ∈ t.prevs, p ∈ have_ ∨ ∃ t' ∈ l, t'.ref = p) → PrevClosed have_ l := by
  intro l
  induction l with
  | nil => intro h _ _ _; exact PrevClosed.nil h
  | cons t ts ih =>
    intro have_ hs hmem hcl
    have hs' := List.pairwise_cons.mp hs
    refine PrevClosed.cons have_ t ts ?_ (ih (t.ref :: have_) hs'.2 (fun x hx => hmem x (List.mem_cons_of_mem _ hx)) ?_)
    · intro p hp
      rcases hcl t List.mem_cons_self p hp with h | ⟨t', ht', hr⟩
      · exact h
      · exfalso
        obtain ⟨tb, htb, hrb, hlt⟩ := dagOK_prev hb (hmem t List.mem_cons_self) hp
        have heq : t' = tb := dagOK_unique hb t' (hmem t' ht') tb htb (by rw [hr, hrb])
        subst heq
        rcases List.mem_cons.mp ht' with rfl | h
        · omega
        · have := hs'.1 t' h; omega
    · intro x hx p hp
      rcases hcl x (List.mem_cons_of_mem _ hx) p hp with h | ⟨t', ht', hr⟩
      · exact Or.inl (List.mem_cons_of_mem _ h)
      · rcases List.mem_cons.mp ht' with rfl | h
        · exact Or.inl (by rw [← hr]; exact List.mem_cons_self)
        · exact Or.inr ⟨t', h, hr⟩

structure Grown (A B A' : List Tx) : Prop where
  ok : DagOK A'
  ext : Grew (· ∈ B) A A'

theorem Grown.refl {A B : List Tx} (h : DagOK A) : Grown A B A := ⟨h, .refl _ _⟩

theorem Grown.sub {A B A' : List Tx} (g : Grown A B A') : ∀ t ∈ A, t ∈ A' := by
  obtain ⟨added, h, _⟩ := g.ext
  exact fun t ht => h ▸ List.mem_append_right _ ht

theorem Grown.src {A B A' : List Tx} (g : Grown A B A') : ∀ t ∈ A', t ∈ A ∨ t ∈ B := by
  obtain ⟨added, h, m⟩ := g.ext
  exact fun t ht => (List.mem_append.mp (h ▸ ht)).elim (fun h => .inr (m t h)) .inl

theorem Grown.trans {A B A₁ A₂ : List Tx} (g : Grown A B A₁) (h : Grown A₁ B A₂) : Grown A B A₂ :=
  ⟨h.ok, g.ext.trans h.ext⟩

theorem Grown.same {A B A' : List Tx} (g : Grown A B A') (h : ¬ ∃ t ∈ A', t ∉ A) : A' = A := by
  obtain ⟨added, hd, _⟩ := g.ext
  have : added = [] := dag_eq_of_no_new (hd ▸ g.ok) fun t ht => Classical.byContradiction fun hn => h ⟨t, hd ▸ ht, hn⟩
  rw [hd, this]; rfl

/-- what the puller's DAG `A` needs in order to take transactions of the server's DAG `B` -/
structure Pulls (A B : List Tx) : Prop where
  ok : DagOK A
  ref : RefFun A B
  root : RootIn A B

theorem Pulls.grown {A B A' : List Tx} (h : Pulls A B) (g : Grown A B A') : Pulls A' B :=
  ⟨g.ok, refFun_grow h.ref g.src, fun t ht he => g.sub t (h.root t ht he)⟩

theorem absorb_dag (cfg : Cfg) (env : Env) (p : Peer) (msgs : List Msg) (n : Node) (h : DagOK n.dag) :
    DagOK (absorb cfg env n p msgs).1.dag ∧ Grew (fun t => ∃ m ∈ msgs, t ∈ msgTxs m) n.dag (absorb cfg env n p msgs).1.dag := by
  refine absorb_keeps cfg env p (fun n' => DagOK n'.dag ∧ Grew (fun t => ∃ m ∈ msgs, t ∈ msgTxs m) n.dag n'.dag)
    msgs (fun n' m hm ⟨ok, g⟩ => ?_) n ⟨h, .refl _ _⟩
  obtain ⟨ok', g', _⟩ := handle_dag cfg env n' p m ok
  exact ⟨ok', g.trans (g'.mono fun _ ht => ⟨m, hm, ht.2⟩)⟩

theorem msgTxs_numbered (n : Node) (cid : Cid) (total : Nat) (ls : List (List Tx)) (k : Nat) (m : Msg)
    (hm : m ∈ numberChunks cid total k (ls.map (·.map (netOf n)))) : ∀ t ∈ msgTxs m, t ∈ ls.flatten := by
  obtain ⟨_, c, rfl, hc⟩ := numberChunks_mem cid total _ k m hm
  obtain ⟨ch, hch, rfl⟩ := List.mem_map.mp hc
  intro t ht
  refine List.mem_flatten.mpr ⟨ch, hch, ?_⟩
  simpa [msgTxs, netOf, List.mem_filterMap] using ht

theorem absorb_grown (cfg : Cfg) (env : Env) (bn : Node) (pB : Peer) (cid : Cid) (total : Nat) (ls : List (List Tx)) (k : Nat)
    (a : Node) (ha : DagOK a.dag) (hmem : ∀ t ∈ ls.flatten, t ∈ bn.dag) :
    Grown a.dag bn.dag (absorb cfg env a pB (numberChunks cid total k (ls.map (·.map (netOf bn))))).1.dag := by
  obtain ⟨ok, g⟩ := absorb_dag cfg env pB (numberChunks cid total k (ls.map (·.map (netOf bn)))) a ha
  exact ⟨ok, g.mono fun t ⟨m, hm, htm⟩ => hmem t (msgTxs_numbered bn cid total ls k m hm t htm)⟩

/-- how `addLoop` ends on transactions offered by a node with the valid DAG `b`: all of them are there afterwards, or it
    stopped at one whose prevs are missing — which does not happen in a list that is prev-closed over what the node has.
    (That the DAG stays valid and grows by offered transactions only is `addLoop_dag`.) -/
theorem addLoop_general (cfg : Cfg) (env : Env) {b : List Tx} (hb : DagOK b) :
    ∀ (l : List (Tx × Option Payload)) (n : Node), Pulls n.dag b → (∀ x ∈ l, x.1 ∈ b) → OfferOK l →
      (addLoop cfg env n l).res = .finished ∧ (∀ x ∈ l, present (addLoop cfg env n l).node.dag x.1.ref = true) ∨
      (addLoop cfg env n l).res = .prevMissing ∧
        ∀ have_, (∀ r ∈ have_, present n.dag r = true) → ¬ PrevClosed have_ (l.map (·.1)) := by
  intro l
  induction l with
  | nil => intro n _ _ _; simp [addLoop]
  | cons x xs ih =>
    intro n hp hlb hoff
    obtain ⟨tx, pl⟩ := x
    obtain ⟨hoff1, hoff2⟩ := hoff (tx, pl) List.mem_cons_self
    have hxs_b : ∀ x ∈ xs, x.1 ∈ b := fun x hx => hlb x (List.mem_cons_of_mem _ hx)
    have hxs_off : OfferOK xs := fun x hx => hoff x (List.mem_cons_of_mem _ hx)
    -- the rest of the loop, run from a node `n'` that has `n`'s transactions and `tx`
    have rest : ∀ n', Pulls n'.dag b → (∀ t ∈ n.dag, t ∈ n'.dag) → present n'.dag tx.ref = true →
        (addLoop cfg env n' xs).res = .finished ∧ (∀ x ∈ (tx, pl) :: xs, present (addLoop cfg env n' xs).node.dag x.1.ref = true) ∨
        (addLoop cfg env n' xs).res = .prevMissing ∧
          ∀ have_, (∀ r ∈ have_, present n.dag r = true) → ¬ PrevClosed have_ (((tx, pl) :: xs).map (·.1)) := by
      intro n' hp' hsub hpres
      obtain ⟨_, added, hd, _⟩ := addLoop_dag cfg env xs n' hp'.ok
      rcases ih n' hp' hxs_b hxs_off with ⟨hf1, hall⟩ | ⟨hpm, hno⟩
      · refine .inl ⟨hf1, fun x hx => ?_⟩
        rcases List.mem_cons.mp hx with rfl | hx'
        · exact present_mono (fun t ht => by rw [hd]; exact List.mem_append_right _ ht) hpres
        · exact hall x hx'
      · refine .inr ⟨hpm, fun have_ hh hpc => ?_⟩
        cases hpc with
        | cons _ _ _ _ hrest =>
          exact hno (tx.ref :: have_) (List.forall_mem_cons.mpr ⟨hpres, fun r hr => present_mono hsub (hh r hr)⟩) hrest
    have hnp : ¬ (tx.pal.isEmpty && payloadEmpty pl) = true := by
      cases hpal : tx.pal with
      | nil =>
        obtain ⟨p, hp, hlen⟩ := hoff1 hpal
        subst hp
        simp [payloadEmpty, hlen]
      | cons y ys => simp
    rw [addLoop_cons, if_neg hnp]
    by_cases hpres : present n.dag tx.ref = true
    · rw [show addCheck n.dag tx pl = .present by unfold addCheck; rw [if_pos hpres]]
      exact rest n hp (fun _ h => h) hpres
    · by_cases hprev : ∀ p ∈ tx.prevs, present n.dag p = true
      · have hadd : addCheck n.dag tx pl = .added :=
          admit hb hp.ref hp.root (hlb (tx, pl) List.mem_cons_self) (by simpa using hpres) hprev pl hoff2
        rw [hadd]
        exact rest (commitTx cfg n tx pl)
          (hp.grown ⟨dagOK_commit cfg n tx pl hp.ok hadd, [tx], rfl, fun _ ht =>
            (List.mem_singleton.mp ht).symm ▸ hlb (tx, pl) List.mem_cons_self⟩)
          (fun t ht => List.mem_cons_of_mem _ ht) (present_iff.mpr ⟨tx, List.mem_cons_self, rfl⟩)
      · rw [show addCheck n.dag tx pl = .prevMissing by
          unfold addCheck; rw [if_neg hpres, if_pos (by simpa [List.all_eq_true] using hprev)]]
        refine .inr ⟨rfl, fun have_ hh hpc => ?_⟩
        cases hpc with
        | cons _ _ _ hp _ => exact hprev (fun p hpp => hh p (hp p hpp))

/-- the node after `startConversation` accepted a request; the choice sits inside the `lastConv` field, so that every
    other field is a projection away -/
def opened (cfg : Cfg) (n : Node) (peer : Nat) (data : ConvData) : Node :=
  { n with nextCid := n.nextCid + 1,
           convs := { cid := (n.id, n.nextCid), expiry := n.now + cfg.validity, data := data } :: n.convs,
           lastConv := if data.blockable cfg then Nuts.alPut n.lastConv peer (n.id, n.nextCid) else n.lastConv }

@[simp] theorem opened_dag (cfg : Cfg) (n : Node) (peer : Nat) (data : ConvData) : (opened cfg n peer data).dag = n.dag := rfl

theorem sendRequest_empty (cfg : Cfg) (n : Node) (hc : n.convs = []) (peer : Nat) (data : ConvData) (mk : Cid → Msg) :
    sendRequest cfg n peer data mk = { node := opened cfg n peer data, out := [(peer, mk (n.id, n.nextCid))] } := by
  have hact : hasActive n peer = false := by
    unfold hasActive
    cases h : Nuts.alGet n.lastConv peer with
    | none => rfl
    | some cid => simp [findConv, hc]
  unfold sendRequest startConversation opened
  simp only [hact, Bool.and_false, Bool.false_eq_true, if_false]
  by_cases hb : data.blockable cfg = true <;> simp [hb]

theorem sendState_free (cfg : Cfg) (n : Node) (hc : n.convs = []) (peer : Nat) (x : Ref) (lc : Nat) :
    sendState cfg n peer x lc = { node := opened cfg n peer (.state lc), out := [(peer, .state (n.id, n.nextCid) x lc)] } :=
  sendRequest_empty cfg n hc peer _ _

/-- **absorbing any accepted reply**: node `a` holds exactly the conversation `c` of its request; `b`'s reply (any
    chunking of a list of `b`'s transactions the request accepts) is delivered chunk by chunk in order. Either
    everything is taken, the conversation is closed with the last chunk and nothing is sent back, or the loop hits a
    transaction whose prevs are missing, closes the conversation and starts over: what is left is an idle node `n'`
    sending a `State` request with its current XOR and clock (the remaining chunks are rejected); the reply was then not
    prev-closed over what `a` had. (What the DAG looks like afterwards is `absorb_grown`.) -/
theorem absorb_chunks_general (cfg : Cfg) (env : Env) (bn : Node) (hb : DagOK bn.dag) (hpb : PayloadsOK bn)
    (pB : Peer) (cid : Cid) (D : ConvData) (total : Nat) :
    ∀ (ls : List (List Tx)) (k : Nat) (a : Node) (c : Conv),
      Pulls a.dag bn.dag → a.convs = [c] → c.cid = cid → c.data = D →
      (∀ ch ∈ ls, Accepts D ch) → k + ls.length = total → (∀ t ∈ ls.flatten, t ∈ bn.dag) →
      let r := absorb cfg env a pB (numberChunks cid total k (ls.map (·.map (netOf bn))))
      (r.2 = [] ∧ (∀ t ∈ ls.flatten, present r.1.dag t.ref = true) ∧ (ls ≠ [] → r.1.convs = [])) ∨
      (∃ n', n'.convs = [] ∧ r.1 = (sendState cfg n' pB.key (xorOf n'.dag) (lcOf n'.dag)).node ∧
          r.2 = toPeer pB.key (sendState cfg n' pB.key (xorOf n'.dag) (lcOf n'.dag)).out ∧
          ∀ have_, (∀ r ∈ have_, present a.dag r = true) → ¬ PrevClosed have_ ls.flatten) := by
  intro ls
  induction ls with
  | nil => intro k a c _ _ _ _ _ _ _; exact .inl ⟨rfl, by simp, fun h => absurd rfl h⟩
  | cons ch rest ih =>
    intro k a c hp hc hcid hD hacc hk hmem
    simp only [List.map_cons, numberChunks, absorb_cons]
    have hchk : convCheck a cid (.txList cid (k + 1) total (ch.map (netOf bn))) = none := by
      have hfind : findConv a cid = some c := by unfold findConv; rw [hc]; simp [hcid]
      unfold convCheck; rw [hfind]; simp only
      rw [hD]; exact checkResponse_accepts bn D ch (hacc ch List.mem_cons_self) cid _ _
    simp only [List.flatten_cons] at hmem
    have hch_b : ∀ t ∈ ch, t ∈ bn.dag := fun t ht => hmem t (List.mem_append_left _ ht)
    have hcase := addLoop_general cfg env hb (ch.map (offerOf bn)) a hp
      (by intro x hx; obtain ⟨t, ht, rfl⟩ := List.mem_map.mp hx; exact hch_b t ht) (offerOK_of bn hpb ch hch_b)
    have fconvs := (addLoop_frame cfg env (ch.map (offerOf bn)) a).1
    have hout : toPeer pB.key (addLoop cfg env a (ch.map (offerOf bn))).out = [] :=
      toPeer_pq _ _ (fun o ho => addLoop_out cfg env _ a o ho)
    let a1 := (addLoop cfg env a (ch.map (offerOf bn))).node
    have hdone : (convDone a1 cid).convs = [] := by
      simp only [convDone, a1, fconvs, hc]
      simp [hcid]
    have hh := handleTransactionList_accepted cfg env a pB cid (k + 1) total _ _ hchk (parseAll_netOf bn ch) rfl
    rcases hcase with ⟨hfin, hall⟩ | ⟨hpm, hno⟩
    · rw [hh, hfin]
      simp only
      rw [hout, List.nil_append]
      have hall' : ∀ t ∈ ch, present a1.dag t.ref = true := fun t ht => hall (offerOf bn t) (List.mem_map.mpr ⟨t, ht, rfl⟩)
      by_cases hlast : k + 1 ≥ total
      · have hrest : rest = [] := by
          cases rest with
          | nil => rfl
          | cons x xs => simp only [List.length_cons] at hk; omega
        subst hrest
        simp only [hlast, if_true, List.map_nil, numberChunks, absorb]
        exact .inl ⟨trivial, fun t ht => hall' t (by simpa using ht), fun _ => hdone⟩
      · simp only [hlast, if_false]
        have hne : rest ≠ [] := by
          intro h; subst h; simp only [List.length_cons, List.length_nil] at hk; omega
        obtain ⟨hok1, added, hd1, hadd1⟩ := addLoop_dag cfg env (ch.map (offerOf bn)) a hp.ok
        have hsup : ∀ t ∈ a.dag, t ∈ a1.dag := fun t ht => hd1 ▸ List.mem_append_right _ ht
        have g1 : Grown a.dag bn.dag a1.dag := ⟨hok1, added, hd1, fun t h => by
          obtain ⟨_, x, hx, rfl⟩ := hadd1 t h
          obtain ⟨t0, ht0, rfl⟩ := List.mem_map.mp hx
          exact hch_b t0 ht0⟩
        let a2 := resetTimeout cfg a1 cid
        have hc2 : a2.convs = [{ c with expiry := a1.now + cfg.validity }] := by
          show (resetTimeout cfg a1 cid).convs = _
          simp only [resetTimeout, a1, fconvs, hc, List.map_cons, List.map_nil]
          simp [hcid]
        have g2 := (absorb_grown cfg env bn pB cid total rest (k + 1) a2 hok1 (fun t ht => hmem t (List.mem_append_right _ ht))).sub
        rcases ih (k + 1) a2 { c with expiry := a1.now + cfg.validity } (hp.grown g1) hc2 hcid hD
          (fun x hx => hacc x (List.mem_cons_of_mem _ hx)) (by simp only [List.length_cons] at hk; omega)
          (fun t ht => hmem t (List.mem_append_right _ ht)) with ⟨e1, e2, e3⟩ | ⟨n', e0, e1, e2, hno⟩
        · refine .inl ⟨e1, fun t ht => ?_, fun _ => e3 hne⟩
          rcases List.mem_append.mp ht with h | h
          · exact present_mono g2 (hall' t h)
          · exact e2 t h
        · refine .inr ⟨n', e0, e1, e2, fun have_ hhave hpc => ?_⟩
          refine hno _ (fun r hr => ?_) (prevClosed_append ch rest.flatten have_ hpc).2
          rcases List.mem_append.mp hr with h | h
          · obtain ⟨t, ht, rfl⟩ := List.mem_map.mp (List.mem_reverse.mp h)
            exact hall' t ht
          · exact present_mono hsup (hhave r h)
    · -- a prev is missing: conversation closed, start over with State; the remaining chunks are rejected
      rw [hh, hpm]
      simp only
      have hSc : (sendState cfg (convDone a1 cid) pB.key (xorOf a1.dag) (lcOf a1.dag)).node.convs =
          [{ cid := ((convDone a1 cid).id, (convDone a1 cid).nextCid), expiry := (convDone a1 cid).now + cfg.validity, data := .state (lcOf a1.dag) }] := by
        rw [sendState_free cfg _ hdone]
        show _ :: (convDone a1 cid).convs = _
        rw [hdone]
      rw [absorb_rejected cfg env _ pB _ (lcOf a1.dag) hSc rfl cid total, toPeer_append, hout]
      refine .inr ⟨convDone a1 cid, hdone, rfl, by simp [a1], fun have_ hhave hpc => hno have_ hhave ?_⟩
      rw [List.map_map, show List.map ((·.1) ∘ offerOf bn) ch = ch from List.map_id ch]
      exact (prevClosed_append ch rest.flatten have_ hpc).1

theorem absorb_chunks (cfg : Cfg) (env : Env) (bn : Node) (hb : DagOK bn.dag) (hpb : PayloadsOK bn)
    (pB : Peer) (a : Node) (c : Conv) (D : ConvData) (ls : List (List Tx))
    (hp : Pulls a.dag bn.dag) (hc : a.convs = [c]) (hD : c.data = D)
    (hacc : ∀ ch ∈ ls, Accepts D ch) (hmem : ∀ t ∈ ls.flatten, t ∈ bn.dag)
    (hs : ls.flatten.Pairwise (fun x y => x.clock ≤ y.clock))
    (hcl : ∀ t ∈ ls.flatten, ∀ p ∈ t.prevs, present a.dag p = true ∨ ∃ t' ∈ ls.flatten, t'.ref = p) :
    let r := absorb cfg env a pB (numberChunks c.cid ls.length 0 (ls.map (·.map (netOf bn))))
    r.2 = [] ∧ Grown a.dag bn.dag r.1.dag ∧ ∀ t ∈ ls.flatten, t ∈ r.1.dag := by
  have g := absorb_grown cfg env bn pB c.cid ls.length ls 0 a hp.ok hmem
  rcases absorb_chunks_general cfg env bn hb hpb pB c.cid D ls.length ls 0 a c hp hc rfl hD hacc (by omega) hmem with
    ⟨g1, g3, _⟩ | ⟨_, _, _, _, hno⟩
  · exact ⟨g1, g, fun t ht => mem_of_present (hp.grown g).ref (hmem t ht) (g3 t ht)⟩
  · refine absurd (prevClosed_of_sorted hb _ _ hs hmem fun t ht p hpp => ?_) (hno _ (have_present a.dag))
    rcases hcl t ht p hpp with h | h
    · obtain ⟨t', ht', hr'⟩ := present_iff.mp h
      exact .inl (List.mem_map.mpr ⟨t', ht', hr'⟩)
    · exact .inr h

end Nuts.Proto.Live
