import NutsModel.C17.Fold
namespace Nuts.C17.Fold

def FoldFree (fold : String → String) (seen : List String) (names : List String) : Prop :=
  (∀ n ∈ names, fold n ∉ seen) ∧ names.Pairwise (fun a b => fold a ≠ fold b)

mutual
  theorem ambVal_none (fold : String → String) : ∀ (v : JVal), ambVal fold v = none →
      ∀ ns ∈ objsVal v, FoldFree fold [] ns
    | .leaf, _ => by intro ns h; simp [objsVal] at h
    | .arr l, h => by
      simp only [ambVal] at h
      simpa [objsVal] using ambList_none fold l h
    | .obj m, h => by
      simp only [ambVal] at h
      have := ambMembers_none fold [] m h
      intro ns hns
      simp only [objsVal, List.mem_cons] at hns
      rcases hns with rfl | hns
      · exact this.1
      · exact this.2 ns hns
  theorem ambList_none (fold : String → String) : ∀ (l : JList), ambList fold l = none →
      ∀ ns ∈ objsList l, FoldFree fold [] ns
    | .nil, _ => by intro ns h; simp [objsList] at h
    | .cons v r, h => by
      simp only [ambList] at h
      split at h
      · cases h
      · next hv =>
        intro ns hns
        simp only [objsList, List.mem_append] at hns
        rcases hns with hns | hns
        · exact ambVal_none fold v hv ns hns
        · exact ambList_none fold r h ns hns
  theorem ambMembers_none (fold : String → String) : ∀ (seen : List String) (m : JMembers), ambMembers fold seen m = none →
      FoldFree fold seen (namesOf m) ∧ ∀ ns ∈ objsMembers m, FoldFree fold [] ns
    | _, .nil, _ => by
      refine ⟨⟨by simp [namesOf], by simp [namesOf]⟩, ?_⟩
      intro ns h; simp [objsMembers] at h
    | seen, .cons name v r, h => by
      simp only [ambMembers] at h
      split at h
      · cases h
      · next hseen =>
        split at h
        · cases h
        · next hv =>
          have ih := ambMembers_none fold (fold name :: seen) r h
          have hv' := ambVal_none fold v hv
          refine ⟨⟨?_, ?_⟩, ?_⟩
          · intro n hn
            simp only [namesOf, List.mem_cons] at hn
            rcases hn with rfl | hn
            · simpa using hseen
            · have := ih.1.1 n hn
              simp only [List.mem_cons, not_or] at this
              exact this.2
          · simp only [namesOf, List.pairwise_cons]
            refine ⟨?_, ih.1.2⟩
            intro b hb
            have := ih.1.1 b hb
            simp only [List.mem_cons, not_or] at this
            exact fun e => this.1 e.symm
          · intro ns hns
            simp only [objsMembers, List.mem_append] at hns
            rcases hns with hns | hns
            · exact hv' ns hns
            · exact ih.2 ns hns
end

end Nuts.C17.Fold
