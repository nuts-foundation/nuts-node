/-
  vcr/revocation (NutsModel/C19/Bitstring.lean, StatusList.lean): bit and setBit stay in range; where validate, update and the entry
  loop of Verify can panic; what an accepted status list credential has passed.
-/
import NutsModel.C19.StatusList
import NutsProofs.Lemmas.Base

namespace Nuts.C19.Lemmas

variable {P : String → Prop}

section Bitstring
open Nuts.C19.Bitstring

/-- past the guard of `bit` / `setBit` the byte index is in range -/
theorem tdiv8_bounds (idx : Int) (n : Nat) (h : ¬ (idx < 0 ∨ idx.tdiv 8 ≥ (n : Int))) : (idx.tdiv 8).toNat < n := by
  have h8 : idx.tdiv 8 = idx / 8 := Int.tdiv_eq_ediv_of_nonneg (by omega)
  rw [h8] at h ⊢
  omega

theorem bit_spec (bs : List Nat) (idx : Int) :
    Res.PanicsIn (bit bs idx) P ∧ ((∃ e, bit bs idx = .err e) ↔ (idx < 0 ∨ idx ≥ 8 * (bs.length : Int))) := by
  have hg : (idx < 0 ∨ idx.tdiv 8 ≥ (bs.length : Int)) ↔ (idx < 0 ∨ idx ≥ 8 * (bs.length : Int)) := by
    by_cases h0 : idx < 0
    · simp [h0]
    · rw [Int.tdiv_eq_ediv_of_nonneg (by omega)]; omega
  rw [← hg]
  fun_cases bit bs idx with
  | case1 _ h => exact ⟨.err, fun _ => h, fun _ => ⟨_, rfl⟩⟩
  | case2 _ h hnone => exact absurd (tdiv8_bounds idx bs.length h) (by simpa using hnone)
  | case3 _ _ h => exact ⟨.ok, nofun, fun h' => absurd h' h⟩

theorem setBit_spec (bs : List Nat) (idx : Int) (v : Bool) :
    Res.PanicsIn (setBit bs idx v) P ∧ (∀ r, setBit bs idx v = .ok r → r.length = bs.length) := by
  fun_cases setBit bs idx v with
  | case1 => exact ⟨.err, nofun⟩
  | case2 _ h hnone => exact absurd (tdiv8_bounds idx bs.length h) (by simpa using hnone)
  | case3 => exact ⟨.ok, fun r hr => by cases hr; simp⟩
  | case4 => exact ⟨.ok, fun r hr => by cases hr; rfl⟩

end Bitstring

theorem sl_validateSubjects_panicsIn (c : StatusList.Cfg) (h : c.singleSubjectGuard = false → P "validate:target[0]")
    (subs : List StatusList.Subject) : Res.PanicsIn (StatusList.validateSubjects c subs) P := by
  fun_cases StatusList.validateSubjects c subs with
  | case2 hg => exact .panic (h (by simpa using hg))
  | case6 => exact .ok
  | _ => exact .err

theorem sl_validate_panicsIn (c : StatusList.Cfg) (h : c.singleSubjectGuard = false → P "validate:target[0]")
    (cr : StatusList.Cred) : Res.PanicsIn (StatusList.validate c cr) P := by
  fun_cases StatusList.validate c cr with
  | case11 => exact sl_validateSubjects_panicsIn c h _
  | _ => exact .err

theorem sl_expiry_panicsIn (c : StatusList.Cfg) (h : c.expirationNilGuard = false → P "update:cred.ExpirationDate.IsZero()(nil)")
    (e : Option Bool) (r : StatusList.Record) : Res.PanicsIn (StatusList.expiry c e r) P := by
  unfold StatusList.expiry
  cases e with
  | none => exact .flag .ok h
  | some z => exact .ok

theorem sl_update_panicsIn (c : StatusList.Cfg) (h1 : c.singleSubjectGuard = false → P "validate:target[0]")
    (h2 : c.expirationNilGuard = false → P "update:cred.ExpirationDate.IsZero()(nil)")
    (url : String) (d : Option StatusList.Cred) (ex : String → Option (List Nat)) (sig : Bool) :
    Res.PanicsIn (StatusList.update c url d ex sig) P := by
  fun_cases StatusList.update c url d ex sig with
  | case2 _ _ hv => exact .pass (sl_validate_panicsIn c h1 _) hv
  | case7 => exact sl_expiry_panicsIn c h2 _ _
  | _ => exact .err

theorem sl_verifyEntries_panicsIn (l : List StatusList.Entry) : Res.PanicsIn (StatusList.verifyEntries l) P := by
  fun_induction StatusList.verifyEntries l with
  | case1 | case10 => exact .ok
  | case2 | case4 | case11 => assumption
  | case8 => exact .pass (bit_spec _ _).1 ‹_›
  | _ => exact .err

theorem sl_update_ok_checked (c : StatusList.Cfg) (url : String) (d : Option StatusList.Cred) (ex : String → Option (List Nat)) (sig : Bool) (r : StatusList.Record)
    (h : StatusList.update c url d ex sig = .ok r) :
    ∃ cr subj bits, d = some cr ∧ StatusList.validate c cr = .ok subj ∧ ex subj.encodedList = some bits ∧ sig = true ∧ url = subj.id := by
  revert h
  -- every exit but the last is an error; the last lies behind all five checks
  fun_cases StatusList.update c url d ex sig with
  | case7 cr subj hv bits hex hsig hurl => exact fun _ => ⟨cr, subj, bits, rfl, hv, hex, by simpa using hsig, by simpa using hurl⟩
  | _ => nofun

end Nuts.C19.Lemmas
