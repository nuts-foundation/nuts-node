/-
  C08 — the generic tree (NutsModel/C08/Tree.lean) under two invariants: `Geo` (shape: a node of height `h` covers the
  pages `[a, a + 2^h)`) and `Wf` (a branch holds the sum of its leaves). Every operation — Insert, Delete, `ZeroTo`, and
  the page read-back `checkPage` makes of two `ZeroTo`s — is specified by what it does to the page-filtered sums `fsum`
  of the leaves.  Core Lean only.
-/
import NutsModel.C08.Tree

namespace Nuts.C08

variable {R G : Type}

def gsum (o : Ops R G) : List G → G
  | [] => o.zero
  | x :: xs => o.add x (gsum o xs)

theorem zero_add {o : Ops R G} (L : Lawful o) (a : G) : o.add o.zero a = a := by
  rw [L.add_comm, L.add_zero]

theorem gsum_append {o : Ops R G} (L : Lawful o) (xs ys : List G) :
    gsum o (xs ++ ys) = o.add (gsum o xs) (gsum o ys) := by
  induction xs with
  | nil => simp [gsum, zero_add L]
  | cons x xs ih => simp [gsum, ih, L.add_assoc]

theorem gsum_perm {o : Ops R G} (L : Lawful o) {l₁ l₂ : List G} (h : l₁.Perm l₂) : gsum o l₁ = gsum o l₂ := by
  induction h with
  | nil => rfl
  | cons x _ ih => simp [gsum, ih]
  | swap x y l => simp only [gsum]; rw [← L.add_assoc, ← L.add_assoc, L.add_comm y x]
  | trans _ _ ih1 ih2 => rw [ih1, ih2]

theorem gsum_zeros {o : Ops R G} (L : Lawful o) (l : List G) (h : ∀ x ∈ l, x = o.zero) : gsum o l = o.zero := by
  induction l with
  | nil => rfl
  | cons x xs ih =>
    simp only [gsum]
    rw [h x (by simp), ih (fun y hy => h y (by simp [hy])), L.add_zero]

def fsum (o : Ops R G) (ls : Nat) (q : Nat → Bool) (l : List (Nat × G)) : G :=
  gsum o ((l.filter (fun kv => q (kv.1 / ls))).map (·.2))

theorem fsum_append {o : Ops R G} (L : Lawful o) (ls : Nat) (q : Nat → Bool) (xs ys : List (Nat × G)) :
    fsum o ls q (xs ++ ys) = o.add (fsum o ls q xs) (fsum o ls q ys) := by
  simp [fsum, List.filter_append, gsum_append L]

theorem fsum_nil (o : Ops R G) (ls : Nat) (q : Nat → Bool) : fsum o ls q [] = o.zero := rfl

theorem fsum_none {o : Ops R G} (ls : Nat) (q : Nat → Bool) (l : List (Nat × G))
    (h : ∀ kv ∈ l, q (kv.1 / ls) = false) : fsum o ls q l = o.zero := by
  unfold fsum
  rw [List.filter_eq_nil_iff.mpr]
  · rfl
  · intro kv hkv; simp [h kv hkv]

theorem fsum_all (o : Ops R G) (ls : Nat) (q : Nat → Bool) (l : List (Nat × G))
    (h : ∀ kv ∈ l, q (kv.1 / ls) = true) : fsum o ls q l = gsum o (l.map (·.2)) := by
  unfold fsum
  rw [List.filter_eq_self.mpr]
  intro kv hkv; simp [h kv hkv]

theorem fsum_zeros {o : Ops R G} (L : Lawful o) (ls : Nat) (q : Nat → Bool) (l : List (Nat × G))
    (h : ∀ kv ∈ l, kv.2 = o.zero) : fsum o ls q l = o.zero := by
  unfold fsum
  apply gsum_zeros L
  intro x hx
  simp only [List.mem_map, List.mem_filter] at hx
  obtain ⟨kv, ⟨hkv, _⟩, rfl⟩ := hx
  exact h kv hkv

theorem fsum_single {o : Ops R G} (L : Lawful o) (ls : Nat) (q : Nat → Bool) (k : Nat) (d : G) :
    fsum o ls q [(k, d)] = if q (k / ls) then d else o.zero := by
  unfold fsum
  by_cases h : q (k / ls) = true <;> simp [h, gsum, L.add_zero]

theorem fsum_single_zero {o : Ops R G} (L : Lawful o) (ls : Nat) (q : Nat → Bool) (k : Nat) : fsum o ls q [(k, o.zero)] = o.zero := by
  rw [fsum_single L]; split <;> rfl

namespace Node

def total (o : Ops R G) : Node G → G
  | nil => o.zero
  | leaf _ _ d => d
  | branch _ _ _ l r => o.add (l.total o) (r.total o)

end Node

def Wf (o : Ops R G) : Node G → Prop
  | .nil => True
  | .leaf _ _ _ => True
  | .branch _ _ d l r => d = o.add (l.total o) (r.total o) ∧ Wf o l ∧ Wf o r

theorem Wf.data_eq {o : Ops R G} {n : Node G} (h : Wf o n) : n.data o = n.total o := by
  cases n with
  | nil => rfl
  | leaf s l d => rfl
  | branch s l d a b => exact h.1

theorem total_eq_gsum {o : Ops R G} (L : Lawful o) (n : Node G) :
    n.total o = gsum o (n.leaves.map (·.2)) := by
  induction n with
  | nil => rfl
  | leaf s l d => simp [Node.total, Node.leaves, gsum, L.add_zero]
  | branch s l d a b iha ihb => simp [Node.total, Node.leaves, gsum_append L, iha, ihb]

/-- a node of height `h` covering the pages `[a, a + 2^h)`, a page being `ls` clocks -/
def Geo (ls : Nat) : Nat → Nat → Node G → Prop
  | 0, a, .leaf s l _ => s = ls * a + ls / 2 ∧ l = ls * (a + 1)
  | h + 1, a, .branch s l _ left right =>
    s = ls * (a + 2 ^ h) ∧ l = ls * (a + 2 ^ (h + 1)) ∧ Geo ls h a left ∧ (right = .nil ∨ Geo ls h (a + 2 ^ h) right)
  | _, _, _ => False

theorem Geo.zero_inv {ls a : Nat} {n : Node G} (g : Geo ls 0 a n) : ∃ d, n = .leaf (ls * a + ls / 2) (ls * (a + 1)) d := by
  cases n <;> simp [Geo] at g
  obtain ⟨rfl, rfl⟩ := g
  exact ⟨_, rfl⟩

theorem Geo.succ_inv {ls h a : Nat} {n : Node G} (g : Geo ls (h + 1) a n) :
    ∃ d left right, n = .branch (ls * (a + 2 ^ h)) (ls * (a + 2 ^ (h + 1))) d left right ∧ Geo ls h a left ∧
      (right = .nil ∨ Geo ls h (a + 2 ^ h) right) := by
  cases n <;> simp [Geo] at g
  obtain ⟨rfl, rfl, gl, gr⟩ := g
  exact ⟨_, _, _, rfl, gl, gr⟩

theorem Geo.induction {ls : Nat} {motive : Nat → Nat → Node G → Prop}
    (leaf : ∀ a d, motive 0 a (.leaf (ls * a + ls / 2) (ls * (a + 1)) d))
    (half : ∀ h a d left, Geo ls h a left → motive h a left →
      motive (h + 1) a (.branch (ls * (a + 2 ^ h)) (ls * (a + 2 ^ (h + 1))) d left .nil))
    (full : ∀ h a d left right, Geo ls h a left → Geo ls h (a + 2 ^ h) right → motive h a left →
      motive h (a + 2 ^ h) right → motive (h + 1) a (.branch (ls * (a + 2 ^ h)) (ls * (a + 2 ^ (h + 1))) d left right)) :
    ∀ (h a : Nat) (n : Node G), Geo ls h a n → motive h a n := by
  intro h
  induction h with
  | zero => intro a n g; obtain ⟨d, rfl⟩ := g.zero_inv; exact leaf a d
  | succ h ih =>
    intro a n g
    obtain ⟨d, left, right, rfl, gl, rfl | gr⟩ := g.succ_inv
    · exact half h a d left gl (ih _ _ gl)
    · exact full h a d left right gl gr (ih _ _ gl) (ih _ _ gr)

theorem Geo.ne_nil {ls h a : Nat} {n : Node G} (g : Geo ls h a n) : n ≠ .nil := by
  intro e; subst e; cases h <;> simp [Geo] at g

theorem Geo.limit {ls h a : Nat} {n : Node G} (g : Geo ls h a n) : n.limit = ls * (a + 2 ^ h) := by
  cases h with
  | zero => obtain ⟨d, rfl⟩ := g.zero_inv; rfl
  | succ h => obtain ⟨d, left, right, rfl, _⟩ := g.succ_inv; rfl

theorem page_of_clock {ls a clock : Nat} (hls : 0 < ls) : (ls * a ≤ clock ↔ a ≤ clock / ls) := by
  rw [Nat.le_div_iff_mul_le hls, Nat.mul_comm]

theorem page_of_clock_lt {ls a clock : Nat} (hls : 0 < ls) : (clock < ls * a ↔ clock / ls < a) := by
  rw [Nat.div_lt_iff_lt_mul hls, Nat.mul_comm]

theorem key_page {ls a : Nat} (hls : 0 < ls) : (ls * a + ls / 2) / ls = a := by
  rw [Nat.mul_add_div hls, Nat.div_eq_of_lt (by omega)]; rfl

theorem Geo.leaf_pages {ls : Nat} (hls : 0 < ls) : ∀ {h a : Nat} {n : Node G}, Geo ls h a n →
    ∀ kv ∈ n.leaves, a ≤ kv.1 / ls ∧ kv.1 / ls < a + 2 ^ h := by
  refine @Geo.induction _ _ _ ?_ ?_ ?_
  · intro a d kv hkv
    simp [Node.leaves] at hkv
    subst hkv
    simp only [key_page hls]; omega
  · intro h a d left _ ih kv hkv
    simp [Node.leaves] at hkv
    have := ih kv hkv
    have := Nat.two_pow_succ h
    omega
  · intro h a d left right _ _ ihl ihr kv hkv
    simp [Node.leaves] at hkv
    have := Nat.two_pow_succ h
    rcases hkv with hkv | hkv
    · have := ihl kv hkv; omega
    · have := ihr kv hkv; omega

theorem Geo.leaves_ne_nil {ls : Nat} : ∀ {h a : Nat} {n : Node G}, Geo ls h a n → n.leaves ≠ [] := by
  refine @Geo.induction _ _ _ ?_ ?_ ?_
  · intro a d; simp [Node.leaves]
  · intro h a d left _ ih; simpa [Node.leaves] using ih
  · intro h a d left right _ _ ih _; simp [Node.leaves, ih]

theorem newBranchF_leaf (o : Ops R G) (ls fuel a : Nat) :
    newBranchF o ls fuel (ls * a) (ls * (a + 2 ^ 0)) =
      (.leaf (ls * a + ls / 2) (ls * (a + 1)) o.zero, [ls * a + ls / 2]) := by
  have hsplit : (ls * (a + 1) + ls * a) / 2 = ls * a + ls / 2 := by
    simp only [Nat.mul_add, Nat.mul_one]; omega
  have hnot : ¬ (ls * (a + 1) - ls * a > ls) := by
    simp only [Nat.mul_add, Nat.mul_one]; omega
  cases fuel with
  | zero => simp only [newBranchF, Nat.pow_zero, hsplit]
  | succ f => simp only [newBranchF, Nat.pow_zero, hnot, if_false, hsplit]

theorem newBranchF_branch (o : Ops R G) {ls : Nat} (hls : 0 < ls) (h fuel a : Nat) :
    newBranchF o ls (fuel + 1) (ls * a) (ls * (a + 2 ^ (h + 1))) =
      (.branch (ls * (a + 2 ^ h)) (ls * (a + 2 ^ (h + 1))) o.zero (newBranchF o ls fuel (ls * a) (ls * (a + 2 ^ h))).1 .nil,
       (newBranchF o ls fuel (ls * a) (ls * (a + 2 ^ h))).2) := by
  have hp := Nat.two_pow_succ h
  have hsplit : (ls * (a + 2 ^ (h + 1)) + ls * a) / 2 = ls * (a + 2 ^ h) := by
    rw [hp]; simp only [Nat.mul_add]; omega
  have hgt : ls * (a + 2 ^ (h + 1)) - ls * a > ls := by
    rw [hp]; simp only [Nat.mul_add]
    have : ls ≤ ls * 2 ^ h := Nat.le_mul_of_pos_right ls (Nat.two_pow_pos h)
    omega
  simp only [newBranchF, hsplit, hgt, if_true]

theorem newBranchF_geo (o : Ops R G) {ls : Nat} (hls : 0 < ls) : ∀ (h fuel a : Nat), h ≤ fuel →
    Geo ls h a (newBranchF o ls fuel (ls * a) (ls * (a + 2 ^ h))).1 ∧
    (newBranchF o ls fuel (ls * a) (ls * (a + 2 ^ h))).1.leaves = [(ls * a + ls / 2, o.zero)] ∧
    (newBranchF o ls fuel (ls * a) (ls * (a + 2 ^ h))).2 = [ls * a + ls / 2] := by
  intro h
  induction h with
  | zero => intro fuel a _; rw [newBranchF_leaf]; simp [Geo, Node.leaves]
  | succ h ih =>
    intro fuel a hf
    obtain ⟨f, rfl⟩ : ∃ f, fuel = f + 1 := ⟨fuel - 1, by omega⟩
    have := ih f a (by omega)
    rw [newBranchF_branch o hls]
    exact ⟨by simp [Geo, this.1], by simp [Node.leaves, this.2.1], this.2.2⟩

theorem newBranchF_wf {o : Ops R G} (L : Lawful o) {ls : Nat} (hls : 0 < ls) : ∀ (h fuel a : Nat), h ≤ fuel →
    Wf o (newBranchF o ls fuel (ls * a) (ls * (a + 2 ^ h))).1 ∧
    (newBranchF o ls fuel (ls * a) (ls * (a + 2 ^ h))).1.total o = o.zero := by
  intro h
  induction h with
  | zero => intro fuel a _; rw [newBranchF_leaf]; simp [Wf, Node.total]
  | succ h ih =>
    intro fuel a hf
    obtain ⟨f, rfl⟩ : ∃ f, fuel = f + 1 := ⟨fuel - 1, by omega⟩
    have := ih f a (by omega)
    rw [newBranchF_branch o hls]
    simp [Wf, this.1, this.2, Node.total, L.add_zero]

/-- the height of a tree is below its size, so `treeSize` is enough fuel for a descent -/
theorem lt_mul_two_pow {ls : Nat} (hls : 0 < ls) (h : Nat) : h < ls * 2 ^ h :=
  Nat.lt_of_lt_of_le Nat.lt_two_pow_self (Nat.le_mul_of_pos_left _ hls)

theorem newBranch_fuel {ls : Nat} (hls : 0 < ls) (h a : Nat) : h ≤ ls * (a + 2 ^ h) - ls * a := by
  rw [show ls * (a + 2 ^ h) - ls * a = ls * 2 ^ h by simp [Nat.mul_add]]
  exact Nat.le_of_lt (lt_mul_two_pow hls h)

theorem newBranch_geo (o : Ops R G) {ls : Nat} (hls : 0 < ls) (h a : Nat) :
    Geo ls h a (newBranch o ls (ls * a) (ls * (a + 2 ^ h))).1 ∧
    (newBranch o ls (ls * a) (ls * (a + 2 ^ h))).1.leaves = [(ls * a + ls / 2, o.zero)] ∧
    (newBranch o ls (ls * a) (ls * (a + 2 ^ h))).2 = [ls * a + ls / 2] :=
  newBranchF_geo o hls h _ a (newBranch_fuel hls h a)

theorem newBranch_wf {o : Ops R G} (L : Lawful o) {ls : Nat} (hls : 0 < ls) (h a : Nat) :
    Wf o (newBranch o ls (ls * a) (ls * (a + 2 ^ h))).1 ∧ (newBranch o ls (ls * a) (ls * (a + 2 ^ h))).1.total o = o.zero :=
  newBranchF_wf L hls h _ a (newBranch_fuel hls h a)

theorem updateF_branch_right {o : Ops R G} {ls : Nat} {f : G → G} {clock fu s l : Nat} {d : G} {left right : Node G}
    (hc : ¬ clock < s) (hne : right ≠ .nil) :
    updateF o ls f clock (fu + 1) (.branch s l d left right) =
      ((.branch s l (f d) left (updateF o ls f clock fu right).1), (updateF o ls f clock fu right).2) := by
  cases right with
  | nil => exact absurd rfl hne
  | leaf _ _ _ => simp [updateF, hc]
  | branch _ _ _ _ _ => simp [updateF, hc]

theorem updateF_spec {o : Ops R G} (L : Lawful o) {ls : Nat} (hls : 0 < ls) (f : G → G) (δ : G)
    (hf : ∀ d, f d = o.add d δ) (clock : Nat) :
    ∀ (h a fuel : Nat) (n : Node G), Geo ls h a n → Wf o n → h < fuel →
      ls * a ≤ clock → clock < ls * (a + 2 ^ h) →
      Geo ls h a (updateF o ls f clock fuel n).1 ∧ Wf o (updateF o ls f clock fuel n).1 ∧
      (updateF o ls f clock fuel n).1.total o = o.add (n.total o) δ ∧
      (∀ q : Nat → Bool, fsum o ls q (updateF o ls f clock fuel n).1.leaves =
        if q (clock / ls) then o.add (fsum o ls q n.leaves) δ else fsum o ls q n.leaves) := by
  intro h
  induction h with
  | zero =>
    intro a fuel n g w hfuel hlo hhi
    obtain ⟨d, rfl⟩ := g.zero_inv
    obtain ⟨fu, rfl⟩ : ∃ fu, fuel = fu + 1 := ⟨fuel - 1, by omega⟩
    have hpage : clock / ls = a := by
      apply Nat.div_eq_of_lt_le
      · rw [Nat.mul_comm]; exact hlo
      · rw [Nat.mul_comm]; simpa using hhi
    simp only [updateF]
    refine ⟨by simp [Geo], by simp [Wf], by simp [Node.total, hf], ?_⟩
    intro q
    simp only [fsum, Node.leaves, List.filter_cons, List.filter_nil, key_page hls, hpage]
    cases q a <;> simp [gsum, hf, L.add_zero]
  | succ h ih =>
    intro a fuel n g w hfuel hlo hhi
    obtain ⟨d, left, right, rfl, gl, gr⟩ := g.succ_inv
    obtain ⟨wd, wl, wr⟩ := w
    have hp := Nat.two_pow_succ h
    obtain ⟨fu, rfl⟩ : ∃ fu, fuel = fu + 1 := ⟨fuel - 1, by omega⟩
    by_cases hc : clock < ls * (a + 2 ^ h)
    · obtain ⟨g1, w1, t1, q1⟩ := ih a fu left gl wl (by omega) hlo hc
      simp only [updateF, hc, if_true]
      refine ⟨?_, ?_, ?_, ?_⟩
      · simp only [Geo]; exact ⟨trivial, trivial, g1, gr⟩
      · refine ⟨?_, w1, wr⟩
        rw [t1, hf, wd, L.add_assoc, L.add_assoc, L.add_comm (right.total o) δ]
      · simp only [Node.total, t1]
        rw [L.add_assoc, L.add_assoc, L.add_comm (right.total o) δ]
      · intro q
        simp only [Node.leaves, fsum_append L, q1 q]
        cases q (clock / ls) <;> simp
        rw [L.add_assoc, L.add_assoc, L.add_comm (fsum o ls q right.leaves) δ]
    · have hlo' : ls * (a + 2 ^ h) ≤ clock := by omega
      have hhi' : clock < ls * (a + 2 ^ h + 2 ^ h) := by rw [Nat.add_assoc, ← hp]; exact hhi
      rcases gr with rfl | gr
      · obtain ⟨gn, ln, _⟩ := newBranch_geo o hls h (a + 2 ^ h)
        obtain ⟨wn, tn⟩ := newBranch_wf L hls h (a + 2 ^ h)
        rw [Nat.add_assoc, ← hp] at gn wn tn ln
        obtain ⟨g1, w1, t1, q1⟩ := ih (a + 2 ^ h) fu _ gn wn (by omega) hlo' hhi'
        simp only [updateF, hc, if_false]
        refine ⟨?_, ?_, ?_, ?_⟩
        · simp only [Geo]; exact ⟨trivial, trivial, gl, Or.inr g1⟩
        · refine ⟨?_, wl, w1⟩
          rw [t1, tn, hf, wd]
          simp [Node.total, L.add_zero, zero_add L]
        · simp only [Node.total, t1, tn]
          simp [L.add_zero, zero_add L]
        · intro q
          simp only [Node.leaves, fsum_append L, q1 q, ln, fsum_single_zero L, List.append_nil]
          cases q (clock / ls) <;> simp [zero_add L, L.add_zero]
      · obtain ⟨g1, w1, t1, q1⟩ := ih (a + 2 ^ h) fu right gr wr (by omega) hlo' hhi'
        rw [updateF_branch_right hc gr.ne_nil]
        refine ⟨?_, ?_, ?_, ?_⟩
        · simp only [Geo]; exact ⟨trivial, trivial, gl, Or.inr g1⟩
        · refine ⟨?_, wl, w1⟩
          rw [t1, hf, wd, L.add_assoc]
        · simp only [Node.total, t1, L.add_assoc]
        · intro q
          simp only [Node.leaves, fsum_append L, q1 q]
          cases q (clock / ls) <;> simp [L.add_assoc]

structure TInv (o : Ops R G) (t : Tree G) : Prop where
  ls_pos : 0 < t.leafSize
  shape : ∃ h, Geo t.leafSize h 0 t.root ∧ t.treeSize = t.leafSize * 2 ^ h
  wf : Wf o t.root

theorem TInv.new (o : Ops R G) {ls : Nat} (hls : 0 < ls) : TInv o (Tree.new o ls) :=
  ⟨hls, ⟨0, by simp [Tree.new, Geo], by simp [Tree.new]⟩, by simp [Tree.new, Wf]⟩

theorem TInv.reRoot {o : Ops R G} (L : Lawful o) {t : Tree G} (i : TInv o t) :
    TInv o (Tree.reRoot o t) ∧ (Tree.reRoot o t).root.leaves = t.root.leaves ∧
    (Tree.reRoot o t).leafSize = t.leafSize ∧ (Tree.reRoot o t).treeSize = 2 * t.treeSize ∧
    (Tree.reRoot o t).dirty = t.dirty := by
  obtain ⟨h, g, hs⟩ := i.shape
  refine ⟨⟨i.ls_pos, ⟨h + 1, ?_, ?_⟩, ?_⟩, by simp [Tree.reRoot, Node.leaves], rfl, rfl, rfl⟩
  · simp only [Tree.reRoot, Geo, Nat.zero_add]
    refine ⟨hs, ?_, g, Or.inl trivial⟩
    rw [hs, Nat.pow_succ]; simp [Nat.mul_comm, Nat.mul_left_comm]
  · simp only [Tree.reRoot]; rw [hs, Nat.pow_succ]; simp [Nat.mul_comm, Nat.mul_left_comm]
  · simp only [Tree.reRoot, Wf]
    exact ⟨by rw [i.wf.data_eq]; simp [Node.total, L.add_zero], i.wf, trivial⟩

theorem growF_spec {o : Ops R G} (L : Lawful o) (clock : Nat) : ∀ (fuel : Nat) (t : Tree G), TInv o t →
    clock < t.treeSize * 2 ^ fuel →
    TInv o (Tree.growF o clock fuel t) ∧ clock < (Tree.growF o clock fuel t).treeSize ∧
    (Tree.growF o clock fuel t).root.leaves = t.root.leaves ∧
    (Tree.growF o clock fuel t).leafSize = t.leafSize ∧ (Tree.growF o clock fuel t).dirty = t.dirty ∧
    (Tree.growF o clock fuel t).orphaned = t.orphaned := by
  intro fuel
  induction fuel with
  | zero => intro t i h; simp at h; simp [Tree.growF, i, h]
  | succ f ih =>
    intro t i h
    by_cases hc : clock ≥ t.treeSize
    · have r := TInv.reRoot L i
      have := ih (Tree.reRoot o t) r.1 (by rw [r.2.2.2.1]; rw [Nat.pow_succ] at h; rw [Nat.mul_comm 2, Nat.mul_assoc, Nat.mul_comm 2]; exact h)
      simp only [Tree.growF, hc, if_true]
      exact ⟨this.1, this.2.1, by rw [this.2.2.1, r.2.1], by rw [this.2.2.2.1, r.2.2.1],
        by rw [this.2.2.2.2.1, r.2.2.2.2], by rw [this.2.2.2.2.2]; rfl⟩
    · have e : Tree.growF o clock (f + 1) t = t := by simp [Tree.growF, hc]
      rw [e]
      exact ⟨i, by omega, rfl, rfl, rfl, rfl⟩

theorem grow_spec {o : Ops R G} (L : Lawful o) (clock : Nat) (t : Tree G) (i : TInv o t) :
    TInv o (Tree.grow o t clock) ∧ clock < (Tree.grow o t clock).treeSize ∧
    (Tree.grow o t clock).root.leaves = t.root.leaves ∧
    (Tree.grow o t clock).leafSize = t.leafSize ∧ (Tree.grow o t clock).dirty = t.dirty ∧
    (Tree.grow o t clock).orphaned = t.orphaned ∧
    (clock < t.treeSize → Tree.grow o t clock = t) := by
  obtain ⟨g1, g2, g3, g4, g5, g6⟩ := growF_spec L clock (clock + 1) t i (by
    obtain ⟨h, _, hs⟩ := i.shape
    have : 0 < t.treeSize := by rw [hs]; exact Nat.mul_pos i.ls_pos (Nat.two_pow_pos h)
    have h2 : clock + 1 < 2 ^ (clock + 1) := Nat.lt_two_pow_self
    have : 2 ^ (clock + 1) ≤ t.treeSize * 2 ^ (clock + 1) := Nat.le_mul_of_pos_left _ this
    omega)
  exact ⟨g1, g2, g3, g4, g5, g6, fun hlt => by simp [Tree.grow, Tree.growF, Nat.not_le.mpr hlt]⟩

theorem updatePath_eq {o : Ops R G} (L : Lawful o) (t : Tree G) (i : TInv o t) (clock : Nat) (f : G → G) :
    ∃ (h : Nat) (g : Tree G), Geo t.leafSize h 0 g.root ∧ Wf o g.root ∧ g.treeSize = t.leafSize * 2 ^ h ∧ clock < g.treeSize ∧
      g.root.leaves = t.root.leaves ∧
      Tree.updatePath o t clock f =
        { root := (updateF o t.leafSize f clock g.treeSize g.root).1, treeSize := g.treeSize, leafSize := t.leafSize,
          dirty := t.dirty ++ (updateF o t.leafSize f clock g.treeSize g.root).2, orphaned := t.orphaned } := by
  obtain ⟨gi, glt, gleaves, gls, gdirty, gorph, _⟩ := grow_spec L clock t i
  obtain ⟨h, geo, hs⟩ := gi.shape
  refine ⟨h, _, gls ▸ geo, gi.wf, gls ▸ hs, glt, gleaves, ?_⟩
  rw [← gls, ← gdirty, ← gorph]
  rfl

theorem updatePath_spec {o : Ops R G} (L : Lawful o) (t : Tree G) (i : TInv o t) (clock : Nat) (f : G → G) (δ : G)
    (hf : ∀ d, f d = o.add d δ) :
    TInv o (Tree.updatePath o t clock f) ∧ (Tree.updatePath o t clock f).leafSize = t.leafSize ∧
    (∀ q : Nat → Bool, fsum o t.leafSize q (Tree.updatePath o t clock f).root.leaves =
      if q (clock / t.leafSize) then o.add (fsum o t.leafSize q t.root.leaves) δ
      else fsum o t.leafSize q t.root.leaves) := by
  obtain ⟨h, g, geo, wf, hs, glt, gleaves, e⟩ := updatePath_eq L t i clock f
  have hls := i.ls_pos
  obtain ⟨g1, w1, _, q1⟩ := updateF_spec L hls f δ hf clock h 0 g.treeSize g.root geo wf
    (by rw [hs]; exact lt_mul_two_pow hls h) (by simp) (by simpa [hs] using glt)
  rw [e, ← gleaves]
  exact ⟨⟨hls, ⟨h, g1, hs⟩, w1⟩, rfl, q1⟩

@[simp] theorem Node.data_leaf (o : Ops R G) (s l : Nat) (d : G) : (Node.leaf s l d).data o = d := rfl

@[simp] theorem Node.data_branch (o : Ops R G) (s l : Nat) (d : G) (a b : Node G) :
    (Node.branch s l d a b).data o = d := rfl

theorem zeroTo_left {o : Ops R G} {c s l : Nat} {d : G} {left right : Node G} (acc : G)
    (hc : c < s) (hl : left ≠ .nil) (hr : right ≠ .nil) :
    (Node.branch s l d left right).zeroTo o c acc = left.zeroTo o c (o.sub acc (right.data o)) := by
  cases right with
  | nil => exact absurd rfl hr
  | leaf _ _ _ => cases left with
    | nil => exact absurd rfl hl
    | leaf _ _ _ => simp [Node.zeroTo, hc]
    | branch _ _ _ _ _ => simp [Node.zeroTo, hc]
  | branch _ _ _ _ _ => cases left with
    | nil => exact absurd rfl hl
    | leaf _ _ _ => simp [Node.zeroTo, hc]
    | branch _ _ _ _ _ => simp [Node.zeroTo, hc]

theorem zeroTo_left_nil {o : Ops R G} {c s l : Nat} {d : G} {left : Node G} (acc : G)
    (hc : c < s) (hl : left ≠ .nil) :
    (Node.branch s l d left .nil).zeroTo o c acc = left.zeroTo o c acc := by
  cases left with
  | nil => exact absurd rfl hl
  | leaf _ _ _ => simp [Node.zeroTo, hc]
  | branch _ _ _ _ _ => simp [Node.zeroTo, hc]

theorem zeroTo_right {o : Ops R G} {c s l : Nat} {d : G} {left right : Node G} (acc : G)
    (hc : ¬ c < s) (hr : right ≠ .nil) :
    (Node.branch s l d left right).zeroTo o c acc = right.zeroTo o c acc := by
  cases right with
  | nil => exact absurd rfl hr
  | leaf _ _ _ => simp [Node.zeroTo, hc]
  | branch _ _ _ _ _ => simp [Node.zeroTo, hc]

theorem zeroTo_right_nil {o : Ops R G} {c s l : Nat} {d : G} {left : Node G} (acc : G) (hc : ¬ c < s) :
    (Node.branch s l d left .nil).zeroTo o c acc = (acc, (Node.branch s l d left .nil).rightmost) := by
  simp [Node.zeroTo, hc]

theorem Geo.fsum_le {o : Ops R G} (L : Lawful o) {ls : Nat} (hls : 0 < ls) {h a P : Nat} {n : Node G} (g : Geo ls h a n)
    (hP : a + 2 ^ h ≤ P + 1) : fsum o ls (fun p => decide (p ≤ P)) n.leaves = n.total o := by
  rw [fsum_all, ← total_eq_gsum L]
  intro kv hkv
  have := g.leaf_pages hls kv hkv
  simp; omega

theorem zeroTo_spec {o : Ops R G} (L : Lawful o) {ls : Nat} (hls : 0 < ls) (c : Nat) :
    ∀ {h a : Nat} {n : Node G}, Geo ls h a n → ∀ x : G, Wf o n → ls * a ≤ c →
      (n.zeroTo o c (o.add x (n.data o))).1 = o.add x (fsum o ls (fun p => decide (p ≤ c / ls)) n.leaves) := by
  refine @Geo.induction _ _ _ ?_ ?_ ?_
  · intro a d x _ hlo
    have : a ≤ c / ls := (page_of_clock hls).mp hlo
    simp [Node.zeroTo, fsum, Node.leaves, key_page hls, this, gsum, L.add_zero]
  · intro h a d left gl ih x w hlo
    have hd : d = left.total o := by rw [w.1]; simp [Node.total, L.add_zero]
    rw [Node.data_branch, Node.leaves, Node.leaves, List.append_nil]
    by_cases hc : c < ls * (a + 2 ^ h)
    · rw [zeroTo_left_nil _ hc gl.ne_nil, hd, ← w.2.1.data_eq, ih x w.2.1 hlo]
    · rw [zeroTo_right_nil _ hc, hd, gl.fsum_le L hls (by have := (page_of_clock hls).mp (Nat.le_of_not_lt hc); omega)]
  · intro h a d left right gl gr ihl ihr x w hlo
    obtain ⟨wd, wl, wr⟩ := w
    rw [Node.data_branch, Node.leaves, fsum_append L, wd]
    by_cases hc : c < ls * (a + 2 ^ h)
    · -- go left, subtracting the right child, none of whose pages counts
      have hr0 : fsum o ls (fun p => decide (p ≤ c / ls)) right.leaves = o.zero := by
        apply fsum_none
        intro kv hkv
        have := gr.leaf_pages hls kv hkv
        have := (page_of_clock_lt hls).mp hc
        simp; omega
      rw [zeroTo_left _ hc gl.ne_nil gr.ne_nil, wr.data_eq, ← L.add_assoc, L.add_sub, ← wl.data_eq, ihl x wl hlo, hr0, L.add_zero]
    · have hlo' := Nat.le_of_not_lt hc
      rw [zeroTo_right _ hc gr.ne_nil, ← L.add_assoc, ← wr.data_eq, ihr _ wr hlo',
        gl.fsum_le L hls (by have := (page_of_clock hls).mp hlo'; omega), L.add_assoc]

theorem Tree.zeroTo_data {o : Ops R G} (L : Lawful o) (t : Tree G) (i : TInv o t) (c : Nat) :
    (t.zeroTo o c).1 = fsum o t.leafSize (fun p => decide (p ≤ c / t.leafSize)) t.root.leaves := by
  obtain ⟨h, g, _⟩ := i.shape
  have := zeroTo_spec L i.ls_pos c g o.zero i.wf (by simp)
  rw [zero_add L, zero_add L] at this
  exact this

theorem Tree.root_data {o : Ops R G} (L : Lawful o) (t : Tree G) (i : TInv o t) :
    t.rootData o = fsum o t.leafSize (fun _ => true) t.root.leaves := by
  unfold Tree.rootData
  rw [i.wf.data_eq, total_eq_gsum L, fsum_all]
  intro _ _; rfl

theorem insert_spec {o : Ops R G} (L : Lawful o) (t : Tree G) (i : TInv o t) (r : R) (clock : Nat) :
    TInv o (t.insert o r clock) ∧ (t.insert o r clock).leafSize = t.leafSize ∧
    ∀ q : Nat → Bool, fsum o t.leafSize q (t.insert o r clock).root.leaves =
      if q (clock / t.leafSize) then o.ins (fsum o t.leafSize q t.root.leaves) r
      else fsum o t.leafSize q t.root.leaves := by
  have := updatePath_spec L t i clock (fun d => o.ins d r) (o.ins o.zero r) (fun d => L.ins_eq d r)
  refine ⟨this.1, this.2.1, fun q => ?_⟩
  rw [Tree.insert, this.2.2 q, ← L.ins_eq]

/-- `Delete` is `Insert`'s mirror image: subtracting a singleton -/
structure DelLawful (o : Ops R G) : Prop where
  del_eq : ∀ g r, o.del g r = o.add g (o.del o.zero r)
  del_ins : ∀ g r, o.del (o.ins g r) r = g

theorem delete_spec {o : Ops R G} (L : Lawful o) (D : DelLawful o) (t : Tree G) (i : TInv o t) (r : R) (clock : Nat) :
    TInv o (t.delete o r clock) ∧ (t.delete o r clock).leafSize = t.leafSize ∧
    ∀ q : Nat → Bool, fsum o t.leafSize q (t.delete o r clock).root.leaves =
      if q (clock / t.leafSize) then o.del (fsum o t.leafSize q t.root.leaves) r
      else fsum o t.leafSize q t.root.leaves := by
  have := updatePath_spec L t i clock (fun d => o.del d r) (o.del o.zero r) (fun d => D.del_eq d r)
  refine ⟨this.1, this.2.1, fun q => ?_⟩
  rw [Tree.delete, this.2.2 q, ← D.del_eq]

theorem filter_or_perm {α : Type} (p q : α → Bool) (l : List α) (hd : ∀ x ∈ l, ¬ (p x = true ∧ q x = true)) :
    (l.filter p ++ l.filter q).Perm (l.filter (fun x => p x || q x)) := by
  induction l with
  | nil => simp
  | cons x xs ih =>
    have ih' := ih (fun y hy => hd y (by simp [hy]))
    have hx := hd x (by simp)
    cases hp : p x <;> cases hq : q x
    · simpa [List.filter_cons, hp, hq] using ih'
    · simp only [List.filter_cons, hp, hq, Bool.false_eq_true, if_false, if_true, Bool.or_true]
      exact List.perm_middle.trans (ih'.cons x)
    · simp only [List.filter_cons, hp, hq, Bool.false_eq_true, if_false, if_true, Bool.or_false, List.cons_append]
      exact ih'.cons x
    · simp [hp, hq] at hx

theorem fsum_le_succ {o : Ops R G} (L : Lawful o) (ls q : Nat) (l : List (Nat × G)) :
    fsum o ls (fun p => decide (p ≤ q + 1)) l =
      o.add (fsum o ls (fun p => decide (p ≤ q)) l) (fsum o ls (fun p => p == q + 1) l) := by
  unfold fsum
  rw [← gsum_append L, ← List.map_append]
  refine gsum_perm L (List.Perm.map _ ?_)
  rw [List.filter_congr (q := fun kv => decide (kv.1 / ls ≤ q) || kv.1 / ls == q + 1)
    (fun kv _ => by rw [Bool.eq_iff_iff]; simp; omega)]
  exact (filter_or_perm _ _ l (fun kv _ ⟨h1, h2⟩ => by simp at h1 h2; omega)).symm

/-- `checkPage` reads page `p` as a difference of two prefix sums, taken at the last clock of the page and at the last
    clock before it (or as the first prefix sum alone, for page 0). `S q` is the prefix sum over the pages `≤ q`. -/
theorem page_by_difference {o : Ops R G} (L : Lawful o) {ls : Nat} (hls : 0 < ls) (S v : Nat → G) (p : Nat)
    (h0 : p = 0 → S 0 = v 0) (hs : ∀ q, p = q + 1 → S p = o.add (S q) (v p)) :
    (if p * ls ≠ 0 then o.sub (S ((p * ls + ls - 1) / ls)) (S ((p * ls - 1) / ls))
     else S ((p * ls + ls - 1) / ls)) = v p := by
  have hend : (p * ls + ls - 1) / ls = p := Nat.div_eq_of_lt_le (by omega) (by rw [Nat.add_mul]; omega)
  rw [hend]
  cases p with
  | zero => rw [if_neg (by simp)]; exact h0 rfl
  | succ q =>
    have hstart : ((q + 1) * ls - 1) / ls = q :=
      Nat.div_eq_of_lt_le (by rw [Nat.add_mul]; omega) (by rw [Nat.add_mul] at *; omega)
    rw [if_pos (Nat.mul_ne_zero (Nat.succ_ne_zero q) (by omega)), hstart, hs q rfl, L.add_comm, L.add_sub]

/-- **A page read as `checkPage` reads it** — the difference of two `ZeroTo`s — is the sum of the leaves on that page, on
    any tree that satisfies the invariant -/
theorem page_by_zeroTo {o : Ops R G} (L : Lawful o) {t : Tree G} (i : TInv o t) (p : Nat) :
    (if p * t.leafSize ≠ 0 then o.sub (t.zeroTo o (p * t.leafSize + t.leafSize - 1)).1 (t.zeroTo o (p * t.leafSize - 1)).1
     else (t.zeroTo o (p * t.leafSize + t.leafSize - 1)).1) = fsum o t.leafSize (fun q => q == p) t.root.leaves := by
  simp only [Tree.zeroTo_data L t i]
  refine page_by_difference L i.ls_pos (fun q => fsum o t.leafSize (fun p => decide (p ≤ q)) t.root.leaves)
    (fun p => fsum o t.leafSize (fun q => q == p) t.root.leaves) p (fun _ => ?_) (fun q e => ?_)
  · unfold fsum
    rw [List.filter_congr (q := fun kv => kv.1 / t.leafSize == 0) (fun kv _ => by rw [Bool.eq_iff_iff]; simp)]
  · subst e; exact fsum_le_succ L _ q _

end Nuts.C08
