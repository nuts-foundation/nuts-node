/-
  C09 — the store over whole runs: an accepted delivery adds exactly its own event to its own DID (`callback_events`), one
  delivery either leaves the store or is such an addition (`step_cases`), and REPROCESS is `callback` again.
-/
import NutsProofs.Lemmas.C09Callback
import NutsProofs.Lemmas.C10

namespace Nuts.C09
open Nuts Nuts.C10

theorem addDid_events (cfg : C10.Cfg) (st st' : DidState) (e : Event) (h : addDid cfg st e = .ok (some st')) :
    ∀ x, x ∈ st'.events → x = e ∨ x ∈ st.events := by
  obtain ⟨_, _, _, _, _, rfl⟩ := addDid_some h
  exact fun x hx => List.mem_cons.mp ((insert_perm e st.events).mem_iff.mp hx)

theorem add_events (cfg : C10.Cfg) (s s' : Store) (e x : Event) (id : String) (h : add cfg s e = .ok s')
    (hx : x ∈ (s'.get id).events) : x ∈ (s.get id).events ∨ (x = e ∧ e.doc.id = id) := by
  obtain ⟨hother, hown⟩ := add_get cfg s s' e h
  by_cases hid : id = e.doc.id
  · subst hid
    rcases hown with ⟨_, rfl⟩ | hsome
    · exact Or.inl hx
    · rcases addDid_events cfg _ _ _ hsome x hx with rfl | hold
      · exact Or.inr ⟨rfl, rfl⟩
      · exact Or.inl hold
  · rw [hother id hid] at hx
    exact Or.inl hx

theorem callback_ok_add (c : Cfg) (s s' : Store) (tx : Tx) (pd : Option NDoc) (h : callback c s tx pd = .ok s') :
    ∃ d, pd = some d ∧ add c.store s (eventOf tx d) = .ok s' := by
  obtain ⟨_, d, hpd, _, hcase⟩ := (callback_ok_iff c s s' tx pd).mp h
  refine ⟨d, hpd, ?_⟩
  rcases hcase with ⟨k, _, hc⟩ | ⟨_, hup⟩
  · exact ((handleCreate_ok_iff c s s' tx k d).mp hc).2
  · obtain ⟨_, _, _, _, _, _, _, _, _, _, hadd⟩ := (handleUpdate_ok_iff c s s' tx d).mp hup
    exact hadd

theorem callback_events (c : Cfg) (s s' : Store) (tx : Tx) (pd : Option NDoc) (id : String) (e : Event)
    (h : callback c s tx pd = .ok s') (he : e ∈ (s'.get id).events) :
    e ∈ (s.get id).events ∨ ∃ d, pd = some d ∧ e = eventOf tx d ∧ d.id = id := by
  obtain ⟨d, hpd, hadd⟩ := callback_ok_add c s s' tx pd h
  exact (add_events c.store s s' _ e id hadd he).imp_right fun ⟨he, hid⟩ => ⟨d, hpd, he, hid⟩

theorem err_ne_ok (e : String) : "err:" ++ e ≠ "ok" := by
  intro h
  have := congrArg String.toList h
  simp at this

theorem panic_ne_ok (e : String) : "panic:" ++ e ≠ "ok" := by
  intro h
  have := congrArg String.toList h
  simp at this

theorem step_snd (c : Cfg) (s : Store) (tx : Tx) (pd : Option NDoc) : (step c s tx pd).2 = (deliver c s tx pd).cls := by
  unfold step
  cases deliver c s tx pd <;> rfl

theorem step_cases (c : Cfg) (s : Store) (tx : Tx) (pd : Option NDoc) :
    ((step c s tx pd).1 = s ∧ (step c s tx pd).2 ≠ "ok") ∨
    ∃ s' d, deliver c s tx pd = .ok s' ∧ step c s tx pd = (s', "ok") ∧ pd = some d ∧
      add c.store s (eventOf tx d) = .ok s' := by
  unfold step
  cases h : deliver c s tx pd with
  | ok s' =>
    obtain ⟨d, hpd, hadd⟩ := callback_ok_add c s s' tx pd (deliver_ok_inv c s s' tx pd h).2
    exact Or.inr ⟨s', d, rfl, rfl, hpd, hadd⟩
  | err e => exact Or.inl ⟨rfl, err_ne_ok e⟩
  | panic x => exact Or.inl ⟨rfl, panic_ne_ok x⟩

theorem step_events (c : Cfg) (s : Store) (tx : Tx) (pd : Option NDoc) (id : String) (e : Event)
    (h : e ∈ ((step c s tx pd).1.get id).events) :
    e ∈ (s.get id).events ∨
      ((step c s tx pd).2 = "ok" ∧ ∃ d, pd = some d ∧ e = eventOf tx d ∧ d.id = id) := by
  rcases step_cases c s tx pd with ⟨hs, _⟩ | ⟨s', d, _, hs, hpd, hadd⟩
  · exact Or.inl (hs ▸ h)
  · rw [hs] at h ⊢
    exact (add_events c.store s s' _ e id hadd h).imp_right fun ⟨he, hid⟩ => ⟨rfl, d, hpd, he, hid⟩

def runHist (c : Cfg) : Store → List (Tx × Option NDoc) → Store
  | s, [] => s
  | s, p :: ps => runHist c (step c s p.1 p.2).1 ps

theorem runHist_events (c : Cfg) :
    ∀ (l : List (Tx × Option NDoc)) (s : Store) (id : String) (e : Event),
      e ∈ ((runHist c s l).get id).events →
      e ∈ (s.get id).events ∨
      ∃ pre tx d post, l = pre ++ (tx, some d) :: post ∧ e = eventOf tx d ∧ d.id = id ∧
        (step c (runHist c s pre) tx (some d)).2 = "ok" := by
  intro l s id e h
  rcases run_first_step _ (runHist c) (fun _ => rfl) (fun _ _ _ => rfl) (fun s => e ∈ (s.get id).events)
      (fun s p => step_events c s p.1 p.2 id e) l s h with h0 | ⟨pre, ⟨tx, _⟩, post, hl, hok, d, rfl, he, hid⟩
  · exact .inl h0
  · exact .inr ⟨pre, tx, d, post, hl, he, hid, hok⟩

theorem add_contains (cfg : C10.Cfg) (s : Store) (e : Event)
    (h : contains (s.get e.doc.id).events e = true) : add cfg s e = .ok s := by
  unfold add addDid
  simp [h]

/-- one REPROCESS message: the transaction goes through `callback` again; errors are logged, nothing else happens -/
def reprocessOne (c : Cfg) (s : Store) (tx : Tx) (pd : Option NDoc) : Store :=
  match callback c s tx pd with
  | .ok s' => s'
  | _ => s

/-- REPROCESS of application/did+json: every such transaction of the DAG, in order -/
def reprocess (c : Cfg) : Store → List (Tx × Option NDoc) → Store
  | s, [] => s
  | s, p :: ps => reprocess c (reprocessOne c s p.1 p.2) ps

theorem reprocessOne_known (c : Cfg) (s : Store) (tx : Tx) (d : NDoc)
    (h : contains (s.get d.id).events (eventOf tx d) = true) : reprocessOne c s tx (some d) = s := by
  unfold reprocessOne
  split
  · rename_i s' hs'
    obtain ⟨d', hd', hadd⟩ := callback_ok_add c s s' tx (some d) hs'
    cases hd'
    have h' : contains (s.get (eventOf tx d).doc.id).events (eventOf tx d) = true := h
    rw [add_contains c.store s (eventOf tx d) h'] at hadd
    cases hadd
    rfl
  · rfl

theorem reprocessOne_events (c : Cfg) (s : Store) (tx : Tx) (pd : Option NDoc) (id : String) (e : Event)
    (h : e ∈ ((reprocessOne c s tx pd).get id).events) :
    e ∈ (s.get id).events ∨
      ∃ d s', pd = some d ∧ callback c s tx (some d) = .ok s' ∧ e = eventOf tx d ∧ d.id = id := by
  unfold reprocessOne at h
  split at h
  · rename_i s' hs'
    exact (callback_events c s s' tx pd id e hs' h).imp_right fun ⟨d, hpd, hd⟩ => ⟨d, s', hpd, hpd ▸ hs', hd⟩
  · exact Or.inl h

end Nuts.C09
