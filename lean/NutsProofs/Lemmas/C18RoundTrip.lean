/-
  C18 — `URLToDID (DIDToURL d) = d` on the round-trip grammar, in generative form: the host component, the path of decoded segments
  through `DIDToURL` and back through `URLToDID`, `did.ParseDID` on the identifier that comes back.
-/
import NutsProofs.Lemmas.C18Url
import NutsProofs.Lemmas.C18Codec

namespace Nuts.C18

/-! ### the host component of a well-formed identifier -/

/-- the text of a host component: name, optional port -/
def hDec (name : Bytes) (port : Option Bytes) : Bytes := name ++ match port with | none => [] | some p => cColon :: p

structure HostOK (name : Bytes) (port : Option Bytes) : Prop where
  ne : name ≠ []
  nm : ∀ c ∈ name, isNameChar c = true
  notIP : isIPv4 name = false
  dg : ∀ p, port = some p → ∀ c ∈ p, isDigit c = true

theorem hDec_chars {name : Bytes} {port : Option Bytes} (ok : HostOK name port) :
    ∀ c ∈ hDec name port, isNameChar c = true ∨ c = cColon := by
  intro c hc
  unfold hDec at hc
  rcases List.mem_append.mp hc with h | h
  · left; exact ok.nm c h
  · cases port with
    | none => simp at h
    | some p =>
      simp only [List.mem_cons] at h
      rcases h with rfl | h
      · right; rfl
      · left; exact digit_props (ok.dg p rfl c h)

theorem hDec_bounds {name : Bytes} {port : Option Bytes} (ok : HostOK name port) :
    ∀ c ∈ hDec name port, 45 ≤ c ∧ c ≤ 122 ∧ c ≠ 47 ∧ c ≠ 63 ∧ c ≠ 64 := by
  intro c hc
  rcases hDec_chars ok c hc with h | rfl
  · have := nameChar_props h; omega
  · decide

theorem HostOK.txt {name : Bytes} {port : Option Bytes} (ok : HostOK name port) : Txt (hDec name port) :=
  fun c hc => (hDec_chars ok c hc).imp_right fun (e : c = cColon) => e ▸ (by decide)

theorem enc_hDec {name : Bytes} {port : Option Bytes} (ok : HostOK name port) :
    enc (hDec name port) = name ++ match port with | none => [] | some p => sPct3A ++ p := by
  unfold enc hDec
  rw [List.flatMap_append, flatMap_encB_plain name (fun c hc => (nameChar_props (ok.nm c hc)).2.2.2.2.2.2.2)]
  cases port with
  | none => rfl
  | some p =>
    rw [List.flatMap_cons, flatMap_encB_plain p (fun c hc => (nameChar_props (digit_props (ok.dg p rfl c hc))).2.2.2.2.2.2.2)]
    rfl

theorem wfHost_decomp {h : Bytes} (hw : wfHost h = true) : ∃ name port, HostOK name port ∧ h = enc (hDec name port) := by
  unfold wfHost at hw
  simp only [Bool.and_eq_true, Bool.or_eq_true, decide_eq_true_eq, Bool.not_eq_true', ne_eq, decide_not] at hw
  obtain ⟨⟨hne, hip⟩, htl⟩ := hw
  have hsplit : h = h.takeWhile isNameChar ++ h.dropWhile isNameChar := (List.takeWhile_append_dropWhile).symm
  have hnm : ∀ c ∈ h.takeWhile isNameChar, isNameChar c = true := List.all_eq_true.mp List.all_takeWhile
  rcases htl with htl | ⟨hpre, hdig⟩
  · have ok : HostOK (h.takeWhile isNameChar) none := ⟨by simpa using hne, hnm, hip, by simp⟩
    refine ⟨_, _, ok, ?_⟩
    rw [enc_hDec ok]
    rw [htl] at hsplit; exact hsplit
  · have ok : HostOK (h.takeWhile isNameChar) (some ((h.dropWhile isNameChar).drop 3)) :=
      ⟨by simpa using hne, hnm, hip, fun p hp c hc => by cases hp; exact List.all_eq_true.mp hdig c hc⟩
    refine ⟨_, _, ok, ?_⟩
    rw [enc_hDec ok]
    have : sPct3A ++ (h.dropWhile isNameChar).drop 3 = h.dropWhile isNameChar := by
      have := List.prefix_iff_eq_append.mp (List.isPrefixOf_iff_prefix.mp hpre)
      simpa [sPct3A] using this
    show h = _ ++ (sPct3A ++ _)
    rw [this]; exact hsplit

theorem shouldEscapeHost_of_nameChar {c : Nat} (h : isNameChar c = true ∨ c = cColon) : shouldEscapeHost c = false := by
  rcases h with h | rfl
  · simp only [isNameChar, Bool.or_eq_true, decide_eq_true_eq] at h
    rcases h with ((h | h) | h) | h
    · simp [shouldEscapeHost, h]
    · subst h; decide
    · subst h; decide
    · subst h; decide
  · decide

theorem hostCheck_ok : ∀ s : Bytes, (∀ c ∈ s, c ≠ 37 ∧ shouldEscapeHost c = false) → hostCheck s = true := by
  intro s
  fun_induction hostCheck s with
  | case1 => exact fun _ => rfl
  | case2 a b rest ih => exact fun h => absurd rfl (h 37 (by simp)).1
  | case3 t hn => exact fun h => absurd rfl (h 37 (by simp)).1
  | case4 c rest h1 h2 ih =>
    intro h
    simp [(h c (by simp)).2, ih (fun c hc => h c (by simp [hc]))]

theorem HostOK.noLB {name : Bytes} {port : Option Bytes} (ok : HostOK name port) (rest : Bytes) :
    hasPrefix [cLB] (name ++ rest) = false := by
  cases hn : name with
  | nil => exact absurd hn ok.ne
  | cons x xs =>
    have := nameChar_props (ok.nm x (by simp [hn]))
    simp only [hasPrefix, List.cons_append, List.isPrefixOf, cLB, Bool.and_true, beq_eq_false_iff_ne, ne_eq]
    omega

theorem colon_notin_name {name : Bytes} (h : ∀ c ∈ name, isNameChar c = true) : cColon ∉ name :=
  fun hm => (nameChar_props (h _ hm)).2.2.2.1 rfl

theorem HostOK.port_noColon {name : Bytes} {port : Option Bytes} (ok : HostOK name port) {p : Bytes}
    (hp : port = some p) : cColon ∉ p := fun hm => by
  have := nameChar_props (digit_props (ok.dg p hp _ hm)); simp [cColon] at this

theorem afterLast_hDec {name : Bytes} {port : Option Bytes} (ok : HostOK name port) :
    afterLast cColon (hDec name port) = port := by
  cases port with
  | none => exact afterLast_notin _ _ (by simp only [hDec, List.append_nil]; exact colon_notin_name ok.nm)
  | some p => exact afterLast_append _ _ _ (ok.port_noColon rfl)

theorem parseAuthority_hDec {name : Bytes} {port : Option Bytes} (ok : HostOK name port) :
    parseAuthority (hDec name port) = .ok (false, hDec name port) := by
  have hch := hDec_chars ok
  have hat : cAt ∉ hDec name port := fun hm => (hDec_bounds ok _ hm).2.2.2.2 rfl
  have hun : unescapeHost (hDec name port) = .ok (hDec name port) := by
    unfold unescapeHost
    have hnp : ∀ c ∈ hDec name port, c ≠ 37 := fun c hc => by have := hDec_bounds ok c hc; omega
    rw [hostCheck_ok _ (fun c hc => ⟨hnp c hc, shouldEscapeHost_of_nameChar (hch c hc)⟩), unescapeAll_noPct _ hnp]; rfl
  have hph : parseHost (hDec name port) = .ok (hDec name port) := by
    unfold parseHost
    rw [show hasPrefix [cLB] (hDec name port) = false from ok.noLB _, afterLast_hDec ok]; simp only [Bool.false_eq_true, if_false]
    cases port with
    | none => exact hun
    | some p =>
      have : p.all isDigit = true := List.all_eq_true.mpr (ok.dg p rfl)
      simp only [this, Bool.not_true, Bool.false_eq_true, if_false]; exact hun
  unfold parseAuthority
  rw [afterLast_notin _ _ hat, hph]; rfl

theorem find_special_name : ∀ name : Bytes, (∀ c ∈ name, isNameChar c = true) →
    name.find? (fun c => c = cDot || c = cColon || c = cPct) = none ∨
    name.find? (fun c => c = cDot || c = cColon || c = cPct) = some 46
  | [], _ => by simp
  | x :: xs, h => by
    have hx := nameChar_props (h x (by simp))
    by_cases h46 : x = 46
    · right; subst h46; simp [cDot]
    · have h58 : x ≠ 58 := by omega
      have h37 : x ≠ 37 := by omega
      have : (decide (x = cDot) || decide (x = cColon) || decide (x = cPct)) = false := by
        simp [cDot, cColon, cPct, h46, h58, h37]
      rw [List.find?_cons, this]
      exact find_special_name xs (fun c hc => h c (by simp [hc]))

theorem hostname_hDec {name : Bytes} {port : Option Bytes} (ok : HostOK name port) :
    hostname (hDec name port) = name ∧ isIP name = false := by
  constructor
  · have hpre : hasPrefix [cLB] name = false := by simpa using ok.noLB []
    unfold hostname
    rw [afterLast_hDec ok]
    cases port with
    | none => simp [hDec, hpre]
    | some p =>
      have h2 : beforeLast cColon (hDec name (some p)) = name :=
        beforeLast_append _ _ _ (colon_notin_name ok.nm) (ok.port_noColon rfl)
      have h3 : p.all isDigit = true := List.all_eq_true.mpr (ok.dg p rfl)
      simp [h2, h3, hpre]
  · unfold isIP
    rcases find_special_name name ok.nm with h | h
    · rw [h]
    · rw [h]; exact ok.notIP

/-! ### the path of a well-formed identifier -/

/-- decoded path segments -/
def SegsD (segs : List Bytes) : Prop := ∀ s ∈ segs, s ≠ [] ∧ Txt s

/-- `/s₁/s₂…`: the sub-path of the identifier (segments spelled) and the URL path (segments decoded) -/
def pathOf (segs : List Bytes) : Bytes := segs.flatMap fun s => cSlash :: s

theorem SegsD.tail {s : Bytes} {ss : List Bytes} (h : SegsD (s :: ss)) : SegsD ss := fun x hx => h x (List.mem_cons_of_mem _ hx)

theorem segs_enc : ∀ segs : List Bytes, (∀ s ∈ segs, s ≠ [] ∧ wfSeg set14 s = true) → ∃ ds, SegsD ds ∧ segs = ds.map enc
  | [], _ => ⟨[], nofun, rfl⟩
  | s :: ss, h => by
    obtain ⟨ds, hd, e⟩ := segs_enc ss fun x hx => h x (List.mem_cons_of_mem _ hx)
    obtain ⟨d, hdt, rfl⟩ := wfSeg_enc s (h s List.mem_cons_self).2
    refine ⟨d :: ds, fun x hx => ?_, by rw [e]; rfl⟩
    rcases List.mem_cons.mp hx with rfl | hx
    · exact ⟨fun e0 => (h _ List.mem_cons_self).1 (by rw [e0]; rfl), hdt⟩
    · exact hd x hx

theorem map_colonToSlash_id : ∀ s : Bytes, cColon ∉ s → s.map colonToSlash = s
  | [], _ => rfl
  | x :: xs, h => by
    simp only [List.mem_cons, not_or] at h
    simp [colonToSlash, Ne.symm h.1, map_colonToSlash_id xs h.2]

theorem map_join (s : Bytes) (ss : List Bytes) (h : ∀ x ∈ s :: ss, cColon ∉ x) :
    cSlash :: (joinWith cColon (s :: ss)).map colonToSlash = pathOf (s :: ss) := by
  induction ss generalizing s with
  | nil =>
    simp only [joinWith, pathOf, List.flatMap_cons, List.flatMap_nil, List.append_nil]
    rw [map_colonToSlash_id s (h s List.mem_cons_self)]
  | cons t ts ih =>
    have := ih t (fun x hx => h x (List.mem_cons_of_mem _ hx))
    rw [joinWith_cons_cons, List.map_append, map_colonToSlash_id s (h s List.mem_cons_self), List.map_cons]
    simp only [pathOf, List.flatMap_cons] at this ⊢
    have e : colonToSlash cColon = cSlash := by decide
    rw [e, this]; simp

theorem didPath_join (h : Bytes) (segs : List Bytes) (hh : cColon ∉ h) (hs : ∀ x ∈ segs, cColon ∉ x) :
    didPath (joinWith cColon (h :: segs)) = pathOf segs ∧
    ((cut cColon (joinWith cColon (h :: segs))).2.isSome = !segs.isEmpty) ∧
    (cut cColon (joinWith cColon (h :: segs))).1 = h := by
  cases segs with
  | nil => simp [joinWith, didPath, cut_notin _ _ hh, pathOf]
  | cons s ss =>
    rw [joinWith_cons_cons]
    unfold didPath
    rw [cut_append _ _ _ hh]
    exact ⟨map_join s ss hs, by simp, rfl⟩

theorem pd_path : ∀ segs : List Bytes, SegsD segs → percentDecode set14 (pathOf (segs.map enc)) = pathOf segs
  | [], _ => rfl
  | s :: ss, h => by
    rw [List.map_cons, pathOf, List.flatMap_cons, List.cons_append, pd_plain _ _ _ (by decide), pd_enc (h s List.mem_cons_self).2,
      ← pathOf, pd_path ss h.tail]
    rfl

theorem hasSuffix_path (segs : List Bytes) (hs : ∀ s ∈ segs, s ≠ [] ∧ cSlash ∉ s) : hasSuffix [cSlash] (pathOf segs) = false := by
  refine Bool.eq_false_iff.mpr fun h => ?_
  obtain ⟨t, ht⟩ := List.isSuffixOf_iff_suffix.mp h
  rcases List.eq_nil_or_concat segs with rfl | ⟨L, s, rfl⟩
  · exact List.append_ne_nil_of_right_ne_nil t (List.cons_ne_nil _ _) ht
  · obtain ⟨hne, hw⟩ := hs s (by simp)
    rcases List.eq_nil_or_concat s with rfl | ⟨s', z, rfl⟩
    · exact hne rfl
    · have e : pathOf (L.concat (s'.concat z)) = (pathOf L ++ cSlash :: s') ++ [z] := by simp [pathOf]
      have hz : [cSlash] = [z] := (List.append_inj' (ht.trans e) rfl).2
      exact hw (by simp [← List.singleton_inj.mp hz])

theorem hasDouble_path : ∀ segs : List Bytes, (∀ s ∈ segs, s ≠ [] ∧ cSlash ∉ s) → hasDouble cSlash (pathOf segs) = false
  | [], _ => by simp [pathOf, hasDouble]
  | s :: ss, h => by
    have ih := hasDouble_path ss (fun x hx => h x (List.mem_cons_of_mem _ hx))
    obtain ⟨hne, hsl⟩ := h s List.mem_cons_self
    cases s with
    | nil => exact absurd rfl hne
    | cons x xs =>
      have hsl' := hsl
      simp only [List.mem_cons, not_or] at hsl
      simp only [pathOf, List.flatMap_cons, List.cons_append] at ih ⊢
      have := hasDouble_append_notin cSlash (x :: xs) (pathOf ss) hsl'
      simp only [pathOf, List.cons_append] at this
      simp [hasDouble, Ne.symm hsl.1, this, ih]

/-! ### from the URL path back to the segments -/

theorem pathOf_chars (segs : List Bytes) (hs : SegsD segs) :
    ∀ c ∈ pathOf segs, 33 ≤ c ∧ c ≤ 126 ∧ c ≠ 35 ∧ c ≠ 63 ∧ c ≠ 37 := by
  intro c hc
  simp only [pathOf, List.mem_flatMap, List.mem_cons] at hc
  obtain ⟨s, hsm, rfl | hc⟩ := hc
  · decide
  · rcases (hs s hsm).2 c hc with h | h
    · have := nameChar_props h; omega
    · have := set14_props h; omega

theorem pathOf_shape (segs : List Bytes) : pathOf segs = [] ∨ ∃ t, pathOf segs = cSlash :: t := by
  cases segs with
  | nil => left; rfl
  | cons s ss => right; exact ⟨s ++ pathOf ss, by simp [pathOf]⟩

/-- `URLToDID` reads the segments back off the path: split at '/', drop the empty first part, re-encode -/
theorem parts_path (s : Bytes) (ss : List Bytes) (h : SegsD (s :: ss)) :
    ((splitOn cSlash (pathOf (s :: ss))).filter (fun x => decide (x ≠ []))).map (percentEncode set14) = (s :: ss).map enc := by
  rw [pathOf, flatMap_sep_eq_join, splitOn_joinWith, List.filter_cons_of_neg (by simp), List.filter_eq_self.mpr]
  · exact List.map_congr_left fun x hx => percentEncode_txt (h x hx).2
  · exact fun x hx => by simpa using (h x hx).1
  · intro q hq
    rcases List.mem_cons.mp hq with rfl | hq
    · exact nofun
    · exact (h q hq).2.noslash

theorem no_didjson_path (segs : List Bytes) (hs : SegsD segs) (hl : (segs.map enc).getLast? ≠ some sDidJsonSeg) :
    hasSuffix sDidJson (pathOf segs) = false := by
  refine Bool.eq_false_iff.mpr fun hsuf => ?_
  obtain ⟨t, ht⟩ := List.isSuffixOf_iff_suffix.mp hsuf
  rcases List.eq_nil_or_concat segs with rfl | ⟨L, s, rfl⟩
  · simp [pathOf, sDidJson] at ht
  · have e : pathOf (L.concat s) = pathOf L ++ cSlash :: s := by simp [pathOf]
    rw [e, show sDidJson = cSlash :: sDidJsonSeg from rfl] at ht
    have := (split_last cSlash t _ sDidJsonSeg s (by decide) (hs s (by simp)).2.noslash ht).2
    exact hl (by rw [List.concat_eq_append, List.map_append, List.map_singleton, List.getLast?_concat, ← this]; decide)

theorem no_wellknown_path (segs : List Bytes) (hs : SegsD segs) (hl : (segs.map enc).getLast? ≠ some sDidJsonSeg) :
    hasSuffix (sWellKnown ++ sDidJson) (pathOf segs) = false := by
  refine Bool.eq_false_iff.mpr fun hsuf => ?_
  have h2 : sDidJson <:+ pathOf segs := (List.suffix_append sWellKnown sDidJson).trans (List.isSuffixOf_iff_suffix.mp hsuf)
  exact Bool.eq_false_iff.mp (no_didjson_path segs hs hl) (List.isSuffixOf_iff_suffix.mpr h2)

/-! ### did.ParseDID on well-formed identifiers -/

theorem spanId_idOK : ∀ s : Bytes, idOK s = true → spanId s = (s, []) := by
  intro s
  induction s using idOK.induct with
  | case1 => intro _; simp [spanId]
  | case2 a b rest ih =>
    intro h
    simp only [idOK, Bool.and_eq_true] at h
    have e : (isHex a && isHex b) = true := by rw [h.1.1, h.1.2]; rfl
    simp only [spanId, e, if_true, ih h.2]
  | case3 c rest hne ih =>
    intro h
    rw [idOK] at h
    · simp only [Bool.and_eq_true] at h
      rw [spanId]
      · simp only [h.1, if_true, ih h.2]
      · exact hne
    · exact hne

theorem idOK_joinEnc : ∀ (c : Bytes) (cs : List Bytes), (∀ x ∈ c :: cs, Txt x) → idOK (joinWith cColon ((c :: cs).map enc)) = true
  | c, [], h => by
    have := idOK_enc (h c List.mem_cons_self) []
    rw [List.append_nil] at this
    exact this
  | c, d :: ds, h => by
    rw [List.map_cons, List.map_cons, joinWith_cons_cons, idOK_enc (h c List.mem_cons_self), ← List.map_cons]
    show idOK (58 :: _) = true
    rw [idOK]
    · rw [idOK_joinEnc d ds fun x hx => h x (List.mem_cons_of_mem _ hx)]; rfl
    · exact nofun

theorem parseDID_web (id : Bytes) (hid : idOK id = true) (hne : id ≠ []) :
    parseDID (sDidWeb ++ id) = .ok { method := sWeb, id := id } := by
  unfold parseDID
  have h1 : hasPrefix sDid (sDidWeb ++ id) = true := by simp [hasPrefix, sDid, sDidWeb, List.isPrefixOf]
  have h2 : (sDidWeb ++ id).drop 4 = 119 :: 101 :: 98 :: 58 :: id := by simp [sDidWeb]
  have h3 : (119 :: 101 :: 98 :: 58 :: id).takeWhile (fun c => isDigit c || isLower c) = [119, 101, 98] := by
    simp [List.takeWhile, isDigit, isLower]
  simp only [h1, h2, h3, Bool.not_true, Bool.false_eq_true, if_false, List.length_cons, List.length_nil,
    List.drop_succ_cons, List.drop_zero]
  rw [spanId_idOK id hid]
  simp [hne, sWeb]

/-- the URL of the identifier with host text `host` and decoded path segments `segs` -/
def urlOf (host : Bytes) (segs : List Bytes) : URL :=
  { scheme := sHttps, host := host, path := pathOf segs, rawPath := if escapePath (pathOf segs) = pathOf segs then [] else pathOf segs }

/-- **round trip, generative form**, host and segments given as the text they stand for: `DIDToURL` … -/
theorem didToURL_parts (name : Bytes) (port : Option Bytes) (segs : List Bytes) (ok : HostOK name port) (hs : SegsD segs) :
    didToURL set14 { method := sWeb, id := joinWith cColon ((hDec name port :: segs).map enc) } = .ok (urlOf (hDec name port) segs) := by
  have hE : ∀ x ∈ segs.map enc, x ≠ [] ∧ cSlash ∉ x ∧ cColon ∉ x := fun x hx => by
    obtain ⟨y, hy, rfl⟩ := List.mem_map.mp hx
    exact ⟨enc_ne_nil (hs y hy).2 (hs y hy).1, enc_notin (hs y hy).2 (.inr rfl), enc_notin (hs y hy).2 (.inl rfl)⟩
  obtain ⟨hdp, hsome, hfst⟩ :=
    didPath_join (enc (hDec name port)) (segs.map enc) (enc_notin ok.txt (.inl rfl)) fun x hx => (hE x hx).2.2
  have hHc : ∀ c ∈ hDec name port, 33 ≤ c ∧ c ≤ 126 ∧ c ≠ 35 ∧ c ≠ 63 ∧ c ≠ 47 := fun c hc => by
    have := hDec_bounds ok c hc; omega
  have hparse := parseURL_clean (hDec name port) (pathOf segs) (parseAuthority_hDec ok) hHc (pathOf_chars segs hs) (pathOf_shape segs)
  have hhost := hostname_hDec ok
  unfold didToURL
  rw [List.map_cons]
  simp only [ne_eq, not_true_eq_false, if_false, hdp, hsome, hfst]
  have hchk : (!(segs.map enc).isEmpty &&
      (hasSuffix [cSlash] (pathOf (segs.map enc)) || hasDouble cSlash (pathOf (segs.map enc)))) = false := by
    rw [hasSuffix_path _ fun x hx => ⟨(hE x hx).1, (hE x hx).2.1⟩, hasDouble_path _ fun x hx => ⟨(hE x hx).1, (hE x hx).2.1⟩]
    exact Bool.and_false _
  rw [hchk]
  simp only [Bool.false_eq_true, if_false]
  rw [pathUnescape_enc ok.txt]
  simp only
  rw [pd_path segs hs, List.append_assoc, hparse]
  simp only [hhost.1, hhost.2, not_true_eq_false, if_false, Bool.false_eq_true]
  rfl

/-- … and `URLToDID` of that URL, when the last segment is not spelled `did.json` -/
theorem urlToDID_parts (name : Bytes) (port : Option Bytes) (segs : List Bytes) (ok : HostOK name port)
    (hs : SegsD segs) (hl : (segs.map enc).getLast? ≠ some sDidJsonSeg) :
    urlToDID set14 (urlOf (hDec name port) segs) = .ok { method := sWeb, id := joinWith cColon ((hDec name port :: segs).map enc) } := by
  unfold urlToDID urlOf
  have hpath : (if (if escapePath (pathOf segs) = pathOf segs then ([] : Bytes) else pathOf segs) ≠ [] then
      (if escapePath (pathOf segs) = pathOf segs then [] else pathOf segs) else pathOf segs) = pathOf segs := by
    by_cases he : escapePath (pathOf segs) = pathOf segs
    · simp [he]
    · simp only [he, if_false]; split <;> rfl
  simp only [hpath]
  have hc1 : cutSuffix (sWellKnown ++ sDidJson) (pathOf segs) = pathOf segs := by
    unfold cutSuffix; rw [no_wellknown_path segs hs hl]; simp
  have hc2 : cutSuffix sDidJson (pathOf segs) = pathOf segs := by
    unfold cutSuffix; rw [no_didjson_path segs hs hl]; simp
  rw [hc1, hc2, percentEncode_txt ok.txt]
  have hparts : ((splitOn cSlash (pathOf segs)).filter (fun x => decide (x ≠ []))).map (percentEncode set14) = segs.map enc := by
    cases segs with
    | nil => rfl
    | cons s ss => exact parts_path s ss hs
  have hidne : joinWith cColon ((hDec name port :: segs).map enc) ≠ [] := by
    rw [List.map_cons, joinWith_cons]
    exact fun e => enc_ne_nil ok.txt (fun e0 => ok.ne (List.append_eq_nil_iff.mp e0).1) (List.append_eq_nil_iff.mp e).1
  rw [hparts, List.append_assoc, ← joinWith_cons, ← List.map_cons]
  exact parseDID_web _ (idOK_joinEnc _ _ fun x hx => by
    rcases List.mem_cons.mp hx with rfl | hx
    · exact ok.txt
    · exact (hs x hx).2) hidne

end Nuts.C18
