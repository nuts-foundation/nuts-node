/-
  The executable lock check `okFrom` of NutsModel/C07/ConvLock.lean means what it says: at every
  `return` and at the end of the body, having run every mutex event before that point, the deferred unlocks release
  everything; and every mutex event is a statement of the method body (depth 0).
-/
import NutsModel.C07.ConvLock

namespace Nuts.Proto.ConvLock

theorem okFrom_cons {s : LSt} {d : Nat} {e : LEv} {rest : List (Nat × LEv)} (h : okFrom s ((d, e) :: rest) = true) :
    okFrom (stepL s e) rest = true ∧ (isMutexEv e = true → d = 0) ∧ (e = .ret → balanced s = true) := by
  cases e <;> simp only [okFrom, Bool.and_eq_true, beq_iff_eq, Bool.false_eq_true] at h
  case ret => exact ⟨h.2, nofun, fun _ => h.1⟩
  case goStmt => exact ⟨h, nofun, nofun⟩
  case lock | unlock | deferUnlock => exact ⟨h.2, fun _ => h.1.1, nofun⟩

theorem ok_every_exit : ∀ (tr : List (Nat × LEv)) (s : LSt), okFrom s tr = true →
    ∀ pre post, tr = pre ++ post → (post = [] ∨ ∃ d rest, post = (d, LEv.ret) :: rest) →
      balanced (stateAfter s pre) = true ∧ (∀ x ∈ pre, isMutexEv x.2 = true → x.1 = 0) := by
  intro tr s h pre post hp hpost
  subst hp
  induction pre generalizing s with
  | nil =>
    refine ⟨?_, nofun⟩
    rcases hpost with rfl | ⟨d, rest, rfl⟩
    · exact h
    · exact (okFrom_cons h).2.2 rfl
  | cons x pre ih =>
    obtain ⟨h1, h2, _⟩ := okFrom_cons (d := x.1) (e := x.2) h
    obtain ⟨hb, hm⟩ := ih _ h1
    exact ⟨hb, List.forall_mem_cons.mpr ⟨h2, hm⟩⟩

end Nuts.Proto.ConvLock
