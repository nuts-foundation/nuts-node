import NutsProofs.Lemmas.C13Sweep

namespace Nuts.C13
open Nuts

/-! ### keys: every key in a stored or published document was in one before, or is fresh -/

def UsedKey (w : World) (k : Nat) : Prop :=
  (∃ r ∈ w.dids, ∃ v ∈ r.vers, k ∈ v.c.vms) ∨ (∃ d, ∃ c ∈ w.pub d, k ∈ c.vms)

def ContentSub (dids' dids : List DidRow) : Prop :=
  ∀ r' ∈ dids', ∀ v' ∈ r'.vers, ∃ r ∈ dids, ∃ v ∈ r.vers, v'.c = v.c

namespace ContentSub

theorem refl (d : List DidRow) : ContentSub d d := fun r hr v hv => ⟨r, hr, v, hv, rfl⟩

theorem trans {a b c : List DidRow} (h1 : ContentSub a b) (h2 : ContentSub b c) : ContentSub a c := by
  intro r hr v hv
  rcases h1 r hr v hv with ⟨r1, hr1, v1, hv1, e1⟩
  rcases h2 r1 hr1 v1 hv1 with ⟨r2, hr2, v2, hv2, e2⟩
  exact ⟨r2, hr2, v2, hv2, e1.trans e2⟩

end ContentSub

theorem contentSub_deleteChanges (cfg : Cfg) (chs : List Change) (w : World) :
    ContentSub (deleteChanges cfg chs w).dids w.dids := by
  intro r' hr' v' hv'
  unfold deleteChanges at hr'
  simp only at hr'
  have hm : r' ∈ w.dids.map (dropVersions chs) := by
    split at hr'
    · exact (List.mem_filter.1 hr').1
    · exact hr'
  rcases List.mem_map.1 hm with ⟨r, hr, rfl⟩
  exact ⟨r, hr, v', (List.mem_filter.1 hv').1, rfl⟩

theorem contentSub_deleteLogTx (t : Nat) (w : World) : ContentSub (deleteLogTx t w).dids w.dids := by
  intro r' hr' v' hv'
  rw [deleteLogTx_dids] at hr'
  rcases List.mem_map.1 hr' with ⟨r, hr, rfl⟩
  rcases List.mem_map.1 hv' with ⟨v, hv, rfl⟩
  exact ⟨r, hr, v, hv, clearTx_c t v⟩

theorem contentSub_sweepApply (cfg : Cfg) (w : World) (group : List Change) (t : Nat) (b : Bool) :
    ContentSub (sweepApply cfg w group t b).dids w.dids := by
  unfold sweepApply
  cases b with
  | true => exact contentSub_deleteLogTx t w
  | false => exact ContentSub.trans (contentSub_deleteLogTx t _) (contentSub_deleteChanges cfg group w)

theorem sweepApply_fields (cfg : Cfg) (w : World) (group : List Change) (t : Nat) (b : Bool) :
    (sweepApply cfg w group t b).next = w.next ∧ (sweepApply cfg w group t b).pub = w.pub ∧
    (sweepApply cfg w group t b).now = w.now := by
  cases b <;> exact ⟨rfl, rfl, rfl⟩

theorem contentSub_sweepTxs (cfg : Cfg) (old : List Change) (ts : List Nat) (w w' : World) :
    sweepTxs cfg old ts w = .ok w' → ContentSub w'.dids w.dids ∧ w'.pub = w.pub ∧ w'.next = w.next := by
  fun_induction sweepTxs cfg old ts w with
  | case1 w => rintro ⟨⟩; exact ⟨ContentSub.refl _, rfl, rfl⟩
  | case2 t ts w group b hb ih =>
    intro h
    have ih := ih h
    have hf := sweepApply_fields cfg w group t b
    exact ⟨ContentSub.trans ih.1 (contentSub_sweepApply cfg w _ t b), by rw [ih.2.1, hf.2.1], by rw [ih.2.2, hf.1]⟩
  | _ => nofun
theorem sweep_sub (cfg : Cfg) (ord : List Nat → List Nat) (w : World) :
    ContentSub (sweep cfg ord w).1.dids w.dids ∧ (sweep cfg ord w).1.pub = w.pub ∧ (sweep cfg ord w).1.next = w.next := by
  unfold sweep
  simp only
  split
  · rename_i w' hw'
    exact contentSub_sweepTxs cfg _ _ w w' hw'
  · exact ⟨ContentSub.refl _, rfl, rfl⟩
  · exact ⟨ContentSub.refl _, rfl, rfl⟩

theorem used_of_sub {w w' : World} (hs : ContentSub w'.dids w.dids) (hp : w'.pub = w.pub) {k : Nat}
    (h : UsedKey w' k) : UsedKey w k := by
  rcases h with ⟨r', hr', v', hv', hk⟩ | ⟨d, c, hc, hk⟩
  · rcases hs r' hr' v' hv' with ⟨r, hr, v, hv, e⟩
    exact Or.inl ⟨r, hr, v, hv, e ▸ hk⟩
  · exact Or.inr ⟨d, c, hp ▸ hc, hk⟩

theorem rowOp_vms {o : Op} {fresh : Nat} {cur : Option Content} {c : Content} (h : rowOp o fresh cur = some c) :
    ∀ k ∈ c.vms, k = fresh ∨ ∃ c0, cur = some c0 ∧ k ∈ c0.vms := by
  intro k hk
  cases o <;> cases cur <;> simp only [rowOp, Option.some.injEq, reduceCtorEq] at h
  case addSvc.some => split at h <;> cases h; exact .inr ⟨_, rfl, hk⟩
  all_goals subst h
  case deactivate.none | deactivate.some => cases hk
  case updSvc.some | delSvc.some => exact .inr ⟨_, rfl, hk⟩
  case addKey.some => exact (List.mem_append.1 hk).symm.imp List.eq_of_mem_singleton fun h => ⟨_, rfl, h⟩

theorem tx1_keys {cfg : Cfg} {w w1 : World} {o : Op} {chs : List Change} (ht : tx1 cfg w o = .ok (w1, chs)) :
    (∀ r' ∈ w1.dids, ∀ v' ∈ r'.vers, ∀ k ∈ v'.c.vms, UsedKey w k ∨ w.next ≤ k) ∧
    (∀ ch ∈ chs, ∀ k ∈ ch.c.vms, UsedKey w k ∨ w.next ≤ k) ∧ w1.pub = w.pub ∧ w.next ≤ w1.next := by
  -- a key of a new content is the generated one or a key of the row's latest version
  have newC : ∀ r ∈ w.dids, ∀ c, newContent o w.next r = some c → ∀ k ∈ c.vms, UsedKey w k ∨ w.next ≤ k := by
    intro r hr c hc k hk
    unfold newContent at hc
    split at hc
    · rcases rowOp_vms hc k hk with rfl | ⟨c0, hc0, hk0⟩
      · exact Or.inr (Nat.le_add_right _ _)
      · cases hv : r.vers with
        | nil => rw [hv] at hc0; cases hc0
        | cons v vs =>
          rw [hv] at hc0
          cases hc0
          exact Or.inl (Or.inl ⟨r, hr, v, by rw [hv]; exact List.mem_cons_self .., hk0⟩)
    · cases hc
  rcases tx1_cases ht with ⟨hn, hp, _, ⟨s, rfl, hd, hchs, _⟩ | ⟨hd, hchs⟩⟩ <;> rw [hd, hchs] <;>
    refine ⟨?_, ?_, hp, by omega⟩
  · intro r' hr' v' hv' k hk
    rcases List.mem_append.1 hr' with ho | hn'
    · exact Or.inl (Or.inl ⟨r', ho, v', hv', hk⟩)
    · rcases List.mem_map.1 hn' with ⟨m, _, rfl⟩
      cases List.mem_singleton.1 hv'
      cases List.mem_singleton.1 hk
      exact Or.inr (Nat.le_add_right _ _)
  · intro ch hch k hk
    rcases List.mem_map.1 hch with ⟨m, _, rfl⟩
    cases List.mem_singleton.1 hk
    exact Or.inr (Nat.le_add_right _ _)
  · intro r' hr' v' hv' k hk
    rcases List.mem_map.1 hr' with ⟨r, hr, rfl⟩
    unfold pushRow at hv'
    cases hnc' : newContent o w.next r with
    | none => rw [hnc'] at hv'; exact Or.inl (Or.inl ⟨r, hr, v', hv', hk⟩)
    | some c =>
      rw [hnc'] at hv'
      rcases List.mem_cons.1 hv' with rfl | hin
      · exact newC r hr c hnc' k hk
      · exact Or.inl (Or.inl ⟨r, hr, v', hin, hk⟩)
  · intro ch hch k hk
    rcases List.mem_filterMap.1 hch with ⟨r, hr, hc⟩
    rcases Option.map_eq_some_iff.1 hc with ⟨c, hnc', rfl⟩
    exact newC r hr c hnc' k hk

theorem commitNuts_sub {pub pub' : Nat → List Content} {ch : Change} (h : commitNuts pub ch = .ok pub') :
    ∀ d c, c ∈ pub' d → c ∈ pub d ∨ c = ch.c ∨ c.vms = [] := by
  have pubd : ∀ (c0 : Content) d c, c ∈ publish pub ch.did c0 d → c ∈ pub d ∨ c = c0 := by
    intro c0 d c hc
    unfold publish at hc
    split at hc
    · rename_i he
      rcases List.mem_cons.1 hc with rfl | hin
      · exact Or.inr rfl
      · exact Or.inl (he ▸ hin)
    · exact Or.inl hc
  intro d c
  revert h
  fun_cases commitNuts pub ch with
  | case1 | case5 => rintro ⟨⟩ hc; exact (pubd _ d c hc).imp_right .inl
  | case3 => rintro ⟨⟩ hc; exact .inl hc
  | case8 => rintro ⟨⟩ hc; exact (pubd _ d c hc).imp_right fun e => .inr (by rw [e]; rfl)
  | _ => nofun

theorem commitLoop_pub_sub (f : Fault) (chs : List Change) (order : List Method) (i : Nat) (pub : Nat → List Content)
    (d : Nat) (c : Content) (hc : c ∈ (commitLoop f chs order i pub).1 d) :
    c ∈ pub d ∨ c.vms = [] ∨ ∃ ch ∈ chs, c = ch.c := by
  fun_induction commitLoop f chs order i pub with
  | case2 _ _ _ _ _ ih | case4 _ _ _ _ _ _ ih => exact ih hc
  | case6 _ _ _ ch _ _ pub' hcn hfind ih =>
    rcases ih hc with h1 | h1
    · rcases commitNuts_sub hcn d c h1 with h2 | h2 | h2
      · exact .inl h2
      · exact .inr (.inr ⟨ch, List.mem_of_find?_eq_some hfind, h2⟩)
      · exact .inr (.inl h2)
    · exact .inr h1
  | _ => exact .inl hc

theorem tx2_sub (cfg : Cfg) (w : World) (chs : List Change) (b : Bool) :
    ContentSub (tx2 cfg w chs b).dids w.dids ∧ (tx2 cfg w chs b).pub = w.pub ∧ (tx2 cfg w chs b).next = w.next := by
  cases b with
  | true => exact ⟨contentSub_deleteChanges cfg chs w, rfl, rfl⟩
  | false =>
    rcases tx2_false_cases cfg w chs with he | ⟨ch, _, he⟩ <;> rw [he]
    · exact ⟨ContentSub.refl _, rfl, rfl⟩
    · exact ⟨contentSub_deleteLogTx ch.tx w, rfl, rfl⟩

theorem used_stepOpCore (cfg : Cfg) (w : World) (o : Op) (order : List Method) (f : Fault) (k : Nat)
    (h : UsedKey (stepOpCore cfg w o order f).1 k) : UsedKey w k ∨ w.next ≤ k := by
  rcases stepOpCore_cases cfg w o order f with he | ⟨w1, chs, ht, hcase⟩
  · exact .inl (he ▸ h)
  · have hk := tx1_keys ht
    -- whatever branch: the rows are contents of w1's rows, the publications come from the commit loop
    have hsub : ContentSub (stepOpCore cfg w o order f).1.dids w1.dids ∧
        (stepOpCore cfg w o order f).1.pub = (commitLoop f chs order 0 w1.pub).1 := by
      rcases hcase with he | ⟨b, he⟩ <;> rw [he]
      · exact ⟨ContentSub.refl _, rfl⟩
      · exact ⟨(tx2_sub cfg _ chs b).1, (tx2_sub cfg _ chs b).2.1⟩
    rcases h with ⟨r', hr', v', hv', hkv⟩ | ⟨d, c, hc, hkc⟩
    · rcases hsub.1 r' hr' v' hv' with ⟨r, hr, v, hv, e⟩
      exact hk.1 r hr v hv k (e ▸ hkv)
    · rw [hsub.2] at hc
      rcases commitLoop_pub_sub f chs order 0 w1.pub d c hc with h1 | h1 | ⟨ch, hch, rfl⟩
      · exact .inl (.inr ⟨d, c, hk.2.2.1 ▸ h1, hkc⟩)
      · rw [h1] at hkc; cases hkc
      · exact hk.2.1 ch hch k hkc

theorem used_stepOp (cfg : Cfg) (w : World) (o : Op) (order : List Method) (f : Fault) (k : Nat)
    (h : UsedKey (stepOp cfg w o order f).1 k) : UsedKey w k ∨ w.next ≤ k := by
  rcases stepOp_unchanged_or_core cfg w o order f with he | he <;> rw [he] at h
  · exact .inl h
  · exact used_stepOpCore cfg w o order f k h

theorem stepOp_next_le (cfg : Cfg) (w : World) (o : Op) (order : List Method) (f : Fault) :
    w.next ≤ (stepOp cfg w o order f).1.next := by
  rcases stepOp_unchanged_or_core cfg w o order f with he | he <;> rw [he]
  · exact Nat.le_refl _
  · rcases stepOpCore_cases cfg w o order f with he | ⟨w1, chs, ht, he | ⟨b, he⟩⟩ <;> rw [he]
    · exact Nat.le_refl _
    · exact (tx1_keys ht).2.2.2
    · rw [(tx2_sub cfg _ chs b).2.2]; exact (tx1_keys ht).2.2.2

inductive Steps (cfg : Cfg) : World → World → Prop
  | refl (w : World) : Steps cfg w w
  | op {w w' : World} (o : Op) (order : List Method) (f : Fault) : Steps cfg w w' → Steps cfg w (stepOp cfg w' o order f).1
  | tick {w w' : World} (d : Nat) : Steps cfg w w' → Steps cfg w (tick d w')
  | sweep {w w' : World} (ord : List Nat → List Nat) : Steps cfg w w' → Steps cfg w (sweep cfg ord w').1
  | restamp {w w' : World} (f : DidRow → Ver → Nat) : Steps cfg w w' → Steps cfg w (restamp f w')

theorem used_restamp (f : DidRow → Ver → Nat) (w : World) (k : Nat) (h : UsedKey (restamp f w) k) : UsedKey w k := by
  rcases h with ⟨r', hr', v', hv', hk⟩ | h
  · rw [restamp_dids] at hr'
    rcases List.mem_map.1 hr' with ⟨r, hr, rfl⟩
    rcases List.mem_map.1 hv' with ⟨v, hv, rfl⟩
    exact Or.inl ⟨r, hr, v, hv, hk⟩
  · exact Or.inr h

theorem steps_keys {cfg : Cfg} {w w' : World} (h : Steps cfg w w') :
    w.next ≤ w'.next ∧ ∀ k, k < w.next → UsedKey w' k → UsedKey w k := by
  induction h with
  | refl => exact ⟨Nat.le_refl _, fun _ _ h => h⟩
  | op o order f _ ih =>
    refine ⟨Nat.le_trans ih.1 (stepOp_next_le cfg _ o order f), ?_⟩
    intro k hk hu
    rcases used_stepOp cfg _ o order f k hu with h1 | h1
    · exact ih.2 k hk h1
    · omega
  | tick d _ ih => exact ih
  | @sweep wm ord _ ih =>
    have hs := sweep_sub cfg ord wm
    exact ⟨by rw [hs.2.2]; exact ih.1, fun k hk hu => ih.2 k hk (used_of_sub hs.1 hs.2.1 hu)⟩
  | @restamp wm f _ ih => exact ⟨ih.1, fun k hk hu => ih.2 k hk (used_restamp f wm k hu)⟩

end Nuts.C13
