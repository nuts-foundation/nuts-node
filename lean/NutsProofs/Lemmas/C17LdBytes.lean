import NutsModel.C17.LdBytes
namespace Nuts.C17.LdBytes
open Nuts.C17.Framing

theorem joinDD_splitDD (l : Bytes) : joinDD (splitDD l).1 (splitDD l).2 = l := by
  induction l using splitDD.induct with
  | case1 r ih => simp only [splitDD, joinDD, List.nil_append, ih]
  | case2 c r hne ih =>
    rw [splitDD]
    · simp only
      generalize splitDD r = p at ih ⊢
      obtain ⟨h, t⟩ := p
      cases t <;> simp_all [joinDD]
    · exact hne
  | case3 => rfl

end Nuts.C17.LdBytes
