/-
  What a step of the adversarial network (`World.step`, NutsModel/C07/Net) does, whatever its kind (`step_cases`: at most one
  node becomes what `NodeStep` makes of it, and what that node sends is logged): every DAG is extended by valid-verdict
  transactions the step showed and stays valid, and the messages it appends to the log carry only transactions the acting
  node had. Hence `InvU`: no transaction from outside `U` enters a DAG or a message.
-/
import NutsProofs.Lemmas.C07

namespace Nuts.Proto.L

/-- transactions a step shows to a node -/
def stepTxs (w : World) : Step → List Tx
  | .deliver i _ => ((w.sent[i]?).map (fun pk => msgTxs pk.msg)).getD []
  | .inject _ _ m _ => msgTxs m
  | .create _ tx _ _ => [tx]
  | _ => []

def StepOrd : Step → Prop
  | .deliver _ env => OrderSub env
  | .inject _ _ _ env => OrderSub env
  | _ => True

/-- what a step makes of the node `n` it runs on: the node afterwards and what it hands to `Connection.Send` -/
inductive NodeStep (cfg : Cfg) (w : World) (s : Step) (n : Node) : Node → Out → Prop
  | handled (env : Env) (p : Peer) (m : Msg) : (∀ t ∈ msgTxs m, t ∈ stepTxs w s) → (StepOrd s → OrderSub env) →
      NodeStep cfg w s n (handle cfg env n p m).node
        ((handle cfg env n p m).out ++ retryOut env (handle cfg env n p m).node (handle cfg env n p m).retry)
  | ticked (peer : Nat) : NodeStep cfg w s n (gossipTick n peer).node (gossipTick n peer).out
  | created (env : Env) (tx : Tx) (pl : Option Payload) (again : List Tx) : tx ∈ stepTxs w s →
      NodeStep cfg w s n (addTx cfg env n tx pl).1 ((addTx cfg env n tx pl).2.1 ++ retryOut env (addTx cfg env n tx pl).1 again)
  | quiet (n' : Node) : n'.dag = n.dag → NodeStep cfg w s n n' []

def StepTo (cfg : Cfg) (w : World) (s : Step) (w' : World) : Prop :=
  w' = w ∨ ∃ i n n' out, w.nodes[i]? = some n ∧ NodeStep cfg w s n n' out ∧ w'.nodes = w.nodes.set i n' ∧
    w'.sent = w.sent ++ out.map (fun o => { src := i, dst := o.1, msg := o.2 })

theorem connChange_dag (n : Node) (key : Nat) (mode : ConnMode) : (connChange n key mode).dag = n.dag := by
  cases mode
  · rfl
  · rfl
  · rfl
  · simp only [connChange]
    split <;> rfl

theorem step_cases (cfg : Cfg) (w : World) (s : Step) : StepTo cfg w s (w.step cfg s) := by
  have recv : ∀ (src dst : Nat) (m : Msg) (env : Env), (∀ t ∈ msgTxs m, t ∈ stepTxs w s) → (StepOrd s → OrderSub env) →
      StepTo cfg w s (w.recv cfg src dst m env).1 := by
    intro src dst m env hm ho
    unfold World.recv
    split
    · exact .inl rfl
    · rename_i n hn
      split
      · exact .inl rfl
      · rename_i p _
        exact .inr ⟨dst, n, _, _, hn, .handled env p m hm ho, rfl, rfl⟩
  have quiet : ∀ (i : Nat) (n n' : Node), w.nodes[i]? = some n → n'.dag = n.dag →
      StepTo cfg w s { w with nodes := w.nodes.set i n' } :=
    fun i n n' hn hd => .inr ⟨i, n, n', [], hn, .quiet n' hd, rfl, (List.append_nil _).symm⟩
  unfold World.step
  fun_cases World.stepR cfg w s with
  | case2 i env pk hpk => exact recv pk.src pk.dst pk.msg env (fun t ht => by simp [stepTxs, hpk, ht]) id
  | case3 src dst m env => exact recv src dst m env (fun t ht => ht) id
  | case5 i peer n hn => exact .inr ⟨i, n, _, _, hn, .ticked peer, rfl, rfl⟩
  | case7 i _ n hn | case9 i n hn | case13 i n hn => exact quiet i n _ hn rfl
  | case11 i peer mode n hn => exact quiet i n _ hn (connChange_dag n peer mode)
  | case15 i tx pl env n hn n1 out res hadd r =>
    have h : NodeStep cfg w (.create i tx pl env) n _ _ := .created env tx pl r.retry (by simp [stepTxs])
    rw [hadd] at h
    exact .inr ⟨i, n, _, _, hn, h, rfl, rfl⟩
  | _ => exact .inl rfl

theorem NodeStep.spec {cfg : Cfg} {w : World} {s : Step} {n n' : Node} {out : Out} (h : NodeStep cfg w s n n' out) :
    (DagOK n.dag → DagOK n'.dag ∧ Grew (fun t => t.sigOK = true ∧ t ∈ stepTxs w s) n.dag n'.dag) ∧
    (StepOrd s → ∀ o ∈ out, ∀ t ∈ msgTxs o.2, t ∈ n.dag) := by
  have pq : ∀ {o : Nat × Msg} {t : Tx}, (∃ r, o.2 = .payloadQuery r) → t ∈ msgTxs o.2 → t ∈ n.dag :=
    fun ⟨r, hr⟩ ht => by rw [hr] at ht; cases ht
  cases h with
  | handled env p m hm henv =>
    refine ⟨fun hok => ?_, fun hord o ho t ht => (List.mem_append.mp ho).elim
      (fun h => handle_out_txs cfg env n p m (henv hord) o h t ht) fun h => pq (retryOut_out env _ _ o h) ht⟩
    obtain ⟨ok, g, _⟩ := handle_dag cfg env n p m hok
    exact ⟨ok, g.mono fun t ht => ⟨ht.1, hm t ht.2⟩⟩
  | ticked peer =>
    fun_cases gossipTick n peer with
    | case2 => exact ⟨fun hok => ⟨hok, .refl _ _⟩, fun _ o ho t ht => by cases List.mem_singleton.mp ho; cases ht⟩
    | _ => exact ⟨fun hok => ⟨hok, .refl _ _⟩, fun _ _ ho => nomatch ho⟩
  | created env tx pl again htx =>
    refine ⟨fun hok => ?_, fun _ o ho t ht => (List.mem_append.mp ho).elim
      (fun h => pq ⟨_, addTx_out cfg env n tx pl o h⟩ ht) fun h => pq (retryOut_out env _ _ o h) ht⟩
    rcases addTx_cases cfg env n tx pl with ⟨_, hc, hnode⟩ | ⟨_, hnode, _⟩ <;> rw [hnode]
    · exact ⟨dagOK_commit cfg n tx pl hok hc, [tx], rfl, fun _ ht => (List.mem_singleton.mp ht).symm ▸ ⟨(addCheck_added hc).1, htx⟩⟩
    · exact ⟨hok, .refl _ _⟩
  | quiet n' hd => exact ⟨fun hok => hd.symm ▸ ⟨hok, .refl _ _⟩, fun _ _ ho => nomatch ho⟩

theorem grew_set {P : Tx → Prop} {w w' : World} {i : Nat} {n n' : Node} (hw : w'.nodes = w.nodes.set i n')
    (hn : w.nodes[i]? = some n) (g : Grew P n.dag n'.dag) (j : Nat) : Grew P (World.dag w j) (World.dag w' j) := by
  unfold World.dag
  rw [hw]
  simp only [List.getElem?_set]
  by_cases hij : i = j
  · subst hij
    obtain ⟨hlt, heq⟩ := List.getElem?_eq_some_iff.mp hn
    simpa [hlt, heq] using g
  · simp only [hij, if_false]
    exact .refl _ _

theorem step_dag (cfg : Cfg) (w : World) (s : Step) (hok : ∀ n ∈ w.nodes, DagOK n.dag) :
    (∀ n ∈ (w.step cfg s).nodes, DagOK n.dag) ∧
    ∀ j, Grew (fun t => t.sigOK = true ∧ t ∈ stepTxs w s) (World.dag w j) (World.dag (w.step cfg s) j) := by
  rcases step_cases cfg w s with h | ⟨i, n, n', out, hn, hs, hw, _⟩
  · rw [h]; exact ⟨hok, fun _ => .refl _ _⟩
  · obtain ⟨ok, g⟩ := hs.spec.1 (hok n (List.mem_of_getElem? hn))
    exact ⟨fun m hm => (List.mem_or_eq_of_mem_set (hw ▸ hm)).elim (hok m) (· ▸ ok), grew_set hw hn g⟩

/-- `U` holds for everything in any DAG and for every valid-verdict transaction in any message sent so far -/
def InvU (U : Tx → Prop) (w : World) : Prop :=
  (∀ n ∈ w.nodes, ∀ t ∈ n.dag, U t) ∧ (∀ pk ∈ w.sent, ∀ t ∈ msgTxs pk.msg, t.sigOK = true → U t)

/-- what the adversary is limited by: any transaction with a GOOD signature verdict that it shows (injects or has
    a node create) is in `U` (it cannot forge signatures); the sort oracle returns elements of its input -/
def StepIn (U : Tx → Prop) : Step → Prop
  | .inject _ _ m env => (∀ t ∈ msgTxs m, t.sigOK = true → U t) ∧ OrderSub env
  | .create _ tx _ env => (tx.sigOK = true → U tx) ∧ OrderSub env
  | .deliver _ env => OrderSub env
  | _ => True

theorem dag_of_mem (w : World) (n : Node) (h : n ∈ w.nodes) : ∃ j, World.dag w j = n.dag := by
  obtain ⟨j, hj⟩ := List.getElem?_of_mem h
  exact ⟨j, by simp [World.dag, hj]⟩

theorem mem_dag_U {U : Tx → Prop} (w : World) (h : ∀ n ∈ w.nodes, ∀ t ∈ n.dag, U t) (j : Nat) : ∀ t ∈ World.dag w j, U t := by
  intro t ht
  unfold World.dag at ht
  cases hn : w.nodes[j]? with
  | none => simp [hn] at ht
  | some n => simp [hn] at ht; exact h n (List.mem_of_getElem? hn) t ht

theorem stepTxs_U {U : Tx → Prop} (w : World) (s : Step) (hi : InvU U w) (hs : StepIn U s) :
    ∀ t ∈ stepTxs w s, t.sigOK = true → U t := by
  fun_cases stepTxs w s with
  | case1 i _ =>
    intro t ht hsig
    cases hp : w.sent[i]? with
    | none => simp [hp] at ht
    | some pk => simp [hp] at ht; exact hi.2 pk (List.mem_of_getElem? hp) t ht hsig
  | case2 => exact hs.1
  | case3 => exact fun t ht hsig => by cases List.mem_singleton.mp ht; exact hs.1 hsig
  | case4 => exact nofun

theorem step_sent (cfg : Cfg) (w : World) (s : Step) (hord : StepOrd s) :
    ∃ news, (w.step cfg s).sent = w.sent ++ news ∧ ∀ pk ∈ news, ∀ t ∈ msgTxs pk.msg, ∃ n ∈ w.nodes, t ∈ n.dag := by
  rcases step_cases cfg w s with h | ⟨i, n, n', out, hn, hs, _, hw⟩
  · exact ⟨[], by rw [h, List.append_nil], fun _ h => nomatch h⟩
  · refine ⟨_, hw, fun pk hpk t ht => ?_⟩
    obtain ⟨o, ho, rfl⟩ := List.mem_map.mp hpk
    exact ⟨n, List.mem_of_getElem? hn, hs.spec.2 hord o ho t ht⟩

theorem step_invU (cfg : Cfg) (U : Tx → Prop) (w : World) (s : Step) (hok : ∀ n ∈ w.nodes, DagOK n.dag)
    (hi : InvU U w) (hs : StepIn U s) : InvU U (w.step cfg s) := by
  obtain ⟨_, hd⟩ := step_dag cfg w s hok
  constructor
  · intro n hn t ht
    obtain ⟨j, hj⟩ := dag_of_mem _ n hn
    obtain ⟨added, hadd, hmem⟩ := hd j
    rw [← hj, hadd] at ht
    rcases List.mem_append.mp ht with h | h
    · exact stepTxs_U w s hi hs t (hmem t h).2 (hmem t h).1
    · exact mem_dag_U w hi.1 j t h
  · have hord : StepOrd s := by
      fun_cases StepOrd s with
      | case1 => exact hs
      | case2 => exact hs.2
      | case3 => trivial
    obtain ⟨news, hsent, hnews⟩ := step_sent cfg w s hord
    intro pk hpk t ht hsig
    rw [hsent] at hpk
    rcases List.mem_append.mp hpk with h | h
    · exact hi.2 pk h t ht hsig
    · obtain ⟨n, hn, htn⟩ := hnews pk h t ht
      exact hi.1 n hn t htn

end Nuts.Proto.L
