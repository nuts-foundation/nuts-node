/-
  C09 — the resolver (vdr/didnuts/resolver.go, network/dag/keys.go): the loop over controller references, the depth-limited
  recursion with its two outcomes (a witness `ActiveWithin` of the chain it followed; `too-deep` on a closed set of documents
  with foreign controllers only), the ambassador's key resolver against the verifier's, and what a store lookup without
  `AllowDeactivated` answers.
-/
import NutsModel.C09.Ambassador
import NutsProofs.Lemmas.C10Resolve

namespace Nuts.C09
open Nuts Nuts.C10

theorem resolveRefs_mem (res : String → Res Doc) :
    ∀ (refs : List String) (l : List Doc), resolveRefs res refs = .ok l →
      ∀ d ∈ l, ∃ r ∈ refs, res r = .ok d := by
  intro refs l h d hd
  fun_induction resolveRefs res refs generalizing l with
  | case1 => cases h; cases hd
  | case2 r rs node hr l' hl' ih =>
    cases h
    rcases List.mem_cons.mp hd with rfl | hd
    · exact ⟨r, List.mem_cons_self, hr⟩
    · exact (ih l' hl' hd).imp fun _ h => ⟨List.mem_cons_of_mem _ h.1, h.2⟩
  | case5 r rs e he hs ih => exact (ih l h hd).imp fun _ h => ⟨List.mem_cons_of_mem _ h.1, h.2⟩
  | _ => cases h

theorem resolveRefs_all_skipped (res : String → Res Doc) :
    ∀ refs : List String, (∀ r ∈ refs, ∃ e, res r = .err e ∧ skippable e = true) → resolveRefs res refs = .ok [] := by
  intro refs
  induction refs with
  | nil => intro _; rfl
  | cons r rs ih =>
    intro h
    obtain ⟨e, he, hs⟩ := h r List.mem_cons_self
    unfold resolveRefs
    rw [he]
    simp only [hs, if_true]
    exact ih (fun r' hr' => h r' (List.mem_cons_of_mem _ hr'))

theorem resolveRefs_first_err (res : String → Res Doc) (r : String) (rs : List String) (e : String)
    (h : res r = .err e) (hs : skippable e = false) : resolveRefs res (r :: rs) = .err e := by
  unfold resolveRefs
  rw [h]
  simp [hs]

theorem skippable_tooDeep : skippable eTooDeep = false := by decide

theorem resolveRefs_err_not_skippable (res : String → Res Doc) :
    ∀ (refs : List String) (e : String), resolveRefs res refs = .err e → skippable e = false := by
  intro refs e h
  fun_induction resolveRefs res refs with
  | case3 r rs node hr e' he' ih => cases h; exact ih he'
  | case5 r rs e' he' hs ih => exact ih h
  | case6 r rs e' he' hs => cases h; simpa using hs
  | _ => cases h

theorem selfLeaves_mem (doc x : Doc) (h : x ∈ selfLeaves doc) :
    x = doc ∧ (doc.f .capInv).isEmpty = false ∧ (controllersOf doc = [] ∨ doc.id ∈ controllersOf doc) := by
  unfold selfLeaves at h
  simp only at h
  split at h
  · rename_i hemp
    split at h
    · rename_i hci
      simp only [List.mem_singleton] at h
      refine ⟨h, by simpa using hci, Or.inl (by simpa using hemp)⟩
    · cases h
  · rw [List.mem_flatMap] at h
    obtain ⟨cid, hc, hx⟩ := h
    split at hx
    · rename_i hci
      simp only [List.mem_singleton] at hx
      have := List.mem_filter.mp hc
      refine ⟨hx, by simpa using hci, Or.inr ?_⟩
      have heq : cid = doc.id := by simpa using this.2
      rw [← heq]; exact this.1
    · cases hx

theorem ctrlsWith_mem (res : String → Res Doc) (doc : Doc) (l : List Doc) (h : ctrlsWith res doc = .ok l) :
    ∀ c ∈ l, isDeactivated c = false ∧
      ((c = doc ∧ (doc.f .capInv).isEmpty = false ∧ (controllersOf doc = [] ∨ doc.id ∈ controllersOf doc)) ∨
       (∃ r ∈ controllersOf doc, r ≠ doc.id ∧ res r = .ok c)) := by
  intro c hc
  unfold ctrlsWith at h
  split at h
  · rename_i l' hl'
    cases h
    have hm := List.mem_filter.mp hc
    refine ⟨by simpa using hm.2, ?_⟩
    rcases List.mem_append.mp hm.1 with hs | hr
    · exact Or.inl (selfLeaves_mem doc c hs)
    · obtain ⟨r, hr', hres⟩ := resolveRefs_mem res _ l' hl' c hr
      unfold foreignRefs at hr'
      have := List.mem_filter.mp hr'
      exact Or.inr ⟨r, this.1, by simpa using this.2, hres⟩
  · cases h
  · cases h

theorem ctrlsWith_none (res : String → Res Doc) (doc : Doc) (hself : selfLeaves doc = [])
    (h : ∀ r ∈ foreignRefs doc, ∃ e, res r = .err e ∧ skippable e = true) : ctrlsWith res doc = .ok [] := by
  unfold ctrlsWith
  rw [resolveRefs_all_skipped res _ h, hself]
  rfl

/-- EVERY identifier resolves, to a document whose controllers are all foreign: no finite store gives such a resolver;
    a cycle or an endless chain inside a partial resolver is `ForeignClosed` -/
def OnlyForeign (R : String → Res Doc) : Prop :=
  ∀ x, ∃ d, R x = .ok d ∧ controllersOf d ≠ [] ∧ ∀ c ∈ controllersOf d, c ≠ d.id

/-- a set of DIDs closed under "controller of" in which every document has only foreign controllers: a cycle, an endless
    chain. DIDs outside the set may resolve to anything or not at all, which is what makes this the form that applies to a
    resolver over a store (`OnlyForeign` asks every string to resolve). -/
def ForeignClosed (R : String → Res Doc) (P : String → Prop) : Prop :=
  ∀ x, P x → ∃ d, R x = .ok d ∧ controllersOf d ≠ [] ∧ ∀ c ∈ controllersOf d, c ≠ d.id ∧ P c

theorem resolveN_foreignClosed (R : String → Res Doc) (P : String → Prop) (hR : ForeignClosed R P) :
    ∀ (n : Nat) (id : String), P id → resolveN R false n id = .err eTooDeep := by
  intro n
  induction n with
  | zero => intro id _; rfl
  | succ n ih =>
    intro id hid
    obtain ⟨d, hd, hne, hfor⟩ := hR id hid
    unfold resolveN
    rw [hd]
    have hemp : (controllersOf d).isEmpty = false := by
      cases hc : controllersOf d with
      | nil => exact absurd hc hne
      | cons _ _ => rfl
    simp only [hemp, Bool.not_false, Bool.and_self, if_true]
    have hrefs : foreignRefs d = controllersOf d := by
      unfold foreignRefs
      apply List.filter_eq_self.mpr
      intro c hc
      have := (hfor c hc).1
      simpa using this
    unfold ctrlsWith
    rw [hrefs]
    cases hc : controllersOf d with
    | nil => exact absurd hc hne
    | cons r rs =>
      rw [resolveRefs_first_err _ r rs eTooDeep (ih r (hfor r (hc ▸ List.mem_cons_self)).2) skippable_tooDeep]

/-- witness of an active document: the chain of controllers that `resolve` followed -/
inductive ActiveWithin (R : String → Res Doc) : Nat → String → Prop where
  | root (n : Nat) (id : String) (d : Doc) : R id = .ok d → controllersOf d = [] → ActiveWithin R (n + 1) id
  | self (n : Nat) (id : String) (d : Doc) : R id = .ok d → d.id ∈ controllersOf d → (d.f .capInv).isEmpty = false →
      ActiveWithin R (n + 1) id
  | step (n : Nat) (id : String) (d : Doc) (r : String) : R id = .ok d → r ∈ controllersOf d → r ≠ d.id →
      ActiveWithin R n r → ActiveWithin R (n + 1) id

theorem resolveN_ok (R : String → Res Doc) :
    ∀ (n : Nat) (id : String) (doc : Doc), resolveN R false n id = .ok doc →
      R id = .ok doc ∧ ActiveWithin R n id := by
  intro n id doc h
  fun_induction resolveN R false n id generalizing doc with
  | case3 n id d hd _ cs hcs hne ih =>
    cases h
    refine ⟨hd, ?_⟩
    cases cs with
    | nil => simp at hne
    | cons c rest =>
      obtain ⟨_, ⟨_, hci, hnil | hmem⟩ | ⟨r, hr, hrne, hres⟩⟩ := ctrlsWith_mem _ d (c :: rest) hcs c List.mem_cons_self
      · exact .root n id d hd hnil
      · exact .self n id d hd hmem hci
      · exact .step n id d r hd hr hrne (ih r c hres).2
  | case6 n id d hd hcond =>
    cases h
    exact ⟨hd, .root n id d hd (by simpa using hcond)⟩
  | _ => cases h

theorem activeWithin_pos (R : String → Res Doc) (n : Nat) (id : String) (h : ActiveWithin R n id) : 0 < n := by
  cases h <;> omega

def IsCtrlChain (R : String → Res Doc) : List String → Prop
  | [] => True
  | [_] => True
  | a :: b :: rest => (∃ d, R a = .ok d ∧ b ∈ controllersOf d ∧ b ≠ d.id) ∧ IsCtrlChain R (b :: rest)

theorem activeWithin_chain (R : String → Res Doc) :
    ∀ (n : Nat) (id : String), ActiveWithin R n id →
      ∃ chain : List String, chain.length ≤ n ∧ chain.head? = some id ∧
        (∀ x ∈ chain, ∃ d, R x = .ok d) ∧ IsCtrlChain R chain := by
  intro n id h
  induction h with
  | root n id d hd _ | self n id d hd _ _ =>
    exact ⟨[id], by simp, rfl, by intro x hx; simp at hx; subst hx; exact ⟨d, hd⟩, trivial⟩
  | step n id d r hd hr hne _ ih =>
    obtain ⟨chain, hlen, hhead, hall, hch⟩ := ih
    refine ⟨id :: chain, by simp; omega, rfl, ?_, ?_⟩
    · intro x hx
      rcases List.mem_cons.mp hx with rfl | hx
      · exact ⟨d, hd⟩
      · exact hall x hx
    · cases chain with
      | nil => simp at hhead
      | cons c cs =>
        simp only [List.head?_cons, Option.some.injEq] at hhead
        subst hhead
        exact ⟨⟨d, hd, hr, hne⟩, hch⟩

theorem resolveN_notFound (R : String → Res Doc) :
    ∀ (n : Nat) (id : String), resolveN R false n id = .err eNotFound → R id = .err eNotFound := by
  intro n id h
  fun_induction resolveN R false n id with
  | case4 n id d hd _ e he =>
    cases h
    unfold ctrlsWith at he
    split at he
    · cases he
    · rename_i e' he'
      cases he
      simpa [skippable, eNotFound] using resolveRefs_err_not_skippable _ _ _ he'
    · cases he
  | case7 n id e he => exact h ▸ he
  | case1 | case2 => simp [eTooDeep, eNoActiveController, eNotFound] at h
  | _ => cases h

theorem resolverResolve_of_not_allow (n : Nat) (s : Store) (rm : Option ResolveMeta) (ha : allowOf rm = false) (id : String) :
    resolverResolve n s rm id = resolveN (storeDoc s rm) false n id := by
  simp [resolverResolve, ha]

theorem resolvePublicKey1_store (n : Nat) (s : Store) (kid : Kid) (rm : Option ResolveMeta) (ha : allowOf rm = false)
    (r : Res Key) (hr : (∃ k, r = .ok k) ∨ r = .err eNotFound)
    (h : resolvePublicKey1 (resolverResolve n s) kid rm = r) : resolvePublicKey1 (storeDoc s) kid rm = r := by
  unfold resolvePublicKey1 at h ⊢
  rw [resolverResolve_of_not_allow n s rm ha] at h
  split
  · rwa [if_pos ‹_›] at h
  · rw [if_neg ‹_›] at h
    cases hres : resolveN (storeDoc s rm) false n kid.holder with
    | ok d => rwa [hres, ← (resolveN_ok _ n _ d hres).1] at h
    | err e =>
      rw [hres] at h
      subst h
      rcases hr with ⟨k, hk⟩ | hk <;> cases hk
      rw [resolveN_notFound _ n _ hres]
    | panic x =>
      rw [hres] at h
      subst h
      rcases hr with ⟨k, hk⟩ | hk <;> cases hk

/-- a key the ambassador's key resolver (through `didnuts.Resolver`) finds, the verifier's (store only) finds too -/
theorem resolvePublicKey_ok_store (n : Nat) (s : Store) (kid : Kid) :
    ∀ (prevs : List Nat) (k : Key), resolvePublicKey n s kid prevs = .ok k → resolvePublicKeyStore s kid prevs = .ok k := by
  intro prevs
  induction prevs with
  | nil => intro k h; simp [resolvePublicKey, resolvePublicKeyWith] at h
  | cons p ps ih =>
    intro k h
    unfold resolvePublicKey resolvePublicKeyWith at h
    unfold resolvePublicKeyStore resolvePublicKeyWith
    split at h
    · rename_i k' hk'
      cases h
      rw [resolvePublicKey1_store n s kid _ rfl _ (Or.inl ⟨k, rfl⟩) hk']
    · rename_i e he
      split at h
      · rename_i heq
        subst heq
        rw [resolvePublicKey1_store n s kid _ rfl _ (Or.inr rfl) he]
        simp only [if_true]
        exact ih k h
      · cases h
    · cases h

theorem matchesMeta_not_deactivated (m : Meta) (rm : Option ResolveMeta) (ha : allowOf rm = false)
    (h : matchesMeta m rm = true) : m.deactivated = false := by
  cases rm with
  | none => exact matchesMeta_none m h
  | some r => exact Bool.eq_false_iff.mpr fun hd => Bool.false_ne_true (ha.symm.trans ((matchesMeta_some m r h).1 hd))

theorem storeDoc_ok (s : Store) (rm : Option ResolveMeta) (ha : allowOf rm = false) (id : String) (d : Doc)
    (h : storeDoc s rm id = .ok d) :
    ∃ m, resolve s id rm = .ok (d, m) ∧ m.deactivated = false ∧ (d, m) ∈ (s.get id).chain := by
  unfold storeDoc at h
  split at h
  · rename_i d' m hr
    cases h
    obtain ⟨_, _, _, hm, _⟩ := resolveChain_sound rm _ _ hr
    exact ⟨m, hr, matchesMeta_not_deactivated m rm ha hm, resolve_ok_mem_chain s id rm _ hr⟩
  · cases h
  · cases h

end Nuts.C09
