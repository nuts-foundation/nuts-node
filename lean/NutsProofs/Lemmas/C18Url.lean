/-
  C18 — the net/url model (NutsModel/C18/Url.lean): `parseHost` and `parseAuthority` never return a host longer than their input,
  and `url.Parse` on "https://" + X read both ways: what a successful parse says about X, and what a clean host and path parse to.
-/
import NutsModel.C18.DidWeb
import NutsProofs.Lemmas.Base
import NutsProofs.Lemmas.C18Bytes

namespace Nuts.C18

theorem unescapeAll_length_le : ∀ s : Bytes, (unescapeAll s).length ≤ s.length := by
  intro s
  fun_induction unescapeAll s with
  | case1 => simp
  | case2 a b rest ih => simp; omega
  | case3 c rest hne ih => simp; omega

theorem unescapeHost_length {s r : Bytes} (h : unescapeHost s = .ok r) : r.length ≤ s.length := by
  unfold unescapeHost at h; split at h
  · cases h; exact unescapeAll_length_le s
  · cases h

theorem unescapeZone_length {s r : Bytes} (h : unescapeZone s = .ok r) : r.length ≤ s.length := by
  unfold unescapeZone at h; split at h
  · cases h; exact unescapeAll_length_le s
  · cases h

theorem indexPct25_lt : ∀ (s : Bytes) (z : Nat), indexPct25 s = some z → z < s.length := by
  intro s
  fun_induction indexPct25 s with
  | case1 => nofun
  | case2 rest => exact fun z h => Option.some.inj h ▸ Nat.zero_lt_succ _
  | case3 c rest hne ih =>
    intro z h
    cases hr : indexPct25 rest with
    | none => simp [hr] at h
    | some z' => simp [hr] at h; have := ih z' hr; simp; omega

theorem parseHost_length {s r : Bytes} (h : parseHost s = .ok r) : r.length ≤ s.length := by
  revert h
  fun_cases parseHost s with
  | case3 _ colonPort hal _ i zone hz h1 h2 h3 e3 e2 e1 =>
    intro h
    cases h
    have hcp := afterLast_length _ _ _ hal
    have hzl := indexPct25_lt _ _ hz
    have l1 := unescapeHost_length e1
    have l2 := unescapeZone_length e2
    have l3 := unescapeHost_length e3
    simp only [List.length_append, List.length_take, List.length_drop] at *
    omega
  | case5 | case7 | case8 => exact unescapeHost_length
  | _ => nofun

theorem parseAuthority_host_length {a host : Bytes} {hasUser : Bool} (h : parseAuthority a = .ok (hasUser, host)) :
    (hasUser = false ∧ host.length ≤ a.length) ∨ (hasUser = true ∧ host.length < a.length) := by
  unfold parseAuthority at h
  split at h
  · obtain ⟨r, hp, h⟩ := Res.bind_eq_ok.mp h
    cases h
    exact .inl ⟨rfl, parseHost_length hp⟩
  · rename_i hostPart hal
    obtain ⟨r, hp, h⟩ := Res.bind_eq_ok.mp h
    dsimp only at h
    split at h
    · cases h
    · split at h
      · cases h
        have := parseHost_length hp
        have := afterLast_length _ _ _ hal
        exact .inr ⟨rfl, by omega⟩
      · cases h

theorem cut_https (c : Nat) (hc : c ∉ sHttpsSS) (X : Bytes) :
    cut c (sHttpsSS ++ X) = (sHttpsSS ++ (cut c X).1, (cut c X).2) := by
  simp only [sHttpsSS, List.mem_cons, List.mem_nil_iff, or_false, not_or] at hc
  obtain ⟨h1, h2, h3, h4, h5, h6, h7, h8⟩ := hc
  simp [sHttpsSS, cut, Ne.symm h1, Ne.symm h2, Ne.symm h4, Ne.symm h5, Ne.symm h6, Ne.symm h7]

theorem getScheme_https (Y : Bytes) : getScheme (sHttpsSS ++ Y) = .ok (sHttps, cSlash :: cSlash :: Y) := by
  simp [getScheme, getSchemeAux, sHttpsSS, sHttps, isUpper, isLower, isDigit, cColon, cSlash]

theorem lower_https : lower sHttps = sHttps := by decide

theorem parseNoFrag_https (Y : Bytes) (h : hasCTL (sHttpsSS ++ Y) = false) :
    parseNoFrag (sHttpsSS ++ Y) =
      parseHier sHttps (splitQuery (cSlash :: cSlash :: Y)).1
        { scheme := sHttps, forceQuery := (splitQuery (cSlash :: cSlash :: Y)).2.1,
          rawQuery := (splitQuery (cSlash :: cSlash :: Y)).2.2 } := by
  unfold parseNoFrag
  rw [h, if_neg Bool.false_ne_true, if_neg (by simp [sHttpsSS]), getScheme_https]
  simp only [Res.bind, lower_https]

theorem parseHier_https (Z : Bytes) (u : URL) :
    parseHier sHttps (cSlash :: cSlash :: Z) u =
      (parseAuthority (cut cSlash Z).1).bind fun r =>
        setPath { u with hasUser := r.1, host := r.2 } (match (cut cSlash Z).2 with | some t => cSlash :: t | none => []) := by
  have e1 : hasPrefix [cSlash] (cSlash :: cSlash :: Z) = true := by simp [hasPrefix]
  have e2 : hasPrefix [cSlash, cSlash] (cSlash :: cSlash :: Z) = true := by simp [hasPrefix]
  have e3 : sHttps ≠ [] := by decide
  simp only [parseHier, e1, e2, e3, Bool.not_true, Bool.false_and, Bool.false_eq_true, if_false, ne_eq, not_false_eq_true,
    decide_true, Bool.true_or, Bool.and_self, if_true, List.drop_succ_cons, List.drop_zero]
  rfl

theorem splitQuery_slashes (Y : Bytes) : ∃ Z, (splitQuery (cSlash :: cSlash :: Y)).1 = cSlash :: cSlash :: Z ∧ Z <+: Y := by
  unfold splitQuery
  split
  · rename_i hc
    cases Y with
    | nil => simp [hasSuffix, cSlash, cQ] at hc
    | cons y ys =>
      refine ⟨(y :: ys).take ys.length, ?_, List.take_prefix _ _⟩
      simp [List.take]
  · exact ⟨(cut cQ Y).1, by simp [cut, cSlash, cQ], cut_fst_prefix _ _⟩

theorem setPath_fields {u v : URL} {p : Bytes} (h : setPath u p = .ok v) :
    v.scheme = u.scheme ∧ v.opaq = u.opaq ∧ v.hasUser = u.hasUser ∧ v.host = u.host := by
  obtain ⟨r, _, h⟩ := Res.bind_eq_ok.mp h
  cases h
  exact ⟨rfl, rfl, rfl, rfl⟩

theorem parseURL_https (X : Bytes) (u : URL) (h : parseURL (sHttpsSS ++ X) = .ok u) :
    u.scheme = sHttps ∧ u.opaq = [] ∧ ∃ A, A <+: X ∧ cSlash ∉ A ∧ parseAuthority A = .ok (u.hasUser, u.host) := by
  unfold parseURL at h
  rw [cut_https cHash (by decide)] at h
  obtain ⟨v, hp, h⟩ := Res.bind_eq_ok.mp h
  have hv : v.scheme = sHttps ∧ v.opaq = [] ∧ ∃ A, A <+: X ∧ cSlash ∉ A ∧ parseAuthority A = .ok (v.hasUser, v.host) := by
    cases hc : hasCTL (sHttpsSS ++ (cut cHash X).1) with
    | true => rw [parseNoFrag, hc] at hp; cases hp
    | false =>
      obtain ⟨Z, hZ, hZY⟩ := splitQuery_slashes (cut cHash X).1
      rw [parseNoFrag_https _ hc, hZ, parseHier_https] at hp
      obtain ⟨r, ha, hp⟩ := Res.bind_eq_ok.mp hp
      have := setPath_fields hp
      exact ⟨this.1, this.2.1, _, (cut_fst_prefix _ _).trans (hZY.trans (cut_fst_prefix _ _)), not_mem_cut_fst _ _,
        by rw [ha, this.2.2.1, this.2.2.2]⟩
  split at h
  · cases h; exact hv
  · cases h; exact hv
  · obtain ⟨fr, _, h⟩ := Res.bind_eq_ok.mp h
    cases h; exact hv

theorem parseURL_clean (H P : Bytes) (hH : parseAuthority H = .ok (false, H))
    (hHc : ∀ c ∈ H, 33 ≤ c ∧ c ≤ 126 ∧ c ≠ 35 ∧ c ≠ 63 ∧ c ≠ 47)
    (hPc : ∀ c ∈ P, 33 ≤ c ∧ c ≤ 126 ∧ c ≠ 35 ∧ c ≠ 63 ∧ c ≠ 37)
    (hPs : P = [] ∨ ∃ t, P = cSlash :: t) :
    parseURL (sHttpsSS ++ (H ++ P)) =
      .ok { scheme := sHttps, host := H, path := P, rawPath := if escapePath P = P then [] else P } := by
  have hX : ∀ c ∈ H ++ P, 33 ≤ c ∧ c ≤ 126 ∧ c ≠ 35 ∧ c ≠ 63 := by
    intro c hc; rcases List.mem_append.mp hc with h | h
    · have := hHc c h; omega
    · have := hPc c h; omega
  have h35 : cHash ∉ H ++ P := fun hm => (hX _ hm).2.2.1 rfl
  have h63 : cQ ∉ cSlash :: cSlash :: (H ++ P) := by
    simp only [List.mem_cons, not_or]; exact ⟨by decide, by decide, fun hm => (hX _ hm).2.2.2 rfl⟩
  have h47 : cSlash ∉ H := fun hm => (hHc _ hm).2.2.2.2 rfl
  have hctl : hasCTL (sHttpsSS ++ (H ++ P)) = false := by
    refine List.any_eq_false.mpr fun c hc => ?_
    rcases List.mem_append.mp hc with h | h
    · simp only [sHttpsSS, List.mem_cons, List.mem_nil_iff, or_false] at h
      rcases h with rfl | rfl | rfl | rfl | rfl | rfl | rfl | rfl <;> decide
    · have := hX c h
      simp only [Bool.or_eq_true, decide_eq_true_eq]; omega
  have hsq : splitQuery (cSlash :: cSlash :: (H ++ P)) = (cSlash :: cSlash :: (H ++ P), false, []) := by
    unfold splitQuery
    rw [Bool.eq_false_iff.mpr fun hs => h63 (hasSuffix_mem hs), cut_notin _ _ h63]; rfl
  have hnp : ∀ c ∈ P, c ≠ 37 := fun c hc => (hPc c hc).2.2.2.2
  have hsp : setPath { scheme := sHttps, hasUser := false, host := H, forceQuery := false, rawQuery := [] } P =
      .ok { scheme := sHttps, host := H, path := P, rawPath := if escapePath P = P then [] else P } := by
    unfold setPath pathUnescape
    rw [validEscapes_noPct P hnp, unescapeAll_noPct P hnp]
    rfl
  unfold parseURL
  rw [cut_https cHash (by decide), cut_notin _ _ h35]
  dsimp only
  rw [parseNoFrag_https _ hctl, hsq, parseHier_https]
  rcases hPs with rfl | ⟨t, rfl⟩
  · rw [List.append_nil, cut_notin _ _ h47, hH]
    exact congrArg (Res.bind · _) hsp
  · rw [cut_append _ _ _ h47, hH]
    exact congrArg (Res.bind · _) hsp

end Nuts.C18
