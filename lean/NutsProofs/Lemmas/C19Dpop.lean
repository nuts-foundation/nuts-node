/-
  crypto/dpop (NutsModel/C19/Dpop.lean): where Parse, HTU, HTM, strip and Match can panic, and what an accepted claim is.
-/
import NutsModel.C19.Dpop
import NutsProofs.Lemmas.Base

namespace Nuts.C19.Lemmas

variable {P : String → Prop}

theorem claimCheck_panicsIn (c : Dpop.Cfg) (n : String) (v : Option J) : Res.PanicsIn (Dpop.claimCheck c n v) P := by
  fun_cases Dpop.claimCheck c n v with
  | case3 | case5 => exact .ok
  | _ => exact .err

theorem claimCheck_ok_str {c : Dpop.Cfg} (hc : c.parseTypeChecks = true) {n : String} {v : Option J}
    (h : Dpop.claimCheck c n v = .ok ()) : ∃ s, v = some (.str s) ∧ s ≠ "" := by
  revert h
  fun_cases Dpop.claimCheck c n v with
  | case3 _ s he => exact fun _ => ⟨s, rfl, by simpa [J.isEmptyString] using he⟩
  | case5 _ _ hn => exact absurd hc hn
  | _ => nofun

theorem claimString_panicsIn {chk : Bool} {site : String} (v : Option J) (h : chk = false → P site) :
    Res.PanicsIn (Dpop.claimString chk site v) P := by
  unfold Dpop.claimString
  split
  · exact .ok
  · exact .ok
  · exact .flag .ok h

theorem dpop_parseHeader_panicsIn (i : Dpop.ParseIn) : Res.PanicsIn (Dpop.parseHeader i) P := by
  fun_cases Dpop.parseHeader i with
  | case3 _ h1 h0 => simp [beq_iff_eq.mp h0] at h1   -- `Signatures()[0]` comes after the test `nSigs != 1`
  | case10 => exact .ok
  | _ => exact .err

theorem dpop_parseClaims_panicsIn (c : Dpop.Cfg) (i : Dpop.ParseIn) : Res.PanicsIn (Dpop.parseClaims c i) P := by
  fun_cases Dpop.parseClaims c i with
  | case3 _ _ hp | case5 _ _ _ hp => exact .pass (claimCheck_panicsIn c _ _) hp
  | case8 => exact .ok
  | _ => exact .err

theorem dpop_parse_panicsIn (c : Dpop.Cfg) (i : Dpop.ParseIn) : Res.PanicsIn (Dpop.parse c i) P := by
  unfold Dpop.parse
  split
  next => exact .err
  next p hp => exact .pass (dpop_parseHeader_panicsIn i) hp
  next => exact dpop_parseClaims_panicsIn c i

theorem dpop_strip_panicsIn {c : Dpop.Cfg} (up : Dpop.UrlParse) (raw : String)
    (h : c.stripChecksErr = false → P "strip:url.Scheme(nil *url.URL)") : Res.PanicsIn (Dpop.strip c up raw) P := by
  unfold Dpop.strip
  split
  · exact .ok
  · exact .flag .err h

theorem matchDpop_panicsIn {c : Dpop.Cfg} (up : Dpop.UrlParse) (t : Dpop.Token) (tp : Bool) (m u : String)
    (hm : c.htmChecked = false → P "HTM:v.(string)") (hu : c.htuChecked = false → P "HTU:v.(string)")
    (hs : c.stripChecksErr = false → P "strip:url.Scheme(nil *url.URL)") : Res.PanicsIn (Dpop.matchDpop c up t tp m u) P := by
  have htm : Res.PanicsIn (Dpop.htm c t) P := claimString_panicsIn _ hm
  have htu : Res.PanicsIn (Dpop.htu c t) P := claimString_panicsIn _ hu
  fun_cases Dpop.matchDpop c up t tp m u with
  | case2 _ _ hp | case4 _ _ _ _ _ hp => exact .pass htm hp
  | case6 _ _ _ _ _ hp => exact .pass htu hp
  | case8 _ _ _ _ _ _ _ hp | case10 _ _ _ _ _ _ _ _ _ hp => exact .pass (dpop_strip_panicsIn up _ hs) hp
  | case13 => exact .ok
  | _ => exact .err

theorem dpop_validate_panicsIn {c : Dpop.Cfg} (up : Dpop.UrlParse) (i : Dpop.ParseIn) (tp : Bool) (m u : String)
    (hm : c.htmChecked = false → P "HTM:v.(string)") (hu : c.htuChecked = false → P "HTU:v.(string)")
    (hs : c.stripChecksErr = false → P "strip:url.Scheme(nil *url.URL)") : Res.PanicsIn (Dpop.validate c up i tp m u) P := by
  unfold Dpop.validate
  split
  next => exact .err
  next p hp => exact .pass (dpop_parse_panicsIn c i) hp
  next => exact matchDpop_panicsIn up _ tp m u hm hu hs

end Nuts.C19.Lemmas
