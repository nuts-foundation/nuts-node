/-
  C08 — contiguous trees: `Shape ls h a m n` says node `n` has height `h`, starts at page `a` and holds exactly the
  leaves of the first `m` pages (what a valid DAG produces, and what `Load` needs). One walk (`Descent.shape`) gives the
  exact effect of Insert and of `Replace` (with `rebuild`) on the list of leaves; the clock returned by `ZeroTo`.
  Core Lean only.
-/
import NutsProofs.Lemmas.C08Tree

namespace Nuts.C08

variable {R G : Type}

def keyOf (ls p : Nat) : Nat := ls * p + ls / 2

theorem keyOf_lt {ls i j : Nat} (hls : 0 < ls) (h : i < j) : keyOf ls i < keyOf ls j := by
  unfold keyOf
  have : ls * (i + 1) ≤ ls * j := Nat.mul_le_mul_left ls h
  rw [Nat.mul_add] at this
  omega

theorem keyOf_inj {ls i j : Nat} (hls : 0 < ls) (h : keyOf ls i = keyOf ls j) : i = j := by
  rcases Nat.lt_trichotomy i j with c | c | c
  · have := keyOf_lt hls c; omega
  · exact c
  · have := keyOf_lt hls c; omega

theorem keyOf_page {ls p : Nat} (hls : 0 < ls) : keyOf ls p / ls = p := key_page hls

/-- the leaves of pages `a … a+m-1` holding `val p` -/
def pl (ls a m : Nat) (val : Nat → G) : List (Nat × G) :=
  (List.range m).map (fun i => (keyOf ls (a + i), val (a + i)))

theorem pl_zero (ls a : Nat) (val : Nat → G) : pl ls a 0 val = [] := rfl

theorem pl_succ (ls a m : Nat) (val : Nat → G) :
    pl ls a (m + 1) val = pl ls a m val ++ [(keyOf ls (a + m), val (a + m))] := by
  simp [pl, List.range_succ]

theorem pl_one (ls a : Nat) (val : Nat → G) : pl ls a 1 val = [(keyOf ls a, val a)] := by
  simp [pl_succ, pl_zero]

theorem pl_add (ls a m k : Nat) (val : Nat → G) :
    pl ls a (m + k) val = pl ls a m val ++ pl ls (a + m) k val := by
  induction k with
  | zero => simp [pl_zero]
  | succ k ih => rw [← Nat.add_assoc, pl_succ, ih, pl_succ, List.append_assoc, Nat.add_assoc]

theorem pl_cons (ls a m : Nat) (val : Nat → G) :
    pl ls a (m + 1) val = (keyOf ls a, val a) :: pl ls (a + 1) m val := by
  have := pl_add ls a 1 m val
  rw [Nat.add_comm 1 m] at this
  rw [this, pl_one]; rfl

@[simp] theorem pl_length (ls a m : Nat) (val : Nat → G) : (pl ls a m val).length = m := by simp [pl]

theorem pl_congr (ls a m : Nat) (val val' : Nat → G) (h : ∀ i, i < m → val (a + i) = val' (a + i)) :
    pl ls a m val = pl ls a m val' := by
  unfold pl
  apply List.map_congr_left
  intro i hi
  rw [h i (List.mem_range.mp hi)]

theorem pl_split (ls a m k : Nat) (val : Nat → G) (hk : k ≤ m) :
    pl ls a m val = pl ls a k val ++ pl ls (a + k) (m - k) val := by
  rw [← pl_add]; congr 1; omega

def upd (val : Nat → G) (P : Nat) (x : G) : Nat → G := fun p => if p = P then x else val p

theorem pl_upd_off (ls a m : Nat) (val : Nat → G) (P : Nat) (x : G) (h : P < a ∨ a + m ≤ P) :
    pl ls a m (upd val P x) = pl ls a m val := by
  apply pl_congr
  intro i hi
  exact if_neg (by omega)

theorem pl_upd_left (ls a m k : Nat) (val : Nat → G) (P : Nat) (x : G) (hk : k ≤ m) (h : P < a + k) :
    pl ls a m (upd val P x) = pl ls a k (upd val P x) ++ pl ls (a + k) (m - k) val := by
  rw [pl_split ls a m k _ hk, pl_upd_off ls (a + k) _ val P x (.inl h)]

theorem pl_upd_right (ls a m k : Nat) (val : Nat → G) (P : Nat) (x : G) (hk : k ≤ m) (h : a + k ≤ P) :
    pl ls a m (upd val P x) = pl ls a k val ++ pl ls (a + k) (m - k) (upd val P x) := by
  rw [pl_split ls a m k _ hk, pl_upd_off ls a k val P x (.inr h)]

def Shape (ls : Nat) : Nat → Nat → Nat → Node G → Prop
  | 0, a, m, .leaf s l _ => m = 1 ∧ s = keyOf ls a ∧ l = ls * (a + 1)
  | h + 1, a, m, .branch s l _ left right =>
    s = ls * (a + 2 ^ h) ∧ l = ls * (a + 2 ^ (h + 1)) ∧
    ((right = .nil ∧ m ≤ 2 ^ h ∧ Shape ls h a m left) ∨
     (2 ^ h < m ∧ Shape ls h a (2 ^ h) left ∧ Shape ls h (a + 2 ^ h) (m - 2 ^ h) right))
  | _, _, _, _ => False

theorem Shape.leaf (ls a : Nat) (d : G) : Shape ls 0 a 1 (.leaf (keyOf ls a) (ls * (a + 1)) d) := by simp [Shape]

theorem Shape.half {ls h a m : Nat} {d : G} {left : Node G} (hm : m ≤ 2 ^ h) (sl : Shape ls h a m left) :
    Shape ls (h + 1) a m (.branch (ls * (a + 2 ^ h)) (ls * (a + 2 ^ (h + 1))) d left .nil) := by
  simp only [Shape]; exact ⟨trivial, trivial, .inl ⟨trivial, hm, sl⟩⟩

theorem Shape.full {ls h a m : Nat} {d : G} {left right : Node G} (hm : 2 ^ h < m) (sl : Shape ls h a (2 ^ h) left)
    (sr : Shape ls h (a + 2 ^ h) (m - 2 ^ h) right) :
    Shape ls (h + 1) a m (.branch (ls * (a + 2 ^ h)) (ls * (a + 2 ^ (h + 1))) d left right) := by
  simp only [Shape]; exact ⟨trivial, trivial, .inr ⟨hm, sl, sr⟩⟩

theorem Shape.zero_inv {ls a m : Nat} {n : Node G} (s : Shape ls 0 a m n) :
    m = 1 ∧ ∃ d, n = .leaf (keyOf ls a) (ls * (a + 1)) d := by
  cases n <;> simp [Shape] at s
  obtain ⟨rfl, rfl, rfl⟩ := s
  exact ⟨rfl, _, rfl⟩

theorem Shape.succ_inv {ls h a m : Nat} {n : Node G} (s : Shape ls (h + 1) a m n) :
    ∃ d left right, n = .branch (ls * (a + 2 ^ h)) (ls * (a + 2 ^ (h + 1))) d left right ∧
      ((right = .nil ∧ m ≤ 2 ^ h ∧ Shape ls h a m left) ∨
       (2 ^ h < m ∧ Shape ls h a (2 ^ h) left ∧ Shape ls h (a + 2 ^ h) (m - 2 ^ h) right)) := by
  cases n <;> simp [Shape] at s
  obtain ⟨rfl, rfl, s⟩ := s
  exact ⟨_, _, _, rfl, s⟩

theorem Shape.induction {ls : Nat} {motive : Nat → Nat → Nat → Node G → Prop}
    (leaf : ∀ a d, motive 0 a 1 (.leaf (keyOf ls a) (ls * (a + 1)) d))
    (half : ∀ h a m d left, m ≤ 2 ^ h → Shape ls h a m left → motive h a m left →
      motive (h + 1) a m (.branch (ls * (a + 2 ^ h)) (ls * (a + 2 ^ (h + 1))) d left .nil))
    (full : ∀ h a m d left right, 2 ^ h < m → Shape ls h a (2 ^ h) left → Shape ls h (a + 2 ^ h) (m - 2 ^ h) right →
      motive h a (2 ^ h) left → motive h (a + 2 ^ h) (m - 2 ^ h) right →
      motive (h + 1) a m (.branch (ls * (a + 2 ^ h)) (ls * (a + 2 ^ (h + 1))) d left right)) :
    ∀ (h a m : Nat) (n : Node G), Shape ls h a m n → motive h a m n := by
  intro h
  induction h with
  | zero =>
    intro a m n s
    obtain ⟨rfl, d, rfl⟩ := s.zero_inv
    exact leaf a d
  | succ h ih =>
    intro a m n s
    obtain ⟨d, left, right, rfl, ⟨rfl, hm, sl⟩ | ⟨hm, sl, sr⟩⟩ := s.succ_inv
    · exact half h a m _ _ hm sl (ih _ _ _ sl)
    · exact full h a m _ _ _ hm sl sr (ih _ _ _ sl) (ih _ _ _ sr)

theorem Shape.geo {ls : Nat} : ∀ {h a m : Nat} {n : Node G}, Shape ls h a m n → Geo ls h a n := by
  refine @Shape.induction _ _ _ ?_ ?_ ?_
  · intro a d; simp [Geo, keyOf]
  · intro h a m d left _ _ ih; simp only [Geo]; exact ⟨trivial, trivial, ih, .inl trivial⟩
  · intro h a m d left right _ _ _ ihl ihr; simp only [Geo]; exact ⟨trivial, trivial, ihl, .inr ihr⟩

theorem Shape.bounds {ls : Nat} : ∀ (h a m : Nat) (n : Node G), Shape ls h a m n → 1 ≤ m ∧ m ≤ 2 ^ h := by
  refine Shape.induction ?_ ?_ ?_
  · intro a d; simp
  · intro h a m d left hm _ ih; have := Nat.two_pow_succ h; omega
  · intro h a m d left right hm _ _ _ ihr; have := Nat.two_pow_succ h; omega

theorem Shape.leaves_length {ls : Nat} : ∀ {h a m : Nat} {n : Node G}, Shape ls h a m n → n.leaves.length = m := by
  refine @Shape.induction _ _ _ ?_ ?_ ?_
  · intro a d; rfl
  · intro h a m d left _ _ ih; simp [Node.leaves, ih]
  · intro h a m d left right hm _ _ ihl ihr; simp [Node.leaves, ihl, ihr]; omega

/-- a node with `Geo` whose leaves are those of the pages `a … a+m-1` is contiguous: the leaves decide which right
    children exist -/
theorem Shape.of_leaves {ls : Nat} (hls : 0 < ls) : ∀ {h a : Nat} {n : Node G}, Geo ls h a n → ∀ {m : Nat} {val : Nat → G},
    n.leaves = pl ls a m val → Shape ls h a m n := by
  refine @Geo.induction _ _ _ ?_ ?_ ?_
  · intro a d m val hl
    obtain rfl : 1 = m := by simpa [Node.leaves] using congrArg List.length hl
    exact Shape.leaf ls a d
  · intro h a d left _ ih m val hl
    have sl := ih (by simpa [Node.leaves] using hl)
    exact Shape.half (Shape.bounds _ _ _ _ sl).2 sl
  · intro h a d left right _ gr ihl ihr m val hl
    simp only [Node.leaves] at hl
    have hk : left.leaves.length ≤ m := by
      have := congrArg List.length hl
      simp only [List.length_append, pl_length] at this; omega
    rw [pl_split ls a m _ val hk] at hl
    obtain ⟨hL, hR⟩ := List.append_inj hl (by simp)
    have sl := ihl hL
    -- the first leaf of the right child lies on a page of the right half, so the left half is full
    have hm : left.leaves.length < m := by
      have := List.length_pos_iff.mpr gr.leaves_ne_nil
      rw [hR, pl_length] at this; omega
    have hmem : (keyOf ls (a + left.leaves.length), val (a + left.leaves.length)) ∈ right.leaves := by
      rw [hR]; exact List.mem_map.mpr ⟨0, by simp; omega, rfl⟩
    have hp := (gr.leaf_pages hls _ hmem).1
    rw [keyOf_page hls] at hp
    obtain hfull : left.leaves.length = 2 ^ h := by have := (Shape.bounds _ _ _ _ sl).2; omega
    rw [hfull] at sl hR hm
    exact Shape.full hm sl (ihr hR)

theorem Shape.rightmost {ls : Nat} : ∀ {h a m : Nat} {n : Node G}, Shape ls h a m n → n.rightmost = ls * (a + m) - 1 := by
  refine @Shape.induction _ _ _ ?_ ?_ ?_
  · intro a d; rfl
  · intro h a m d left _ sl ih
    rw [← ih]
    cases left with
    | nil => exact absurd rfl sl.geo.ne_nil
    | _ => rfl
  · intro h a m d left right hm _ sr _ ih
    rw [show a + m = a + 2 ^ h + (m - 2 ^ h) by omega, ← ih]
    cases right with
    | nil => exact absurd rfl sr.geo.ne_nil
    | _ => rfl

/-- A loop that walks from a node down to the leaf holding `clock`, applying `fb` to the data of the branches and `g`
    to that of the leaf; where the right child it has to enter is missing it puts `newBranch` there first. It returns
    `e key` for the leaf it reached, combined by `c` with the keys of the leaves created on the way. These four equations
    are all of the loop that matters: `updateF` (Insert) and `replaceF` (Replace) are instances. -/
structure Descent {α : Type} (o : Ops R G) (ls clock : Nat) (g fb : G → G) (e : Nat → α) (c : List Nat → α → α)
    (F : Nat → Node G → Node G × α) : Prop where
  leaf : ∀ fu s l d, clock < l → F (fu + 1) (.leaf s l d) = (.leaf s l (g d), e s)
  left : ∀ fu s l d left right, clock < s →
    F (fu + 1) (.branch s l d left right) = (.branch s l (fb d) (F fu left).1 right, (F fu left).2)
  right : ∀ fu s l d left right, ¬ clock < s → right ≠ .nil →
    F (fu + 1) (.branch s l d left right) = (.branch s l (fb d) left (F fu right).1, (F fu right).2)
  create : ∀ fu s l d left, ¬ clock < s →
    F (fu + 1) (.branch s l d left .nil) =
      (.branch s l (fb d) left (F fu (newBranch o ls s l).1).1, c (newBranch o ls s l).2 (F fu (newBranch o ls s l).1).2)

/-- such a loop on a contiguous node. At a page the node holds: the shape stays, that page's leaf gets `g` applied, and the
    loop returns what it returns for that leaf's key. At the page after the last one: the node grows by that page, holding
    `g` of zero, and the key of the created leaf is reported as well. -/
theorem Descent.shape {α : Type} {o : Ops R G} {ls clock : Nat} {g fb : G → G} {e : Nat → α} {c : List Nat → α → α}
    {F : Nat → Node G → Node G × α} (D : Descent o ls clock g fb e c F) (hls : 0 < ls) :
    ∀ (h a m : Nat) (n : Node G), Shape ls h a m n → ∀ (fuel : Nat) (val : Nat → G), n.leaves = pl ls a m val →
      h < fuel → a ≤ clock / ls → clock / ls < a + 2 ^ h →
      (clock / ls < a + m →
        Shape ls h a m (F fuel n).1 ∧
        (F fuel n).1.leaves = pl ls a m (upd val (clock / ls) (g (val (clock / ls)))) ∧
        (F fuel n).2 = e (keyOf ls (clock / ls))) ∧
      (clock / ls = a + m →
        Shape ls h a (m + 1) (F fuel n).1 ∧
        (F fuel n).1.leaves = n.leaves ++ [(keyOf ls (clock / ls), g o.zero)] ∧
        (F fuel n).2 = c [keyOf ls (clock / ls)] (e (keyOf ls (clock / ls)))) := by
  intro h
  induction h with
  | zero =>
    intro a m n s fuel val hl hfuel hlo hlt
    obtain ⟨rfl, d, rfl⟩ := s.zero_inv
    obtain ⟨fu, rfl⟩ : ∃ fu, fuel = fu + 1 := ⟨fuel - 1, by omega⟩
    have hP : clock / ls = a := by omega
    simp only [Node.leaves, pl_one] at hl
    have hd := (Prod.mk.inj (List.cons.inj hl).1).2
    rw [D.leaf _ _ _ _ ((page_of_clock_lt hls).mpr (by omega)), hP]
    exact ⟨fun _ => ⟨Shape.leaf ls a _, by simp [Node.leaves, pl_one, upd, hd], rfl⟩, fun e => by omega⟩
  | succ h ih =>
    intro a m n s fuel val hl hfuel hlo hlt
    obtain ⟨fu, rfl⟩ : ∃ fu, fuel = fu + 1 := ⟨fuel - 1, by omega⟩
    have hp := Nat.two_pow_succ h
    obtain ⟨d, left, right, rfl, ⟨rfl, hm, sl⟩ | ⟨hm, sl, sr⟩⟩ := s.succ_inv
    · simp only [Node.leaves, List.append_nil] at hl ⊢
      by_cases hc : clock / ls < a + 2 ^ h
      · obtain ⟨i1, i2⟩ := ih a m left sl fu val hl (by omega) hlo hc
        rw [D.left _ _ _ _ _ _ ((page_of_clock_lt hls).mpr hc)]
        refine ⟨fun hh => ?_, fun hh => ?_⟩
        · obtain ⟨r1, r2, r3⟩ := i1 hh
          exact ⟨Shape.half hm r1, by simpa [Node.leaves] using r2, r3⟩
        · obtain ⟨r1, r2, r3⟩ := i2 hh
          exact ⟨Shape.half (by omega) r1, by simpa [Node.leaves] using r2, r3⟩
      · -- the page is the first of the right half, which `newBranch` creates
        refine ⟨fun hh => by omega, fun hh => ?_⟩
        obtain rfl : m = 2 ^ h := by omega
        have hP : clock / ls = a + 2 ^ h := hh
        obtain ⟨gn, ln, dn⟩ := newBranch_geo o hls h (a + 2 ^ h)
        rw [Nat.add_assoc, ← hp] at gn ln dn
        have sn := Shape.of_leaves hls gn (m := 1) (val := fun _ => o.zero) (by rw [ln, pl_one]; rfl)
        obtain ⟨r1, r2, r3⟩ := (ih (a + 2 ^ h) 1 _ sn fu (fun _ => o.zero) (by rw [ln, pl_one]; rfl) (by omega) (by omega)
          (by omega)).1 (by omega)
        rw [D.create _ _ _ _ _ (fun hlt => hc ((page_of_clock_lt hls).mp hlt)), dn, r3, hP]
        refine ⟨Shape.full (by omega) sl (by rw [Nat.add_sub_cancel_left]; exact r1), ?_, rfl⟩
        simp only [Node.leaves, r2, hP, pl_one, upd, if_true]
    · simp only [Node.leaves] at hl ⊢
      rw [pl_split ls a m (2 ^ h) val (by omega)] at hl
      have hinj := List.append_inj hl (by simp [sl.leaves_length])
      by_cases hc : clock / ls < a + 2 ^ h
      · obtain ⟨r1, r2, r3⟩ := (ih a _ left sl fu val hinj.1 (by omega) hlo hc).1 hc
        rw [D.left _ _ _ _ _ _ ((page_of_clock_lt hls).mpr hc)]
        refine ⟨fun hh => ⟨Shape.full hm r1 sr, ?_, r3⟩, fun hh => by omega⟩
        simp only [Node.leaves]
        rw [r2, hinj.2, pl_upd_left ls a m (2 ^ h) val _ _ (by omega) hc]
      · obtain ⟨i1, i2⟩ := ih (a + 2 ^ h) _ right sr fu val hinj.2 (by omega) (by omega) (by omega)
        rw [D.right _ _ _ _ _ _ (fun hlt => hc ((page_of_clock_lt hls).mp hlt)) sr.geo.ne_nil]
        refine ⟨fun hh => ?_, fun hh => ?_⟩
        · obtain ⟨r1, r2, r3⟩ := i1 (by omega)
          refine ⟨Shape.full hm sl r1, ?_, r3⟩
          simp only [Node.leaves]
          rw [r2, hinj.1, pl_upd_right ls a m (2 ^ h) val _ _ (by omega) (by omega)]
        · obtain ⟨r1, r2, r3⟩ := i2 (by omega)
          refine ⟨Shape.full (by omega) sl (by rw [show m + 1 - 2 ^ h = m - 2 ^ h + 1 by omega]; exact r1), ?_, r3⟩
          simp only [Node.leaves, r2, List.append_assoc]

/-- Insert applies `f` all along the path and reports the leaf's key dirty -/
theorem updateF_descent (o : Ops R G) (ls : Nat) (f : G → G) (clock : Nat) :
    Descent o ls clock f f (fun s => [s]) (· ++ ·) (updateF o ls f clock) :=
  ⟨fun _ _ _ _ _ => rfl, fun _ _ _ _ _ _ hc => by simp only [updateF, hc, if_true],
   fun _ _ _ _ _ _ hc hne => updateF_branch_right hc hne,
   fun _ _ _ _ _ hc => by simp only [updateF, hc, if_false]⟩

theorem zeroTo_clock {o : Ops R G} {ls : Nat} (hls : 0 < ls) (c : Nat) :
    ∀ {h a m : Nat} {n : Node G}, Shape ls h a m n → ∀ acc : G, a ≤ c / ls →
      (n.zeroTo o c acc).2 = ls * (min (c / ls) (a + m - 1) + 1) - 1 := by
  refine @Shape.induction _ _ _ ?_ ?_ ?_
  · intro a d acc hlo
    rw [Nat.add_sub_cancel, Nat.min_eq_right hlo]
    rfl
  · intro h a m d left hm sl ih acc hlo
    by_cases hc : c < ls * (a + 2 ^ h)
    · rw [zeroTo_left_nil _ hc sl.geo.ne_nil, ih _ hlo]
    · have hP := (page_of_clock hls).mp (Nat.le_of_not_lt hc)
      have hb := Shape.bounds _ _ _ _ sl
      rw [zeroTo_right_nil _ hc, (Shape.half hm sl).rightmost, Nat.min_eq_right (by omega),
        Nat.sub_add_cancel (by omega)]
  · intro h a m d left right hm sl sr ihl ihr acc hlo
    by_cases hc : c < ls * (a + 2 ^ h)
    · have hP := (page_of_clock_lt hls).mp hc
      rw [zeroTo_left _ hc sl.geo.ne_nil sr.geo.ne_nil, ihl _ hlo,
        Nat.min_eq_left (by omega), Nat.min_eq_left (by omega)]
    · rw [zeroTo_right _ hc sr.geo.ne_nil, ihr _ ((page_of_clock hls).mp (Nat.le_of_not_lt hc)),
        Nat.add_assoc, Nat.add_sub_cancel' (Nat.le_of_lt hm)]

/-- tree `t` (leaf size `ls`) holds exactly the pages `0 … m-1` with data `val p` -/
structure Holds (o : Ops R G) (ls : Nat) (t : Tree G) (m : Nat) (val : Nat → G) : Prop where
  ls_pos : 0 < ls
  ls_eq : t.leafSize = ls
  shape : ∃ h, Shape ls h 0 m t.root ∧ t.treeSize = ls * 2 ^ h
  wf : Wf o t.root
  leaves : t.root.leaves = pl ls 0 m val

theorem Holds.inv {o : Ops R G} {ls : Nat} {t : Tree G} {m : Nat} {val : Nat → G} (H : Holds o ls t m val) :
    TInv o t := by
  obtain ⟨h, sh, hs⟩ := H.shape
  exact ⟨by rw [H.ls_eq]; exact H.ls_pos, ⟨h, by rw [H.ls_eq]; exact sh.geo, by rw [H.ls_eq]; exact hs⟩, H.wf⟩

theorem Holds.m_pos {o : Ops R G} {ls : Nat} {t : Tree G} {m : Nat} {val : Nat → G} (H : Holds o ls t m val) : 1 ≤ m := by
  obtain ⟨h, sh, _⟩ := H.shape
  exact (Shape.bounds _ _ _ _ sh).1

theorem Holds.new (o : Ops R G) {ls : Nat} (hls : 0 < ls) : Holds o ls (Tree.new o ls) 1 (fun _ => o.zero) :=
  ⟨hls, rfl, ⟨0, by simp [Tree.new, Shape, keyOf], by simp [Tree.new]⟩, by simp [Tree.new, Wf],
   by simp [Tree.new, Node.leaves, pl_one, keyOf]⟩

theorem growF_shape {o : Ops R G} {ls : Nat} (clock : Nat) : ∀ (fuel : Nat) (t : Tree G) (m : Nat),
    (∃ h, Shape ls h 0 m t.root ∧ t.treeSize = ls * 2 ^ h) →
    ∃ h, Shape ls h 0 m (Tree.growF o clock fuel t).root ∧ (Tree.growF o clock fuel t).treeSize = ls * 2 ^ h := by
  intro fuel
  induction fuel with
  | zero => intro t m h; exact h
  | succ f ih =>
    intro t m ⟨h, sh, hs⟩
    unfold Tree.growF
    split
    · have e : 2 * t.treeSize = ls * 2 ^ (h + 1) := by rw [hs, Nat.pow_succ]; simp [Nat.mul_comm, Nat.mul_left_comm]
      refine ih _ m ⟨h + 1, ?_, e⟩
      have := Shape.half (d := t.root.data o) (Shape.bounds _ _ _ _ sh).2 sh
      rwa [Nat.zero_add, Nat.zero_add, ← hs, ← e] at this
    · exact ⟨h, sh, hs⟩

/-- **Insert into a contiguous tree** at an existing page or the next one (what a valid DAG does): the tree stays
    contiguous, exactly that page's leaf changes (`f` applied to its data, or to zero for a new page), and the keys
    newly reported dirty are that leaf's key only. -/
theorem Holds.updatePath {o : Ops R G} (L : Lawful o) {ls : Nat} {t : Tree G} {m : Nat} {val : Nat → G}
    (H : Holds o ls t m val) (clock : Nat) (f : G → G) (δ : G) (hf : ∀ d, f d = o.add d δ)
    (hP : clock / ls ≤ m) (hz : ∀ p, m ≤ p → val p = o.zero) :
    Holds o ls (Tree.updatePath o t clock f) (max m (clock / ls + 1)) (upd val (clock / ls) (f (val (clock / ls)))) ∧
    ∃ dk, (Tree.updatePath o t clock f).dirty = t.dirty ++ dk ∧ dk ≠ [] ∧ (∀ k ∈ dk, k = keyOf ls (clock / ls)) ∧
      (Tree.updatePath o t clock f).orphaned = t.orphaned := by
  have hls := H.ls_pos
  have i := H.inv
  obtain rfl := H.ls_eq
  obtain ⟨h, g, geo, wf, hs, glt, gleaves, e⟩ := updatePath_eq L t i clock f
  have hleaves := gleaves.trans H.leaves
  have sh := Shape.of_leaves hls geo hleaves
  have hlt : clock / t.leafSize < 0 + 2 ^ h := by
    rw [Nat.zero_add]; apply (page_of_clock_lt hls).mp; rw [← hs]; exact glt
  have hfuel : h < g.treeSize := by rw [hs]; exact lt_mul_two_pow hls h
  have w := (updateF_spec L hls f δ hf clock h 0 g.treeSize g.root geo wf hfuel (by simp)
    (by simpa using (page_of_clock_lt hls).mpr hlt)).2.1
  have D := (updateF_descent o t.leafSize f clock).shape hls h 0 m g.root sh g.treeSize val hleaves hfuel (Nat.zero_le _) hlt
  rw [Nat.zero_add] at D
  rw [e]
  rcases Nat.lt_or_eq_of_le hP with hlt' | heq
  · obtain ⟨u1, u2, u3⟩ := D.1 hlt'
    rw [Nat.max_eq_left hlt']
    exact ⟨⟨hls, rfl, ⟨h, u1, hs⟩, w, u2⟩, _, rfl, by simp [u3], by simp [u3], rfl⟩
  · -- a new page: `val` is zero there
    obtain ⟨u1, u2, u3⟩ := D.2 heq
    subst heq
    rw [Nat.max_eq_right (Nat.le_succ _)]
    refine ⟨⟨hls, rfl, ⟨h, u1, hs⟩, w, ?_⟩, _, rfl, by simp [u3], by simp [u3], rfl⟩
    rw [pl_succ, pl_upd_off _ 0 _ val _ _ (.inr (by omega))]
    simp [u2, hleaves, upd, hz]

theorem rebuild_branch_ne {o : Ops R G} {s l : Nat} {d : G} {left right : Node G} (hr : right ≠ .nil) :
    (Node.branch s l d left right).rebuild o =
      .branch s l (o.add ((left.rebuild o).data o) ((right.rebuild o).data o)) (left.rebuild o) (right.rebuild o) := by
  cases right with
  | nil => exact absurd rfl hr
  | leaf _ _ _ => rfl
  | branch _ _ _ _ _ => rfl

theorem rebuild_leaves (o : Ops R G) : ∀ n : Node G, (n.rebuild o).leaves = n.leaves := by
  intro n
  induction n with
  | nil => rfl
  | leaf _ _ _ => rfl
  | branch s l d left right ihl ihr =>
    by_cases hr : right = .nil
    · subst hr; simp [Node.rebuild, Node.leaves, ihl]
    · rw [rebuild_branch_ne hr]; simp [Node.leaves, ihl, ihr]

theorem rebuild_total (o : Ops R G) : ∀ n : Node G, (n.rebuild o).total o = n.total o := by
  intro n
  induction n with
  | nil => rfl
  | leaf _ _ _ => rfl
  | branch s l d left right ihl ihr =>
    by_cases hr : right = .nil
    · subst hr; simp [Node.rebuild, Node.total, ihl]
    · rw [rebuild_branch_ne hr]; simp [Node.total, ihl, ihr]

theorem rebuild_wf {o : Ops R G} (L : Lawful o) : ∀ n : Node G, Wf o (n.rebuild o) := by
  intro n
  induction n with
  | nil => trivial
  | leaf _ _ _ => trivial
  | branch s l d left right ihl ihr =>
    by_cases hr : right = .nil
    · subst hr
      simp only [Node.rebuild, Wf]
      exact ⟨by rw [ihl.data_eq]; simp [Node.total, L.add_zero], ihl, trivial⟩
    · rw [rebuild_branch_ne hr]
      exact ⟨by rw [ihl.data_eq, ihr.data_eq], ihl, ihr⟩

theorem rebuild_shape {o : Ops R G} {ls : Nat} : ∀ {h a m : Nat} {n : Node G}, Shape ls h a m n →
    Shape ls h a m (n.rebuild o) := by
  refine @Shape.induction _ _ _ ?_ ?_ ?_
  · intro a d; exact Shape.leaf ls a d
  · intro h a m d left hm _ ih; exact Shape.half hm ih
  · intro h a m d left right hm _ sr ihl ihr
    rw [rebuild_branch_ne sr.geo.ne_nil]
    exact Shape.full hm ihl ihr

theorem replaceF_branch_right {o : Ops R G} {ls clock fu s l : Nat} {x bd : G} {left right : Node G}
    (hc : ¬ clock < s) (hne : right ≠ .nil) :
    Tree.replaceF o ls clock x (fu + 1) (.branch s l bd left right) =
      (.branch s l bd left (Tree.replaceF o ls clock x fu right).1, (Tree.replaceF o ls clock x fu right).2.1,
       (Tree.replaceF o ls clock x fu right).2.2) := by
  cases right with
  | nil => exact absurd rfl hne
  | leaf _ _ _ => simp [Tree.replaceF, hc]
  | branch _ _ _ _ _ => simp [Tree.replaceF, hc]

/-- Replace leaves the branches alone (`rebuild` recomputes them afterwards), sets the leaf, and reports it reached -/
theorem replaceF_descent (o : Ops R G) (ls clock : Nat) (x : G) :
    Descent o ls clock (fun _ => x) (fun d => d) (fun s => ([s], true)) (fun nb r => (nb ++ r.1, r.2))
      (Tree.replaceF o ls clock x) :=
  ⟨fun _ _ _ _ hc => by simp only [Tree.replaceF, ge_iff_le, Nat.not_le.mpr hc, if_false],
   fun _ _ _ _ _ _ hc => by simp only [Tree.replaceF, hc, if_true],
   fun _ _ _ _ _ _ hc hne => replaceF_branch_right hc hne,
   fun _ _ _ _ _ hc => by simp only [Tree.replaceF, hc, if_false]⟩

theorem Holds.replace {o : Ops R G} (L : Lawful o) {ls : Nat} {t : Tree G} {m : Nat} {val : Nat → G}
    (H : Holds o ls t m val) (clock : Nat) (x : G) (hP : clock / ls < m) :
    Holds o ls (t.replace o clock x) m (upd val (clock / ls) x) ∧
    (t.replace o clock x).dirty = t.dirty ++ [keyOf ls (clock / ls)] ∧ (t.replace o clock x).orphaned = t.orphaned := by
  obtain ⟨h, sh, hs⟩ := H.shape
  have hls := H.ls_pos
  have hfuel : h < t.treeSize + 1 := by rw [hs]; exact Nat.lt_succ_of_lt (lt_mul_two_pow hls h)
  obtain ⟨r1, r2, r3⟩ := ((replaceF_descent o ls clock x).shape hls h 0 m t.root sh (t.treeSize + 1) val H.leaves hfuel
    (Nat.zero_le _) (by have := (Shape.bounds _ _ _ _ sh).2; omega)).1 (by omega)
  have e : t.replace o clock x =
      { t with root := (Tree.replaceF o ls clock x (t.treeSize + 1) t.root).1.rebuild o,
               dirty := t.dirty ++ [keyOf ls (clock / ls)] } := by
    unfold Tree.replace
    simp only [Tree.replaceLoop, H.ls_eq, r3, if_true]
  rw [e]
  refine ⟨⟨hls, H.ls_eq, ⟨h, rebuild_shape r1, hs⟩, rebuild_wf L _, ?_⟩, rfl, rfl⟩
  show ((Tree.replaceF o ls clock x (t.treeSize + 1) t.root).1.rebuild o).leaves = _
  rw [rebuild_leaves, r2]

end Nuts.C08
