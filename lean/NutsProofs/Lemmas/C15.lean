/-
  C15 (private payload release): the predicates the property is stated with, and for each operation of the model the one
  statement of what it does by cases (what a handler sends, `readMetadata`, `attach`/`handleInbound`, `openOutboundStream`)
  from which NutsProofs/Props/C15.lean derives its invariants.
-/
import NutsModel.C07.Net
import NutsModel.C15.Outbound
import NutsProofs.Lemmas.C07
import NutsProofs.Lemmas.Base
open Nuts.Proto Nuts Nuts.Proto.L

namespace Nuts.C15.L

/-- payload bytes a message carries (TransactionList payload fields, TransactionPayload data) -/
def payloadBytes : Msg → List Payload
  | .txList _ _ _ txs => txs.filterMap (·.payload)
  | .payload _ (some p) => [p]
  | _ => []

/-- the payload store is keyed by the hash of what it stores -/
def StoreOK (n : Node) : Prop := ∀ h p, Nuts.alGet n.payloads h = some p → p.sha = h

/-- `p` is the payload of a PAL-bearing transaction of the node -/
def PrivateBytes (n : Node) (p : Payload) : Prop := ∃ t ∈ n.dag, t.pal ≠ [] ∧ t.payloadHash = p.sha

/-- no public transaction of the node has the payload of a private one -/
def PrivSeparate (n : Node) : Prop :=
  ∀ t ∈ n.dag, ∀ t' ∈ n.dag, t.pal ≠ [] → t'.pal = [] → t.payloadHash ≠ t'.payloadHash

theorem storeOK_of_all (n : Node) (h : ∀ e ∈ n.payloads, e.2.sha = e.1) : StoreOK n :=
  fun k p hp => h (k, p) (mem_of_alGet_eq_some hp)

/-- a TransactionList built from the node's own transactions never carries private payload bytes -/
theorem list_reply_clean (cfg : Cfg) (n : Node) (hs : StoreOK n) (hsep : PrivSeparate n) (l : List Tx) (hl : ∀ t ∈ l, t ∈ n.dag)
    (r : List NetTx) (hc : collect n l = some r) (peer : Nat) (cid : Cid) (o : Nat × Msg)
    (ho : o ∈ sendTransactionList cfg peer cid r) (p : Payload) (hp : p ∈ payloadBytes o.2) : ¬ PrivateBytes n p := by
  obtain ⟨_, k, total, c, heq, hsub⟩ := sendTransactionList_mem cfg peer cid r o ho
  rw [heq] at hp
  simp only [payloadBytes, List.mem_filterMap] at hp
  obtain ⟨e, he, hpe⟩ := hp
  obtain ⟨t, htl, _, hcase⟩ := collect_elems n l r hc e (hsub e he)
  rintro ⟨t', ht', hpal', hhash'⟩
  rcases hcase with ⟨hpal, hread, _⟩ | ⟨_, hnone⟩
  · rw [hpe] at hread
    have hsha : p.sha = t.payloadHash := hs _ _ hread.symm
    exact hsep t' ht' t (hl t htl) hpal' hpal (by rw [hhash', hsha])
  · rw [hnone] at hpe; cases hpe

theorem request_no_bytes {m : Msg} (h : isRequest m = true) : payloadBytes m = [] := by
  cases m <;> simp [isRequest] at h <;> simp [payloadBytes]

theorem gossip_clean (cfg : Cfg) (n : Node) (peer : Peer) (x : Ref) (lc : Nat) (refs : List Ref) (o : Nat × Msg)
    (h : o ∈ (handleGossip cfg n peer x lc refs).out) : payloadBytes o.2 = [] := by
  revert h
  fun_cases handleGossip cfg n peer x lc refs with
  | case1 => exact nofun
  | _ => exact fun h => request_no_bytes (sendRequest_req _ _ _ _ _ (fun _ => rfl) o h)

theorem state_clean (cfg : Cfg) (n : Node) (peer : Peer) (cid : Cid) (x : Ref) (lc : Nat) (o : Nat × Msg)
    (h : o ∈ (handleState cfg n peer cid x lc).out) : payloadBytes o.2 = [] := by
  revert h
  fun_cases handleState cfg n peer cid x lc with
  | case1 => exact nofun
  | case2 => exact fun h => List.mem_singleton.mp h ▸ rfl

theorem set_clean (cfg : Cfg) (env : Env) (n : Node) (peer : Peer) (cid : Cid) (a b : Nat) (i : IbltV) (o : Nat × Msg)
    (h : o ∈ (handleTransactionSet cfg env n peer cid a b i).out) : payloadBytes o.2 = [] := by
  revert h
  fun_cases handleTransactionSet cfg env n peer cid a b i with
  | case1 | case2 | case8 => exact nofun
  | _ => exact fun h => request_no_bytes (sendRequest_req _ _ _ _ _ (fun _ => rfl) o h)

theorem txlist_clean (cfg : Cfg) (env : Env) (n : Node) (peer : Peer) (cid : Cid) (a b : Nat) (txs : List NetTx) (o : Nat × Msg)
    (h : o ∈ (handleTransactionList cfg env n peer cid a b txs).out) : payloadBytes o.2 = [] := by
  have hl : ∀ ps, o ∈ (addLoop cfg env n ps).out → payloadBytes o.2 = [] :=
    fun ps h => request_no_bytes (pq_req (addLoop_out cfg env ps n o h))
  revert h
  fun_cases handleTransactionList cfg env n peer cid a b txs with
  | case1 | case2 => exact nofun
  | case5 _ ps => exact fun h => (List.mem_append.mp h).elim (hl ps) (request_no_bytes <| sendRequest_req _ _ _ _ _ (fun _ => rfl) o ·)
  | _ => exact hl _

/-- every message a handler hands to `Connection.Send` (including the immediate re-attempt of the payload scheduler) -/
def _root_.Nuts.C15.Props.allOut (env : Env) (r : HR) : Out := r.out ++ retryOut env r.node r.retry

open Nuts.C15.Props (allOut)

/-- everything a handler sends, the scheduler's re-attempts included: a request, a TransactionList collected from transactions of
    the node's own DAG (for a list query provided the ordering oracle invents no transactions), the empty payload answer, or a
    payload released under the conditions of `handleTransactionPayloadQuery` -/
theorem handle_out (cfg : Cfg) (env : Env) (n : Node) (peer : Peer) (m : Msg) (o : Nat × Msg)
    (ho : o ∈ allOut env (handle cfg env n peer m)) :
    isRequest o.2 = true ∨
    (∃ cid l r, collect n l = some r ∧ o ∈ sendTransactionList cfg peer.key cid r ∧
      ((∀ l t, t ∈ env.order l → t ∈ l) → ∀ t ∈ l, t ∈ n.dag)) ∨
    ∃ ref, m = .payloadQuery ref ∧ (o = (peer.key, .payload ref none) ∨
      ∃ tx p, getTx n.dag ref = some tx ∧ readPayload n tx.payloadHash = some p ∧ o = (peer.key, .payload ref (some p)) ∧
        (tx.pal ≠ [] → peer.authenticated = true ∧ ∃ dids, decryptPAL env n tx.pal = .pal dids ∧ peer.did ∈ dids)) := by
  rcases List.mem_append.mp ho with ho | ho
  · cases (handle_spec cfg env n peer m).choose_spec.2.2 o ho with
    | request _ _ h => exact Or.inl h
    | reply _ _ cid l r hl hc hs => exact Or.inr (Or.inl ⟨cid, l, r, hc, hs, hl⟩)
    | refused ref => exact Or.inr (Or.inr ⟨ref, rfl, .inl rfl⟩)
    | released ref tx p h1 h2 h3 => exact Or.inr (Or.inr ⟨ref, rfl, .inr ⟨tx, p, h1, h2, rfl, h3⟩⟩)
  · exact Or.inl (pq_req (retryOut_out env _ _ o ho))

theorem tryCiphers_honest (env : Env) (keyOf : String → String) (cipherFor : String → Nat) (pal : List String)
    (hh : HonestPal env keyOf cipherFor pal) (hinj : ∀ a b, keyOf a = keyOf b → a = b) (d₀ : String) :
    ∀ (suffix : List String), (∀ d ∈ suffix, d ∈ pal) →
      tryCiphers env [⟨keyOf d₀, true⟩] (suffix.map cipherFor) =
        if d₀ ∈ suffix then some (.ok (pal.map some)) else none := by
  intro suffix
  induction suffix with
  | nil => intro _; simp [tryCiphers]
  | cons d ds ih =>
    intro hsub
    have hd := hh d (hsub d List.mem_cons_self) (keyOf d₀)
    have ih' := ih (fun x hx => hsub x (List.mem_cons_of_mem _ hx))
    simp only [List.map_cons, tryCiphers, tryKeys, if_true]
    rw [hd]
    by_cases hk : keyOf d₀ = keyOf d
    · have : d₀ = d := hinj _ _ hk
      subst this
      simp
    · have hne : d₀ ≠ d := fun h => hk (by rw [h])
      simp only [hk, if_false, ih']
      simp [hne]

theorem parseDids_some (l : List String) : parseDids (l.map some) = some l := by
  induction l with
  | nil => rfl
  | cons x xs ih => simp [parseDids, ih]

theorem attach_forall (P : Conn → Prop) (id did : String) (r : StreamRec) (fresh : Conn) (hf : P fresh)
    (hadd : ∀ c, P c → c.peer.did = did → P { c with streams := c.streams ++ [r] }) :
    ∀ cs, (∀ c ∈ cs, P c) → ∀ c ∈ (attach id did r fresh cs).1, P c := by
  intro cs
  fun_induction attach id did r fresh cs with
  | case1 => intro _ c hc; rw [List.mem_singleton.mp hc]; exact hf
  | case2 => exact fun h => h
  | case3 c rest hm =>
    intro h
    obtain ⟨hc0, hrest⟩ := List.forall_mem_cons.mp h
    exact List.forall_mem_cons.mpr ⟨hadd c hc0 (by simpa using ((Bool.and_eq_true _ _).mp hm).2), hrest⟩
  | case4 c rest _ _ ih =>
    intro h
    obtain ⟨hc0, hrest⟩ := List.forall_mem_cons.mp h
    exact List.forall_mem_cons.mpr ⟨hc0, ih hrest⟩

theorem handleInbound_cases (E : InEnv) (cs : List Conn) (s : StreamIn) :
    (handleInbound E cs s).1 = cs ∨ ∃ pid claimed i, (streamAuth E claimed s).2 = false ∧
      handleInbound E cs s =
        ((attach pid (streamAuth E claimed s).1.did (streamRec E claimed s) (freshConn E pid claimed s) cs).1, .joined i) := by
  fun_cases handleInbound E cs s with
  | case3 pid claimed _ hf _ i => exact .inr ⟨pid, claimed, i, by simpa using hf, rfl⟩
  | _ => exact .inl rfl

theorem headerValue_ok {vals : List String} {required : Bool} {x : String} (h : headerValue vals required = .ok x) :
    (vals = [] ∧ required = false ∧ x = "") ∨ ∃ v, vals = [v] ∧ x = trimSpace v := by
  match vals, required, h with
  | [], false, h => exact Or.inl ⟨rfl, rfl, (Nuts.Res.ok.inj h).symm⟩
  | [v], _, h => exact Or.inr ⟨v, rfl, (Nuts.Res.ok.inj h).symm⟩

theorem readMetadata_ok {pd : String → Option String} {pids dids : List String} {pid d : String}
    (h : readMetadata pd pids dids = .ok (pid, d)) :
    headerValue pids true = .ok pid ∧ pid ≠ "" ∧
    ∃ d', headerValue dids false = .ok d' ∧ ((d' = "" ∧ d = "") ∨ (d' ≠ "" ∧ pd d' = some d)) := by
  revert h
  fun_cases readMetadata pd pids dids with
  | case2 pid' h1 he d' h2 hd =>
    rintro ⟨⟩
    exact ⟨h1, by simpa using he, d', h2, .inl ⟨by simpa using hd, rfl⟩⟩
  | case4 pid' h1 he d' h2 hd c hp =>
    rintro ⟨⟩
    exact ⟨h1, by simpa using he, d', h2, .inr ⟨by simpa using hd, hp⟩⟩
  | _ => nofun

theorem verifyOrSetPeerID_eq (c : Conn) (id : String) : ∃ id', (verifyOrSetPeerID c id).1 = { c with id := id' } := by
  unfold verifyOrSetPeerID
  split
  · exact ⟨id, rfl⟩
  · exact ⟨c.id, rfl⟩

/-- The three ways out of `openOutboundStream`: a refusal changes at most the peer ID of the connection; a bootstrap connection
    (no expected DID) registers the stream unauthenticated; a connection with an expected DID registers it only when the server
    named that DID and `authenticate` accepted it. Stated as an eliminator so that the body is unfolded here and nowhere else. -/
theorem openOutboundStream_elim (E : InEnv) (c : Conn) (s : OutStream) (P : Conn × OutRes → Prop)
    (refused : ∀ id w, w ≠ .opened → P ({ c with id := id }, w))
    (bootstrap : ∀ id, c.peer.did = "" →
      P (registerOut { c with id := id, cert := s.cert } ⟨s.sid, s.proto, "", outAuthIn E "" s, c.peer⟩))
    (proved : ∀ id a, a = cmAuthenticate E.kind E.auth c.peer.did c.peer (outAuthIn E c.peer.did s) → c.peer.did ≠ "" → a.2 = false →
      P (registerOut { c with id := id, peer := a.1, cert := s.cert } ⟨s.sid, s.proto, c.peer.did, outAuthIn E c.peer.did s, a.1⟩)) :
    P (openOutboundStream E c s) := by
  have same : ∀ w, P (c, .fatal w) := fun w => refused c.id (.fatal w) OutRes.noConfusion
  unfold openOutboundStream
  by_cases h1 : s.createFails = true
  · rw [if_pos h1]; exact same _
  rw [if_neg h1]
  by_cases h2 : s.headerFails = true
  · rw [if_pos h2]; exact same _
  rw [if_neg h2]
  by_cases h3 : (s.pids.isEmpty && s.dids.isEmpty && !s.other) = true
  · rw [if_pos h3]; exact refused c.id .skipped OutRes.noConfusion
  rw [if_neg h3]
  cases readMetadata E.parseDID s.pids s.dids with
  | err e => exact same _
  | panic e => exact same _
  | ok v =>
    obtain ⟨pid, srv⟩ := v
    obtain ⟨id, hid⟩ := verifyOrSetPeerID_eq c pid
    simp only [hid]
    by_cases h4 : (!(verifyOrSetPeerID c pid).2) = true
    · rw [if_pos h4]; exact refused id _ OutRes.noConfusion
    rw [if_neg h4]
    by_cases h5 : (c.peer.did != "") = true
    · rw [if_pos h5]
      by_cases h6 : (srv == "") = true
      · rw [if_pos h6]; exact refused id _ OutRes.noConfusion
      rw [if_neg h6]
      by_cases h7 : (srv != c.peer.did) = true
      · rw [if_pos h7]; exact refused id _ OutRes.noConfusion
      rw [if_neg h7]
      have hsrv : srv = c.peer.did := by simpa using h7
      subst hsrv
      by_cases h8 : (cmAuthenticate E.kind E.auth c.peer.did c.peer (outAuthIn E c.peer.did s)).2 = true
      · rw [if_pos h8]; exact refused id _ OutRes.noConfusion
      rw [if_neg h8]
      exact proved id _ rfl (by simpa using h5) (by simpa using h8)
    · rw [if_neg h5]
      exact bootstrap id (by simpa using h5)

end Nuts.C15.L

namespace Nuts.C15

def Ev.toM : Ev → MEv
  | .open_ s => .inOpen s
  | .close sid => .close sid

/-- inbound-only histories are a sub-language of the histories of the shared connection list -/
theorem runEvs_eq_runM (E : InEnv) (cs : List Conn) (evs : List Ev) : runEvs E cs evs = runM E cs (evs.map Ev.toM) := by
  unfold runEvs runM
  rw [List.foldl_map]
  congr; funext cs ev; cases ev <;> rfl

end Nuts.C15
