/-
  C12 — the presenter's VP-format negotiation (NutsModel/C12/Formats.lean): `Formats.Match` is sound (every value it
  keeps is offered by BOTH sides under their own aliases, nothing empty survives) and the format `buildSubmission`
  signs with is one that node defaults, verifier metadata and the definition's `format` all list.
-/
import NutsModel.C12.Formats
import NutsModel.Facts.C12
import NutsProofs.Props.C12Consumer

namespace Nuts.C12.Props
open Nuts Nuts.C12

/-- the two innermost loops keep exactly the values both sides list -/
theorem values_both_mem (a b : List String) (v : String) : v ∈ valuesBoth a b ↔ v ∈ a ∧ v ∈ b := by
  unfold valuesBoth
  simp only [List.mem_flatMap, List.mem_map, List.mem_filter]
  constructor
  · rintro ⟨tv, htv, ov, ⟨hov, heq⟩, rfl⟩
    have : tv = ov := by simpa using heq
    exact ⟨htv, this ▸ hov⟩
  · rintro ⟨ha, hb⟩
    exact ⟨v, ha, v, ⟨hb, by simp⟩, rfl⟩

/-- parameter loop: every surviving parameter is one of THIS side's (normalised) parameters that the other side lists
    too, with the common values, and is not empty -/
theorem match_params_sound (other : PMap) : ∀ (this acc : PMap) (e : String × List String), e ∈ matchParams other acc this →
    e ∈ acc ∨ ∃ tvs ovs, (e.1, tvs) ∈ this ∧ alGet other e.1 = some ovs ∧ e.2 = valuesBoth tvs ovs ∧ e.2 ≠ []
  | [], acc, e, h => Or.inl (by simpa [matchParams] using h)
  | (p, vs) :: rest, acc, e, h => by
    unfold matchParams at h
    have lift : (e ∈ acc ∨ ∃ tvs ovs, (e.1, tvs) ∈ rest ∧ alGet other e.1 = some ovs ∧ e.2 = valuesBoth tvs ovs ∧ e.2 ≠ []) →
        (e ∈ acc ∨ ∃ tvs ovs, (e.1, tvs) ∈ (p, vs) :: rest ∧ alGet other e.1 = some ovs ∧ e.2 = valuesBoth tvs ovs ∧ e.2 ≠ []) := by
      rintro (h1 | ⟨tvs, ovs, h1, h2⟩)
      · exact Or.inl h1
      · exact Or.inr ⟨tvs, ovs, List.mem_cons_of_mem _ h1, h2⟩
    split at h
    · exact lift (match_params_sound other rest acc e h)
    · next ovs hov =>
      simp only at h
      split at h
      · exact lift ((match_params_sound other rest _ e h).imp_left mem_alDel)
      · next hne =>
        rcases match_params_sound other rest _ e h with h1 | h1
        · rcases mem_alPut h1 with h2 | h2
          · subst h2
            exact Or.inr ⟨vs, ovs, List.mem_cons_self, hov, rfl, fun h0 => hne (by have h0' := h0; simp only at h0'; rw [h0']; rfl)⟩
          · exact lift (Or.inl h2)
        · exact lift (Or.inr h1)

/-- format loop: every surviving format is one of THIS side's formats, the other side lists it under its own alias,
    its parameters are the parameter loop's result, and it is not empty -/
theorem match_formats_sound (f other : Fmts) : ∀ (l acc : FMap) (e : String × PMap), e ∈ matchFormats f other acc l →
    e ∈ acc ∨ ∃ tps ops, (e.1, tps) ∈ l ∧ other.normalizeParameters (fmapGet other.map (other.normalizeFormat e.1)) = some ops ∧
      e.2 = matchParams ops [] (normalizeLoop f [] tps) ∧ e.2 ≠ []
  | [], acc, e, h => Or.inl (by simpa [matchFormats] using h)
  | (fmt, ps) :: rest, acc, e, h => by
    unfold matchFormats at h
    have lift : (e ∈ acc ∨ ∃ tps ops, (e.1, tps) ∈ rest ∧ other.normalizeParameters (fmapGet other.map (other.normalizeFormat e.1)) = some ops ∧
          e.2 = matchParams ops [] (normalizeLoop f [] tps) ∧ e.2 ≠ []) →
        (e ∈ acc ∨ ∃ tps ops, (e.1, tps) ∈ (fmt, ps) :: rest ∧ other.normalizeParameters (fmapGet other.map (other.normalizeFormat e.1)) = some ops ∧
          e.2 = matchParams ops [] (normalizeLoop f [] tps) ∧ e.2 ≠ []) := by
      rintro (h1 | ⟨tps, ops, h1, h2⟩)
      · exact Or.inl h1
      · exact Or.inr ⟨tps, ops, List.mem_cons_of_mem _ h1, h2⟩
    split at h
    · exact lift (match_formats_sound f other rest acc e h)
    · next ops hops =>
      simp only at h
      split at h
      · exact lift ((match_formats_sound f other rest _ e h).imp_left mem_alDel)
      · next hne =>
        rcases match_formats_sound f other rest _ e h with h1 | h1
        · rcases mem_alPut h1 with h2 | h2
          · subst h2
            exact Or.inr ⟨ps, ops, List.mem_cons_self, hops, rfl, fun h0 => hne (by have h0' := h0; simp only at h0'; rw [h0']; rfl)⟩
          · exact lift (Or.inl h2)
        · exact lift (Or.inr h1)

/-- `Formats.Match` is SOUND: a value kept for (format, parameter) is listed by this side for that format under the
    parameter's normalised name, AND by the other side for the format's alias under the normalised name; no empty
    parameter and no empty format survives. -/
theorem formats_match_sound (f other : Fmts) (fmt : String) (ps : PMap) (hm : (f.matchWith other).map = some m) (hf : (fmt, ps) ∈ m) :
    ps ≠ [] ∧ ∃ tps ops, fmapGet f.map fmt ≠ none ∧ (fmt, tps) ∈ (match f.map with | some x => x | none => []) ∧
      other.normalizeParameters (fmapGet other.map (other.normalizeFormat fmt)) = some ops ∧
      ∀ p vs, (p, vs) ∈ ps → vs ≠ [] ∧ ∃ tvs ovs, (p, tvs) ∈ normalizeLoop f [] tps ∧ alGet ops p = some ovs ∧
        ∀ v, v ∈ vs ↔ (v ∈ tvs ∧ v ∈ ovs) := by
  unfold Fmts.matchWith at hm
  simp only at hm
  injection hm with hm; subst hm
  rcases match_formats_sound f other _ [] (fmt, ps) hf with h | ⟨tps, ops, h1, h2, h3, h4⟩
  · cases h
  · refine ⟨h4, tps, ops, ?_, h1, h2, ?_⟩
    · cases hfm : f.map with
      | none => rw [hfm] at h1; cases h1
      | some x =>
        rw [hfm] at h1
        simp only [fmapGet]
        exact fun hn => alGet_eq_none_iff.1 hn (List.mem_map.2 ⟨_, h1, rfl⟩)
    · intro p vs hp
      simp only at h3
      rw [h3] at hp
      rcases match_params_sound ops _ [] (p, vs) hp with h | ⟨tvs, ovs, g1, g2, g3, g4⟩
      · cases h
      · exact ⟨g4, tvs, ovs, g1, g2, fun v => by simp only at g3; rw [g3]; exact values_both_mem tvs ovs v⟩

/-- a format that survives `Formats.Match` is one of this side's formats, and the other side lists it under its own alias -/
theorem mem_keys_matchWith {f other : Fmts} {k : String} (h : k ∈ (f.matchWith other).keys) :
    k ∈ f.keys ∧ other.normalizeParameters (fmapGet other.map (other.normalizeFormat k)) ≠ none := by
  obtain ⟨⟨k', ps⟩, hk, rfl⟩ := List.mem_map.1 (show k ∈ (matchFormats f other [] _).map (·.1) from h)
  obtain ⟨_, tps, ops, _, h1, h2, _⟩ := formats_match_sound f other k' ps rfl hk
  refine ⟨?_, by rw [h2]; nofun⟩
  unfold Fmts.keys
  cases hfm : f.map with
  | none => rw [hfm] at h1; cases h1
  | some x => rw [hfm] at h1; exact List.mem_map.2 ⟨_, h1, rfl⟩

/-- END-TO-END (metadata → format): when `buildSubmission` does not stop with "don't share a supported VP format", the
    format it signs with is the preference-list answer for a key that the NODE defaults list, that the VERIFIER metadata
    lists (same spelling), and — when the definition has a `format` — that the DEFINITION lists under its DIF alias. -/
theorem presenter_format_shared (defaults : FMap) (verifier pdFormat : Option FMap)
    (h : presenterFormat Facts.C12.vpFormatPreference defaults verifier pdFormat ≠ "") :
    ∃ k, (k, presenterFormat Facts.C12.vpFormatPreference defaults verifier pdFormat) ∈ Facts.C12.vpFormatPreference ∧
      alGet defaults k ≠ none ∧ fmapGet verifier k ≠ none ∧
      (∀ pf, pdFormat = some pf → alGet pf ((difClaimFormats (some pf)).normalizeFormat k) ≠ none) := by
  -- the first `Match`: node defaults against the verifier's metadata (no format aliases on either side)
  have s1 : ∀ k, k ∈ ((openIDSupportedFormats (some defaults)).matchWith (openIDSupportedFormats verifier)).keys →
      alGet defaults k ≠ none ∧ fmapGet verifier k ≠ none := fun k hk =>
    have ⟨a, b⟩ := mem_keys_matchWith hk
    ⟨fun hn => alGet_eq_none_iff.1 hn a, fun hn => b (by simp [openIDSupportedFormats, Fmts.normalizeFormat, hn, Fmts.normalizeParameters])⟩
  unfold presenterFormat at h ⊢
  rcases chooseVPFormat_spec Facts.C12.vpFormatPreference _ with h0 | ⟨k, h1, h2⟩
  · exact absurd h0 h
  · refine ⟨k, h1, ?_⟩
    cases pdFormat with
    | none => exact ⟨(s1 k h2).1, (s1 k h2).2, nofun⟩
    | some pf =>
      have ⟨a, b⟩ := mem_keys_matchWith h2
      refine ⟨(s1 k a).1, (s1 k a).2, fun pf' hpf hn => ?_⟩
      cases hpf
      exact b (by rw [show fmapGet (difClaimFormats (some pf)).map _ = alGet pf _ from rfl, hn]; rfl)

/-! ### source of the negotiation, statement by statement (regenerated) -/
theorem fact_presenter_build_submission_source : Facts.C12.presenterBuildSubmissionShape.take 8 = ["builder := presentationDefinition.PresentationSubmissionBuilder()", "for holderDID, creds := range credentials { builder.AddWallet(holderDID, creds) }", "formatCandidates := credential.OpenIDSupportedFormats(oauth.DefaultOpenIDSupportedFormats())", "formatCandidates = formatCandidates.Match(credential.OpenIDSupportedFormats(params.Format))", "if presentationDefinition.Format != nil { formatCandidates = formatCandidates.Match(credential.DIFClaimFormats(*presentationDefinition.Format)) }", "format := pe.ChooseVPFormat(formatCandidates.Map)", "if format == \"\" { return nil, nil, errors.New(\"...\") }", "presentationSubmission, signInstruction, err := builder.Build(format)"] := rfl
theorem fact_formats_match_source : Facts.C12.formatsMatchShape = ["aliases := f.FormatAliases", "if aliases == nil { aliases = other.FormatAliases }", "result := Formats{ Map: map[string]map[string][]string{}, ParamAliases: map[string]string{}, FormatAliases: aliases, }", "for thisFormat, thisFormatParams := range f.Map { otherFormat := other.normalizeFormat(thisFormat) otherFormatParams := other.normalizeParameters(other.Map[otherFormat]) if otherFormatParams == nil { continue } result.Map[thisFormat] = map[string][]string{} for thisParam, thisValues := range f.normalizeParameters(thisFormatParams) { otherValues, supported := otherFormatParams[thisParam] if !supported { continue } result.Map[thisFormat][thisParam] = []string{} for _, thisValue := range thisValues { for _, otherValue := range otherValues { if thisValue == otherValue { result.Map[thisFormat][thisParam] = append(result.Map[thisFormat][thisParam], thisValue) } } } if len(result.Map[thisFormat][thisParam]) == 0 { delete(result.Map[thisFormat], thisParam) } } if len(result.Map[thisFormat]) == 0 { delete(result.Map, thisFormat) } }", "return result"] := rfl
theorem fact_formats_normalize_source :
    Facts.C12.normalizeFormatShape = ["if alias, ok := f.FormatAliases[format]; ok { return alias }", "return format"] ∧ Facts.C12.normalizeParameterShape = ["if alias, ok := f.ParamAliases[param]; ok { return alias }", "return param"] ∧
    Facts.C12.normalizeParametersShape = ["if params == nil { return nil }", "result := map[string][]string{}", "for param, values := range params { result[f.normalizeParameter(param)] = values }", "return result"] := ⟨rfl, rfl, rfl⟩
theorem fact_formats_constructors_source :
    Facts.C12.difClaimFormatsShape = ["return Formats{ Map: formats, ParamAliases: map[string]string{}, FormatAliases: map[string]string{ \"jwt_vp_json\": \"jwt_vp\", \"jwt_vc_json\": \"jwt_vc\", }, }"] ∧ Facts.C12.openIDSupportedFormatsShape = ["return Formats{ Map: formats, ParamAliases: map[string]string{ \"alg_values_supported\": \"alg\", \"proof_type_values_supported\": \"proof_type\", }, }"] := ⟨rfl, rfl⟩

/-! ### non-vacuity -/
def dDefaults : FMap := [("jwt_vp_json", [("alg_values_supported", ["ES256", "PS256"])]), ("ldp_vp", [("proof_type_values_supported", ["JsonWebSignature2020"])])]
example : presenterFormat vpFormatPreference dDefaults (some [("jwt_vp_json", [("alg_values_supported", ["PS256"])])]) none = "jwt_vp" := by decide +kernel
example : presenterFormat vpFormatPreference dDefaults (some [("jwt_vp_json", [("alg_values_supported", ["PS256"])])])
    (some [("jwt_vp", [("alg", ["PS256", "EdDSA"])])]) = "jwt_vp" := by decide +kernel
example : presenterFormat vpFormatPreference dDefaults (some [("jwt_vp_json", [("alg_values_supported", ["PS256"])])])
    (some [("jwt_vp", [("alg", ["EdDSA"])])]) = "" := by decide +kernel
example : presenterFormat vpFormatPreference dDefaults none none = "" := by decide
example : presenterFormat vpFormatPreference dDefaults (some [("ldp_vp", [("proof_type", ["JsonWebSignature2020"])]), ("jwt_vp_json", [("alg", ["RS256"])])]) none = "ldp_vp" := by decide +kernel
example : valuesBoth ["a", "b"] ["b", "b", "c"] = ["b", "b"] := by decide

end Nuts.C12.Props
