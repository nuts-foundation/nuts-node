/-
  C12 — Presentation Exchange: wallet and verifier agree and mappings cannot be forged.
  Model: NutsModel/C12/PE.lean (vcr/pe).
  Facts: NutsModel/Facts/C12.lean is REGENERATED from /repo on every run.
-/
import NutsModel.C12.PE
import NutsModel.C12.Spec
import NutsModel.Facts.C12
import NutsProofs.Lemmas.C12Validate

namespace Nuts.C12.Props
open Nuts Nuts.C12

/-! ### Obligations on the regenerated facts (a source change flips these) -/

/-- `matchFilter`: after the element loop of the array case the function leaves unless the filter asks for an array -/
theorem fact_array_case_guarded : Facts.C12.matchFilterArrayGuard = true := rfl

/-- `apply`: every `*Count`, `*Min`, `*Max` is dominated by a nil test -/
theorem fact_apply_derefs_guarded : ∀ e ∈ Facts.C12.applyDerefGuarded, e.2 = true := by decide

theorem fact_apply_max_guarded : Facts.C12.applyMaxGuarded = true := rfl

/-- `Resolve`: a second entry for the same input descriptor id is rejected -/
theorem fact_resolve_rejects_duplicate_ids : Facts.C12.resolveRejectsDuplicateIds = true := rfl

/-- `apply`: the `index == *Max` test runs before a member is taken; `min > max` is rejected -/
theorem fact_apply_max_test_first : Facts.C12.applyMaxTestBeforeTake = true := rfl
theorem fact_apply_rejects_min_above_max : Facts.C12.applyRejectsMinAboveMax = true := rfl

/-- `matchFilter` bounds the regular-expression run: a finite `MatchTimeout` constant is assigned before
    `FindStringMatch` (the model's `re` is then a total function whose timeout outcome is `runErr`) -/
theorem fact_regex_timeout_bounded :
    Facts.C12.regexMatchTimeoutSetBeforeRun = true ∧
    Facts.C12.regexMatchTimeoutValue ∈ ["time.Second", "time.Millisecond", "100 * time.Millisecond", "500 * time.Millisecond", "2 * time.Second"] := by
  decide

/-! call sites of vcr/pe (wiring of the consumers; the behaviour is exercised by the iam / holder harness legs) -/

/-- `PEXConsumer.fulfill` is called from exactly the two token/response handlers, and both return when it fails -/
theorem fact_fulfill_callers_return_on_error :
    Facts.C12.iamFulfillCallers = [("handleAuthorizeResponseSubmission", true), ("handleS2SAccessTokenRequest", true)] := rfl

/-- `fulfill` validates against the required definition before it stores the submission; `credentialMap` resolves each
    stored submission in the stored envelope of the same definition; the access token's field map is computed from
    that credential map -/
theorem fact_consumer_wiring :
    Facts.C12.fulfillValidatesBeforeStoring = true ∧ Facts.C12.credentialMapResolvesInOwnEnvelope = true ∧
    Facts.C12.accessTokenFieldsFromCredentialMap = true := by decide

/-- the callers that zip `Match`'s two results rely on the alignment proved in `match_sound` (`AlignedBy`): discovery
    `Search`, `Validate`; discovery registration requires every presented credential to be selected; the presenter puts
    exactly the sign instruction's credentials in the presentation -/
theorem fact_match_result_consumers :
    Facts.C12.discoverySearchZipsMatchResultsByIndex = true ∧ Facts.C12.discoveryRegistrationMatchesAllCredentials = true ∧
    Facts.C12.validateZipsMappingsAndCredentialsByIndex = true ∧ Facts.C12.presenterPresentsSignInstructionCredentials = true := by decide

/-- `Match` and `ResolveConstraintsFields` start with `checkNoNilEntries` (which looks at the input descriptors and,
    recursively, at the submission requirements); `CredentialsRequired` skips nil requirements -/
theorem fact_nil_entries_checked : Facts.C12.nilEntriesChecked = true := rfl

/-- `apply`: the counter compared with `*Max` is a separate variable incremented only when a member is taken (not the
    position in the group): `takeLoopPre` counts taken members -/
theorem fact_apply_max_counts_taken_members : Facts.C12.applyMaxCountsTakenMembers = true := rfl

/-- `apply`, "count" branch: the value compared with `*Count` is a separate counter incremented only in the branch that
    takes a member, the test is the last statement of the loop body and leaves the loop (`takeLoop` counts taken MEMBERS,
    not collected credentials: a `from_nested` member flattens to several credentials) -/
theorem fact_apply_count_counts_taken_members : Facts.C12.applyCountCountsTakenMembers = true := rfl

/-- pick/count: exactly the first `count` selectable members are taken, each with ALL its credentials — for all member
    lists (a member of a `from_nested` group is a whole nested requirement and may hold any number of credentials) -/
theorem count_takes_exactly_count_members (cfg : Cfg) (list : List Member) (rule : String) (hr : rule ≠ "all")
    (c : Nat) (hc : 0 < c) (min max : Option Nat) (l : List Cred)
    (h : apply cfg list rule (some c) min max = .ok l) :
    l = ((available list).take c).flatten ∧ ((available list).take c).length = c :=
  apply_count_ok hr hc h

/-- non-vacuity, and the reading "stop when `count` CREDENTIALS are collected" gives another result: pick 2 of three
    nested members whose first holds two credentials takes the first TWO members (three credentials) -/
example : apply Facts.C12.cfg [some [{ raw := "a" }, { raw := "b" }], some [{ raw := "c" }], some [{ raw := "d" }]] "pick" (some 2) none none
    = .ok [{ raw := "a" }, { raw := "b" }, { raw := "c" }] := by rfl

/-- `resolveCredential` returns the credential only when there is no `path_nested` left (no early return above that test) -/
theorem fact_resolve_evaluates_path_nested_first : Facts.C12.resolveEvaluatesPathNestedBeforeReturningCredential = true := rfl

/-- `parseJSONArrayEnvelope`: the entry type switch has exactly the cases `string` and `default`, and the loop has no
    `continue` (no entry is skipped) -/
theorem fact_array_envelope_skips_no_entry :
    Facts.C12.arrayEnvelopeSwitchCases = ["string", "default"] ∧ Facts.C12.arrayEnvelopeLoopHasContinue = false := ⟨rfl, rfl⟩

/-- the configuration the model is run with is the repaired one -/
theorem fact_cfg_fixed : Facts.C12.cfg = Cfg.fixed := rfl

/-- JSON schema of a submission requirement: rules `all`/`pick`, `count ≥ 1`, `min ≥ 0`, `max ≥ 0`, closed objects,
    exactly one of `from` / `from_nested` (what `SR.wf` assumes about schema-valid definitions) -/
theorem fact_sr_schema :
    Facts.C12.srSchema.length = 2 ∧
    (∀ b ∈ Facts.C12.srSchema, b.rules = ["all", "pick"] ∧ b.countMin = 1 ∧ b.minMin = 0 ∧ b.maxMin = 0 ∧ b.closed = true) ∧
    Facts.C12.srSchema.map (fun b => (b.hasFrom, b.hasNested, b.required)) =
      [(true, false, ["from", "rule"]), (false, true, ["from_nested", "rule"])] := by
  refine ⟨rfl, ?_, rfl⟩
  decide

/-- the mapping paths the model writes are the ones in the source -/
theorem fact_mapping_paths :
    Facts.C12.mappingPathFormats = ["$.verifiableCredential[%d]"] ∧ Facts.C12.singleMappingPaths = ["$.verifiableCredential"] := ⟨rfl, rfl⟩

/-! ### `pe_total`: no entry point of vcr/pe panics — for every definition (schema-valid or not), wallet, envelope,
    submission, regexp behaviour and credential decoder -/

theorem pe_total_match (re : Regex) (pd : PD) (wallet : List Cred) (site : String) :
    pdMatch Facts.C12.cfg re pd wallet ≠ .panic site :=
  Res.ne_panic_of_isPanic_false (pdMatch_noPanic _ rfl rfl re pd wallet) site

/-- `Build` can only fail on `b.holders[0]`, when no wallet was added (`Validate` never calls it that way) -/
theorem pe_total_build (re : Regex) (pd : PD) (wallets : List (List Cred)) (hne : wallets ≠ []) (site : String) :
    build Facts.C12.cfg re pd wallets ≠ .panic site :=
  Res.ne_panic_of_isPanic_false (build_noPanic _ rfl rfl re pd wallets hne) site

theorem pe_total_validate (re : Regex) (decode : Decoder) (pd : PD) (env : Envelope) (sub : List Mapping) (site : String) :
    validate Facts.C12.cfg re decode pd env sub ≠ .panic site :=
  Res.ne_panic_of_isPanic_false (validate_noPanic _ rfl rfl re decode pd env sub) site

theorem pe_total_resolve_fields (re : Regex) (pd : PD) (credMap : List (String × Cred)) (site : String) :
    resolveFields Facts.C12.cfg re pd [] credMap ≠ .panic site :=
  Res.ne_panic_of_isPanic_false (resolveFields_noPanic _ rfl re pd credMap []) site

/-- `pe_total` also ranges over definitions whose `[]*InputDescriptor` / `[]*SubmissionRequirement` / `from_nested` lists
    hold nil entries (JSON `null` in a definition unmarshalled without schema validation, e.g. a policy file entry under
    a wallet-owner key the mapping schema does not validate): `Match`, `Build`, `CredentialsRequired` and
    `ResolveConstraintsFields` answer with an error (or skip), never a nil dereference -/
theorem pe_total_match_raw (re : Regex) (r : RawPD) (wallet : List Cred) (site : String) :
    pdMatchRaw Facts.C12.cfg re r wallet ≠ .panic site :=
  Res.ne_panic_of_isPanic_false (pdMatchRaw_noPanic _ rfl rfl rfl re r wallet) site

theorem pe_total_build_raw (re : Regex) (r : RawPD) (wallets : List (List Cred)) (hne : wallets ≠ []) (site : String) :
    buildRaw Facts.C12.cfg re r wallets ≠ .panic site :=
  Res.ne_panic_of_isPanic_false (buildRaw_noPanic _ rfl rfl rfl re r wallets hne) site

theorem pe_total_credentials_required_raw (r : RawPD) (site : String) :
    credentialsRequiredRaw Facts.C12.cfg r ≠ .panic site :=
  Res.ne_panic_of_isPanic_false (credentialsRequiredRaw_noPanic _ rfl r) site

theorem pe_total_resolve_fields_raw (re : Regex) (r : RawPD) (credMap : List (String × Cred)) (site : String) :
    resolveFieldsRaw Facts.C12.cfg re r credMap ≠ .panic site :=
  Res.ne_panic_of_isPanic_false (resolveFieldsRaw_noPanic _ rfl rfl re r credMap) site

/-- a nil entry is an error for every wallet (non-vacuity: such definitions exist), and made the old code panic -/
example : (pdMatchRaw Cfg.fixed (fun _ _ => .noMatch) { descs := [none] } []).cls = "err:nil-entry" := by decide
theorem old_code_panics_on_nil_entry :
    (pdMatchRaw Cfg.old (fun _ _ => .noMatch) { descs := [none] } []).cls = "panic:nil-deref" ∧
    (pdMatchRaw Cfg.old (fun _ _ => .noMatch) { descs := [some { id := "d" }], srs := [none] } []).cls = "panic:nil-deref" := by decide

/-! ### `match_sound`: whatever `Match` selects satisfies what it is mapped to -/

/-- For EVERY definition, wallet and regexp behaviour: when `Match` succeeds, the i-th descriptor-map entry is
    `{id of an input descriptor d, format of v, $.verifiableCredential[i]}` where `v` is a credential of the wallet that
    satisfies `d` (every constraint field per `FieldSat`, the definition's and the descriptor's format designations)
    and `v` is (by `vcEqual`) the i-th selected credential; both lists have the same length.
    Without submission requirements the entries are exactly the input descriptors, in order (never a partial map). -/
theorem match_sound (re : Regex) (pd : PD) (wallet : List Cred) (ms : List Mapping) (vcs : List Cred)
    (h : pdMatch Facts.C12.cfg re pd wallet = .ok (ms, vcs)) :
    AlignedBy (MapsTo re pd wallet) 0 ms vcs ∧ (pd.srs = [] → ms.map (·.id) = pd.descs.map (·.id)) := by
  exact pdMatch_sound rfl h

/-- the evaluation of a filter without `enum` (`matchCore`) is sound AND complete against the specification: it reports
    a match exactly for values that match (errors — unsupported value kinds, regexp failures — are neither) -/
theorem filter_sound_and_complete (re : Regex) (ty : String) (c p : Option String) (v : J) :
    (∀ x, matchCore Facts.C12.cfg re ty c p v = .ok (some x) → Matches re ty c p v) ∧
    (matchCore Facts.C12.cfg re ty c p v = .ok none → ¬ Matches re ty c p v) := by
  have := matchCore_spec Facts.C12.cfg rfl re ty c p v
  exact ⟨fun x hx => (this.1 x hx).1, this.2⟩

/-- submission requirements: a requirement that succeeds (schema: `count ≥ 1`) returns a selection (in order, a
    sub-list) of its selectable members — group candidates for `from`, nested results for `from_nested` — whose size
    satisfies the rule: `all` = every member; `pick` = exactly `count`, or between `min` and `max`. -/
theorem match_sound_rules (cands : List Cand) (s : SR) (hc : s.count ≠ some 0) (l : List Cred)
    (h : SR.matchSR Facts.C12.cfg cands s = .ok l) :
    ∃ members, MembersOf Facts.C12.cfg cands s members ∧
      ∃ sel : List (List Cred), sel.Sublist (available members) ∧ l = sel.flatten ∧
        RuleOK s.rule s.count s.min s.max members.length (available members).length sel.length := by
  exact sr_rule_ok _ rfl rfl rfl cands s hc l h

/-- the hypothesis `count ≠ some 0` is what the schema guarantees (`SR.wf` is printed by the model for every accepted
    definition and compared with the schema validator's verdict; bounds fixed by `fact_sr_schema`) -/
theorem wf_count_pos (s : SR) (h : SR.wf s = true) : s.count ≠ some 0 := by
  obtain ⟨name, rule, count, min, max, frm, nested⟩ := s
  unfold SR.wf at h
  simp only [Bool.and_eq_true] at h
  simpa [SR.count] using h.1.1.2

/-- `Match` with submission requirements: every requirement succeeded on the candidates (so `match_sound_rules`
    applies to each), and the selected credentials are the de-duplicated concatenation of their selections -/
theorem match_sound_requirements (re : Regex) (pd : PD) (wallet : List Cred) (ms : List Mapping) (vcs : List Cred)
    (hsr : pd.srs ≠ []) (h : pdMatch Facts.C12.cfg re pd wallet = .ok (ms, vcs)) :
    ∃ cands ls, matchConstraints Facts.C12.cfg re pd wallet pd.descs = .ok cands ∧
      SelectedBy Facts.C12.cfg cands pd.srs ls ∧ vcs = dedup [] ls.flatten :=
  pdMatch_sr_ok Facts.C12.cfg re pd wallet ms vcs hsr h

/-- `Match` with submission requirements fails only because the constraint evaluation failed, an input descriptor
    names a group without requirement, or a requirement failed (`match_complete_or_error_rules` says what that means) -/
theorem match_error_requirements (re : Regex) (pd : PD) (wallet : List Cred) (e : String)
    (hsr : pd.srs ≠ []) (h : pdMatch Facts.C12.cfg re pd wallet = .err e) :
    matchConstraints Facts.C12.cfg re pd wallet pd.descs = .err e ∨
    ∃ cands, matchConstraints Facts.C12.cfg re pd wallet pd.descs = .ok cands ∧
      (e = "group" ∨ ∃ s ∈ pd.srs, SR.matchSR Facts.C12.cfg cands s = .err e) :=
  pdMatch_sr_err Facts.C12.cfg re pd wallet e hsr h

/-! ### `match_complete_or_error`: an error instead of a partial selection, and only when no complete one exists -/

/-- Without submission requirements (a successful match is never partial: `match_sound`): when `Match` fails, either
    the evaluation itself failed (unsupported value kind, regexp or JSONPath error — reported as such), or some input
    descriptor has NO satisfying credential in the wallet. Assumption `hs`: an error ignored by the `enum` loop did not
    hide a match (fails only for an array in which a null/object element precedes the matching string). -/
theorem match_complete_or_error (re : Regex) (pd : PD) (wallet : List Cred)
    (hs : ∀ c ∈ wallet, ∀ p v, getValueAtPath p c.tree = some v → EnumErrorsHideNothing Facts.C12.cfg re v)
    (hsr : pd.srs = []) (e : String) (h : pdMatch Facts.C12.cfg re pd wallet = .err e) :
    (∃ d ∈ pd.descs, ∀ c ∈ wallet, ¬ Satisfies re pd d c) ∨ ∃ e', matchConstraints Facts.C12.cfg re pd wallet pd.descs = .err e' := by
  exact matchBasic_complete _ rfl re pd wallet hs hsr e h

/-- With submission requirements: a requirement that fails is malformed, or NO selection of its members satisfies
    its rule (so the wallet reports missing credentials exactly when no complete selection exists) -/
theorem match_complete_or_error_rules (cands : List Cand) (s : SR) (e : String)
    (h : SR.matchSR Facts.C12.cfg cands s = .err e) :
    (e = "sr-both" ∨ e = "sr-missing" ∨ e = "sr-rule") ∨
    ∃ members, MembersOf Facts.C12.cfg cands s members ∧
      ∀ sel : List (List Cred), sel.Sublist (available members) →
        ¬ RuleOK s.rule s.count s.min s.max members.length (available members).length sel.length := by
  exact sr_error_complete _ cands s e h

/-- a definition that has input descriptors requires credentials, whatever its submission requirements are … -/
theorem credentials_required_of_descriptors (pd : PD) (h : pd.descs ≠ []) : credentialsRequired pd = true := by
  have hgo : ∀ (ss : List SR) (b : Bool), credentialsRequired.go ss = some b → b = true := by
    intro ss
    induction ss with
    | nil => intro b hb; simp [credentialsRequired.go] at hb
    | cons s ss ih =>
      intro b hb
      unfold credentialsRequired.go at hb
      split at hb
      · injection hb with hb; exact hb.symm
      · split at hb
        · split at hb
          · injection hb with hb; exact hb.symm
          · exact ih b hb
        · simp only [Bool.and_false, Bool.false_eq_true, if_false] at hb
          exact ih b hb
  unfold credentialsRequired
  split
  · next b hb => exact hgo _ b hb
  · cases hd : pd.descs with
    | nil => exact absurd hd h
    | cons _ _ => rfl

/-- … so when no wallet holds a complete selection (`Match` fails on each), `Build` reports that instead of returning
    an empty or partial submission, and `Validate` cannot accept an envelope none of whose presentations matches -/
theorem build_reports_missing_credentials (re : Regex) (pd : PD) (wallets : List (List Cred)) (h : pd.descs ≠ [])
    (hno : ∀ w ∈ wallets, ∃ e, pdMatch Facts.C12.cfg re pd w = .err e) :
    build Facts.C12.cfg re pd wallets = .err "nomatch" := by
  have hfw : firstWallet Facts.C12.cfg re pd wallets = .ok none := by
    induction wallets with
    | nil => rfl
    | cons w ws ih =>
      obtain ⟨e, he⟩ := hno w List.mem_cons_self
      unfold firstWallet
      rw [he]
      exact ih (fun w' hw' => hno w' (List.mem_cons_of_mem _ hw'))
  unfold build
  rw [hfw]
  simp [credentials_required_of_descriptors pd h]

theorem validate_rejects_without_complete_selection (re : Regex) (decode : Decoder) (pd : PD) (env : Envelope)
    (sub : List Mapping) (h : pd.descs ≠ [])
    (hno : ∀ w ∈ env.presentations, ∃ e, pdMatch Facts.C12.cfg re pd w = .err e) (m : List (String × Cred)) :
    validate Facts.C12.cfg re decode pd env sub ≠ .ok m := by
  intro hv
  obtain ⟨_, _, hc⟩ := validate_ok hv
  rcases hc with ⟨_, hcr, _⟩ | ⟨_, _, _, _, hb, _⟩
  · rw [credentials_required_of_descriptors pd h] at hcr; cases hcr
  · rw [build_reports_missing_credentials re pd env.presentations h hno] at hb; cases hb

/-! ### `forged_mapping_rejected`: what the verifier accepts -/

/-- If `Validate` accepts a submission for an envelope with at least one presentation (credentials parsed from an
    envelope have a non-empty `Raw()`), then: the returned map `m` is exactly what `Build`/`Match` select on the
    envelope's OWN credentials; no input descriptor is mapped twice; there are as many entries as selected
    descriptors; EVERY entry's path (with its `path_nested` chain) resolves inside the envelope to a credential
    whose `Raw()` equals that of `m[id]`; and every selected descriptor has an entry. -/
theorem forged_mapping_rejected (re : Regex) (decode : Decoder) (pd : PD) (env : Envelope) (sub : List Mapping)
    (m : List (String × Cred))
    (hraw : ∀ p ∈ env.presentations, ∀ c ∈ p, c.raw ≠ "") (hne : env.presentations ≠ [])
    (h : validate Facts.C12.cfg re decode pd env sub = .ok m) :
    ∃ ms vcs, build Facts.C12.cfg re pd env.presentations = .ok (ms, vcs) ∧ expectedMap [] ms vcs = .ok m ∧
      (sub.map (·.id)).Nodup ∧ sub.length = m.length ∧
      (∀ mp ∈ sub, ∃ c e, resolveCredential decode mp env.asInterface = .ok c ∧ alGet m mp.id = some e ∧ e.raw = c.raw) ∧
      (∀ e ∈ m, ∃ mp ∈ sub, mp.id = e.1) := by
  exact validate_spec _ rfl re decode pd env sub m hraw hne h

/-- a `path_nested` is ALWAYS evaluated — also below an entry whose own path already lands on a credential: the result of
    a level with a nested level below it is the result of that nested level on the decoded value's map view (so
    `forged_mapping_rejected`, which speaks about `resolveCredential` of the whole chain, covers forged nested paths) -/
theorem path_nested_always_evaluated (decode : Decoder) (lv nx : Level) (rest : List Level) (v : J) (d : Decoded)
    (h : resolveStep decode lv v = .ok d) :
    resolveLevels decode (nx :: rest) lv v = resolveLevels decode rest nx (match d.asMap with | some m => m | none => .null) := by
  rw [resolveLevels, h]
  rfl

/-- array envelopes: parsing is total and position preserving. If the envelope parses, EVERY presented entry is a
    presentation and the i-th parsed presentation (its `asInterface` element, its credentials) comes from the i-th presented
    entry — so a path `$[i]` of a descriptor map is evaluated on the entry the holder presented at position i; an entry that
    is not a presentation (null, number, boolean, array, empty string/object, ...) at ANY position makes the envelope an error -/
theorem array_envelope_positions_preserved (parseVP : J → Option EntryVP) (l : List J) (r : List EntryVP)
    (h : parseArrayEnvelope parseVP l = .ok r) :
    l.map parseVP = r.map some ∧ (envelopeOfEntries r).presentations.length = l.length ∧
    (envelopeOfEntries r).asInterface = .arr (r.map (·.asInterface)) := by
  have hs := parseArrayEnvelope_spec parseVP l r h
  refine ⟨hs, ?_, rfl⟩
  have := congrArg List.length hs
  simp only [List.length_map] at this
  simp [envelopeOfEntries, this]

theorem array_envelope_junk_entry_rejected (parseVP : J → Option EntryVP) (l : List J) (e : J) (he : e ∈ l)
    (hjunk : parseVP e = none) (r : List EntryVP) : parseArrayEnvelope parseVP l ≠ .ok r :=
  parseArrayEnvelope_junk parseVP l e he hjunk r

theorem pe_total_parse_array_envelope (parseVP : J → Option EntryVP) (l : List J) (site : String) :
    parseArrayEnvelope parseVP l ≠ .panic site :=
  Res.ne_panic_of_isPanic_false (parseArrayEnvelope_noPanic parseVP l) site

example : (parseArrayEnvelope (fun e => match e with | .str _ => some {} | _ => none) [.null, .str "vp"]).cls = "err:envelope" := by decide
example : (parseArrayEnvelope (fun e => match e with | .str _ => some {} | _ => none) [.str "a", .str "vp"]).isOk = true := by decide

/-- corollary (surplus): a descriptor map with two entries for one input descriptor is rejected -/
theorem surplus_entry_rejected (re : Regex) (decode : Decoder) (pd : PD) (env : Envelope) (sub : List Mapping)
    (hraw : ∀ p ∈ env.presentations, ∀ c ∈ p, c.raw ≠ "") (hne : env.presentations ≠ [])
    (hdup : ¬ (sub.map (·.id)).Nodup) (m : List (String × Cred)) :
    validate Facts.C12.cfg re decode pd env sub ≠ .ok m := by
  intro h
  obtain ⟨_, _, _, _, hnd, _⟩ := forged_mapping_rejected re decode pd env sub m hraw hne h
  exact hdup hnd

/-- corollary (forged / permuted / foreign path): an entry that resolves to a credential other than the one
    matching selects for that descriptor — or that does not resolve to a credential at all — is rejected -/
theorem forged_entry_rejected (re : Regex) (decode : Decoder) (pd : PD) (env : Envelope) (sub : List Mapping)
    (hraw : ∀ p ∈ env.presentations, ∀ c ∈ p, c.raw ≠ "") (hne : env.presentations ≠ [])
    (mp : Mapping) (hmp : mp ∈ sub) (m : List (String × Cred))
    (hbad : ∀ c, resolveCredential decode mp env.asInterface = .ok c → ∀ e, alGet m mp.id = some e → e.raw ≠ c.raw) :
    validate Facts.C12.cfg re decode pd env sub ≠ .ok m := by
  intro h
  obtain ⟨_, _, _, _, _, _, hall, _⟩ := forged_mapping_rejected re decode pd env sub m hraw hne h
  obtain ⟨c, e, hc, he, hr⟩ := hall mp hmp
  exact hbad c hc e he hr

/-- corollary (incomplete): a descriptor map that leaves out a descriptor matching selected is rejected -/
theorem incomplete_map_rejected (re : Regex) (decode : Decoder) (pd : PD) (env : Envelope) (sub : List Mapping)
    (hraw : ∀ p ∈ env.presentations, ∀ c ∈ p, c.raw ≠ "") (hne : env.presentations ≠ [])
    (m : List (String × Cred)) (e : String × Cred) (he : e ∈ m) (hmiss : ∀ mp ∈ sub, mp.id ≠ e.1) :
    validate Facts.C12.cfg re decode pd env sub ≠ .ok m := by
  intro h
  obtain ⟨_, _, _, _, _, _, _, hcov⟩ := forged_mapping_rejected re decode pd env sub m hraw hne h
  obtain ⟨mp, hmp, hid⟩ := hcov e he
  exact hmiss mp hmp hid

/-! ### `wallet_verifier_agree` -/

/-- FULL statement (false of the code, see the witness below and known_findings.json): whatever the wallet builds
    from a definition is accepted by the verifier's validation of the same definition. -/
def WalletVerifierAgreeStmt : Prop :=
  ∀ (re : Regex) (decode : Decoder) (pd : PD) (wallet : List Cred) (env : Envelope) (ms : List Mapping) (vcs : List Cred),
    build Facts.C12.cfg re pd [wallet] = .ok (ms, vcs) → env.presentations = [vcs] →
    env.signerOK.any (fun b => !b) = false → (ms.map (·.id)).Nodup → Carries decode env.asInterface ms vcs →
    (validate Facts.C12.cfg re decode pd env ms).isOk = true

/-- PROVED PART: the verifier accepts the wallet's own submission (the descriptor map `Build` wrote, single-mapping
    path rewrite included; envelope = one presentation carrying exactly the selected credentials, each found at the
    path `Build` wrote; input descriptor ids distinct) **provided re-matching the presented credentials reproduces
    the wallet's selection** (`hstable`). Missing for the full statement: `hstable` itself, which fails when a
    presented credential also satisfies another input descriptor (`Validate` documents that assumption). -/
theorem wallet_verifier_agree_partial (re : Regex) (decode : Decoder) (pd : PD) (env : Envelope)
    (ms : List Mapping) (vcs : List Cred)
    (hpres : env.presentations = [vcs]) (hsig : env.signerOK.any (fun b => !b) = false)
    (hstable : pdMatch Facts.C12.cfg re pd vcs = .ok (ms, vcs))
    (hids : (ms.map (·.id)).Nodup)
    (hcar : Carries decode env.asInterface (rewriteSingle ms) vcs) :
    ∃ m, validate Facts.C12.cfg re decode pd env (rewriteSingle ms) = .ok m ∧ expectedMap [] (rewriteSingle ms) vcs = .ok m :=
  validate_own_submission Facts.C12.cfg re decode pd env ms vcs hpres hsig hstable hids hcar

/-- WITNESS that the full statement is false: wallet `[cA, cB]`, `d1` wants `t = "B"`, `d2` accepts anything. The wallet
    maps d1 ↦ cB, d2 ↦ cA and presents `[cB, cA]`; the verifier re-matches `[cB, cA]`, selects cB for d2 as well, and
    rejects the wallet's correct submission ("incorrect mapping"). Replayed on the real code:
    harness/corpus/C12/ambiguous-credential-disagree.jsonl -/
def wA : Cred := { name := "cA", fmt := "jwt_vc", key := "kA", raw := "A", tree := .obj [("t", .str "A")], sigEmpty := true }
def wB : Cred := { name := "cB", fmt := "jwt_vc", key := "kB", raw := "B", tree := .obj [("t", .str "B")], sigEmpty := true }
def wPD : PD :=
  { descs := [{ id := "d1", constraints := some [{ paths := [some { steps := [.key "t"] }], filter := some { type := "string", const := some "B" } }] },
              { id := "d2", constraints := some [] }] }
def wDecode : Decoder := fun v f =>
  match v with
  | .str s => if f == "jwt_vc" then (if s == "A" then some { cred := some wA } else if s == "B" then some { cred := some wB } else none) else none
  | _ => none
def wEnv : Envelope :=
  { asInterface := .obj [("verifiableCredential", .arr [.str "B", .str "A"])], presentations := [[wB, wA]], signerOK := [true] }
def wMs : List Mapping := [mkMapping "d1" "jwt_vc" 0, mkMapping "d2" "jwt_vc" 1]

theorem wallet_verifier_disagree_witness : ¬ WalletVerifierAgreeStmt := by
  intro h
  have := h (fun _ _ => ReRes.noMatch) wDecode wPD [wA, wB] wEnv wMs [wB, wA] (by rw [fact_cfg_fixed]; rfl) rfl (by decide) (by decide)
    ⟨⟨wB, rfl, rfl⟩, ⟨wA, rfl, rfl⟩, trivial⟩
  rw [fact_cfg_fixed] at this
  revert this
  decide

/-! ### `field_values_faithful` -/

/-- every value `ResolveConstraintsFields` reports under a key `k` comes from a credential of the given map, through a
    constraint field with id `k` of the input descriptor that credential is mapped to, and is the value found at
    one of that field's paths, or the regexp's whole match / single capture group on the string found there, or
    nothing for an absent optional field -/
theorem field_values_faithful (re : Regex) (pd : PD) (credMap : List (String × Cred)) (vals : Values)
    (h : resolveFields Facts.C12.cfg re pd [] credMap = .ok vals) : ∀ e ∈ vals, FieldSource re pd credMap e := by
  intro e he
  rcases resolveFields_faithful rfl h e he with h | h
  · cases h
  · exact h

/-- two or more capture groups are an error, never a value -/
theorem two_capture_groups_is_error (re : Regex) (pat s : String) (h : re pat s = .many) :
    patternTail re pat (.str s) = .err "regex-groups" := by
  unfold patternTail; simp [h]

/-! non-vacuity: a definition with a pattern field, a matching wallet, the envelope the wallet would send -/

def reDemo : Regex := fun p s => if p == "^(.*)Credential$" && s == "AlphaCredential" then .cap "Alpha" else .noMatch
def demoTree : J := .obj [("type", .arr [.str "VerifiableCredential", .str "AlphaCredential"]), ("issuer", .str "did:example:issuer")]
def demoCred : Cred := { name := "c0", fmt := "ldp_vc", key := "k0", raw := "r0", tree := demoTree }
def demoDecoy : Cred := { name := "c1", fmt := "ldp_vc", key := "k1", raw := "r1", tree := .obj [("type", .str "Other")] }
def demoPD : PD :=
  { id := "pd", descs := [{ id := "d1", constraints := some [{ id := some "kind", paths := [some { steps := [.key "type"] }],
                                                                filter := some { type := "string", pattern := some "^(.*)Credential$" } }] }] }
def demoEnvJ : J := .obj [("verifiableCredential", .str "EMBEDDED-c0")]
def demoDecode : Decoder := fun v f =>
  match v, f with
  | .str "EMBEDDED-c0", "ldp_vc" => none
  | .str "EMBEDDED-c0", "jwt_vc" => some { cred := some demoCred }
  | _, _ => none
def demoCredJwt : Cred := { demoCred with fmt := "jwt_vc" }
def demoEnv : Envelope := { asInterface := demoEnvJ, presentations := [[demoCredJwt]], signerOK := [true] }
def demoSub : List Mapping := [{ top := { id := "d1", fmt := "jwt_vc", path := some vcPathSingle } }]

example : (pdMatch Cfg.fixed reDemo demoPD [demoDecoy, demoCred]).isOk = true := by decide +kernel
example : (validate Cfg.fixed reDemo demoDecode demoPD demoEnv demoSub).isOk = true := by decide +kernel
example : (validate Cfg.fixed reDemo demoDecode demoPD demoEnv (demoSub ++ demoSub)).cls = "err:resolve" := by decide +kernel
example : (validate Cfg.fixed reDemo demoDecode demoPD demoEnv []).cls = "err:count" := by decide +kernel
/-- corollary: an entry that lands on the selected credential but carries a dangling `path_nested` is rejected -/
example : (validate Cfg.fixed reDemo demoDecode demoPD demoEnv
    [{ top := { id := "d1", fmt := "jwt_vc", path := some vcPathSingle }, nested := [{ id := "d1", fmt := "jwt_vc", path := some { steps := [.key "nope"] } }] }]).cls
    = "err:resolve" := by decide +kernel
example : ((resolveFields Cfg.fixed reDemo demoPD [] [("d1", demoCred)]).isOk = true) := by decide +kernel
example : Matches reDemo "string" none (some "^(.*)Credential$") (.arr [.str "VerifiableCredential", .str "AlphaCredential"]) :=
  .elem _ (.str "AlphaCredential") (by simp) (.str _ rfl trivial ⟨"Alpha", Or.inr (by decide)⟩)

/-! ### The defects of the code before the repairs, as witnesses on the model of the OLD control flow
    (the same inputs are kept in harness/corpus/C12 and replayed on the real code on every run) -/

def reNone : Regex := fun _ _ => .noMatch
def wTree : J := .obj [("credentialSubject", .obj [("tags", .arr [.str "A", .str "B"])])]
def wCred : Cred := { name := "c0", fmt := "ldp_vc", key := "k0", raw := "r0", tree := wTree }
def tagsPath : Path := { steps := [.key "credentialSubject", .key "tags"] }
def wDescPattern : Desc :=
  { id := "d1", constraints := some [{ paths := [some tagsPath], filter := some { type := "string", pattern := some "^x" } }] }
def wDescNumber : Desc :=
  { id := "d1", constraints := some [{ paths := [some tagsPath], filter := some { type := "number" } }] }
def wPick : PD :=
  { descs := [{ id := "d1", group := ["A"], constraints := some [] }], srs := [.mk "" "pick" none (some 1) none "A" []] }

/-- #7a: array value whose elements do not match + `pattern` → `value.(string)` panics -/
theorem old_code_panics_array_pattern :
    (pdMatch Cfg.old reNone { descs := [wDescPattern] } [wCred]).cls = "panic:type-assert" := by decide +kernel
/-- #7b: `{type: number}` "matched" the string array `["A","B"]` -/
theorem old_code_type_only_filter_matches_any_array :
    (pdMatch Cfg.old reNone { descs := [wDescNumber] } [wCred]).isOk = true := by decide
/-- #6: schema-valid `pick` with only `min` dereferences the nil `Max` -/
theorem old_code_panics_pick_min_only :
    (pdMatch Cfg.old reNone wPick [wCred]).cls = "panic:nil-deref" := by decide

/-- duplicate entry: with the old `Resolve` a descriptor map with a shadowed first entry (pointing anywhere) was accepted -/
def demoShadow : List Mapping := { top := { id := "d1", fmt := "jwt_vc", path := some (vcPath 7) } } :: demoSub
theorem old_code_accepts_shadowed_entry :
    (validate Cfg.old reDemo (fun v f => if f == "jwt_vc" then some { cred := some demoCred } else demoDecode v f) demoPD
      { demoEnv with asInterface := .obj [("verifiableCredential", .arr [.str "a", .str "b", .str "c", .str "d", .str "e", .str "f", .str "g", .str "h"])] }
      [{ top := { id := "d1", fmt := "jwt_vc", path := some (vcPath 7) } }, { top := { id := "d1", fmt := "jwt_vc", path := some (vcPath 0) } }]).isOk = true := by decide +kernel

/-- `pick` with `max: 0` selected every selectable member; `min: 2, max: 1` returned one credential -/
def wTwo : List Cand := [({ id := "d1", group := ["A"] }, some wCred), ({ id := "d2", group := ["A"] }, some { wCred with name := "c1", key := "k1" })]
theorem old_code_max_zero_selects_all :
    (match SR.matchSR Cfg.old wTwo (.mk "" "pick" none none (some 0) "A" []) with | .ok l => l.length | _ => 99) = 2 := by decide
theorem old_code_min_above_max_returns_partial :
    (match SR.matchSR Cfg.old wTwo (.mk "" "pick" none (some 2) (some 1) "A" []) with | .ok l => l.length | _ => 99) = 1 := by decide
example : (match SR.matchSR Cfg.fixed wTwo (.mk "" "pick" none none (some 0) "A" []) with | .ok l => l.length | _ => 99) = 0 := by decide
example : (SR.matchSR Cfg.fixed wTwo (.mk "" "pick" none (some 2) (some 1) "A" [])).cls = "err:nocred" := by decide
/-- non-vacuity of `match_sound_rules` / `match_complete_or_error_rules` -/
example : (SR.matchSR Cfg.fixed wTwo (.mk "" "pick" (some 1) none none "A" [])).isOk = true := by decide
example : (SR.matchSR Cfg.fixed wTwo (.mk "" "pick" (some 3) none none "A" [])).cls = "err:nocred" := by decide
/-- non-vacuity of `match_complete_or_error`: values without null/object elements never make the enum loop err -/
example : EnumErrorsHideNothing Cfg.fixed reNone (.arr [.str "A", .str "B"]) := by
  intro e msg h
  exfalso
  by_cases h1 : "A" = e <;> by_cases h2 : "B" = e <;> simp [matchCore, matchAny, filterTail, constOK, h1, h2] at h

/-- non-vacuity of `wallet_verifier_agree_partial`: re-matching the presented credential is stable, the envelope carries it -/
example : pdMatch Cfg.fixed reDemo demoPD [demoCredJwt] = .ok ([mkMapping "d1" "jwt_vc" 0], [demoCredJwt]) := rfl
example : Carries demoDecode demoEnv.asInterface (rewriteSingle [mkMapping "d1" "jwt_vc" 0]) [demoCredJwt] :=
  ⟨⟨demoCred, rfl, rfl⟩, trivial⟩

/-- the repaired control flow on the same inputs -/
example : (pdMatch Cfg.fixed reNone { descs := [wDescPattern] } [wCred]).cls = "err:nocred" := by decide
example : (pdMatch Cfg.fixed reNone { descs := [wDescNumber] } [wCred]).cls = "err:nocred" := by decide
example : (pdMatch Cfg.fixed reNone wPick [wCred]).isOk = true := by decide

end Nuts.C12.Props
