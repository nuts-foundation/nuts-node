/-
  C16 — the NODE layer: definition loading, request routing, the one store with all
  lists, the REST status codes; refinement to the single-list model of `Props/C16.lean` and the end-to-end
  corollaries (configured directory + request -> decision -> every list of the node).
-/
import NutsModel.C16.Node
import NutsModel.C16.Spec
import NutsModel.Facts.C16
import NutsProofs.Lemmas.C16Replica
import NutsProofs.Lemmas.C16Node
import NutsProofs.Props.C16

namespace Nuts.C16.Props
open Nuts Nuts.C16

/-! ### regenerated facts the node model relies on -/

/-- `Wrapper.ResolveStatusCode`: the switch, in source order, and its default -/
theorem fact_status_table :
    Facts.C16.statusTable = [("ErrInvalidPresentation", 400), ("ErrDIDMethodsNotSupported", 400), ("ErrServiceNotFound", 404)] ∧
    Facts.C16.statusDefault = 500 := ⟨rfl, rfl⟩

/-- every `return` of `verifyRegistration` belongs to the check the model names, in the model's order, and the
    ones that join `ErrInvalidPresentation` are exactly these (`aud` and `signer` errors are returned bare);
    `Register` joins it onto "already exists" -/
theorem fact_verify_returns :
    Facts.C16.verifyReturns.map (·.1) = checkOrder ∧
    Facts.C16.verifyReturns.map (·.2) = [true, true, false, true, true, false, true, true, true] ∧
    Facts.C16.registerExistsJoined = true := ⟨rfl, rfl, rfl⟩

/-- `Module.Register` / `Get` test `serverDefinitions` first, then `allDefinitions` (unknown -> ErrServiceNotFound),
    then `cycleDetected`, and only then forward to the definition's endpoint; `Search` only needs a known service -/
theorem fact_routing_order :
    Facts.C16.registerRouting = ["served?", "!isServer", "known?", "!exists", "not-found", "cycle?", "cycle", "forward", "endpoint", "known?"] ∧
    Facts.C16.getRouting = ["served?", "!exists", "known?", "!exists", "not-found", "cycle?", "cycle", "forward", "endpoint"] ∧
    Facts.C16.searchRouting = ["known?", "!exists", "not-found"] := ⟨rfl, rfl, rfl⟩

theorem fact_cycle_detected :
    Facts.C16.cycleDetectedBody = ["host := forwardedHost(ctx)", "if host == \"\"", "return false", "myUri, err := url.Parse(host)",
      "if err != nil", "return false", "targetUri, err := url.Parse(service.Endpoint)", "if err != nil", "return false",
      "return myUri.Host == targetUri.Host"] := rfl

/-- `loadDefinitions(directory)`: skip directories and other suffixes, fail on unreadable / unparsable / duplicate id,
    key = the definition's own id; `Module.loadDefinitions`: empty directory setting and a missing DEFAULT directory
    load nothing, every configured server id must have a definition -/
theorem fact_load_definitions :
    Facts.C16.loadDirShape = ["os.ReadDir", "if err != nil", "if entry.IsDir() || !strings.HasSuffix(entry.Name(), \".json\")", "continue",
      "os.ReadFile", "if err != nil", "ParseServiceDefinition", "if err != nil", "if _, exists := result[definition.ID]; exists",
      "result[definition.ID] = *definition"] ∧
    Facts.C16.definitionSuffix = ".json" ∧
    Facts.C16.moduleLoadShape = ["if m.config.Definitions.Directory == \"\"", "if err != nil",
      "if os.IsNotExist(err) && m.config.Definitions.Directory == DefaultConfig().Definitions.Directory", "if err != nil",
      "if len(m.config.Server.IDs) > 0", "range m.config.Server.IDs", "if service, exists := m.allDefinitions[serviceID]; !exists",
      "serverDefinitions[serviceID] = service", "m.serverDefinitions = serverDefinitions"] ∧
    Facts.C16.defaultDefinitionsDir = "./config/discovery" := ⟨rfl, rfl, rfl, rfl⟩

theorem fact_api_timestamp_default :
    Facts.C16.apiTimestampDefault = ["var timestamp int", "if request.Params.Timestamp != nil", "timestamp = *request.Params.Timestamp"] := rfl

/-- `clientUpdater.update`: one loop over the services, errors joined, no `break` / `continue` / early `return` -/
theorem fact_update_all_shape :
    Facts.C16.updateAllShape = ["range u.services", "if err != nil", "err := u.updateService(ctx, service)",
      "result = errors.Join(result, err)", "return result"] := rfl

/-- one refresh cycle of `Module.update`: own registrations first, then every list is polled, then the pending entries
    are verified again, then revoked ones are purged; no step's failure ends the cycle (no `return` in `do`) -/
theorem fact_update_cycle_order :
    Facts.C16.updateCycleCalls = ["m.registrationManager.refresh", "m.clientUpdater.update", "m.registrationManager.validate",
      "m.registrationManager.removeRevoked"] := rfl

/-! ### `Module.Configure` -/

/-- **configure_sound.** Whenever `Configure` succeeds, either nothing was loaded (no directory configured, or the
    DEFAULT directory does not exist) or the directory was read and: ids are unique, each definition is keyed by its
    own id and comes from an eligible readable parseable file, every eligible file is in, and the served lists are
    exactly the configured ids, each with its definition. -/
theorem configure_sound (isDefFile : String → Bool) (dd : String) (c : NodeCfg) (stat : DirStat) (readDirOk : Bool)
    (entries : List DirEntry) (defs : Defs) (h : configure isDefFile dd c stat readDirOk entries = .ok defs) :
    (defs.all = [] ∧ defs.server = [] ∧ (c.dir = "" ∨ (stat = .absent ∧ c.dir = dd))) ∨
    (c.dir ≠ "" ∧ stat = .present ∧ readDirOk = true ∧ DefsOK isDefFile c entries defs) :=
  (configure_ok h).imp id fun ⟨hd, hs, hr, hl, hsrv⟩ => ⟨hd, hs, hr, defsOK_of_loaded hl hsrv⟩

/-- a served list always has its definition, and that definition's id is the list's id: the zero-value lookup
    `m.allDefinitions[serviceID]` of `Register` cannot happen after a successful `Configure` -/
theorem configure_server_subset (isDefFile : String → Bool) (dd : String) (c : NodeCfg) (stat : DirStat) (readDirOk : Bool)
    (entries : List DirEntry) (defs : Defs) (h : configure isDefFile dd c stat readDirOk entries = .ok defs)
    (k : String) (s : Service) (hk : defs.server.get k = some s) :
    defs.all.get k = some s ∧ s.d.id = k ∧ k ∈ c.serverIds := by
  rcases configure_sound isDefFile dd c stat readDirOk entries defs h with ⟨_, h2, _⟩ | ⟨_, _, _, ok⟩
  · rw [h2, DefMap.get_nil] at hk; cases hk
  · obtain ⟨h1, h2⟩ := ok.served k s hk
    exact ⟨h1, ok.keyId k s h1, h2⟩

/-- a configured server id whose definition is missing makes `Configure` fail (the node does not start) -/
theorem configure_rejects_unknown_server_id (isDefFile : String → Bool) (dd : String) (c : NodeCfg) (readDirOk : Bool)
    (entries : List DirEntry) (defs : Defs) (h : configure isDefFile dd c .present readDirOk entries = .ok defs)
    (hd : c.dir ≠ "") (k : String) (hk : k ∈ c.serverIds) : ∃ s, defs.all.get k = some s ∧ defs.server.get k = some s := by
  rcases configure_sound isDefFile dd c .present readDirOk entries defs h with ⟨_, _, h3⟩ | ⟨_, _, _, ok⟩
  · rcases h3 with h3 | ⟨h3, _⟩
    · exact absurd h3 hd
    · cases h3
  · cases hs : defs.server.get k with
    | none => exact absurd hs (ok.servedAll k hk)
    | some s => exact ⟨s, (ok.served k s hs).1, rfl⟩

/-- the key of a loaded definition is the definition's own id -/
theorem configure_key_id (isDefFile : String → Bool) (dd : String) (c : NodeCfg) (stat : DirStat) (readDirOk : Bool)
    (entries : List DirEntry) (defs : Defs) (h : configure isDefFile dd c stat readDirOk entries = .ok defs)
    (k : String) (s : Service) (hk : defs.all.get k = some s) : s.d.id = k := by
  rcases configure_sound isDefFile dd c stat readDirOk entries defs h with ⟨h1, _, _⟩ | ⟨_, _, _, ok⟩
  · rw [h1, DefMap.get_nil] at hk; cases hk
  · exact ok.keyId k s hk

/-- **route_after_configure.** On a configured node every request is served, forwarded, refused as unknown or as a
    cycle — never the inconsistent case; a served or forwarded request gets the definition whose id IS the requested id. -/
theorem route_after_configure (isDefFile : String → Bool) (dd : String) (c : NodeCfg) (stat : DirStat) (readDirOk : Bool)
    (entries : List DirEntry) (defs : Defs) (h : configure isDefFile dd c stat readDirOk entries = .ok defs)
    (sid : String) (f : Fwd) :
    (∃ s, route defs sid f = .serve s ∧ s.d.id = sid ∧ sid ∈ c.serverIds ∧ defs.all.get sid = some s) ∨
    (∃ s, route defs sid f = .forward s ∧ s.d.id = sid ∧ defs.server.get sid = none ∧ defs.all.get sid = some s ∧ cycleDetected f s = false) ∨
    (route defs sid f = .notFound ∧ defs.all.get sid = none) ∨
    (∃ s, route defs sid f = .cycle ∧ defs.all.get sid = some s ∧ cycleDetected f s = true) := by
  have hsub := configure_server_subset isDefFile dd c stat readDirOk entries defs h
  have hkey := configure_key_id isDefFile dd c stat readDirOk entries defs h
  rcases route_cases defs sid f with ⟨s, x, hsv, hal, hrt⟩ | ⟨x, hsv, hal, _⟩ | ⟨_, hal, hrt⟩ | ⟨s, _, hal, hc, hrt⟩ | ⟨s, hsv, hal, hc, hrt⟩
  · left
    obtain ⟨_, _, h3⟩ := hsub sid x hsv
    exact ⟨s, hrt, hkey sid s hal, h3, hal⟩
  · obtain ⟨h1, _, _⟩ := hsub sid x hsv
    rw [hal] at h1; cases h1
  · right; right; left; exact ⟨hrt, hal⟩
  · right; right; right; exact ⟨s, hrt, hal, hc⟩
  · right; left; exact ⟨s, hrt, hkey sid s hal, hsv, hal, hc⟩

/-! ### the node's one store: refinement to the single-list model, frame, unchanged on refusal -/

/-- **node_register_refines.** A registration the node serves itself is EXACTLY the single-list `register` of
    `Props/C16.lean` on that list (same outcome, same resulting list) — so every theorem about `register` holds for each
    list of a node; the other lists are pruned at `now` when it was accepted and untouched when it was not. -/
theorem node_register_refines (n : Node) (now fresh : Nat) (sid : String) (f : Fwd) (vp : VP) (svc : Service)
    (hr : route n.defs sid f = .serve svc) :
    (n.register now fresh sid f vp).2 = .done (register svc.d (n.stores sid) now fresh vp).2 ∧
    (n.register now fresh sid f vp).1.stores sid = (register svc.d (n.stores sid) now fresh vp).1 ∧
    (n.register now fresh sid f vp).1.defs = n.defs ∧
    ∀ k, k ≠ sid → (n.register now fresh sid f vp).1.stores k =
      if (register svc.d (n.stores sid) now fresh vp).2 = .ok () then (n.stores k).prune now else n.stores k :=
  node_register_served n now fresh sid f vp svc hr

/-- **node_register_frame.** Whatever is submitted to list `sid` — by whom, accepted or not, served or forwarded —
    every OTHER list of the node keeps its seed, timestamp and rows, except that expired rows may be pruned. -/
theorem node_register_frame (n : Node) (now fresh : Nat) (sid : String) (f : Fwd) (vp : VP) (k : String) (hk : k ≠ sid) :
    (n.register now fresh sid f vp).1.stores k = n.stores k ∨
    (n.register now fresh sid f vp).1.stores k = (n.stores k).prune now := by
  rcases route_serve_or n.defs sid f with ⟨s, x, _, _, hrt⟩ | hne
  · obtain ⟨_, _, _, h4⟩ := node_register_served n now fresh sid f vp s hrt
    rw [h4 k hk]
    split
    · exact Or.inr rfl
    · exact Or.inl rfl
  · rw [(node_register_unserved n now fresh sid f vp hne).1]
    exact Or.inl rfl

/-- **node_refusal_changes_nothing.** Unless the registration was accepted on this node, NO list of the node changes
    (refused by a check, already listed, unknown service, forwarding cycle, forwarded to another node). -/
theorem node_refusal_changes_nothing (n : Node) (now fresh : Nat) (sid : String) (f : Fwd) (vp : VP)
    (h : (n.register now fresh sid f vp).2 ≠ .done (.ok ())) (k : String) :
    (n.register now fresh sid f vp).1.stores k = n.stores k := by
  rcases route_serve_or n.defs sid f with ⟨s, x, _, _, hrt⟩ | hne
  · obtain ⟨h1, h2, _, h4⟩ := node_register_served n now fresh sid f vp s hrt
    have hne : (register s.d (n.stores sid) now fresh vp).2 ≠ .ok () := by
      intro e; rw [h1, e] at h; exact h rfl
    by_cases hks : k = sid
    · subst hks
      rw [h2]
      rcases register_cases s.d (n.stores k) now fresh vp with ⟨x, _, ho⟩ | ⟨_, _, _, _, _, _, hreg⟩
      · rw [ho]
      · rw [hreg] at hne; exact absurd rfl hne
    · rw [h4 k hks, if_neg hne]
  · rw [(node_register_unserved n now fresh sid f vp hne).1]

/-- a request for a list this node does not serve never touches the node; it is refused or handed to the endpoint of
    the requested list's OWN definition -/
theorem node_unserved_request (n : Node) (now fresh : Nat) (sid : String) (f : Fwd) (vp : VP)
    (hr : ∀ svc, route n.defs sid f ≠ .serve svc) :
    (n.register now fresh sid f vp).1 = n ∧
    ((n.register now fresh sid f vp).2 = .notFound ∨ (n.register now fresh sid f vp).2 = .cycle ∨
     (n.register now fresh sid f vp).2 = .inconsistent ∨ ∃ s, n.defs.all.get sid = some s ∧
        (n.register now fresh sid f vp).2 = .forwarded s.endpoint) :=
  node_register_unserved n now fresh sid f vp hr

/-! ### every list of a node, over ALL node histories -/

/-- **node_listed_sound.** After ANY history of a node (registrations of arbitrary presentations for arbitrary list
    ids — served, known, unknown —, with arbitrary forwarding headers and verdicts, clock steps, restarts), every row
    of EVERY list `sid` the node holds has the presentation's columns, is addressed to THAT list's definition and
    satisfied that definition's registration predicate at an earlier clock value. -/
theorem node_listed_sound (defs : Defs) (evs : List NEv) (t0 : Nat) (sid : String) (svc : Service)
    (hs : defs.all.get sid = some svc) :
    ∀ r ∈ ((nrun { n := { defs := defs }, t := t0 } evs).n.stores sid).rows,
      RowWF r ∧ svc.d.id ∈ r.vp.aud ∧
      ∃ s now, now ≤ (nrun { n := { defs := defs }, t := t0 } evs).t ∧ Acceptable svc.d .server s now r.vp r.subject r.exp := by
  intro r hr
  have h := (nodeOK_run defs evs _ (nodeOK_init defs t0)).lists sid svc hs
  obtain ⟨s, now, h1, h2⟩ := h.listed r hr
  exact ⟨h.inv.wf r hr, h2.addressed, s, now, h1, h2⟩

/-- **node_lists_wellformed.** …and each list holds at most one row per subject, strictly increasing timestamps
    between 1 and its own service timestamp — although registrations on other lists prune it in between. -/
theorem node_lists_wellformed (defs : Defs) (evs : List NEv) (t0 : Nat) (sid : String) (svc : Service)
    (hs : defs.all.get sid = some svc) :
    let s := (nrun { n := { defs := defs }, t := t0 } evs).n.stores sid
    s.rows.Pairwise (fun a b => a.subject ≠ b.subject) ∧ s.rows.Pairwise (fun a b => a.ts < b.ts) ∧
    ∀ r ∈ s.rows, 1 ≤ r.ts ∧ r.ts ≤ s.lastTs := by
  intro s
  have h := (nodeOK_run defs evs _ (nodeOK_init defs t0)).lists sid svc hs
  exact ⟨h.inv.onePer, h.inv.sorted, h.inv.bound⟩

/-- a list the node does not serve never gets a row through `Register` -/
theorem unserved_lists_stay_empty (defs : Defs) (evs : List NEv) (t0 : Nat) (sid : String)
    (hs : defs.server.get sid = none) :
    ((nrun { n := { defs := defs }, t := t0 } evs).n.stores sid).rows = [] :=
  (nodeOK_run defs evs _ (nodeOK_init defs t0)).unserved sid hs

/-- **configured_node_lists_addressed** (directory + server ids -> every list). On a node whose `Configure` succeeded,
    after any history every row of list `sid` carries `sid` itself in its audience and obeys the maximum validity and
    DID methods that the FILE defining `sid` states. -/
theorem configured_node_lists_addressed (isDefFile : String → Bool) (dd : String) (c : NodeCfg) (stat : DirStat)
    (readDirOk : Bool) (entries : List DirEntry) (defs : Defs)
    (h : configure isDefFile dd c stat readDirOk entries = .ok defs) (evs : List NEv) (t0 : Nat) (sid : String) :
    ∀ r ∈ ((nrun { n := { defs := defs }, t := t0 } evs).n.stores sid).rows,
      sid ∈ c.serverIds ∧ sid ∈ r.vp.aud ∧
      ∃ e ∈ entries, ∃ svc, e.parsed = some svc ∧ svc.d.id = sid ∧ isDefFile e.name = true ∧
        r.exp ≤ (nrun { n := { defs := defs }, t := t0 } evs).t + svc.d.maxValidity ∧
        ∃ m, r.vp.signer = some (r.subject, m) ∧ (svc.d.didMethods = [] ∨ m ∈ svc.d.didMethods) := by
  intro r hr
  cases hsv : defs.server.get sid with
  | none =>
    rw [unserved_lists_stay_empty defs evs t0 sid hsv] at hr; cases hr
  | some svc =>
    obtain ⟨hal, hid, hin⟩ := configure_server_subset isDefFile dd c stat readDirOk entries defs h sid svc hsv
    obtain ⟨_, haud, s, now, hnow, hA⟩ := node_listed_sound defs evs t0 sid svc hal r hr
    rw [hid] at haud
    refine ⟨hin, haud, ?_⟩
    rcases configure_sound isDefFile dd c stat readDirOk entries defs h with ⟨h1, _, _⟩ | ⟨_, _, _, ok⟩
    · rw [h1, DefMap.get_nil] at hal; cases hal
    · obtain ⟨e, he, _, hel, _, hp⟩ := ok.fromFile sid svc hal
      refine ⟨e, he, svc, hp, hid, hel, ?_, hA.signer⟩
      have := hA.within
      omega

/-! ### api/server/api.go -/

/-- the REST status of a registration, with the tables the source has today -/
def factStatus (o : NOut) : Nat :=
  apiRegisterStatus Facts.C16.statusTable Facts.C16.statusDefault Facts.C16.verifyReturns Facts.C16.registerExistsJoined o

/-- the status of a refusal is the default or stands in the table: 201 is neither -/
theorem resolveStatus_ne_201 (k : ErrKind) : resolveStatus Facts.C16.statusTable Facts.C16.statusDefault k ≠ 201 := by
  rcases resolveStatus_mem Facts.C16.statusTable Facts.C16.statusDefault k with h | ⟨p, hp, h⟩ <;> rw [h]
  · decide
  · exact (by decide : ∀ p ∈ Facts.C16.statusTable, p.2 ≠ 201) p hp

/-- 201 is answered exactly for a registration accepted here, or forwarded: what the other node answers is not modelled -/
theorem api_register_201_iff (o : NOut) : factStatus o = 201 ↔ (o = .done (.ok ()) ∨ ∃ ep, o = .forwarded ep) := by
  unfold factStatus apiRegisterStatus
  -- `kind` is `none` exactly for the two outcomes named; every other outcome has a kind, whose status is not 201
  cases o with
  | done r => cases r <;> simp [NOut.kind, resolveStatus_ne_201]
  | _ => simp [NOut.kind, resolveStatus_ne_201]

/-- **api_register_created_iff_acceptable** (request -> status). On a list the node serves, `POST` is answered 201
    exactly when the presentation satisfies the registration predicate of that list and is not listed already. -/
theorem api_register_created_iff_acceptable (n : Node) (now fresh : Nat) (sid : String) (f : Fwd) (vp : VP) (svc : Service)
    (hr : route n.defs sid f = .serve svc) :
    factStatus (n.register now fresh sid f vp).2 = 201 ↔
      ∃ subj e id, Acceptable svc.d .server (n.stores sid) now vp subj e ∧ vp.id = some id ∧ (n.stores sid).hasKey subj id = false := by
  rw [api_register_201_iff, (node_register_served n now fresh sid f vp svc hr).1, ← register_accepts_iff]
  constructor
  · rintro (h | ⟨ep, h⟩)
    · exact NOut.done.inj h
    · cases h
  · intro h; left; rw [h]

/-- the status class of every refusal, as the code is today: every failed check is a 400 except a wrong audience and an
    underivable signer (their errors are returned without `ErrInvalidPresentation`: 500); unknown service 404 -/
theorem refusal_status_codes :
    (∀ e ∈ ["format", "no-id", "no-exp", "too-long", "did-method", "retract-creds", "retract-jti", "retract-unknown",
            "cred-no-id", "cred-exp", "pex-nomatch", "pex-partial", "verify", "exists"], factStatus (.done (.err e)) = 400) ∧
    factStatus (.done (.err "aud")) = 500 ∧ factStatus (.done (.err "signer")) = 500 ∧
    factStatus .notFound = 404 ∧ factStatus .cycle = 500 := by decide +kernel

/-- `GET` without `timestamp` is `GET ?timestamp=0` -/
theorem apiGet_default (n : Node) (sid : String) (f : Fwd) : apiGet n sid f none = apiGet n sid f (some 0) := rfl

/-- the signed `startAfter` of the API agrees with the single-list `rowsAfter` on every non-negative value… -/
theorem rowsAfterInt_ofNat (s : Store) (a : Nat) : s.rowsAfterInt (a : Int) = s.rowsAfter a := by
  unfold Store.rowsAfterInt Store.rowsAfter
  congr 1
  funext r
  simp

/-- …and any non-positive `timestamp` (absent, 0, negative) returns the whole list -/
theorem get_from_nonpositive_returns_all (defs : Defs) (evs : List NEv) (t0 : Nat) (sid : String) (svc : Service)
    (hs : defs.all.get sid = some svc) (a : Int) (ha : a ≤ 0) :
    ((nrun { n := { defs := defs }, t := t0 } evs).n.stores sid).rowsAfterInt a =
      ((nrun { n := { defs := defs }, t := t0 } evs).n.stores sid).rows := by
  have h := (node_lists_wellformed defs evs t0 sid svc hs).2.2
  unfold Store.rowsAfterInt
  rw [List.filter_eq_self]
  intro r hr
  have := (h r hr).1
  simp only [decide_eq_true_eq]
  omega

/-- `Module.Get` on a served list is the single-list read (`get_no_gap` etc. apply), whatever the forwarding header -/
theorem node_get_served (n : Node) (sid : String) (f : Fwd) (a : Nat) (x : Service) (h : n.defs.server.get sid = some x) :
    n.get sid f (a : Int) = .rows ((n.stores sid).rowsAfter a) (n.stores sid).seed (n.stores sid).lastTs := by
  unfold Node.get
  rw [h, rowsAfterInt_ofNat]

/-- every configured service is visited, in order, whatever failed before; only visited services are reported -/
theorem updateAll_no_early_exit {σ : Type} (visit : σ → String → σ × Bool) (l : List String) :
    ∀ st, (updateAll visit st l).1 = l.foldl (fun s k => (visit s k).1) st ∧ ∀ k ∈ (updateAll visit st l).2, k ∈ l := by
  induction l with
  | nil => intro st; exact ⟨rfl, by intro k hk; cases hk⟩
  | cons a l ih =>
    intro st
    obtain ⟨h1, h2⟩ := ih (visit st a).1
    refine ⟨?_, ?_⟩
    · show (updateAll visit (visit st a).1 l).1 = _
      rw [h1]; rfl
    · intro k hk
      have hk' : k ∈ (if (visit st a).2 then (updateAll visit (visit st a).1 l).2 else a :: (updateAll visit (visit st a).1 l).2) := hk
      split at hk'
      · exact List.mem_cons_of_mem _ (h2 k hk')
      · rcases List.mem_cons.mp hk' with h3 | h3
        · rw [h3]; exact List.mem_cons_self
        · exact List.mem_cons_of_mem _ (h2 k h3)

/-! ### client.go `updateService`: the validated flag (a server may hand out anything) -/

/-- the freshly stored row is flagged under exactly one condition: the client's own verifier returned no error -/
theorem fact_validated_only_after_verification :
    Facts.C16.updateValidatedGuard = ["err = u.verifier(service, presentation); err == nil"] := rfl

/-- **client_flags_iff_verified.** For whatever a server hands out: `updateService` stores it and flags it validated
    exactly when the client's OWN `verifyRegistration` (against the replica as it is after storing) accepts it;
    nothing else about the presentation (its type, its credentials) can set the flag. -/
theorem client_flags_iff_verified (d : Def) (now seed ts ctr : Nat) (c c' : Store) (vp : VP) (row : Row) (subj m id : String)
    (hs : vp.signer = some (subj, m)) (hi : vp.id = some id) (hk : c.hasKey subj id = false)
    (h : c.add now vp seed ts (ctr + 1) = (c', .ok row)) :
    (clientLoop d now seed ts c ctr [vp]).1.validated =
      if verify d c' now .client vp = .ok () then row.pk :: c'.validated else c'.validated := by
  have hj : vp.jwt = true := by
    rcases add_cases c now vp seed ts (ctr + 1) with ⟨_, _, _, ha⟩ | ⟨_, _, ha⟩ | ⟨_, _, _, _, _, hj, _⟩
    · exact nomatch ha.symm.trans h
    · exact nomatch ha.symm.trans h
    · exact hj
  simp only [clientLoop, hj, hs, hi, hk, h, Bool.true_eq_false, ↓reduceIte]
  cases hv : verify d c' now .client vp with
  | ok u => simp [Store.setValidated]
  | err e => simp
  | panic p => simp

/-- **retraction_unverifiable_once_stored.** `sqlStore.add` replaces every entry of the signer by the presentation it
    stores, so a retraction — which must name an existing entry of its signer — cannot pass the client's verification
    once it is in the replica, unless it names itself; with credentials it never passes. -/
theorem retraction_unverifiable_once_stored (d : Def) (side : Side) (c c' : Store) (now seed ts fresh : Nat) (vp : VP) (row : Row)
    (h : c.add now vp seed ts fresh = (c', .ok row)) (hr : vp.retraction = true)
    (hj : vp.retractJti ≠ vp.id ∨ vp.creds ≠ []) :
    verify d c' now side vp ≠ .ok () := by
  intro hv
  obtain ⟨subj, e, hA⟩ := (verify_ok_acceptable d side c' now vp).mp hv
  obtain ⟨hcr, j, hj1, _, r, hrm, hrs, hri⟩ := hA.retraction hr
  rcases hj with hj | hj
  · obtain ⟨id, hid⟩ := hA.hasId
    obtain ⟨m, hsig, _⟩ := hA.signer
    rw [add_eq c now vp seed ts fresh subj m id e hsig hid hA.exp hA.jwt hA.credsHaveId] at h
    have hc' := (Prod.mk.inj h).1
    rw [← hc'] at hrm
    rcases mem_addOk.mp hrm with ⟨_, _, hne⟩ | heq
    · exact hne hrs
    · apply hj
      rw [hj1, hid, ← hri, heq]
      rfl
  · exact hj hcr

/-- hence a forged "retraction" (credentials attached, or naming somebody's entry) is never flagged by `updateService` -/
theorem forged_retraction_never_flagged (d : Def) (now seed ts ctr : Nat) (c c' : Store) (vp : VP) (row : Row) (subj m id : String)
    (hs : vp.signer = some (subj, m)) (hi : vp.id = some id) (hk : c.hasKey subj id = false)
    (h : c.add now vp seed ts (ctr + 1) = (c', .ok row)) (hr : vp.retraction = true)
    (hj : vp.retractJti ≠ vp.id ∨ vp.creds ≠ []) :
    (clientLoop d now seed ts c ctr [vp]).1.validated = c'.validated := by
  rw [client_flags_iff_verified d now seed ts ctr c c' vp row subj m id hs hi hk h,
    if_neg (retraction_unverifiable_once_stored d .client c c' now seed ts (ctr + 1) vp row h hr hj)]

/-! ### store.go `search` with a query (`applyQuery`) -/

/-- `applyQuery`'s column map and comparison operators -/
theorem fact_query_columns :
    Facts.C16.queryColumns = [("id", "credential.id"), ("issuer", "credential.issuer"), ("type", "credential.type"),
      ("credentialSubject.id", "credential.subject_id")] ∧
    Facts.C16.queryOps = ["= ?", "is not null", "LIKE ?", "LIKE ?"] ∧
    Facts.C16.queryJoins = ["inner join discovery_credential ON discovery_credential.presentation_id = discovery_presentation.id",
      "inner join credential ON credential.id = discovery_credential.credential_id"] ∧
    Facts.C16.queryConditions = ["if strings.TrimSpace(value) == \"*\"", "if strings.HasPrefix(value, \"*\")", "if strings.HasSuffix(value, \"*\")",
      "if column := propertyColumns[jsonPath]; column != \"\""] := ⟨rfl, rfl, rfl, rfl⟩

/-- a query only ever narrows the plain search: same order, nothing added -/
theorem searchQ_sublist_search (s : Store) (now : Nat) (ix : Row → List CredIx) (cols : List (String × String)) (ci : Bool)
    (q : List (String × String)) : (s.searchQ now ix cols ci q).Sublist (s.search now) :=
  List.filter_sublist

/-- the empty query IS the plain search (no join: presentations without credentials are returned too) -/
theorem searchQ_empty_query (s : Store) (now : Nat) (ix : Row → List CredIx) (cols : List (String × String)) (ci : Bool) :
    s.searchQ now ix cols ci [] = s.search now := by
  unfold Store.searchQ
  rw [List.filter_eq_self]
  intro r _
  rfl

/-- every further term narrows the result; and a hit has ONE credential that fulfils every term -/
theorem searchQ_antitone (s : Store) (now : Nat) (ix : Row → List CredIx) (cols : List (String × String)) (ci : Bool)
    (t : String × String) (q : List (String × String)) :
    (∀ r ∈ s.searchQ now ix cols ci (t :: q), r ∈ s.searchQ now ix cols ci q) ∧
    (∀ r ∈ s.searchQ now ix cols ci (t :: q), ∃ c ∈ ix r, ∀ u ∈ t :: q, termMatch cols ci c u.1 u.2 = true) := by
  refine ⟨?_, ?_⟩
  · intro r hr
    obtain ⟨h1, h2⟩ := List.mem_filter.mp hr
    refine List.mem_filter.mpr ⟨h1, ?_⟩
    simp only [List.isEmpty_cons, Bool.false_or, List.any_eq_true, List.all_cons, Bool.and_eq_true] at h2
    obtain ⟨c, hc, _, hall⟩ := h2
    simp only [Bool.or_eq_true, List.any_eq_true]
    exact Or.inr ⟨c, hc, hall⟩
  · intro r hr
    obtain ⟨_, h2⟩ := List.mem_filter.mp hr
    simp only [List.isEmpty_cons, Bool.false_or, List.any_eq_true, List.all_eq_true] at h2
    obtain ⟨c, hc, hall⟩ := h2
    exact ⟨c, hc, fun u hu => hall u hu⟩

/-- **search_with_query_sound** (query text -> result): after any history, whatever the query, the credential index
    and the collation, `Search(service, query)` on the client returns only unexpired entries whose presentation the
    client's OWN `verifyRegistration` accepted — `search_sound` carried through `applyQuery`. -/
theorem search_with_query_sound (d : Def) (evs : List Ev) (t0 : Nat) (hq : ∀ e ∈ evs, PermOK e)
    (ix : Row → List CredIx) (cols : List (String × String)) (ci : Bool) (q : List (String × String)) :
    let w := run factCfg d { t := t0 } evs
    ∀ r ∈ w.C.searchQ w.t ix cols ci q, w.t < r.exp ∧
      ∃ s now subj e, now ≤ w.t ∧ Acceptable d .client s now r.vp subj e := by
  intro w r hr
  exact search_sound d evs t0 hq r ((searchQ_sublist_search w.C w.t ix cols ci q).subset hr)

/-! ### non-vacuity: a concrete directory, node and history -/

def exSvc (id : String) (max : Nat) : Service :=
  { d := { id := id, maxValidity := max, didMethods := ["example"] }, endpoint := "https://x.example/" ++ id, endpointHost := some "x.example" }
def exIsDef : String → Bool := fun n => n != "README" && n != "notes.txt"
def exEntries : List DirEntry :=
  [{ name := "README" }, { name := "a.json", parsed := some (exSvc "A" 100) }, { name := "b.json", parsed := some (exSvc "B" 50) },
   { name := "sub.json", isDir := true }, { name := "c.json", parsed := some (exSvc "C" 70) }]
def exNodeCfg : NodeCfg := { dir := "/etc/discovery", serverIds := ["A", "B", "A"] }
def exDefs : Defs :=
  { all := [("A", exSvc "A" 100), ("B", exSvc "B" 50), ("C", exSvc "C" 70)], server := [("A", exSvc "A" 100), ("B", exSvc "B" 50)] }

def cfgView : Res Defs → String × List String × List String
  | .ok d => ("ok", d.all.map (·.1), d.server.map (·.1))
  | .err e => (e, [], [])
  | .panic p => (p, [], [])
def routeView : Route → String × String
  | .serve s => ("serve", s.d.id)
  | .forward s => ("forward", s.d.id)
  | .notFound => ("not-found", "")
  | .cycle => ("cycle", "")
  | .inconsistent => ("inconsistent", "")
def getView : GetOut → String × List String × Int
  | .rows rows _ ts => ("rows", rows.map (·.id), ts)
  | .forwarded ep a => ("forwarded", [ep], a)
  | .notFound => ("not-found", [], 0)
  | .cycle => ("cycle", [], 0)

/-- `configure` succeeds on this directory (hypothesis of `configure_sound` & co.) and serves A and B of A, B, C -/
example : cfgView (configure exIsDef "./config/discovery" exNodeCfg .present true exEntries) = ("ok", ["A", "B", "C"], ["A", "B"]) ∨
    cfgView (configure exIsDef "./config/discovery" exNodeCfg .present true exEntries) = ("ok", ["A", "B", "C"], ["B", "A"]) := by decide
/-- each failure class of the loader is reachable -/
example : (cfgView (configure exIsDef "./config/discovery" exNodeCfg .present true (exEntries ++ [{ name := "d.json", parsed := some (exSvc "A" 1) }]))).1 = "duplicate-id" ∧
    (cfgView (configure exIsDef "./config/discovery" exNodeCfg .present true ({ name := "0.json" } :: exEntries))).1 = "parse" ∧
    (cfgView (configure exIsDef "./config/discovery" exNodeCfg .present true ({ name := "0.json", readOk := false } :: exEntries))).1 = "read-file" ∧
    (cfgView (configure exIsDef "./config/discovery" { exNodeCfg with serverIds := ["A", "Z"] } .present true exEntries)).1 = "server-id-unknown" ∧
    (cfgView (configure exIsDef "./config/discovery" exNodeCfg .absent true [])).1 = "stat" ∧
    (cfgView (configure exIsDef "./config/discovery" exNodeCfg .present false [])).1 = "read-dir" ∧
    cfgView (configure exIsDef "./config/discovery" { exNodeCfg with dir := "./config/discovery" } .absent true []) = ("ok", [], []) := by decide +kernel

/-- all four routes are taken -/
example : routeView (route exDefs "A" {}) = ("serve", "A") ∧ routeView (route exDefs "C" {}) = ("forward", "C") ∧
    routeView (route exDefs "C" { header := some "https://x.example", headerHost := some "x.example" }) = ("cycle", "") ∧
    routeView (route exDefs "C" { header := some "x.example", headerHost := some "" }) = ("forward", "C") ∧
    routeView (route exDefs "Z" {}) = ("not-found", "") := by decide

def exNVP (aud subj id : String) (e : Nat) : VP :=
  { id := some id, aud := [aud], exp := some e, signer := some (subj, "example"), pex := .matched 0, verifyS := true, verifyC := true }

/-- a history over two served lists and a forwarded one: rows land on the list they are addressed to, a registration
    on B prunes the expired row of A, requests for C / Z never touch the node -/
def exNodeWorld : NWorld := nrun { n := { defs := exDefs }, t := 10 }
  [.register "A" {} (exNVP "A" "s1" "v1" 40), .register "B" {} (exNVP "A" "s1" "v2" 40), .register "B" {} (exNVP "B" "s1" "v3" 55),
   .register "C" {} (exNVP "C" "s1" "v4" 40), .register "Z" {} (exNVP "Z" "s1" "v5" 40), .tick 35, .register "A" {} (exNVP "A" "s2" "v6" 60),
   .register "B" {} (exNVP "B" "s2" "v7" 60), .restart]
example : (exNodeWorld.n.stores "A").rows.map (fun r => (r.ts, r.subject, r.id)) = [(2, "s2", "v6")] ∧
    (exNodeWorld.n.stores "B").rows.map (fun r => (r.ts, r.subject, r.id)) = [(1, "s1", "v3"), (2, "s2", "v7")] ∧
    (exNodeWorld.n.stores "C").rows = [] ∧ (exNodeWorld.n.stores "Z").rows = [] := by decide
example : (({ defs := exDefs } : Node).register 10 1 "B" {} (exNVP "A" "s1" "v2" 40)).2 = .done (.err "aud") ∧
    (({ defs := exDefs } : Node).register 10 1 "C" {} (exNVP "C" "s1" "v2" 40)).2 = .forwarded "https://x.example/C" ∧
    (({ defs := exDefs } : Node).register 10 1 "Z" {} (exNVP "Z" "s1" "v2" 40)).2 = .notFound ∧
    factStatus (({ defs := exDefs } : Node).register 10 1 "A" {} (exNVP "A" "s1" "v2" 40)).2 = 201 ∧
    factStatus (({ defs := exDefs } : Node).register 10 1 "A" {} (exNVP "A" "s1" "v2" 400)).2 = 400 := by decide +kernel
example : getView (apiGet exNodeWorld.n "B" {} none) = ("rows", ["v3", "v7"], 2) ∧
    getView (apiGet exNodeWorld.n "B" {} (some 1)) = ("rows", ["v7"], 2) ∧
    getView (apiGet exNodeWorld.n "B" {} (some (-5))) = ("rows", ["v3", "v7"], 2) ∧
    getView (apiGet exNodeWorld.n "C" {} (some 7)) = ("forwarded", ["https://x.example/C"], 7) ∧
    getView (apiGet exNodeWorld.n "Z" {} none) = ("not-found", [], 0) := by decide +kernel
/-- `updateAll` reports exactly the failing services and still visits the ones after them -/
example : updateAll (fun (st : List String) k => (st ++ [k], k != "down")) [] ["a", "down", "b"] = (["a", "down", "b"], ["down"]) := by decide

def exForged : VP :=
  { exNVP "A" "s6" "f1" 40 with retraction := true, creds := [{ exp := none }], pex := .matched 1, retractJti := some "f1" }
/-- the hypotheses of `forged_retraction_never_flagged` are met by a forgery whose only flaw is its credentials -/
example : (({ seed := 5, lastTs := 3 } : Store).add 10 exForged 5 3 1).2.isOk = true ∧ exForged.retraction = true ∧ exForged.creds ≠ [] ∧
    (clientLoop (exSvc "A" 100).d 10 5 3 { seed := 5, lastTs := 3 } 0 [exForged]).1.validated = [] ∧
    (clientLoop (exSvc "A" 100).d 10 5 3 { seed := 5, lastTs := 3 } 0 [exForged]).1.rows.length = 1 ∧
    (clientLoop (exSvc "A" 100).d 10 5 3 { seed := 5, lastTs := 3 } 0 [exNVP "A" "s6" "f2" 40]).1.validated = [0] := by decide

/-- the wildcard translation and the same-credential rule on concrete data: issuer and authServerURL sit on DIFFERENT
    credentials, so asking for both finds nothing although each alone does -/
def exCols : List (String × String) := [("id", "credential.id"), ("issuer", "credential.issuer"), ("type", "credential.type"), ("credentialSubject.id", "credential.subject_id")]
def exIx : Row → List CredIx := fun _ =>
  [{ id := "c1", issuer := "did:example:authority", type := some "TestCredential", subjectId := "did:example:s1", props := [("credentialSubject.org", "x")] },
   { id := "c2", issuer := "did:example:s1", type := some "NutsEmployeeCredential", subjectId := "did:example:s1", props := [("credentialSubject.authServerURL", "https://verif.example/oauth2/s1")] }]
def exQStore : Store := (clientLoop (exSvc "A" 100).d 10 5 3 { seed := 5, lastTs := 3 } 0 [exNVP "A" "s6" "f2" 40]).1
example : parseQueryValue "*" = .notNull ∧ parseQueryValue " * " = .notNull ∧ parseQueryValue "a*" = .like ['a', '%'] ∧
    parseQueryValue "*a" = .like ['%', 'a'] ∧ parseQueryValue "*a*" = .like ['%', 'a', '%'] ∧ parseQueryValue "**" = .like ['%', '%'] ∧
    parseQueryValue "a*b" = .eq ['a', '*', 'b'] ∧ parseQueryValue "" = .eq [] := by decide +kernel
example : (exQStore.searchQ 20 exIx exCols true []).length = 1 ∧
    (exQStore.searchQ 20 exIx exCols true [("issuer", "did:example:authority")]).length = 1 ∧
    (exQStore.searchQ 20 exIx exCols true [("credentialSubject.authServerURL", "*/oauth2/*")]).length = 1 ∧
    (exQStore.searchQ 20 exIx exCols true [("issuer", "did:example:authority"), ("credentialSubject.authServerURL", "*")]).length = 0 ∧
    (exQStore.searchQ 20 exIx exCols true [("issuer", "DID:example:*")]).length = 1 ∧
    (exQStore.searchQ 20 exIx exCols false [("issuer", "DID:example:*")]).length = 0 ∧
    (exQStore.searchQ 20 exIx exCols true [("issuer", "DID:example:authority")]).length = 0 ∧
    (exQStore.searchQ 20 exIx exCols true [("credentialSubject.nothing", "*")]).length = 0 ∧
    (exQStore.searchQ 50 exIx exCols true []).length = 0 := by decide +kernel

end Nuts.C16.Props
