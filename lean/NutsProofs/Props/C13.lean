/-
  C13 — subject operations change all DIDs of a subject together or not at all.
  NutsModel/Facts/C13.lean is regenerated from /repo on every run.
-/
import NutsModel.C13.Subject
import NutsModel.Facts.C13
import NutsProofs.Lemmas.C13Keys

namespace Nuts.C13.Props
open Nuts.C13 Nuts

/-- `Rollback` looks at changes older than one minute (`time.Now().Add(-time.Minute)`: the threshold lies in the PAST,
    `updated_at < ?`: `oldChanges` = `ts + threshold < now`);
    the harness's clock steps (25 s / 70 s) and the oracle are written for this value -/
theorem fact_sweep_threshold :
    Facts.C13.sweepThresholdSeconds = 60 ∧ Facts.C13.sweepSelection = "updated_at < ?" ∧
    Facts.C13.sweepThresholdDirection = "past" := ⟨rfl, rfl, rfl⟩

/-- `transactionHelper` = first transaction, then `range r.MethodManagers` calling `Commit` and breaking on the first
    error, then the clean-up transaction: the order `stepOp` models, with the map iteration order as an argument. There is
    NO way out between the commit loop and the clean-up transaction (the only plain `if … return` comes after it): a failed
    Commit is cleaned up at once whatever the reason — also when the request context is cancelled (`failed_commit_restores`;
    skipping the clean-up is the `Fault.stop` behaviour, whose retry-before-the-sweep witness is the first example of the last section) -/
theorem fact_transaction_helper_shape :
    Facts.C13.transactionHelperShape = ["tx", "range:r.MethodManagers:Commit:break", "tx", "if(err != nil):return"] := rfl

/-- both clean-up paths (`transactionHelper` on a failed commit, `Rollback` on an uncommitted transaction) delete the
    version and — for a change that created the DID — the DID row (`deleteUncommittedChange`) -/
theorem fact_rollback_deletes_created_did :
    Facts.C13.rollbackDeletesVersion = true ∧ Facts.C13.rollbackDeletesCreatedDID = true := ⟨rfl, rfl⟩

/-- didnuts `IsCommitted` answers (false, nil) for a DID that was never published -/
theorem fact_nuts_not_found_is_uncommitted : Facts.C13.nutsIsCommittedNotFoundIsUncommitted = true := rfl

/-- didweb `Commit` is `return nil` and `IsCommitted` is `return true, nil` -/
theorem fact_web_commit_cannot_fail :
    Facts.C13.webCommitReturnsNil = true ∧ Facts.C13.webIsCommittedAlwaysTrue = true := ⟨rfl, rfl⟩

/-- `CreateOrUpdate`: `latest := DidDocument{Version: -1}` … `Version: latest.Version + 1` (`nextVersion`) -/
theorem fact_version_is_latest_plus_one :
    Facts.C13.createOrUpdateVersion = ["-1", "latest.Version + 1"] := rfl

/-- the stored rendering of a version (`GenerateDIDDocument`, hashed by `IsCommitted`) and the empty document did:nuts
    publishes for a deactivation (`CreateDocument`, legacy `Deactivate → Update` path) carry the same, unconditional JSON-LD
    contexts: the model's `commitNuts … .deactivated` publishes `Content.empty` and `isCommitted` finds it equal to the
    stored deactivated version -/
theorem fact_deactivation_renders_as_published :
    Facts.C13.generatedDocumentContexts = Facts.C13.nutsEmptyDocumentContexts ∧
    Facts.C13.generatedDocumentContexts = ["did.DIDContextV1URI()", "jsonld.JWS2020ContextV1URI()"] ∧
    Facts.C13.generatedDocumentContextAssignments = 0 ∧ Facts.C13.nutsEmptyDocumentContextAssignments = 0 := ⟨rfl, rfl, rfl, rfl⟩

/-- vdr/vdr.go: `Start` launches `rollbackLoop` (unless did:nuts is disabled); the loop sweeps once at start-up and then on
    a one-minute ticker until shutdown; `Module` does not override `Rollback` (it is the embedded `SqlManager`'s). This is
    the model's "the sweep runs, at the latest one ticker period after the threshold" (`Reach.sweep` is always enabled). -/
theorem fact_rollback_loop_wiring :
    Facts.C13.rollbackLoopShape =
      ["ticker:60", "Rollback", "for", "for/case <-r.ctx.Done()/return", "for/case <-ticker.C/Rollback"] ∧
    Facts.C13.startLaunchesRollbackLoop = true ∧ Facts.C13.startReturnsEarlyWhen = "r.networkAmbassador == nil" ∧
    Facts.C13.moduleOverridesRollback = false := ⟨rfl, rfl, rfl, rfl⟩

/-- vdr/vdr.go `Configure`: the did:nuts manager is registered under "nuts", the did:web manager under "web", and that map
    is what `didsubject.New` gets; `DIDChangeLog.Method` (how `Rollback` picks the manager for `IsCommitted`) is the method
    of the version's DID. The model's `Method` ↦ manager assignment (`commitLoop`, `isCommitted`). -/
theorem fact_method_manager_wiring :
    Facts.C13.methodManagerRegistrations = ["didnuts.MethodName=didnuts.NewManager", "didweb.MethodName=didweb.NewManager"] ∧
    Facts.C13.methodNames = ["nuts", "web"] ∧
    Facts.C13.subjectManagerConstruction = "db,methodManagers,r.keyStore,r.supportedDIDMethods" ∧
    Facts.C13.changeLogMethod = ["parse:d.DIDDocumentVersion.DID.ID", "\"_unknown\"", "id.Method"] := ⟨rfl, rfl, rfl, rfl⟩

/-- did_document.go: "latest" = highest version (`order by version desc`) in both `Latest` (with keys and services preloaded)
    and `CreateOrUpdate`: the head of the model's version stack -/
theorem fact_latest_is_highest_version :
    Facts.C13.latestQuery = ["Order:version desc", "Preload:DID", "Preload:Services", "Preload:VerificationMethods",
      "Where:did = ? AND updated_at <= ?"] ∧
    Facts.C13.createOrUpdateQuery = ["Order:version desc", "Preload:DID", "Where:did = ?"] := ⟨rfl, rfl⟩

/-- manager.go `Create`: the "subject already exists" check (`NewDIDManager(tx).FindBySubject(subject)`) is made INSIDE the
    function literal handed to `transactionHelper`, i.e. in the SQL transaction that inserts the DIDs, and no existence
    check is made outside of it: check and write are one atomic step (`tx1Create`) -/
theorem fact_create_checks_subject_inside_transaction :
    Facts.C13.createChecksSubjectInsideTransaction = true ∧ Facts.C13.createSubjectChecksOutsideTransaction = [] := ⟨rfl, rfl⟩

/-- manager.go `transactionHelper`: the change records are saved with the TRANSACTION handle (`tx.Save(&e)`) inside the
    closure of the first `r.DB.Transaction`, in a loop over `changes`; nothing is saved outside a transaction closure.
    Versions and change records are therefore written by one atomic step (`tx1` returns both; `Fault.inTx1`). -/
theorem fact_change_records_saved_inside_first_transaction :
    Facts.C13.changeLogSavedInsideFirstTransaction = true ∧ Facts.C13.savesOutsideTransaction = [] := ⟨rfl, rfl⟩

/-- did_document.go `CreateOrUpdate` has ONE way out after the lookup of the latest version: `s.tx.Create(&doc)` and
    `return &doc, err` — no branch returns an existing version (no "nothing changed, skip the insert") -/
theorem fact_create_or_update_always_inserts :
    Facts.C13.createOrUpdateReturns = ["if err != nil && !errors.Is(): nil, err", "&doc, err"] ∧
    Facts.C13.createOrUpdateInserts = ["s.tx.Create(&doc)"] := ⟨rfl, rfl⟩

/-- manager.go `Create`: the DID rows are stored by the loop over `sqlDocs` (after the loop over the method managers has
    finished) with `orm.DID{ID: sqlDoc.DID.ID, Subject: subject}` — the FINAL subject name (`storedSubject`) -/
theorem fact_create_stores_final_subject :
    Facts.C13.createStoresDID = "orm.DID{ID: sqlDoc.DID.ID, Subject: subject}" ∧ Facts.C13.createStoresInLoopOver = "sqlDocs" := ⟨rfl, rfl⟩

/-- the configuration the source describes today -/
def cfgNow (methods : List Method) : Cfg :=
  { methods := methods
    threshold := Facts.C13.sweepThresholdSeconds
    notFoundIsUncommitted := Facts.C13.nutsIsCommittedNotFoundIsUncommitted
    rollbackDeletesCreatedDID := Facts.C13.rollbackDeletesCreatedDID
    sweepWholeTx := Facts.C13.sweepLoadsWholeTransaction }

/-- `Rollback` loads all changes of a transaction before it decides (the stamps of one transaction may differ) -/
theorem fact_sweep_handles_whole_transaction : Facts.C13.sweepLoadsWholeTransaction = true := rfl

theorem cfgNow_fixed (ms : List Method) : Fixed (cfgNow ms) :=
  ⟨fact_nuts_not_found_is_uncommitted, fact_rollback_deletes_created_did.2, fact_sweep_handles_whole_transaction⟩

/-! ### The three defects that were repaired (negation witnesses for the code before the `fix:` commits) -/

/-- before 7882721: `IsCommitted` returned the resolver's not-found error -/
def cfgBeforeFixA : Cfg :=
  { methods := [.nuts, .web], threshold := 60, notFoundIsUncommitted := false, rollbackDeletesCreatedDID := true,
    sweepWholeTx := true }

/-- before 4209f73: only the changes that were old themselves were grouped -/
def cfgBeforeFixC : Cfg :=
  { methods := [.nuts, .web], threshold := 60, notFoundIsUncommitted := true, rollbackDeletesCreatedDID := true,
    sweepWholeTx := false }

/-- before fc00979: only the versions were deleted -/
def cfgBeforeFixB : Cfg :=
  { methods := [.nuts, .web], threshold := 60, notFoundIsUncommitted := true, rollbackDeletesCreatedDID := false,
    sweepWholeTx := true }

/-- create; stop before the first Commit; 61 s later the sweep: `IsCommitted` fails with not-found, `Rollback` aborts,
    both change records (and the unpublished documents) stay -/
theorem old_iscommitted_blocks_sweep :
    let w1 := (stepOp cfgBeforeFixA {} (.create "s") [.nuts, .web] (.stop 0)).1
    let r := sweep cfgBeforeFixA id (tick 61 w1)
    r.2 = "err:notfound" ∧ logCount r.1 = 2 ∧ (r.1.dids.map (·.vers.length)) = [1, 1] := by decide

/-- create with a failing did:nuts commit, then the same create again: "subject already exists" (DIDs without documents
    stayed behind) -/
theorem old_rollback_blocks_retry :
    let w1 := (stepOp cfgBeforeFixB {} (.create "s") [.nuts, .web] .failNuts).1
    (w1.dids.map (·.vers.length)) = [0, 0] ∧
    (stepOp cfgBeforeFixB w1 (.create "s") [.nuts, .web] .none).2 = "err:exists" := by decide

/-- add key on a subject with two DIDs, stop before the first Commit; the did:nuts version was stamped 2 s earlier than the
    did:web version (each `CreateOrUpdate` reads the clock); a sweep 61 s after the first stamp: only the did:nuts change
    is old, it is rolled back, the change log of the whole transaction is deleted — the did:web DID keeps the
    uncommitted version (with its never-published key) for good -/
theorem old_sweep_splits_transaction :
    let cfg := cfgBeforeFixC
    let w0 := (stepOp cfg { now := 1000 } (.create "s") [.nuts, .web] .none).1
    let w1 := (stepOp cfg w0 (.addKey "s") [.nuts, .web] (.stop 0)).1
    let w2 := restamp (fun r v => if r.method = .nuts ∧ v.pending.isSome then v.ts - 2 else v.ts) w1
    let w3 := (sweep cfg id (tick 59 w2)).1
    w3.dids.map (fun r => (r.method, r.vers.length)) = [(.nuts, 1), (.web, 2)] ∧ logCount w3 = 0 := by decide

/-- … and with today's code all three scenarios end clean and the retry succeeds -/
example :
    let cfg := cfgNow [.nuts, .web]
    let w0 := (stepOp cfg { now := 1000 } (.create "s") [.nuts, .web] .none).1
    let w1 := (stepOp cfg w0 (.addKey "s") [.nuts, .web] (.stop 0)).1
    let w2 := restamp (fun r v => if r.method = .nuts ∧ v.pending.isSome then v.ts - 2 else v.ts) w1
    let w3 := (sweep cfg id (tick 59 w2)).1
    w3.dids.map (fun r => (r.method, r.vers.length)) = [(.nuts, 1), (.web, 1)] ∧ logCount w3 = 0 := by decide

example :
    let cfg := cfgNow [.nuts, .web]
    let w1 := (stepOp cfg {} (.create "s") [.nuts, .web] (.stop 0)).1
    let r := sweep cfg id (tick 61 w1)
    r.2 = "ok" ∧ r.1.dids = [] ∧ (stepOp cfg r.1 (.create "s") [.web, .nuts] .none).2 = "ok" := by decide

example :
    let cfg := cfgNow [.nuts, .web]
    let w1 := (stepOp cfg {} (.create "s") [.nuts, .web] .failNuts).1
    w1.dids = [] ∧ (stepOp cfg w1 (.create "s") [.nuts, .web] .none).2 = "ok" := by decide

/-! ### The property (for the code as it is now: `Fixed cfg` is discharged by `cfgNow_fixed`)

`Reach cfg w`: `w` is reachable from the empty database by ANY sequence of operations — each with ANY fault
(`Fault.none`, the did:nuts commit fails, the process stops before the k-th Commit call or before the clean-up
transaction), ANY iteration order of the method map —, clock ticks, restamps and sweeps (ANY iteration order of the grouped
transactions), where an operation starts only on a subject without change records (`Clean`, see the assumptions). -/

section
variable {cfg : Cfg}

/-- **all DIDs of a subject move together**: in every reachable world the DIDs of one subject have the same version
    numbers, the same services and the same change records, version by version (whatever their time stamps) -/
theorem uniform_versions (hfix : Fixed cfg) (hms : cfg.methods.Nodup) {w : World} (h : Reach cfg w) :
    ∀ r ∈ w.dids, ∀ r2 ∈ w.dids, r.subject = r2.subject →
      r.vers.map (·.n) = r2.vers.map (·.n) ∧
      r.vers.map (·.c.svcs) = r2.vers.map (·.c.svcs) ∧ r.vers.map (·.pending) = r2.vers.map (·.pending) := by
  intro r hr r2 hr2 hs
  have hsig := (reach_inv hfix hms h).uniform r hr r2 hr2 hs
  have e1 := congrArg (List.map (·.1)) hsig
  have e2 := congrArg (List.map (·.2.1)) hsig
  have e3 := congrArg (List.map (·.2.2)) hsig
  simp only [sig, List.map_map] at e1 e2 e3
  exact ⟨e1, e2, e3⟩

/-- **versions are consecutive**: the versions of every DID are numbered `0 … n-1` without gaps (newest first), every DID
    has at least one version, and only the newest version can carry a change record -/
theorem versions_consecutive (hfix : Fixed cfg) (hms : cfg.methods.Nodup) {w : World} (h : Reach cfg w) :
    ∀ r ∈ w.dids, r.vers.map (·.n) = (List.range r.vers.length).reverse ∧ r.vers ≠ [] ∧
      ∀ v ∈ r.vers.tail, v.pending = none := by
  intro r hr
  have hi := reach_inv hfix hms h
  exact ⟨consec_range _ (hi.consec r hr), hi.noOrphan r hr, hi.topOnly r hr⟩

/-- **versions only grow**: a version without a change record is never deleted — not by an operation (whatever its
    fault), not by a sweep. (Together with `versions_consecutive`: only the uncommitted top can disappear.) -/
theorem versions_consecutive_monotone (hfix : Fixed cfg) (hms : cfg.methods.Nodup) {w : World} (h : Reach cfg w) :
    (∀ r ∈ w.dids, r.vers.map (·.n) = (List.range r.vers.length).reverse) ∧
    (∀ (o : Op) (order : List Method) (f : Fault), Clean w.dids o.subject →
        Keeps w.dids (stepOp cfg w o order f).1.dids) ∧
    (∀ ord : List Nat → List Nat, (∀ l, (ord l).Perm l) → Keeps w.dids (sweep cfg ord w).1.dids) := by
  have hi := reach_inv hfix hms h
  refine ⟨fun r hr => consec_range _ (hi.consec r hr), ?_, ?_⟩
  · intro o order f hc
    exact (stepOp_spec o order f hfix hms hi hc).2
  · intro ord hord
    rw [sweep_settle ord hfix hord hi]
    exact keeps_settle _ hi

/-- **a subject name maps to at most one DID set**: at most one DID per method, and `Create` on a subject that has DIDs
    is rejected without touching anything -/
theorem subject_unique (hfix : Fixed cfg) (hms : cfg.methods.Nodup) {w : World} (h : Reach cfg w) :
    (∀ r ∈ w.dids, ∀ r2 ∈ w.dids, r.subject = r2.subject → r.method = r2.method → r = r2) ∧
    (∀ (s : String) (order : List Method) (f : Fault), (∃ r ∈ w.dids, r.subject = s) →
        stepOp cfg w (.create s) order f = (w, "err:exists")) := by
  have hi := reach_inv hfix hms h
  constructor
  · intro r hr r2 hr2 hs hm
    exact pairwise_ne_inj (List.pairwise_map.mp hi.idsNodup) hr hr2 (hi.oneMethod r hr r2 hr2 hs hm)
  · rintro s order f ⟨r, hr, hs⟩
    exact stepOp_create_taken cfg w s order f (List.any_eq_true.2 ⟨r, hr, decide_eq_true hs⟩)

/-- **the first step is atomic over {versions, change records}**: a DB error or a process stop while the change records
    are being written (any position) leaves the database exactly as it was — no version without a change record exists
    that the sweep could not find -/
theorem first_transaction_is_atomic (w : World) (o : Op) (order : List Method) (k : Nat) {w1 : World} {chs : List Change}
    (ht : tx1 cfg w o = .ok (w1, chs)) (hk : k < chs.length) :
    stepOp cfg w o order (.logFail k) = (w, "err:injected") ∧ stepOp cfg w o order (.logStop k) = (w, "stopped") := by
  unfold stepOp
  rw [ht]
  simp [Fault.inTx1, hk]

/-- its hypotheses are satisfiable: a create on two methods writes two change records -/
example : ∃ w1 chs, tx1 (cfgNow [.nuts, .web]) {} (.create "s") = .ok (w1, chs) ∧ 1 < chs.length := ⟨_, _, rfl, by decide⟩

/-- … and what the change records are for: if the versions were committed WITHOUT their change records (the records
    written after the transaction and lost in a stop), the sweep has nothing to look at — the new version stays in SQL on
    every DID although nothing was published (witness for the non-atomic variant; `pending := none` = record lost) -/
theorem versions_without_change_records_are_never_rolled_back :
    let cfg := cfgNow [.nuts, .web]
    let w0 := (stepOp cfg {} (.create "s") [.nuts, .web] .none).1
    ∃ w1 chs, tx1 cfg w0 (.addSvc "s" "A") = .ok (w1, chs) ∧
      let lost : World := { w1 with dids := w1.dids.map (fun r => { r with vers := r.vers.map (fun v => { v with pending := none }) }) }
      let w2 := (sweep cfg id (tick 61 lost)).1
      w2.dids.map (fun r => r.vers.map (·.c.svcs)) = [[["A"], []], [["A"], []]] ∧
      (pubLatest w2.pub 0).map (·.svcs) = some [] ∧ logCount w2 = 0 := ⟨_, _, rfl, by decide⟩

/-- **a change record names a version written by its own transaction, never an older one**: `CreateOrUpdate` always inserts a
    new row (regenerated fact `fact_create_or_update_always_inserts`), so what the clean-up transaction or the sweep deletes
    for an abandoned operation is never a version that existed before — even when the new version's content equals the
    latest one (deactivating twice, deleting a missing service, …) -/
theorem change_records_name_new_versions (hfix : Fixed cfg) (hms : cfg.methods.Nodup) {w w1 : World} (h : Reach cfg w)
    {o : Op} {chs : List Change} (ht : tx1 cfg w o = .ok (w1, chs)) :
    ∀ ch ∈ chs, ∀ r ∈ w.dids, ∀ v ∈ r.vers, v.row ≠ ch.row := by
  intro ch hch r hr v hv he
  have h1 := (tx1_fresh ht ch hch).2
  have h2 := (reach_inv hfix hms h).rowLt r hr v hv
  omega

/-- non-vacuity and the repeat case: the second deactivation writes version 2 (content = version 1), did:nuts refuses it,
    the clean-up removes version 2 only: versions stay `[1, 0]` on both DIDs, both stay deactivated -/
example :
    let cfg := cfgNow [.nuts, .web]
    let w0 := (stepOp cfg {} (.create "s") [.nuts, .web] .none).1
    let w1 := (stepOp cfg w0 (.deactivate "s") [.nuts, .web] .none).1
    let r := stepOp cfg w1 (.deactivate "s") [.web, .nuts] .none
    r.2 = "err:deactivated" ∧ r.1.dids = w1.dids ∧ w1.dids.map (fun d => d.vers.map (·.n)) = [[1, 0], [1, 0]] := by decide +kernel

/-- **one subject name for all DIDs of a Create, whatever order the method map is visited in** (v1 naming included): every
    stored row carries the same name, and for two visiting orders over the same methods it is the same name -/
theorem subject_naming_order_independent (legacy : Bool) (o1 o2 : List Method) (hperm : o1.Perm o2) (p n : String) (m m' : Method) :
    storedSubject legacy o1 p n m = storedSubject legacy o2 p n m' := by
  unfold storedSubject finalSubject
  have : o1.contains .nuts = o2.contains .nuts := by
    cases h1 : o1.contains .nuts <;> cases h2 : o2.contains .nuts <;> simp_all [hperm.mem_iff]
  rw [this]

/-- … which is NOT so for "the name known when the method is visited": with v1 naming and did:web visited before did:nuts,
    the did:web DID would be stored under the provisional name and the subject would own only its did:nuts DID -/
theorem naming_at_visit_depends_on_order :
    subjectAtVisit true "uuid" "did:nuts:1" [.nuts, .web] .web = "did:nuts:1" ∧
    subjectAtVisit true "uuid" "did:nuts:1" [.web, .nuts] .web = "uuid" ∧
    subjectAtVisit true "uuid" "did:nuts:1" [.web, .nuts] .nuts = "did:nuts:1" ∧
    storedSubject true [.web, .nuts] "uuid" "did:nuts:1" .web = "did:nuts:1" := by decide

/-- **the sweep does not touch young change records**: if no change record is older than the threshold the sweep changes
    nothing (any mode, any order) — in particular a sweep that fires while an operation is IN FLIGHT, at most `threshold`
    seconds after its first transaction and whatever it has published so far, is a no-op: it cannot pull the new versions
    from under a publish that is about to succeed. (This is the step the assumption "no operation stays in flight longer
    than the threshold" is about; beyond the threshold see the last example.) -/
theorem sweep_ignores_young_records (ord : List Nat → List Nat) (hord : ∀ l, (ord l).Perm l) :
    (∀ w : World, (∀ r ∈ w.dids, ∀ v ∈ r.vers, v.pending ≠ none → ¬ (v.ts + cfg.threshold < w.now)) →
        sweep cfg ord w = (w, "ok")) ∧
    (∀ (w0 w1 : World) (o : Op) (chs : List Change), (∀ r ∈ w0.dids, ∀ v ∈ r.vers, v.pending = none) →
        tx1 cfg w0 o = .ok (w1, chs) → ∀ (pub : Nat → List Content) (d : Nat), d ≤ cfg.threshold →
        sweep cfg ord (tick d { w1 with pub := pub }) = (tick d { w1 with pub := pub }, "ok")) :=
  ⟨fun w hy => sweep_young_noop cfg ord hord w hy,
   fun _ _ _ _ hnone ht pub d hd => in_flight_sweep_noop hnone ht pub d hd ord hord⟩

/-- non-vacuity, and the other direction (witness): with the threshold in the FUTURE (`now + 60` instead of `now - 60`, i.e.
    every record counts as old) the in-flight sweep deletes the unpublished versions: modelled by a sweep 61 s "late" -/
example :
    let cfg := cfgNow [.nuts, .web]
    let w0 := (stepOp cfg {} (.create "s") [.nuts, .web] .none).1
    ∃ w1 chs, tx1 cfg w0 (.addKey "s") = .ok (w1, chs) ∧ logCount w1 = 2 ∧
      logCount (sweep cfg id (tick 60 w1)).1 = 2 ∧
      (sweep cfg id (tick 61 w1)).1.dids.map (·.vers.length) = [1, 1] := ⟨_, _, rfl, by decide, by decide, by decide⟩

/-- `Create` = existence check + write in ONE atomic step. Every interleaving of requests whose steps are atomic is a
    sequence of `stepOp`s, so `subject_unique` (over `Reach`) covers any number of concurrent Creates of one name:
    the first to run its transaction wins, the others get "exists". -/
theorem create_check_and_write_are_one_step (w : World) (s : String) :
    tx1Create cfg w s = if subjectExists w s then .err "exists" else .ok (createWrite cfg w s) := rfl

/-- … and atomicity is what it rests on: if the check were made BEFORE the transaction (check-then-act), two requests for
    the same name that both check before either writes would both write: the subject gets two did:nuts and two did:web
    DIDs (witness for the negation; the `did` table has no unique constraint on `subject`) -/
theorem non_atomic_create_breaks_subject_unique :
    let cfg := cfgNow [.nuts, .web]
    let w0 : World := {}
    let check1 := subjectExists w0 "s"          -- request 1 checks
    let check2 := subjectExists w0 "s"          -- request 2 checks before request 1 has written
    let w1 := (createWrite cfg w0 "s").1        -- request 1 writes
    let w2 := (createWrite cfg w1 "s").1        -- request 2 writes
    check1 = false ∧ check2 = false ∧
    (w2.dids.filter (fun r => r.subject = "s")).map (·.method) = [.nuts, .web, .nuts, .web] ∧
    ¬ (∀ r ∈ w2.dids, ∀ r2 ∈ w2.dids, r.subject = r2.subject → r.method = r2.method → r = r2) := by
  refine ⟨by decide, by decide, by decide, ?_⟩
  intro h
  have := h _ (List.mem_cons_self ..) _ (List.mem_cons_of_mem _ (List.mem_cons_of_mem _ (List.mem_cons_self ..))) rfl rfl
  revert this
  decide

/-- **after the sweep no change records remain and every DID shows a version it had before**: in every reachable world
    in which all change records are older than the threshold, the sweep succeeds, leaves no change record, keeps every
    version that had no change record, and every DID that is left is a DID from before that lost at most its newest
    (pending) versions; the result is again uniform per subject -/
theorem all_or_nothing (hfix : Fixed cfg) (hms : cfg.methods.Nodup) {w : World} (h : Reach cfg w)
    (ord : List Nat → List Nat) (hord : ∀ l, (ord l).Perm l)
    (hold : ∀ r ∈ w.dids, ∀ v ∈ r.vers, v.pending ≠ none → v.ts + cfg.threshold < w.now) :
    (sweep cfg ord w).2 = "ok" ∧ logCount (sweep cfg ord w).1 = 0 ∧
    Keeps w.dids (sweep cfg ord w).1.dids ∧ Fate w.dids (sweep cfg ord w).1.dids ∧
    (∀ r ∈ (sweep cfg ord w).1.dids, ∀ r2 ∈ (sweep cfg ord w).1.dids, r.subject = r2.subject → r.vers.length = r2.vers.length) := by
  have hi := reach_inv hfix hms h
  rw [sweep_settle ord hfix hord hi]
  refine ⟨rfl, logCount_zero _ ?_, keeps_settle _ hi, fate_settle _ _ _, ?_⟩
  · intro r hr v hv
    cases hp : v.pending with
    | none => rfl
    | some p =>
      -- a record that is left sits on a row from before and its transaction has no old record: but it is old itself
      obtain ⟨hd, hr0⟩ := settle_pending hi hr hv hp
      have : (oldChanges cfg w).any (fun o => o.tx = p.tx) = true :=
        List.any_eq_true.2 ⟨_, List.mem_filter.2 ⟨(mem_allChanges w _).2 ⟨r, hr0, v, hv, p, hp, rfl⟩,
          by simpa using hold r hr0 v hv (by rw [hp]; simp)⟩, by simp⟩
      simp [sweepVerdict, this] at hd
  · intro r hr r2 hr2 hs
    have := congrArg List.length ((inv_settle hfix _ hi).uniform r hr r2 hr2 hs)
    simpa [sig] using this

/-- **a failed commit is undone at once**: when a Commit fails, the clean-up transaction restores exactly the rows
    from before the operation (no version, no DID, no change record of the attempt is left) -/
theorem failed_commit_restores (hfix : Fixed cfg) (hms : cfg.methods.Nodup) {w : World} (h : Reach cfg w)
    (o : Op) (order : List Method) (f : Fault) (hf : ∀ n, f.inTx1 n = none) (hc : Clean w.dids o.subject)
    {w1 : World} {chs : List Change} {e : String}
    (ht : tx1 cfg w o = .ok (w1, chs)) (hph : (commitLoop f chs order 0 w1.pub).2 = .failed e) :
    (stepOp cfg w o order f).1.dids = w.dids ∧ (stepOp cfg w o order f).2 = "err:" ++ e := by
  have hi := reach_inv hfix hms h
  rw [stepOp_eq_core hf, stepOpCore_failed ht hph]
  exact ⟨(deleteChanges_settle (w := { w1 with pub := _ }) (tx1_inv hms hi hc ht) (tx1_groupOf (w1 := w1) hi ht)).trans (tx1_restore hfix hi ht), rfl⟩

/-- **a stopped operation is resolved by the sweep, for all DIDs together**: in a reachable world without change records,
    an operation whose first transaction committed and whose process then stopped — before whichever Commit call, or
    before the clean-up transaction, having published `pub` so far —, followed by more than `threshold` seconds and the
    sweep: EITHER the rows are exactly those from before the operation (every DID shows its previous version, created
    DIDs are gone), OR every DID keeps the new version, all change records are gone, and the did:nuts network shows
    exactly that version for the did:nuts DID. Whatever the iteration orders. -/
theorem stopped_operation_resolved (hfix : Fixed cfg) (hms : cfg.methods.Nodup) {w0 w1 : World} (h : Reach cfg w0)
    (hnone : ∀ r ∈ w0.dids, ∀ v ∈ r.vers, v.pending = none) {o : Op} {chs : List Change}
    (ht : tx1 cfg w0 o = .ok (w1, chs)) (order : List Method) (k : Nat)
    (hph : (commitLoop (.stop k) chs order 0 w1.pub).2 = .stopped ∨
           ∃ i, (commitLoop (.stop k) chs order 0 w1.pub).2 = .completed i ∧ i ≤ k)
    (d : Nat) (hd : cfg.threshold < d) (ord : List Nat → List Nat) (hord : ∀ l, (ord l).Perm l) :
    let wStop := (stepOp cfg w0 o order (.stop k)).1
    let w2 := (sweep cfg ord (tick d wStop)).1
    (w2.dids = w0.dids ∨
     (w2.dids = wStop.dids.map (clearRow w0.next) ∧
      ∀ r ∈ wStop.dids, ∀ v vs p, r.vers = v :: vs → v.pending = some p → r.method = .nuts →
        pubLatest w2.pub r.id = some v.c)) ∧
    w2.pub = wStop.pub := by
  intro wStop w2
  have hs : wStop = { w1 with pub := (commitLoop (.stop k) chs order 0 w1.pub).1 } := by
    show (stepOp cfg w0 o order (.stop k)).1 = _
    rw [stepOp_eq_core (f := .stop k) (fun _ => rfl)]
    exact stepOpCore_stopped order k ht hph
  have := stopped_then_swept hfix hms (reach_inv hfix hms h) hnone ht (commitLoop (.stop k) chs order 0 w1.pub).1 d hd ord hord
  simp only [w2, hs]
  refine ⟨?_, this.2⟩
  rcases this.1 with hl | ⟨hr1, hr2⟩
  · exact Or.inl hl
  · refine Or.inr ⟨hr1, ?_⟩
    rw [this.2]
    exact hr2

/-- full statement of "keys created for an abandoned version are never published": no document stored or published at
    any later time contains a key that was generated for a version which was deleted -/
def AbandonedKeysNeverPublishedStmt (cfg : Cfg) : Prop :=
  ∀ (w : World) (o : Op) (order : List Method) (f : Fault), Reach cfg w → Clean w.dids o.subject →
    ∀ w', Reach cfg w' → ∀ k, w.next ≤ k → k < 2 * w.next + 2 →
      (∀ r ∈ (stepOp cfg w o order f).1.dids, ∀ v ∈ r.vers, k ∉ v.c.vms) →
      (∀ r ∈ w'.dids, ∀ v ∈ r.vers, k ∉ v.c.vms) ∧ ∀ d, ∀ c ∈ w'.pub d, k ∉ c.vms

/-- **keys created for an abandoned version are not published** (partial). Proved: at the moment the version is
    abandoned, the stored AND the published documents are exactly those from before the attempt — so they contain nothing
    the attempt generated: (1) the did:nuts Commit fails: rows and publications restored by the clean-up transaction;
    (2) the process stops before the first Commit call: publications untouched, and after the sweep either the rows are
    restored or the version was kept (not abandoned). `abandoned_keys_unpublished` extends both to all later worlds.
    Missing for `AbandonedKeysNeverPublishedStmt`: a stop after did:web's (no-op) Commit but before did:nuts's — there
    `stopped_operation_resolved` gives "rows restored or version kept", but that nothing was published up to the stop
    is only proved for a stop before the first call. The correspondence harness checks the statement on every generated
    cut (oracle `abandoned-key-visible`). -/
theorem abandoned_keys_unpublished_partial (hfix : Fixed cfg) (hms : cfg.methods.Nodup) {w w1 : World}
    (h : Reach cfg w) {o : Op} {chs : List Change} (ht : tx1 cfg w o = .ok (w1, chs)) (order : List Method) :
    (∀ e, Clean w.dids o.subject → (commitLoop .failNuts chs order 0 w1.pub).2 = .failed e →
        (stepOp cfg w o order .failNuts).1.dids = w.dids ∧ (stepOp cfg w o order .failNuts).1.pub = w.pub) ∧
    ((∀ r ∈ w.dids, ∀ v ∈ r.vers, v.pending = none) →
      ∀ (d : Nat), cfg.threshold < d → ∀ ord : List Nat → List Nat, (∀ l, (ord l).Perm l) →
        let wStop := (stepOp cfg w o order (.stop 0)).1
        let w2 := (sweep cfg ord (tick d wStop)).1
        w2.pub = w.pub ∧ (w2.dids = w.dids ∨ w2.dids = wStop.dids.map (clearRow w.next))) := by
  have hi := reach_inv hfix hms h
  constructor
  · intro e hc hph
    refine ⟨(failed_commit_restores hfix hms h o order .failNuts (fun _ => rfl) hc ht hph).1, ?_⟩
    rw [stepOp_eq_core (f := .failNuts) (fun _ => rfl), stepOpCore_failed ht hph]
    show (commitLoop .failNuts chs order 0 w1.pub).1 = w.pub
    rw [commitLoop_failNuts_pub, (tx1_cases ht).2.1]
  · intro hnone d hd ord hord wStop w2
    have hcl := commitLoop_stop_self chs 0 w1.pub order
    have hstop : (commitLoop (.stop 0) chs order 0 w1.pub).2 = .stopped ∨
        ∃ i, (commitLoop (.stop 0) chs order 0 w1.pub).2 = .completed i ∧ i ≤ 0 :=
      hcl.imp (congrArg Prod.snd) fun hk => ⟨0, congrArg Prod.snd hk, Nat.le_refl _⟩
    have hres := stopped_operation_resolved hfix hms h hnone ht order 0 hstop d hd ord hord
    have hclean : Clean w.dids o.subject := fun r hr _ v hv => hnone r hr v hv
    have hs : wStop = { w1 with pub := (commitLoop (.stop 0) chs order 0 w1.pub).1 } := by
      show (stepOp cfg w o order (.stop 0)).1 = _
      rw [stepOp_eq_core (f := .stop 0) (fun _ => rfl)]
      exact stepOpCore_stopped order 0 ht hstop
    have hp0 : wStop.pub = w.pub := by
      rw [hs]
      show (commitLoop (.stop 0) chs order 0 w1.pub).1 = w.pub
      rcases hcl with hk | hk <;> rw [hk] <;> exact (tx1_cases ht).2.1
    refine ⟨by rw [← hp0]; exact hres.2, ?_⟩
    rcases hres.1 with hl | ⟨hr, _⟩
    · exact Or.inl hl
    · exact Or.inr hr

/-- **keys created for an abandoned version are never published** — for the two abandonments of (partial) above, at full
    strength in time: after the attempt was undone (`wa`: rows and publications as before the attempt), a key that no
    stored or published document contained before the attempt — in particular every key the attempt generated, ids being
    fresh — is in no stored and no published document of ANY later world (`Steps`: any operations with any faults and
    orders, ticks, sweeps, restamps; no `Clean` premise needed). -/
theorem abandoned_keys_unpublished {w wa : World} (hd : wa.dids = w.dids) (hp : wa.pub = w.pub)
    {k : Nat} (hk : k < wa.next) (hunused : ¬ UsedKey w k) {w' : World} (hsteps : Steps cfg wa w') :
    ¬ UsedKey w' k := by
  intro hu
  have := (steps_keys hsteps).2 k hk hu
  apply hunused
  rcases this with ⟨r, hr, v, hv, hkv⟩ | ⟨d, c, hc, hkc⟩
  · exact Or.inl ⟨r, hd ▸ hr, v, hv, hkv⟩
  · exact Or.inr ⟨d, c, hp ▸ hc, hkc⟩

/-- … and its premises are what `abandoned_keys_unpublished_partial` delivers: the failed attempt generated key
    `w.next + r.id ≥ w.next`, below the new counter; nothing before used it -/
example :
    let cfg := cfgNow [.nuts, .web]
    let w := (stepOp cfg {} (.create "s") [.nuts, .web] .none).1
    let wa := (stepOp cfg w (.addKey "s") [.web, .nuts] .failNuts).1
    wa.dids = w.dids ∧ w.next = 2 ∧ wa.next = 6 ∧ wa.keys = [0, 1, 2, 3] ∧
    (∀ r ∈ w.dids, ∀ v ∈ r.vers, 2 ∉ v.c.vms ∧ 3 ∉ v.c.vms) := by decide

/-- **a repeated attempt can succeed**: whether the first transaction of an operation succeeds depends on the rows only —
    so after `failed_commit_restores` (rows restored) the same operation is enabled exactly as it was -/
theorem retry_enabled {w w' : World} (o : Op) (hd : w'.dids = w.dids) :
    (tx1 cfg w' o).isOk = (tx1 cfg w o).isOk := by
  cases o with
  | create s =>
    have : subjectExists w' s = subjectExists w s := by simp only [subjectExists, hd]
    simp only [tx1, tx1Create, this]
    split <;> rfl
  | _ => exact tx1Update_isOk_congr _ hd

end

/-! non-vacuity: a reachable world with a pending (stopped) update on two DIDs, swept after the threshold -/

def wStopped : World :=
  (stepOp (cfgNow [.nuts, .web])
    (stepOp (cfgNow [.nuts, .web]) {} (.create "s") [.nuts, .web] .none).1 (.addKey "s") [.web, .nuts] (.stop 1)).1

theorem wStopped_reach : Reach (cfgNow [.nuts, .web]) (tick 61 wStopped) := by
  refine Reach.tick 61 (Reach.op _ _ _ (Reach.op _ _ _ Reach.init ?_) ?_)
  · intro r hr; cases hr
  · intro r hr _ v hv
    have : ∀ r ∈ (stepOp (cfgNow [.nuts, .web]) {} (.create "s") [.nuts, .web] .none).1.dids, ∀ v ∈ r.vers, v.pending = none := by decide
    exact this r hr v hv

example : logCount (tick 61 wStopped) = 2 ∧
    (∀ r ∈ (tick 61 wStopped).dids, ∀ v ∈ r.vers, v.pending ≠ none → v.ts + (cfgNow [.nuts, .web]).threshold < (tick 61 wStopped).now) ∧
    ((sweep (cfgNow [.nuts, .web]) id (tick 61 wStopped)).1.dids.map (·.vers.length)) = [1, 1] := by decide

example : ∃ w1 chs e, tx1 (cfgNow [.nuts, .web]) {} (.create "s") = .ok (w1, chs) ∧
    (commitLoop .failNuts chs [.web, .nuts] 0 w1.pub).2 = .failed e := ⟨_, _, _, rfl, rfl⟩

/-- hypotheses of `stopped_operation_resolved` / `abandoned_keys_unpublished_partial` are satisfiable: add-key on a created
    subject, did:web committed first, the process stops before the did:nuts Commit -/
example :
    let cfg := cfgNow [.nuts, .web]
    let w0 := (stepOp cfg {} (.create "s") [.nuts, .web] .none).1
    (∀ r ∈ w0.dids, ∀ v ∈ r.vers, v.pending = none) ∧
    ∃ w1 chs, tx1 cfg w0 (.addKey "s") = .ok (w1, chs) ∧
      (commitLoop (.stop 1) chs [.web, .nuts] 0 w1.pub).2 = .stopped ∧
      (commitLoop .failNuts chs [.web, .nuts] 0 w1.pub).2 = .failed "injected" :=
  ⟨by decide, _, _, rfl, by decide, by decide⟩

/-! ### Schedules the property does not quantify over (documented assumptions; witnesses, NOT claimed)

Both are excluded from `Reach`: the first by its `Clean` premise, the second because an operation is one step. -/

/-- after a stop, a new operation on the same subject BEFORE the sweep builds on the uncommitted version; the sweep then
    removes version 1 from under version 2: versions `[2, 0]`, and service A — whose operation was abandoned — is
    published as part of version 2 -/
example :
    let cfg := cfgNow [.nuts, .web]
    let w0 := (stepOp cfg {} (.create "s") [.nuts, .web] .none).1
    let w1 := (stepOp cfg w0 (.addSvc "s" "A") [.nuts, .web] (.stop 0)).1
    let w2 := (stepOp cfg w1 (.addSvc "s" "B") [.nuts, .web] .none).1
    let w3 := (sweep cfg id (tick 61 w2)).1
    ¬ Clean w1.dids "s" ∧ w3.dids.map (fun r => r.vers.map (·.n)) = [[2, 0], [2, 0]] ∧
    (w3.pub 0).map (·.svcs) = [["A", "B"], []] := by
  refine ⟨?_, by decide, by decide⟩
  intro h
  have := h _ (List.mem_cons_self ..) (by decide) _ (List.mem_cons_self ..)
  revert this
  decide

/-- an operation that stays in flight longer than the sweep threshold: the sweep runs between its first transaction and
    its Commit calls, deletes the (not yet published) versions, and the late Commit still publishes them: the network
    shows service A, the database does not, and nothing records the difference -/
example :
    let cfg := cfgNow [.nuts, .web]
    let w0 := (stepOp cfg {} (.create "s") [.nuts, .web] .none).1
    ∃ w1 chs, tx1 cfg w0 (.addSvc "s" "A") = .ok (w1, chs) ∧
      let w2 := (sweep cfg id (tick 61 w1)).1
      let pub := (commitLoop .none chs [.nuts, .web] 0 w2.pub).1
      let w3 := tx2 cfg { w2 with pub := pub } chs false
      w3.dids.map (fun r => r.vers.map (·.c.svcs)) = [[[]], [[]]] ∧ logCount w3 = 0 ∧
      (pubLatest w3.pub 0).map (·.svcs) = some ["A"] := ⟨_, _, rfl, by decide⟩

end Nuts.C13.Props
