/-
  C16 — Discovery lists hold only verified registrations and clients converge to them.
  Model: NutsModel/C16/Discovery.lean (discovery/module.go, store.go, client.go); statement vocabulary (Acceptable, SInv,
  Reach, IdFun, ExpMono, LiveEq …): NutsModel/C16/Spec.lean.  NutsModel/Facts/C16.lean is regenerated from /repo.
-/
import NutsModel.C16.Discovery
import NutsModel.C16.Spec
import NutsModel.Facts.C16
import NutsProofs.Lemmas.C16Replica

namespace Nuts.C16.Props
open Nuts.C16

/-! ### Obligations on the regenerated facts (a source change flips these) -/

/-- `sqlStore.get` reads the service record (seed, last timestamp) BEFORE the rows; the mirrored order loses entries
    (`get_mirrored_order_unsafe`) -/
theorem fact_get_reads_timestamp_first :
    Facts.C16.getServiceFirst = true ∧ Facts.C16.getReadsBoth = true ∧
    Facts.C16.getRowConditions = ["lamport_timestamp ASC", "service_id = ? AND lamport_timestamp > ?"] := ⟨rfl, rfl, rfl⟩

/-- the checks of `verifyRegistration` / `validateRetraction` / `validateRegistration` and their order are the model's -/
theorem fact_check_order :
    Facts.C16.verifyChecks = checkOrder ∧ Facts.C16.retractionChecks = retractionCheckOrder ∧
    Facts.C16.registrationChecks = registrationCheckOrder ∧
    Facts.C16.registerCalls = ["verifyRegistration", "store.exists", "store.add", "store.updateValidated"] ∧
    Facts.C16.maxValidityComparison = ["time.Until() >"] := ⟨rfl, rfl, rfl, rfl, rfl⟩

/-- `sqlStore.add` prunes, bumps the timestamp by one under the row lock, deletes the subject's previous rows, stores -/
theorem fact_add_deletes_previous :
    Facts.C16.addCalls = ["s.prune", "incrementTimestamp", "setTimestamp", "tx.Delete", "storePresentation"] ∧
    Facts.C16.addDeleteConditions = ["service_id = ? AND credential_subject_id = ?"] ∧
    Facts.C16.incrementExpr = ["service.LastLamportTimestamp + 1"] := ⟨rfl, rfl, rfl⟩

/-- `setTimestamp` stores the timestamp of the response it applies UNCONDITIONALLY (no "keep the maximum" guard): a late,
    older response rolls the replica's timestamp back together with the entries it re-installs, so the next poll heals it
    (`overlapping_polls_heal`); `Store.add` in client mode does the same -/
theorem fact_set_timestamp_unconditional :
    Facts.C16.setTimestampStmts = ["service.ID = serviceID", "service.LastLamportTimestamp = timestamp", "service.Seed = seed"] := rfl

/-- `newSQLStore` (every `Module.Start`) only creates MISSING service records (`FirstOrCreate`): seed and timestamp of a
    list survive a restart of the node, which is why `restartServer` is the identity in the model -/
theorem fact_start_keeps_service_records :
    Facts.C16.newStoreDBCalls = ["db.FirstOrCreate(&currentList, \"id = ?\", definition.ID)"] := rfl

/-- expiry comparisons: prune removes `exp < now`, search hides `exp <= now`, only validated rows are searched -/
theorem fact_expiry_comparisons :
    Facts.C16.pruneConditions = ["presentation_expiration < ?"] ∧
    Facts.C16.searchSkipConditions = ["match.PresentationExpiration <= time.Now().Unix()"] ∧
    Facts.C16.searchValidatedConditions = ["validated != 0"] := ⟨rfl, rfl, rfl⟩

/-- `updateService`: timestamp, Get, wipe on seed change, then per presentation exists → skip, add, verify, flag -/
theorem fact_update_service_shape :
    Facts.C16.updateServiceCalls = ["store.getTimestamp", "client.Get", "store.wipeIfSeedChanged", "store.exists",
      "store.add", "u.verifier", "store.updateValidated"] ∧
    Facts.C16.updateSkipsExisting = true ∧
    Facts.C16.wipeConditions = ["service.Seed != seed && len() > 0"] := ⟨rfl, rfl, rfl⟩

/-! #### edges of the mechanism: sibling functions, wiring, comparison helpers, loop shapes -/

/-- every writer of the service record (timestamp increment / set, wipe) reads it under the row lock, on both SQL dialects -/
theorem fact_service_writers_locked :
    Facts.C16.lockedServiceWriters = ["clause.Locking", "UPDLOCK", "incrementTimestamp", "setTimestamp", "wipeIfSeedChanged"] := rfl

/-- loops that must visit every element do: the credential-expiry loop and the audience loop only leave by returning their
    verdict, `clientUpdater.update` never leaves early (a failing service does not stop the others), `validate` /
    `removeRevoked` only `continue` -/
theorem fact_loops_visit_everything :
    Facts.C16.loopJumps = ["validateRegistration:return errCredentialWithoutID",
      "validateRegistration:return errPresentationValidityExceedsCredentials",
      "validateRegistration:return errPresentationDoesNotFulfillDefinition", "validateAudience:return nil",
      "validate:continue", "validate:continue", "validate:continue", "removeRevoked:continue", "removeRevoked:continue"] := rfl

/-- comparisons are exact: audience by `==`, DID method by `slices.Contains`, credential expiry by `After`; "all and only":
    every presented credential must be among the credentials `Match` used (fix 64fe968; `Match` returns a credential once
    per input descriptor it fulfils, so equal counts proved nothing) -/
theorem fact_comparisons_exact :
    Facts.C16.comparisons = ["aud: audienceID == service.ID",
      "method: len(definition.DIDMethods) > 0 && !slices.Contains(definition.DIDMethods, credentialSubjectID.Method)",
      "registration: cred.ID == nil",
      "registration: cred.ExpirationDate != nil && expiration.After(*cred.ExpirationDate)", "registration: err != nil",
      "registration: !containsCredential(creds, presented)"] := rfl

/-- `storePresentation` checks `credential.ID` before it hands the credential to the credential store, which dereferences
    it (fix e361284): the model's `Store.add` returns `cred-no-id` there and has no panic site for it -/
theorem fact_store_guards_credential_id :
    Facts.C16.storeCredentialGuards = ["if verifiableCredential.ID == nil", "credentialStore.Store", "if err != nil"] := rfl

/-- an entry is identified by (service, signer, presentation id) — everywhere `exists` is asked (`Store.hasKey`) -/
theorem fact_exists_key :
    Facts.C16.existsKey = ["ServiceID=serviceID", "CredentialSubjectID=credentialSubjectID", "PresentationID=presentationID"] ∧
    Facts.C16.existsCalls = ["Register(definition.ID, credentialSubjectID.String(), presentation.ID.String())",
      "validateRetraction(serviceID, signerDID.String(), retractJTI)",
      "updateService(service.ID, credentialSubjectID.String(), presentation.ID.String())"] := ⟨rfl, rfl⟩

/-- background jobs: `validate` flags exactly the records that verified (`clientValidate`); `removeRevoked` deletes only on
    `ErrRevoked` (no revocation in the model: it is the identity there) -/
theorem fact_background_jobs :
    Facts.C16.backgroundJobs = ["presentations[j] = presentations[i]", "updateValidated(presentations[:j])",
      "delete if errors.Is(err, types.ErrRevoked)"] := rfl

/-- wiring: `Start` hands the client updater and the registration manager the module's own `verifyRegistration`, store and
    definitions; `Search` never allows unvalidated rows; the API wrapper and the HTTP client pass service id, timestamp,
    seed, entries through unchanged -/
theorem fact_wiring :
    Facts.C16.wiring = ["newSQLStore(m.storageInstance.GetSQLDatabase(), m.allDefinitions)",
      "newClientUpdater(m.allDefinitions, m.store, m.verifyRegistration, m.httpClient)",
      "newRegistrationManager(m.allDefinitions, m.store, m.httpClient, m.vcrInstance, m.subjectManager, m.didResolver, m.verifyRegistration)",
      "Search: store.search(serviceID, query, false)", "Get: store.get(serviceID, startAfter)",
      "api: Server.Get(contextWithForwardedHost(ctx), request.ServiceID, timestamp)",
      "api: response{Seed: seed, Entries: presentations, Timestamp: newTimestamp}",
      "api: Server.Register(contextWithForwardedHost(ctx), request.ServiceID, *request.Body)",
      "http: query timestamp", "http: return result.Entries, result.Seed, result.Timestamp, nil"] := rfl

/-! ### the list holds only what passed the registration predicate -/

/-- `verifyRegistration` accepts exactly the presentations the property describes (`Acceptable`): sound and complete. -/
theorem verify_iff_acceptable (d : Def) (side : Side) (s : Store) (now : Nat) (vp : VP) :
    verify d s now side vp = .ok () ↔ ∃ subj e, Acceptable d side s now vp subj e :=
  verify_ok_acceptable d side s now vp

/-- **listed_sound.** After ANY history (registrations of arbitrary presentations with arbitrary verdicts, resets,
    clock steps, polls) every row of the server list stems from a presentation that satisfied the registration
    predicate at some earlier clock value against SOME well-formed list, and its columns are the presentation's. (The
    proof supplies the list of that moment; the statement does not say which list, so the one clause that reads the list
    — a retraction names an entry of its signer — is carried by `retraction_needs_owner`, not here.) -/
theorem listed_sound (cfg : Cfg) (d : Def) (evs : List Ev) (t0 : Nat) :
    ∀ r ∈ (run cfg d { t := t0 } evs).S.rows,
      RowWF r ∧ ∃ s now, now ≤ (run cfg d { t := t0 } evs).t ∧ SInv s ∧ Acceptable d .server s now r.vp r.subject r.exp := by
  intro r hr
  have h := serverOK_run cfg d evs { t := t0 } (serverOK_init d t0)
  exact ⟨h.inv.wf r hr, h.listed r hr⟩

/-- **one_live_per_subject.** After any history the list holds at most one row per subject (expired or not). -/
theorem one_live_per_subject (cfg : Cfg) (d : Def) (evs : List Ev) (t0 : Nat) :
    (run cfg d { t := t0 } evs).S.rows.Pairwise (fun a b => a.subject ≠ b.subject) :=
  (serverOK_run cfg d evs { t := t0 } (serverOK_init d t0)).inv.onePer

/-- **timestamps_strict.** After any history the rows' timestamps are strictly increasing, at least 1 and at most the
    service timestamp; an accepted registration gets the service timestamp + 1 (above every row), a rejected one
    changes nothing; no step other than a reset lowers the service timestamp. -/
theorem timestamps_strict (cfg : Cfg) (d : Def) (evs : List Ev) (t0 : Nat) :
    let w := run cfg d { t := t0 } evs
    w.S.rows.Pairwise (fun a b => a.ts < b.ts) ∧ (∀ r ∈ w.S.rows, 1 ≤ r.ts ∧ r.ts ≤ w.S.lastTs) ∧
    (∀ vp fresh, fresh ≠ 0 →
      ((register d w.S w.t fresh vp).2 = .ok () →
          (register d w.S w.t fresh vp).1.lastTs = w.S.lastTs + 1 ∧
          (∃ r ∈ (register d w.S w.t fresh vp).1.rows, r.ts = w.S.lastTs + 1 ∧ r.vp = vp) ∧
          ∀ r ∈ w.S.rows, r.ts < w.S.lastTs + 1) ∧
      ((register d w.S w.t fresh vp).2 ≠ .ok () → (register d w.S w.t fresh vp).1 = w.S)) ∧
    (∀ e, (step cfg d w e).1.S.lastTs ≥ w.S.lastTs ∨ (step cfg d w e).1.S = {}) := by
  intro w
  have h := serverOK_run cfg d evs { t := t0 } (serverOK_init d t0)
  refine ⟨h.inv.sorted, h.inv.bound, ?_, ?_⟩
  · intro vp fresh _
    rcases register_cases d w.S w.t fresh vp with ⟨x, _, ho⟩ | ⟨subj, e, id, hA, hid, _, hreg⟩
    · rw [ho]; exact ⟨fun h => (nomatch h), fun _ => rfl⟩
    · rw [hreg]
      refine ⟨fun _ => ⟨rfl, ⟨(addOk w.S w.t vp subj id e (if w.S.seed = 0 then fresh else w.S.seed) (w.S.lastTs + 1)).2,
        mem_addOk.mpr (Or.inr rfl), rfl, rfl⟩, fun r hr => ?_⟩, fun h => absurd rfl h⟩
      have hb : r.ts ≤ w.S.lastTs := (h.inv.bound r hr).2
      exact Nat.lt_succ_of_le hb
  · intro e
    rcases step_server cfg d w e with ⟨hS, _⟩ | ⟨hS, _⟩ | ⟨vp, hS, _⟩
    · left; rw [hS]; exact Nat.le_refl _
    · right; exact hS
    · left
      rw [hS]
      rcases register_cases d w.S w.t (w.ctr + 1) vp with ⟨x, _, ho⟩ | ⟨subj, e, id, _, _, _, hreg⟩
      · rw [ho]; exact Nat.le_refl _
      · rw [hreg]; show w.S.lastTs + 1 ≥ w.S.lastTs; omega

/-- **retraction_needs_owner.** A retraction is accepted only if the list holds an entry with the retracted id whose
    subject is the retraction's (verified) signer; and whatever a signer submits — accepted or not — the entries of
    every OTHER subject stay (only expired ones may be pruned); a rejected submission changes nothing at all. -/
theorem retraction_needs_owner (d : Def) (s : Store) (now fresh : Nat) (vp : VP) :
    (vp.retraction = true → (register d s now fresh vp).2 = .ok () →
      ∃ subj m j, vp.signer = some (subj, m) ∧ vp.retractJti = some j ∧ vp.verifyS = true ∧
        ∃ r ∈ s.rows, r.subject = subj ∧ r.id = j) ∧
    (∀ subj m, vp.signer = some (subj, m) →
      ∀ r ∈ s.rows, r.subject ≠ subj → ¬ r.exp < now → r ∈ (register d s now fresh vp).1.rows) ∧
    ((register d s now fresh vp).2 ≠ .ok () → (register d s now fresh vp).1 = s) := by
  rcases register_cases d s now fresh vp with ⟨x, _, ho⟩ | ⟨subj, e, id, hA, hid, _, hreg⟩
  · rw [ho]
    exact ⟨fun _ h => (nomatch h), fun _ _ _ r hr _ _ => hr, fun _ => rfl⟩
  · rw [hreg]
    obtain ⟨m, hsig, _⟩ := hA.signer
    refine ⟨fun hr _ => ?_, fun subj' m' hs' r hr hne hexp => ?_, fun h => absurd rfl h⟩
    · obtain ⟨_, j, hj, _, hrow⟩ := hA.retraction hr
      exact ⟨subj, m, j, hsig, hj, hA.verifiable, hrow⟩
    · rw [hsig] at hs'
      cases hs'
      show r ∈ (addOk s now vp subj id e (if s.seed = 0 then fresh else s.seed) (s.lastTs + 1)).1.rows
      exact mem_addOk.mpr (Or.inl ⟨hr, hexp, hne⟩)

/-! ### non-vacuity: concrete presentations that are accepted / rejected by the model -/

def exDef : Def := { id := "svc", maxValidity := 100, didMethods := ["example"] }
def exVP (subj id : String) (e : Nat) : VP :=
  { id := some id, aud := ["svc"], exp := some e, signer := some (subj, "example"), creds := [{ exp := some (e + 5) }, { exp := none }],
    pex := .matched 2, verifyS := true, verifyC := true }
def exRetract (subj id jti : String) (e : Nat) : VP :=
  { id := some id, aud := ["svc"], exp := some e, signer := some (subj, "example"), retraction := true, retractJti := some jti,
    verifyS := true, verifyC := true }
def exCfg : Cfg := { serviceFirst := true, restartOnWipe := true }

/-- two subjects register, one refreshes, the owner retracts: 2 rows, timestamps 3 and 4 -/
example : ((run exCfg exDef { t := 10 } [.register (exVP "a" "v1" 50), .register (exVP "b" "v2" 60), .register (exVP "a" "v3" 70),
    .register (exRetract "b" "v4" "v2" 60)]).S.rows.map (fun r => (r.ts, r.subject, r.id))) = [(3, "a", "v3"), (4, "b", "v4")] := by decide
/-- a retraction by another signer is rejected and changes nothing -/
example : (register exDef (run exCfg exDef { t := 10 } [.register (exVP "a" "v1" 50)]).S 10 7 (exRetract "b" "v4" "v1" 60)).2
    = .err "retract-unknown" := by decide
/-- a presentation that outlives a credential is rejected -/
example : (register exDef {} 10 1 { exVP "a" "v1" 50 with creds := [{ exp := some 40 }, { exp := none }] }).2 = .err "cred-exp" := by decide


/-! ### the replica -/

/-- `updateService` returns right after a seed change wiped the replica (fix 305f8e3, 7847ccc): the next poll starts at 0 -/
theorem fact_restart_after_wipe : Facts.C16.restartAfterWipe = true := rfl

/-- the model instantiated with what the source says today -/
def factCfg : Cfg := { serviceFirst := Facts.C16.getServiceFirst, restartOnWipe := Facts.C16.restartAfterWipe }

theorem factCfg_serviceFirst : factCfg.serviceFirst = true := fact_get_reads_timestamp_first.1
theorem factCfg_restartOnWipe : factCfg.restartOnWipe = true := fact_restart_after_wipe

/-- **get_no_gap.** In every world reachable by an admissible history — registrations, refreshes, retractions, clock
    steps and resets interleaved in any way with the two reads of `get` (`pollA`, `pollB`) and the replica's update —
    a replica that carries the list's seed has a timestamp not above the list's, and holds EVERY live server row at or
    below its timestamp: asking for "everything after my timestamp" never skips an entry. (Rows above the returned
    timestamp may be delivered early; `poll_idempotent_on_duplicates` makes that harmless.) -/
theorem get_no_gap (d : Def) (K : VP → Prop) (hK : IdFun K) (w : World) (hw : Reach factCfg d K w)
    (hseed : w.C.seed = w.S.seed) :
    w.C.lastTs ≤ w.S.lastTs ∧
    ∀ r ∈ w.S.rows, r.ts ≤ w.C.lastTs → w.t < r.exp → ∃ c ∈ w.C.rows, c.subject = r.subject ∧ c.id = r.id := by
  have h := winv_reach hK factCfg factCfg_serviceFirst factCfg_restartOnWipe d hw
  exact ⟨(h.sync hseed).1, (h.sync hseed).2.1⟩

/-- and every live replica row is still listed, or its subject has a newer entry above the replica's timestamp -/
theorem replica_rows_accounted (d : Def) (K : VP → Prop) (hK : IdFun K) (w : World) (hw : Reach factCfg d K w)
    (hseed : w.C.seed = w.S.seed) :
    ∀ c ∈ w.C.rows, w.t < c.exp →
      (∃ r ∈ w.S.rows, r.subject = c.subject ∧ r.id = c.id) ∨
      (∃ r ∈ w.S.rows, r.subject = c.subject ∧ w.C.lastTs < r.ts ∧ c.exp ≤ r.exp) :=
  (((winv_reach hK factCfg factCfg_serviceFirst factCfg_restartOnWipe d hw).sync hseed).2.2)

/-- **poll_idempotent_on_duplicates.** A response all of whose presentations the replica already holds is skipped
    entirely: the replica (rows, seed, timestamp, flags) is unchanged. -/
theorem poll_idempotent_on_duplicates (d : Def) (now seed ts : Nat) (c : Store) (ctr : Nat) (resp : List VP)
    (h : ∀ vp ∈ resp, ∃ subj id e, VPWF vp subj id e ∧ c.hasKey subj id = true) :
    clientLoop d now seed ts c ctr resp = (c, ctr, .ok ()) := by
  induction resp with
  | nil => rfl
  | cons vp rest ih =>
    obtain ⟨subj, id, e, hv, hk⟩ := h vp List.mem_cons_self
    rw [clientLoop_cons d now seed ts c ctr vp rest subj id e hv, clientIter_skip hk]
    exact ih fun v hv' => h v (List.mem_cons_of_mem _ hv')

/-- **replica_converges** (proved under `IdFun` and `ExpMono`, see `replica_convergesStmt`). For every admissible
    history — any interleaving of registrations (valid, defective, refreshes, retractions), clock steps, resets, the two
    reads of `get`, replica updates in any map iteration order, background validation — two polls that start after the
    last server event leave the replica with exactly the list's live set (and one suffices when the replica already
    carries the list's seed or none). The server side does not change meanwhile. -/
theorem replica_converges_partial (d : Def) (K : VP → Prop) (hK : IdFun K) (w : World) (hw : Reach factCfg d K w)
    (p1 p2 : List VP → List VP) (hp1 : ∀ l, (p1 l).Perm l) (hp2 : ∀ l, (p2 l).Perm l) :
    let w2 := poll factCfg d (poll factCfg d w p1) p2
    w2.S = w.S ∧ w2.t = w.t ∧ LiveEq w2.S w2.C w2.t ∧ w2.C.seed = w2.S.seed := by
  have h := winv_reach hK factCfg factCfg_serviceFirst factCfg_restartOnWipe d hw
  obtain ⟨a, b, c, e⟩ := converge_two hK factCfg factCfg_serviceFirst factCfg_restartOnWipe d w p1 p2 hp1 hp2 hw.serverOK.inv hw.seedsBounded h
  refine ⟨a, b, ?_, ?_⟩
  · rw [a, b]; exact c
  · rw [a]; exact e

theorem replica_converges_same_seed (d : Def) (K : VP → Prop) (hK : IdFun K) (w : World) (hw : Reach factCfg d K w)
    (p : List VP → List VP) (hp : ∀ l, (p l).Perm l) (hseed : w.C.seed = w.S.seed ∨ w.C.seed = 0) :
    LiveEq w.S (poll factCfg d w p).C w.t ∧ (poll factCfg d w p).S = w.S ∧ (poll factCfg d w p).t = w.t ∧
    (poll factCfg d w p).C.seed = w.S.seed := by
  have h := winv_reach hK factCfg factCfg_serviceFirst factCfg_restartOnWipe d hw
  obtain ⟨a, b, c, e⟩ := converge_one hK factCfg factCfg_serviceFirst factCfg_restartOnWipe d w p hp hw.serverOK.inv h hseed
  exact ⟨c, a, b, e⟩

/-- **reset_restarts.** A poll that meets another seed than the replica's leaves the replica EMPTY with timestamp 0
    and the new seed, whatever the response contained; the next `get` therefore asks for everything after 0. -/
theorem reset_restarts (d : Def) (w : World) (perm : List VP → List VP) (h1 : w.C.seed ≠ w.S.seed) (h2 : w.C.seed ≠ 0) :
    (poll factCfg d w perm).C.rows = [] ∧ (poll factCfg d w perm).C.lastTs = 0 ∧ (poll factCfg d w perm).C.seed = w.S.seed ∧
    ((step factCfg d (poll factCfg d w perm) .pollA).1.pending.map (·.after)) = some 0 := by
  obtain ⟨a, _, _⟩ := poll_wipes factCfg factCfg_serviceFirst factCfg_restartOnWipe d w perm h1 h2
  refine ⟨by rw [a], by rw [a], by rw [a], ?_⟩
  simp only [step, a, Option.map_some]
  split <;> rfl

/-- Search returns only rows that have not expired and that the client's OWN `verifyRegistration` accepted at an earlier
    clock value — after ANY history: a faulty or hostile server, either read order of `get`, restart or not after a
    wipe, overlapping polls, any iteration order (not only a permutation) of the response. -/
theorem search_sound_any_history (cfg : Cfg) (d : Def) (evs : List Ev) (t0 : Nat) :
    let w := run cfg d { t := t0 } evs
    ∀ r ∈ w.C.search w.t, w.t < r.exp ∧
      ∃ s now subj e, now ≤ w.t ∧ Acceptable d .client s now r.vp subj e := by
  intro w r hr
  have h : CV d w.t w.C := run_inv cfg d (fun w => CV d w.t w.C) (cv_step cfg d) evs { t := t0 } (cv_empty d t0)
  have hm := List.mem_filter.mp hr
  have hv : w.C.isValidated r = true ∧ ¬ r.exp ≤ w.t := by
    have := hm.2
    simp only [Bool.and_eq_true, Bool.not_eq_true', decide_eq_false_iff_not] at this
    exact this
  refine ⟨by omega, ?_⟩
  obtain ⟨s, now, h1, h2⟩ := h.ver r hm.1 hv.1
  obtain ⟨subj, e, hA⟩ := (verify_ok_acceptable d .client s now r.vp).mp h2
  exact ⟨s, now, subj, e, h1, hA⟩

/-- **search_sound.** After any history (map iteration orders being permutations) the client's search returns only
    rows that have not expired and whose presentation the client's OWN `verifyRegistration` accepted at an earlier
    clock value — i.e. that satisfied the registration predicate with the client's own `VerifyVP` verdict. -/
theorem search_sound (d : Def) (evs : List Ev) (t0 : Nat) (hq : ∀ e ∈ evs, PermOK e) :
    let w := run factCfg d { t := t0 } evs
    ∀ r ∈ w.C.search w.t, w.t < r.exp ∧
      ∃ s now subj e, now ≤ w.t ∧ Acceptable d .client s now r.vp subj e :=
  search_sound_any_history factCfg d evs t0


/-- the full-strength statement: no side condition on the order of a subject's expiry times or on id reuse -/
def replica_convergesStmt : Prop :=
  ∀ (d : Def) (evs : List Ev) (t0 : Nat), (∀ e ∈ evs, PermOK e) →
    let w := run factCfg d { t := t0 } evs
    let w2 := poll factCfg d (poll factCfg d w id) id
    LiveEq w2.S w2.C w2.t

/-- history: `a` registers v1 (exp 100); the client polls; `a` refreshes with the SHORTER-lived v2 (exp 20), which deletes v1
    on the server; v2 expires (clock 30); `b` registers v3, whose `add` prunes v2; the client polls twice -/
def staleHistory : List Ev :=
  [.register (exVP "a" "v1" 100), .pollA, .pollB id, .register (exVP "a" "v2" 20), .tick 20, .register (exVP "b" "v3" 110)]

theorem replica_converges_full_false : ¬ replica_convergesStmt := by
  intro h
  have h1 := h exDef staleHistory 10 (by
    intro e he
    simp only [staleHistory, List.mem_cons, List.mem_nil_iff, or_false] at he
    rcases he with rfl | rfl | rfl | rfl | rfl | rfl <;> first | trivial | (intro l; exact List.Perm.refl _))
  have h2 := (h1 ("a", "v1")).mpr (by decide)
  revert h2
  decide


/-- `ExpMono` is needed: the counterexample replayed on the real code is harness/corpus/C16/03-*.jsonl (open finding) -/
theorem staleHistory_violates_only_expMono :
    ¬ ExpMono exDef (run factCfg exDef { t := 10 } (staleHistory.take 3)) (exVP "a" "v2" 20) := by
  intro h
  have := h (by decide) "a" "example" 20 rfl rfl
    ((run factCfg exDef { t := 10 } (staleHistory.take 3)).S.rows.head (by decide)) (by decide) (by decide)
  revert this
  decide

/-- `IdFun` is needed: a signer that re-uses a presentation id for a DIFFERENT presentation (v1 again, now expiring at 200)
    makes the replica skip it as a duplicate; once the old one (exp 100) has expired the live sets differ for good -/
theorem id_reuse_diverges :
    let w := run factCfg exDef { t := 10 }
      [.register (exVP "a" "v1" 100), .pollA, .pollB id, .register (exVP "a" "v2" 100), .register (exVP "a" "v1" 105), .tick 92]
    let w2 := poll factCfg exDef (poll factCfg exDef w id) id
    ("a", "v1") ∈ w2.S.liveKeys w2.t ∧ ("a", "v1") ∉ w2.C.liveKeys w2.t := by decide

/-- **the read order of `get` matters.** With the mirrored order (rows first, then seed/timestamp) a registration between
    the two reads is lost for good: the replica ends with the list's seed AND timestamp but without the entry. -/
def mirroredCfg : Cfg := { serviceFirst := false, restartOnWipe := true }
theorem get_mirrored_order_unsafe :
    let w := run mirroredCfg exDef { t := 10 } [.register (exVP "a" "v1" 100), .pollA, .register (exVP "a" "v2" 105), .pollB id]
    let w2 := poll mirroredCfg exDef (poll mirroredCfg exDef w id) id
    ("a", "v2") ∈ w2.S.liveKeys w2.t ∧ ("a", "v2") ∉ w2.C.liveKeys w2.t ∧ w2.C.seed = w2.S.seed ∧ w2.C.lastTs = w2.S.lastTs := by
  decide

/-- **starting over after a seed change matters** (the defect repaired by 305f8e3): applying the response after the wipe
    loses the new list's entries at or below the old timestamp for good -/
def unfixedCfg : Cfg := { serviceFirst := true, restartOnWipe := false }
theorem seed_change_partial_response_unsafe :
    let w := run unfixedCfg exDef { t := 10 }
      [.register (exVP "a" "v1" 100), .pollA, .pollB id, .reset, .register (exVP "a" "v2" 100), .register (exVP "b" "v3" 100)]
    let w2 := poll unfixedCfg exDef (poll unfixedCfg exDef w id) id
    ("a", "v2") ∈ w2.S.liveKeys w2.t ∧ ("a", "v2") ∉ w2.C.liveKeys w2.t ∧ w2.C.seed = w2.S.seed := by
  decide


/-! ### overlapping polls of one client (`updateService` is not serialised) — outside `Reach`, shown by witnesses -/

/-- two overlapping polls, the older response applied last after a refresh: the replica re-installs the superseded entry
    but rolls its timestamp back with it, so the following polls heal it -/
theorem overlapping_polls_heal :
    let w := run factCfg exDef { t := 10 }
      [.register (exVP "a" "v1" 100), .dpollStart, .register (exVP "a" "v2" 105), .pollA, .pollB id, .dpollFinish 0 id]
    let w2 := poll factCfg exDef (poll factCfg exDef w id) id
    w.C.rows.map (·.id) = ["v1"] ∧ w.C.lastTs = 1 ∧ w2.C.rows.map (·.id) = ["v2"] ∧ w2.C.lastTs = 2 := by decide

/-- but two poller threads are enough to lose an entry for good: thread 1's response A is slow; thread 2 completes poll B,
    then starts poll C (answered by the server) BEFORE A is applied and applies C AFTER it: A rolls the timestamp back to 1,
    C moves it to 3 without delivering the entry at 2 -/
theorem overlapping_polls_can_diverge :
    let w := run factCfg exDef { t := 10 }
      [.register (exVP "a" "v1" 100), .dpollStart, .register (exVP "a" "v2" 105), .pollA, .pollB id,
       .register (exVP "b" "v3" 100), .dpollStart, .dpollFinish 0 id, .dpollFinish 0 id]
    let w2 := poll factCfg exDef (poll factCfg exDef w id) id
    ("a", "v2") ∈ w2.S.liveKeys w2.t ∧ ("a", "v2") ∉ w2.C.liveKeys w2.t ∧ ("a", "v1") ∈ w2.C.liveKeys w2.t ∧
    w2.C.seed = w2.S.seed ∧ w2.C.lastTs = w2.S.lastTs := by decide

/-- one slow response is NOT harmless when the replica is wiped (seed change) while it is in flight: it was requested relative
    to the old copy's timestamp and is applied to the fresh one -/
theorem overlapping_poll_across_wipe_diverges :
    let w := run factCfg exDef { t := 10 }
      [.register (exVP "a" "v1" 100), .pollA, .pollB id, .reset, .register (exVP "b" "v2" 100), .register (exVP "a" "v3" 105),
       .dpollStart, .pollA, .pollB id, .dpollFinish 0 id]
    let w2 := poll factCfg exDef (poll factCfg exDef w id) id
    ("b", "v2") ∈ w2.S.liveKeys w2.t ∧ ("b", "v2") ∉ w2.C.liveKeys w2.t ∧ w2.C.seed = w2.S.seed ∧ w2.C.lastTs = w2.S.lastTs := by decide

/-- a restart of the serving node changes nothing that is persistent (list, seed, timestamp, replica); a restart of the client
    node only drops polls in progress. Both are admissible events of `Reach`, so every replica theorem holds across restarts:
    timestamps stay strictly increasing and the seed stays the same. -/
theorem restart_is_identity (cfg : Cfg) (d : Def) (w : World) :
    (step cfg d w .restartServer).1 = w ∧
    (step cfg d w .restartClient).1.S = w.S ∧ (step cfg d w .restartClient).1.C = w.C ∧ (step cfg d w .restartClient).1.t = w.t ∧
    (step cfg d w .restartClient).1.pending = none ∧ EvOK (fun _ => True) d w .restartServer ∧ EvOK (fun _ => True) d w .restartClient :=
  ⟨rfl, rfl, rfl, rfl, rfl, trivial, trivial⟩

/-! ### totality -/

/-- `Register` accepts exactly when the registration predicate holds and the same presentation is not listed already -/
theorem register_accepts_iff (d : Def) (s : Store) (now fresh : Nat) (vp : VP) :
    (register d s now fresh vp).2 = .ok () ↔
      ∃ subj e id, Acceptable d .server s now vp subj e ∧ vp.id = some id ∧ s.hasKey subj id = false := by
  constructor
  · intro h
    rcases register_cases d s now fresh vp with ⟨x, _, hx⟩ | ⟨subj, e, id, hA, hid, hk, _⟩
    · rw [hx] at h; exact nomatch h
    · exact ⟨subj, e, id, hA, hid, hk⟩
  · rintro ⟨subj, e, id, hA, hid, hk⟩
    rcases register_cases d s now fresh vp with ⟨x, hv | ⟨subj', m', id', hs', hi', hk'⟩, _⟩ | ⟨_, _, _, _, _, _, hreg⟩
    · exact nomatch hv.symm.trans ((verify_ok_acceptable d .server s now vp).mpr ⟨subj, e, hA⟩)
    · obtain ⟨m, hsig, _⟩ := hA.signer
      cases hsig.symm.trans hs'; cases hid.symm.trans hi'
      exact nomatch hk.symm.trans hk'
    · rw [hreg]

/-- `Register` never panics, whatever is submitted (every dereference sits behind the check that guards it) -/
theorem register_never_panics (d : Def) (s : Store) (now fresh : Nat) (vp : VP) (p : String) :
    (register d s now fresh vp).2 ≠ .panic p := by
  rcases register_cases d s now fresh vp with ⟨x, _, hx⟩ | ⟨_, _, _, _, _, _, hreg⟩
  · rw [hx]; exact fun h => nomatch h
  · rw [hreg]; exact fun h => nomatch h

/-- against the real server, in every reachable world, the replica's update ends without error or panic (the
    `presentation.ID` dereferences in `updateService` / `storePresentation` are safe because the server lists only
    presentations with an id, an expiry and a signer) -/
theorem poll_never_fails (d : Def) (K : VP → Prop) (hK : IdFun K) (w : World) (hw : Reach factCfg d K w)
    (perm : List VP → List VP) (hperm : ∀ l, (perm l).Perm l) (p : Pending) (hp : w.pending = some p) :
    (step factCfg d w (.pollB perm)).2 = .ok () :=
  pollB_ok factCfg factCfg_serviceFirst d w perm hperm hw.serverOK.inv p hp

/-- a presentation holding a credential WITHOUT id (an optional member of the data model) is refused before anything is
    stored, whatever the other verdicts say — by `Register` on the server, and by `sqlStore.add` itself (a client stores what
    a server hands out BEFORE verifying it): no row, and an error, not a panic — except that `add` still panics on a
    presentation without id or not in JWT form, which it dereferences before it looks at the credentials -/
theorem credential_without_id_refused (d : Def) (s : Store) (now seed ts fresh : Nat) (vp : VP)
    (h : vp.creds.any (fun c => !c.hasId) = true) :
    (∀ p, (s.add now vp seed ts fresh).2 ≠ .panic p ∨ vp.id = none ∨ vp.jwt = false) ∧
    (s.add now vp seed ts fresh).2 ≠ .ok (Inhabited.default) ∧
    (∀ row, (s.add now vp seed ts fresh).2 ≠ .ok row) ∧
    (register d s now fresh vp).2 ≠ .ok () ∧ (register d s now fresh vp).1 = s ∧ ∀ p, (register d s now fresh vp).2 ≠ .panic p := by
  have hreg : (register d s now fresh vp).2 ≠ .ok () := fun hok => by
    obtain ⟨subj, e, id, hA, _, _⟩ := (register_accepts_iff d s now fresh vp).mp hok
    rw [hA.credsHaveId] at h
    cases h
  have hadd : (∀ p, (s.add now vp seed ts fresh).2 ≠ .panic p ∨ vp.id = none ∨ vp.jwt = false) ∧
      ∀ row, (s.add now vp seed ts fresh).2 ≠ .ok row := by
    rcases add_cases s now vp seed ts fresh with ⟨_, _, _, h1⟩ | ⟨_, hq, h1⟩ | ⟨_, _, _, _, _, _, hc, _⟩
    · rw [h1]; exact ⟨fun p => .inl fun h => (nomatch h), fun row h => nomatch h⟩
    · rw [h1]; exact ⟨fun p => .inr hq, fun row h => nomatch h⟩
    · rw [hc] at h; cases h
  refine ⟨hadd.1, hadd.2 _, hadd.2, hreg, ?_, register_never_panics d s now fresh vp⟩
  rcases register_cases d s now fresh vp with ⟨x, _, ho⟩ | ⟨_, _, _, _, _, _, hreg'⟩
  · rw [ho]
  · rw [hreg'] at hreg; exact absurd rfl hreg

/-- the shapes in question are accepted by nothing: a registration whose only flaw is a credential without id -/
example : (register exDef {} 10 1 { exVP "a" "v1" 50 with creds := [{ exp := some 60, hasId := false }, { exp := none }] }).2
    = .err "cred-no-id" := by decide
example : (({} : Store).add 10 { exVP "a" "v1" 50 with creds := [{ exp := none }, { exp := some 60, hasId := false }] } 1 3 7).2
    = .err "cred-no-id" := by decide

/-! ### non-vacuity of the replica theorems -/

def exK : VP → Prop := fun vp => vp = exVP "a" "v1" 100 ∨ vp = exVP "b" "v2" 110 ∨ vp = exRetract "a" "v3" "v1" 100

theorem exK_idFun : IdFun exK := by
  intro a b ha hb s ma mb hsa hsb hid
  rcases ha with rfl | rfl | rfl <;> rcases hb with rfl | rfl | rfl <;>
    first | rfl | (simp [exVP, exRetract] at hsa hsb hid; try (rw [← hsa.1] at hsb; simp at hsb))

/-- an admissible history with a registration racing a poll, a retraction by the owner and a reset -/
def exWorld : World := run factCfg exDef { t := 10 }
  [.register (exVP "a" "v1" 100), .pollA, .register (exVP "b" "v2" 110), .pollB id, .register (exRetract "a" "v3" "v1" 100), .tick 3]

example : Reach factCfg exDef exK exWorld := by
  have h0 := Reach.init (cfg := factCfg) (d := exDef) (K := exK) 10
  have h1 := Reach.step _ (.register (exVP "a" "v1" 100)) h0 ⟨Or.inl rfl, by intro _ s m e hs he r hr; cases hr⟩
  have h2 := Reach.step _ .pollA h1 trivial
  have h3 := Reach.step _ (.register (exVP "b" "v2" 110)) h2 ⟨Or.inr (Or.inl rfl), by
    intro _ s m e hs he r hr hsub
    simp [exVP] at hs he
    have hs1 := hs.1; subst hs1; subst he
    have : ∀ r ∈ (step factCfg exDef (step factCfg exDef { t := 10 } (Ev.register (exVP "a" "v1" 100))).fst Ev.pollA).fst.S.rows,
        r.subject = "b" → r.exp ≤ 110 := by decide
    exact this r hr hsub⟩
  have h4 := Reach.step _ (.pollB id) h3 (fun l => List.Perm.refl _)
  have h5 := Reach.step _ (.register (exRetract "a" "v3" "v1" 100)) h4 ⟨Or.inr (Or.inr rfl), by
    intro _ s m e hs he r hr hsub
    simp [exRetract] at hs he
    have hs1 := hs.1; subst hs1; subst he
    have : ∀ r ∈ (step factCfg exDef (step factCfg exDef (step factCfg exDef (step factCfg exDef { t := 10 }
        (Ev.register (exVP "a" "v1" 100))).fst Ev.pollA).fst (Ev.register (exVP "b" "v2" 110))).fst (Ev.pollB id)).fst.S.rows,
        r.subject = "a" → r.exp ≤ 100 := by decide
    exact this r hr hsub⟩
  exact Reach.step _ (.tick 3) h5 trivial

example : exWorld.S.rows.map (fun r => (r.ts, r.subject, r.id)) = [(2, "b", "v2"), (3, "a", "v3")] ∧
    exWorld.C.rows.map (fun r => (r.subject, r.id)) = [("a", "v1"), ("b", "v2")] ∧ exWorld.C.seed = exWorld.S.seed := by decide

/-- search returns something: both rows were verified by the client itself -/
example : (exWorld.C.search exWorld.t).length = 2 := by decide


/-- `poll_idempotent_on_duplicates` applies: a response made of a presentation the replica holds -/
example : ∀ vp ∈ [exVP "a" "v1" 100], ∃ subj id e, VPWF vp subj id e ∧ exWorld.C.hasKey subj id = true := by
  intro vp hvp
  simp only [List.mem_singleton] at hvp
  subst hvp
  exact ⟨"a", "v1", 100, ⟨⟨"example", rfl⟩, rfl, rfl, rfl, rfl⟩, by decide⟩

/-- `reset_restarts` applies: after a reset and a new first registration the replica's seed is another one -/
def exResetWorld : World := run factCfg exDef { t := 10 }
  [.register (exVP "a" "v1" 100), .pollA, .pollB id, .reset, .register (exVP "b" "v2" 110), .pollA]
example : exResetWorld.C.seed ≠ exResetWorld.S.seed ∧ exResetWorld.C.seed ≠ 0 ∧ exResetWorld.S.seed ≠ 0 ∧
    exResetWorld.pending.isSome = true := by decide

end Nuts.C16.Props
