/-
  C05 — the handlers of auth/api/iam and vcr/issuer as THREADS of the schedule model: `validatePresentationNonce` including
  its burn-all branch, `RequestJWTByGet` / `RequestJWTByPost`, every endpoint at once, the OpenID4VCI token endpoint; with
  the all-schedules theorems instantiated at the threads the requests stand for.
-/
import NutsModel.C05.Forms
import NutsModel.C05.Today
import NutsModel.Facts.C05
import NutsProofs.Lemmas.C05Ref
import NutsProofs.Props.C05Forms

namespace Nuts.C05.Props
open Nuts.C05

/-- **Refinement (OpenID4VP nonce check, burn-all included)**: `validatePresentationNonce`, mirrored statement by statement
    (collect over ALL presentations, "burn them all" on any error, else GetAndDelete + state check), leaves the store exactly
    as the threads `responseThreads ps state` of the abstract layer leave it when they run one after the other under today's
    configuration — one Delete-only thread per collected nonce on the error path, ONE consuming thread otherwise — and every
    one of these threads ends in the outcome class of the handler's answer.  For all presentations, states, stores, instants,
    back-ends.  (`nonces[0]` on an empty list is unreachable from the caller, which refuses an empty vp_token.) -/
theorem validateNonce_refines_threads (strict incl : Bool) (ttl : Kind → Nat) (now : Nat) (st : Store) (ps : List Pres) (state : String)
    (hp : ∀ s, (validateNonce ⟨incl, now, ttl⟩ st ps state).1 ≠ .panic s) :
    soloStores (today strict incl) now st (responseThreads ps state) = (validateNonce ⟨incl, now, ttl⟩ st ps state).2 ∧
    ∀ o ∈ soloOutcomes (today strict incl) now st (responseThreads ps state), o = vpOutcome (validateNonce ⟨incl, now, ttl⟩ st ps state).1 :=
  validateNonce_eq_threads (today strict incl) (today_gad_locked strict incl) rfl ttl now st ps state

/-- non-vacuity: two presentations that disagree → two Delete-only threads, both nonces gone, nobody honoured;
    one presentation → one consuming thread -/
example :
    let st : Store := [(vpKey "n1", ⟨"s", 300⟩), (vpKey "n2", ⟨"s", 300⟩)]
    let ps : List Pres := [⟨.jwt, "n1", false, "", ""⟩, ⟨.ld, "", false, "n2", ""⟩]
    (responseThreads ps "s").length = 2 ∧ (validateNonce ⟨true, 0, todayTTL⟩ st ps "s").2 = [] ∧
    vpOutcome (validateNonce ⟨true, 0, todayTTL⟩ st ps "s").1 = some .missingParam ∧
    (responseThreads [⟨.jwt, "n1", false, "", ""⟩] "s") = [{ kind := .vpNonce, id := "n1", want := "s" }] ∧
    (validateNonce ⟨true, 0, todayTTL⟩ st [⟨.jwt, "n1", false, "", ""⟩] "s") = (.ok, [(vpKey "n2", ⟨"s", 300⟩)]) := by
  decide +kernel

/-- the threads of a list of authorization responses -/
def compileResponses (rs : List (List Pres × String)) : List Req :=
  (rs.flatMap (fun r => responseThreads r.1 r.2)).map Req.burn

/-- **End to end** (OpenID4VP response endpoint, all interleavings): any number of authorization responses with any
    presentations (agreeing, disagreeing, missing, broken — i.e. consuming AND burn-all requests mixed), their threads
    interleaved in EVERY way at the granularity of single store calls, clock ticks anywhere, any back-end: at most one is
    honoured per nonce. -/
theorem vp_response_at_most_once_all_schedules (strict incl : Bool) (st : Store) (rs : List (List Pres × String))
    (sched : List Ev) (n : String) :
    successes (run (today strict incl) sched (init st (compileResponses rs))) (vpKey n) ≤ 1 :=
  at_most_one_success_atomic (today strict incl) (Or.inr (Or.inl (today_gad_locked strict incl))) st _ sched (vpKey n) .vpNonce rfl

/-- **Refinement (request objects)**: `RequestJWTByGet` / `RequestJWTByPost` up to the signer answer and leave the store
    exactly as the thread `reqObjReq r v` does when it runs alone (lock, Get, Delete, unlock) under today's configuration —
    `v` being whatever the store holds for the id; the handler's two comparisons on the consumed value are the thread's `post`. -/
theorem handleReqObj_refines_thread (strict incl : Bool) (ttl : Kind → Nat) (now : Nat) (st : Store) (r : ReqObjFetch) (v : String)
    (hv : ∀ x, stGet incl st now (reqObjKey r.id) = some x → x = v) :
    ((run (today strict incl) soloSched { store := st, now := now, lock := none, ths := [.burn (reqObjReq r v) .start 0] }).ths[0]?.bind Thread.outcome)
        = reqObjOutcome r (handleReqObj ⟨incl, now, ttl⟩ st r).1 ∧
    (run (today strict incl) soloSched { store := st, now := now, lock := none, ths := [.burn (reqObjReq r v) .start 0] }).store
        = (handleReqObj ⟨incl, now, ttl⟩ st r).2 := by
  have h1 := solo_burn_run (today strict incl) (today_gad_locked strict incl) (reqObjReq r v) rfl rfl rfl st now
  have h2 := handleReqObj_eq_solo (today strict incl) ttl now st r v hv
  exact ⟨by rw [h1.1]; exact h2.1.symm, by rw [h1.2.1]; exact h2.2.symm⟩

/-- non-vacuity: the hypothesis on `v` is met by a store holding the object; a fetch with the wrong method consumes it;
    a fetch of an unknown id is the thread's `notFound`; and if the two fields of the value fit, the fetch is honoured
    (`String.splitOn` does not reduce in the kernel, so the field readers stay symbolic in the last part) -/
example :
    let st : Store := [(reqObjKey "r1", ⟨"a|get", 60⟩)]
    (handleReqObj ⟨true, 0, todayTTL⟩ st ⟨"r1", "a", true⟩).2 = [] ∧
    (∀ x, stGet true st 0 (reqObjKey "r1") = some x → x = "a|get") ∧
    reqObjOutcome ⟨"r9", "a", false⟩ (handleReqObj ⟨true, 0, todayTTL⟩ st ⟨"r9", "a", false⟩).1 = some .notFound := by
  refine ⟨by rw [handleReqObj_snd]; decide, ?_, by decide⟩
  intro x h
  have : stGet true [(reqObjKey "r1", (⟨"a|get", 60⟩ : Entry))] 0 (reqObjKey "r1") = some "a|get" := by decide
  rw [this] at h
  exact (Option.some.inj h).symm

example (v : String) (h1 : roClient v = "a") (h2 : roMethod v = "get") :
    handleReqObj ⟨true, 0, todayTTL⟩ [(reqObjKey "r1", ⟨v, 60⟩)] ⟨"r1", "a", false⟩ = (.ok, []) := by
  simp [handleReqObj, gadSeq, stGet, stFind, alive, stErase, h1, h2]

/-- **End to end** (request objects, all interleavings): any number of fetches (GET and POST, any subjects, any ids) against
    any stored objects, interleaved in EVERY way, any back-end: at most one is honoured per request object. -/
theorem request_object_at_most_once_all_schedules (strict incl : Bool) (st : Store) (rs : List (ReqObjFetch × String))
    (sched : List Ev) (id : String) :
    successes (run (today strict incl) sched (init st (rs.map (fun x => Req.burn (reqObjReq x.1 x.2))))) (reqObjKey id) ≤ 1 :=
  at_most_one_success_atomic (today strict incl) (Or.inr (Or.inl (today_gad_locked strict incl))) st _ sched (reqObjKey id) .reqObj rfl

/-- **Refinement, all endpoints at once**: for EVERY request of every modelled endpoint (token endpoint with any grant and any
    parameter subset, OpenID4VP authorization response, request-object fetch by GET / POST, landing page, DPoP validation),
    every store it meets, every instant and back-end, the request-level handler — mirrored statement by statement from the
    Go source — leaves the one-time stores exactly as its threads of the schedule model (`formThreads`: one `code` thread;
    one `s2s` mark thread per presentation the nonce loop reaches; one consuming or k Delete-only `vpNonce` threads; one
    `reqObj` / `redirect` / `jti` thread; none for a request refused before the store) leave them when they run one after the
    other under today's configuration.  So the thread programs the all-schedules theorems quantify over are the handlers'. -/
theorem every_endpoint_refines_its_threads (strict incl : Bool) (pk : Pkce) (now : Nat) (st : Store) (f : Form)
    (hp : ∀ s, (handleForm ⟨incl, now, todayTTL⟩ pk st f).1 ≠ .panic s) :
    threadsStore (today strict incl) now st (formThreads ⟨incl, now, todayTTL⟩ pk st f) = (handleForm ⟨incl, now, todayTTL⟩ pk st f).2 :=
  (handleForm_threads (today strict incl) (today_gad_locked strict incl) (today_mark_locked strict incl) (fun _ => rfl) pk now st f).1

/-- non-vacuity: an s2s envelope of three presentations whose second nonce is used: two mark threads (the loop stops at the
    used one), the first nonce stays registered; a code request without verifier: one Delete-only thread, the code is gone -/
example :
    let c : Sq := ⟨true, 0, todayTTL⟩
    let st : Store := [(s2sKey "x2", ⟨"true", 900⟩), (codeKey "c1", ⟨"clientA", 300⟩)]
    formThreads c ⟨"S256", fun _ => true⟩ st (.token { grantType := "vp_token-bearer", assertion := some ["x1", "x2", "x3"], submission := true, scope := true, clientId := some "a" })
      = [.mark { kind := .s2s, id := "x1" }, .mark { kind := .s2s, id := "x2" }] ∧
    (soloCalls (today false true) 0 st (formThreads c ⟨"S256", fun _ => true⟩ st (.token { grantType := "authorization_code", code := some "c1", clientId := some "clientA" }))).1
      = ["del:code/c1"] ∧
    (handleForm c ⟨"S256", fun _ => true⟩ st (.token { grantType := "authorization_code", code := some "c1", clientId := some "clientA" })).2
      = [(s2sKey "x2", ⟨"true", 900⟩)] := by
  decide +kernel

/-- the threads of a batch of requests of any endpoints (each compiled against the store it would meet alone) -/
def compileAll (c : Sq) (pk : Pkce) (st : Store) (fs : List Form) : List Req := fs.flatMap (formThreads c pk st)

/-- **End to end, all endpoints, all interleavings**: any batch of requests of any endpoints — token requests with codes,
    s2s envelopes, authorization responses (consuming and burn-all), request-object fetches, landing-page calls, DPoP
    validations, mixed — their threads interleaved in EVERY way at single-store-call granularity, clock ticks anywhere, any
    back-end: at most one request is honoured per burn-on-use secret of any kind. -/
theorem any_endpoints_at_most_once_all_schedules (strict incl : Bool) (c : Sq) (pk : Pkce) (st : Store) (fs : List Form)
    (sched : List Ev) (k : Key) (b : BurnKind) (hk : k.ns = .burn b) :
    successes (run (today strict incl) sched (init st (compileAll c pk st fs))) k ≤ 1 :=
  at_most_one_success_atomic (today strict incl) (Or.inr (Or.inl (today_gad_locked strict incl))) st _ sched k b hk

/-- **Refinement (pre-authorized code)**: vcr/issuer `HandleAccessTokenRequest` → `FindAndDeleteReference`, mirrored statement
    by statement in Vci.lean, leaves the pre-authorized-code store exactly as the thread `preAuthReq` leaves it when it runs
    alone (lock, Get, Delete, unlock) under today's configuration; the thread is honoured iff the handler answers 200, and
    ends `notFound` iff the code was not readable.  All codes, issuers, generated tokens, stores, instants, back-ends. -/
theorem handlePreAuth_refines_thread (strict incl : Bool) (ttl : Kind → Nat) (now : Nat) (s : VciSt) (issuer code tok cn : String) :
    let w := run (today strict incl) soloSched { store := s.codes, now := now, lock := none,
                                                 ths := [.burn (preAuthReq ⟨incl, now, ttl⟩ s issuer code tok cn) .start 0] }
    w.store = (handlePreAuth ⟨incl, now, ttl⟩ s issuer code tok cn).st.codes ∧
    ((w.ths[0]?.bind Thread.outcome) = some .ok ↔ (handlePreAuth ⟨incl, now, ttl⟩ s issuer code tok cn).ans = .ok) ∧
    ((w.ths[0]?.bind Thread.outcome) = some .notFound ↔ stGet incl s.codes now (preAuthKey code) = none) := by
  have h1 := solo_burn_run (today strict incl) (today_gad_locked strict incl) (preAuthReq ⟨incl, now, ttl⟩ s issuer code tok cn)
    rfl rfl rfl s.codes now
  have h2 := handlePreAuth_eq_solo (today strict incl) ttl now s issuer code tok cn
  simp only [show (today strict incl).expInclusive = incl from rfl] at h2
  simp only at h1 ⊢
  rw [h1.1, h1.2.1]
  refine ⟨h2.1.symm, ?_, ?_⟩
  · rw [← h2.2.1]; simp
  · rw [← h2.2.2]; simp

/-- non-vacuity: a live code at the right issuer is honoured (thread `post` = true), at the wrong issuer it is consumed and refused -/
example :
    let s : VciSt := ⟨[(preAuthKey "c1", ⟨"f1", 900⟩)], [("f1", ⟨"own", 900⟩)], [], []⟩
    (preAuthReq ⟨true, 0, todayTTL⟩ s "own" "c1" "t" "n").post = true ∧
    (preAuthReq ⟨true, 0, todayTTL⟩ s "other" "c1" "t" "n").post = false ∧
    (handlePreAuth ⟨true, 0, todayTTL⟩ s "other" "c1" "t" "n").st.codes = [] := by
  decide

/-- **End to end** (OpenID4VCI token endpoint, all interleavings): any number of token requests with any codes at any
    issuers, interleaved in EVERY way at single-store-call granularity, any back-end: at most one is honoured per code. -/
theorem preauth_at_most_once_all_schedules (strict incl : Bool) (c : Sq) (s : VciSt) (rs : List (String × String × String × String))
    (sched : List Ev) (code : String) :
    successes (run (today strict incl) sched (init s.codes (rs.map (fun x => Req.burn (preAuthReq c s x.1 x.2.1 x.2.2.1 x.2.2.2)))))
      (preAuthKey code) ≤ 1 :=
  at_most_one_success_atomic (today strict incl) (Or.inr (Or.inl (today_gad_locked strict incl))) s.codes _ sched (preAuthKey code) .preAuth rfl

/-- **Dead after burn-all, in EVERY schedule** (and: dead after any refused-before-the-store code request): once a Delete-only
    thread `j` — a burn-all thread of an authorization response, or a token request naming a code without verifier /
    client_id — has finished in a schedule `s1` (its Delete reached the store), the secret is absent from the store and every
    request `i` on that secret that had not yet passed its Get at that moment is refused in EVERY continuation `s2` — any
    other requests running concurrently, any shape of GetAndDelete, any back-end.  (Invariant `NInv` by induction over all
    schedules, read off by `wiped_gone`, which also gives `code_dead_after_failed_attempt`: the deferred Delete of `code` and the
    Delete of a request whose pre-checks fail are the same unconditional Delete.) -/
theorem dead_after_burn_all_in_every_schedule (cfg : Cfg) (st : Store) (reqs : List Req) (s1 s2 : List Ev)
    (j : Nat) (r : BurnReq) (o : Outcome) (f : Nat)
    (hj : (run cfg s1 (init st reqs)).ths[j]? = some (Thread.burn r (.done o) f)) (hp : r.pre = false) (hdel : r.failDel = false)
    (i : Nat) (t : Thread) (hi : (run cfg s1 (init st reqs)).ths[i]? = some t) (hkey : t.key = r.key) (hidle : t.idle = true)
    (t' : Thread) (ht' : (run cfg s2 (run cfg s1 (init st reqs))).ths[i]? = some t') :
    stFind (run cfg s1 (init st reqs)).store r.key = none ∧ t'.took = false := by
  have hgone := wiped_gone cfg st reqs s1 j r o f hj (.inr hp) hdel
  exact ⟨hgone, dead_never_honoured cfg _ r.key r.kind rfl (stGet_none_of_find_none _ _ _ _ hgone) i t hi hkey hidle s2 t' ht'⟩

/-- non-vacuity: a disagreeing response names n1 (one of its burn-all threads, thread 0) while an honest response with n1
    (thread 1) has not started: after thread 0 finished, n1 is gone and thread 1 ends refused -/
example :
    let reqs : List Req := [.burn { kind := .vpNonce, id := "n1", want := "s", pre := false }, .burn { kind := .vpNonce, id := "n1", want := "s" }]
    let st : Store := [(vpKey "n1", ⟨"s", 300⟩)]
    let w1 := run todayMem [.step 0, .step 0] (init st reqs)
    w1.ths[0]? = some (Thread.burn { kind := .vpNonce, id := "n1", want := "s", pre := false } (.done .missingParam) 0) ∧
    (w1.ths[1]?.map Thread.idle) = some true ∧ w1.store = [] ∧
    ((run todayMem [.step 1, .step 1, .step 1] w1).ths[1]?.bind Thread.outcome) = some .notFound := by
  decide

/-- **The link between the request level and the thread count**: whatever request of whatever modelled endpoint is answered
    200 (token endpoint with a code, s2s envelope, authorization response, request-object fetch, landing page, DPoP
    validation), EVERY thread it stands for ends `ok` when its threads run one after the other under today's configuration —
    so each honoured request is a success on each of its secrets in the sense the all-schedules theorems count
    (`successes … ≤ 1`).  All request contents, stores, instants, back-ends.  (An s2s envelope has one thread per
    presentation: `s2sLoop_ok_threads`; an envelope without presentations stands for no thread, and the real handler refuses
    it before the loop whenever the presentation definition of the scope requires a credential.) -/
theorem honoured_request_means_every_thread_honoured (strict incl : Bool) (pk : Pkce) (now : Nat) (st : Store) (f : Form)
    (hok : (handleForm ⟨incl, now, todayTTL⟩ pk st f).1 = .ok) :
    ∀ o ∈ threadsOutcomes (today strict incl) now st (formThreads ⟨incl, now, todayTTL⟩ pk st f), o = some .ok :=
  handleForm_ok_threads (today strict incl) (today_gad_locked strict incl) (today_mark_locked strict incl) (fun _ => rfl) pk now st f hok

/-- non-vacuity: an honoured s2s envelope of two presentations has two honoured mark threads; an honoured code request one -/
example :
    let c : Sq := ⟨true, 0, todayTTL⟩
    let pk : Pkce := ⟨"S256", fun _ => true⟩
    let st : Store := [(codeKey "c1", ⟨"clientA", 300⟩)]
    let f1 : Form := .token { grantType := "vp_token-bearer", assertion := some ["x1", "x2"], submission := true, scope := true, clientId := some "a" }
    let f2 : Form := .token { grantType := "authorization_code", code := some "c1", codeVerifier := some "v", clientId := some "clientA" }
    (handleForm c pk st f1).1 = .ok ∧ threadsOutcomes (today false true) 0 st (formThreads c pk st f1) = [some .ok, some .ok] ∧
    (handleForm c pk st f2).1 = .ok ∧ threadsOutcomes (today false true) 0 st (formThreads c pk st f2) = [some .ok] := by
  decide +kernel

/-- the store prefixes under which the harness recognises the one-time-store calls of the `calls` column are today's
    (regenerated `prefix_*` facts): a renamed store breaks this instead of silently emptying the column -/
theorem fact_call_column_prefixes :
    Kind.all.map (fun k => (String.intercalate "/" (todayPrefix k), k.name)) =
      [("oauth/code", "code"), ("oauth/requestobject", "reqobj"), ("oauth/nonce", "vpnonce"), ("user/redirect", "redirect"),
       ("openid4vci/preauthcode", "preauth"), ("s2s/nonce", "s2s"), ("nonceonce", "jti")] := by
  decide +kernel

end Nuts.C05.Props
