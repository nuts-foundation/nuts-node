/-
  C09 — `Manager.RemoveVerificationMethod` (with go-did's `Document.RemoveVerificationMethod`) and
  `Manager.IsCommitted`, and their composition with the receiving ambassador ("updates signed by removed keys").
  Model: NutsModel/C09/Maintain.lean.
-/
import NutsModel.C09.Maintain
import NutsModel.Facts.C09
import NutsProofs.Lemmas.C09
import NutsProofs.Props.C09
import NutsProofs.Props.C09Manager

namespace Nuts.C09.Props
open Nuts Nuts.C10 Nuts.C09

/-! ### obligations on the regenerated facts -/

/-- `Manager.RemoveVerificationMethod`: resolve through `m.resolver` with deactivated documents allowed, remember the
    length, go-did's removal, "same length => return nil", else `m.Update(ctx, id, *doc)` -/
theorem fact_remove_vm_steps :
    Facts.C09.removeVMSteps =
      ["m.resolver.Resolve(id, &resolver.ResolveMetadata{AllowDeactivated: true})",
       "lenBefore := len(doc.VerificationMethod)",
       "doc.RemoveVerificationMethod(keyID)",
       "if lenBefore == len(doc.VerificationMethod) => return nil",
       "return m.Update(ctx, id, *doc)"] := rfl

/-- go-did `Document.RemoveVerificationMethod` filters `verificationMethod` and all five relationships, each by
    `!x.ID.Equals(id)` (the model's `keepVM`) -/
theorem fact_godid_remove_vm :
    Facts.C09.removeVerificationMethodFields =
      ["VerificationMethod.remove", "AssertionMethod.Remove", "Authentication.Remove", "CapabilityDelegation.Remove",
       "CapabilityInvocation.Remove", "KeyAgreement.Remove"] ∧
    Facts.C09.removeLoopTests = ["!vm.ID.Equals(id)", "!r.ID.Equals(id)"] := ⟨rfl, rfl⟩

/-- `Manager.IsCommitted`: store lookup with deactivated allowed; ErrNotFound => (false, nil); other errors returned;
    answer = `meta.Hash.Equals(changeHash)` with the hash of the raw document -/
theorem fact_is_committed :
    Facts.C09.isCommittedSteps =
      ["m.store.Resolve(change.DID(), &resolver.ResolveMetadata{AllowDeactivated: true})",
       "if errors.Is(err, resolver.ErrNotFound) => return false, nil",
       "return false, err",
       "changeHash := hash.SHA256Sum([]byte(change.DIDDocumentVersion.Raw))",
       "return meta.Hash.Equals(changeHash), nil"] := rfl

/-- `verifyThumbprint` compares TEXT with TEXT — the base64url encoding of the calculated thumbprint against the id
    fragment as it stands; nothing is decoded (a lenient decoder maps 4 spellings, and spellings with CR/LF, to the same bytes) -/
theorem fact_thumbprint_id_comparison_is_textual :
    Facts.C09.thumbprintIdComparison =
      ["if base64.RawURLEncoding.EncodeToString(thumbprint) != method.ID.Fragment => return errors.New(\"key thumbprint does not match ID\")"] :=
  rfl

/-- **Another spelling of the same bytes is not the thumbprint**: whatever decoder `dec` one has in mind, a fragment that
    decodes to the same bytes as the thumbprint text but is a different string is refused by the key-id rule -/
theorem noncanonical_thumbprint_spelling_refused (thumb : Key → String) (ne : Bool) (owner : String) (v : NVM) (k : Key)
    (dec : String → List Nat) (vs : List NVM) (known : List String)
    (hk : v.key = .key k) (_hdec : dec v.frag = dec (thumb k)) (hne : v.frag ≠ thumb k)
    (hid : entryIdErr true true true owner v.id v.pfx v.frag known = none) :
    validateVMs thumb ne allOn owner (v :: vs) known = .err "validate:vm:thumbprint" := by
  unfold validateVMs
  simp only [allOn, hid, hk]
  simp [Ne.symm hne]

example : validateVMs (fun k => k) true allOn "did:nuts:A"
    [{ id := "did:nuts:A#abcB", pfx := "did:nuts:A", frag := "abcB", key := .key "abcA" }] [] = .err "validate:vm:thumbprint" := by decide

/-! ### go-did's removal -/

theorem keepVM_iff (kid : String) (v : NVM) : keepVM kid v = true ↔ v.id ≠ kid := by
  unfold keepVM; simp

/-- **The removed method is gone everywhere**: after the removal no entry of `verificationMethod` or of any of the five
    relationships carries the id -/
theorem removeVM_absent (d : NDoc) (kid : String) :
    let r := ndocRemoveVM d kid
    (∀ v ∈ r.vms, v.id ≠ kid) ∧ (∀ v ∈ r.auth, v.id ≠ kid) ∧ (∀ v ∈ r.assertion, v.id ≠ kid) ∧
    (∀ v ∈ r.keyAgr, v.id ≠ kid) ∧ (∀ v ∈ r.capInv, v.id ≠ kid) ∧ (∀ v ∈ r.capDel, v.id ≠ kid) := by
  simp only [ndocRemoveVM]
  refine ⟨?_, ?_, ?_, ?_, ?_, ?_⟩ <;>
    (intro v hv; exact (keepVM_iff kid v).mp (List.mem_filter.mp hv).2)

/-- **Nothing else is touched**: every entry with another id stays, in its place; identity, controllers, contexts and
    services are the same -/
theorem removeVM_keeps_others (d : NDoc) (kid : String) :
    let r := ndocRemoveVM d kid
    (∀ v ∈ d.vms, v.id ≠ kid → v ∈ r.vms) ∧ (∀ v ∈ d.capInv, v.id ≠ kid → v ∈ r.capInv) ∧
    (∀ v ∈ d.auth, v.id ≠ kid → v ∈ r.auth) ∧ (∀ v ∈ d.assertion, v.id ≠ kid → v ∈ r.assertion) ∧
    (∀ v ∈ d.keyAgr, v.id ≠ kid → v ∈ r.keyAgr) ∧ (∀ v ∈ d.capDel, v.id ≠ kid → v ∈ r.capDel) ∧
    r.id = d.id ∧ r.controllers = d.controllers ∧ r.services = d.services ∧ r.contexts = d.contexts := by
  intro r
  refine ⟨?_, ?_, ?_, ?_, ?_, ?_, rfl, rfl, rfl, rfl⟩ <;>
    (intro v hv hne; exact List.mem_filter.mpr ⟨hv, (keepVM_iff kid v).mpr hne⟩)

/-- removing a method that is not listed changes nothing in `verificationMethod` (the "do not update" test) -/
theorem removeVM_length_eq_iff (d : NDoc) (kid : String) :
    d.vms.length = (ndocRemoveVM d kid).vms.length ↔ ∀ v ∈ d.vms, v.id ≠ kid := by
  simp only [ndocRemoveVM]
  rw [eq_comm, List.length_filter_eq_length_iff]
  simp only [keepVM_iff]

/-! ### the removal keeps a well-formed document well-formed -/

theorem VMsOk.filter {thumb : Key → String} {owner : String} {vs : List NVM} {known : List String}
    (h : VMsOk thumb owner vs known) (p : NVM → Bool) : VMsOk thumb owner (vs.filter p) known :=
  have hsub : ((vs.filter p).map (·.id)).Sublist (vs.map (·.id)) := List.filter_sublist.map _
  ⟨fun v hv => h.1 v (List.mem_filter.mp hv).1, h.2.1.sublist hsub, fun x hx => h.2.2 x (hsub.subset hx)⟩

theorem all_filter {α : Type} (p q : α → Bool) (l : List α) (h : l.all q = true) : (l.filter p).all q = true := by
  rw [List.all_eq_true] at h ⊢
  intro x hx
  exact h x (List.mem_filter.mp hx).1

theorem runValidator_removeVM (thumb : Key → String) (ne : Bool) (d : NDoc) (kid : String) (v : Validator)
    (h : runValidator thumb ne allOn d v = .ok ()) : runValidator thumb ne allOn (ndocRemoveVM d kid) v = .ok () := by
  cases v with
  | nilEntry => exact h
  | nutsService => exact h
  | nutsVM => exact (validateVMs_ok_iff ..).mpr (VMsOk.filter ((validateVMs_ok_iff ..).mp h) _)
  | w3c =>
    obtain ⟨h1, h2, h3, h4, h5, h6⟩ := (validateW3C_ok_iff d).mp h
    refine (validateW3C_ok_iff _).mpr ⟨h1, h2, h3, fun v hv => h4 v (List.mem_filter.mp hv).1, fun v hv => h5 v ?_, h6⟩
    simp only [ndocRemoveVM, ← List.filter_append] at hv
    exact (List.mem_filter.mp hv).1

/-- **Removal preserves well-formedness**: whatever list of validators is composed, a document they accept is still
    accepted after go-did's `RemoveVerificationMethod` — so `RemoveVerificationMethod` on a well-formed stored version never
    fails in the validator of `Manager.Update`, and what it publishes passes the receiving ambassador's validator -/
theorem removeVM_preserves_validity (thumb : Key → String) (ne : Bool) (vals : List Validator) (d : NDoc) (kid : String)
    (h : validate thumb ne vals d = .ok ()) : validate thumb ne vals (ndocRemoveVM d kid) = .ok () := by
  change validateList thumb ne allOn d vals = .ok () at h
  change validateList thumb ne allOn (ndocRemoveVM d kid) vals = .ok ()
  induction vals with
  | nil => rfl
  | cons v vs ih =>
    rw [validateList_cons_ok] at h ⊢
    exact ⟨runValidator_removeVM thumb ne d kid v h.1, ih h.2⟩

/-! ### `Manager.RemoveVerificationMethod` -/

/-- **What `RemoveVerificationMethod` publishes**: only when the method was listed; the published document is the
    resolved one without the method (in `verificationMethod` and in every relationship — in particular it is no longer a
    capabilityInvocation key), and everything `managerUpdate_sound` says holds for it -/
theorem managerRemoveVM_sound (c : Cfg) (s : Store) (has : String → Bool) (svcOk : Bool) (id : String) (cur : NDoc) (kid : String)
    (p : Published) (h : managerRemoveVM c s has svcOk id cur kid = .ok (some p)) :
    (∃ v ∈ cur.vms, v.id = kid) ∧
    managerUpdate c s has svcOk id (ndocRemoveVM cur kid) = .ok p ∧ p.doc = ndocRemoveVM cur kid ∧
    (∀ v ∈ p.doc.vms, v.id ≠ kid) ∧ (∀ v ∈ p.doc.capInv, v.id ≠ kid) ∧
    validate c.thumb c.vmNilJwkErr c.validators p.doc = .ok () := by
  revert h
  fun_cases managerRemoveVM c s has svcOk id cur kid with
  | case4 _ _ _ hl q hu =>
    intro h
    cases h
    obtain ⟨_, _, _, _, _, _, _, _, hv, _, _, _, _, _, _, _, _, hdoc⟩ := managerUpdate_sound c s has svcOk id _ p hu
    obtain ⟨h1, _, _, _, h5, _⟩ := removeVM_absent cur kid
    rw [hdoc]
    refine ⟨Classical.byContradiction fun hno => hl ?_, hu, rfl, h1, h5, hdoc ▸ hv⟩
    simpa using (removeVM_length_eq_iff cur kid).mpr fun v hv he => hno ⟨v, hv, he⟩
  | _ => nofun

/-- **"Do not update if nothing has changed"**: a key id that is not a verification method of the resolved document
    publishes nothing (whatever the key store holds), and the call is not an error -/
theorem managerRemoveVM_noop (c : Cfg) (s : Store) (has : String → Bool) (svcOk : Bool) (id : String) (cur : NDoc) (kid : String)
    (d0 : Doc) (hr : resolverResolve c.maxDepth s (some { allowDeactivated := true }) id = .ok d0)
    (hno : ∀ v ∈ cur.vms, v.id ≠ kid) :
    managerRemoveVM c s has svcOk id cur kid = .ok none := by
  unfold managerRemoveVM
  rw [hr]
  simp only []
  have := (removeVM_length_eq_iff cur kid).mpr hno
  rw [if_pos (by simpa using this)]

/-- an unknown DID: the lookup error is returned, nothing is published -/
theorem managerRemoveVM_unknown (c : Cfg) (s : Store) (has : String → Bool) (svcOk : Bool) (id : String) (cur : NDoc) (kid e : String)
    (hr : resolverResolve c.maxDepth s (some { allowDeactivated := true }) id = .err e) :
    managerRemoveVM c s has svcOk id cur kid = .err ("mgr:resolve:" ++ e) := by
  unfold managerRemoveVM; rw [hr]

/-- **End to end — "updates signed by removed keys"**: once the version `RemoveVerificationMethod` published is the one a
    transaction's prevs name (self-controlled DID), an update whose `kid` resolves to a key that the original document
    listed for capability invocation only under the removed id is refused by the receiving ambassador -/
theorem removed_method_no_longer_authorises (c : Cfg) (s : Store) (tx : Tx) (d d0 : NDoc) (kid : String) (k : Key)
    (hcur : currentVersion s d.id tx.prevs = .ok (ndocRemoveVM d0 kid).toDoc)
    (hk : resolvePublicKey c.maxDepth s tx.kid tx.prevs = .ok k)
    (hown : ∀ r ∈ d0.controllers, r = d0.id)
    (honly : ∀ v ∈ d0.capInv, ∀ k', KeyInfo.ofBody v.key.body = .key k' → c.thumb k' = c.thumb k → v.id = kid) :
    ∀ s', handleUpdate c s tx d ≠ .ok s' := by
  apply removed_key_rejected_self_controlled c s tx d _ k hcur hk
  · intro r hr
    simp only [controllersOf, NDoc.toDoc, ndocRemoveVM, List.map_map, List.mem_map] at hr ⊢
    obtain ⟨a, ha, rfl⟩ := hr
    exact hown a ha
  · intro e he k' hk' hth
    simp only [NDoc.toDoc, ndocRemoveVM, List.mem_map] at he
    obtain ⟨v, hv, rfl⟩ := he
    have hm := List.mem_filter.mp hv
    have hid := honly v hm.1 k' (by simpa [vmEntry] using hk') hth
    exact (keepVM_iff kid v).mp hm.2 hid

/-! ### `Manager.IsCommitted` -/

/-- **Committed = the latest stored version (deactivated or not) carries the change's hash** -/
theorem isCommitted_true_iff (s : Store) (id : String) (h : Hash) :
    managerIsCommitted s id h = .ok true ↔
      ∃ d m, resolve s id (some { allowDeactivated := true }) = .ok (d, m) ∧ m.hash = h := by
  unfold managerIsCommitted
  cases resolve s id (some { allowDeactivated := true }) with
  | ok dm =>
    obtain ⟨d, m⟩ := dm
    simp [and_assoc]
  | err e => by_cases he : (e == eNotFound) = true <;> simp [he]
  | panic x => simp

/-- a DID the store does not know is "not committed", not an error; every other store error is handed up unchanged -/
theorem isCommitted_errors (s : Store) (id : String) (h : Hash) (e : String)
    (hr : resolve s id (some { allowDeactivated := true }) = .err e) :
    (e = eNotFound → managerIsCommitted s id h = .ok false) ∧ (e ≠ eNotFound → managerIsCommitted s id h = .err e) := by
  unfold managerIsCommitted
  rw [hr]
  constructor
  · intro he; simp [he]
  · intro he; simp [he]

/-- `IsCommitted` never answers for another version than the one `Manager.Update` would build on: both read the same
    store entry (`resolve … AllowDeactivated`) -/
theorem isCommitted_reads_what_update_reads (c : Cfg) (s : Store) (has : String → Bool) (svcOk : Bool) (id : String) (next : NDoc)
    (p : Published) (h : Hash) (hu : managerUpdate c s has svcOk id next = .ok p) :
    ∃ cur curMeta, resolve s id (some { allowDeactivated := true }) = .ok (cur, curMeta) ∧
      managerIsCommitted s id h = .ok (curMeta.hash == h) ∧ (∀ x ∈ curMeta.sourceTx, x ∈ p.prevs) := by
  obtain ⟨cur, curMeta, _, _, _, _, hr, _, _, _, _, _, _, _, _, _, hp, _⟩ := managerUpdate_sound c s has svcOk id next p hu
  refine ⟨cur, curMeta, hr, ?_, ?_⟩
  · unfold managerIsCommitted; rw [hr]
  · intro x hx; rw [hp]; exact List.mem_append_left _ hx

/-! ### the manager's own `store.Add` at the end of `Update` -/

/-- after a successful `store.Add` the store holds the transaction (by ref) -/
theorem add_then_contains (cfg : C10.Cfg) (s s1 : Store) (e : Event) (h : add cfg s e = .ok s1) :
    contains (s1.get e.doc.id).events e = true := by
  rcases (add_get cfg s s1 e h).2 with ⟨hnone, rfl⟩ | hsome
  · exact addDid_none hnone
  · obtain ⟨_, _, _, _, _, hst⟩ := addDid_some hsome
    rw [hst, contains, List.any_eq_true]
    exact ⟨e, (insert_perm e _).mem_iff.mpr List.mem_cons_self, by simp⟩

theorem managerOwnAdd_ok_iff (c : Cfg) (s s' : Store) (tx : Tx) (p : Published) :
    managerOwnAdd c s tx p = .ok s' ↔ add c.store s (eventOf tx p.doc) = .ok s' := by
  unfold managerOwnAdd
  cases add c.store s (eventOf tx p.doc) <;> simp

/-- **The manager's own write is the ambassador's write**: whenever the receiving ambassador accepts the published
    transaction, the state it reaches is the one `Manager.Update`'s own `store.Add` reaches from the same store -/
theorem own_add_is_the_ambassadors_add (c : Cfg) (s s' : Store) (tx : Tx) (p : Published)
    (h : callback c s tx (some p.doc) = .ok s') : managerOwnAdd c s tx p = .ok s' := by
  obtain ⟨d, hd, hadd⟩ := callback_ok_add c s s' tx _ h
  cases hd
  exact (managerOwnAdd_ok_iff c s s' tx p).mpr hadd

/-- **Own updates come back as duplicates**: after `Manager.Update` wrote its transaction itself, the delivery of that
    transaction through the network changes nothing — whether the ambassador accepts it (same event, by ref) or refuses it
    (`rejected_inert`) -/
theorem own_update_redelivery_inert (c : Cfg) (s s1 : Store) (tx : Tx) (p : Published)
    (hown : managerOwnAdd c s tx p = .ok s1) :
    ∀ s2, callback c s1 tx (some p.doc) = .ok s2 → s2 = s1 := by
  intro s2 h
  have hc := add_then_contains c.store s s1 _ ((managerOwnAdd_ok_iff c s s1 tx p).mp hown)
  have hr := reprocessOne_known c s1 tx p.doc hc
  unfold reprocessOne at hr
  rw [h] at hr
  exact hr

/-- and then `IsCommitted` is decided by the hash the store derived for the latest version -/
theorem own_add_then_isCommitted (c : Cfg) (s s1 : Store) (tx : Tx) (p : Published) (d : Doc) (m : Meta)
    (_hown : managerOwnAdd c s tx p = .ok s1)
    (hr : resolve s1 p.doc.id (some { allowDeactivated := true }) = .ok (d, m)) (h : Hash) :
    managerIsCommitted s1 p.doc.id h = .ok (m.hash == h) := by
  unfold managerIsCommitted; rw [hr]

/-! ### non-vacuity -/

private def kv (i : String) : NVM := { id := "did:nuts:A#" ++ i, pfx := "did:nuts:A", frag := i, key := .key i }
private def dA : NDoc := { id := "did:nuts:A", idID := "A", vms := [kv "k1", kv "k2"], capInv := [kv "k1", kv "k2"], auth := [kv "k1"] }

example : (ndocRemoveVM dA "did:nuts:A#k1").vms = [kv "k2"] ∧ (ndocRemoveVM dA "did:nuts:A#k1").capInv = [kv "k2"] ∧
    (ndocRemoveVM dA "did:nuts:A#k1").auth = [] := by decide
example : validate (fun k => k) true [.nilEntry, .w3c, .nutsVM, .nutsService] dA = .ok () := by decide
example : validate (fun k => k) true [.nilEntry, .w3c, .nutsVM, .nutsService] (ndocRemoveVM dA "did:nuts:A#k1") = .ok () := by decide
example : dA.vms.length ≠ (ndocRemoveVM dA "did:nuts:A#k1").vms.length := by decide
example : dA.vms.length = (ndocRemoveVM dA "did:nuts:A#k9").vms.length := by decide
example : managerIsCommitted {} "did:nuts:A" "h" = .ok false := by decide

end Nuts.C09.Props
