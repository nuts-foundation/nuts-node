/-
  C01 — the revocation store inside the model (NutsModel/C01/RevStore.lean): the lookup (leia store read -> IsRevoked -> Verify),
  registration (RegisterRevocation, over all histories of calls), and their composition with `verify`.
-/
import NutsProofs.Lemmas.C01RevStore
import NutsModel.Facts.C01
import NutsProofs.Props.C01
namespace Nuts.C01.Props
open Nuts.C01

/-- "not revoked" is answered ONLY when the query succeeded and returned no document: not on a read error, not on a document
    that does not decode -/
theorem isRevoked_no_iff (f : FindOut) : isRevoked (getRevocations f) = .no ↔ f = .docs [] := by
  cases f with
  | error => simp [getRevocations, isRevoked, isNotFound]
  | docs ds =>
    rw [getRevocations_docs]
    split
    · simp [*, isRevoked, isNotFound]
    · split <;> simp [*, isRevoked, isNotFound]

/-- an error is reported exactly for a failed read or an undecodable stored document -/
theorem isRevoked_error_iff (f : FindOut) :
    isRevoked (getRevocations f) = .error ↔ f = .error ∨ ∃ ds, f = .docs ds ∧ false ∈ ds := by
  cases f with
  | error => simp [getRevocations, isRevoked, isNotFound]
  | docs ds =>
    rw [getRevocations_docs]
    split
    · simp [*, isRevoked, isNotFound]
    · split <;> simp [*, isRevoked, isNotFound]

/-- "revoked" exactly when at least one document was found and all of them decode; the count is the number of documents -/
theorem getRevocations_found_iff (f : FindOut) (n : Nat) :
    getRevocations f = .found n ↔ ∃ ds, f = .docs ds ∧ ds ≠ [] ∧ (∀ d ∈ ds, d = true) ∧ n = ds.length := by
  cases f with
  | error => simp [getRevocations]
  | docs ds =>
    rw [getRevocations_docs]
    split
    · simp [*]
    · split <;> simp [*, eq_comm]

/-- the Go index expression `revocation[0]` of `verifier.GetRevocation` is always in range: whatever the store's query returned,
    the call does not panic -/
theorem getRevocation_never_panics (f : FindOut) (site : String) : getRevocation (getRevocations f) ≠ .panic site := by
  generalize hg : getRevocations f = g
  fun_cases getRevocation g with
  | case1 =>
    obtain ⟨ds, _, hne, _, hn⟩ := (getRevocations_found_iff f 0).mp hg
    exact absurd (List.length_eq_zero_iff.mp hn.symm) hne
  | _ => nofun

/-- END TO END (store answer -> IsRevoked -> Verify), all documents, flags, times and environments: a credential with an id is reported
    valid only if the revocation query for THAT id succeeded and returned no document -/
theorem reported_valid_only_if_store_answered_empty (cfg : Cfg) (P : Crypto) (E : Env) (find : String → FindOut) (au cs : Bool)
    (at_ : Option Time) (c : Cred) (id : String) (hid : c.id = some id)
    (h : verify cfg P (E.readingStore find id) au cs at_ c = .ok ()) : find id = .docs [] := by
  obtain ⟨hf, hr⟩ := verify_not_revoked h id hid
  simp only [Env.readingStore] at hf hr
  apply (isRevoked_no_iff (find id)).mp
  cases hx : isRevoked (getRevocations (find id)) with
  | no => rfl
  | yes => rw [hx] at hr; cases hr
  | error => rw [hx] at hf; cases hf

/-- … in particular a read fault of the store (closed database, I/O error) is never "valid" (fail closed), under any flags -/
theorem store_read_fault_is_never_valid (cfg : Cfg) (P : Crypto) (E : Env) (find : String → FindOut) (au cs : Bool)
    (at_ : Option Time) (c : Cred) (id : String) (hid : c.id = some id) (hf : find id = .error) :
    verify cfg P (E.readingStore find id) au cs at_ c ≠ .ok () := by
  intro h
  have := reported_valid_only_if_store_answered_empty cfg P E find au cs at_ c id hid h
  rw [hf] at this; cases this

/-- … and neither is a stored revocation, even among documents of which one does not decode -/
theorem any_stored_document_blocks_validity (cfg : Cfg) (P : Crypto) (E : Env) (find : String → FindOut) (au cs : Bool)
    (at_ : Option Time) (c : Cred) (id : String) (hid : c.id = some id) (ds : List Bool) (hne : ds ≠ []) (hf : find id = .docs ds) :
    verify cfg P (E.readingStore find id) au cs at_ c ≠ .ok () := by
  intro h
  have := reported_valid_only_if_store_answered_empty cfg P E find au cs at_ c id hid h
  rw [hf] at this; injection this with e; exact hne e

-- non-vacuity: the example credential verifies when the store answers "no document", and fails in the three other situations
example : verify exCfg exP (exE.readingStore (fun _ => .docs []) "did:x:i#1") false true (some 2000) exC = .ok () := by decide +kernel
example : verify exCfg exP (exE.readingStore (fun _ => .error) "did:x:i#1") false true (some 2000) exC = .err "store-error" := by decide +kernel
example : verify exCfg exP (exE.readingStore (fun _ => .docs [true, false]) "did:x:i#1") false true (some 2000) exC = .err "store-error" := by decide +kernel
example : verify exCfg exP (exE.readingStore (fun _ => .docs [true]) "did:x:i#1") false true (some 2000) exC = .err "revoked" := by decide +kernel
example : exC.id = some "did:x:i#1" := by decide
example : getRevocation (getRevocations (.docs [true, true])) = .ok 0 := by decide

def flowIsRevokedSrc : List String :=
  [ "_,err := v.store.GetRevocations(credentialID)", "if err != nil", "if errors.Is(err,ErrNotFound)", "return false,nil",
    "return false,err", "return true,nil" ]
def flowGetRevocationSrc : List String :=
  [ "revocation,err := v.store.GetRevocations(credentialID)", "if err != nil", "return nil,err", "return revocation[0],nil" ]
def flowGetRevocationsSrc : List String :=
  [ "query := leia.New(leia.Eq(leia.NewJSONPath(credential.RevocationSubjectPath),leia.MustParseScalar(id.String())))",
    "results,err := s.revocationCollection().Find(context.Background(),query)", "if err != nil",
    "return nil,fmt.Errorf(\"error while getting revocation by id: %w\",err)", "if len(results) == 0", "return nil,ErrNotFound",
    "revocations := make(<*ast.ArrayType>,len(results))", "range results", "revocation := &credential.Revocation{}",
    "if err := json.Unmarshal(result,revocation); err != nil", "err := json.Unmarshal(result,revocation)", "return nil,err",
    "revocations[i] = revocation", "return revocations,nil" ]

/-- the complete control flow (every if, assignment, range and return) of the three functions the lookup model mirrors, regenerated
    from the source: a merged / reordered / dropped branch in GetRevocations, IsRevoked or GetRevocation breaks this -/
theorem fact_revocation_lookup_flow :
    Nuts.Facts.C01.flow_IsRevoked = flowIsRevokedSrc ∧ Nuts.Facts.C01.flow_GetRevocation = flowGetRevocationSrc ∧
    Nuts.Facts.C01.flow_GetRevocations = flowGetRevocationsSrc := ⟨rfl, rfl, rfl⟩

/-- what makes a revocation AUTHENTIC: it names a credential id `<issuer>#<fragment>`, is issued by that issuer, and its proof verifies
    under a key that the issuer's DID document lists as assertion method at the revocation's date -/
def Rev.Authentic (E : Env) (sigOK : Key → Rev → Bool) (r : Rev) : Prop :=
  r.fragment ≠ "" ∧ r.issuer ≠ "" ∧ beforeHash r.subject = r.issuer ∧ beforeHash r.vm = r.issuer ∧ r.hasProof = true ∧
  ∃ k, resolveKeyByID E (some r.date) r.vm = some k ∧ sigOK k r = true

/-- one call: RegisterRevocation succeeds only for an authentic revocation, and then appends exactly it -/
theorem registered_revocation_is_authentic (E : Env) (sigOK : Key → Rev → Bool) (storeOK : Bool) (store s' : List Rev) (r : Rev)
    (h : registerRevocation E sigOK storeOK store r = .ok s') : s' = store ++ [r] ∧ Rev.Authentic E sigOK r := by
  obtain ⟨⟨_, hf⟩, _, hi, _, hp, hs, hv, ⟨k, hk, _, hsig⟩, _, e⟩ := (registerRevocation_ok_iff ..).mp h
  exact ⟨e.symm, hf, hi, hs, hv, hp, k, hk, hsig⟩

/-- INVARIANT over all histories of RegisterRevocation calls (any revocations, any store outcomes, any length): every stored
    revocation is authentic, and it is one of the offered ones -/
theorem stored_revocations_are_authentic (E : Env) (sigOK : Key → Rev → Bool) (calls : List (Rev × Bool)) (store : List Rev)
    (hinv : ∀ r ∈ store, Rev.Authentic E sigOK r) :
    ∀ r ∈ registerAll E sigOK store calls, Rev.Authentic E sigOK r ∧ (r ∈ store ∨ ∃ b, (r, b) ∈ calls) := by
  intro r hr
  rcases mem_registerAll.mp hr with h | ⟨b, hb, hok⟩
  · exact ⟨hinv r h, .inl h⟩
  · exact ⟨(registered_revocation_is_authentic _ _ _ _ _ _ hok).2, .inr ⟨b, hb⟩⟩

/-- registrations only ever ADD: whatever is offered later (authentic or not, store faults included), a stored revocation stays -/
theorem registered_revocation_is_permanent (E : Env) (sigOK : Key → Rev → Bool) (calls : List (Rev × Bool)) (store : List Rev) (r : Rev)
    (hr : r ∈ store) : r ∈ registerAll E sigOK store calls :=
  mem_registerAll.mpr (.inl hr)

/-- END TO END (history of registrations -> store query -> IsRevoked -> Verify): on a node whose revocation store was filled by ANY
    history of RegisterRevocation calls, a credential is refused as "revoked" only if somebody holding an assertion key of the DID in
    front of the '#' of its id signed a revocation for exactly that id — a third party cannot revoke -/
theorem revoked_only_by_the_credential_issuer (E : Env) (sigOK : Key → Rev → Bool) (calls : List (Rev × Bool)) (id : String)
    (h : isRevoked (getRevocations (findIn (registerAll E sigOK [] calls) id)) ≠ .no) :
    ∃ r b, (r, b) ∈ calls ∧ r.subject = id ∧ Rev.Authentic E sigOK r ∧
      ∃ k, resolveKeyByID E (some r.date) r.vm = some k ∧ beforeHash r.vm = beforeHash id ∧ sigOK k r = true := by
  have hne : findIn (registerAll E sigOK [] calls) id ≠ .docs [] := fun e => h ((isRevoked_no_iff _).mpr e)
  unfold findIn at hne
  cases hf : (registerAll E sigOK [] calls).filter (fun r => r.subject == id) with
  | nil => rw [hf] at hne; exact absurd rfl hne
  | cons r rest =>
    have hm : r ∈ (registerAll E sigOK [] calls).filter (fun r => r.subject == id) := by rw [hf]; exact List.mem_cons_self
    obtain ⟨hmem, hsub⟩ := List.mem_filter.mp hm
    have hsub' : r.subject = id := by simpa using hsub
    obtain ⟨ha, hfrom⟩ := stored_revocations_are_authentic E sigOK calls [] (by intro r hr; cases hr) r hmem
    rcases hfrom with hfrom | ⟨b, hb⟩
    · cases hfrom
    · have ha' := ha
      obtain ⟨_, _, hs, hv, _, k, hk, hsig⟩ := ha'
      exact ⟨r, b, hb, hsub', ha, k, hk, by rw [hv, ← hs, hsub'], hsig⟩

/-- the store's own answers are never errors: everything in it went through StoreRevocation's marshal -/
theorem findIn_never_errors (store : List Rev) (id : String) : isRevoked (getRevocations (findIn store id)) ≠ .error := by
  intro h
  rcases (isRevoked_error_iff _).mp h with h | ⟨ds, h, hm⟩
  · cases h
  · unfold findIn at h; injection h with h; rw [← h] at hm; simp at hm

def exRev : Rev := { subject := "did:x:i#1", fragment := "1", hasContext := true, typeOK := true, issuer := "did:x:i", date := 1500,
                     hasProof := true, vm := "did:x:i#k", proofDecodes := true }
def exRevSig : Key → Rev → Bool := fun k r => k == "K1" && r.issuer == "did:x:i"
-- non-vacuity: the issuer's revocation registers and blocks the example credential; a third party's does not
example : registerRevocation exE2 exRevSig true [] exRev = .ok [exRev] := by decide +kernel
example : registerRevocation exE2 exRevSig true [] { exRev with issuer := "did:x:i2", vm := "did:x:i2#k" } = .err "issuer-not-credential-issuer" := by decide +kernel
example : registerRevocation exE2 exRevSig true [] { exRev with vm := "did:x:i2#k" } = .err "vm-not-of-issuer" := by decide +kernel
example : registerRevocation exE2 (fun _ _ => false) true [] exRev = .err "bad-signature" := by decide +kernel
example : isRevoked (getRevocations (findIn (registerAll exE2 exRevSig [] [({ exRev with vm := "did:x:i2#k" }, true), (exRev, false), (exRev, true)]) "did:x:i#1")) = .yes := by decide +kernel
example : isRevoked (getRevocations (findIn (registerAll exE2 exRevSig [] [({ exRev with vm := "did:x:i2#k" }, true), (exRev, false)]) "did:x:i#1")) = .no := by decide +kernel

/-- the return sequence of RegisterRevocation and the complete control flow of ValidateRevocation, regenerated from the source, are
    the guards of the model's `registerRevocation` in the same order -/
theorem fact_register_revocation_sequence :
    Nuts.Facts.C01.registerRevocationReturns = registerRevocationReturnsSrc ∧
    Nuts.Facts.C01.flow_ValidateRevocation =
      [ "if r.Subject.String() == \"\" || r.Subject.Fragment == \"\"", "return fmt.Errorf(\"%w: 'subject' is required and requires a valid fragment\",errValidation)",
        "if len(r.Context) != 0", "foundType := false", "range r.Type", "if val == RevocationType", "foundType = true", "break",
        "if !foundType", "return fmt.Errorf(\"%w: 'type' does not contain %s\",errValidation,RevocationType)",
        "if r.Issuer.String() == \"\"", "return fmt.Errorf(\"%w: 'issuer' is required\",errValidation)",
        "if r.Date.IsZero()", "return fmt.Errorf(\"%w: 'date' is required\",errValidation)",
        "if r.Proof == nil", "return fmt.Errorf(\"%w: 'proof' is required\",errValidation)", "return nil" ] ∧
    Nuts.Facts.C01.registerRevocationSplits =
      [ "subjectIssuer := strings.Split(subject,\"#\")[0]", "vmIssuer := strings.Split(vm,\"#\")[0]", "subject := revocation.Subject.String()",
        "vm := revocation.Proof.VerificationMethod.String()", "metadata := &resolver.ResolveMetadata{} ResolveTime: &revocation.Date" ] := ⟨rfl, rfl, rfl⟩

/-- the converse of `registered_revocation_is_authentic`: an authentic, well-formed revocation IS registered when the store works -/
theorem authentic_revocation_registers (E : Env) (sigOK : Key → Rev → Bool) (store : List Rev) (r : Rev)
    (ha : Rev.Authentic E sigOK r) (hs : r.subject ≠ "") (ht : r.hasContext = true → r.typeOK = true) (hd : r.date ≠ zeroTime)
    (hp : r.proofDecodes = true) :
    registerRevocation E sigOK true store r = .ok (store ++ [r]) := by
  obtain ⟨hf, hi, hsub, hvm, hpr, k, hk, hsig⟩ := ha
  exact (registerRevocation_ok_iff ..).mpr ⟨⟨hs, hf⟩, ht, hi, hd, hpr, hsub, hvm, ⟨k, hk, hp, hsig⟩, rfl, rfl⟩

/-- OWN REVOCATION TAKES EFFECT, end to end (history -> store -> IsRevoked -> Verify): once an authentic, well-formed revocation of a
    credential id was offered while the store worked, that credential is never reported valid again — whatever else is offered before
    or after, under any flags and at any validation time -/
theorem own_revocation_takes_effect (cfg : Cfg) (P : Crypto) (E : Env) (sigOK : Key → Rev → Bool) (before after : List (Rev × Bool))
    (r : Rev) (ha : Rev.Authentic E sigOK r) (hs : r.subject ≠ "") (ht : r.hasContext = true → r.typeOK = true)
    (hd : r.date ≠ zeroTime) (hp : r.proofDecodes = true) (au cs : Bool) (at_ : Option Time) (c : Cred) (hid : c.id = some r.subject) :
    verify cfg P (E.readingStore (findIn (registerAll E sigOK [] (before ++ (r, true) :: after))) r.subject) au cs at_ c ≠ .ok () := by
  apply any_stored_document_blocks_validity cfg P E _ au cs at_ c r.subject hid _ _ rfl
  have : r ∈ (registerAll E sigOK [] (before ++ (r, true) :: after)).filter (fun x => x.subject == r.subject) :=
    List.mem_filter.mpr
      ⟨mem_registerAll.mpr (.inr ⟨true, by simp, authentic_revocation_registers E sigOK [] r ha hs ht hd hp⟩), by simp⟩
  intro hnil
  rw [List.map_eq_nil_iff.mp hnil] at this
  cases this

-- non-vacuity of own_revocation_takes_effect: the example revocation is authentic and well-formed, and blocks the example credential
example : Rev.Authentic exE2 exRevSig exRev := ⟨by decide, by decide, by decide, by decide, rfl, "K1", by decide, by decide⟩
example : verify exCfg exP (exE2.readingStore (findIn (registerAll exE2 exRevSig [] [(exRev, true)])) "did:x:i#1") false true (some 2000) exC = .err "revoked" := by decide +kernel
end Nuts.C01.Props
