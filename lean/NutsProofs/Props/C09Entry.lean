/-
  C09 — entry layer: DAG event -> subscription filter of `ambassador.Start` ->
  `handleNetworkEvent` -> `callback`, with store faults.
  Model: NutsModel/C09/Entry.lean over NutsModel/C09/Ambassador.lean.
-/
import NutsModel.C09.Entry
import NutsModel.C09.SeenSet
import NutsModel.Facts.C09
import NutsModel.Facts.C10
import NutsProofs.Lemmas.C09Entry
import NutsProofs.Lemmas.C09Validators

namespace Nuts.C09.Props
open Nuts Nuts.C10 Nuts.C09

/-! ### obligations on the regenerated facts -/

/-- `Start` subscribes `handleNetworkEvent` under the name "vdr" with exactly one selection filter, which is the
    conjunction of exactly the two equalities `selectionFilter` evaluates; the notifier applies filters before the
    receiver -/
theorem fact_start_subscription :
    Facts.C09.startSubscription = "\"vdr\" -> n.handleNetworkEvent" ∧
    Facts.C09.startSubscribeOptions = ["n.networkClient.WithPersistency", "network.WithSelectionFilter"] ∧
    Facts.C09.startFilterConjuncts =
      [("event.Type", "==", "dag.PayloadEventType"), ("event.Transaction.PayloadType()", "==", "DIDDocumentType")] ∧
    Facts.C09.notifierFiltersBeforeReceiver = true := ⟨rfl, rfl, rfl, rfl⟩

/-- the filter and `checkTransactionIntegrity` compare the payload type with the SAME constant, whose value is the
    did:nuts transaction content type -/
theorem fact_did_document_type :
    Facts.C09.didDocumentType = "application/did+json" ∧
    Facts.C09.integrityPayloadTypeTest = "transaction.PayloadType() != DIDDocumentType" ∧
    Facts.C09.payloadEventType ≠ "transaction" := ⟨rfl, rfl, by decide⟩

/-- `handleNetworkEvent`: (true, nil) on success; an error is wrapped into `dag.EventFatal` exactly when it is not a
    `stoabs.ErrDatabase`; database errors are returned bare (retried) -/
theorem fact_network_event_classification :
    Facts.C09.networkEventFatalUnlessDatabaseError = true ∧
    Facts.C09.handleNetworkEventShape =
      ["if err := n.callback(event.Transaction, event.Payload); err != nil",
       "  if !errors.As(err, new(stoabs.ErrDatabase))",
       "    return false, dag.EventFatal{Err: err}",
       "  return false, err",
       "return true, nil"] := ⟨rfl, rfl⟩

/-- the head of `handleUpdateDIDDocument`'s loop over the prevs: an error of the version lookup that is not not-found
    RETURNS (the update is refused / deferred); only "no version" moves on to the next prev -/
theorem fact_update_lookup_error_branch :
    Facts.C09.updateLookupLoopHead =
      ["version, metadata, err := n.didStore.Resolve(proposedDIDDocument.ID, &resolver.ResolveMetadata{AllowDeactivated: true, SourceTransaction: &ref})",
       "err != nil && !errors.Is(err, resolver.ErrNotFound) => return error",
       "version == nil => continue"] := rfl

/-- `basicServiceValidator`'s seen-set of service types is looked up and recorded under the SAME key, the raw type string
    (what `validateSvcs` hard-codes: `knownTypes.contains s.type` / `s.type :: knownTypes`) -/
theorem fact_service_type_seen_set_keys :
    Facts.C09.serviceTypeLookupKey = "service.Type" ∧ Facts.C09.serviceTypeRecordKey = "service.Type" ∧
    (serviceTypeKey Facts.C09.serviceTypeLookupKey).isSome = true ∧
    (serviceTypeKey Facts.C09.serviceTypeRecordKey).isSome = true := ⟨rfl, rfl, by decide, by decide⟩

/-- the entry configuration the source describes today -/
def entryCfg : EntryCfg :=
  { payloadEventType := Facts.C09.payloadEventType, didDocumentType := Facts.C09.didDocumentType }

/-! ### the subscription refines `callback` -/

/-- **Filtered events are inert.** An event whose type is not the payload event type, or whose transaction does not
    carry the did+json content type, never reaches the receiver and leaves the store untouched — whatever it carries. -/
theorem filtered_event_inert (e : EntryCfg) (b : Bool) (c : Cfg) (s : Store) (ev : DagEvent) (f : Option AddFault)
    (h : selectionFilter e ev = false) : notify e b c s ev f = (s, none) := by
  unfold notify; simp [h]

/-- **Refinement.** For an event that passes the filter (no store fault) the subscription does exactly what `callback`
    does: same store afterwards, `finished` iff `callback` accepted, and every refusal is FATAL (never retried). -/
theorem notify_refines_callback (e : EntryCfg) (c : Cfg) (s : Store) (ev : DagEvent)
    (h : selectionFilter e ev = true) :
    notify e true c s ev none =
      (match callback c s ev.tx ev.payload with
       | .ok s' => (s', some .finished)
       | .err x => (s, some (.fatal x))
       | .panic x => (s, some (.panic x))) := by
  unfold notify handleNetworkEvent callbackF
  simp only [h, if_true]
  cases callback c s ev.tx ev.payload <;> simp [isDatabaseErr]

/-- **finished ⇔ accepted.** The notifier is told `finished` exactly for events that pass the filter and whose
    transaction `callback` accepts with a working store (so `callback_accepts_iff` describes them). -/
theorem finished_iff_accepted (e : EntryCfg) (b : Bool) (c : Cfg) (s : Store) (ev : DagEvent) (f : Option AddFault) :
    (notify e b c s ev f).2 = some .finished ↔
      selectionFilter e ev = true ∧ faultHit c s ev.tx ev.payload f = false ∧ ∃ s', callback c s ev.tx ev.payload = .ok s' := by
  constructor
  · intro hfin
    exact Classical.not_not.mp fun hn => (notify_not_accepted e b c s ev f hn).2 hfin
  · rintro ⟨hf, hh, s', hc⟩
    rw [notify_accepted e b c s s' ev f hf hh hc]

/-- **The store changes only by an accepted, unfaulted, unfiltered event** — and then to exactly the store `callback`
    answers. Contrapositive: filtered, rejected, panicking and store-faulted deliveries all leave the store (hence
    `Resolve`, the key resolver and all later decisions) as it was. -/
theorem notify_changes_only_if_accepted (e : EntryCfg) (b : Bool) (c : Cfg) (s : Store) (ev : DagEvent) (f : Option AddFault)
    (h : (notify e b c s ev f).1 ≠ s) :
    selectionFilter e ev = true ∧ faultHit c s ev.tx ev.payload f = false ∧
      callback c s ev.tx ev.payload = .ok (notify e b c s ev f).1 := by
  obtain ⟨hf, hh, s', hc⟩ := Classical.not_not.mp fun hn => h (notify_not_accepted e b c s ev f hn).1
  rw [notify_accepted e b c s s' ev f hf hh hc]
  exact ⟨hf, hh, hc⟩

/-- **A failing store is retried, not dropped; nothing else is.** With the source's classification, an event that
    `callback` would accept but whose `didStore.Add` fails with a database error is answered `retry` (store unchanged);
    with a non-database store error it is `fatal`; and without a fault NO answer is ever `retry`. -/
theorem store_fault_classification (e : EntryCfg) (c : Cfg) (s s' : Store) (ev : DagEvent) (n : String)
    (hf : selectionFilter e ev = true) (hcb : callback c s ev.tx ev.payload = .ok s') :
    notify e true c s ev (some { name := n, isDb := true }) = (s, some (.retry ("store:fault:" ++ n))) ∧
    notify e true c s ev (some { name := n, isDb := false }) = (s, some (.fatal ("store:fault:" ++ n))) ∧
    (∀ ev' x, (notify e true c s ev' none).2 ≠ some (.retry x)) := by
  refine ⟨?_, ?_, ?_⟩
  · unfold notify handleNetworkEvent callbackF
    simp [hf, hcb, isDatabaseErr, faultErr]
  · unfold notify handleNetworkEvent callbackF
    simp [hf, hcb, isDatabaseErr, faultErr]
  · intro ev' x
    by_cases hf' : selectionFilter e ev' = true
    · rw [notify_refines_callback e c s ev' hf']
      cases callback c s ev'.tx ev'.payload <;> simp
    · rw [filtered_event_inert e true c s ev' none (Bool.eq_false_iff.mpr hf')]
      simp

/-- **Behind the subscription the payload-type test of `checkTransactionIntegrity` cannot fire** (it is what protects
    the REPROCESS entry, which has no filter): a coherent event that passes the filter has `typeOK`. -/
theorem filter_subsumes_type_check (e : EntryCfg) (ev : DagEvent) (hc : ev.coherent e)
    (hf : selectionFilter e ev = true) :
    ev.tx.typeOK = true ∧ checkTransactionIntegrity ev.tx ≠ .err "integrity:payload-type" := by
  unfold selectionFilter at hf
  unfold DagEvent.coherent at hc
  have h2 : (ev.payloadType == e.didDocumentType) = true := by
    cases h : (ev.payloadType == e.didDocumentType) <;> simp [h] at hf ⊢
  have ht : ev.tx.typeOK = true := by rw [hc, h2]
  refine ⟨ht, ?_⟩
  by_cases h1 : ev.tx.payloadHashEmpty = true <;> by_cases h3 : ev.tx.sigTimeZero = true <;>
    simp [checkTransactionIntegrity, ht, h1, h3]

/-! ### all event streams -/

theorem notify_eq_reprocessOne_of_passed (e : EntryCfg) (b : Bool) (c : Cfg) (s : Store) (ev : DagEvent)
    (h : selectionFilter e ev = true) :
    (notify e b c s ev none).1 = reprocessOne c s ev.tx ev.payload := by
  unfold notify handleNetworkEvent callbackF reprocessOne
  simp only [h, if_true]
  cases callback c s ev.tx ev.payload with
  | ok s' => rfl
  | err x => by_cases hb : (b && !isDatabaseErr none x) = true <;> simp [hb]
  | panic x => rfl

/-- **All event streams: resolvable only if accepted.** After ANY stream of DAG events — any length, any event types and
    payload types, store faults (failing `Add`, failing version lookups, database or other errors) at any deliveries —
    over ANY store, every event in every DID's list was there before or is the (transaction, document) of an event of
    the stream that passed the selection filter, executed no failing store call, and was accepted by `callback` in the
    state reached at that moment (so it satisfies `callback_accepts_iff`). -/
theorem event_stream_resolvable_only_if_accepted (e : EntryCfg) (b : Bool) (c : Cfg) :
    ∀ (l : List (DagEvent × Option AddFault)) (s : Store) (id : String) (x : Event),
      x ∈ ((notifyAll e b c s l).get id).events →
      x ∈ (s.get id).events ∨
      ∃ pre ev f post d s', l = pre ++ (ev, f) :: post ∧ selectionFilter e ev = true ∧
        faultHit c (notifyAll e b c s pre) ev.tx ev.payload f = false ∧ ev.payload = some d ∧
        x = eventOf ev.tx d ∧ d.id = id ∧ callback c (notifyAll e b c s pre) ev.tx (some d) = .ok s' := by
  intro l s id x h
  rcases run_first_step _ (notifyAll e b c) (fun _ => rfl) (fun _ _ _ => rfl) (fun s => x ∈ (s.get id).events)
      (fun s p => notify_events e b c s p.1 p.2 id x) l s h
    with h0 | ⟨pre, ⟨ev, f⟩, post, hl, hsel, hhit, d, s', hpd, hok, hx, hid⟩
  · exact Or.inl h0
  · exact Or.inr ⟨pre, ev, f, post, d, s', hl, hsel, hhit, hpd, hx, hid, hok⟩

/-! ### failing version lookups (`didStore.Resolve` in `handleUpdateDIDDocument`) -/

/-- **A version that cannot be looked up is never skipped.** An update that reaches `handleUpdateDIDDocument` while
    the lookup of the version named by its k-th prev fails (k within the prevs; wherever in the list, whatever the other
    prevs name, whether or not a version was already found) is NOT accepted: the store stays as it was, the answer is
    the lookup error — `retry` for a database error (the notifier delivers it again), `fatal` otherwise — and in no
    case `finished`. In particular the "authorised under EVERY named version" check
    (`accepted_update_authorised_under_every_named_version`) cannot be thinned out by store errors. -/
theorem lookup_fault_never_accepts (e : EntryCfg) (c : Cfg) (s : Store) (ev : DagEvent) (d : NDoc)
    (n : String) (db : Bool) (ks : List Nat) (fb : Bool) (k : Nat)
    (hf : selectionFilter e ev = true) (hr : reachesUpdate c ev.tx ev.payload = some d)
    (hk : k ∈ ks) (hlen : k < ev.tx.prevs.length) :
    notify e true c s ev (some { name := n, isDb := db, site := .lookup ks fb }) =
      (s, some (if db then .retry ("update:resolve:fault:" ++ n) else .fatal ("update:resolve:fault:" ++ n))) := by
  refine notify_lookup_hit e c s ev _ ks fb hf rfl ?_
  have : ks.any (fun k => decide (k < ev.tx.prevs.length)) = true := List.any_eq_true.mpr ⟨k, hk, by simpa using hlen⟩
  simp [faultHit, hr, lookupHit, this]

/-- the same for the fallback lookup: when no prev names a version and the latest-version lookup fails -/
theorem fallback_lookup_fault_never_accepts (e : EntryCfg) (c : Cfg) (s : Store) (ev : DagEvent) (d : NDoc)
    (n : String) (db : Bool) (ks : List Nat)
    (hf : selectionFilter e ev = true) (hr : reachesUpdate c ev.tx ev.payload = some d)
    (hfb : fallbackUsed s d.id ev.tx.prevs = true) :
    (notify e true c s ev (some { name := n, isDb := db, site := .lookup ks true })).1 = s ∧
    (notify e true c s ev (some { name := n, isDb := db, site := .lookup ks true })).2 ≠ some .finished := by
  rw [notify_lookup_hit e c s ev _ ks true hf rfl (by simp [faultHit, hr, lookupHit, hfb])]
  cases db <;> simp

/-- a lookup fault that is not executed (position beyond the prevs, delivery refused earlier, creation) changes nothing -/
theorem lookup_fault_not_hit (c : Cfg) (s : Store) (tx : Tx) (pd : Option NDoc) (f : AddFault) (ks : List Nat) (fb : Bool)
    (hs : f.site = .lookup ks fb) (h : faultHit c s tx pd (some f) = false) :
    callbackF c s tx pd (some f) = callback c s tx pd := by
  simp [callbackF, hs, h]

/-- where `reachesUpdate` answers `some d`, `callback` does hand `d` to `handleUpdateDIDDocument` -/
theorem callback_of_reachesUpdate (c : Cfg) (s : Store) (tx : Tx) (pd : Option NDoc) (d : NDoc)
    (h : reachesUpdate c tx pd = some d) : callback c s tx pd = handleUpdate c s tx d := by
  revert h
  fun_cases reachesUpdate c tx pd with
  | case2 hi d' hv he => exact fun h => by cases h; simp only [callback, hi, hv, he]
  | _ => nofun

/-! ### the seen-set of service types -/

/-- **Same key on both sides ⇒ the rule is exact.** Looked up and recorded under one key function, the seen-set lets a
    list of types pass iff no two of them have the same key (and none collides with what was seen before). -/
theorem seenSet_same_key (key : String → String) :
    ∀ (ts seen : List String),
      seenSetRejects key key ts seen = false ↔ (ts.map key).Nodup ∧ ∀ t ∈ ts, key t ∉ seen := by
  intro ts
  induction ts with
  | nil => intro seen; simp [seenSetRejects]
  | cons t ts ih =>
    intro seen
    rw [List.map_cons, List.forall_mem_cons]
    have := nodup_fresh_cons (key t) (ts.map key) seen
    simp only [List.forall_mem_map, List.forall_mem_cons] at this
    rw [this, ← ih, seenSetRejects]
    by_cases h : key t ∈ seen <;> simp [h]

/-- **Different keys ⇒ the rule leaks.** If the looked-up key of some type differs from its recorded key, that very type
    may occur twice (why `fact_service_type_seen_set_keys` is an obligation and not a remark). -/
theorem seenSet_key_mismatch_misses (look rec : String → String) (t : String) (h : look t ≠ rec t) :
    seenSetRejects look rec [t, t] [] = false := by
  simp [seenSetRejects, h]

/-- whatever the model's service validator lets pass, this seen-set with the identity key lets pass: pairwise different
    type strings (also relative to the types seen before) -/
theorem validateSvcs_ok_seenSet (owner : String) :
    ∀ (ss : List NSvc) (ids types : List String),
      validateSvcs (fun _ => true) owner ss ids types = .ok () →
      seenSetRejects (fun t => t) (fun t => t) (ss.map (·.type)) types = false := by
  intro ss ids types h
  have hty := ((validateSvcs_ok_iff owner ss ids types).mp h).2.2
  exact (seenSet_same_key (fun t => t) _ types).mpr ⟨by rw [List.map_id']; exact hty.1, hty.2⟩

/-- what the service validator lets pass from empty seen-sets (as `validate`, which `callback` runs, starts it) has at
    most one service per type STRING -/
theorem validateSvcs_ok_types_nodup (owner : String) (ss : List NSvc)
    (h : validateSvcs (fun _ => true) owner ss [] [] = .ok ()) : (ss.map (·.type)).Nodup :=
  ((validateSvcs_ok_iff owner ss [] []).mp h).2.2.1

example : seenSetRejects (fun t => t) (fun t => t) ["NutsComm ", "NutsComm "] [] = true := by decide
example : seenSetRejects (fun t => t) (fun t => t) ["NutsComm", "NutsComm "] [] = false := by decide

/-! ### non-vacuity -/

private def tx0 : Tx := { ref := 1, clock := 0, sigTime := 5, prevs := [], payloadHash := "h", embedded := some "k", signer := "k" }
private def evOf (t p : String) : DagEvent := { evType := t, payloadType := p, tx := { tx0 with typeOK := p == "application/did+json" }, payload := none }

example : selectionFilter entryCfg (evOf "payload" "application/did+json") = true := by decide
example : (evOf "payload" "application/did+json").coherent entryCfg := by unfold DagEvent.coherent; decide
example : selectionFilter entryCfg (evOf "transaction" "application/did+json") = false := by decide
example : selectionFilter entryCfg (evOf "payload" "application/vc+json") = false := by decide
example : selectionFilter entryCfg (evOf "payload" "application/DID+json") = false := by decide

/-! the removed-key scenario with a failing lookup: X lists key a in tx 100, tx 110 replaces it by key b; the holder of a
    signs an update naming [100, 110]. Fault-free it is refused; with the lookup of 110's version failing it is
    refused/deferred as well (the mutated loop that skips a failed lookup would accept it). -/
private def cfgE : Cfg :=
  { thumb := fun k => k, didThumb := fun k => "D" ++ k, maxDepth := Facts.C09.maxControllerDepth,
    validators := Facts.C09.networkValidators, vmNilJwkErr := Facts.C09.verifyThumbprintGuardsNilJwk,
    findKeyNilJwkErr := Facts.C09.findKeyGuardsNilJwk, store := cfgOf (fun _ l => l) Facts.C10.mergeSortedFields }
private def vmE (k : String) : NVM := { id := "did:nuts:Da#" ++ k, pfx := "did:nuts:Da", frag := k, key := .key k }
private def docE (keys : List String) : NDoc :=
  { id := "did:nuts:Da", idID := "Da", vms := keys.map vmE, capInv := keys.map vmE }
private def txCreate : Tx := { ref := 100, clock := 0, sigTime := 10, prevs := [], payloadHash := "p100", embedded := some "a", signer := "a" }
private def txUpd (ref : Nat) (prevs : List Nat) (k : String) : Tx :=
  { ref := ref, clock := 1, sigTime := 20, prevs := prevs, payloadHash := s!"p{ref}",
    kid := { holder := "did:nuts:Da", id := "did:nuts:Da#" ++ k }, signer := k }
private def evE (tx : Tx) (d : NDoc) : DagEvent :=
  { evType := "payload", payloadType := "application/did+json", tx := tx, payload := some d }
private def sE : Store :=
  notifyAll entryCfg true cfgE {} [(evE txCreate (docE ["a"]), none), (evE (txUpd 110 [100] "a") (docE ["b"]), none)]
private def evTakeover : DagEvent := evE (txUpd 120 [100, 110] "a") (docE ["a", "c"])

example : (reachesUpdate cfgE evTakeover.tx evTakeover.payload).isSome = true := by decide
example : ((notify entryCfg true cfgE sE evTakeover none).2.map Ack.render) = some "err:update:not-signed-by-controller" := by decide +kernel
example : ((notify entryCfg true cfgE sE evTakeover (some { name := "db", isDb := true, site := .lookup [1] false })).2.map Ack.render)
    = some "retry:err:update:resolve:fault:db" := by decide +kernel
example : ((notify entryCfg true cfgE sE evTakeover (some { name := "other", isDb := false, site := .lookup [0] false })).2.map Ack.render)
    = some "err:update:resolve:fault:other" := by decide +kernel
-- a position beyond the prevs is never executed
example : ((notify entryCfg true cfgE sE evTakeover (some { name := "db", isDb := true, site := .lookup [2] false })).2.map Ack.render)
    = some "err:update:not-signed-by-controller" := by decide +kernel
-- the legitimate update by key b, and the same with a database error at Add
example : ((notify entryCfg true cfgE sE (evE (txUpd 130 [110] "b") (docE ["b", "c"])) none).2.map Ack.render) = some "ok" := by decide +kernel
example : ((notify entryCfg true cfgE sE (evE (txUpd 130 [110] "b") (docE ["b", "c"])) (some { name := "db", isDb := true })).2.map Ack.render)
    = some "retry:err:store:fault:db" := by decide +kernel

end Nuts.C09.Props
