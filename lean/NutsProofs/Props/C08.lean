/-
  C08 — DAG digests, indexes, head and counters equal what the stored set implies.
  Property theorems over NutsModel/C08 (tree.go, xor.go, iblt.go, treestore.go, dag.go, state.go, consistency.go).
-/
import NutsModel.C08.Spec
import NutsModel.C08.Metric
import NutsModel.Facts.C08
import NutsProofs.Lemmas.C08Repair
import NutsProofs.Lemmas.C08Codec
import NutsProofs.Lemmas.C08Drop
import NutsProofs.Lemmas.Base

namespace Nuts.C08.Props
open Nuts.C08

variable {R G : Type}

theorem fact_page_size : Facts.C08.pageSize = 512 ∧ Facts.C08.pageSize % 2 = 0 := ⟨rfl, rfl⟩
theorem fact_iblt_buckets : Facts.C08.ibltNumBuckets = 1024 ∧ Facts.C08.ibltK = 6 ∧ Facts.C08.bucketBytes = 4 + 8 + 32 := ⟨rfl, rfl, rfl⟩
theorem fact_shelves : Facts.C08.xorShelf = "xorBucket" ∧ Facts.C08.ibltShelf = "ibltBucket" := ⟨rfl, rfl⟩
/-- `tree.Load` with no leaves resets the tree (the `OnRollback` reload of an empty DAG must discard the trees) -/
theorem fact_load_empty_resets : Facts.C08.loadEmptyResets = true := rfl
/-- the `OnRollback` hook of `state.Add` reloads with a context of its own, not the (possibly cancelled) caller's -/
theorem fact_rollback_reload_context : Facts.C08.rollbackReloadContexts = ["context.Background()"] := rfl
/-- `state.Add` holds `addMutex` from before its write transaction until after the commit (first `AfterCommit`) or, on
    failure, until its rollback handler has reloaded the trees (`defer`): write transaction + handler are one atomic step,
    which is what the model's `add` is. (go-stoabs releases its own write lock before it calls the handlers.) -/
theorem fact_add_critical_section :
    Facts.C08.addMutexCalls = ["s.addMutex.Lock"] ∧ Facts.C08.addFirstAfterCommit = ["unlock"] ∧
    "unlock()" ∈ Facts.C08.addDefers := ⟨rfl, rfl, .head _⟩
/-- `addMutex` is held from before `db.Write` (taken at the top level of `Add`, not inside the write closure) until after
    the commit or — on failure — until `Add` returns (`defer`), i.e. after ALL rollback handlers have run; the only
    rollback handler is the reload (no handler that releases the mutex in front of it) -/
theorem fact_add_mutex_spans_rollback_reload :
    Facts.C08.addMutexShape = ["Lock:top-level:before-db.Write", "defer:top-level:unlock()"] ∧
    Facts.C08.addRollbackHandlers = ["func:s.loadState"] := ⟨rfl, rfl⟩
/-- the steps of `Add`'s write function and of `dag.add`, in the order the model's `putFails` counts their store writes:
    writePayload (1 put), save payload event, markPayloadEventSaved (1), graph.add (addSingle: clock index + transaction,
    lc_high, head_ref when it changes, tx_num), save transaction event, updateState (IBLT leaf, XOR leaf) -/
theorem fact_add_write_steps :
    Facts.C08.addWriteSteps = ["s.graph.isPresent", "s.payloadStore.writePayload", "s.saveEvent", "markPayloadEventSaved",
      "s.graph.add", "s.saveEvent", "s.updateState"] ∧
    Facts.C08.dagAddSteps = ["d.getHighestClockValue", "d.addSingle", "d.setHighestClockValue", "d.setHead",
      "d.getNumberOfTransactions", "d.setNumberOfTransactions"] := ⟨rfl, rfl⟩
/-- `state.Add` runs under the write lock with a rollback hook -/
theorem fact_add_tx_options :
    "stoabs.OnRollback" ∈ Facts.C08.addTxOptions ∧ "stoabs.WithWriteLock" ∈ Facts.C08.addTxOptions :=
  ⟨.head _, .tail _ (.tail _ (.tail _ (.tail _ (.head _))))⟩
/-- the comparisons in tree.go / state.go / dag.go are the ones the model mirrors -/
theorem fact_comparisons :
    Facts.C08.condsZeroTo = ["clock < current.splitLC", "current.right != nil", "next == nil"] ∧
    Facts.C08.condsGetNextNode = ["n.isLeaf()", "clock < n.splitLC", "n.right == nil"] ∧
    Facts.C08.condsUpdatePath = ["for clock >= t.treeSize", "for next != nil"] ∧
    Facts.C08.condsNewBranch = ["stop - start > t.leafSize"] ∧
    Facts.C08.condsXOR = ["reqClock < currentClock", "pageClock < currentClock"] ∧
    Facts.C08.condsIBLT = Facts.C08.condsXOR ∧
    "transaction.Clock() > highestLC || transaction.Clock() == 0" ∈ Facts.C08.condsDagAdd :=
  ⟨rfl, rfl, rfl, rfl, rfl, rfl, .tail _ (.tail _ (.head _))⟩
/-- `updateState` writes both trees; `loadState` reloads the clock and both trees; `treeStore.write` inserts and persists;
    `checkPage` replaces and persists -/
theorem fact_call_structure :
    Facts.C08.updateStateCalls = ["s.lamportClockHigh.Load", "s.lamportClockHigh.CompareAndSwap", "s.ibltTree.write", "s.xorTree.write"] ∧
    Facts.C08.loadStateCalls = ["s.db.Read", "s.lamportClockHigh.Store", "s.graph.getHighestClockValue", "s.xorTree.read", "s.ibltTree.read"] ∧
    Facts.C08.treeStoreWriteCalls = ["store.mutex.Lock", "store.mutex.Unlock", "store.tree.Insert", "store.writeWithoutLock"] ∧
    Facts.C08.checkPageTreeCalls = ["f.state.xorTree.getZeroTo", "f.state.xorTree.getZeroTo", "f.state.xorTree.tree.Replace", "f.state.xorTree.writeWithoutLock"] :=
  ⟨rfl, rfl, rfl, rfl⟩

/-- wiring: `Network.Configure` loads the state (`state.Configure` → `loadState`), `Network.Start` starts it
    (`state.Start` → `xorTreeRepair.start` → `checkPage` on every tick); the signals reach the circuit; both trees are set
    up on their own shelves with the same page size -/
theorem fact_wiring :
    "n.state.Configure" ∈ Facts.C08.networkConfigureStateCalls ∧ "n.state.Start" ∈ Facts.C08.networkStartStateCalls ∧
    Facts.C08.stateConfigureCalls = ["s.loadState"] ∧ Facts.C08.stateStartRepairCalls = ["s.xorTreeRepair.start"] ∧
    "f.checkPage" ∈ Facts.C08.repairLoopCalls ∧
    Facts.C08.signalCalls = ["s.xorTreeRepair.incrementCount", "s.xorTreeRepair.stateOK"] ∧
    Facts.C08.newStateTreeStores = ["newTreeStore(xorShelf, tree.New(tree.NewXor(), PageSize))",
      "newTreeStore(ibltShelf, tree.New(tree.NewIblt(IbltNumBuckets), PageSize))"] :=
  ⟨.head _, .head _, rfl, rfl, .tail _ (.head _), rfl, rfl⟩
theorem fact_check_page_conditions :
    Facts.C08.condsCheckPage = ["f.circuitState < circuitRed", "err != nil", "lcStart != 0", "!xorTillEnd.Empty()",
      "err != nil", "err != nil", "err != nil", "lcEnd > currentLC"] := rfl
/-- `checkPage` talks to the store through exactly one `db.Write`, and the scan (`findBetweenLC`), the two `getZeroTo`
    reads, `Replace` and `writeWithoutLock` are all inside that transaction's function; `tree.Replace` marks the replaced
    leaf dirty under its own key (`current.splitLC`), which is the key `Load` reads it back under -/
theorem fact_check_page_is_one_write_transaction :
    Facts.C08.checkPageDbCalls = ["f.state.graph.db.Write"] ∧
    Facts.C08.checkPageWriteBody = ["f.state.graph.findBetweenLC", "f.state.xorTree.getZeroTo", "f.state.xorTree.getZeroTo",
      "f.state.xorTree.tree.Replace", "f.state.xorTree.writeWithoutLock"] ∧
    Facts.C08.replaceDirtyKeys = ["current.splitLC"] ∧ Facts.C08.updatePathDirtyKeys = ["current.splitLC"] := ⟨rfl, rfl, rfl, rfl⟩
/-- `Diagnostics` reports the root of the XOR tree, the atomic highest clock and (through `statistics`) the stored
    transaction count -/
theorem fact_diagnostics :
    "core.GenericDiagnosticResult{Title: \"dag_xor\", Outcome: s.xorTree.getRoot().(*tree.Xor).Hash()}" ∈ Facts.C08.diagnosticsEntries ∧
    "core.GenericDiagnosticResult{Title: \"dag_lc_high\", Outcome: s.lamportClockHigh.Load()}" ∈ Facts.C08.diagnosticsEntries ∧
    Facts.C08.statisticsCountSource = ["uint(d.getNumberOfTransactions(tx))"] :=
  ⟨.head _, .tail _ (.tail _ (.head _)), rfl⟩

theorem xor_data_lawful : Lawful xorOps := xor_lawful
theorem iblt_data_lawful (n : Nat) : Lawful (ibltOps n) := iblt_lawful n

/-- `New` establishes the invariant ("ranges nest, left spine complete, every node's data is the sum of the leaves
    below it") -/
theorem tree_inv_new (o : Ops R G) (ls : Nat) (hls : 0 < ls) : TInv o (Tree.new o ls) := TInv.new o hls

/-- `Insert` (any reference, any clock — including clocks that make the tree grow by `reRoot` and create new branches)
    keeps the invariant, and the sum of the leaves on any set `q` of pages gains the reference exactly when the
    clock's page is in `q`. -/
theorem tree_inv_insert {o : Ops R G} (L : Lawful o) (t : Tree G) (i : TInv o t) (r : R) (clock : Nat) :
    TInv o (t.insert o r clock) ∧ (t.insert o r clock).leafSize = t.leafSize ∧
    ∀ q : Nat → Bool, fsum o t.leafSize q (t.insert o r clock).root.leaves =
      if q (clock / t.leafSize) then o.ins (fsum o t.leafSize q t.root.leaves) r
      else fsum o t.leafSize q t.root.leaves := insert_spec L t i r clock

/-- what `Root()` and `ZeroTo(c)` return, for EVERY `c`, is determined by the leaves: the sum of all leaves, and the
    sum of the leaves on pages up to the page of `c` -/
theorem observables_of_inv {o : Ops R G} (L : Lawful o) (t : Tree G) (i : TInv o t) :
    t.rootData o = fsum o t.leafSize (fun _ => true) t.root.leaves ∧
    ∀ c, (t.zeroTo o c).1 = fsum o t.leafSize (fun p => decide (p ≤ c / t.leafSize)) t.root.leaves :=
  ⟨Tree.root_data L t i, Tree.zeroTo_data L t i⟩

/-- **The tree is the fold.** After inserting ANY list of (reference, clock) pairs into a new tree — any clocks, any
    order, crossing any page and tree-growth boundaries — `Root()` is the digest of all references and `ZeroTo(c)`,
    for EVERY `c`, is the digest of the references whose clock lies on a page up to `c`'s page. Generic in the data:
    holds for XOR and for the IBLT. -/
theorem tree_is_fold {o : Ops R G} (L : Lawful o) (ls : Nat) (hls : 0 < ls) (l : List (R × Nat)) :
    let t := l.foldl (fun t rc => t.insert o rc.1 rc.2) (Tree.new o ls)
    TInv o t ∧ t.rootData o = specAll o l ∧ ∀ c, (t.zeroTo o c).1 = specUpTo o ls l c := by
  intro t
  obtain ⟨i, e, h⟩ := insert_fold_new L hls l
  have ob := observables_of_inv L t i
  have e' : t.leafSize = ls := e
  refine ⟨i, ?_, fun c => ?_⟩
  · rw [ob.1, e', h, List.filter_eq_self.mpr (fun _ _ => rfl)]
  · rw [ob.2 c, e', h]; rfl

/-- instantiated for the XOR digest -/
theorem xor_tree_is_fold (ls : Nat) (hls : 0 < ls) (l : List (Ref × Nat)) (c : Nat) :
    ((l.foldl (fun t rc => t.insert xorOps rc.1 rc.2) (Tree.new xorOps ls)).zeroTo xorOps c).1 = specUpTo xorOps ls l c :=
  (tree_is_fold xor_lawful ls hls l).2.2 c

/-- instantiated for the IBLT (bucket indices and key hashes of each reference are arbitrary data) -/
theorem iblt_tree_is_fold (n ls : Nat) (hls : 0 < ls) (l : List (IKey × Nat)) (c : Nat) :
    ((l.foldl (fun t rc => t.insert (ibltOps n) rc.1 rc.2) (Tree.new (ibltOps n) ls)).zeroTo (ibltOps n) c).1 =
      specUpTo (ibltOps n) ls l c :=
  (tree_is_fold (iblt_lawful n) ls hls l).2.2 c

/-- non-vacuity: a concrete tree of leaf size 2 that grew twice (clocks 0, 5, 3) -/
example : let t := [((1 : BitVec 256), 0), (2, 5), (4, 3)].foldl (fun t rc => t.insert xorOps rc.1 rc.2) (Tree.new xorOps 2)
    t.treeSize = 8 ∧ (t.zeroTo xorOps 1).1 = 1 ∧ (t.zeroTo xorOps 3).1 = 5 ∧ (t.zeroTo xorOps 4).1 = 7 ∧ t.rootData xorOps = 7 := by
  decide

/-- **Load establishes the invariant.** From the persisted leaves of the pages `0 … m-1` (`m ≥ 1`, even leaf size)
    `Load` — into any tree object — builds a tree that satisfies the invariant and holds exactly those leaves, with
    nothing marked dirty. (Contiguity of the persisted pages is not assumed at the state level: it is derived from
    `clocks_downward_closed`.) -/
theorem tree_inv_load {o : Ops R G} (L : Lawful o) {ls : Nat} (hls : 0 < ls) (heven : ls % 2 = 0) (b : Bool) (t0 : Tree G)
    (m : Nat) (val : Nat → G) (hm : 1 ≤ m) :
    TInv o (Tree.load o b t0 (pl ls 0 m val)) ∧ (Tree.load o b t0 (pl ls 0 m val)).root.leaves = pl ls 0 m val ∧
    (Tree.load o b t0 (pl ls 0 m val)).leafSize = ls ∧ (Tree.load o b t0 (pl ls 0 m val)).dirty = [] := by
  have h := Holds.load L hls heven b t0 m val hm
  exact ⟨h.1.inv, h.1.leaves, h.1.ls_eq, h.2.1⟩

/-- **Replace keeps the invariant** and sets exactly the addressed page: on a tree holding pages `0 … m-1`,
    `Replace(clock, x)` with `clock` on an existing page makes that page's leaf `x`, recomputes every sum above it
    (`rebuild`), marks that leaf dirty and touches no other leaf. -/
theorem tree_inv_replace {o : Ops R G} (L : Lawful o) {ls : Nat} {t : Tree G} {m : Nat} {val : Nat → G}
    (H : Holds o ls t m val) (clock : Nat) (x : G) (hP : clock / ls < m) :
    TInv o (t.replace o clock x) ∧ (t.replace o clock x).root.leaves = pl ls 0 m (upd val (clock / ls) x) ∧
    (t.replace o clock x).dirty = t.dirty ++ [keyOf ls (clock / ls)] := by
  have h := H.replace L clock x hP
  exact ⟨h.1.inv, h.1.leaves, h.2.1⟩

/-- the clock `ZeroTo(c)` returns on a tree holding the pages `0 … m-1`: the last clock of `c`'s page, capped by the
    last clock of the last page -/
theorem zeroTo_clock_of_contiguous {o : Ops R G} {ls : Nat} {t : Tree G} {m : Nat} {val : Nat → G}
    (H : Holds o ls t m val) (c : Nat) : (t.zeroTo o c).2 = ls * (min (c / ls) (m - 1) + 1) - 1 := by
  obtain ⟨h, sh, _⟩ := H.shape
  have := zeroTo_clock (o := o) H.ls_pos c sh (t.root.data o) (Nat.zero_le _)
  simpa [Tree.zeroTo] using this

/-- non-vacuity: a three-page tree loaded from its leaves, and a page of it replaced -/
example : Holds xorOps 2 (Tree.load xorOps true (Tree.new xorOps 2) (pl 2 0 3 (fun p => BitVec.ofNat 256 (p + 1)))) 3
    (fun p => BitVec.ofNat 256 (p + 1)) :=
  (Holds.load xor_lawful (by decide) (by decide) true _ 3 _ (by decide)).1
example : ((Tree.load xorOps true (Tree.new xorOps 2) (pl 2 0 3 (fun p => BitVec.ofNat 256 (p + 1)))).replace xorOps 3 9).root.leaves =
    [(1, 1), (3, 9), (5, 3)] := by decide

/-- the model instantiated with the regenerated facts -/
def cfg : Cfg := { pageSize := Facts.C08.pageSize, loadEmptyResets := Facts.C08.loadEmptyResets }
abbrev NB : Nat := Facts.C08.ibltNumBuckets

theorem cfg_good : Good cfg := ⟨by decide, by decide, by decide⟩

/-- the states the node can be in: start from the empty store; `Add` calls with ANY transaction, payload and outcome of
    the commit (concurrent calls are serialised by the write lock, in any order); process stop + restart at any point;
    the repair loop's signals and page checks at any point -/
inductive Reachable : State NB → Prop
  | init : Reachable (State.init cfg)
  | add {s} (tx : Tx) (opt : AddOpts) : Reachable s → Reachable (add cfg s tx opt).1
  | restart {s} : Reachable s → Reachable (restart cfg s)
  | signalIncorrect {s} : Reachable s → Reachable (signalIncorrect s)
  | signalCorrect {s} : Reachable s → Reachable (signalCorrect s)
  | checkPage {s} : Reachable s → Reachable (checkPage cfg s)
  | checkPageWith {s} (lcSeen : Nat) : Reachable s → Reachable (checkPageWith cfg lcSeen s)

theorem reachable_inv {s : State NB} (r : Reachable s) : SInv cfg s := by
  induction r with
  | init => exact SInv.init cfg
  | add tx opt _ ih => exact (ih.add cfg_good tx opt).1
  | restart _ ih => exact ih.restart cfg_good
  | signalIncorrect _ ih => exact ⟨ih.g, ih.lc, ih.x, ih.i⟩
  | signalCorrect _ ih => exact ⟨ih.g, ih.lc, ih.x, ih.i⟩
  | checkPage _ ih => exact (ih.checkPage cfg_good).1
  | checkPageWith lcSeen _ ih => exact (ih.checkPageWith cfg_good lcSeen).1

/-- what is observable of a state: XOR and IBLT for a requested clock, the clock-ordered listing of any window, count,
    highest clock (memory and disk), head -/
structure Observables (s : State NB) (S : List Tx) : Prop where
  xor : ∀ req, xorAt s req = (specUpTo xorOps cfg.pageSize (refClocks S) req, specClock cfg.pageSize S req)
  iblt : ∀ req, ibltAt s req = (specUpTo (ibltOps NB) cfg.pageSize (keyClocks S) req, specClock cfg.pageSize S req)
  listing : ∀ a b, listing s a b = .ok (specListing S a b)
  count : s.disk.count = S.length
  lcMem : s.mem.lcHigh = maxClock S
  lcDisk : s.disk.lcHigh = maxClock S
  head : (S = [] ∧ s.disk.head = none) ∨ (∃ t ∈ S, s.disk.head = some t.ref ∧ t.clock = maxClock S)

theorem observables_of_sinv {s : State NB} (h : SInv cfg s) : Observables s s.disk.txs := by
  refine ⟨fun req => ?_, fun req => ?_, fun a b => listing_eq_spec h.g a b, h.g.count, by rw [h.lc, h.g.lc], h.g.lc, h.g.head⟩
  · unfold xorAt
    rw [h.lc, h.g.lc]
    exact digest_at xor_lawful cfg_good.pos (key := (·.ref)) h.x req
  · unfold ibltAt
    rw [h.lc, h.g.lc]
    exact digest_at (iblt_lawful NB) cfg_good.pos (key := Tx.ikey) h.i req

/-- **Refinement.** In every reachable state, for EVERY requested clock, `XOR(c)` and `IBLT(c)` (digest and clock) are
    the plain folds over the set of stored transactions; `FindBetweenLC(a, b)` for EVERY window is the stored
    transactions with clock in `[a, b)` ordered by (clock, ref bytes); the count is the set's size, the highest clock
    (atomic copy and disk) is its maximum, and the head is a stored transaction with the highest clock. -/
theorem state_refines_spec {s : State NB} (r : Reachable s) : Observables s s.disk.txs :=
  observables_of_sinv (reachable_inv r)

/-- the stored set only ever grows by exactly the transaction an `Add` call reported as stored -/
theorem stored_set_changes_only_on_success {s : State NB} (r : Reachable s) (tx : Tx) (opt : AddOpts) :
    ((add cfg s tx opt).2 ≠ .ok () → (add cfg s tx opt).1.disk = s.disk) ∧
    ((add cfg s tx opt).2 = .ok () →
      ((add cfg s tx opt).1 = s ∧ s.disk.isPresent tx.ref = true) ∨
      ((add cfg s tx opt).1.disk.txs = s.disk.txs ++ [tx] ∧ s.disk.isPresent tx.ref = false)) :=
  ((reachable_inv r).add cfg_good tx opt).2

/-- **Rejected writes are no-ops.** An `Add` that reports an error — missing prev, wrong clock, second root, payload
    mismatch, commit failure — leaves the disk untouched and every observable (for every requested clock) as it was,
    although the rollback hook rebuilt the in-memory trees. -/
theorem add_rejected_noop {s : State NB} (r : Reachable s) (tx : Tx) (opt : AddOpts)
    (herr : (add cfg s tx opt).2 ≠ .ok ()) :
    (add cfg s tx opt).1.disk = s.disk ∧ Observables (add cfg s tx opt).1 s.disk.txs := by
  have a := (reachable_inv r).add cfg_good tx opt
  have hd := a.2.1 herr
  have o := observables_of_sinv a.1
  rw [hd] at o
  exact ⟨hd, o⟩

/-- **Rollback restores.** Whenever the write transaction of an `Add` fails at commit — wherever in the history,
    including the very first write — the disk is untouched and all observables are those of the stored set. -/
theorem rollback_restores {s : State NB} (r : Reachable s) (tx : Tx) (opt : AddOpts) (hf : opt.commitFails = true) :
    (add cfg s tx opt).1.disk = s.disk ∧ Observables (add cfg s tx opt).1 s.disk.txs := by
  have a := (reachable_inv r).add cfg_good tx opt
  have hd : (add cfg s tx opt).1.disk = s.disk := by
    -- a commit failure is never reported as success
    rcases add_cases cfg s tx opt with ⟨_, e⟩ | ⟨_, ⟨hne, _⟩ | ⟨d, _, _, e⟩⟩
    · rw [e]
    · exact a.2.1 hne
    · rw [e, if_pos hf]; rfl
  have o := observables_of_sinv a.1
  rw [hd] at o
  exact ⟨hd, o⟩

/-- **Restart equivalence.** Stopping the process and starting it on the same file (new trees loaded from the persisted
    leaves) gives the same observables. The proof needs page contiguity, which is derived (`clocks_downward_closed`). -/
theorem restart_equiv {s : State NB} (r : Reachable s) :
    (restart cfg s).disk = s.disk ∧ Observables (restart cfg s) s.disk.txs ∧ Observables s s.disk.txs :=
  ⟨rfl, observables_of_sinv ((reachable_inv r).restart cfg_good), observables_of_sinv (reachable_inv r)⟩

/-- clocks of stored transactions are downward closed — a consequence of the prev verifier (clock = 1 + highest prev
    clock, prevs present); it is what makes the pages contiguous and `Load` correct -/
theorem clocks_downward_closed {s : State NB} (r : Reachable s) :
    ∀ t ∈ s.disk.txs, t.clock ≠ 0 → ∃ t' ∈ s.disk.txs, t'.clock + 1 = t.clock :=
  (reachable_inv r).g.closed

/-- non-vacuity: concrete calls on the real configuration — an admitted root, a rejected child (its prev is missing),
    a commit failure on the very first write, and an admitted child -/
def exRoot : Tx := { ref := 7, clock := 0, prevs := [] }
def exChild : Tx := { ref := 9, clock := 1, prevs := [7] }
example : (add cfg (State.init cfg : State NB) exRoot {}).2 = .ok () := by decide
example : (add cfg (State.init cfg : State NB) exChild {}).2 = .err "missing-prev" := by decide
example : (add cfg (State.init cfg : State NB) exRoot { commitFails := true }).2 = .err "commit-failed" := by decide
example : (add cfg (add cfg (State.init cfg : State NB) exRoot {}).1 exChild {}).2 = .ok () := by decide
example : Reachable (restart cfg (add cfg (add cfg (State.init cfg) exRoot {}).1 exChild { commitFails := true }).1) :=
  .restart (.add _ _ (.add _ _ .init))

/-- **`Diagnostics()`** reports what the stored set implies: `dag_xor` is the digest of all stored refs, `dag_lc_high`
    the highest clock, `transaction_count` the number of stored transactions. -/
theorem diagnostics_spec {s : State NB} (r : Reachable s) :
    diagnostics s = (specAll xorOps (refClocks s.disk.txs), maxClock s.disk.txs, s.disk.txs.length) := by
  have h := reachable_inv r
  have hi := h.x.view xor_lawful cfg_good.pos (key := (·.ref))
  unfold diagnostics
  rw [Tree.root_data xor_lawful _ hi.1, hi.2.1, hi.2.2.1, List.filter_eq_self.mpr (fun _ _ => rfl), h.lc, h.g.lc, h.g.count]
  rfl

/-- a failing notifier `Save` of the payload event (before `graph.add`) is one more rolled-back write: error reported,
    disk untouched, observables unchanged. The `Save` of the transaction event (after `graph.add`) is the first example
    below; that it changes nothing is `add_rejected_noop`. -/
theorem save_failure_is_rolled_back {s : State NB} (r : Reachable s) (tx : Tx) (opt : AddOpts)
    (hp : s.disk.isPresent tx.ref = false) (hv : s.disk.verifyPrevs tx = .ok ()) (hpay : opt.payload = some true)
    (hs : opt.savePayloadEventFails = true) (hnp : opt.putFails = none) :
    (add cfg s tx opt).2 = .err "save-failed" ∧ (add cfg s tx opt).1.disk = s.disk ∧
    Observables (add cfg s tx opt).1 s.disk.txs := by
  have herr : (add cfg s tx opt).2 = .err "save-failed" := by
    rw [add_of_verified cfg s tx opt hp hv]
    simp [writeBody, hpay, hs, hnp, putFailsIn]
  have := add_rejected_noop r tx opt (by rw [herr]; intro e; cases e)
  exact ⟨herr, this.1, this.2⟩

example : (add cfg (State.init cfg : State NB) exRoot { saveTxEventFails := true }).2 = .err "save-failed" := by decide
example : (add cfg (State.init cfg : State NB) exRoot { payload := some true, savePayloadEventFails := true }).2 =
    .err "save-failed" := by decide

/-- **Any failure point inside `updateState`.** `updateState` is not atomic in memory (raise the atomic clock, insert
    into the IBLT tree, put its leaf, insert into the XOR tree, put its leaf). Whichever of its store writes fails, once
    the rollback handler has run every observable — for every requested clock — is what the unchanged stored set
    implies: the in-memory state equals the last committed state. -/
theorem partial_update_is_rolled_back {s : State NB} (r : Reachable s) (tx : Tx) (stage : Nat) :
    (rollback cfg (partialUpdate s tx stage)).disk = s.disk ∧
    Observables (rollback cfg (partialUpdate s tx stage)) s.disk.txs := by
  have h := (reachable_inv r).rollback_partial cfg_good tx stage
  have o := observables_of_sinv h.1
  rw [h.2] at o
  exact ⟨h.2, o⟩

/-- a store fault at the k-th `Put` of the write transaction, wherever k falls (payload, clock index, transaction,
    payload-event mark, metadata, IBLT leaf, XOR leaf — or beyond the last put, where nothing fails): the invariant holds
    afterwards, and if an error is reported the disk is untouched and the observables are unchanged -/
theorem store_fault_at_any_put {s : State NB} (r : Reachable s) (tx : Tx) (opt : AddOpts) (k : Nat)
    (_hk : opt.putFails = some k) :
    SInv cfg (add cfg s tx opt).1 ∧
    ((add cfg s tx opt).2 ≠ .ok () → (add cfg s tx opt).1.disk = s.disk ∧ Observables (add cfg s tx opt).1 s.disk.txs) :=
  ⟨((reachable_inv r).add cfg_good tx opt).1, fun herr => add_rejected_noop r tx opt herr⟩

/-- non-vacuity: the root's puts are clock index, transaction, lc_high, head_ref, tx_num, IBLT leaf, XOR leaf — the 6th
    and 7th fail inside `updateState`, an 8th does not exist -/
example : (add cfg (State.init cfg : State NB) exRoot { putFails := some 6 }).2 = .err "put-failed" := by decide
example : (add cfg (State.init cfg : State NB) exRoot { putFails := some 7 }).2 = .err "put-failed" := by decide
example : (add cfg (State.init cfg : State NB) exRoot { putFails := some 8 }).2 = .ok () := by decide
example : (xorAt (add cfg (State.init cfg : State NB) exRoot { putFails := some 7 }).1 0).1 = 0 := by decide

/-- **The repair loop never disturbs a healthy state**: whatever the circuit state and the page it is at, `checkPage`
    changes neither the disk nor the trees. -/
theorem repair_idle_on_healthy_state {s : State NB} (r : Reachable s) :
    (checkPage cfg s).disk = s.disk ∧ (checkPage cfg s).mem.xorTree = s.mem.xorTree ∧
    (checkPage cfg s).mem.ibltTree = s.mem.ibltTree ∧ (checkPage cfg s).mem.lcHigh = s.mem.lcHigh :=
  ((reachable_inv r).checkPage cfg_good).2

/-- **The repair is atomic with respect to `Add`.** The scan of the page, the recomputation, the comparison, `Replace`
    and the persist happen inside one write transaction (`fact_check_page_is_one_write_transaction`), so an `Add` — with
    any outcome — that slips in after `checkPage` read the atomic clock but before that transaction is simply seen by
    it: the state stays healthy, the disk and both trees are exactly what the `Add` left. -/
theorem repair_atomic_wrt_add {s : State NB} (r : Reachable s) (tx : Tx) (opt : AddOpts) :
    let s1 := (add cfg s tx opt).1
    let s2 := checkPageWith cfg s.mem.lcHigh s1
    s2.disk = s1.disk ∧ s2.mem.xorTree = s1.mem.xorTree ∧ s2.mem.ibltTree = s1.mem.ibltTree ∧
    Observables s2 s1.disk.txs := by
  intro s1 s2
  have h1 : SInv cfg s1 := ((reachable_inv r).add cfg_good tx opt).1
  have c := h1.checkPageWith cfg_good s.mem.lcHigh
  have o := observables_of_sinv c.1
  rw [c.2.1] at o
  exact ⟨c.2.1, c.2.2.1, c.2.2.2.1, o⟩

/-- **Repair is local.** In a state whose XOR pages hold arbitrary values `val` (tree and shelf in sync — a corrupted
    leaf that was loaded from disk), `checkPage` with the circuit red, at an existing page `p`, sets page `p` — in
    memory and on disk — to the value recomputed from the stored transactions and leaves every other page's leaf,
    the IBLT tree and shelf, the stored transactions, the clock index and the metadata untouched. -/
theorem repair_local {s : State NB} {val : Nat → BitVec 256} (h : XInv cfg s val) (red : ¬ s.mem.circuit < 2)
    (hp : s.mem.repairPage ≤ maxClock s.disk.txs / cfg.pageSize) :
    XInv cfg (checkPage cfg s) (upd val s.mem.repairPage (xorSpec cfg s s.mem.repairPage)) ∧
    (checkPage cfg s).disk.txs = s.disk.txs ∧ (checkPage cfg s).disk.clocks = s.disk.clocks ∧
    (checkPage cfg s).disk.count = s.disk.count ∧ (checkPage cfg s).disk.lcHigh = s.disk.lcHigh ∧
    (checkPage cfg s).disk.head = s.disk.head ∧ (checkPage cfg s).disk.ibltLeaves = s.disk.ibltLeaves ∧
    (checkPage cfg s).mem.ibltTree = s.mem.ibltTree ∧ (checkPage cfg s).mem.lcHigh = s.mem.lcHigh :=
  h.checkPage cfg_good red hp

def checkN : Nat → State NB → State NB
  | 0, s => s
  | k + 1, s => checkN k (checkPage cfg s)

theorem next_page {s : State NB} {val : Nat → BitVec 256} (h : XInv cfg s val) (red : ¬ s.mem.circuit < 2) :
    (checkPage cfg s).mem.circuit = s.mem.circuit ∧
    (s.mem.repairPage < maxClock s.disk.txs / cfg.pageSize → (checkPage cfg s).mem.repairPage = s.mem.repairPage + 1) := by
  have hn : s.mem.repairPage < maxClock s.disk.txs / cfg.pageSize →
      (if s.mem.repairPage * cfg.pageSize + cfg.pageSize > s.mem.lcHigh then 0 else s.mem.repairPage + 1) = s.mem.repairPage + 1 := by
    intro hp
    have h1 := (Nat.le_div_iff_mul_le cfg_good.pos).mp (Nat.succ_le_of_lt hp)
    rw [Nat.succ_mul] at h1
    rw [if_neg (by rw [h.lc, h.g.lc]; omega)]
  rw [show checkPage cfg s = checkPageWith cfg s.mem.lcHigh s from rfl, checkPageWith_eq, if_neg red]
  split <;> exact ⟨rfl, hn⟩

/-- running the repair loop from page `j` over `k` pages: those pages hold the recomputed values, the others are as
    they were (where the page counter stands matters only when there is a page left to check) -/
theorem repair_prefix : ∀ (k : Nat) (s : State NB) (val : Nat → BitVec 256) (j : Nat), XInv cfg s val →
    ¬ s.mem.circuit < 2 → (k ≠ 0 → s.mem.repairPage = j) → j + k ≤ maxClock s.disk.txs / cfg.pageSize + 1 →
    XInv cfg (checkN k s) (fun q => if j ≤ q ∧ q < j + k then xorSpec cfg s q else val q) ∧
    (checkN k s).disk.txs = s.disk.txs := by
  intro k
  induction k with
  | zero =>
    intro s val j h _ _ _
    have : (fun q => if j ≤ q ∧ q < j + 0 then xorSpec cfg s q else val q) = val := by
      funext q
      rw [if_neg (by omega)]
    rw [this]; exact ⟨h, rfl⟩
  | succ k ih =>
    intro s val j h red hj hle
    have hj := hj (Nat.succ_ne_zero k)
    subst hj
    obtain ⟨hx, htx, _⟩ := repair_local h red (by omega)
    have hspec : xorSpec cfg (checkPage cfg s) = xorSpec cfg s := by unfold xorSpec; rw [htx]
    have np := next_page h red
    obtain ⟨i1, i2⟩ := ih (checkPage cfg s) _ (s.mem.repairPage + 1) hx (by rw [np.1]; exact red)
      (fun hk => np.2 (by omega)) (by rw [htx]; omega)
    refine ⟨?_, by rw [← htx]; exact i2⟩
    show XInv cfg (checkN k (checkPage cfg s)) _
    -- page `j` was set by this step, the pages `j + 1 … j + k` by the remaining ones
    have e : (fun q => if s.mem.repairPage + 1 ≤ q ∧ q < s.mem.repairPage + 1 + k then xorSpec cfg (checkPage cfg s) q
          else upd val s.mem.repairPage (xorSpec cfg s s.mem.repairPage) q) =
        (fun q => if s.mem.repairPage ≤ q ∧ q < s.mem.repairPage + (k + 1) then xorSpec cfg s q else val q) := by
      funext q
      rw [hspec]; unfold upd
      by_cases e1 : q = s.mem.repairPage
      · rw [if_neg (by omega), if_pos e1, if_pos (by omega), e1]
      · by_cases e2 : s.mem.repairPage + 1 ≤ q ∧ q < s.mem.repairPage + 1 + k
        · rw [if_pos e2, if_pos (by omega)]
        · rw [if_neg e2, if_neg e1, if_neg (by omega)]
    rw [e] at i1
    exact i1

/-- **A corrupted page is restored by the repair procedure.** Take any reachable state with stored transactions,
    overwrite the persisted XOR leaf of any existing page `p` with any value, restart (the corrupted leaf is now in the
    tree), signal "incorrect state" twice and let the repair loop check pages `0 … p`: the state is healthy again —
    every observable, for every requested clock, is what the stored set implies — and the stored set is unchanged. -/
theorem repair_restores {s : State NB} (r : Reachable s) (hne : s.disk.txs ≠ []) (p : Nat)
    (hp : p ≤ maxClock s.disk.txs / cfg.pageSize) (v : BitVec 256) :
    let s1 := signalIncorrect (signalIncorrect (restart cfg (corruptDisk s (keyOf cfg.pageSize p) v)))
    SInv cfg (checkN (p + 1) s1) ∧ (checkN (p + 1) s1).disk.txs = s.disk.txs ∧
    Observables (checkN (p + 1) s1) s.disk.txs := by
  intro s1
  have c := (reachable_inv r).corrupt_restart cfg_good hne p hp v
  obtain ⟨hx, htx⟩ := c
  have hx1 : XInv cfg s1 (upd (xorSpec cfg s) p v) := ⟨hx.g, hx.lc, hx.ne, hx.sync, hx.i⟩
  have htx1 : s1.disk.txs = s.disk.txs := htx
  have red : ¬ s1.mem.circuit < 2 := by
    show ¬ ((restart cfg (corruptDisk s (keyOf cfg.pageSize p) v)).mem.circuit + 1 + 1 < 2)
    omega
  have rp := repair_prefix (p + 1) s1 _ 0 hx1 red (fun _ => rfl) (by rw [htx1]; omega)
  obtain ⟨hxn, htxn⟩ := rp
  have hspec1 : xorSpec cfg s1 = xorSpec cfg s := by unfold xorSpec; rw [htx1]
  have hval : (fun q => if 0 ≤ q ∧ q < 0 + (p + 1) then xorSpec cfg s1 q else upd (xorSpec cfg s) p v q) =
      xorSpec cfg (checkN (p + 1) s1) := by
    have : xorSpec cfg (checkN (p + 1) s1) = xorSpec cfg s := by unfold xorSpec; rw [htxn, htx1]
    rw [this, hspec1]
    funext q; unfold upd
    by_cases h1 : 0 ≤ q ∧ q < 0 + (p + 1)
    · rw [if_pos h1]
    · rw [if_neg h1, if_neg (by omega : ¬ q = p)]
  rw [hval] at hxn
  have hs := hxn.healthy cfg_good
  have ho := observables_of_sinv hs
  rw [htxn, htx1] at ho
  exact ⟨hs, by rw [htxn, htx1], ho⟩

/-- the boundary case spelled out: when the highest clock is exactly the first clock of the last page (`k * PageSize`,
    that page holds a single clock value), the repair walk still reaches that page — `k + 1` checks from page 0 restore a
    corruption in it -/
theorem repair_restores_last_page_on_boundary {s : State NB} (r : Reachable s) (hne : s.disk.txs ≠ []) (k : Nat)
    (hk : maxClock s.disk.txs = k * cfg.pageSize) (v : BitVec 256) :
    let s1 := signalIncorrect (signalIncorrect (restart cfg (corruptDisk s (keyOf cfg.pageSize k) v)))
    SInv cfg (checkN (k + 1) s1) ∧ (checkN (k + 1) s1).disk.txs = s.disk.txs ∧
    Observables (checkN (k + 1) s1) s.disk.txs :=
  repair_restores r hne k (by rw [hk, Nat.mul_div_cancel _ cfg_good.pos]; exact Nat.le_refl k) v

/-- the configuration before the repair of `tree.Load` (no reset on an empty shelf) -/
def cfgBeforeLoadFix : Cfg := { pageSize := 512, loadEmptyResets := false }

/-- With the old `Load`, a commit failure on the very first write left the transaction in the XOR tree: `XOR(0)` is the
    rolled-back ref although nothing is stored (the witness replayed on the real code is
    harness/corpus/C08/state-first-write-rolled-back.jsonl). -/
theorem first_write_rollback_defect_before_fix :
    let s := (add cfgBeforeLoadFix (State.init cfgBeforeLoadFix : State NB) exRoot { commitFails := true }).1
    s.disk.txs = [] ∧ (xorAt s 0).1 = 7 ∧ (specUpTo xorOps 512 (refClocks s.disk.txs) 0) = 0 := by
  decide

/-- the state in the window the store used to leave open: the write transaction of `Add tx` has been rolled back (disk
    as before) but its rollback handler has not reloaded the trees yet (memory as `updateState` left it) -/
def rolledBackNotReloaded (s : State NB) (tx : Tx) : State NB :=
  match s.disk.graphAdd tx with
  | .ok d => { updateState s d tx with disk := s.disk }
  | _ => s

def exSibling : Tx := { ref := 12, clock := 1, prevs := [7] }

/-- **The schedule the missing critical section allowed** (before the repair of `state.Add`): root stored; `Add exChild`
    fails at commit; `Add exSibling` runs inside the window; then the late reload. The stored set is {root, sibling}, but
    the XOR digest still contains the rolled-back ref — also after a restart, because the sibling's write persisted the
    stale leaf. With the handler inside the critical section (`fact_add_critical_section`) this interleaving cannot
    occur and every schedule is a sequence of atomic `add` steps (`Reachable`). Witness replayed on the real code:
    harness/corpus/C08/state-rollback-reload-race.jsonl. -/
theorem rollback_reload_race_defect_before_fix :
    let s1 := (add cfg (State.init cfg : State NB) exRoot {}).1
    let s2 := (add cfg (rolledBackNotReloaded s1 exChild) exSibling {}).1
    let s3 := restart cfg (rollback cfg s2)
    s3.disk.txs.map (·.ref) = [7, 12] ∧ (xorAt s3 5).1 = 7 ^^^ 9 ^^^ 12 ∧
    specUpTo xorOps cfg.pageSize (refClocks s3.disk.txs) 5 = 7 ^^^ 12 := by
  decide

/-- `treeSize *= 2` on `uint32` wraps to 0 at 2^31: the loop `for clock >= t.treeSize { t.reRoot() }` would then never
    end. Every statement that ties the `Nat` model to the Go code therefore assumes clocks below 2^31 (a valid DAG
    needs 2^31 chained transactions to get there). -/
theorem reRoot_overflow_witness : reRoot32 (BitVec.ofNat 32 (2 ^ 31)) = 0 ∧
    ∀ k : Nat, k < 31 → reRoot32 (BitVec.ofNat 32 (2 ^ k)) = BitVec.ofNat 32 (2 ^ (k + 1)) := by
  refine ⟨by decide, ?_⟩
  intro k hk
  have : k ∈ List.range 31 := List.mem_range.mpr hk
  revert k
  decide

section codec
open Nuts.C08.Codec

/-- generated from the source: byte orders, offsets and length checks of the codecs are what the model hard-codes -/
theorem fact_codec :
    Facts.C08.treeKeyPut = "LittleEndian.PutUint32" ∧ Facts.C08.treeKeyGet = "LittleEndian.Uint32" ∧
    Facts.C08.bytesToClockFn = "BigEndian.Uint32" ∧ Facts.C08.bytesToCountFn = "BigEndian.Uint64" ∧
    Facts.C08.setHighestClockPut = "BigEndian.PutUint32" ∧ Facts.C08.setCountPut = "BigEndian.PutUint64" ∧
    Facts.C08.ibltByteOrder = "LittleEndian" ∧
    Facts.C08.bucketMarshalLayout = ["PutUint32@" ++ toString countOff, "PutUint64@" ++ toString hashSumOff, "copy@" ++ toString keySumOff] ∧
    Facts.C08.bucketUnmarshalLayout = ["Uint32@:4", "Uint64@4:12", "hash@12:"] ∧
    Facts.C08.bucketBytes = bucketBytes ∧ Facts.C08.hashSize = hashSize ∧
    Facts.C08.lengthChecks = ["bucket.UnmarshalBinary:len(data)!=bucketBytes", "Iblt.UnmarshalBinary:len(data)!=numBuckets*bucketBytes",
      "Xor.UnmarshalBinary:len(data)!=hash.SHA256HashSize"] ∧
    Facts.C08.clockShelfKey = "stoabs.Uint32Key" ∧
    Facts.C08.loadAssignsAfterUnmarshal = true := by
  refine ⟨rfl, rfl, rfl, rfl, rfl, rfl, rfl, ?_, rfl, rfl, rfl, rfl, rfl, rfl⟩
  decide

/-- **Leaf keys round-trip and are injective** (`clockToKey` / `keyToClock`, little-endian): two different leaves never
    share a shelf key, and `treeStore.read` recovers exactly the `splitLC` the leaf was written under. -/
theorem leaf_key_roundtrip (c : Nat) (h : c < 2 ^ 32) :
    keyToClock (clockToKey c) = .ok c ∧ (clockToKey c).length = 4 ∧
    ∀ c', c' < 2 ^ 32 → clockToKey c' = clockToKey c → c' = c := by
  refine ⟨keyToClock_clockToKey c h, leBytes_length 4 c, ?_⟩
  intro c' h' e
  have h1 := keyToClock_clockToKey c' h'
  rw [e, keyToClock_clockToKey c h] at h1
  cases h1; rfl

/-- clock-shelf keys and the metadata values (`lc_high`, `tx_num`) decode to what was encoded (big-endian) -/
theorem clock_key_roundtrip (c : Nat) (h : c < 2 ^ 32) (k : Nat) (hk : k < 2 ^ 64) :
    bytesToClock (uint32Key c) = .ok c ∧ bytesToCount (countBytes k) = .ok k :=
  ⟨bytesToClock_uint32Key c h, bytesToCount_countBytes k hk⟩

/-- a value shorter than the integer makes the Go decoder panic (index out of range) — never a silent 0 -/
theorem short_value_panics (b : Codec.Bytes) (h : b.length < 4) :
    keyToClock b = .panic "index out of range" ∧ bytesToClock b = .panic "index out of range" := by
  simp [keyToClock, bytesToClock, uintLE, uintBE, h]

/-- **`parseHashList` inverts `appendHashList`** for every list of references, and drops a trailing partial hash -/
theorem hash_list_roundtrip (refs : List Ref) (h : Ref) (tail : Codec.Bytes) (ht : tail.length < 32) :
    parseHashList (encodeHashList refs) = refs ∧
    parseHashList (appendHashList (encodeHashList refs) h) = refs ++ [h] ∧
    parseHashList (encodeHashList refs ++ tail) = refs := by
  refine ⟨?_, ?_, parseHashList_flat_tail refs tail ht⟩
  · simpa using parseHashList_flat_tail refs [] (by simp)
  · rw [encodeHashList_append]; simpa using parseHashList_flat_tail (refs ++ [h]) [] (by simp)

/-- **`indexClockValue` on raw bytes refines the abstract clock index** (`Disk.indexClock`): on the encoded value of
    the clock's reference list it puts exactly the encoding of the list the abstract layer computes, and puts nothing
    when the reference is already listed. -/
theorem index_clock_bytes_refines (d : Disk NB) (tx : Tx) :
    match indexClockBytes ((getSorted tx.clock d.clocks).map encodeHashList) tx.ref with
    | none => d.indexClock tx = d
    | some b => ∃ refs', (d.indexClock tx).clocks = putSorted tx.clock refs' d.clocks ∧ b = encodeHashList refs' := by
  unfold indexClockBytes Disk.indexClock
  cases hg : getSorted tx.clock d.clocks with
  | none =>
    have hp : parseHashList ([] : Codec.Bytes) = [] := rfl
    simp only [Option.map_none, hp, Option.getD_none]
    simp only [List.contains_nil, Bool.false_eq_true, if_false]
    exact ⟨[] ++ [tx.ref], rfl, by simp [encodeHashList, appendHashList]⟩
  | some cur =>
    simp only [Option.map_some, (hash_list_roundtrip cur tx.ref [] (by simp)).1, Option.getD_some]
    by_cases hc : cur.contains tx.ref = true
    · rw [if_pos hc, if_pos hc]
    · rw [if_neg hc, if_neg hc]
      exact ⟨cur ++ [tx.ref], rfl, encodeHashList_append cur tx.ref⟩

/-- **Leaf codecs are exact inverses** — `UnmarshalBinary ∘ MarshalBinary = id` for the XOR leaf, the IBLT bucket and
    the whole IBLT, and XOR `MarshalBinary ∘ UnmarshalBinary = id` on every accepted input (no information is lost
    or invented by a restart). -/
theorem leaf_codec_roundtrip (x : BitVec 256) (b : Bucket) (bs : List Bucket) :
    xorUnmarshal (xorMarshal x) = .ok x ∧ bucketUnmarshal (bucketMarshal b) = .ok b ∧
    ibltUnmarshal (ibltMarshal bs) = .ok bs ∧
    (∀ d y, xorUnmarshal d = .ok y → xorMarshal y = d) :=
  ⟨xorUnmarshal_marshal x, bucketUnmarshal_marshal b, ibltUnmarshal_marshal bs, xorMarshal_unmarshal⟩

/-- the length checks: exactly the 32-byte values are XOR leaves; a value whose length is no multiple of 44 bytes is no
    IBLT -/
theorem leaf_codec_rejects (d : Codec.Bytes) :
    (xorUnmarshal d = .err "invalid data length" ↔ d.length ≠ 32) ∧
    (d.length % 44 ≠ 0 → ibltUnmarshal d = .err "invalid data length") := by
  constructor
  · unfold xorUnmarshal
    simp only [hashSize]
    by_cases h : d.length = 32 <;> simp [h]
  · intro h
    have hne : d.length ≠ d.length / bucketBytes * bucketBytes := by simp only [bucketBytes]; omega
    show (if d.length ≠ d.length / bucketBytes * bucketBytes then _ else _) = _
    rw [if_pos hne]

/-- **`Load` on raw bytes refines the abstract `Load`**: on the bytes `writeWithoutLock` produced for a shelf it builds
    exactly the tree the abstract layer builds from the shelf — so every tree theorem above (tree_inv_load,
    restart_equiv, rollback_restores …) holds for the byte layer. -/
theorem load_bytes_refines (b : Bool) (tX : Tree (BitVec 256)) (shelfX : List (Nat × BitVec 256))
    (n : Nat) (tI : Tree (Iblt n)) (shelfI : List (Nat × Iblt n)) :
    loadXorBytes b tX (shelfX.map fun kv => (kv.1, xorMarshal kv.2)) = (Tree.load xorOps b tX shelfX, .ok ()) ∧
    loadIbltBytes n b tI (shelfI.map fun kv => (kv.1, ibltMarshalV kv.2)) = (Tree.load (ibltOps n) b tI shelfI, .ok ()) := by
  constructor
  · simp only [loadXorBytes, unmarshalLeaves_xor]
  · simp only [loadIbltBytes, unmarshalLeaves_iblt, allToIblt_toList]

/-- **Unchanged on error**: a `Load` that fails (a leaf of the wrong length, IBLT leaves of different sizes) returns
    the tree it was called on, for every tree and every raw shelf content. -/
theorem load_bytes_error_unchanged (b : Bool) (tX : Tree (BitVec 256)) (n : Nat) (tI : Tree (Iblt n))
    (kvs : List (Nat × Codec.Bytes)) :
    ((loadXorBytes b tX kvs).2 ≠ .ok () → (loadXorBytes b tX kvs).1 = tX) ∧
    ((loadIbltBytes n b tI kvs).2 ≠ .ok () → (loadIbltBytes n b tI kvs).1 = tI) := by
  constructor
  · unfold loadXorBytes
    cases unmarshalLeaves xorUnmarshal kvs <;> simp
  · unfold loadIbltBytes
    cases unmarshalLeaves ibltUnmarshal kvs with
    | ok l =>
      simp only
      cases allToIblt n l with
      | some l' => simp
      | none => simp only; split <;> simp
    | err e => simp
    | panic s => simp

/-- shelves only ever written by `writeWithoutLock` (`persist`) stay sorted by key — the shape `treeStore.read` needs -/
theorem persist_keeps_sorted {G : Type} (t : Tree G) (shelf : List (Nat × G)) (hs : Sorted shelf) :
    Sorted (persist t shelf).2 :=
  foldl_invariant Sorted _ t.updates shelf (fun kv _ s h => putSorted_sorted kv.1 kv.2 s h) hs

/-- **Restart through the real bytes = the abstract restart** (shelf keys `clockToKey`, values `MarshalBinary`, raw
    iteration `keyToClock`, `Load` with `UnmarshalBinary`): composing the key round trip, the codec round trip and
    `load_bytes_refines`, `loadState` over the raw xorBucket / ibltBucket shelves yields exactly the memory the abstract
    `loadState` yields, without error — hence, where the leaf shelves are sorted by key (`persist_keeps_sorted`) with
    keys below 2^32, `restart_equiv` and `rollback_restores` speak about the stored bytes. -/
theorem load_state_through_bytes (c : Cfg) (d : Disk NB) (m : Mem NB)
    (hsx : Sorted d.xorLeaves) (hsi : Sorted d.ibltLeaves)
    (hbx : ∀ x ∈ d.xorLeaves, x.1 < 2 ^ 32) (hbi : ∀ x ∈ d.ibltLeaves, x.1 < 2 ^ 32) :
    loadStateBytes c (encodeXorShelf d.xorLeaves) (encodeIbltShelf d.ibltLeaves) d.lcHigh m = (loadState c d m, .ok ()) := by
  unfold loadStateBytes
  simp only [encodeXorShelf, encodeIbltShelf, readShelf_encode _ _ hsx hbx, readShelf_encode _ _ hsi hbi,
    (load_bytes_refines c.loadEmptyResets _ d.xorLeaves NB m.ibltTree d.ibltLeaves).1,
    (load_bytes_refines c.loadEmptyResets m.xorTree d.xorLeaves NB _ d.ibltLeaves).2]
  rfl

/-- non-vacuity / witnesses on concrete bytes -/
example : clockToKey 256 = [0, 1, 0, 0] ∧ uint32Key 256 = [0, 0, 1, 0] ∧ keyToClock [0, 1, 0, 0] = .ok 256 := by decide
example : parseHashList (List.replicate 33 7) = [refOfBytes (List.replicate 32 7)] ∧ parseHashList (List.replicate 31 7) = [] := by
  decide
example : indexClockBytes none 5 = some (bytesOfRef 5) ∧ indexClockBytes (some (bytesOfRef 5)) 5 = none := by decide
example : bucketMarshal ⟨1, 2, 3⟩ = [1, 0, 0, 0, 2, 0, 0, 0, 0, 0, 0, 0] ++ List.replicate 31 0 ++ [3] := by decide
example : (loadXorBytes true (Tree.new xorOps 4) [(2, [1, 2, 3])]).2 = .err "invalid data length" := by decide
example : (loadIbltBytes 1 true (Tree.new (ibltOps 1) 4) [(2, List.replicate 44 0), (6, List.replicate 88 0)]).2
    = .err "number of buckets do not match" := by decide
example : Sorted ([(256, (1 : BitVec 256)), (768, 2)]) ∧ (∀ x ∈ [(256, (1 : BitVec 256)), (768, 2)], x.1 < 2 ^ 32) := by
  constructor
  · simp [Sorted]
  · intro x hx; simp at hx; rcases hx with h | h <;> subst h <;> decide

/-- **Clock-shelf keys sort like the clocks they encode** (`stoabs.Uint32Key`, big-endian): bbolt's cursor
    (`bytes.Compare`) visits the clock shelf in ascending clock order — what `visitBetweenLC`'s `Range` relies on
    for the clock-ordered listing. -/
theorem clock_keys_order (a b : Nat) (h : a < b) (hb : b < 2 ^ 32) : lexLt (uint32Key a) (uint32Key b) = true :=
  beBytes_lt 4 a b h (by rw [pow256_4]; exact hb)

/-- the raw clock shelf of a disk whose abstract index is sorted by clock is sorted by key bytes; `indexClockValue`
    keeps the abstract index sorted -/
theorem clock_shelf_cursor_order (d : Disk NB) (tx : Tx) (hs : Sorted d.clocks) (hb : ∀ x ∈ d.clocks, x.1 < 2 ^ 32) :
    (encodeClocks d.clocks).Pairwise (fun a b => lexLt a.1 b.1 = true) ∧ Sorted (d.indexClock tx).clocks := by
  refine ⟨encodeClocks_sorted d.clocks hs hb, ?_⟩
  unfold Disk.indexClock
  simp only
  split
  · exact hs
  · exact putSorted_sorted _ _ _ hs

/-- the tree shelves' little-endian keys do NOT sort like clocks (witness: key(256) < key(1)) — `treeStore.read`
    therefore collects into a map and `Load` sorts the keys itself (`readShelf` = sorted insertion) -/
theorem leaf_keys_not_ordered : lexLt (clockToKey 256) (clockToKey 1) = true ∧ lexLt (uint32Key 1) (uint32Key 256) = true := by
  decide

/-- **Metadata getters decode what the setters wrote**: on the bytes `dag.add` put under lc_high / tx_num / head_ref
    the getters return the abstract disk's values (an absent head reads as the empty hash). -/
theorem metadata_getters_refine (lc cnt : Nat) (h : Option Ref) (hlc : lc < 2 ^ 32) (hcnt : cnt < 2 ^ 64) :
    getHighestClockValue (.value (uint32Key lc)) = .ok lc ∧
    getNumberOfTransactions (.value (countBytes cnt)) = .ok cnt ∧
    getHead (headBytes h) = .ok (h.getD 0) := metadata_getters lc cnt h hlc hcnt

/-- the getters' fallbacks: an absent key and ANY other storage error both read as 0 for the clock and the count
    (a failing read is indistinguishable from an empty DAG there), while `getHead` returns the error -/
theorem metadata_getters_fallback :
    getHighestClockValue .notFound = .ok 0 ∧ getHighestClockValue .failed = .ok 0 ∧
    getNumberOfTransactions .notFound = .ok 0 ∧ getNumberOfTransactions .failed = .ok 0 ∧
    getHead .notFound = .ok 0 ∧ getHead .failed = .err "storage" := by decide

example : getHighestClockValue (.value [1, 2]) = .panic "index out of range" := by decide
example : fromSlice [1, 2] = refOfBytes ([1, 2] ++ List.replicate 30 0) := by decide

end codec

/-- `Delete` (any reference, any clock) keeps the invariant, and the sum of the leaves on any set `q` of pages loses the
    reference exactly when the clock's page is in `q` -/
theorem tree_inv_delete {o : Ops R G} (L : Lawful o) (D : DelLawful o) (t : Tree G) (i : TInv o t) (r : R) (clock : Nat) :
    TInv o (t.delete o r clock) ∧ (t.delete o r clock).leafSize = t.leafSize ∧
    ∀ q : Nat → Bool, fsum o t.leafSize q (t.delete o r clock).root.leaves =
      if q (clock / t.leafSize) then o.del (fsum o t.leafSize q t.root.leaves) r
      else fsum o t.leafSize q t.root.leaves := delete_spec L D t i r clock

/-- **Delete exactly undoes Insert**: after `Insert(ref, clock); Delete(ref, clock)` on any tree satisfying the
    invariant, `Root()` and `ZeroTo(c)` for EVERY `c` are what they were (even when the insert made the tree grow). -/
theorem delete_undoes_insert {o : Ops R G} (L : Lawful o) (D : DelLawful o) (t : Tree G) (i : TInv o t) (r : R) (clock : Nat) :
    let t' := (t.insert o r clock).delete o r clock
    TInv o t' ∧ t'.rootData o = t.rootData o ∧ ∀ c, (t'.zeroTo o c).1 = (t.zeroTo o c).1 := by
  intro t'
  have hi := tree_inv_insert L t i r clock
  have hd := delete_spec L D (t.insert o r clock) hi.1 r clock
  have hls : t'.leafSize = t.leafSize := by rw [hd.2.1, hi.2.1]
  have hq : ∀ q : Nat → Bool, fsum o t.leafSize q t'.root.leaves = fsum o t.leafSize q t.root.leaves := by
    intro q
    have h1 := hd.2.2 q
    rw [hi.2.1] at h1
    rw [h1, hi.2.2 q]
    split
    · exact D.del_ins _ _
    · rfl
  have o1 := observables_of_inv L t i
  have o2 := observables_of_inv L t' hd.1
  refine ⟨hd.1, ?_, fun c => ?_⟩
  · rw [o2.1, o1.1, hls]; exact hq _
  · rw [o2.2 c, o1.2 c, hls]; exact hq _

/-- both `Data` implementations satisfy the Delete laws (XOR: self-inverse; IBLT: bucket-wise, for arbitrary bucket
    indices incl. repeated ones) -/
theorem xor_iblt_delete_lawful (n : Nat) : DelLawful xorOps ∧ DelLawful (ibltOps n) := ⟨xor_del_lawful, iblt_del_lawful n⟩

/-- non-vacuity: a grown XOR tree, insert at a clock beyond the tree, delete again -/
example : let t := [((1 : BitVec 256), 0), (2, 5)].foldl (fun t rc => t.insert xorOps rc.1 rc.2) (Tree.new xorOps 2)
    let t' := (t.insert xorOps 9 17).delete xorOps 9 17
    t.treeSize = 8 ∧ t'.treeSize = 32 ∧ t'.rootData xorOps = 3 ∧ (t'.zeroTo xorOps 1).1 = 1 := by decide

/-- **DropLeaves keeps the invariant and merges pages pairwise.** On a tree whose root is a leaf it does nothing; on any
    other tree satisfying the invariant it succeeds (no nil dereference), the leaf size doubles, tree size and `Root()`
    stay, the orphans are only appended to, and the sum of the new leaves on any set `q` of (doubled) pages is the sum of
    the old leaves on the pages `p` with `q (p / 2)`. -/
theorem drop_leaves_spec {o : Ops R G} (L : Lawful o) (t : Tree G) (i : TInv o t) :
    (t.treeSize = t.leafSize → t.dropLeaves = .ok t) ∧
    (t.treeSize ≠ t.leafSize →
      ∃ t', t.dropLeaves = .ok t' ∧ TInv o t' ∧ t'.leafSize = 2 * t.leafSize ∧ t'.treeSize = t.treeSize ∧
        t'.rootData o = t.rootData o ∧
        (∀ q : Nat → Bool, fsum o (2 * t.leafSize) q t'.root.leaves = fsum o t.leafSize (fun p => q (p / 2)) t.root.leaves) ∧
        (∃ orph, t'.orphaned = t.orphaned ++ orph)) := dropLeaves_tree L t i

/-- after DropLeaves, `ZeroTo(c)` for EVERY `c` is the sum of the old pages up to the end of the doubled page of `c` -/
theorem drop_leaves_observables {o : Ops R G} (L : Lawful o) (t : Tree G) (i : TInv o t) (hne : t.treeSize ≠ t.leafSize) :
    ∃ t', t.dropLeaves = .ok t' ∧ t'.rootData o = t.rootData o ∧
      ∀ c, (t'.zeroTo o c).1 = fsum o t.leafSize (fun p => decide (p / 2 ≤ c / (2 * t.leafSize))) t.root.leaves := by
  obtain ⟨t', e, i', hls, _, hr, hf, _⟩ := (dropLeaves_tree L t i).2 hne
  refine ⟨t', e, hr, fun c => ?_⟩
  rw [(observables_of_inv L t' i').2 c, hls]
  exact hf _

/-- non-vacuity: three pages of leaf size 2 become two pages of leaf size 4; clock 3 now reads pages 0-1 -/
def exDropT : Tree (BitVec 256) :=
  [((1 : BitVec 256), 0), (2, 3), (4, 5)].foldl (fun t rc => t.insert xorOps rc.1 rc.2) (Tree.new xorOps 2)
def exDropT' : Tree (BitVec 256) := match exDropT.dropLeaves with | .ok t' => t' | _ => Tree.new xorOps 1
example : exDropT.dropLeaves = .ok exDropT' ∧ exDropT.treeSize = 8 ∧ (exDropT.zeroTo xorOps 1).1 = 1 ∧
    exDropT'.treeSize = 8 ∧ exDropT'.leafSize = 4 ∧ exDropT'.rootData xorOps = 7 ∧ (exDropT'.zeroTo xorOps 1).1 = 3 ∧
    exDropT'.root.leaves = [(2, 3), (6, 4)] ∧ exDropT'.orphaned = [1, 3, 5] := by decide

/-- the nil dereference of `dropLeavesR` needs an unbalanced tree (never produced by New/Insert/Load/Replace) -/
example : (Node.branch 4 8 (0 : BitVec 256) (.branch 2 4 0 (.leaf 1 2 0) (.leaf 3 4 0)) (.leaf 6 8 0)).dropLeaves
    = .panic "nil dereference: n.left.isLeaf()" := by decide

/-- generated from the source: NewIblt's clamp, the conditions and assignments of
    DropLeaves / dropLeavesR, Delete-before-Put in writeWithoutLock, the getters' error classification -/
theorem fact_tree_api :
    Facts.C08.newIbltConds = ["numBuckets < int(ibltK)"] ∧
    Facts.C08.dropLeavesConds = ["t.root == nil || t.root.isLeaf()", "t.orphanedLeaves == nil"] ∧
    Facts.C08.dropLeavesRConds = ["n == nil", "n.left.isLeaf()", "n.right != nil"] ∧
    Facts.C08.dropLeavesAssigns = ["t.dirtyLeaves=update.dirty", "t.orphanedLeaves=update.orphaned",
      "t.orphanedLeaves[k]=struct{}{}", "t.leafSize*=2"] ∧
    Facts.C08.writeWithoutLockWriterCalls = ["writer.Delete", "writer.Put"] ∧
    Facts.C08.metaGetterConds = ["errors.Is(err, stoabs.ErrKeyNotFound)", "err != nil", "errors.Is(err, stoabs.ErrKeyNotFound)",
      "err != nil", "errors.Is(err, stoabs.ErrKeyNotFound)", "err != nil"] := ⟨rfl, rfl, rfl, rfl, rfl, rfl⟩

/-- `NewIblt` never yields fewer than `k` buckets, is the identity from `k` on, and `Iblt.New()` (= `NewIblt(numBuckets())`)
    reproduces the bucket count of its receiver — so every node the tree creates from the prototype has the
    prototype's size and `Add` inside the tree never hits `validate`'s mismatch -/
theorem new_iblt_buckets (k n : Nat) :
    k ≤ Codec.newIbltBuckets k n ∧ n ≤ Codec.newIbltBuckets k n ∧ (k ≤ n → Codec.newIbltBuckets k n = n) ∧
    Codec.newIbltBuckets k (Codec.newIbltBuckets k n) = Codec.newIbltBuckets k n := by
  unfold Codec.newIbltBuckets
  refine ⟨?_, ?_, ?_, ?_⟩
  · split <;> omega
  · split <;> omega
  · intro h; rw [if_neg (by omega)]
  · by_cases h : n < k
    · simp [h]
    · simp [h]

example : Codec.newIbltBuckets Facts.C08.ibltK 3 = 6 ∧ Codec.newIbltBuckets Facts.C08.ibltK Facts.C08.ibltNumBuckets = 1024 := by decide

/-- `writeWithoutLock` with orphans (`persistFull`) coincides with the modelled `persist` whenever nothing is orphaned —
    which is every state the node reaches (DropLeaves has no caller) -/
theorem persist_full_eq_persist {G : Type} (t : Tree G) (shelf : List (Nat × G)) (h : t.orphaned = []) :
    persistFull t shelf = persist t shelf := by
  unfold persistFull persist
  have hf : shelf.filter (fun kv => !t.orphaned.contains kv.1) = shelf := by
    rw [h]; exact List.filter_eq_self.mpr (fun _ _ => by simp)
  simp only [hf]

/-- the life cycle of one state object with its counter `nuts_dag_transactions_total`: opened on any reachable file
    content (fresh collector), started once, then any Add calls (any transaction, payload, fault), repair steps and
    signals -/
inductive MReach : MState NB → Prop
  | start {s} : Reachable s → MReach (MState.start { s := s })
  | add {m} (tx : Tx) (opt : AddOpts) : MReach m → MReach (MState.add cfg m tx opt).1
  | checkPage {m : MState NB} : MReach m → MReach { m with s := checkPage cfg m.s }
  | signal {m : MState NB} : MReach m → MReach { m with s := signalIncorrect m.s }

/-- **The transaction counter metric equals the size of the stored set** in every state of that life cycle — it is
    not moved by rejected, rolled-back or duplicate Adds, and counts each admitted transaction once. -/
theorem metric_tracks_stored_set {m : MState NB} (r : MReach m) :
    Reachable m.s ∧ m.metric = m.s.disk.txs.length := by
  induction r with
  | start hs =>
    refine ⟨hs, ?_⟩
    simp only [MState.start, metricAfterStart, Nat.zero_add]
    exact (state_refines_spec hs).count
  | @add m0 tx opt _ ih =>
    obtain ⟨hr, hm⟩ := ih
    refine ⟨Reachable.add tx opt hr, ?_⟩
    have h := stored_set_changes_only_on_success hr tx opt
    simp only [MState.add, metricAfterAdd]
    by_cases hok : (Nuts.C08.add cfg m0.s tx opt).2 = .ok ()
    · rcases h.2 hok with ⟨hs, hp⟩ | ⟨ht, hp⟩
      · simp only [hok, hp, true_and, Bool.true_eq_false, if_false, hs, hm]
      · simp only [hok, hp, true_and, if_true, ht, List.length_append, List.length_singleton, hm]
    · simp only [hok, false_and, if_false, h.1 hok, hm]
  | checkPage _ ih => exact ⟨Reachable.checkPage ih.1, by rw [ih.2]; exact (congrArg List.length (checkPageWith_txs cfg _ _)).symm⟩
  | signal _ ih => exact ⟨Reachable.signalIncorrect ih.1, ih.2⟩

def exM0 : MState NB := MState.start { s := State.init cfg }
/-- non-vacuity: start on the empty file, admit a root, reject a child with a missing prev, fail a commit, re-add the root -/
example : (MState.add cfg exM0 exRoot {}).1.metric = 1 ∧
    (MState.add cfg (MState.add cfg exM0 exRoot {}).1 exRoot {}).1.metric = 1 ∧
    (MState.add cfg exM0 exChild {}).1.metric = 0 ∧
    (MState.add cfg exM0 exRoot { commitFails := true }).1.metric = 0 := by decide

/-- calling `Start` a second time on the same object counts the stored transactions twice (witness) — the node calls it
    once per state object -/
example : (MState.start (MState.add cfg exM0 exRoot {}).1).metric = 2 := by decide

end Nuts.C08.Props
