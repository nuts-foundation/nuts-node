/-
  C11 — a presentation that contains a credential the node holds a revocation for is never accepted:
  `VerifyVP(vp, verifyVCs = true, …, validAt)` for every position of the credential in the presentation, every other
  credential next to it, every holder / signature verdict, every validAt.
-/
import NutsModel.C11.Present
import NutsProofs.Props.C11Resolve
namespace Nuts.C11.Props

theorem vpLoop_ok_none_revoked (E : Env) (K : KeyEnv) (hE : EnvOK E) (i : Bool) (holder : Option String) (au : Bool)
    (validAt : Option Int) (now : Int) :
    ∀ (creds : List VPCred) (w : World), WInv E w → (vpLoop E i w holder au validAt now creds).1 = .ok →
      ∀ c, c ∈ creds → (w.get i).credRevoked c.doc.cred = false := by
  intro creds w hw
  fun_induction vpLoop E i w holder au validAt now creds with
  | case1 w => exact fun _ c hc => nomatch hc
  | case3 w d rest r hv hs ih =>
    intro hok c hc
    obtain ⟨hw', hback, hacc⟩ := verifyTrustAt_sound (K := K) (r := r) hE hw rfl
    rcases List.mem_cons.1 hc with rfl | hc
    · exact hacc hv
    · exact hback _ (ih hw' hok c hc)
  | _ => intro hok; cases hok

/-- `vp_accepted_only_without_revoked_credentials`: whenever `VerifyVP` with `verifyVCs` returns the credentials, the node holds
    a revocation for none of them — for every presentation (any number and order of credentials, any holder, any signature
    verdicts), every validAt and clock, every world satisfying the world invariant. -/
theorem vp_accepted_only_without_revoked_credentials (E : Env) (K : KeyEnv) (hE : EnvOK E) (i : Bool) (w : World) (hw : WInv E w)
    (signer : String) (holder : Option String) (vpSigOk au : Bool) (validAt : Option Int) (now : Int) (creds : List VPCred)
    (hok : (doVerifyVP E i w signer holder vpSigOk true au validAt now creds).1 = .ok) :
    ∀ c, c ∈ creds → (w.get i).credRevoked c.doc.cred = false := by
  revert hok
  fun_cases doVerifyVP E i w signer holder vpSigOk true au validAt now creds with
  | case6 => exact vpLoop_ok_none_revoked E K hE i holder au validAt now creds w hw
  | case7 _ _ _ _ _ h => exact absurd rfl h
  | _ => intro hok; cases hok

/-- `vp_with_revoked_credential_refused`: the contrapositive, as the property reads: a presentation containing a credential the
    node has received a revocation for is refused (no credentials returned), wherever the credential sits. -/
theorem vp_with_revoked_credential_refused (E : Env) (K : KeyEnv) (hE : EnvOK E) (i : Bool) (w : World) (hw : WInv E w)
    (signer : String) (holder : Option String) (vpSigOk au : Bool) (validAt : Option Int) (now : Int) (creds : List VPCred)
    (c : VPCred) (hc : c ∈ creds) (hrev : (w.get i).credRevoked c.doc.cred = true) :
    (doVerifyVP E i w signer holder vpSigOk true au validAt now creds).1 ≠ .ok := by
  intro hok
  have := vp_accepted_only_without_revoked_credentials E K hE i w hw signer holder vpSigOk au validAt now creds hok c hc
  rw [hrev] at this; exact absurd this (by simp)

/-- a presentation consisting of just the revoked credential, all other checks passing, is answered "revoked" -/
theorem vp_of_revoked_credential_says_revoked (E : Env) (i : Bool) (w : World) (c : VPCred) (hnt : c.doc.nutsType = false)
    (hrev : (w.get i).credRevoked c.doc.cred = true) (au : Bool) (validAt : Option Int) (now : Int) :
    (doVerifyVP E i w c.subject (some c.subject) true true au validAt now [c]).1 = .revoked := by
  have h2 := (verifyTrustAt_spec E i w c.doc.cred false false au c.doc.trusted validAt now c.doc.period).2.1.2
    (verifyFullF_of_credRevoked hrev)
  simp [doVerifyVP, presenterIsSubject, subjectOf, vpLoop, holderMismatch, hnt, h2]

/-- the regenerated statements of `doVerifyVP`: check order, and the loop (checkSignature rule, the Verify call with validAt,
    the first error returns nil credentials) -/
theorem fact_verify_vp_chain :
    Nuts.Facts.C11.verifyVPChain =
      ["stmt:subjectDID,err := credential.PresenterIsCredentialSubject(presentation)", "err != nil else?",
       "subjectDID != nil && presentation.Holder != nil && presentation.Holder.String() != subjectDID.String()",
       "stmt:err = v.signatureVerifier.VerifyVPSignature(presentation,validAt)", "err != nil", "verifyVCs",
       "return presentation.VerifiableCredential,nil",
       "else-if-of(err != nil): subjectDID == nil && len(presentation.VerifiableCredential) > 0"] ∧
    Nuts.Facts.C11.verifyVPLoop =
      ["range presentation.VerifiableCredential", "checkSignature := true",
       "if presentation.Holder != nil && presentation.Holder.String() == current.Issuer.String()",
       "checkSignature = len(current.Proof) > 0", "err = vcVerifier.Verify(current,allowUntrustedVCs,checkSignature,validAt)",
       "if err != nil", "return nil,newVerificationError(\"invalid VC (id=%s): %w\",current.ID,err)"] := ⟨rfl, rfl⟩

/-! ## end to end over histories -/

/-- the node's store holds the revocation at every later point of the history -/
theorem credRevoked_after_register (E : Env) (K : KeyEnv) (hE : EnvOK E) (w0 : World) (h0 : WInv E w0) (i : Bool)
    (r : Revocation) (before after : List Act) (n' : Node)
    (hacc : registerRevocation K ((run E K w0 before).get i) r = .ok n') (c : Cred) (hc : c.id = some r.subject) :
    ((run E K w0 (before ++ [.register i r] ++ after)).get i).credRevoked c = true ∧
    WInv E (run E K w0 (before ++ [.register i r] ++ after)) :=
  run_register hE h0 before after hacc hc

/-- `search_after_revocation_in_history`: once a revocation was accepted at some point of a history, no later `Search` — any
    found documents, any order, allowUntrusted or not, any resolveTime — returns a credential with the revoked id. -/
theorem search_after_revocation_in_history (E : Env) (K : KeyEnv) (hE : EnvOK E) (w0 : World) (h0 : WInv E w0) (i : Bool)
    (r : Revocation) (before after : List Act) (n' : Node)
    (hacc : registerRevocation K ((run E K w0 before).get i) r = .ok n')
    (docs : List Stored) (au : Bool) (resolveTime : Option Int) (now : Int) :
    ∀ s, s ∈ (search E i (run E K w0 (before ++ [.register i r] ++ after)) docs au false resolveTime now).1 → s.cred.id ≠ some r.subject := by
  intro s hs hid
  obtain ⟨hrev, hw⟩ := credRevoked_after_register E K hE w0 h0 i r before after n' hacc s.cred hid
  have := (search_omits_revoked E K hE i au false resolveTime now docs _ hw).1 s hs
  rw [hrev] at this; exact absurd this (by simp)

/-- `vp_after_revocation_in_history`: … and every later `VerifyVP(verifyVCs = true)` of a presentation that contains a credential
    with the revoked id — at any position, for any validAt, holder, signature verdicts — is refused. -/
theorem vp_after_revocation_in_history (E : Env) (K : KeyEnv) (hE : EnvOK E) (w0 : World) (h0 : WInv E w0) (i : Bool)
    (r : Revocation) (before after : List Act) (n' : Node)
    (hacc : registerRevocation K ((run E K w0 before).get i) r = .ok n')
    (signer : String) (holder : Option String) (vpSigOk au : Bool) (validAt : Option Int) (now : Int) (creds : List VPCred)
    (c : VPCred) (hc : c ∈ creds) (hid : c.doc.cred.id = some r.subject) :
    (doVerifyVP E i (run E K w0 (before ++ [.register i r] ++ after)) signer holder vpSigOk true au validAt now creds).1 ≠ .ok := by
  obtain ⟨hrev, hw⟩ := credRevoked_after_register E K hE w0 h0 i r before after n' hacc c.doc.cred hid
  exact vp_with_revoked_credential_refused E K hE i _ hw signer holder vpSigOk au validAt now creds c hc hrev

/-! non-vacuity -/
def exVPCred (id : String) : VPCred :=
  { doc := { cred := { id := some id, issuer := "did:nuts:B", statuses := none } }, subject := "did:nuts:P" }

-- the revoked credential in the middle of three: refused as revoked; without the revocation: accepted
example : (doVerifyVP exEnv false (run exEnv exKeys exWorld [.register false exRevByB]) "did:nuts:P" (some "did:nuts:P") true true true (some (-30)) 0
    [exVPCred "did:nuts:B#2", exVPCred "did:nuts:B#1", exVPCred "did:nuts:B#3"]).1 = .revoked := by decide +kernel
example : (doVerifyVP exEnv false exWorld "did:nuts:P" (some "did:nuts:P") true true true (some (-30)) 0
    [exVPCred "did:nuts:B#2", exVPCred "did:nuts:B#1", exVPCred "did:nuts:B#3"]).1 = .ok := by decide
example : (doVerifyVP exEnv false exWorld "did:nuts:P" (some "did:nuts:Q") true true true none 0 [exVPCred "did:nuts:B#2"]).1 = .err "holder" := by decide
example : (doVerifyVP exEnv false exWorld "did:nuts:X" none true true true none 0 [exVPCred "did:nuts:B#2"]).1 = .err "not-subject" := by decide

end Nuts.C11.Props
