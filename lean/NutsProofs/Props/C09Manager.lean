/-
  C09 — the node's own publishing path: what `Manager.Update` / `Deactivate` hand to the
  network. Model: NutsModel/C09/Manager.lean, and `publishTail` of NutsModel/C09/Commit.lean (the part of `Update` that
  `onUpdate` shares).
-/
import NutsModel.C09.Commit
import NutsModel.Facts.C09
import NutsModel.Facts.C10
import NutsProofs.Lemmas.C09Resolver

namespace Nuts.C09.Props
open Nuts Nuts.C10 Nuts.C09

/-! ### obligations on the regenerated facts -/

/-- `Manager.Update`: store lookup (AllowDeactivated), deactivated test, JSON-LD contexts, `ManagedDocumentValidator`
    (= the network validator + the managed-service check), `resolveControllerWithKey`, the controller's metadata through
    `m.resolver`, the template (did+json, payload, kid, prevs = current sources ++ controller sources), then the network -/
theorem fact_manager_update_steps :
    Facts.C09.managerUpdateCalls.take 8 =
      ["m.store.Resolve(id, resolverMetadata)", "withJSONLDContext(next, did.DIDContextV1URI())",
       "withJSONLDContext(next, jsonld.JWS2020ContextV1URI())", "ManagedDocumentValidator(m.serviceResolver)",
       "m.resolveControllerWithKey(ctx, *currentDIDDocument)", "m.resolver.Resolve(controller.ID, nil)",
       "network.TransactionTemplate(DIDDocumentType, payload, kid)", "m.networkClient.CreateTransaction(ctx, tx)"] ∧
    Facts.C09.managerUpdatePrevs = "append(currentMeta.SourceTransactions, controllerMeta.SourceTransactions...)" ∧
    Facts.C09.managerUpdateTemplate = "network.TransactionTemplate(DIDDocumentType, payload, kid).WithAdditionalPrevs(previousTransactions)" ∧
    Facts.C09.managerUpdateDeactivatedTest = "currentMeta.Deactivated => return error" ∧
    Facts.C09.managedValidators = ["NetworkDocumentValidator()", "managedServiceValidator{serviceResolver}"] ∧
    Facts.C09.managerDeactivateIs = "m.Update(ctx, id, emptyDoc)" :=
  ⟨rfl, rfl, rfl, rfl, rfl, rfl⟩

/-- `resolveControllerWithKey`: controllers over the STORE with nil metadata, none => error, then the first
    capabilityInvocation entry (controller order, entry order) that the key store has without error -/
theorem fact_manager_key_choice :
    Facts.C09.managerKeyChoice =
      ["ResolveControllers(m.store, doc, nil)", "if len(controllers) == 0 => return did.Document{}, \"\"",
       "range controllers", "range c.CapabilityInvocation", "m.keyStore.Exists(ctx, cik.ID.String())",
       "if err == nil && ok => return c, cik.ID.String()"] := rfl

theorem firstOwnedKey_eq (has : String → Bool) : ∀ cs : List Doc,
    firstOwnedKey has cs = cs.findSome? fun c => ((c.f .capInv).find? (fun e => has e.id)).map fun e => (c, e.id) := by
  intro cs
  induction cs with
  | nil => rfl
  | cons x xs ih =>
    rw [firstOwnedKey, List.findSome?_cons, ih]
    cases (x.f .capInv).find? (fun e => has e.id) <;> rfl

/-- `resolveControllerWithKey` returns a capabilityInvocation entry of one of the controllers, and the key store has it -/
theorem firstOwnedKey_sound (has : String → Bool) :
    ∀ (cs : List Doc) (c : Doc) (kid : String), firstOwnedKey has cs = some (c, kid) →
      c ∈ cs ∧ (∃ e ∈ c.f .capInv, e.id = kid) ∧ has kid = true := by
  intro cs c kid h
  rw [firstOwnedKey_eq] at h
  obtain ⟨x, hx, hf⟩ := List.exists_of_findSome?_eq_some h
  obtain ⟨e, he, heq⟩ := Option.map_eq_some_iff.mp hf
  cases heq
  exact ⟨hx, ⟨e, List.mem_of_find?_eq_some he, rfl⟩, by simpa using List.find?_some he⟩

/-- ... and it refuses only when the key store has NO capabilityInvocation key of ANY controller -/
theorem firstOwnedKey_none (has : String → Bool) :
    ∀ (cs : List Doc), firstOwnedKey has cs = none → ∀ c ∈ cs, ∀ e ∈ c.f .capInv, has e.id = false := by
  intro cs h c hc e he
  rw [firstOwnedKey_eq, List.findSome?_eq_none_iff] at h
  simpa using List.find?_eq_none.mp (Option.map_eq_none_iff.mp (h c hc)) e he

/-! ### `Update` and `onUpdate` share their tail -/

/-- `Manager.Update` = store lookup, metadata deactivation test, then the shared tail -/
theorem managerUpdate_eq_tail (c : Cfg) (s : Store) (has : String → Bool) (svcOk : Bool) (id : String) (next : NDoc) :
    managerUpdate c s has svcOk id next =
      (match resolve s id (some { allowDeactivated := true }) with
       | .err e => .err ("mgr:resolve:" ++ e)
       | .panic x => .panic x
       | .ok (cur, curMeta) => if curMeta.deactivated then .err "mgr:deactivated" else publishTail c s has svcOk cur curMeta next) := by
  unfold managerUpdate publishTail
  rfl

/-- what the shared tail publishes (statement of `managerUpdate_sound`, for any current version handed in) -/
theorem publishTail_sound (c : Cfg) (s : Store) (has : String → Bool) (svcOk : Bool) (cur : Doc) (curMeta : Meta) (next : NDoc)
    (p : Published) (h : publishTail c s has svcOk cur curMeta next = .ok p) :
    ∃ ctrls ctrl ctrlDoc ctrlMeta,
      validate c.thumb c.vmNilJwkErr c.validators next = .ok () ∧ svcOk = true ∧
      managerControllers c.maxDepth s cur = .ok ctrls ∧ ctrl ∈ ctrls ∧ isDeactivated ctrl = false ∧
      (∃ e ∈ ctrl.f .capInv, e.id = p.kid) ∧ has p.kid = true ∧
      resolve s ctrl.id none = .ok (ctrlDoc, ctrlMeta) ∧
      p.prevs = curMeta.sourceTx ++ ctrlMeta.sourceTx ∧ p.doc = next := by
  revert h
  fun_cases publishTail c s has svcOk cur curMeta next with
  | case10 hv hs ctrls hc _ ctrl kid hk _ _ ctrlDoc ctrlMeta hm =>
    intro h
    cases h
    obtain ⟨hmem, hentry, hhas⟩ := firstOwnedKey_sound has ctrls ctrl kid hk
    exact ⟨ctrls, ctrl, ctrlDoc, ctrlMeta, hv, by simpa using hs, hc, hmem,
      (ctrlsWith_mem _ cur ctrls hc ctrl hmem).1, hentry, hhas, hm, rfl, rfl⟩
  | _ => nofun

/-- **What the node publishes.** Whenever `Manager.Update` (hence `Deactivate`, `RemoveVerificationMethod`) hands a
    transaction to the network: the DID's latest version is not deactivated; the new document passes the SAME
    `NetworkDocumentValidator` rules the receiving ambassadors apply (`validator_rules_sound_complete`) and the managed
    service check; the signing key id is a capabilityInvocation entry of an ACTIVE controller of the latest version (as
    `resolveControllers` over the store finds them) whose private key this node holds; and the prevs are exactly the
    source transactions of the latest version followed by those of that controller's latest version (what
    `handleUpdateDIDDocument` needs to find the succeeded version, the controller and the key). -/
theorem managerUpdate_sound (c : Cfg) (s : Store) (has : String → Bool) (svcOk : Bool) (id : String) (next : NDoc) (p : Published)
    (h : managerUpdate c s has svcOk id next = .ok p) :
    ∃ cur curMeta ctrls ctrl ctrlDoc ctrlMeta,
      resolve s id (some { allowDeactivated := true }) = .ok (cur, curMeta) ∧ curMeta.deactivated = false ∧
      validate c.thumb c.vmNilJwkErr c.validators next = .ok () ∧ svcOk = true ∧
      managerControllers c.maxDepth s cur = .ok ctrls ∧ ctrl ∈ ctrls ∧ isDeactivated ctrl = false ∧
      (∃ e ∈ ctrl.f .capInv, e.id = p.kid) ∧ has p.kid = true ∧
      resolve s ctrl.id none = .ok (ctrlDoc, ctrlMeta) ∧
      p.prevs = curMeta.sourceTx ++ ctrlMeta.sourceTx ∧ p.doc = next := by
  rw [managerUpdate_eq_tail] at h
  split at h
  · cases h
  · cases h
  · rename_i cur curMeta hr
    split at h
    · cases h
    · rename_i hd
      obtain ⟨ctrls, ctrl, ctrlDoc, ctrlMeta, hrest⟩ := publishTail_sound c s has svcOk cur curMeta next p h
      exact ⟨cur, curMeta, ctrls, ctrl, ctrlDoc, ctrlMeta, hr, by simpa using hd, hrest⟩

/-- **A deactivated DID is never updated by this node**, whatever keys the key store still holds -/
theorem managerUpdate_deactivated_refused (c : Cfg) (s : Store) (has : String → Bool) (svcOk : Bool) (id : String) (next : NDoc)
    (cur : Doc) (m : Meta) (hr : resolve s id (some { allowDeactivated := true }) = .ok (cur, m)) (hd : m.deactivated = true) :
    managerUpdate c s has svcOk id next = .err "mgr:deactivated" := by
  rw [managerUpdate_eq_tail, hr]
  simp [hd]

/-- **Without a controller key nothing is published**: if the key store has no capabilityInvocation key of any active
    controller of the latest version, `Manager.Update` fails (there is no other signing path) -/
theorem managerUpdate_needs_controller_key (c : Cfg) (s : Store) (has : String → Bool) (svcOk : Bool) (id : String) (next : NDoc)
    (cur : Doc) (m : Meta) (ctrls : List Doc)
    (hr : resolve s id (some { allowDeactivated := true }) = .ok (cur, m))
    (hc : managerControllers c.maxDepth s cur = .ok ctrls)
    (hno : ∀ ctrl ∈ ctrls, ∀ e ∈ ctrl.f .capInv, has e.id = false) :
    ∀ p, managerUpdate c s has svcOk id next ≠ .ok p := by
  intro p hp
  obtain ⟨cur', m', ctrls', ctrl, _, _, hr', _, _, _, hc', hmem, _, ⟨e, he, hek⟩, hhas, _, _, _⟩ :=
    managerUpdate_sound c s has svcOk id next p hp
  rw [hr] at hr'
  cases hr'
  rw [hc] at hc'
  cases hc'
  have := hno ctrl hmem e he
  rw [hek, hhas] at this
  cases this

/-! ### non-vacuity: a self-controlled DID with keys a and b, the node holds b only -/
private def cfgM : Cfg :=
  { thumb := fun k => k, didThumb := fun k => "D" ++ k, maxDepth := Facts.C09.maxControllerDepth,
    validators := Facts.C09.networkValidators, vmNilJwkErr := Facts.C09.verifyThumbprintGuardsNilJwk,
    findKeyNilJwkErr := Facts.C09.findKeyGuardsNilJwk, store := cfgOf (fun _ l => l) Facts.C10.mergeSortedFields }
private def vmM (k : String) : NVM := { id := "did:nuts:Da#" ++ k, pfx := "did:nuts:Da", frag := k, key := .key k }
private def docM (keys : List String) : NDoc :=
  { id := "did:nuts:Da", idID := "Da", vms := keys.map vmM, capInv := keys.map vmM }
private def txM : Tx := { ref := 100, clock := 0, sigTime := 10, prevs := [], payloadHash := "p100", embedded := some "a", signer := "a" }
private def sM : Store := (step cfgM {} txM (some (docM ["a", "b"]))).1
private def showM (r : Res Published) : String :=
  match r with | .ok p => s!"ok {p.kid} {p.prevs}" | .err e => e | .panic x => x

example : showM (managerUpdate cfgM sM (fun k => k == "did:nuts:Da#b") true "did:nuts:Da" (docM ["b"])) = "ok did:nuts:Da#b [100, 100]" := by decide +kernel
example : showM (managerUpdate cfgM sM (fun _ => false) true "did:nuts:Da" (docM ["b"])) = "mgr:no-key" := by decide
example : showM (managerUpdate cfgM sM (fun _ => true) true "did:nuts:Dx" (docM ["b"])) = "mgr:resolve:not-found" := by decide +kernel
/-- what the node publishes is accepted by an ambassador holding the same store -/
example : (match managerUpdate cfgM sM (fun k => k == "did:nuts:Da#b") true "did:nuts:Da" (docM ["b"]) with
    | .ok p => (step cfgM sM { ref := 200, clock := 1, sigTime := 20, prevs := p.prevs.eraseDups, payloadHash := "p200",
                               kid := { holder := "did:nuts:Da", id := p.kid }, signer := "b" } (some p.doc)).2
    | _ => "not published") = "ok" := by decide +kernel

end Nuts.C09.Props
