/-
  C11 — wire layer of status list entries: `strconv.Atoi`/`Itoa`, `StatusList2021Entry.Validate`,
  the literal `Entry()` returns, and how they compose with the abstract layer (NutsProofs.Props.C11).
  All statements quantify over every string / index / schedule; nothing is a bounded enumeration.
-/
import NutsProofs.Lemmas.Base
import NutsProofs.Lemmas.C11Wire
import NutsProofs.Props.C11
namespace Nuts.C11.Props
open Nuts.C11.Wire

/-- `atoi_itoa_roundtrip`: what `Entry()` prints with `strconv.Itoa` is read back by the `strconv.Atoi` of `Revoke`, `Verify`
    and `Validate` as the same number — for EVERY 64-bit `int`. -/
theorem atoi_itoa_roundtrip (i : Int) (hlo : -(intLimit : Int) ≤ i) (hhi : i < (intLimit : Int)) : atoi (itoa i) = some i := by
  simp [atoi, itoa, String.toList_ofList, atoiChars_itoaChars i hlo hhi]

example : atoi (itoa (-9223372036854775808)) = some (-9223372036854775808) := atoi_itoa_roundtrip _ (by decide) (by decide)
example : itoa 131071 = "131071" ∧ itoa (-15) = "-15" ∧ itoa 0 = "0" := by simp [itoa, itoaChars, natDigits]

/-- `atoi_fits_int`: whatever string is parsed, an accepted value is a 64-bit `int` (so the `Int` index of the model's
    `Bits.bit`/`revoke` ranges over exactly the values the Go `int` can take). -/
theorem atoi_fits_int (s : String) (i : Int) (h : atoi s = some i) : -(intLimit : Int) ≤ i ∧ i < (intLimit : Int) := by
  have hpos : (0 : Int) < (intLimit : Int) := by decide
  revert h
  unfold atoi
  fun_cases atoiChars s.toList with
  | case3 _ _ n _ _ hle => intro h; cases h; omega
  | case5 _ _ n _ _ hlt => intro h; cases h; omega
  | _ => intro h; cases h

example : atoi "9223372036854775807" = some 9223372036854775807 ∧ atoi "9223372036854775808" = none ∧
    atoi "+7" = some 7 ∧ atoi "007" = some 7 ∧ atoi "-0" = some 0 ∧ atoi "1_0" = none ∧ atoi "" = none ∧ atoi "-" = none ∧
    atoi " 7" = none ∧ atoi "٧" = none := by decide +kernel

/-- `index_strings_injective`: different positions are printed as different `statusListIndex` strings. -/
theorem index_strings_injective (a b : Nat) (h : itoa (a : Int) = itoa (b : Int)) : a = b := by
  have h' := congrArg String.toList h
  simp only [itoa, String.toList_ofList, itoaChars] at h'
  have ha : ¬ ((a : Int) < 0) := by omega
  have hb : ¬ ((b : Int) < 0) := by omega
  simp only [ha, hb, if_false, Int.toNat_natCast] at h'
  exact natDigits_injective a b h'

theorem validateWith_ok_iff (checks : List Check) (urlOk : String → Bool) (e : WireEntry) :
    validateWith checks urlOk e = .ok () ↔ ∀ c ∈ checks, c.fails urlOk e = false := by
  unfold validateWith
  split
  · rename_i c hc
    have := List.find?_some hc
    have hm := List.mem_of_find?_eq_some hc
    constructor
    · intro h; cases h
    · intro h; have := h c hm; simp_all
  · rename_i hn
    simp only [true_iff]
    intro c hc
    have := List.find?_eq_none.mp hn c hc
    simpa using this

/-- `validated_entry_fields`: an entry that passed `Validate` has every field the revocation logic later relies on:
    a parsable non-negative 64-bit index, the entry type, a purpose, an id that is not the list URL. -/
theorem validated_entry_fields (urlOk : String → Bool) (e : WireEntry) (h : validateEntry urlOk e = .ok ()) :
    e.id ≠ e.list ∧ e.type = "StatusList2021Entry" ∧ e.purpose ≠ "" ∧ urlOk e.list = true ∧
      ∃ i : Int, atoi e.index = some i ∧ 0 ≤ i ∧ i < (intLimit : Int) := by
  have h' := (validateWith_ok_iff _ _ _).mp h
  have h1 := h' .idIsList (by simp [validateOrder])
  have h2 := h' .type (by simp [validateOrder])
  have h3 := h' .purpose (by simp [validateOrder])
  have h4 := h' .index (by simp [validateOrder])
  have h5 := h' .url (by simp [validateOrder])
  simp only [Check.fails] at h1 h2 h3 h4 h5
  refine ⟨by simpa using h1, by simpa using h2, by simpa using h3, by simpa using h5, ?_⟩
  cases ha : atoi e.index with
  | none => simp [ha] at h4
  | some i =>
    simp [ha] at h4
    exact ⟨i, rfl, h4, (atoi_fits_int _ _ ha).2⟩

/-- `issued_entry_validates`: the literal `Entry()` returns passes `Validate`, for every URL the `url` package accepts and
    every index an `int` can hold. -/
theorem issued_entry_validates (urlOk : String → Bool) (url : String) (idx : Nat) (hu : urlOk url = true)
    (hi : idx < intLimit) : validateEntry urlOk (issuedEntry url idx) = .ok () := by
  apply (validateWith_ok_iff _ _ _).mpr
  have hpos : (0 : Int) < (intLimit : Int) := by decide
  have hat : atoi (itoa (idx : Int)) = some (idx : Int) := atoi_itoa_roundtrip _ (by omega) (by omega)
  have hne : (url ++ "#" ++ itoa (idx : Int) == url) = false := by
    apply beq_false_of_ne
    intro h
    have := congrArg String.length h
    simp only [String.length_append] at this
    have h1 : "#".length = 1 := by decide
    omega
  intro c hc
  simp only [validateOrder, List.mem_cons, List.mem_nil_iff, or_false] at hc
  rcases hc with h | h | h | h | h <;> subst h <;> simp [Check.fails, issuedEntry, hat, hu, hne]

theorem bit_err_is_index (bs : Bits) (i : Int) (x : String) (h : bs.bit i = .err x) : x = "index" := by
  by_cases hr : 0 ≤ i ∧ i < 8 * bs.length
  · obtain ⟨v, hv⟩ := (bit_total bs i).1 hr
    rw [hv] at h; cases h
  · rw [(bit_total bs i).2 hr] at h; cases h; rfl

/-- the `Atoi` error branch of `(cs *StatusList2021) Verify` ("can't happen, checked during validation") is dead for
    every entry that passed `Validate`, and the abstract status entry carries a non-negative index that fits `int` -/
theorem validated_entry_never_atoi_error (urlOk : String → Bool) (p : String → Url) (e : WireEntry)
    (h : validateEntry urlOk e = .ok ()) :
    (∃ i : Int, 0 ≤ i ∧ i < (intLimit : Int) ∧
      e.toStatus p = { type := "StatusList2021Entry", purpose := e.purpose, list := p e.list, idx := some i }) ∧
    ∀ (E : Env) (now : Nat) (n : Node) (f : Fetch), (checkStatus E now n (e.toStatus p) f).1 ≠ some (.err "atoi") := by
  obtain ⟨_, ht, _, _, i, hi, h0, h1⟩ := validated_entry_fields urlOk e h
  refine ⟨⟨i, h0, h1, by simp [WireEntry.toStatus, hi, ht]⟩, ?_⟩
  -- the verdict of a panic is longer than "atoi"
  have hpanic : ∀ x : String, some (Verdict.err ("panic:" ++ x)) ≠ some (.err "atoi") := by
    intro x hc
    have hc' : "panic:" ++ x = "atoi" := by simpa using hc
    have := congrArg String.length hc'
    simp only [String.length_append] at this
    have h6 : "panic:".length = 6 := by decide
    have h4 : "atoi".length = 4 := by decide
    omega
  intro E now n f
  unfold checkStatus
  simp only [WireEntry.toStatus, hi]
  split
  · split
    · simp
    · split
      · simp
      · simp
      · rename_i x hx
        have := bit_err_is_index _ _ _ hx
        subst this
        simp
      · exact hpanic _
  · simp
  · exact hpanic _

/-- `wire_entries_distinct`: `entries_injective` carried to the wire. For every schedule of `Entry` calls, two calls never
    return the same (statusListCredential, statusListIndex) STRING pair, and every returned entry passes `Validate`
    (given that the list URL is rendered injectively and parses as a request URI — the `url` package contract — and that
    `maxBitstringIndex` fits an `int`, `fact_entry_literal_and_strconv_sites`). -/
theorem wire_entries_distinct (E : Env) (w0 : EWorld) (h0 : EInv E w0) (acts : List EAct)
    (render : Url → String) (hr : ∀ a b, render a = render b → a = b) (urlOk : String → Bool) (hu : ∀ u, urlOk (render u) = true)
    (hmax : E.maxIndex < intLimit) :
    (∀ (t1 t2 : Nat) (th1 th2 : EThread) l1 i1 l2 i2, t1 ≠ t2 → (eRun E w0 acts).threads[t1]? = some th1 →
        (eRun E w0 acts).threads[t2]? = some th2 → th1.phase = .done l1 i1 → th2.phase = .done l2 i2 →
        ((issuedEntry (render l1) i1).list, (issuedEntry (render l1) i1).index) ≠
          ((issuedEntry (render l2) i2).list, (issuedEntry (render l2) i2).index)) ∧
    (∀ (t : Nat) (th : EThread) l i, (eRun E w0 acts).threads[t]? = some th → th.phase = .done l i →
        validateEntry urlOk (issuedEntry (render l) i) = .ok ()) := by
  obtain ⟨hinj, hle⟩ := entries_injective E w0 h0 acts
  constructor
  · intro t1 t2 th1 th2 l1 i1 l2 i2 hne h1 h2 hp1 hp2 heq
    simp only [issuedEntry, Prod.mk.injEq] at heq
    have hl := hr _ _ heq.1
    have hi := index_strings_injective _ _ heq.2
    subst hl; subst hi
    exact hinj t1 t2 th1 th2 l1 i1 hne h1 h2 hp1 hp2
  · intro t th l i ht hp
    have := hle t th l i ht hp
    exact issued_entry_validates urlOk _ _ (hu l) (by omega)

/-- non-vacuity: the racing schedule of `entries_injective`'s example ends with positions 0 and 1, printed "0" and "1" -/
example :
    ((eRun exEnv { node := exNode "https://n0" }
        [.spawn "did:a", .spawn "did:a", .read 0 none, .read 1 none, .write 0, .write 1,
         .read 1 (some (.sl "https://n0" "did:a" 1)), .write 1]).threads.map
      (fun th => match th.phase with | .done _ i => some i | _ => none)) = [some 0, some 1] := by decide
example : (issuedEntry "https://n0/statuslist/did:a/1" 0).index = "0" ∧ (issuedEntry "https://n0/statuslist/did:a/1" 1).index = "1" := by
  simp [issuedEntry, itoa, itoaChars, natDigits]

example : validateEntry (fun _ => true) (issuedEntry "https://n0/statuslist/did:a/1" 131071) = .ok () :=
  issued_entry_validates _ _ _ rfl (by decide)
example : validateEntry (fun _ => true) { id := "x", type := "StatusList2021Entry", purpose := "revocation", index := "-1", list := "https://l" }
    = .err "index" := by decide
example : validateEntry (fun _ => true) { id := "https://l", type := "T", purpose := "", index := "x", list := "https://l" }
    = .err "id-is-list" := by decide

/-- `status_list_urls_injective`: under one base URL, `statusListURL` renders different (issuer, page) pairs as different URLs —
    for every issuer string (no assumption on its characters) and every page number. -/
theorem status_list_urls_injective (base i1 i2 : String) (p1 p2 : Nat) (h : renderSl base i1 p1 = renderSl base i2 p2) :
    i1 = i2 ∧ p1 = p2 := by
  have h' := congrArg String.toList h
  simp only [renderSl, String.toList_ofList, renderSlChars, List.append_assoc] at h'
  have h2 := List.append_cancel_left (List.append_cancel_left h')
  obtain ⟨ha, hx⟩ := split_last '/' _ _ _ _ (slash_not_in_digits p1) (slash_not_in_digits p2) h2
  exact ⟨String.toList_injective ha, natDigits_injective _ _ hx⟩

example : renderSl "https://n0.example" "did:web:example.com:iam:alice" 12 = "https://n0.example/statuslist/did:web:example.com:iam:alice/12" := by
  decide +kernel

/-- `wire_entries_distinct_same_base`: `wire_entries_distinct` without the rendering contract for lists of one base URL: two
    `Entry` calls of any schedule whose lists are pages under the same base never share the (statusListCredential,
    statusListIndex) strings that go into the credentials. -/
theorem wire_entries_distinct_same_base (E : Env) (w0 : EWorld) (h0 : EInv E w0) (acts : List EAct)
    (t1 t2 : Nat) (th1 th2 : EThread) (base is1 is2 : String) (p1 p2 i1 i2 : Nat) (hne : t1 ≠ t2)
    (h1 : (eRun E w0 acts).threads[t1]? = some th1) (h2 : (eRun E w0 acts).threads[t2]? = some th2)
    (hp1 : th1.phase = .done (.sl base is1 p1) i1) (hp2 : th2.phase = .done (.sl base is2 p2) i2) :
    ((issuedEntry (renderUrl (.sl base is1 p1)) i1).list, (issuedEntry (renderUrl (.sl base is1 p1)) i1).index) ≠
      ((issuedEntry (renderUrl (.sl base is2 p2)) i2).list, (issuedEntry (renderUrl (.sl base is2 p2)) i2).index) := by
  intro heq
  simp only [issuedEntry, renderUrl, Prod.mk.injEq] at heq
  obtain ⟨hi, hp⟩ := status_list_urls_injective _ _ _ _ _ heq.1
  have hx := index_strings_injective _ _ heq.2
  subst hi; subst hp; subst hx
  exact (entries_injective E w0 h0 acts).1 t1 t2 th1 th2 _ _ hne h1 h2 hp1 hp2

/-! ### regenerated facts the wire model relies on -/

/-- the top-level statements of `StatusList2021Entry.Validate` are exactly the five checks, in the model's order, each
    returning a non-nil error, then `return nil` -/
theorem fact_entry_validate_order :
    checksOfChain Nuts.Facts.C11.entryValidateChain = some validateOrder ∧
    Nuts.Facts.C11.entryValidateReturns = ["return errors.New(…)", "return errors.New(…)", "return errors.New(…)",
      "return errors.New(…)", "return fmt.Errorf(…)"] := ⟨by decide +kernel, rfl⟩

/-- `Entry()` returns the literal `issuedEntry` describes; `Revoke`/`Verify`/`Validate` parse the index with `strconv.Atoi`
    and nothing else converts numbers in these files -/
theorem fact_entry_literal_and_strconv_sites :
    Nuts.Facts.C11.entryLiteral =
      ["ID:fmt.Sprintf(\"%s#%d\",credentialIssuer.SubjectID,credentialIssuer.LastIssuedIndex)", "Type:StatusList2021EntryType",
       "StatusPurpose:StatusPurposeRevocation", "StatusListIndex:strconv.Itoa(credentialIssuer.LastIssuedIndex)",
       "StatusListCredential:credentialIssuer.SubjectID"] ∧
    Nuts.Facts.C11.strconvSites =
      ["Entry:strconv.Itoa(credentialIssuer.LastIssuedIndex)", "Revoke:strconv.Atoi(entry.StatusListIndex)",
       "statusListURL:strconv.Itoa(page)", "Verify:strconv.Atoi(slEntry.StatusListIndex)", "Validate:strconv.Atoi(e.StatusListIndex)"] ∧
    (issuedEntry "u" 0).type = Nuts.Facts.C11.const_StatusList2021EntryType ∧
    (issuedEntry "u" 0).purpose = Nuts.Facts.C11.const_StatusPurposeRevocation ∧
    Nuts.Facts.C11.maxBitstringIndex < intLimit := ⟨rfl, rfl, rfl, rfl, by decide⟩

end Nuts.C11.Props
