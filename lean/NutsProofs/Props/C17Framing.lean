/-
  C17 — "verified over the exact bytes received … re-encoding the compact form" proved on the BYTES for the
  DAG transaction parser, and the algorithm derived from a key (crypto.SignatureAlgorithm) tied to the curve/algorithm binding.
  Model: NutsModel/C17/Framing.lean (+ TokenPolicy.lean). Facts: NutsModel/Facts/C17.lean (regenerated).
-/
import NutsModel.C17.Framing
import NutsModel.C17.TokenPolicy
import NutsModel.Facts.C17
import NutsProofs.Lemmas.C17Framing
import NutsProofs.Props.C17

namespace Nuts.C17.Props
open Nuts.C17 Nuts.C17.Framing

/-- isJWSSerialization: the constants of the Go function are the ones of the model (`{` lead, `.` separator, exactly 3
    segments, the SAME unpadded URL codec for decode and re-encode, unicode.IsSpace trimming) -/
theorem fact_dag_framing_consts :
    Facts.C17.dagFramingJsonLead = 123 ∧ Facts.C17.dagFramingSep = 46 ∧ Facts.C17.dagFramingSegments = 3 ∧
    Facts.C17.dagFramingDecodeCodec = "base64.RawURLEncoding" ∧ Facts.C17.dagFramingEncodeCodec = "base64.RawURLEncoding" ∧
    Facts.C17.dagFramingTrimPredicate = "unicode.IsSpace" := by
  and_intros <;> rfl

/-- the arithmetic `idx` / `chr` ARE the alphabet of encoding/base64's URL encoding -/
theorem fact_alphabet :
    alphabet.toList.map (fun c => idx c.toNat) = (List.range 64).map some ∧
    (List.range 64).map chr = alphabet.toList.map Char.toNat := by decide +kernel

/-- crypto.SignatureAlgorithm / ecAlgUsingPublicKey as regenerated: nil is an error, values are turned into pointers, RSA ->
    PS256, ECDSA -> by `Params().BitSize` 256/384/521, Ed25519 -> EdDSA, everything else an error -/
theorem fact_signatureAlgorithm :
    Facts.C17.sigAlgNilIsError = true ∧
    Facts.C17.sigAlgDerefTypes = ["rsa.PrivateKey", "rsa.PublicKey", "ecdsa.PrivateKey", "ecdsa.PublicKey"] ∧
    Facts.C17.sigAlgCases = [("*rsa.PrivateKey", "PS256"), ("*rsa.PublicKey", "PS256"), ("*ecdsa.PrivateKey", "call:ecAlgUsingPublicKey"),
      ("*ecdsa.PublicKey", "call:ecAlgUsingPublicKey"), ("ed25519.PrivateKey", "EdDSA"), ("ed25519.PublicKey", "EdDSA"), ("default", "error")] ∧
    Facts.C17.ecAlgSwitchTag = "key.Params().BitSize" ∧
    Facts.C17.ecAlgBitsTable = [(256, "ES256"), (384, "ES384"), (521, "ES512")] := by
  and_intros <;> rfl

def derivedAlg (k : KeyKind) : Option String :=
  signatureAlgorithm Facts.C17.ecAlgBitsTable Facts.C17.sigAlgRsa Facts.C17.sigAlgEd k

/-! ### base64url: every byte string has exactly one accepted spelling -/

/-- decoding undoes encoding, for ALL byte strings -/
theorem rawurl_roundtrip (b : Bytes) (h : ∀ x ∈ b, x < 256) : decode (encode b) = some b := decode_encode b h

/-- existence: the encoder's output passes the parser's re-encode-and-compare test -/
theorem encode_is_canonical (b : Bytes) (h : ∀ x ∈ b, x < 256) : canonical (encode b) = true := encode_canonical b h

/-- uniqueness: two segments that pass the test and decode to the same bytes are the same bytes — padding, CR / LF, unused
    trailing bits, another alphabet never give a second accepted spelling -/
theorem canonical_segment_unique {a b : Bytes} (ha : canonical a = true) (hb : canonical b = true) (h : decode a = decode b) :
    a = b := canonical_unique ha hb h

/-- a segment that passes consists of alphabet characters only (no `=`, `.`, white space, `+`, `/`) -/
theorem canonical_segment_alphabet {s : Bytes} (h : canonical s = true) : ∀ c ∈ s, (idx c).isSome = true := by
  obtain ⟨d, _, rfl⟩ := canonical_eq h
  intro c hc
  obtain ⟨x, _, rfl⟩ := List.mem_map.mp hc
  exact idx_chr_isSome x

example : canonical ("eyJhIjoxfQ".toList.map Char.toNat) = true := by decide
example : canonical ("eyJhIjoxfQ==".toList.map Char.toNat) = false := by decide        -- padded
example : canonical ("eyJhIjox\nfQ".toList.map Char.toNat) = false := by decide       -- line break (the decoder skips it)
example : decode ("eyJhIjox\nfQ".toList.map Char.toNat) = decode ("eyJhIjoxfQ".toList.map Char.toNat) := by decide +kernel
example : canonical ("eyJhIjoxfR".toList.map Char.toNat) = false := by decide          -- unused trailing bits set
example : decode ("eyJhIjoxfR".toList.map Char.toNat) = decode ("eyJhIjoxfQ".toList.map Char.toNat) := by decide +kernel

/-- what passes in compact form: exactly `h.p.s` with three canonical segments -/
theorem compact_shape {b : Bytes} (h : isJWSSerialization b = true) (hj : jsonLead b = false) :
    ∃ hd pl sg, b = hd ++ 46 :: (pl ++ 46 :: sg) ∧ canonical hd = true ∧ canonical pl = true ∧ canonical sg = true := by
  unfold isJWSSerialization at h
  rw [hj] at h
  simp only [Bool.false_eq_true, if_false] at h
  split at h
  · cases h
  · next hlen =>
    have hjoin := join_split b
    unfold segments at h hlen
    generalize splitDot b = p at h hlen hjoin
    obtain ⟨h0, t⟩ := p
    match t, hlen, h, hjoin with
    | [p1, p2], _, h, hjoin =>
      simp only [List.all_cons, List.all_nil, Bool.and_true, Bool.and_eq_true] at h
      refine ⟨h0, p1, p2, ?_, h.1, h.2.1, h.2.2⟩
      simpa [joinDot] using hjoin.symm
    | [], hlen, _, _ => simp at hlen
    | [_], hlen, _, _ => simp at hlen
    | _ :: _ :: _ :: _, hlen, _, _ => simp at hlen

/-- THE clause on the bytes: among the compact inputs the parser lets through, the decoded (protected header, payload,
    signature) triple determines the bytes. A transaction's reference is the hash of its bytes, so one signed transaction has
    exactly one compact reference: no re-encoding of it is accepted. -/
theorem compact_reference_unique {a b : Bytes}
    (ha : isJWSSerialization a = true) (hb : isJWSSerialization b = true) (hja : jsonLead a = false) (hjb : jsonLead b = false)
    (hsame : (segments a).map decode = (segments b).map decode) : a = b := by
  obtain ⟨a0, a1, a2, rfl, ha0, ha1, ha2⟩ := compact_shape ha hja
  obtain ⟨b0, b1, b2, rfl, hb0, hb1, hb2⟩ := compact_shape hb hjb
  -- canonical segments hold no dot, so the segments of each side are the three parts
  rw [segments_compact _ _ _ (canonical_no_dot ha0) (canonical_no_dot ha1) (canonical_no_dot ha2),
    segments_compact _ _ _ (canonical_no_dot hb0) (canonical_no_dot hb1) (canonical_no_dot hb2)] at hsame
  simp only [List.map, List.cons.injEq, and_true] at hsame
  rw [canonical_unique ha0 hb0 hsame.1, canonical_unique ha1 hb1 hsame.2.1, canonical_unique ha2 hb2 hsame.2.2]

/-- consequently every hash of the bytes (the transaction reference) agrees -/
theorem compact_reference_unique_ref {R : Type} (ref : Bytes → R) {a b : Bytes}
    (ha : isJWSSerialization a = true) (hb : isJWSSerialization b = true) (hja : jsonLead a = false) (hjb : jsonLead b = false)
    (hsame : (segments a).map decode = (segments b).map decode) : ref a = ref b := by
  rw [compact_reference_unique ha hb hja hjb hsame]

/-- existence (non-vacuity of the above for every content): the canonical compact form of ANY three byte strings passes, and its
    segments decode to exactly those byte strings -/
theorem canonical_compact_passes (hd pl sg : Bytes) (h0 : ∀ x ∈ hd, x < 256) (h1 : ∀ x ∈ pl, x < 256) (h2 : ∀ x ∈ sg, x < 256) :
    isJWSSerialization (encode hd ++ 46 :: (encode pl ++ 46 :: encode sg)) = true ∧
    (segments (encode hd ++ 46 :: (encode pl ++ 46 :: encode sg))).map decode = [some hd, some pl, some sg] := by
  have hs := segments_compact (encode hd) (encode pl) (encode sg) (encode_no_dot hd) (encode_no_dot pl) (encode_no_dot sg)
  constructor
  · unfold isJWSSerialization
    split
    · rfl
    · rw [hs]
      simp [encode_canonical hd h0, encode_canonical pl h1, encode_canonical sg h2]
  · rw [hs]
    simp [decode_encode hd h0, decode_encode pl h1, decode_encode sg h2]

example : isJWSSerialization ("eyJhIjoxfQ.QUJD.c2ln".toList.map Char.toNat) = true ∧ jsonLead ("eyJhIjoxfQ.QUJD.c2ln".toList.map Char.toNat) = false := by decide +kernel
example : isJWSSerialization ("eyJhIjoxfQ.QUJD.c2ln.".toList.map Char.toNat) = false := by decide +kernel      -- trailing dot (4 segments)
example : isJWSSerialization ("eyJhIjoxfQ.QUJD.c2ln=".toList.map Char.toNat) = false := by decide +kernel
example : isJWSSerialization ("eyJhIjoxfQ.QUJD".toList.map Char.toNat) = false := by decide +kernel
example : isJWSSerialization (" \n{\"payload\":1}".toList.map Char.toNat) = true := by decide +kernel
example : isJWSSerialization ([0xC2, 0xA0, 0xE2, 0x80, 0xA8, 123]) = true := by decide                   -- NBSP, LINE SEPARATOR, `{`
example : isJWSSerialization ([0xC2, 123]) = false := by decide                                        -- invalid UTF-8 is no space

/-- NEGATION for the JSON branch (open finding C17:dagtx:json-serialisation-second-reference): the framing test puts NO demand on the bytes
    of a JSON-led input. Any passing JSON-led input still passes with a space in front — other bytes, hence another reference, for the same
    signed content. (jwx parses and verifies both: replayed on the real ParseTransaction by the `framingtx` leg.) `compact_reference_unique`
    therefore cannot be extended to JSON-led inputs. -/
theorem json_form_admits_whitespace_variants (a : Bytes) (h : jsonLead a = true) :
    isJWSSerialization (32 :: a) = true ∧ jsonLead (32 :: a) = true ∧ (32 :: a) ≠ a := by
  have hj : jsonLead (32 :: a) = true := by
    unfold jsonLead at h ⊢
    rw [trim_space_cons]
    exact h
  refine ⟨by unfold isJWSSerialization; rw [hj]; rfl, hj, ?_⟩
  intro e
  have := congrArg List.length e
  simp at this

example : jsonLead ("{\"payload\":\"x\"}".toList.map Char.toNat) = true := by decide

theorem parseTxFraming_pass {strict parses : Bool} {b : Bytes} (h : parseTxFraming strict parses b = .pass) :
    parses = true ∧ (strict = true → isJWSSerialization b = true) := by
  unfold parseTxFraming at h
  split at h; · cases h
  next hp =>
  split at h; · cases h
  next hf =>
  refine ⟨by simpa using hp, fun hs => ?_⟩
  subst hs
  simpa using hf

/-- `dagTx` with the framing verdict COMPUTED from the received bytes by the model: an accepted transaction in compact form is the
    canonical compact serialisation of its three decoded parts (and everything `accept_dagTx` says holds of it) -/
theorem accept_dagTx_bytes (E : Env) (otherOK : Bool) (b : Bytes) (j : Jws) (vs : List Verified)
    (hstrict : Facts.C17.dagStrictFraming = true)
    (h : dagTx Facts.C17.dagAllowedAlgs Facts.C17.dagRejectsPrivateJwk Facts.C17.dagStrictFraming E otherOK (isJWSSerialization b) j = .accept vs) :
    isJWSSerialization b = true ∧
    (jsonLead b = false → ∃ hd pl sg, b = hd ++ 46 :: (pl ++ 46 :: sg) ∧ canonical hd = true ∧ canonical pl = true ∧ canonical sg = true) := by
  have hf := (dagTx_accept h).1 hstrict
  exact ⟨hf, compact_shape hf⟩

/-- two accepted compact transactions with the same decoded parts are the same bytes: same reference -/
theorem accepted_dagTx_one_reference {R : Type} (ref : Bytes → R) (E E' : Env) (o o' : Bool) (a b : Bytes) (j j' : Jws) (vs vs' : List Verified)
    (hstrict : Facts.C17.dagStrictFraming = true)
    (ha : dagTx Facts.C17.dagAllowedAlgs Facts.C17.dagRejectsPrivateJwk Facts.C17.dagStrictFraming E o (isJWSSerialization a) j = .accept vs)
    (hb : dagTx Facts.C17.dagAllowedAlgs Facts.C17.dagRejectsPrivateJwk Facts.C17.dagStrictFraming E' o' (isJWSSerialization b) j' = .accept vs')
    (hja : jsonLead a = false) (hjb : jsonLead b = false)
    (hsame : (segments a).map decode = (segments b).map decode) : ref a = ref b :=
  compact_reference_unique_ref ref (accept_dagTx_bytes E o a j vs hstrict ha).1 (accept_dagTx_bytes E' o' b j' vs' hstrict hb).1 hja hjb hsame

/-- every algorithm SignatureAlgorithm can return is on the regenerated list, hence asymmetric: the hypothesis `hderive` of
    accept_ldProof / accept_vcJsonLd is discharged for the modelled function -/
theorem derived_alg_listed (k : KeyKind) (a : String) (h : derivedAlg k = some a) :
    a ∈ Facts.C17.keyDerivedAlgs ∧ a ∉ symmetricOrNone := by
  have hl : a ∈ Facts.C17.keyDerivedAlgs := by
    unfold derivedAlg signatureAlgorithm at h
    cases k with
    | nil => cases h
    | other => cases h
    | rsa => cases h; decide
    | ed25519 => cases h; decide
    | ecdsa bits =>
      simp only [ecAlgOfBits] at h
      have hfind : ∀ (t : List (Nat × String)) , (∀ p ∈ t, p.2 ∈ Facts.C17.keyDerivedAlgs) →
          (t.find? (·.1 == bits)).map (·.2) = some a → a ∈ Facts.C17.keyDerivedAlgs := by
        intro t ht hf
        cases hfd : t.find? (·.1 == bits) with
        | none => rw [hfd] at hf; cases hf
        | some p =>
          rw [hfd] at hf
          cases hf
          exact ht p (List.mem_of_find?_eq_some hfd)
      exact hfind _ (by decide) h
  exact ⟨hl, allowed_lists_asymmetric.2.2.2 a hl⟩

/-- the BitSize table of SignatureAlgorithm and the curve-name table of AlgorithmFitsKey agree on the NIST curves: the algorithm derived
    from a NIST key always fits that key, so LDProof.Verify's fit test only ever refuses malformed keys -/
theorem derived_alg_fits_nist :
    ∀ p ∈ [("P-256", 256), ("P-384", 384), ("P-521", 521)], ∀ a, derivedAlg (.ecdsa p.2) = some a →
      algorithmFitsKey a (.ecdsa p.1) = true ∧ algOfCurve p.1 = some a := by decide

example : derivedAlg (.ecdsa 256) = some "ES256" ∧ derivedAlg .rsa = some "PS256" ∧ derivedAlg .ed25519 = some "EdDSA" ∧
    derivedAlg .nil = none ∧ derivedAlg (.ecdsa 224) = none ∧ derivedAlg .other = none := by decide

/-- LDProof.Verify with the algorithm computed by the MODELLED SignatureAlgorithm: no assumption about the derived algorithm left -/
theorem accept_ldProof_derived (kind : Key → KeyKind) (L : LdEnv) (key : Key) (canon : Bool) (parts : Nat) (dec : Bool) (vs : List Verified)
    (hL : L.keyAlg = fun k => derivedAlg (kind k))
    (h : ldProofVerify L key canon parts dec = .accept vs) :
    ∃ v, vs = [v] ∧ v.key = key ∧ v.src = .caller ∧ derivedAlg (kind key) = some v.alg ∧ v.alg ∉ symmetricOrNone ∧
      L.verifiesDetached key v.alg = true ∧ parts = 2 ∧ L.fits key v.alg = true := by
  obtain ⟨v, h1, h2, h3, h4, h5, h6⟩ :=
    accept_ldProof L key canon parts dec vs (fun k a hk => (derived_alg_listed (kind k) a (by rw [hL] at hk; exact hk)).1) h
  exact ⟨v, h1, h2, h3, by rw [hL] at h4; exact h4, h5, h6⟩

example : ∃ vs, ldProofVerify { keyAlg := fun _ => derivedAlg (.ecdsa 384), verifiesDetached := fun _ a => a == "ES384" } "K" true 2 true = .accept vs :=
  ⟨_, rfl⟩

end Nuts.C17.Props
