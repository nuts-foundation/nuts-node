/-
  C11 — status list positions stay unique when the node's public URL changes (seeded
  mutation C11-w8m2). `EAct.rebase` (a restart with another `url` setting) is a step of the `Entry` machine: pages keep
  the subject id they were stored with, the counter UPDATE addresses the LOADED row's id (fact `entryUpdateKey`).
-/
import NutsProofs.Props.C11
import NutsModel.Facts.C11
namespace Nuts.C11.Props

/-- `slots_unique_across_url_changes`: for every schedule of Entry read/write steps, Revoke/Credential transactions, ticks
    AND changes of the configured base URL (any number, anywhere), no two `Entry` calls return the same (list, index), and
    every returned position lies on an existing page at or below that page's counter — so `Revoke`'s range check
    (`index > last_issued_index`) can never refuse an issued entry. -/
theorem slots_unique_across_url_changes (E : Env) (w0 : EWorld) (h0 : EInv E w0) (acts : List EAct) :
    (∀ (t1 t2 : Nat) (th1 th2 : EThread) l i, t1 ≠ t2 → (eRun E w0 acts).threads[t1]? = some th1 →
        (eRun E w0 acts).threads[t2]? = some th2 → th1.phase = .done l i → th2.phase ≠ .done l i) ∧
    (∀ (t : Nat) (th : EThread) l i, (eRun E w0 acts).threads[t]? = some th → th.phase = .done l i →
        ∃ r, r ∈ (eRun E w0 acts).node.pages ∧ r.id = l ∧ i ≤ r.last ∧ r.last ≤ E.maxIndex) := by
  have h := eRun_inv (E := E) acts h0
  refine ⟨h.uniq, ?_⟩
  intro t th l i ht hd
  obtain ⟨r, hr, hl, hi⟩ := h.done t th l i ht hd
  exact ⟨r, hr, hl, hi, h.le r hr⟩

/-- the configured URL is irrelevant for a page that exists: the write step of an `Entry` on a loaded row gives the same
    counter update whatever the node's base URL is at that moment (roll-over excepted, which creates a NEW page) -/
theorem entry_update_independent_of_base (E : Env) (now : Nat) (n : Node) (base : String) (issuer kid : String) (row : PageRow)
    (h : row.last + 1 ≤ E.maxIndex) :
    entryDecide E now { n with base := base } issuer kid (some row) = .update row.id (row.last + 1) ∧
    entryDecide E now n issuer kid (some row) = .update row.id (row.last + 1) := by
  have hn : ¬ (row.last + 1 > E.maxIndex) := by omega
  constructor <;> (unfold entryDecide; simp only [entryCur]; exact if_neg hn)

/-- non-vacuity: alice gets position 0 under https://n0, the base URL changes, she gets position 1 of the SAME (old) list -/
example :
    ((eRun exEnv { node := exNode "https://n0" }
        [.spawn "did:a", .read 0 none, .write 0, .rebase "https://n0:8443", .spawn "did:a",
         .read 1 (some (.sl "https://n0" "did:a" 1)), .write 1, .spawn "did:a", .read 2 (some (.sl "https://n0" "did:a" 1)), .write 2]).threads.map (·.phase)) =
      [.done (.sl "https://n0" "did:a" 1) 0, .done (.sl "https://n0" "did:a" 1) 1, .done (.sl "https://n0" "did:a" 1) 2] := by decide

/-- the counter UPDATE of `Entry` is keyed by the loaded record's `SubjectID` (model: `WOut.update cur.id …`), and it is the
    only Where/UpdateColumn of the method -/
theorem fact_entry_update_key :
    Nuts.Facts.C11.entryUpdateKey =
      ["UpdateColumn(\"last_issued_index\",credentialIssuer.LastIssuedIndex)", "Where(\"subject_id = ?\",credentialIssuer.SubjectID)"] := rfl

end Nuts.C11.Props
