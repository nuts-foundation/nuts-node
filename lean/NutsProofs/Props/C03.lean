/-
  C03 — Private keys never leave the key store and are used only by key id.   LEVEL: PARTIAL (see below).
  Models: NutsModel/C03/Kid.lean (KidPattern, validateKID, fs / vault path construction, filepath.Clean/Join/Base),
          NutsModel/C03/KeyStore.lean (New / Link / Delete / Migrate / Sign / Decrypt / Resolve state machine),
          NutsModel/C03/Jws.lean (protected-header handling of SignJWS / SignJWT, dpop private-jwk test).
  Facts: NutsModel/Facts/C03.lean is REGENERATED from /repo on every run.

  What is proved: namespace confinement of key names (fs and vault path shapes), kid ↔ key binding over all
  histories, the jwk-header refusal for every caller supplied header map, and a kernel-checked inventory statement
  over the EXTRACTED list of functions that touch private-key typed values.
  What is NOT proved (and cannot be by a model of this size): that key bytes appear in no output of code outside the
  models (logs, SQL rows, HTTP bodies of every API). That part is the inventory + the harness's canary scan,
  labelled exploration in the evidence.
-/
import NutsModel.C03.Kid
import NutsModel.C03.KeyStore
import NutsModel.C03.Jws
import NutsModel.Facts.C03
import NutsProofs.Lemmas.C03Kid
import NutsProofs.Lemmas.C03KeyStore

namespace Nuts.C03.Props
open Nuts Nuts.C03 Nuts.Facts

/-! ## 1. Key names cannot address storage outside the key store's namespace -/

/-- the bytes a validated key name can consist of: 7-bit, and none of `/`, `\`, NUL -/
def ClassesSafe (cls hex : Ranges) : Bool :=
  rangesBelow cls 128 && rangesBelow hex 128 &&
  rangesAvoid cls SLASH && rangesAvoid hex SLASH && rangesAvoid cls 0 && rangesAvoid hex 0 &&
  rangesAvoid cls 92 && rangesAvoid hex 92 && rangesAvoid cls PCT

def patternOK : Bool :=
  match kidClasses C03.kidPatternRx with
  | some (cls, hex) => ClassesSafe cls hex
  | none => false

/-- `spi.KidPattern` still is `^(?:[class]|%[hex]{2})+$` and its classes are 7-bit without `/`, `\`, NUL, `%` -/
theorem fact_kid_pattern : patternOK = true := by decide

theorem fact_kid_pattern_shape : ∃ cls hex, kidClasses C03.kidPatternRx = some (cls, hex) := by
  have h := fact_kid_pattern
  unfold patternOK at h
  split at h
  · exact ⟨_, _, by assumption⟩
  · cases h

theorem fact_classes_safe (cls hex : Ranges) (h : kidClasses C03.kidPatternRx = some (cls, hex)) : ClassesSafe cls hex = true := by
  have h' := fact_kid_pattern
  unfold patternOK at h'
  rw [h] at h'
  exact h'

theorem fact_dot_names_refused : [DOT] ∈ C03.validateKIDRefusedNames ∧ [DOT, DOT] ∈ C03.validateKIDRefusedNames := by decide

theorem fact_fs_entry_types_plain : ∀ et ∈ C03.fsEntryTypes, SLASH ∉ et ∧ 0 ∉ et := by decide

theorem fact_vault_path_name_plain : IsEntryName C03.vaultKeyPathName := by decide

theorem fact_fs_path_construction :
    C03.fsEntryFileNameBody = "return fmt.Sprintf(\"%s_%s\", kid, entryType)" ∧
    C03.fsEntryPathBody = "return filepath.Join(fsc.fspath, getEntryFileName(kid, entryType))" ∧
    C03.fsPathBindings = ["SavePrivateKey:filenamePath:=fsc.getEntryPath(kid, privateKeyEntry)",
      "DeletePrivateKey:filePath:=fsc.getEntryPath(keyName, privateKeyEntry)",
      "readEntry:filePath:=fsc.getEntryPath(kid, entryType)"] ∧
    C03.fsPathUses = ["NewFileSystemBackend:os.MkdirAll:fsc.fspath",
      "PrivateKeyExists:os.Stat:fsc.getEntryPath(keyName, privateKeyEntry)", "SavePrivateKey:os.OpenFile:filenamePath",
      "DeletePrivateKey:os.Remove:filePath", "ListPrivateKeys:filepath.Walk:fsc.fspath", "readEntry:os.ReadFile:filePath"] :=
  ⟨rfl, rfl, rfl, rfl⟩

theorem fact_vault_path_construction :
    C03.vaultKeyPathBody = "path := fmt.Sprintf(\"%s/%s/%s\", prefix, privateKeyPathName, filepath.Base(kid)) ; return filepath.Clean(path)" :=
  rfl

/-- **the Lean predicate IS the pattern.** For the pattern tree regenerated from `spi.KidPattern` (Go's own
    `regexp/syntax` parse): the executable predicate `kidMatches`, which the driver runs against the real regexp,
    accepts exactly the strings in the textbook language of `^…$` of that tree. -/
theorem kid_pattern_language (cls hex : Ranges) (hshape : kidClasses C03.kidPatternRx = some (cls, hex)) (s : Bytes) :
    kidMatches cls hex s = true ↔ C03.kidPatternRx.FullMatch s := by
  have hsafe := fact_classes_safe cls hex hshape
  unfold ClassesSafe at hsafe
  simp only [Bool.and_eq_true] at hsafe
  have hpct : inRanges cls PCT = false := by
    cases h : inRanges cls PCT with
    | false => rfl
    | true => exact absurd rfl (inRanges_avoid hsafe.2 h)
  exact fullMatch_kid _ cls hex hshape hpct s

theorem valid_kid_bytes {cls hex : Ranges} (hsafe : ClassesSafe cls hex = true)
    (refused : List Bytes) (kid : Bytes) (hv : validateKID cls hex refused kid = true) :
    kid ≠ [] ∧ kid ∉ refused ∧ ∀ b ∈ kid, b < 128 ∧ b ≠ SLASH ∧ b ≠ 0 ∧ b ≠ 92 := by
  unfold ClassesSafe at hsafe
  simp only [Bool.and_eq_true] at hsafe
  obtain ⟨⟨⟨⟨⟨⟨⟨⟨c128, h128⟩, cS⟩, hS⟩, c0⟩, h0⟩, cB⟩, hB⟩, _⟩ := hsafe
  unfold validateKID kidMatches at hv
  simp only [Bool.and_eq_true, Bool.not_eq_true', List.isEmpty_eq_false_iff] at hv
  refine ⟨hv.1.1, by simpa using hv.2, ?_⟩
  intro b hb
  rcases kidTokens_mem cls hex kid hv.1.2 b hb with h | h | h
  · exact ⟨inRanges_below c128 h, inRanges_avoid cS h, inRanges_avoid c0 h, inRanges_avoid cB h⟩
  · subst h; decide
  · exact ⟨inRanges_below h128 h, inRanges_avoid hS h, inRanges_avoid h0 h, inRanges_avoid hB h⟩

theorem validateKID_entry {cls hex : Ranges} (hsafe : ClassesSafe cls hex = true) {refused : List Bytes}
    (hd : [DOT] ∈ refused ∧ [DOT, DOT] ∈ refused) {kid : Bytes} (hv : validateKID cls hex refused kid = true) :
    IsEntryName kid := by
  obtain ⟨hne, hnr, hb⟩ := valid_kid_bytes hsafe _ kid hv
  exact ⟨hne, fun e => hnr (e ▸ hd.1), fun e => hnr (e ▸ hd.2), fun h => (hb _ h).2.1 rfl, fun h => (hb _ h).2.2.1 rfl⟩

/-- **kid_confined (file system backend).** For every key name the wrapper accepts, every entry type and every
    non-empty key directory: the file name is a single directory entry (no separator, no NUL, not `.`/`..`) and the
    path `filepath.Join(dir, name)` denotes exactly that entry of the (lexically cleaned) key directory. Distinct
    key names give distinct files. Path-like and percent-encoded names cannot address anything else. -/
theorem kid_confined (cls hex : Ranges) (hshape : kidClasses C03.kidPatternRx = some (cls, hex))
    (dir kid et : Bytes) (hdir : dir ≠ []) (het : et ∈ C03.fsEntryTypes)
    (hv : validateKID cls hex C03.validateKIDRefusedNames kid = true) :
    IsEntryName (fsEntryFileName kid et) ∧
    fsEntryPath dir kid et = ((cleanP dir).child (fsEntryFileName kid et)).render ∧
    (∀ kid', fsEntryFileName kid' et = fsEntryFileName kid et → kid' = kid) := by
  obtain ⟨_, _, hb⟩ := valid_kid_bytes (fact_classes_safe cls hex hshape) _ kid hv
  obtain ⟨hes, he0⟩ := fact_fs_entry_types_plain et het
  have hname := fsEntryFileName_entry (fun h => (hb _ h).2.1 rfl) (fun h => (hb _ h).2.2.1 rfl) hes he0
  refine ⟨hname, ?_, fun kid' h => List.append_cancel_right h⟩
  unfold fsEntryPath join2 clean
  simp only [hdir, hname.1, if_false]
  rw [cleanP_append_entry dir _ hdir hname]

def ascii (s : String) : Bytes := s.toList.map Char.toNat

/-- A string literal is `String.ofList` of its characters; rewriting with this before evaluating spares the kernel
    the UTF-8 decoding that `String.toList` does. -/
theorem ascii_ofList (l : List Char) : ascii (String.ofList l) = l.map Char.toNat := by
  unfold ascii; rw [String.toList_ofList]

example : ∀ cls hex, kidClasses C03.kidPatternRx = some (cls, hex) →
    validateKID cls hex C03.validateKIDRefusedNames (ascii "did:web:nodeA%3A10443:iam:aa00a18b#0") = true := by
  intro cls hex h
  have : kidClasses C03.kidPatternRx = some ([(32, 32), (35, 35), (45, 46), (48, 58), (65, 90), (95, 95), (97, 122)], [(48, 57), (65, 70), (97, 102)]) := rfl
  rw [this] at h; cases h
  rw [ascii_ofList]; decide +kernel

/-- **kid_confined (Vault path shape).** `privateKeyPath(prefix, name)` for a validated name and a non-empty prefix
    is exactly `<clean prefix>/nuts-private-keys/<name>`: the entry `name` of the key store's own directory. -/
theorem kid_confined_vault (cls hex : Ranges) (hshape : kidClasses C03.kidPatternRx = some (cls, hex))
    (pfx kid : Bytes) (hpfx : pfx ≠ [])
    (hv : validateKID cls hex C03.validateKIDRefusedNames kid = true) :
    IsEntryName kid ∧
    vaultKeyPath pfx C03.vaultKeyPathName kid = (((cleanP pfx).child C03.vaultKeyPathName).child kid).render :=
  have hname := validateKID_entry (fact_classes_safe cls hex hshape) fact_dot_names_refused hv
  ⟨hname, vaultKeyPath_entry hpfx fact_vault_path_name_plain hname⟩

def uuidCovered : Bool :=
  match kidClasses C03.kidPatternRx with
  | some (cls, _) => coversUuid cls
  | none => false

/-- the pattern's class contains every byte a uuid string is made of -/
theorem fact_uuid_bytes_allowed : uuidCovered = true := by decide +kernel

/-- **uuid_names_confined.** `wrapper.NewPrivateKey` does not validate its key name; its only caller passes
    `uuid.New().String()` (fact_new_key_name_is_uuid_and_validate_shape). Every non-empty string over the uuid alphabet
    (lower-case hex digits and `-`) longer than two bytes passes `validateKID`, so `kid_confined` /
    `kid_confined_vault` apply to the names `New` draws as well. -/
theorem uuid_names_confined (cls hex : Ranges) (hshape : kidClasses C03.kidPatternRx = some (cls, hex))
    (s : Bytes) (hlen : 2 < s.length) (hu : ∀ b ∈ s, isUuidByte b = true) :
    validateKID cls hex C03.validateKIDRefusedNames s = true := by
  have hc : coversUuid cls = true := by
    have := fact_uuid_bytes_allowed
    unfold uuidCovered at this
    rw [hshape] at this
    exact this
  have h1 : ∀ r ∈ C03.validateKIDRefusedNames, r.length ≤ 2 := by decide
  exact validateKID_of_class (by intro e; rw [e] at hlen; simp at hlen) (fun hm => by have := h1 s hm; omega)
    fun b hb => coversUuid_mem hc (hu b hb)

example : ∀ b ∈ ascii "3f1c2a9e-5b7d-4c1a-9e2f-0a1b2c3d4e5f", isUuidByte b = true := by
  rw [ascii_ofList]; decide +kernel

/-- Why the two literal refusals in `validateKID` are needed (the defect repaired by the `fix:` commit): the
    pattern alone accepts `..`, and the Vault path for it is the PARENT of the key store's directory; `.` is the
    directory itself. -/
theorem pattern_alone_does_not_confine_vault :
    ∀ cls hex, kidClasses C03.kidPatternRx = some (cls, hex) →
      validateKID cls hex [] [DOT, DOT] = true ∧
      vaultKeyPath (ascii "kv") (ascii "nuts-private-keys") [DOT, DOT] = ascii "kv" ∧
      validateKID cls hex [] [DOT] = true ∧
      vaultKeyPath (ascii "kv") (ascii "nuts-private-keys") [DOT] = ascii "kv/nuts-private-keys" := by
  intro cls hex h
  have : kidClasses C03.kidPatternRx = some ([(32, 32), (35, 35), (45, 46), (48, 58), (65, 90), (95, 95), (97, 122)], [(48, 57), (65, 70), (97, 102)]) := rfl
  rw [this] at h; cases h
  rw [ascii_ofList, ascii_ofList, ascii_ofList]; decide +kernel

/-- every Vault method that takes a key name derives its path with `privateKeyPath(prefix, <that name>)` -/
theorem fact_vault_methods_use_key_path :
    C03.vaultPathBindings = ["GetPrivateKey:privateKeyPath(v.config.PathPrefix, keyName)",
      "PrivateKeyExists:privateKeyPath(v.config.PathPrefix, keyName)", "ListPrivateKeys:privateKeyListPath(v.config.PathPrefix)",
      "privateKeyPath:fmt.Sprintf(\"%s/%s/%s\", prefix, privateKeyPathName, filepath.Base(kid))",
      "privateKeyListPath:fmt.Sprintf(\"%s/%s\", prefix, privateKeyPathName)",
      "SavePrivateKey:privateKeyPath(v.config.PathPrefix, keyPath)", "DeletePrivateKey:privateKeyPath(v.config.PathPrefix, kid)"] :=
  rfl

/-- the Vault directory name used above is the one in the source -/
theorem fact_vault_path_name : C03.vaultKeyPathNameStr = "nuts-private-keys" ∧ C03.vaultKeyPathName.length = 17 := ⟨rfl, rfl⟩

/-- non-vacuity: path-like and percent-encoded names; the first two are refused, the third is accepted and stays
    one directory entry. (Literal refusal list: what `fact_dot_names_refused` states; a computation that could turn
    false under a source change is kept out of `decide +kernel`, whose failure path is expensive.) -/
example :
    let cls : Ranges := [(32, 32), (35, 35), (45, 46), (48, 58), (65, 90), (95, 95), (97, 122)]
    let hex : Ranges := [(48, 57), (65, 70), (97, 102)]
    validateKID cls hex [[DOT], [DOT, DOT]] (ascii "../server-certificate") = false ∧
    validateKID cls hex [[DOT], [DOT, DOT]] (ascii "..") = false ∧
    validateKID cls hex [[DOT], [DOT, DOT]] (ascii "..%2F..%2Fetc%2Fpasswd") = true ∧
    fsEntryPath (ascii "/data/crypto") (ascii "..%2F..%2Fetc%2Fpasswd") (ascii "private.pem")
      = ascii "/data/crypto/..%2F..%2Fetc%2Fpasswd_private.pem" := by
  iterate 6 rw [ascii_ofList]
  decide +kernel

/-- every assignment to `client.backend` in crypto.go (the extractor lists them all: one per setup function) installs
    the backend behind `spi.NewValidatedKIDBackendWrapper(…, spi.KidPattern)` -/
theorem fact_every_backend_wrapped :
    C03.backendAssignments ≠ [] ∧
    ∀ a ∈ C03.backendAssignments, a.2.1 = "spi.NewValidatedKIDBackendWrapper" ∧ a.2.2 = "spi.KidPattern" := by decide +kernel

/-- the methods of spi.Storage that take a key name -/
def nameTakingMethods : List String :=
  (C03.storageMethods.filter (fun m => !m.2.isEmpty)).map (·.1)

/-- the wrapper method `m`: its first string parameter (the key name) is validated by a leading
    `if err := w.validateKID(…); err != nil { return … }`, the only backend call is the same method, and that same
    parameter is among the arguments passed on -/
def wrapperValidates (m : String) : Bool :=
  C03.wrapperMethods.any fun w =>
    w.1 == m && (match w.2.1 with
      | p :: _ => w.2.2.1 == [p] && w.2.2.2.1 == [m] && w.2.2.2.2.contains p
      | [] => false)

/-- **wrapper_validates_all_kid_methods.** Every method of `spi.Storage` that takes a caller-chosen key name is
    implemented by the wrapper with the validation FIRST — except `NewPrivateKey`, which is not validated; its only
    caller passes `uuid.New().String()` (next theorem). -/
theorem wrapper_validates_all_kid_methods :
    nameTakingMethods = ["NewPrivateKey", "GetPrivateKey", "PrivateKeyExists", "SavePrivateKey", "DeletePrivateKey"] ∧
    (∀ m ∈ nameTakingMethods, m ≠ "NewPrivateKey" → wrapperValidates m = true) ∧
    wrapperValidates "NewPrivateKey" = false := by decide +kernel

/-- the key name given to `NewPrivateKey` is a fresh UUID; `validateKID` returns an error exactly under the modelled
    condition -/
theorem fact_new_key_name_is_uuid_and_validate_shape :
    C03.newKeyNameExpr = "uuid.New().String()" ∧
    C03.validateKIDConds = "kid == \".\" || kid == \"..\" || !w.kidPattern.MatchString(kid)" := ⟨rfl, rfl⟩

/-! ## 2. A key id is bound to one key pair; signing, decrypting and resolving go through that binding only -/

section binding
variable (valid : String → Bool)

/-- **unknown kid.** Without a reference row every entry point answers `ErrPrivateKeyNotFound` and changes
    nothing — there is no fallback key. -/
theorem unknown_kid_never_signs (s : Store) (kid : String) (h : s.ref kid = none) :
    signKey valid s kid = .error .privateKeyNotFound ∧
    resolve valid s kid = .error .privateKeyNotFound ∧
    (∀ c isEC, decrypt valid s kid c isEC = .error .privateKeyNotFound) ∧
    (∀ c, kid ≠ "" → decryptJWE valid s kid c = .error .privateKeyNotFound) ∧
    keyExists s kid = false ∧
    delete valid s kid = (s, .error .privateKeyNotFound) := by
  simp [signKey, resolve_eq, getPrivateKey_eq, decrypt, decryptJWE, keyExists, delete, findRef, h]

/-- **use by key id only.** If signing for `kid` succeeds with key pair `k`, then `kid` has a reference row, the
    referenced key name passed `validateKID`, `k` is the backend's entry under that name, `Resolve(kid)` returns the
    public half of that same `k`, and `Decrypt`/`DecryptJWE` for `kid` use that same `k`. -/
theorem sign_only_by_reference (s : Store) (kid : String) (k : Nat) (h : signKey valid s kid = .ok k) :
    ∃ r, s.ref kid = some r ∧ valid r.keyName = true ∧ s.key r.keyName = some k ∧
      resolve valid s kid = .ok k ∧
      (∀ c isEC, decrypt valid s kid c isEC =
        if isEC k then (if k = c then .ok k else .error .wrongKey) else .error .unsupportedKey) ∧
      (∀ c, kid ≠ "" → decryptJWE valid s kid c = if k = c then .ok k else .error .wrongKey) := by
  have h' := h
  rw [signKey, getPrivateKey_eq] at h'
  split at h'
  · cases h'
  · rename_i r hr
    split at h'
    · rename_i hv
      split at h'
      · rename_i k' hk
        cases h'
        refine ⟨r, hr, hv, hk, h, fun c isEC => ?_, fun c hne => ?_⟩
        · simp [decrypt, findRef, hr, wGet, hv, hk]
        · simp [decryptJWE, hne, show getPrivateKey valid s kid = .ok k from h]
      · cases h'
    · cases h'

/-- the backend is written and deleted only under validated names or the name `New` generated itself -/
theorem backend_touched_only_at_valid_or_new_names (s : Store) (op : Op) (name : String)
    (h : (step valid s op).key name ≠ s.key name) :
    valid name = true ∨ ∃ f, op = .new name f := backend_touched valid s op name h

def drawnNames : List Op → List String
  | [] => []
  | .new n _ :: rest => n :: drawnNames rest
  | _ :: rest => drawnNames rest

/-- **backend namespace invariant.** After ANY history, every entry of the backend is stored under a name that had an
    entry at the start, that passed `validateKID`, or that `New` drew itself (a uuid, see `uuid_names_confined`). -/
theorem backend_names_valid_or_drawn (ops : List Op) (s : Store) (name : String) (k : Nat)
    (h : (run valid s ops).key name = some k) :
    (∃ k0, s.key name = some k0) ∨ valid name = true ∨ name ∈ drawnNames ops := by
  induction ops generalizing s with
  | nil => exact Or.inl ⟨k, h⟩
  | cons op rest ih =>
    rcases ih (step valid s op) h with ⟨k0, h0⟩ | hv | hd
    · rcases step_key_name valid s op name k0 h0 with h1 | hv | ⟨f, rfl⟩
      · exact Or.inl ⟨k0, h1⟩
      · exact Or.inr (Or.inl hv)
      · exact Or.inr (Or.inr (by simp [drawnNames]))
    · exact Or.inr (Or.inl hv)
    · refine Or.inr (Or.inr ?_)
      cases op <;> simp [drawnNames, hd]

/-- **keyref_binding.** After ANY history of New / Link / Delete / Migrate / Save in which `New` and `Save` draw unused
    key names (the `uuid.New()` contract; the operator's for an imported key), for every kid: if a public key was
    returned by `New` for that kid and has not been unbound since (Delete / Link / Migrate of that same kid), then the
    only key pair a signing request for that kid can reach is the one whose public half was returned (`Resolve`,
    `Decrypt` and `DecryptJWE` then use that same key pair: `sign_only_by_reference`). -/
theorem keyref_binding (ops : List Op) (hf : FreshHist valid {} ops) (kid : String) (k k' : Nat)
    (hp : (run valid {} ops).pubd kid = some k) (hs : signKey valid (run valid {} ops) kid = .ok k') : k' = k := by
  obtain ⟨r, hr, hk⟩ := bound_run valid {} ops hf bound_empty kid k hp
  obtain ⟨r', hr', _, hk', _⟩ := sign_only_by_reference valid _ kid k' hs
  rw [hr] at hr'; cases hr'
  exact hk k' hk'

/-- **a signature requested for K verifies with exactly the public key published for K.** `pub`, `sign`, `sigOK` are
    the signature scheme (parameters); its correctness and "a signature verifies under one public key only" are the
    two named hypotheses (the harness checks both on every signature it obtains from the real store). -/
theorem signature_verifies_with_published_key_only {Pub Msg Sig : Type}
    (pub : Nat → Pub) (sign : Nat → Msg → Sig) (sigOK : Pub → Msg → Sig → Bool)
    (hCorrect : ∀ k m, sigOK (pub k) m (sign k m) = true)
    (hOnly : ∀ k p m, sigOK p m (sign k m) = true → p = pub k)
    (ops : List Op) (hf : FreshHist valid {} ops) (kid : String) (k k' : Nat) (m : Msg)
    (hp : (run valid {} ops).pubd kid = some k) (hs : signKey valid (run valid {} ops) kid = .ok k') :
    sigOK (pub k) m (sign k' m) = true ∧ ∀ p, sigOK p m (sign k' m) = true → p = pub k := by
  have e := keyref_binding valid ops hf kid k k' hp hs
  subst e
  exact ⟨hCorrect _ m, fun p h => hOnly _ p m h⟩

end binding

instance (s : Store) (n : String) : Decidable (FreshName s n) := by unfold FreshName; infer_instance

instance decFreshHist (valid : String → Bool) : (s : Store) → (ops : List Op) → Decidable (FreshHist valid s ops)
  | _, [] => isTrue trivial
  | s, op :: rest =>
    have := decFreshHist valid (step valid s op) rest
    match op with
    | .new n f => by unfold FreshHist; exact inferInstance
    | .link .. => by unfold FreshHist; exact inferInstance
    | .delete .. => by unfold FreshHist; exact inferInstance
    | .migrate => by unfold FreshHist; exact inferInstance
    | .save .. => by unfold FreshHist; exact inferInstance

def exValid : String → Bool := fun n => n != "../x"
def exOps : List Op :=
  [.new "u1" (some "did:a#1"), .new "u2" (some "did:b#1"), .link "alias" "u1" "1", .link "evil" "../x" "1", .delete "did:b#1"]

/-- non-vacuity + the shape of the behaviour: two keys, an alias, a link to a path-like name, a delete -/
example :
    FreshHist exValid {} exOps ∧
    (run exValid {} exOps).pubd "did:a#1" = some 0 ∧
    signKey exValid (run exValid {} exOps) "did:a#1" = .ok 0 ∧ signKey exValid (run exValid {} exOps) "alias" = .ok 0 ∧
    signKey exValid (run exValid {} exOps) "did:b#1" = .error .privateKeyNotFound ∧
    signKey exValid (run exValid {} exOps) "evil" = .error .invalidKid ∧
    signKey exValid (run exValid {} exOps) "nobody" = .error .privateKeyNotFound := by
  decide +kernel

def exReuse : List Op := [.new "u1" (some "A"), .link "B" "u1" "1", .delete "B", .new "u1" none]

/-- without the freshness contract the binding can break (so the hypothesis is not decoration): key name reuse after
    a delete through an alias re-points a published kid to a different key pair -/
example :
    ¬ FreshHist (fun _ => true) {} exReuse ∧
    (run (fun _ => true) {} exReuse).pubd "A" = some 0 ∧ signKey (fun _ => true) (run (fun _ => true) {} exReuse) "A" = .ok 1 := by
  decide +kernel

/-- **key_material_does_not_flow.** Take two stores that differ ONLY in the key material (same reference rows, same
    entry names in the backend — `SameButKeys`) and run the same history on both. Then, whatever the keys are:
    the reference rows (the SQL table), the names of the backend entries (the file names), `List`, `Exists`, the audit
    records of every further request, and the success / error class of signing and resolving are identical.
    None of these channels carries information about private (or public) key material. -/
theorem key_material_does_not_flow (valid : String → Bool) (s t : Store) (h : SameButKeys s t) (ops : List Op) :
    (run valid s ops).refs = (run valid t ops).refs ∧
    (run valid s ops).backend.map (·.1) = (run valid t ops).backend.map (·.1) ∧
    list (run valid s ops) = list (run valid t ops) ∧
    (∀ kid, keyExists (run valid s ops) kid = keyExists (run valid t ops) kid) ∧
    (∀ r, auditOf valid (run valid s ops) r = auditOf valid (run valid t ops) r) ∧
    (∀ kid, resErr (signKey valid (run valid s ops) kid) = resErr (signKey valid (run valid t ops) kid)) ∧
    (∀ kid, resErr (resolve valid (run valid s ops) kid) = resErr (resolve valid (run valid t ops) kid)) := by
  have hR := same_run valid h ops
  refine ⟨hR.1, hR.2, by simp [list, hR.1], fun kid => by simp [keyExists, same_ref hR kid],
    fun r => same_audit valid hR r, fun kid => same_getPrivateKey valid hR kid, fun kid => same_resolve valid hR kid⟩

/-- **error values are an output channel too.** The text of every error the engine words itself (`errText`) is computed
    from the request, the reference rows and the error class — no key pair is in scope of that function — and for two
    stores that differ only in key material it is the same text after any history. (The real texts are compared with
    `errText` character by character in the correspondence, for ECDSA, RSA and Ed25519 keys.) -/
theorem error_text_independent_of_key_material (valid : String → Bool) (keyDir : String) (s t : Store)
    (h : SameButKeys s t) (ops : List Op) (r : Req) (e : KErr) :
    errText keyDir (run valid s ops) r e = errText keyDir (run valid t ops) r e :=
  same_errText keyDir (same_run valid h ops) r e

example : errText "/d" (run exValid {} exOps) (.decrypt "evil" 0) .invalidKid = some "invalid key ID: ../x" ∧
    errText "/d" (run exValid {} exOps) (.decrypt "alias" 0) .spiNotFound
      = some "could not open entry u1 with filename /d/u1_private.pem: entry not found" ∧
    errText "/d" (run exValid {} exOps) (.decrypt "alias" 0) .unsupportedKey = some "unsupported decryption key" := by
  decide +kernel

/-- non-vacuity: the same history on an engine whose key generator hands out other keys — the signing key differs,
    the rows / names / audit records do not -/
example :
    SameButKeys {} { nextKey := 100 } ∧
    signKey exValid (run exValid {} exOps) "did:a#1" = .ok 0 ∧
    signKey exValid (run exValid { nextKey := 100 } exOps) "did:a#1" = .ok 100 ∧
    auditOf exValid (run exValid {} exOps) (.sign "jws" "did:a#1" "" "") = [("SignJWS", "Signing a JWS with key: did:a#1")] ∧
    auditOf exValid (run exValid {} exOps) (.sign "dpop" "did:a#1" "" "") = [] := by
  refine ⟨⟨rfl, rfl⟩, ?_⟩
  decide +kernel

/-- no error / log / string-building call under `crypto/` renders a variable that holds a private key with a verb other
    than `%T` (type name only). Name-and-dataflow based go/ast inventory (parameters and declarations of private-key
    types, results of the key-producing calls, their type-switch / assertion bindings); the extractor is trusted. -/
theorem fact_no_key_variable_formatted :
    (∀ site ∈ C03.keyFormatSites, site.2.2.2.1 = "%T") ∧ 10 ≤ C03.keyFormatCallsInspected := by decide

/-- the lookups are by (kid → reference → backend) in every entry point that needs the private key, and nowhere else -/
theorem fact_key_lookups :
    C03.keyLookups = [
      ("Crypto.SignJWT", ["getPrivateKey(kid)"]), ("Crypto.SignJWS", ["getPrivateKey(kid)"]),
      ("Crypto.DecryptJWE", ["getPrivateKey(kid)"]),
      ("Crypto.getPrivateKey", ["findKeyReferenceByKid(kid)", "GetPrivateKey(keyRef.KeyName,keyRef.Version)"]),
      ("Crypto.SignDPoP", ["getPrivateKey(kid)"]),
      ("Crypto.Decrypt", ["findKeyReferenceByKid(kid)", "GetPrivateKey(keyRef.KeyName,keyRef.Version)"]),
      ("Crypto.Delete", ["findKeyReferenceByKid(kid)"]), ("Crypto.Exists", ["findKeyReferenceByKid(kid)"]),
      ("Crypto.Resolve", ["findKeyReferenceByKid(kid)", "GetPrivateKey(keyRef.KeyName,keyRef.Version)"])] := rfl

/-! ## 3. A JWS signed by the node never carries a private key in its `jwk` header -/

/-- **signjws_no_private_jwk.** For EVERY caller supplied header map: if package-level `SignJWS` does not refuse,
    the protected header it signs (a) contains only headers the caller supplied, (b) contains a `jwk` only if that
    key's raw Go type is not assignable to `crypto.Signer`, and (c) then carries no `kid`. -/
theorem signjws_no_private_jwk (h out : Headers) (hok : signJWSHeaders h = .ok out) :
    (∀ n v, hget out n = some v → hget h n = some v) ∧
    (∀ rt id, hget out "jwk" = some (.jwk rt id) → assignableToSigner rt = false ∧ hget out "kid" = none) := by
  revert hok
  fun_cases signJWSHeaders h with
  | case1 | case2 => nofun
  | case3 _ rt id hj _ hns =>
    rintro ⟨⟩
    refine ⟨fun n v hv => alGet_of_alDel (alGet_of_alDel hv), fun rt' id' hv => ?_⟩
    cases hj.symm.trans (alGet_of_alDel (alGet_of_alDel hv))
    exact ⟨by simpa using hns, (alGet_alDel_of_ne _ (by decide)).trans (alGet_alDel_self _ _)⟩
  | case4 _ hnj =>
    rintro ⟨⟩
    exact ⟨fun n v hv => alGet_of_alDel hv, fun rt id hv => absurd (alGet_of_alDel hv) (hnj rt id)⟩

/-- the key store entry points `Crypto.SignJWS` / `MemoryJWTSigner.SignJWS`: same guarantee, the key must exist, and
    when no `jwk` is present the `kid` header is the REQUESTED kid whatever the caller put there -/
theorem store_signjws_headers (found : Bool) (h out : Headers) (kid : String)
    (hok : storeSignJWSHeaders found h kid = .ok out) :
    found = true ∧
    (∀ rt id, hget out "jwk" = some (.jwk rt id) → assignableToSigner rt = false ∧ hget out "kid" = none) ∧
    ((∀ rt id, hget (dedup h) "jwk" ≠ some (.jwk rt id)) → hget out "kid" = some (.str kid)) := by
  unfold storeSignJWSHeaders at hok
  split at hok
  · cases hok
  · rename_i hf
    refine ⟨by simpa using hf, (signjws_no_private_jwk _ out hok).2, ?_⟩
    intro hnj
    unfold signJWSHeaders at hok
    split at hok
    · cases hok
    · split at hok
      · rename_i rt id hj
        exact absurd ((alGet_alPut_of_ne _ _ (by decide)).symm.trans hj) (hnj rt id)
      · cases hok
        exact (alGet_alDel_of_ne _ (by decide)).trans (alGet_alPut_self _ _ _)

/-- every key type the key stores can hold or create (`util.PemToPrivateKey`, `spi.GenerateKeyPair`) is a
    `crypto.Signer`, hence refused as a `jwk` header by SignJWS and classified private by the DPoP parser -/
theorem fact_store_key_types_are_signers :
    C03.pemPrivateKeyTypes ≠ [] ∧
    (∀ t ∈ C03.generateKeyPairType :: C03.pemPrivateKeyTypes, assignableToSigner t = true ∧ dpopJwkIsPrivate t = true) := by
  decide

/-- so: a private key of any type the key store can hold, offered as `jwk` header under ANY other headers, is refused -/
theorem store_key_as_jwk_header_refused (h : Headers) (t id : String)
    (ht : t ∈ C03.generateKeyPairType :: C03.pemPrivateKeyTypes) (hj : hget h "jwk" = some (.jwk t id)) :
    signJWSHeaders h = .error .setHeader ∨ signJWSHeaders h = .error .privateJwk := by
  unfold signJWSHeaders
  split
  · exact Or.inl rfl
  · right
    simp only [hj, (fact_store_key_types_are_signers.2 t ht).1, if_true]

/-- SignJWS in the source still has the modelled order: headers set, `jwk` present?, `kid` removed, Raw() into a
    `crypto.Signer`, refusal when that succeeds — all before `jws.Sign` -/
theorem fact_signjws_sequence :
    C03.signJWSRawTargetType = "crypto.Signer" ∧
    C03.signJWSSeq = ["if err != nil", "headers.Set(key)", "if headers.JWK() != nil", "headers.Remove(jwk.KeyIDKey)",
      "if err == nil", "headers.JWK().Raw(&jwkAsPrivateKey)",
      "return-error \"refusing to sign JWS with private key in JWK header\"",
      "if err != nil", "if detachedPayload", "jws.Sign()", "jws.Sign()", "if err != nil"] := ⟨rfl, rfl⟩

/-- **signjwt_no_private_jwk.** The same guarantee for package-level `SignJWT` (guard added by a `fix:` commit; before it
    a caller-supplied private JWK header went into the token): a `jwk` header in the signed protected header is never
    assignable to crypto.Signer. -/
theorem signjwt_no_private_jwk (h out : Headers) (hok : signJWTHeaders h = .ok out) :
    ∀ rt id, hget out "jwk" = some (.jwk rt id) → assignableToSigner rt = false := by
  have key : ∀ o : Headers, o = alDel h "alg" →
      hget (if (hget o "typ").isNone then hput o "typ" (.str "JWT") else o) "jwk" = hget h "jwk" := by
    rintro o rfl
    split
    · exact (alGet_alPut_of_ne _ _ (by decide)).trans (alGet_alDel_of_ne _ (by decide))
    · exact alGet_alDel_of_ne _ (by decide)
  intro rt id
  revert hok
  fun_cases signJWTHeaders h with
  | case1 | case2 => nofun
  | case3 _ rt' id' hj hns out' =>
    rintro ⟨⟩ hv
    rw [key out' rfl, hj] at hv
    cases hv
    simpa using hns
  | case4 _ out' hnj =>
    rintro ⟨⟩ hv
    rw [key out' rfl] at hv
    exact absurd hv (hnj rt id)

/-- SignJWT in the source has the guard before `jwt.Sign` -/
theorem fact_signjwt_guard :
    C03.signJWTSeq = ["convertHeaders", "hdr.JWK", "jwkHeader.Raw(&jwkAsPrivateKey):crypto.Signer",
      "return-error \"refusing to sign JWT with private key in JWK header\"", "jwt.Sign"] := rfl

/-- **the audit record of a signing request does not depend on the `jwk` header** (nor on any header but `kid`): the
    record is worded from `kid`, `iss`, `sub`; the real records (message AND field names) are compared with this in the
    correspondence for every generated header map, including private JWKs of every key type in a `jwk` header. -/
theorem sign_audit_ignores_jwk_header (jwt : Bool) (iss sub : String) (h : Headers) (v : HVal) :
    signAudit jwt iss sub (hput h "jwk" v) = signAudit jwt iss sub h := by
  unfold signAudit kidText
  rw [show hget (hput h "jwk" v) "kid" = hget h "kid" from alGet_alPut_of_ne _ _ (by decide)]

/-- KNOWN LIMIT of the mechanism (not of the property as stated, which is about keys created or held by the node —
    those are all `crypto.Signer`s): the rule is typed on `crypto.Signer`, so a caller-made X25519 private JWK or a
    symmetric `oct` JWK passes, in SignJWS and SignJWT alike. -/
theorem signjws_rule_is_signer_typed :
    signJWSHeaders [("jwk", .jwk "x25519.PrivateKey" "x")] = .ok [("jwk", .jwk "x25519.PrivateKey" "x")] ∧
    signJWSHeaders [("jwk", .jwk "[]uint8" "oct")] = .ok [("jwk", .jwk "[]uint8" "oct")] ∧
    (signJWTHeaders [("jwk", .jwk "x25519.PrivateKey" "p")]).map (hget · "jwk") = .ok (some (.jwk "x25519.PrivateKey" "p")) ∧
    signJWTHeaders [("jwk", .jwk "*ecdsa.PrivateKey" "p")] = .error .privateJwk := by
  decide +kernel

def view (r : Except JErr Headers) : Except JErr (Option HVal × Option HVal × Option HVal) :=
  r.map fun o => (hget o "kid", hget o "jwk", hget o "typ")

example :
  view (storeSignJWSHeaders true [("kid", .str "forged"), ("typ", .str "x"), ("jwk", .jwk "*ecdsa.PublicKey" "pub")] "did:a#1")
    = .ok (none, some (.jwk "*ecdsa.PublicKey" "pub"), some (.str "x")) ∧
  view (storeSignJWSHeaders true [("kid", .str "forged"), ("typ", .str "x")] "did:a#1")
    = .ok (some (.str "did:a#1"), none, some (.str "x")) ∧
  storeSignJWSHeaders true [("jwk", .jwk "*ecdsa.PrivateKey" "priv")] "did:a#1" = .error .privateJwk ∧
  storeSignJWSHeaders false [] "did:a#1" = .error .keyNotFound := by
  decide +kernel

/-! ## 4. Inventory of the code that can reach private-key typed values (over the EXTRACTED facts) -/

def isTestSupport (f : Fn) : Bool := f.path.getLast? == some "test.go" || f.path.contains "test"

/-- files outside `crypto/` that are allowed to handle a private key, with the reason -/
def allowedOutside : List String :=
  [ "core/server_config.go"        -- the node's TLS certificate/key file (tls.LoadX509KeyPair), not a key store key
  , "http/user/session.go"         -- session-bound user wallet key (crypto.GenerateJWK): kept in the session store in
                                   -- plain text BY DESIGN ("low-assurance"), never a key store key
  , "auth/api/iam/openid4vp.go" ]  -- signs the user's presentation with that session key (MemoryJWTSigner)

/-- the key store engine: the files whose exported functions are the node-internal API to private keys -/
def engineFiles : List String :=
  ["crypto/crypto.go", "crypto/jwx.go", "crypto/dpop.go", "crypto/decryptor.go", "crypto/memory.go", "crypto/ecies.go",
   "crypto/dpop/dpop.go"]

/-- result types that cannot hold a private key: tokens / signatures / cipher- or plaintext, public keys, errors -/
def safeResults : List String :=
  ["string", "[]byte", "error", "bool", "crypto.PublicKey", "map[string]interface{}", "*orm.KeyReference", "jwa.SignatureAlgorithm"]

/-- **api_surface_by_kid** (a statement about the regenerated inventory; the go/ast extractor is trusted).
    (1) every function that obtains, generates, encodes or mentions a private-key typed value lies under `crypto/`,
        is test support, or is one of the three listed exceptions (TLS key file, session-bound user wallet key);
    (2) every EXPORTED function of the key store engine in that set returns only public-key / signature /
        ciphertext-plaintext / error types — except `GenerateJWK` (in-memory session keys, never key store keys);
    (3) the only functions that call the storage SPI's `GetPrivateKey` (or the unexported `getPrivateKey`) outside
        `crypto/storage/` are the engine's own methods and the fs→vault migration command. -/
theorem api_surface_by_kid :
    (∀ f ∈ C03.keyTouching, f.path.head? = some "crypto" ∨ isTestSupport f = true ∨ f.file ∈ allowedOutside) ∧
    (∀ f ∈ C03.keyTouching, f.file ∈ engineFiles → f.exported = true → f.name ≠ "GenerateJWK" →
        ∀ r ∈ f.results, r ∈ safeResults) ∧
    ((C03.keyTouching.filter (fun f => f.kinds.contains "getpriv" && !(f.path.take 2 == ["crypto", "storage"]))).map
        (fun f => (f.file, f.name)) =
      [("crypto/cmd/cmd.go", "exportToOtherStorage"), ("crypto/crypto.go", "Crypto.Resolve"),
       ("crypto/decryptor.go", "Crypto.Decrypt"), ("crypto/dpop.go", "Crypto.SignDPoP"),
       ("crypto/jwx.go", "Crypto.SignJWT"), ("crypto/jwx.go", "Crypto.SignJWS"), ("crypto/jwx.go", "Crypto.DecryptJWE"),
       ("crypto/jwx.go", "Crypto.getPrivateKey")]) := by
  decide +kernel

/-- the functions whose RESULT type is, or can hold, a private key, written out: a new one changes this fact and the
    check reports -/
theorem private_key_typed_results_pinned :
    (C03.keyTouching.filter (fun f => !f.privResults.isEmpty)).map (fun f => (f.file, f.name)) =
      [("crypto/jwx.go", "GenerateJWK"), ("crypto/jwx.go", "Crypto.getPrivateKey"),
       ("crypto/storage/azure/keyvault.go", "Keyvault.GetPrivateKey"), ("crypto/storage/external/client.go", "APIClient.GetPrivateKey"),
       ("crypto/storage/fs/fs.go", "fileSystemBackend.GetPrivateKey"), ("crypto/storage/spi/interface.go", "GenerateKeyPair"),
       ("crypto/storage/spi/mock.go", "MockStorage.GetPrivateKey"), ("crypto/storage/spi/wrapper.go", "wrapper.GetPrivateKey"),
       ("crypto/storage/vault/vault.go", "vaultKVStorage.GetPrivateKey"), ("crypto/test.go", "memoryStorage.GetPrivateKey"),
       ("crypto/test.go", "NewTestKey"), ("crypto/test.go", "TestKey.Signer"), ("crypto/test.go", "TestKey.Private"),
       ("crypto/test/keys.go", "GenerateRSAKey"), ("crypto/test/keys.go", "GenerateECKey"),
       ("crypto/util/pem.go", "PemToPrivateKey"), ("http/user/session.go", "generateUserSessionJWK"),
       ("vdr/test.go", "TestMethodDIDAPrivateKey"), ("vdr/test.go", "TestMethodDIDBPrivateKey")] ∧
    -- the one exported, non-test function of the engine files in this list:
    (C03.keyTouching.filter (fun f => !f.privResults.isEmpty && f.exported && engineFiles.contains f.file)).map (·.name)
      = ["GenerateJWK"] := by
  refine ⟨rfl, ?_⟩
  decide +kernel

/-- the inventory is not empty / degenerate: it covers the whole tree -/
theorem fact_inventory_nontrivial : 400 ≤ C03.inventoryFiles ∧ 4000 ≤ C03.inventoryFuncs ∧ 50 ≤ C03.keyTouching.length := by
  decide

end Nuts.C03.Props
