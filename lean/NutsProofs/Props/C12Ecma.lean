/-
  C12 — the pattern dialect. `filter.pattern` is an ECMA-262 regular expression (vcr/pe/types.go); the model decides the
  anchored-class subset with its own matcher (NutsModel/C12/Ecma.lean). Theorems about anchors and classes of that
  subset, the tie of the spec's `PatternHolds` to it, and the fact that fixes the regexp2 option at every compile site.
-/
import NutsModel.C12.Ecma
import NutsModel.C12.Spec
import NutsModel.Facts.C12

namespace Nuts.C12.Props
open Nuts Nuts.C12

/-- every `regexp2.Compile` in vcr/pe asks for ECMAScript semantics (regenerated: function × options argument) -/
theorem fact_regex_compiled_as_ecmascript :
    Facts.C12.regexCompileSites ≠ [] ∧ ∀ e ∈ Facts.C12.regexCompileSites, e.2 = "regexp2.ECMAScript" := by decide

/-- an accepted input consists ONLY of members of the class, and its length is within the quantifier's bounds -/
theorem ecma_anchored_accepts_iff (a : Anchored) (s : String) :
    a.accepts s = true ↔ (∀ c ∈ s.toList, ∃ it ∈ a.items, it.has c = true) ∧ a.min ≤ s.length ∧
      (∀ m, a.max = some m → s.length ≤ m) := by
  unfold Anchored.accepts Anchored.acceptsChars Anchored.hasChar
  cases hm : a.max <;> simp [List.all_eq_true, List.any_eq_true, String.length, and_assoc]

/-- `$` is the end of the INPUT: an input that ends in a line feed (or any other character outside the class) is not
    accepted — the anchored-class patterns have no "before a final line feed" reading -/
theorem ecma_dollar_is_end_of_input (a : Anchored) (s : String) (c : Char)
    (hc : ∀ it ∈ a.items, it.has c = false) : a.accepts (s ++ String.singleton c) = false := by
  cases h : a.accepts (s ++ String.singleton c) with
  | false => rfl
  | true =>
    obtain ⟨hall, _, _⟩ := (ecma_anchored_accepts_iff a _).1 h
    obtain ⟨it, hit, hhas⟩ := hall c (by simp)
    rw [hc it hit] at hhas; cases hhas

/-- `\d` and `\w` are the ASCII classes: no code point above 127 is a member -/
theorem ecma_classes_are_ascii (c : Char) (h : 127 < c.toNat) : ClsItem.digit.has c = false ∧ ClsItem.word.has c = false := by
  simp only [ClsItem.has, asciiDigit, asciiLetter]
  refine ⟨?_, ?_⟩
  · cases h1 : decide (48 ≤ c.toNat) <;> cases h2 : decide (c.toNat ≤ 57) <;> simp_all <;> omega
  · have a1 : ¬ c.toNat ≤ 57 := by omega
    have a2 : ¬ c.toNat ≤ 90 := by omega
    have a3 : ¬ c.toNat ≤ 122 := by omega
    have a4 : ¬ c.toNat = 95 := by omega
    simp [a1, a2, a3, a4]

/-- a range class of plain characters has no member outside its bounds -/
theorem ecma_range_bounds (lo hi c : Char) (h : (ClsItem.range lo hi).has c = true) : lo.toNat ≤ c.toNat ∧ c.toNat ≤ hi.toNat := by
  simpa [ClsItem.has] using h

/-- TIE to the specification: for a pattern of the subset, the spec's `PatternHolds` under the contract the model runs
    with (`ecmaFirst re`, any table `re`) is exactly acceptance by the own matcher — the regexp library has no say -/
theorem pattern_holds_iff_ecma (re : Regex) (p : String) (a : Anchored) (hp : parseAnchored p = some a) (s : String) :
    PatternHolds (ecmaFirst re) (some p) s ↔ a.accepts s = true := by
  unfold PatternHolds ecmaFirst
  simp only [hp]
  cases h : a.accepts s <;> simp

/-- …and the value reported for a named field is then the input itself (no capture group in the subset) -/
theorem ecma_whole_match_is_input (re : Regex) (p : String) (a : Anchored) (hp : parseAnchored p = some a) (s m : String)
    (h : ecmaFirst re p s = .whole m ∨ ecmaFirst re p s = .cap m) : m = s ∧ a.accepts s = true := by
  unfold ecmaFirst at h
  simp only [hp] at h
  cases ha : a.accepts s <;> simp [ha] at h
  exact ⟨h.symm, rfl⟩

/-! non-vacuity and the concrete near-matches of other dialects -/
example : (parseAnchored "^[a-z]+$").isSome = true := by decide
example : (parseAnchored "^\\d{4}$") = some { items := [.digit], min := 4, max := some 4 } := by decide
example : (parseAnchored "^[A-Za-z0-9]{2,}$").isSome = true := by decide +kernel
example : parseAnchored "^(.*)Credential$" = none := by decide
example : ecmaFirst (fun _ _ => .runErr) "^[a-z]+$" "admin" = .whole "admin" := by decide
example : ecmaFirst (fun _ _ => .whole "x") "^[a-z]+$" "admin\n" = .noMatch := by decide
example : ecmaFirst (fun _ _ => .whole "x") "^\\d{4}$" "١٢٣٤" = .noMatch := by decide
example : ecmaFirst (fun _ _ => .whole "x") "^\\w+$" "Ünit" = .noMatch := by decide
example : ecmaFirst (fun _ _ => .cap "y") "^(.)" "abc" = .cap "y" := by decide

end Nuts.C12.Props
