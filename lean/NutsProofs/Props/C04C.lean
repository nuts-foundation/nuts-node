/-
  C04 — configuration text -> auth policy -> no bypass.
  Model: NutsModel/C04/Config.lean (core config loading, http/cmd flags, http.Config), composed with the guard layer.
-/
import NutsModel.C04.Config
import NutsModel.Facts.C04
import NutsProofs.Props.C04

namespace Nuts.C04.Props
open Nuts.C04

/-- file, then environment, then command line — the order `effective` resolves backwards -/
theorem fact_config_load_order : Facts.C04.configLoadOrder = ["loadFromFile", "loadFromEnv", "loadFromFlagSet"] := rfl

theorem fact_env_constants :
    Facts.C04.core_defaultEnvPrefix = "NUTS_" ∧ Facts.C04.core_defaultEnvDelimiter = "_" ∧ Facts.C04.core_defaultDelimiter = "."
    ∧ Facts.C04.core_configValueListSeparator = "," :=
  ⟨rfl, rfl, rfl, rfl⟩

theorem fact_env_key_and_flag_load :
    Facts.C04.envKeyExpr = "strings.Replace(strings.ToLower(strings.TrimPrefix(rawKey, defaultEnvPrefix)), defaultEnvDelimiter, defaultDelimiter, -1)"
    ∧ Facts.C04.flagLoadStmt = "return configMap.Load(posflag.Provider(flags, defaultDelimiter, configMap), nil)"
    ∧ Facts.C04.splitWithEscapingBody =
      "{ s = strings.ReplaceAll(s, escape+separator, \"\\x00\") tokens := strings.Split(s, separator) for i, token := range tokens { tokens[i] = strings.ReplaceAll(token, \"\\x00\", separator) } return tokens }"
    ∧ Facts.C04.injectBody = "{ return unmarshalRecursive([]string{strings.ToLower(e.Name())}, e.Config(), ngc.configMap) }"
    ∧ Facts.C04.httpModuleName = "HTTP" :=
  ⟨rfl, rfl, rfl, rfl, rfl⟩

/-- every koanf-tagged leaf of http.Config has a flag `http.<tag path>` and every flag of http/cmd names such a leaf:
    no configuration key of the auth settings can be set in one place and read in another -/
theorem fact_http_flags_match_config_tags :
    (Facts.C04.httpFlags.map (·.1)).all (fun f => Facts.C04.httpConfigTags.any (fun t => "http." ++ t.1 = f)) = true
    ∧ (Facts.C04.httpConfigTags.map (·.1)).all (fun t => Facts.C04.httpFlags.any (fun f => f.1 = "http." ++ t)) = true := by
  decide +kernel

/-- the keys the model reads are the tag paths of the fields it stands for, and the auth type defaults to "" (no auth)
    with no default keys file and no default audience -/
theorem fact_auth_config_keys :
    (Facts.C04.httpConfigTags.filter (fun t => ["Log", "Public.Address", "Internal.Address", "Internal.Auth.Type",
        "Internal.Auth.AuthorizedKeysPath", "Internal.Auth.Audience"].contains t.2))
      = [("log", "Log"), ("public.address", "Public.Address"), ("internal.address", "Internal.Address"), ("internal.auth.type", "Internal.Auth.Type"),
         ("internal.auth.authorizedkeyspath", "Internal.Auth.AuthorizedKeysPath"), ("internal.auth.audience", "Internal.Auth.Audience")]
    ∧ Facts.C04.httpFlags.filter (fun f => ["http.internal.auth.type", "http.internal.auth.audience", "http.internal.auth.authorizedkeyspath"].contains f.1)
      = [("http.internal.auth.type", "String", ""), ("http.internal.auth.audience", "String", ""), ("http.internal.auth.authorizedkeyspath", "String", "")] := by
  decide +kernel

def nutsPrefix : Str := "NUTS_".toList
def authTypeKey : Str := httpKey "internal.auth.type"

/-- **command_line_wins**: a flag given on the command line decides the value, whatever the environment, the file and the defaults say -/
theorem command_line_wins (src : Sources) (key v : Str) (h : src.flags.find? (fun f => f.1 = key) = some (key, v)) :
    effective nutsPrefix src key = some (.str v) := by
  simp [effective, h]

theorem environment_beats_file (src : Sources) (key : Str) (e : Str × Str)
    (hf : src.flags.find? (fun f => f.1 = key) = none)
    (he : src.env.find? (fun e => hasPrefix nutsPrefix e.1 && envKey nutsPrefix e.1 = key) = some e) :
    effective nutsPrefix src key = some (envValue e.2) := by
  simp [effective, hf, he]

/-- a key no source mentions and no flag registers decodes to the zero value -/
theorem unmentioned_key_is_empty (src : Sources) (key : Str)
    (hf : src.flags.find? (fun f => f.1 = key) = none)
    (he : src.env.find? (fun e => hasPrefix nutsPrefix e.1 && envKey nutsPrefix e.1 = key) = none)
    (hfile : src.file.find? (fun f => f.1 = key) = none) (hd : src.defaults.find? (fun d => d.1 = key) = none) :
    decodeStr (effective nutsPrefix src key) = .ok [] := by
  simp [effective, hf, he, hfile, hd, decodeStr]

example : envKey nutsPrefix "NUTS_HTTP_INTERNAL_AUTH_TYPE".toList = authTypeKey := by
  -- The kernel evaluates `toList` of a string literal by decoding its UTF-8 bytes position by position, at a cost
  -- quadratic in the length; `String.toList_ofList` reads the characters off the literal instead.
  unfold authTypeKey httpKey nutsPrefix
  repeat rewrite [String.toList_append]
  repeat rewrite [String.toList_ofList]
  decide
example : envKey nutsPrefix "NUTS_http_Internal_AUTH_type".toList = authTypeKey := by
  unfold authTypeKey httpKey nutsPrefix
  repeat rewrite [String.toList_append]
  repeat rewrite [String.toList_ofList]
  decide
example : hasPrefix nutsPrefix "nuts_HTTP_INTERNAL_AUTH_TYPE".toList = false := by
  unfold nutsPrefix
  repeat rewrite [String.toList_ofList]
  decide
example : envValue "token_v2".toList = .str "token_v2".toList := by decide +kernel
example : envValue " token_v2 ".toList = .str "token_v2".toList := by
  repeat rewrite [String.toList_ofList]
  decide
example : envValue "token_v2,x".toList = .list ["token_v2".toList, "x".toList] := by
  repeat rewrite [String.toList_ofList]
  decide
example : envValue "token_v2\\,x".toList = .str "token_v2,x".toList := by
  repeat rewrite [String.toList_ofList]
  decide

/-- **policy_no_auth_only_if_type_is_empty**: for ALL sources, `Configure` leaves the internal interface without
    authentication only when the value that wins the precedence for `http.internal.auth.type` is the empty string (or no
    source names it). Any other value — a misspelling, a legacy name, a list — is token auth or an error, never "no auth". -/
theorem policy_no_auth_only_if_type_is_empty (src : Sources) (ok : Bool)
    (h : policyOf nutsPrefix src ok = .noAuth) :
    effective nutsPrefix src authTypeKey = some (.str []) ∨ effective nutsPrefix src authTypeKey = none := by
  unfold policyOf at h
  cases hc : loadHttpConfig nutsPrefix src with
  | error _ => rw [hc] at h; cases h
  | ok c =>
    rw [hc] at h
    have hs : c.authType = [] := by simpa using congrArg String.toList ((configure_auth_sound _ ok).1 h)
    unfold loadHttpConfig at hc
    split at hc
    · next h1 _ _ _ _ _ =>
      cases hc
      -- decodeStr gave `ok []`: the effective value is `str []` or absent
      simp only at hs
      subst hs
      change decodeStr (effective nutsPrefix src authTypeKey) = .ok [] at h1
      cases he : effective nutsPrefix src authTypeKey with
      | none => exact Or.inr rfl
      | some v =>
        rw [he] at h1
        cases v with
        | list l => cases h1
        | str s => cases h1; exact Or.inl rfl
    · cases hc

/-- **token_auth_on_the_command_line_is_enforced**: `--http.internal.auth.type=token_v2` gives token auth or a start-up
    error for ALL environments and files — no other source can switch the guard off -/
theorem token_auth_on_the_command_line_is_enforced (src : Sources) (ok : Bool)
    (h : src.flags.find? (fun f => f.1 = authTypeKey) = some (authTypeKey, "token_v2".toList)) :
    policyOf nutsPrefix src ok = .tokenV2 ∨ policyOf nutsPrefix src ok = .error := by
  cases hp : policyOf nutsPrefix src ok with
  | tokenV2 => exact Or.inl rfl
  | error => exact Or.inr rfl
  | noAuth =>
    have := policy_no_auth_only_if_type_is_empty src ok hp
    rw [command_line_wins src authTypeKey _ h] at this
    rcases this with h1 | h1
    · exact absurd (by simp at h1) (by decide : ¬ ("token_v2".toList = ([] : Str)))
    · simp at h1

/-- whether the guard is on for a start-up outcome (an error: the node does not start) -/
def guardOnOf : AuthSetup → Option Bool
  | .tokenV2 => some true
  | .noAuth => some false
  | .error => none

/-- **config_text_to_no_bypass** (configuration text -> policy -> wire bytes -> handler): whenever the sources resolve to
    token auth, every request (any target, method, route table, authority verdicts) that runs a handler under /internal
    carried an accepted token, and the handler saw its user -/
theorem config_text_to_no_bypass (src : Sources) (ok : Bool) (hpol : policyOf nutsPrefix src ok = .tokenV2)
    (authOK : Str → Bool) (rs : List Route) (tok : Decision) (method : String) (target : Str) (i : Nat) (on : Bool)
    (hon : guardOnOf (policyOf nutsPrefix src ok) = some on)
    (hran : (serveConn authOK Facts.C04.authSelector Facts.C04.authPath on rs tok method target).ran = some i)
    (hint : ∀ r ∈ rs, r.id = i → underInternal r) :
    ∃ u, tok = .granted u ∧ (serveConn authOK Facts.C04.authSelector Facts.C04.authPath on rs tok method target).user = some u := by
  rw [hpol] at hon
  have : on = true := by simpa [guardOnOf] using hon.symm
  subst this
  exact no_bypass authOK rs tok method target i hran hint

/-- **config_text_to_listener_separation** (configuration text -> bind table -> listeners): for ALL sources whose winning
    values for `http.internal.address` and `http.public.address` are two distinct non-empty strings, `Configure` builds a
    bind table under which every registration under /internal, /status, /health, /metrics (any letter case) goes to the
    internal listener and nothing the public listener serves comes from such a registration -/
theorem config_text_to_listener_separation (src : Sources) (c : HttpCfg) (_hload : loadHttpConfig nutsPrefix src = .ok c)
    (hi : c.intAddr ≠ []) (hp : c.pubAddr ≠ []) (hne : c.pubAddr ≠ c.intAddr) (regs : List Registered) :
    ∃ binds, configureBinds Facts.C04.internalBinds (String.ofList c.pubAddr) (String.ofList c.intAddr) = some binds ∧
      (∀ g ∈ regs, getBindFromPath g.path ∈ Facts.C04.internalBinds → addrOf binds g.path = some (String.ofList c.intAddr)) ∧
      (∀ route ∈ routesAt binds regs (String.ofList c.pubAddr), ∃ g ∈ regs, g.route = route ∧ getBindFromPath g.path ∉ Facts.C04.internalBinds) := by
  have ne_of : ∀ l : Str, l ≠ [] → String.ofList l ≠ "" := by
    intro l hl h
    have := congrArg String.toList h
    exact hl (by simpa using this)
  have hne' : String.ofList c.pubAddr ≠ String.ofList c.intAddr := by
    intro h
    have := congrArg String.toList h
    exact hne (by simpa using this)
  have hb := configured_binds (String.ofList c.pubAddr) (String.ofList c.intAddr) (ne_of _ hp) (ne_of _ hi)
  exact ⟨_, hb, internal_never_public _ _ (ne_of _ hp) (ne_of _ hi) hne' _ hb regs⟩

/-- the addresses the theorem is about are the winning values of the two address keys (defaults 127.0.0.1:8081 / :8080 differ) -/
example : (loadHttpConfig nutsPrefix { file := [], env := [], flags := [], defaults := [(httpKey "internal.address", "127.0.0.1:8081".toList), (httpKey "public.address", ":8080".toList)] }).toOption.map
    (fun c => (c.intAddr, c.pubAddr)) = some ("127.0.0.1:8081".toList, ":8080".toList) := by
  unfold httpKey nutsPrefix
  repeat rewrite [String.toList_append]
  repeat rewrite [String.toList_ofList]
  decide +kernel

/-- non-vacuity: a file says no auth, the environment says token_v2 -> token auth; the command line says "" -> no auth -/
def exSrc (flags : List (Str × Str)) : Sources :=
  { file := [(authTypeKey, .str [])], env := [("NUTS_HTTP_INTERNAL_AUTH_TYPE".toList, "token_v2".toList)], flags := flags,
    defaults := [(authTypeKey, [])] }
example : policyOf nutsPrefix (exSrc []) true = .tokenV2 := by
  unfold exSrc authTypeKey httpKey nutsPrefix
  repeat rewrite [String.toList_append]
  repeat rewrite [String.toList_ofList]
  decide +kernel
example : policyOf nutsPrefix (exSrc [(authTypeKey, [])]) true = .noAuth := by
  unfold exSrc authTypeKey httpKey nutsPrefix
  repeat rewrite [String.toList_append]
  repeat rewrite [String.toList_ofList]
  decide +kernel
example : policyOf nutsPrefix (exSrc [(authTypeKey, "token".toList)]) true = .error := by
  unfold exSrc authTypeKey httpKey nutsPrefix
  repeat rewrite [String.toList_append]
  repeat rewrite [String.toList_ofList]
  decide +kernel
example : policyOf nutsPrefix { exSrc [] with env := [("NUTS_HTTP_INTERNAL_AUTH_TYPE".toList, "token_v2,".toList)] } true = .error := by
  unfold exSrc authTypeKey httpKey nutsPrefix
  repeat rewrite [String.toList_append]
  repeat rewrite [String.toList_ofList]
  decide +kernel

end Nuts.C04.Props
