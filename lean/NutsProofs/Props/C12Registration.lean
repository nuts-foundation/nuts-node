/-
  C12 — discovery registration (NutsModel/C12/Registration.lean): an accepted registration presents no surplus
  credential — every presented credential is (same id, same raw form) one that `Match` selected, and what `Match`
  selects satisfies an input descriptor of the service's definition (`match_sound`).
-/
import NutsModel.C12.Registration
import NutsProofs.Props.C12

namespace Nuts.C12.Props
open Nuts Nuts.C12

/-- SURPLUS / DECOY credentials are refused at registration: when `validateRegistration` accepts, every presented
    credential has an id and is — same id, same raw form — a credential `u` selected by `Match` on the presented
    credentials, and `u` stands (vcEqual) for a presented credential `v` that SATISFIES an input descriptor `d` of the
    definition (constraints, definition format, descriptor format). -/
theorem registration_rejects_surplus (re : Regex) (idOf : Cred → Option String) (pd : PD) (presented : List Cred)
    (h : validateRegistrationPE Facts.C12.cfg re idOf pd presented = .ok ()) :
    ∀ c ∈ presented, ∃ u d v id, idOf c = some id ∧ idOf u = some id ∧ u.raw = c.raw ∧
      d ∈ pd.descs ∧ v ∈ presented ∧ Satisfies re pd d v ∧ v.key = u.key := by
  intro c hc
  revert h
  fun_cases validateRegistrationPE Facts.C12.cfg re idOf pd presented with
  | case4 _ ms creds hm hall =>
    intro _
    obtain ⟨u, hu, hpair⟩ := List.any_eq_true.1 (List.all_eq_true.1 hall c hc)
    obtain ⟨hal, _⟩ := match_sound re pd presented ms creds hm
    obtain ⟨j, m, _, d, v, hd, hv, hs, hk, _⟩ := alignedBy_mem ms creds 0 hal u hu
    cases hiu : idOf u with
    | none => simp [hiu] at hpair
    | some a =>
      cases hic : idOf c with
      | none => simp [hiu, hic] at hpair
      | some b =>
        simp [hiu, hic] at hpair
        exact ⟨u, d, v, b, rfl, by rw [hiu, hpair.1], hpair.2, hd, hv, hs, hk⟩
  | _ => exact fun h => nomatch h

/-- the PE part of `validateRegistration` never panics (`Match` does not) -/
theorem registration_total (re : Regex) (idOf : Cred → Option String) (pd : PD) (presented : List Cred) (site : String) :
    validateRegistrationPE Facts.C12.cfg re idOf pd presented ≠ .panic site := by
  fun_cases validateRegistrationPE Facts.C12.cfg re idOf pd presented with
  | case3 _ s hm => exact absurd hm (pe_total_match re pd presented s)
  | _ => exact fun h => nomatch h

/-- the source of `validateRegistration`'s PE part and of `containsCredential` (regenerated) -/
theorem fact_registration_source :
    Facts.C12.validateRegistrationShape.take 1 = ["for _, cred := range presentation.VerifiableCredential { if cred.ID == nil { return errCredentialWithoutID } }"] ∧ Facts.C12.validateRegistrationShape.drop 3 = ["creds, _, err := definition.PresentationDefinition.Match(presentation.VerifiableCredential)", "if err != nil { return fmt.Errorf(\"...\", err) }", "for _, presented := range presentation.VerifiableCredential { if !containsCredential(creds, presented) { return errPresentationDoesNotFulfillDefinition } }", "return nil"] ∧ Facts.C12.containsCredentialShape = ["for _, curr := range list { if curr.ID != nil && credential.ID != nil && curr.ID.String() == credential.ID.String() && curr.Raw() == credential.Raw() { return true } }", "return false"] := ⟨rfl, rfl, rfl⟩

/-! non-vacuity -/
def regId : Cred → Option String := fun c => match objGet (match c.tree with | .obj fs => fs | _ => []) "id" with | some (.str s) => some s | _ => none
def regCred : Cred := { demoCred with tree := .obj [("id", .str "urn:1"), ("type", .arr [.str "VerifiableCredential", .str "AlphaCredential"])] }
def regDecoy : Cred := { demoDecoy with tree := .obj [("id", .str "urn:2"), ("type", .str "Other")] }
example : validateRegistrationPE Cfg.fixed reDemo regId demoPD [regCred] = .ok () := by decide +kernel
example : (validateRegistrationPE Cfg.fixed reDemo regId demoPD [regCred, regDecoy]).cls = "err:not-fulfilled" := by decide +kernel
example : (validateRegistrationPE Cfg.fixed reDemo regId demoPD [regDecoy]).cls = "err:match" := by decide +kernel
example : (validateRegistrationPE Cfg.fixed reDemo regId demoPD [demoCred]).cls = "err:no-id" := by decide

/-! ### the client side: discovery/client.go findCredentialsAndBuildPresentation + the DID loop of `activate` -/

/-- the wallet the client matches: its stored credentials, then the self-attested registration credential (if any) -/
def clientCredentials (wallet : List Cred) (regCred : Option Cred) : List Cred :=
  match regCred with | some c => wallet ++ [c] | none => wallet

/-- what a node REGISTERS is sound: every credential put into the registration presentation stands (vcEqual) for a
    credential of the node's own wallet (or the registration credential) that SATISFIES an input descriptor of the
    service's definition — for all definitions and wallets; never a decoy -/
theorem client_registration_sound (re : Regex) (pd : PD) (wallet : List Cred) (regCred : Option Cred) (vcs : List Cred)
    (h : clientRegistrationCreds Facts.C12.cfg re pd wallet regCred = .ok vcs) :
    ∀ u ∈ vcs, ∃ d v, d ∈ pd.descs ∧ v ∈ clientCredentials wallet regCred ∧ Satisfies re pd d v ∧ v.key = u.key := by
  intro u hu
  unfold clientRegistrationCreds at h
  simp only at h
  split at h
  · cases h
  · cases h
  · next ms matching hm =>
    injection h with h; subst h
    obtain ⟨hal, _⟩ := match_sound re pd _ ms matching hm
    obtain ⟨j, m, _, d, v, hd, hv, hs, hk, _⟩ := alignedBy_mem ms matching 0 hal u hu
    exact ⟨d, v, hd, hv, hs, hk⟩

/-- the PE part of the client's registration never panics (`Match` does not) -/
theorem client_registration_total (re : Regex) (pd : PD) (wallet : List Cred) (regCred : Option Cred) (site : String) :
    clientRegistrationCreds Facts.C12.cfg re pd wallet regCred ≠ .panic site := by
  unfold clientRegistrationCreds
  simp only
  split
  · intro h; cases h
  · next s hm => exact absurd hm (pe_total_match re pd _ s)
  · intro h; cases h

/-- client → server, end to end: when the server's `validateRegistration` accepts what a client built, every credential
    of that registration has an id and satisfies (as a credential of the PRESENTATION) an input descriptor — and it also
    came from the client's wallet satisfying a descriptor there (both halves, composed) -/
theorem client_registration_accepted_end_to_end (re : Regex) (idOf : Cred → Option String) (pd : PD) (wallet : List Cred)
    (regCred : Option Cred) (vcs : List Cred)
    (hc : clientRegistrationCreds Facts.C12.cfg re pd wallet regCred = .ok vcs)
    (hs : validateRegistrationPE Facts.C12.cfg re idOf pd vcs = .ok ()) :
    ∀ c ∈ vcs, (∃ d v, d ∈ pd.descs ∧ v ∈ clientCredentials wallet regCred ∧ Satisfies re pd d v ∧ v.key = c.key) ∧
      (∃ u d v id, idOf c = some id ∧ idOf u = some id ∧ u.raw = c.raw ∧ d ∈ pd.descs ∧ v ∈ vcs ∧ Satisfies re pd d v ∧ v.key = u.key) :=
  fun c hcm => ⟨client_registration_sound re pd wallet regCred vcs hc c hcm, registration_rejects_surplus re idOf pd vcs hs c hcm⟩

theorem activateLoop_eq : ∀ (results : List RegResult),
    activateLoop results = (results.count .registered, results.count .failed)
  | [] => rfl
  | r :: rest => by
    unfold activateLoop
    rw [activateLoop_eq rest]
    cases r <;> simp

theorem activateVerdict_eq (results : List RegResult) :
    activateVerdict results =
      if results = [] then "err:no-dids"
      else if RegResult.registered ∈ results then "ok"
      else if RegResult.failed ∈ results then "err:failed" else "err:failed:nocred" := by
  unfold activateVerdict
  rw [activateLoop_eq]
  cases results with
  | nil => rfl
  | cons r rest =>
    rw [if_neg (by simp), if_neg (List.cons_ne_nil r rest)]
    dsimp only
    by_cases hreg : RegResult.registered ∈ r :: rest
    · rw [if_pos hreg, if_neg (by simpa using Nat.ne_of_gt (List.count_pos_iff.2 hreg))]
    · rw [if_neg hreg, List.count_eq_zero.2 hreg, if_pos (by rfl)]
      by_cases hf : RegResult.failed ∈ r :: rest
      · rw [if_pos hf, if_neg (by simpa using Nat.ne_of_gt (List.count_pos_iff.2 hf))]
      · rw [if_neg hf, List.count_eq_zero.2 hf]; rfl

/-- `activate` succeeds exactly when at least one of the subject's DIDs was registered — for ALL outcome sequences -/
theorem activate_ok_iff_some_did_registered (results : List RegResult) :
    activateVerdict results = "ok" ↔ RegResult.registered ∈ results := by
  rw [activateVerdict_eq]
  by_cases h0 : results = []
  · subst h0; simp
  · by_cases hreg : RegResult.registered ∈ results
    · simp [h0, hreg]
    · rw [if_neg h0, if_neg hreg]; split <;> simp [hreg]

/-- "missing credentials" is reported for the subject only when EVERY DID merely lacked credentials (no other error is
    swallowed into it, and no registered DID is forgotten) -/
theorem activate_nocred_iff_all_dids_lack_credentials (results : List RegResult) :
    activateVerdict results = "err:failed:nocred" ↔ results ≠ [] ∧ ∀ r ∈ results, r = RegResult.noCredentials := by
  rw [activateVerdict_eq]
  by_cases h0 : results = []
  · subst h0; simp
  · rw [if_neg h0]
    by_cases hreg : RegResult.registered ∈ results
    · rw [if_pos hreg]; exact ⟨fun h => absurd h (by simp), fun h => nomatch h.2 _ hreg⟩
    · by_cases hf : RegResult.failed ∈ results
      · rw [if_neg hreg, if_pos hf]; exact ⟨fun h => absurd h (by simp), fun h => nomatch h.2 _ hf⟩
      · rw [if_neg hreg, if_neg hf]
        refine ⟨fun _ => ⟨h0, fun r hr => ?_⟩, fun _ => rfl⟩
        cases r with
        | registered => exact absurd hr hreg
        | noCredentials => rfl
        | failed => exact absurd hr hf

/-- the source of the client's PE part and of `activate`'s DID loop (regenerated): Match's second result is discarded,
    exactly `matchingCredentials` reaches `buildPresentation`; only `pe.ErrNoCredentials` is ignored in the loop and the
    subject fails iff no DID registered -/
theorem fact_client_registration_source :
    Facts.C12.clientRegistrationShape.drop 4 = ["matchingCredentials, _, err := service.PresentationDefinition.Match(credentials)", "const errStr = \"...\"", "if err != nil { return nil, fmt.Errorf(errStr, service.ID, subjectDID, err) }", "return r.buildPresentation(ctx, subjectDID, service, matchingCredentials, nil, nil)"] ∧
    (Facts.C12.clientRegistrationShape.drop 3).take 1 = ["if len(parameters) > 0 { registrationCredential = vc.VerifiableCredential{ Context: []ssi.URI{vc.VCContextV1URI(), credential.NutsV1ContextURI}, Type: []ssi.URI{vc.VerifiableCredentialTypeV1URI(), credential.DiscoveryRegistrationCredentialTypeV1URI()}, CredentialSubject: []interface{}{parameters}, } credentials = append(credentials, credential.AutoCorrectSelfAttestedCredential(registrationCredential, subjectDID)) }"] ∧
    (Facts.C12.clientActivateShape.drop 8).take 4 = ["var registeredDIDs []string", "var loopErrs []error", "for _, subjectDID := range subjectDIDs { err := r.registerPresentation(ctx, subjectDID, service, parameters) if err != nil { if !errors.Is(err, pe.ErrNoCredentials) { loopErrs = append(loopErrs, fmt.Errorf(\"...\", subjectDID.String(), err)) } else { log.Logger().Tracef(\"...\", service.ID, subjectID, subjectDID, err.Error()) } } else { registeredDIDs = append(registeredDIDs, subjectDID.String()) } }", "if len(registeredDIDs) == 0 { if len(registeredDIDs) != len(subjectDIDs) && len(loopErrs) == 0 { loopErrs = append(loopErrs, fmt.Errorf(\"...\", serviceID, subjectID, pe.ErrNoCredentials)) } return fmt.Errorf(\"...\", ErrPresentationRegistrationFailed, errors.Join(loopErrs...)) }"] ∧
    (Facts.C12.clientActivateShape.drop 6).take 1 = ["if len(subjectDIDs) == 0 { return fmt.Errorf(\"...\", ErrPresentationRegistrationFailed, ErrNoSupportedDIDMethods, subjectID) }"] := ⟨rfl, rfl, rfl, rfl⟩

example : clientRegistrationCreds Cfg.fixed reDemo demoPD [regDecoy, regCred] none = .ok [regCred] := by rfl
example : (clientRegistrationCreds Cfg.fixed reDemo demoPD [regDecoy] none).cls = "err:nocred" := by decide +kernel
example : activateVerdict [.noCredentials, .registered, .failed] = "ok" := by decide
example : activateVerdict [.noCredentials, .noCredentials] = "err:failed:nocred" := by decide
example : activateVerdict [.noCredentials, .failed] = "err:failed" := by decide
example : activateVerdict [] = "err:no-dids" := by decide

/-- without submission requirements a registration is never partial: the client presents as many credentials as the
    service's definition has input descriptors (one for each, in order, by `match_sound`) -/
theorem client_registration_never_partial (re : Regex) (pd : PD) (wallet : List Cred) (regCred : Option Cred) (vcs : List Cred)
    (hsr : pd.srs = []) (h : clientRegistrationCreds Facts.C12.cfg re pd wallet regCred = .ok vcs) :
    vcs.length = pd.descs.length := by
  unfold clientRegistrationCreds at h
  simp only at h
  split at h
  · cases h
  · cases h
  · next ms matching hm =>
    injection h with h; subst h
    obtain ⟨hal, hids⟩ := match_sound re pd _ ms matching hm
    have h1 := alignedBy_length hal
    have h2 := congrArg List.length (hids hsr)
    simp at h2
    omega

/-- the client reports missing credentials (instead of registering a partial presentation) only when some input
    descriptor has NO satisfying credential in its wallet, or the evaluation itself failed (basic definitions;
    `hs` as in `match_complete_or_error`) -/
theorem client_registration_reports_missing (re : Regex) (pd : PD) (wallet : List Cred) (regCred : Option Cred)
    (hs : ∀ c ∈ clientCredentials wallet regCred, ∀ p v, getValueAtPath p c.tree = some v → EnumErrorsHideNothing Facts.C12.cfg re v)
    (hsr : pd.srs = []) (e : String) (h : clientRegistrationCreds Facts.C12.cfg re pd wallet regCred = .err e) :
    (∃ d ∈ pd.descs, ∀ c ∈ clientCredentials wallet regCred, ¬ Satisfies re pd d c) ∨
      ∃ e', matchConstraints Facts.C12.cfg re pd (clientCredentials wallet regCred) pd.descs = .err e' := by
  unfold clientRegistrationCreds at h
  simp only at h
  split at h
  · next e0 hm =>
    exact match_complete_or_error re pd _ hs hsr e0 hm
  · cases h
  · cases h

example : (clientRegistrationCreds Cfg.fixed reDemo demoPD [regDecoy, regCred] none).cls = "ok" ∧ demoPD.srs = [] := by decide +kernel

end Nuts.C12.Props
