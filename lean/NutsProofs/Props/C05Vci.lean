/-
  C05, OpenID4VCI request level (NutsModel/C05/Vci.lean): vcr/issuer HandleAccessTokenRequest and the openid_store.go
  functions behind it, as sequences of issuing calls and token requests, with the source text and tables that layer mirrors.
-/
import NutsModel.C05.Vci
import NutsModel.C05.Today
import NutsModel.Facts.C05
import NutsProofs.Lemmas.C05Vci
import NutsProofs.Lemmas.C05Solo
import NutsProofs.Props.C05Forms

namespace Nuts.C05.Props
open Nuts.C05

/-! ### Obligations on the regenerated facts -/

/-- the statements of the six functions Vci.lean mirrors are the ones it was written against (normalised source text) -/
theorem fact_vci_sources :
    Facts.C05.src_vci_HandleAccessTokenRequest =
      ["{", "flow, err := i.store.FindAndDeleteReference(ctx, preAuthCodeRefType, preAuthorizedCode)", "if err != nil {", "return \"\", \"\", err", "}", "if flow == nil {", "return \"\", \"\", openid4vci.Error{", "Err: errors.New(\"unknown pre-authorized code\"),", "Code: openid4vci.InvalidGrant,", "StatusCode: http.StatusBadRequest,", "}", "}", "if flow.IssuerID != i.issuerDID.String() {", "return \"\", \"\", openid4vci.Error{", "Err: errors.New(\"pre-authorized code not issued by this issuer\"),", "Code: openid4vci.InvalidGrant,", "StatusCode: http.StatusBadRequest,", "}", "}", "accessToken := crypto.GenerateNonce()", "err = i.store.StoreReference(ctx, flow.ID, accessTokenRefType, accessToken)", "if err != nil {", "return \"\", \"\", err", "}", "cNonce := crypto.GenerateNonce()", "err = i.store.StoreReference(ctx, flow.ID, cNonceRefType, cNonce)", "if err != nil {", "return \"\", \"\", err", "}", "return accessToken, cNonce, nil", "}"] ∧
    Facts.C05.src_vci_Store =
      ["{", "if len(flow.ID) == 0 {", "return errors.New(\"invalid flow ID\")", "}", "store := o.sessionDatabase.GetStore(TokenTTL, \"openid4vci\", \"flow\")", "if store.Exists(flow.ID) {", "return errors.New(\"OAuth2 flow with this ID already exists\")", "}", "return store.Put(flow.ID, flow)", "}"] ∧
    Facts.C05.src_vci_StoreReference =
      ["{", "if len(reference) == 0 {", "return errors.New(\"invalid reference\")", "}", "refStore := o.sessionDatabase.GetStore(TokenTTL, \"openid4vci\", refType)", "flowStore := o.sessionDatabase.GetStore(TokenTTL, \"openid4vci\", \"flow\")", "if !flowStore.Exists(flowID) {", "return errors.New(\"OAuth2 flow with this ID does not exist\")", "}", "if refStore.Exists(reference) {", "return errors.New(\"reference already exists\")", "}", "return refStore.Put(reference, flowID)", "}"] ∧
    Facts.C05.src_vci_FindByReference =
      ["{", "refStore := o.sessionDatabase.GetStore(TokenTTL, \"openid4vci\", refType)", "flowStore := o.sessionDatabase.GetStore(TokenTTL, \"openid4vci\", \"flow\")", "if !refStore.Exists(reference) {", "return nil, nil", "}", "var flowID string", "err := refStore.Get(reference, &flowID)", "if err != nil {", "return nil, err", "}", "var flow Flow", "err = flowStore.Get(flowID, &flow)", "return &flow, err", "}"] ∧
    Facts.C05.src_vci_FindAndDeleteReference =
      ["{", "refStore := o.sessionDatabase.GetStore(TokenTTL, \"openid4vci\", refType)", "flowStore := o.sessionDatabase.GetStore(TokenTTL, \"openid4vci\", \"flow\")", "var flowID string", "err := refStore.GetAndDelete(reference, &flowID)", "if errors.Is(err, storage.ErrNotFound) {", "return nil, nil", "}", "if err != nil {", "return nil, err", "}", "var flow Flow", "err = flowStore.Get(flowID, &flow)", "return &flow, err", "}"] ∧
    Facts.C05.src_vci_DeleteReference =
      ["{", "refStore := o.sessionDatabase.GetStore(TokenTTL, \"openid4vci\", refType)", "return refStore.Delete(reference)", "}"] := by
  refine ⟨rfl, rfl, rfl, rfl, rfl, rfl⟩

/-- the tables Vci.lean CONSUMES by position (handler errors, store error messages), every GetStore call of openid_store.go
    uses the one TTL and the one prefix, the reference types, and the constants the answers resolve to -/
theorem fact_vci_tables :
    Facts.C05.errs_vciHandleAccessTokenRequest =
      [("InvalidGrant", "unknown pre-authorized code"), ("InvalidGrant", "pre-authorized code not issued by this issuer")] ∧
    Facts.C05.vciStoreErrs_Store =
      ["invalid flow ID", "OAuth2 flow with this ID already exists"] ∧
    Facts.C05.vciStoreErrs_StoreReference =
      ["invalid reference", "OAuth2 flow with this ID does not exist", "reference already exists"] ∧
    Facts.C05.vciGetStoreArgs =
      ["Store:TokenTTL,\"openid4vci\",\"flow\"", "StoreReference:TokenTTL,\"openid4vci\",refType", "StoreReference:TokenTTL,\"openid4vci\",\"flow\"", "FindByReference:TokenTTL,\"openid4vci\",refType", "FindByReference:TokenTTL,\"openid4vci\",\"flow\"", "FindAndDeleteReference:TokenTTL,\"openid4vci\",refType", "FindAndDeleteReference:TokenTTL,\"openid4vci\",\"flow\"", "DeleteReference:TokenTTL,\"openid4vci\",refType"] ∧
    Facts.C05.vciRefTypeConsts =
      [("accessTokenRefType", "accesstoken"), ("cNonceRefType", "c_nonce"), ("preAuthCodeRefType", "preauthcode")] ∧
    alGet Facts.C05.vciErrorCodes "InvalidGrant" = some "invalid_grant" ∧
    Facts.C05.vciTokenTTL = 900 ∧ todayTTL (.burn .preAuth) = Facts.C05.vciTokenTTL ∧
    Facts.C05.vciTokenCalls = ["store.FindAndDeleteReference", "store.StoreReference", "store.StoreReference"] ∧
    Facts.C05.vciFindAndDeleteCalls = ["refStore.GetAndDelete", "flowStore.Get"] := by
  refine ⟨rfl, rfl, rfl, rfl, rfl, ?_, rfl, rfl, rfl, rfl⟩
  decide

/-! ### Property theorems: sequences of calls at the real issuer's level (all codes, issuers, generated nonces, all histories,
    any amount of time between calls, both back-end expiry conventions) -/

/-- **A pre-authorized code is dead after ANY token request that named it** — honoured, sent to the wrong issuer, naming a
    flow that has expired (the store's "not found"), failing while the tokens are stored: no later token request naming it
    is honoured, at either issuer, whatever issuing calls and token requests are served in between (short of issuing the
    very same code string again — codes are 256-bit random) and however much time passes. -/
theorem preauth_code_dead_after_any_attempt (incl : Bool) (ttl : Kind → Nat) (now : Nat) (s : VciSt)
    (issuer code tok cn : String) (later : List (Nat × VForm)) (hn : noReissue code later) (dt : Nat) (issuer2 tok2 cn2 : String) :
    (handlePreAuth ⟨incl, (runVForms incl ttl now (handlePreAuth ⟨incl, now, ttl⟩ s issuer code tok cn).st later).2.2 + dt, ttl⟩
        (runVForms incl ttl now (handlePreAuth ⟨incl, now, ttl⟩ s issuer code tok cn).st later).2.1 issuer2 code tok2 cn2).ans ≠ .ok := by
  have h1 := handlePreAuth_kills ⟨incl, now, ttl⟩ s issuer code tok cn
  have h2 := (runVForms_dead incl ttl code later now _ hn h1).2
  exact handlePreAuth_not_ok_of_dead ⟨incl, _, ttl⟩ _ issuer2 code tok2 cn2 (stGet_none_later incl _ _ dt _ h2)

/-- non-vacuity: a request at the wrong issuer kills a live code; the request at the right issuer that follows is refused -/
example :
    let s : VciSt := ⟨[(preAuthKey "c1", ⟨"f1", 900⟩)], [("f1", ⟨"own", 900⟩)], [], []⟩
    (handlePreAuth ⟨true, 0, todayTTL⟩ s "own" "c1" "t" "n").ans = .ok ∧
    (handlePreAuth ⟨true, 0, todayTTL⟩ s "other" "c1" "t" "n").ans = .err "invalid_grant" "pre-authorized code not issued by this issuer" ∧
    (handlePreAuth ⟨true, 1, todayTTL⟩ (handlePreAuth ⟨true, 0, todayTTL⟩ s "other" "c1" "t" "n").st "own" "c1" "t2" "n2").ans
      = .err "invalid_grant" "unknown pre-authorized code" ∧
    noReissue "c1" [(3, VForm.flow "f2" "own"), (0, VForm.ref "f2" "c2")] := by
  decide +kernel

/-- **At most one token request per pre-authorized code is honoured in ANY history**: from every state of the four stores,
    for every sequence of issuing calls (`Store`, `StoreReference` of other codes) and token requests at any issuers with
    any waiting times, the number of honoured token requests naming `code` is at most one. -/
theorem preauth_honoured_at_most_once_in_any_history (incl : Bool) (ttl : Kind → Nat) (code : String)
    (fs : List (Nat × VForm)) (now : Nat) (s : VciSt) (hn : noReissue code fs) :
    honoured code fs (runVForms incl ttl now s fs).1 ≤ 1 := by
  fun_induction runVForms incl ttl now s fs with
  | case1 => exact Nat.zero_le 1
  | case2 now s dt f rest r x ih =>
    have hrest : noReissue code rest := fun y hy => hn y (List.mem_cons_of_mem _ hy)
    simp only [x, honoured]
    by_cases ht : isTokenFor code f = true
    · -- this request names the code: afterwards the code is dead, nothing later is honoured
      cases f with
      | token issuer c2 tok cn =>
        obtain rfl : c2 = code := by simpa [isTokenFor] using ht
        rw [(runVForms_dead incl ttl c2 rest (now + dt) r.st hrest (handlePreAuth_kills ⟨incl, now + dt, ttl⟩ s issuer c2 tok cn)).1]
        exact ite_bool_le_one _
      | _ => cases ht
    · simpa [ht] using ih hrest

/-- non-vacuity (and tightness): issue a flow and a code, redeem it three times: exactly one request is honoured -/
example :
    let fs : List (Nat × VForm) := [(0, .token "own" "c1" "t1" "n1"), (1, .token "own" "c1" "t2" "n2"), (1, .token "own" "c1" "t3" "n3")]
    let s : VciSt := ⟨[(preAuthKey "c1", ⟨"f1", 900⟩)], [("f1", ⟨"own", 900⟩)], [], []⟩
    noReissue "c1" fs ∧ honoured "c1" fs (runVForms true todayTTL 0 s fs).1 = 1 := by
  decide

/-- **Honoured only if issued for the issuer asked**: an honoured token request found the code readable, the code referred
    to a readable flow whose issuer is the issuer asked, and THAT flow is the one the answer names as the flow the access
    token and c_nonce were issued for (`VRes.flow`). -/
theorem preauth_honoured_only_if_live_and_own (c : Sq) (s : VciSt) (issuer code tok cn : String)
    (h : (handlePreAuth c s issuer code tok cn).ans = .ok) :
    ∃ fid, stGet c.incl s.codes c.now (preAuthKey code) = some fid ∧ smGet c.incl s.flows c.now fid = some issuer ∧
      (handlePreAuth c s issuer code tok cn).flow = fid := by
  revert h
  fun_cases handlePreAuth c s issuer code tok cn with
  | case1 => exact fun h => absurd h (vciErrAt_ne_ok 0)
  | case2 => exact fun h => nomatch h
  | case3 => exact fun h => absurd h (vciErrAt_ne_ok 1)
  | case4 fid _ hg _ iss hf hi =>
    -- the one honouring return: the code was read (`hg`), its flow is readable (`hf`) and belongs to the issuer asked (`hi`)
    have hs : stGet c.incl s.codes c.now (preAuthKey code) = some fid := by
      unfold gadSeq at hg; split at hg <;> cases hg; assumption
    exact fun _ => ⟨fid, hs, Decidable.of_not_not hi ▸ hf, rfl⟩
  | case5 _ _ _ _ _ _ _ _ _ e _ he | case6 _ _ _ _ _ _ _ e _ he => exact fun h => absurd h he

/-- **A dead code issues nothing**: a token request naming a code that is not readable (never issued, used, expired) is
    refused and stores no access token and no c_nonce, and leaves the flow store as it was (the token endpoint never writes
    it, whatever it answers: `handlePreAuth_flows`). -/
theorem preauth_dead_code_issues_nothing (c : Sq) (s : VciSt) (issuer code tok cn : String)
    (hd : stGet c.incl s.codes c.now (preAuthKey code) = none) :
    (handlePreAuth c s issuer code tok cn).ans ≠ .ok ∧
    (handlePreAuth c s issuer code tok cn).st.access = s.access ∧ (handlePreAuth c s issuer code tok cn).st.cnonce = s.cnonce ∧
    (handlePreAuth c s issuer code tok cn).st.flows = s.flows :=
  have h := handlePreAuth_dead c s issuer code tok cn hd
  ⟨handlePreAuth_not_ok_of_dead c s issuer code tok cn hd, congrArg (·.st.access) h, congrArg (·.st.cnonce) h, congrArg (·.st.flows) h⟩

example : stGet true ([] : Store) 0 (preAuthKey "c9") = none := by decide

/-- the consumed code whose flow has expired: the code is gone, the answer is the store's error, nothing is issued -/
example :
    let s : VciSt := ⟨[(preAuthKey "c1", ⟨"f1", 1400⟩)], [("f1", ⟨"own", 900⟩)], [], []⟩
    let r := handlePreAuth ⟨false, 1000, todayTTL⟩ s "own" "c1" "t" "n"
    r.ans = errNotFound ∧ r.st.codes = [] ∧ r.st.access = [] := by
  decide

/-! ### the landing page as a thread of the schedule model -/

/-- **Refinement**: `handleUserLanding` up to the user session (non-empty token), mirrored statement by statement, answers and
    leaves the store exactly as the thread `landingReq token` of the abstract layer does when it runs alone (lock, Get,
    Delete, unlock) under today's configuration on any back-end — for every token, store and instant. -/
theorem handleLanding_refines_thread (strict incl : Bool) (ttl : Kind → Nat) (now : Nat) (st : Store) (t : String) (ht : t ≠ "") :
    ((run (today strict incl) soloSched { store := st, now := now, lock := none, ths := [.burn (landingReq t) .start 0] }).ths[0]?.bind Thread.outcome)
        = landingOutcome (handleLanding ⟨incl, now, ttl⟩ st t).1 ∧
    (run (today strict incl) soloSched { store := st, now := now, lock := none, ths := [.burn (landingReq t) .start 0] }).store
        = (handleLanding ⟨incl, now, ttl⟩ st t).2 := by
  have h1 := solo_burn_run (today strict incl) (today_gad_locked strict incl) (landingReq t) rfl rfl rfl st now
  have h2 : landingOutcome (handleLanding ⟨incl, now, ttl⟩ st t).1 = some (soloBurn (today strict incl) st now (landingReq t)).1 ∧
      (handleLanding ⟨incl, now, ttl⟩ st t).2 = (soloBurn (today strict incl) st now (landingReq t)).2 :=
    handleLanding_eq_solo (today strict incl) ttl now st t ht
  exact ⟨by rw [h1.1, h2.1], by rw [h1.2.1, h2.2]⟩

example : handleLanding ⟨true, 0, todayTTL⟩ [(redirectKey "t1", ⟨"s", 5⟩)] "t1" = (.ok, []) ∧
    landingOutcome (handleLanding ⟨true, 9, todayTTL⟩ [(redirectKey "t1", ⟨"s", 5⟩)] "t1").1 = some .notFound := by
  decide

/-- **End to end** (landing page, all interleavings): any number of landing requests with any tokens, interleaved in EVERY
    way at the granularity of single store calls, clock ticks anywhere, any back-end: at most one is honoured per token.
    This is `at_most_one_success_atomic` with today's facts, for the threads `landingReq` gives; what ties each thread to
    its handler is `handleLanding_refines_thread`. -/
theorem landing_page_at_most_once_all_schedules (strict incl : Bool) (st : Store) (tokens : List String)
    (sched : List Ev) (t : String) :
    successes (run (today strict incl) sched (init st (tokens.map (fun x => Req.burn (landingReq x))))) (redirectKey t) ≤ 1 :=
  at_most_one_success_atomic (today strict incl) (Or.inr (Or.inl (today_gad_locked strict incl))) st _ sched (redirectKey t) .redirect rfl

end Nuts.C05.Props
