/-
  C04 — Internal API auth cannot be bypassed; internal routes stay off the public port.
  Model: NutsModel/C04/HttpGuard.lean (net/url + echo router contracts, engine.go guard, echo.go bind table),
         NutsModel/C04/Token.lean (tokenV2 decision function).
  Facts: NutsModel/Facts/C04.lean is REGENERATED from /repo on every run.
-/
import NutsModel.C04.Token
import NutsModel.Facts.C04
import NutsProofs.Lemmas.C04
import NutsProofs.Lemmas.C04Token

namespace Nuts.C04.Props
open Nuts.C04

/-- the auth skipper hands `c.Request().URL.Path` to `matchesPath` (not `RequestURI`, which carries the scheme,
    authority and query of the request target) -/
theorem fact_auth_selector_is_url_path : Facts.C04.authSelector = .urlPath := rfl

/-- the skipper skips exactly when the path does NOT match, and the guarded path is `/internal` -/
theorem fact_auth_skipper_negated : Facts.C04.authSkipperNegated = true := rfl
theorem fact_auth_path : Facts.C04.authPath = internalPath := String.toList_ofList

/-- the middleware is installed with `Use` on every echo instance (the model runs it on every listener) -/
theorem fact_auth_installed_with_use : Facts.C04.authInstalledWith = "echoServer.Use" := rfl

/-- `Configure` binds `/` to the public address and exactly these four first segments to the internal address -/
theorem fact_internal_binds :
    Facts.C04.internalBinds = ["/internal".toList, "/status".toList, "/health".toList, "/metrics".toList] ∧
    Facts.C04.internalBindsAddressExpr = "h.config.Internal.Address" ∧
    Facts.C04.rootBindAddressExpr = "h.config.Public.Address" ∧
    Facts.C04.rootPath = ['/'] ∧ Facts.C04.bindLowercasesFirstSegment = true :=
  ⟨rfl, rfl, rfl, String.toList_ofList, rfl⟩

/-- the constants and lists of tokenV2/middleware.go the decision model is instantiated with (the signature-count
    rule is C17's concern: C04 only needs "at least one", which both rules give) -/
theorem fact_policy :
    Facts.C04.policy.maxCredLen = 4096 ∧
    Facts.C04.policy.acceptableAlgs = ["ES256", "ES384", "ES512", "RS512", "PS512", "EdDSA"] ∧
    Facts.C04.policy.forbiddenHdrs = ["jwk", "jku", "x5c", "x5u"] ∧
    Facts.C04.policy.mandatory = ["jti", "iat", "exp", "nbf", "aud", "iss", "sub"] ∧
    Facts.C04.policy.maxLifetimeMin = 1470 ∧
    Facts.C04.policy.expMustBePositive = true :=
  ⟨rfl, rfl, rfl, rfl, rfl, rfl⟩

/-- the checks `bestPracticesCheck` performs, verbatim (the model's `bestPractices` mirrors exactly these) -/
theorem fact_best_practices_conditions :
    Facts.C04.bestPracticesConditions =
      ["!ok", "err != nil", "token.Expiration().After(maxExpirationAfterNotBefore)",
       "token.Expiration().After(maxExpirationAfterIssuedAt)", "token.IssuedAt().After(token.NotBefore())",
       "token.Expiration().Unix() <= 0", "token.Subject() == \"\""] := rfl

/-- no acceptable algorithm is `none` or a MAC -/
theorem fact_acceptable_algs_asymmetric :
    ∀ a ∈ Facts.C04.policy.acceptableAlgs, a ∉ ["none", "", "HS256", "HS384", "HS512"] := by decide

/-- engine.go matchesPath, verbatim: append `/` where missing, then equality or prefix — no query, scheme or authority is
    cut off its input first (the auth skipper hands it the DECODED URL path, in which `?` and `://` are ordinary bytes of a
    segment); the model's `matchesPath` is exactly this -/
theorem fact_matches_path_is_a_plain_prefix_test :
    Facts.C04.matchesPathBody =
      "{ if path == \"/\" { return true } if !strings.HasSuffix(requestURI, \"/\") { requestURI += \"/\" } if !strings.HasSuffix(path, \"/\") { path += \"/\" } return requestURI == path || strings.HasPrefix(requestURI, path) }" := rfl

/-- the echo instance alone, on any request the parser can produce: a handler under `/internal` runs only with an accepted token -/
theorem no_bypass_echo (rs : List Route) (tok : Decision) (method : String) (r : Req) (hwf : ReqWF r) (i : Nat)
    (hran : (serveEcho .urlPath internalPath true rs tok method r).ran = some i)
    (hint : ∀ r ∈ rs, r.id = i → underInternal r) :
    ∃ u, tok = .granted u ∧ (serveEcho .urlPath internalPath true rs tok method r).user = some u := by
  revert hran
  fun_cases serveEcho .urlPath internalPath true rs tok method r with
  | case1 _ _ u => exact fun hran => ⟨u, rfl, (runRouted_ran hran).choose_spec.2.2⟩
  | case2 => nofun
  | case3 _ _ hg =>
    -- not guarded: the routed handler would be one under `/internal`, which the guard covers
    intro hran
    obtain ⟨r0, hf, hid, _⟩ := runRouted_ran hran
    obtain ⟨hmem, hmatch, _⟩ := findRoute_handler hf
    exact absurd (routed_guarded hwf (hint r0 hmem hid) hmatch) hg

/-- **no_bypass** (full strength on the model): with token auth on, for every parser verdict on authorities, every
    route table, every method and every request target (any byte string: origin-, absolute-, authority-form, `*`,
    escapes, duplicate slashes, dot segments, case variants, queries), if a handler ran and every route carrying its id
    is registered under `/internal`, then the token decision was `granted u` and the handler saw exactly that user. -/
theorem no_bypass (authOK : Str → Bool) (rs : List Route) (tok : Decision) (method : String) (target : Str) (i : Nat)
    (hran : (serveConn authOK Facts.C04.authSelector Facts.C04.authPath true rs tok method target).ran = some i)
    (hint : ∀ r ∈ rs, r.id = i → underInternal r) :
    ∃ u, tok = .granted u ∧
      (serveConn authOK Facts.C04.authSelector Facts.C04.authPath true rs tok method target).user = some u := by
  rw [fact_auth_selector_is_url_path, fact_auth_path] at hran ⊢
  revert hran
  fun_cases serveConn authOK .urlPath internalPath true rs tok method target with
  | case3 r hp => exact fun hran => no_bypass_echo rs tok method r (parseTarget_wf hp) i hran hint
  | _ => nofun

/-- non-vacuity: with a granted token the internal canary does run, and it sees the user -/
example :
    (serveConn (fun _ => true) .urlPath internalPath true
      [{ id := 0, method := "GET", pat := patOf "/internal/x".toList }] (.granted "alice") "GET" "/internal/x".toList)
    = { status := 200, ran := some 0, user := some "alice" } := by
  -- The kernel evaluates `toList` of a string literal by decoding its UTF-8 bytes position by position, at a cost
  -- quadratic in the length; `String.toList_ofList` reads the characters off the literal instead.
  repeat rewrite [String.toList_ofList]
  decide +kernel

/-- the selector the source used before the repair (`RequestURI`) does NOT have the property: an absolute-form
    request line reaches the internal canary with a denied token. (Witness replayed over raw TCP by the harness;
    kept in harness/corpus/C04.) -/
theorem requestURI_selector_admits_bypass :
    (serveConn (fun _ => true) .requestURI internalPath true
      [{ id := 0, method := "GET", pat := patOf "/internal/secret".toList }] .denied "GET" "http://x/internal/secret".toList)
    = { status := 200, ran := some 0, user := none } := by
  repeat rewrite [String.toList_ofList]
  decide +kernel

/-- … and so does a query string on a route registered exactly at the guarded path -/
theorem requestURI_selector_admits_query_bypass :
    (serveConn (fun _ => true) .requestURI internalPath true
      [{ id := 3, method := "GET", pat := patOf "/internal".toList }] .denied "GET" "/internal?a=b".toList)
    = { status := 200, ran := some 3, user := none } := by
  repeat rewrite [String.toList_ofList]
  decide

/-- whatever the request, a denied token never lets ANY handler run once the guard is engaged -/
theorem denied_guarded_runs_nothing (sel : Selector) (authPath : Str) (rs : List Route) (method : String) (r : Req)
    (hg : guardEngaged sel authPath r = true) :
    serveEcho sel authPath true rs .denied method r = { status := 401, ran := none, user := none } := by
  simp [serveEcho, hg]

/-- every request the router would hand to a route under `/internal` is, with a denied token, answered 401 and no
    handler runs (the response is exactly the 401 record: nothing ran, no user) -/
theorem denied_is_401_no_effect (authOK : Str → Bool) (rs : List Route) (method : String) (target : Str) (r : Req) (r0 : Route)
    (hp : parseTarget authOK method target = some r)
    (hopt : ¬ (method = "OPTIONS" ∧ target = ['*']))
    (hf : findRoute rs method (routerPath r) = .handler r0) (hu : underInternal r0) :
    serveConn authOK Facts.C04.authSelector Facts.C04.authPath true rs .denied method target
      = { status := 401, ran := none, user := none } := by
  rw [fact_auth_selector_is_url_path, fact_auth_path]
  have hg := routed_guarded (parseTarget_wf hp) hu (findRoute_handler hf).2.1
  have : (method = "OPTIONS" && decide (target = ['*'])) = false := by simpa using hopt
  simp [serveConn, hp, this, denied_guarded_runs_nothing _ _ _ _ _ hg]

example : serveConn (fun _ => true) .urlPath internalPath true
      [{ id := 0, method := "GET", pat := patOf "/internal/x".toList }] .denied "GET" "http://evil.example/internal/x?a=b".toList
    = { status := 401, ran := none, user := none } := by
  repeat rewrite [String.toList_ofList]
  decide

/-- **granted_sound**: a granted decision means: a Bearer credential of at most 4096 bytes that parses as a JWS with
    at least one signature, every signature's algorithm on the allow-list and none carrying jwk/jku/x5c/x5u; some
    authorised key verified it and that key's comment is the granted user and the `iss` claim; `aud` contains the
    configured audience; subject non-empty; `jti` a UUID; and `iat ≤ nbf ≤ now < exp ≤ iat + 1470 min` (so the token
    is usable for at most 24.5 h after it was issued). -/
theorem granted_sound (aud : String) (keys : List AuthKey) (now : Int) (hnow : 0 ≤ now) (hdr : Str) (a : Analysis) (u : String)
    (h : tokenDecision Facts.C04.policy aud keys now hdr a = .granted u) :
    authenticationCredential hdr ≠ [] ∧ (authenticationCredential hdr).length ≤ 4096 ∧
    a.parses = true ∧ 1 ≤ a.sigs.length ∧
    (∀ s ∈ a.sigs, s.alg ∈ ["ES256", "ES384", "ES512", "RS512", "PS512", "EdDSA"] ∧
        ∀ x ∈ ["jwk", "jku", "x5c", "x5u"], x ∉ s.hdrs) ∧
    (∃ k, (k, true) ∈ keys.zip a.verifies ∧ k.comment = u) ∧
    a.claims.iss = some u ∧
    (∃ l, a.claims.aud = some l ∧ aud ∈ l) ∧
    (∃ s, a.claims.sub = some s ∧ s ≠ "") ∧
    a.claims.jti = some true ∧
    (∃ i n e, a.claims.iat = some i ∧ a.claims.nbf = some n ∧ a.claims.exp = some e ∧
        i ≤ n ∧ n ≤ now ∧ now < e ∧ e ≤ n + 88200 ∧ e ≤ i + 88200) := by
  obtain ⟨hcred, hsec, k, hk, hval, hbp, hiss, hcom⟩ := tokenDecision_granted h
  obtain ⟨hlen, hparse, hsigs, hcount⟩ := credentialIsSecure_true.mp hsec
  obtain ⟨_, _, _, _, fLife, fExp⟩ := fact_policy
  refine ⟨hcred, hlen, hparse, sigCountOK_pos hcount, fun s hs => sigSecure_true.mp (hsigs s hs), ⟨k, hk, hcom⟩, hiss,
    ?_, ?_, ?_, ?_⟩
  · simp only [validate, Bool.and_eq_true] at hval
    have haud := hval.2
    cases hA : a.claims.aud with
    | none => simp [hA] at haud
    | some l => exact ⟨l, rfl, by simpa [hA] using haud⟩
  · simp only [bestPractices, Bool.and_eq_true] at hbp
    have hs := hbp.2
    cases hS : a.claims.sub with
    | none => simp [hS] at hs
    | some s => exact ⟨s, rfl, by simpa [hS] using hs⟩
  · simp only [bestPractices, Bool.and_eq_true, decide_eq_true_eq] at hbp
    exact hbp.1.1.2
  · simp only [bestPractices, Bool.and_eq_true, fLife, fExp] at hbp
    have ht := hbp.1.2
    simp only [validate, Bool.and_eq_true] at hval
    obtain ⟨⟨⟨_, hexp⟩, hnbf⟩, _⟩ := hval
    cases hE : a.claims.exp with
    | none => simp [hE] at ht
    | some e =>
      cases hN : a.claims.nbf with
      | none => simp [hE, hN] at ht
      | some n =>
        cases hI : a.claims.iat with
        | none => simp [hE, hN, hI] at ht
        | some i =>
          simp only [hE, hN, hI, Bool.and_eq_true, Bool.not_eq_true', decide_eq_false_iff_not, Bool.not_true,
            Bool.false_or, decide_eq_true_eq] at ht
          obtain ⟨⟨⟨h1, h2⟩, h3⟩, h4⟩ := ht
          have he0 : e ≠ 0 := by omega
          have hnowe : now < e := by
            simp [hE, timeSet, he0] at hexp
            exact hexp
          have hnn : n ≤ now := by
            by_cases hn0 : n = 0
            · omega
            · simp [hN, timeSet, hn0] at hnbf
              omega
          exact ⟨i, n, e, rfl, rfl, rfl, by omega, hnn, hnowe, by omega, by omega⟩

/-- non-vacuity: a concrete well-formed token is granted -/
example :
    tokenDecision Facts.C04.policy "aud" [{ comment := "mallory" }, { comment := "alice" }] 1000
      ("Bearer abc.def.ghi".toList)
      { parses := true, sigs := [{ alg := "EdDSA", hdrs := [] }], verifies := [false, true],
        claims := { jti := some true, iat := some 900, nbf := some 900, exp := some 2000, aud := some ["x", "aud"],
                    iss := some "alice", sub := some "operator" } }
    = .granted "alice" := by
  repeat rewrite [String.toList_ofList]
  decide +kernel

/-- the pre-repair rules do NOT have the property: two signatures / an `exp` of 0 were granted
    (witnesses replayed on the real middleware; kept in harness/corpus) -/
theorem atLeastOne_rule_admits_two_signatures :
    tokenDecision { Facts.C04.policy with sigRule := .atLeastOne } "aud" [{ comment := "alice" }] 1000 ("Bearer x".toList)
      { parses := true, sigs := [{ alg := "EdDSA", hdrs := [] }, { alg := "ES256", hdrs := [] }], verifies := [true],
        claims := { jti := some true, iat := some 900, nbf := some 900, exp := some 2000, aud := some ["aud"],
                    iss := some "alice", sub := some "operator" } }
    = .granted "alice" := by
  repeat rewrite [String.toList_ofList]
  decide +kernel

theorem without_exp_check_zero_exp_never_expires :
    ∀ now : Int, 900 ≤ now →
    tokenDecision { Facts.C04.policy with expMustBePositive := false } "aud" [{ comment := "alice" }] now ("Bearer x".toList)
      { parses := true, sigs := [{ alg := "EdDSA", hdrs := [] }], verifies := [true],
        claims := { jti := some true, iat := some 900, nbf := some 900, exp := some 0, aud := some ["aud"],
                    iss := some "alice", sub := some "operator" } }
    = .granted "alice" := by
  intro now hnow
  have h1 : ¬ now < 900 := by omega
  simp [tokenDecision, authenticationCredential, fields, fieldsAux, spaceLen, isSpace, toLowerC, credentialIsSecure, sigSecure,
    sigCountOK, keyLoop, validate, timeSet, bestPractices, claimPresent, Facts.C04.policy, h1]

/-- every literal route registration in the repository (non-test code): the first segments, verbatim; none of them is a
    case variant of an internal bind (`getBindFromPath` lower-cases, the guard and the router do not: such a route would be
    bound to the internal listener but NOT guarded) -/
theorem fact_registered_first_segments :
    Facts.C04.registeredFirstSegments =
      ["/.well-known".toList, "/discovery".toList, "/iam".toList, "/internal".toList, "/metrics".toList, "/n2n".toList,
       "/oauth2".toList, "/public".toList, "/statuslist".toList] ∧
    (∀ s ∈ Facts.C04.registeredFirstSegments, s.map toLowerC ∈ Facts.C04.internalBinds → s ∈ Facts.C04.internalBinds) := by
  refine ⟨rfl, ?_⟩
  unfold Facts.C04.registeredFirstSegments Facts.C04.internalBinds
  repeat rewrite [String.toList_ofList]
  decide +kernel

/-- the same over EVERY route registration found by go/ast, the path argument evaluated as a
    constant expression (literals, `+`, package constants such as core/status `statusEndpoint`, the `baseURL` of generated
    wrappers): all paths evaluate, the literal scan above is contained in it, and no first segment is a case variant of an
    internal bind -/
theorem fact_route_first_segments_ast :
    Facts.C04.routeFirstSegments =
      ["/".toList, "/.well-known".toList, "/discovery".toList, "/health".toList, "/iam".toList, "/internal".toList, "/metrics".toList,
       "/n2n".toList, "/oauth2".toList, "/public".toList, "/status".toList, "/statuslist".toList] ∧
    Facts.C04.routePathsNotEvaluated = [] ∧ 0 < Facts.C04.routeRegistrationsSeen ∧
    (∀ s ∈ Facts.C04.registeredFirstSegments, s ∈ Facts.C04.routeFirstSegments) ∧
    (∀ s ∈ Facts.C04.routeFirstSegments, s.map toLowerC ∈ Facts.C04.internalBinds → s ∈ Facts.C04.internalBinds) := by
  refine ⟨rfl, rfl, by decide, ?_, ?_⟩
  · unfold Facts.C04.registeredFirstSegments Facts.C04.routeFirstSegments
    repeat rewrite [String.toList_ofList]
    decide +kernel
  · unfold Facts.C04.routeFirstSegments Facts.C04.internalBinds
    repeat rewrite [String.toList_ofList]
    decide +kernel

/-- the default configuration uses two different listener addresses (so `internal_never_public` applies to it) -/
theorem fact_default_addresses_differ :
    Facts.C04.defaultInternalAddress = "127.0.0.1:8081" ∧ Facts.C04.defaultPublicAddress = ":8080" ∧
    Facts.C04.defaultInternalAddress ≠ Facts.C04.defaultPublicAddress :=
  ⟨rfl, rfl, by decide⟩

/-- applyAuthMiddleware knows exactly the auth types "" and token_v2; anything else is an error, never "no auth" -/
theorem fact_auth_types :
    Facts.C04.authTypeCases = ["\"\"", "BearerTokenAuthV2"] ∧ Facts.C04.authTypeDefaultIsError = true :=
  ⟨rfl, rfl⟩

theorem configure_auth_sound (typ : String) (ok : Bool) :
    (configureAuth typ ok = .noAuth → typ = "") ∧ (configureAuth typ ok = .tokenV2 → typ = "token_v2" ∧ ok = true) := by
  unfold configureAuth
  by_cases h1 : typ = ""
  · simp [h1]
  · by_cases h2 : typ = "token_v2"
    · cases ok <;> simp [h2]
    · simp [h1, h2]

/-- authorized_keys.go: minimum RSA size, the key types keyIsSecure accepts, and parseAuthorizedKeys' tests, verbatim -/
theorem fact_authorized_keys :
    Facts.C04.minimumRSAKeySize = 2048 ∧
    Facts.C04.keyIsSecureTypes = ["*rsa.PublicKey", "*ecdsa.PublicKey", "ed25519.PublicKey"] ∧
    Facts.C04.parseAuthorizedKeysConds =
      ["len(lineParts) == 0", "line == \"\"", "err != nil", "secure, err := keyIsSecure(publicKey); !secure || err != nil",
       "comment == \"\"", "rest != nil", "err != nil"] :=
  ⟨rfl, rfl, rfl⟩

/-- **authorized_keys_sound**: every authorised key comes from a line whose text before the first `#` (blanks trimmed) is
    non-empty, parses as an RSA key of at least 2048 bits or an ECDSA / Ed25519 key, and has a non-empty comment — which
    is the key's user name -/
theorem authorized_keys_sound (ls : List KeyLine) (ks : List AuthKey) (k : AuthKey)
    (hs : authorizedKeysOf Facts.C04.minimumRSAKeySize ls = some ks) (h : k ∈ ks) :
    ∃ l ∈ ls, preprocess l.raw ≠ [] ∧ k.comment ≠ "" ∧ ∃ kind, l.verdict = .key kind k.comment ∧
      (kind = .ecdsa ∨ kind = .ed25519 ∨ ∃ bits, kind = .rsa bits ∧ 2048 ≤ bits) := by
  rw [fact_authorized_keys.1] at hs
  fun_induction authorizedKeysOf 2048 ls generalizing ks with
  | case1 => cases hs; cases h
  | case3 => cases hs
  -- a key of the rest of the file is a key of the whole file
  | case2 l _ _ ih => exact (ih ks hs h).imp fun _ => And.imp_left (List.mem_cons_of_mem l)
  | case4 l _ _ _ _ _ _ ih => exact (ih ks hs h).imp fun _ => And.imp_left (List.mem_cons_of_mem l)
  | case5 l _ _ _ _ _ ih => exact (ih ks hs h).imp fun _ => And.imp_left (List.mem_cons_of_mem l)
  | case6 l rest hpre kind comment hv hsec hc ih =>
    obtain ⟨ks', hr, rfl⟩ := Option.map_eq_some_iff.mp hs
    rcases List.mem_cons.mp h with rfl | h
    · refine ⟨l, List.mem_cons_self, hpre, hc, kind, hv, ?_⟩
      cases kind with
      | ecdsa => exact Or.inl rfl
      | ed25519 => exact Or.inr (Or.inl rfl)
      | other => simp [keyIsSecure] at hsec
      | rsa bits => simp [keyIsSecure] at hsec; exact Or.inr (Or.inr ⟨bits, rfl, hsec⟩)
    · exact (ih ks' hr h).imp fun _ => And.imp_left (List.mem_cons_of_mem l)

theorem beforeHash_append_hash (a x : Str) : beforeHash (a ++ '#' :: x) = beforeHash a := by
  induction a with
  | nil => simp [beforeHash]
  | cons c r ih =>
    simp only [List.cons_append, beforeHash]
    split
    · rfl
    · rw [ih]

theorem trimBlankL_all_blank (ws : Str) (h : ∀ c ∈ ws, isBlankC c = true) : trimBlankL ws = [] := by
  induction ws with
  | nil => rfl
  | cons c r ih =>
    have hc : isBlankC c = true := h c (by simp)
    simp only [trimBlankL, hc, if_true]
    exact ih (fun d hd => h d (by simp [hd]))

theorem beforeHash_no_hash (ws : Str) (h : ∀ c ∈ ws, isBlankC c = true) : beforeHash ws = ws := by
  induction ws with
  | nil => rfl
  | cons c r ih =>
    have hc : isBlankC c = true := h c (by simp)
    have hne : c ≠ '#' := by
      intro he; subst he; simp [isBlankC] at hc
    simp only [beforeHash, hne, if_false]
    rw [ih (fun d hd => h d (by simp [hd]))]

/-- **commented_out_line_is_dead**: a line whose first non-blank byte is `#` contributes nothing, whatever follows the `#`
    (a commented-out key line can never be an authorised key) -/
theorem commented_out_line_is_dead (ws x : Str) (h : ∀ c ∈ ws, isBlankC c = true) :
    preprocess (ws ++ '#' :: x) = [] := by
  unfold preprocess
  rw [beforeHash_append_hash, beforeHash_no_hash ws h]
  unfold trimBlank
  rw [trimBlankL_all_blank ws h]
  rfl

/-- nothing after a `#` anywhere in a line matters -/
theorem text_after_hash_is_ignored (a x y : Str) : preprocess (a ++ '#' :: x) = preprocess (a ++ '#' :: y) := by
  unfold preprocess
  rw [beforeHash_append_hash, beforeHash_append_hash]

example : authorizedKeysOf 2048
    [{ raw := "# header".toList, verdict := .error }, { raw := "ssh-ed25519 AAAA alice".toList, verdict := .key .ed25519 "alice" },
     { raw := "  #ssh-ed25519 AAAA ghost".toList, verdict := .key .ed25519 "ghost" },
     { raw := "ssh-rsa AAAA weak".toList, verdict := .key (.rsa 1024) "weak" }, { raw := "ssh-ed25519 AAAA".toList, verdict := .key .ecdsa "" },
     { raw := "ssh-rsa AAAA carol # ops".toList, verdict := .key (.rsa 2048) "carol" }]
    = some [{ comment := "alice" }, { comment := "carol" }] := by
  repeat rewrite [String.toList_ofList]
  decide

/-- a line with a non-blank byte before the `#` (a UTF-8 BOM, a word) is NOT a comment: its text is handed to the ssh parser,
    and when that fails the whole file is refused -/
example : authorizedKeysOf 2048
    [{ raw := [Char.ofNat 0xEF, Char.ofNat 0xBB, Char.ofNat 0xBF] ++ "#ssh-ed25519 AAAA ghost".toList, verdict := .error },
     { raw := "ssh-ed25519 AAAA alice".toList, verdict := .key .ed25519 "alice" }] = none := by
  repeat rewrite [String.toList_ofList]
  decide

/-- Configure adds the logger, then the authentication middleware, then the internal rate limiter: authentication failures
    are answered (401) before the limiter is consulted and do not use up its budget -/
theorem fact_middleware_order :
    Facts.C04.middlewareOrder = ["h.applyLoggerMiddleware", "h.applyAuthMiddleware", "h.applyRateLimiterMiddleware"] := rfl

/-- the middleware value holds exactly audience, authorised keys and skipper; every method has a value receiver, assigns to
    none of them and calls nothing on them (no cache, map, mutex, counter) -/
theorem fact_middleware_stateless :
    Facts.C04.middlewareImplFields = ["audience string", "authorizedKeys []authorizedKey", "skipper SkipperFunc"] ∧
    Facts.C04.middlewareStateUses = [] :=
  ⟨rfl, rfl⟩

/-- `Handler(next)` — which echo calls again for every request it serves, on every listener the one middleware value is
    installed on — has a value receiver and returns a fresh closure over its own `next`: nothing of one request (its routed
    handler in particular) is visible to another request in flight at the same time -/
theorem fact_middleware_handler_is_a_fresh_closure :
    Facts.C04.middlewareHandlerReceiver = "middlewareImpl" ∧
    Facts.C04.middlewareHandlerBody =
      "{ return func(context echo.Context) error { return m.checkConnectionAuthorization(context, next) } }" :=
  ⟨rfl, rfl⟩

theorem mwRun_eq_map (P : Policy) (s : MwState) (h : List TokReq) :
    mwRun P s h = h.map fun r => tokenDecision P s.audience s.keys r.now r.hdr r.a := by
  induction h with
  | nil => rfl
  | cons q rest ih => simp only [mwRun, mwStep, ih, List.map_cons]

/-- **decision_independent_of_history**: on one middleware instance, the decision for a request after ANY history of earlier
    requests (other credentials, the same credential when it was still valid, granted or denied) is the decision for that
    request alone: a token that was granted once is judged again, against the clock of the new request. -/
theorem decision_independent_of_history (P : Policy) (s : MwState) (h : List TokReq) (r : TokReq) :
    mwRun P s (h ++ [r]) = mwRun P s h ++ [tokenDecision P s.audience s.keys r.now r.hdr r.a] := by
  simp only [mwRun_eq_map, List.map_append, List.map_cons, List.map_nil]

def historyExampleAnalysis : Analysis :=
  { parses := true, sigs := [{ alg := "EdDSA", hdrs := [] }], verifies := [true],
    claims := { jti := some true, iat := some 900, nbf := some 900, exp := some 2000, aud := some ["aud"],
                iss := some "alice", sub := some "operator" } }

/-- non-vacuity: the same credential, granted at t = 1000, is denied at t = 2000 (exp = 2000) on the same instance -/
example :
    mwRun Facts.C04.policy { audience := "aud", keys := [{ comment := "alice" }] }
      [{ now := 1000, hdr := "Bearer x".toList, a := historyExampleAnalysis },
       { now := 2000, hdr := "Bearer x".toList, a := historyExampleAnalysis }]
    = [.granted "alice", .denied] := by
  repeat rewrite [String.toList_ofList]
  decide +kernel

/-- the listed binds are their own first segments, and none is `/` or listed twice -/
theorem internalBinds_canonical : Facts.C04.internalBinds.map getBindFromPath = Facts.C04.internalBinds := by decide +kernel

theorem internalBinds_nodup : (['/'] :: Facts.C04.internalBinds.map getBindFromPath).Nodup := by
  rw [internalBinds_canonical, fact_internal_binds.1]; decide

/-- the bind table `Configure` builds -/
theorem configured_binds (pub int : Addr) (hp : pub ≠ "") (hi : int ≠ "") :
    configureBinds Facts.C04.internalBinds pub int =
      some [(['/'], pub), ("/internal".toList, int), ("/status".toList, int), ("/health".toList, int), ("/metrics".toList, int)] := by
  rw [configureBinds_eq hp hi _ internalBinds_nodup, internalBinds_canonical]
  rfl

/-- **internal_never_public**: for every pair of distinct listener addresses and every set of registrations, a
    route whose path's first segment (lower-cased, as `getBindFromPath` does) is one of
    /internal, /status, /health, /metrics is added to the internal echo instance, and everything the public
    listener serves comes from a registration whose first segment is none of them. -/
theorem internal_never_public (pub int : Addr) (hp : pub ≠ "") (hi : int ≠ "") (hne : pub ≠ int)
    (binds : List (Str × Addr)) (hb : configureBinds Facts.C04.internalBinds pub int = some binds) (regs : List Registered) :
    (∀ g ∈ regs, getBindFromPath g.path ∈ Facts.C04.internalBinds → addrOf binds g.path = some int) ∧
    (∀ route ∈ routesAt binds regs pub, ∃ g ∈ regs, g.route = route ∧ getBindFromPath g.path ∉ Facts.C04.internalBinds) := by
  rw [configureBinds_eq hp hi _ internalBinds_nodup, internalBinds_canonical] at hb
  obtain rfl := Option.some.inj hb
  have hroot : ['/'] ∉ Facts.C04.internalBinds := internalBinds_canonical ▸ (List.nodup_cons.1 internalBinds_nodup).1
  refine ⟨fun g _ hg => addrOf_internal hi hroot hg, ?_⟩
  intro route hr
  simp only [routesAt, List.mem_map, List.mem_filter, decide_eq_true_eq] at hr
  obtain ⟨g, ⟨hg, haddr⟩, hroute⟩ := hr
  refine ⟨g, hg, hroute, fun hmem => ?_⟩
  rw [addrOf_internal hi hroot hmem] at haddr
  exact hne (Option.some.inj haddr).symm

/-- when both addresses are equal the property degenerates (documented behaviour): one echo instance serves all -/
theorem same_address_shared (a : Addr) (ha : a ≠ "") (binds : List (Str × Addr))
    (hb : configureBinds Facts.C04.internalBinds a a = some binds) (regs : List Registered) :
    routesAt binds regs a = regs.map (·.route) := by
  rw [configureBinds_eq ha ha _ internalBinds_nodup] at hb
  obtain rfl := Option.some.inj hb
  unfold routesAt
  rw [List.filter_eq_self.mpr fun g _ => by
    rw [addrOf_all_same (a := a) (by simp) (by rw [lookupBind_cons, if_pos rfl]) g.path]; simp]

/-- non-vacuity: `/Status/x` (any case) lands on the internal listener, `/public` on the public one -/
example :
    (configureBinds Facts.C04.internalBinds "pub" "int").bind (fun b => addrOf b "/Status/x".toList) = some "int" ∧
    (configureBinds Facts.C04.internalBinds "pub" "int").bind (fun b => addrOf b "/public".toList) = some "pub" := by
  unfold Facts.C04.internalBinds
  repeat rewrite [String.toList_ofList]
  decide

end Nuts.C04.Props
