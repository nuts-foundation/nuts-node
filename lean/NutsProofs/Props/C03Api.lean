/-
  C03 — the crypto REST wrapper (crypto/api/v1/api.go) composed with the key store state
  machine and the header handling: request body -> validation -> key store call -> HTTP status / signed header.
  The check lists of the four `validate()` methods, the error->status table and the
  status of `core.InvalidInputError` are REGENERATED (Facts.C03.apiValidate / apiStatusMap / apiInvalidInputStatus /
  apiHandlerSteps); the theorems on the wrapper speak of the configuration built from those facts (`apiCfg`).
  After them: the `jwk` header of DPoP proofs, the fs backend's listing of key names (`ListPrivateKeys`), and the request
  target the external secret-store backend makes of a key name.
-/
import NutsModel.C03.Api
import NutsModel.Facts.C03
import NutsProofs.Lemmas.C03Api
import NutsModel.C03.FsList
import NutsProofs.Lemmas.C03External
import NutsProofs.Props.C03

namespace Nuts.C03.Props
open Nuts Nuts.C03 Nuts.Facts

/-- the wrapper as the source configures it today -/
def apiCfg : ApiCfg := ApiCfg.ofFacts C03.apiValidate C03.apiStatusMap C03.apiInvalidInputStatus

/-- the `validate()` methods: checks, their order and their messages -/
theorem fact_api_validate_checks :
    apiCfg.checks "SignJwtRequest" = some [⟨"Kid", "len0", "", "errors.New", "missing kid"⟩, ⟨"Claims", "len0", "", "errors.New", "missing claims"⟩] ∧
    apiCfg.checks "SignJwsRequest" = some [⟨"Kid", "len0", "", "errors.New", "missing kid"⟩, ⟨"Headers", "nil", "", "errors.New", "missing headers"⟩,
      ⟨"Payload", "nil", "", "errors.New", "missing payload"⟩] ∧
    apiCfg.checks "DecryptJweRequest" = some [⟨"Message", "len0", "", "errors.New", "missing message"⟩] ∧
    apiCfg.checks "EncryptJweRequest" = some [⟨"Receiver", "len0", "", "errors.New", "missing receiver"⟩, ⟨"Headers", "nil", "", "errors.New", "missing headers"⟩,
      ⟨"Payload", "len0", "", "errors.New", "missing payload"⟩,
      ⟨"Headers", "haskey", "kid", "errors.New", "kid header is not allowed, use the receiver field instead"⟩,
      ⟨"Receiver", "parse:did.ParseDIDURL", "", "fmt.Errorf%w", "invalid receiver: "⟩] :=
  ⟨rfl, rfl, rfl, rfl⟩

/-- error -> status: an unknown key id is the client's fault (400), validation failures are 400, the rest is 500 -/
theorem fact_api_status_table :
    alGet apiCfg.statusMap "crypto.ErrPrivateKeyNotFound" = some 400 ∧ apiCfg.invalidInput = 400 ∧
    apiCfg.statusMap.length = 3 := by decide

/-- the handlers: validate first; SignJws overwrites `headers["kid"]` with the REQUEST kid before the key store call;
    the key store is called with the request kid / the message and nothing else that names a key -/
theorem fact_api_handler_steps :
    alGet C03.apiHandlerSteps "SignJwt" = some ["validate", "invalid-input:invalid sign request: %w",
      "store:SignJWT(ctx,signRequest.Body.Claims,nil,signRequest.Body.Kid)"] ∧
    alGet C03.apiHandlerSteps "SignJws" = some ["bind:signRequest:=request.Body", "validate", "invalid-input:invalid sign request: %w",
      "bind:headers:=signRequest.Headers", "set-header:headers[kid]=signRequest.Kid",
      "store:SignJWS(ctx,signRequest.Payload,headers,signRequest.Kid,detached)"] ∧
    alGet C03.apiHandlerSteps "DecryptJwe" = some ["bind:decryptRequest:=request.Body", "validate", "invalid-input:invalid decrypt request: %w",
      "store:DecryptJWE(ctx,decryptRequest.Message)", "wrap:failed to decrypt JWE: %w"] := ⟨rfl, rfl, rfl⟩

variable (valid : String → Bool) (keyDir : String)

theorem validateReq_len0 (f a c m : String) (cs : List Check) (r : ApiReq) :
    validateReq (⟨f, "len0", a, c, m⟩ :: cs) r = if (r.fld f).lenZero then some (some m) else validateReq cs r := by
  simp only [validateReq, checkFires, if_true, Check.text]
  cases (r.fld f).lenZero <;> rfl

theorem validateReq_isNil (f a c m : String) (cs : List Check) (r : ApiReq) :
    validateReq (⟨f, "nil", a, c, m⟩ :: cs) r = if (r.fld f).isNil then some (some m) else validateReq cs r := by
  simp only [validateReq, checkFires, show ("nil" = "len0") = False by decide, if_true, if_false, Check.text]
  cases (r.fld f).isNil <;> rfl

theorem validateReq_nil (r : ApiReq) : validateReq [] r = some none := rfl

theorem lenZero_eq_false {f : Fld} (h : f.lenZero = false) : f = .present := by
  cases f <;> first | rfl | cases h

/-- **the REST sign_jws endpoint signs only by key id.** For EVERY decoded request body and every key store state:
    a 200 answer means (1) the request named a non-empty kid and non-nil headers / payload, (2) that kid has a
    reference row whose key name passed `validateKID`, and the signing key pair is the backend entry under that name,
    (3) a `jwk` in the signed header is not a private key, and (4) when the header values came out of `encoding/json`
    the signed header carries NO `jwk` at all and its `kid` is the REQUESTED kid, whatever `kid` the caller put
    into the headers object. -/
theorem api_signjws_200_only_by_key_id (s : Store) (r : ApiReq) (k : Nat) (out : Headers)
    (hok : apiSignJws valid apiCfg keyDir s r = .token k out) :
    r.fld "Kid" = .present ∧ (r.fld "Headers").isNil = false ∧ (r.fld "Payload").isNil = false ∧
    (∃ ref, s.ref r.kid = some ref ∧ valid ref.keyName = true ∧ s.key ref.keyName = some k) ∧
    (∀ rt id, hget out "jwk" = some (.jwk rt id) → assignableToSigner rt = false) ∧
    (AllJson r.headers → hget out "jwk" = none ∧ hget out "kid" = some (.str r.kid)) := by
  revert hok
  fun_cases apiSignJws valid apiCfg keyDir s r with
  | case5 cs hcs hv _ k' hsk out' hst =>
    rintro ⟨⟩
    cases hcs.symm.trans fact_api_validate_checks.2.1
    simp only [validateReq_len0, validateReq_isNil, validateReq_nil] at hv
    cases hkid : (r.fld "Kid").lenZero <;> simp only [hkid] at hv
    case true => cases hv
    cases hh : (r.fld "Headers").isNil <;> simp only [hh] at hv
    case true => cases hv
    cases hp : (r.fld "Payload").isNil <;> simp only [hp] at hv
    case true => cases hv
    obtain ⟨ref, h1, h2, h3, _⟩ := sign_only_by_reference valid s r.kid k hsk
    have hs := store_signjws_headers true _ out r.kid hst
    refine ⟨lenZero_eq_false hkid, rfl, rfl, ⟨ref, h1, h2, h3⟩, fun rt id hj => (hs.2.1 rt id hj).1, ?_⟩
    intro hjson
    have hst' : signJWSHeaders (hput (dedup (hput (dedup r.headers) "kid" (.str r.kid))) "kid" (.str r.kid)) = .ok out := by
      unfold storeSignJWSHeaders at hst
      simpa using hst
    have haj := allJson_hput_str _ "kid" r.kid (allJson_dedup _ (allJson_hput_str _ "kid" r.kid (allJson_dedup _ hjson)))
    obtain ⟨hout, hnj⟩ := signJWSHeaders_json _ out haj hst'
    subst hout
    exact ⟨(alGet_alDel_of_ne _ (by decide)).trans hnj, (alGet_alDel_of_ne _ (by decide)).trans (alGet_alPut_self _ _ _)⟩
  | _ => nofun

/-- non-vacuity: a request that is answered 200 exists (one key, JSON headers with a forged `kid` and `typ`) -/
example : ∃ k out, apiSignJws (fun _ => true) apiCfg "/k"
    { refs := [("did:a#1", ⟨"n1", "1"⟩)], backend := [("n1", 7)], nextKey := 8 }
    { flds := [("Kid", .present), ("Headers", .present), ("Payload", .empty)], kid := "did:a#1",
      headers := [("kid", .str "forged"), ("typ", .str "x")] } = .token k out ∧ AllJson [("kid", HVal.str "forged"), ("typ", .str "x")] :=
  ⟨7, [("kid", .str "did:a#1"), ("typ", .str "x")], by decide +kernel, by intro p hp; simp at hp; rcases hp with e | e <;> rw [e] <;> rfl⟩

/-- **sign_jwt endpoint**: 200 only for a non-empty kid with a reference row to a validated key name; the signed header
    is exactly `kid` = requested kid and `typ` = JWT (the endpoint passes no caller headers at all). -/
theorem api_signjwt_200_only_by_key_id (s : Store) (r : ApiReq) (k : Nat) (out : Headers)
    (hok : apiSignJwt valid apiCfg keyDir s r = .token k out) :
    r.fld "Kid" = .present ∧ r.fld "Claims" = .present ∧
    (∃ ref, s.ref r.kid = some ref ∧ valid ref.keyName = true ∧ s.key ref.keyName = some k) ∧
    out = [("typ", .str "JWT"), ("kid", .str r.kid)] := by
  revert hok
  fun_cases apiSignJwt valid apiCfg keyDir s r with
  | case5 cs hcs hv k' hsk out' hst =>
    rintro ⟨⟩
    cases hcs.symm.trans fact_api_validate_checks.1
    simp only [validateReq_len0, validateReq_nil] at hv
    cases hkid : (r.fld "Kid").lenZero <;> simp only [hkid] at hv
    case true => cases hv
    cases hc : (r.fld "Claims").lenZero <;> simp only [hc] at hv
    case true => cases hv
    cases hst
    obtain ⟨ref, h1, h2, h3, _⟩ := sign_only_by_reference valid s r.kid k hsk
    exact ⟨lenZero_eq_false hkid, lenZero_eq_false hc, ⟨ref, h1, h2, h3⟩, rfl⟩
  | _ => nofun

/-- **unknown key id at the REST surface.** A well-formed sign / decrypt request for a kid without a reference row is
    answered `400 private key not found` — for every state, no fallback key, and the answer does not depend on what
    the backend holds. -/
theorem api_unknown_kid_is_400 (s : Store) (r : ApiReq) (hk : s.ref r.kid = none)
    (hkid : r.fld "Kid" = .present) (hh : (r.fld "Headers").isNil = false) (hp : (r.fld "Payload").isNil = false)
    (hc : r.fld "Claims" = .present) :
    apiSignJws valid apiCfg keyDir s r = .problem 400 "private key not found" ∧
    apiSignJwt valid apiCfg keyDir s r = .problem 400 "private key not found" ∧
    (∀ enc, r.kid ≠ "" → r.fld "Message" = .present →
      apiDecryptJwe valid apiCfg keyDir s r (.jwe r.kid enc) = .problem 400 "failed to decrypt JWE: private key not found") := by
  have hsk := (unknown_kid_never_signs valid s r.kid hk)
  refine ⟨?_, ?_, ?_⟩
  · unfold apiSignJws
    rw [fact_api_validate_checks.2.1]
    simp [validateReq, checkFires, hkid, hh, hp, Fld.lenZero, hsk.1, apiErrStatus, fact_api_status_table.1, errDetail, errText]
  · unfold apiSignJwt
    rw [fact_api_validate_checks.1]
    simp [validateReq, checkFires, hkid, hc, Fld.lenZero, hsk.1, apiErrStatus, fact_api_status_table.1, errDetail, errText]
  · intro enc hne hm
    unfold apiDecryptJwe
    rw [fact_api_validate_checks.2.2.1]
    simp [validateReq, checkFires, hm, Fld.lenZero, hsk.2.2.2.1 enc hne, apiErrStatus, fact_api_status_table.1, errDetail, errText]

example : ∃ r : ApiReq, ({} : Store).ref r.kid = none ∧ r.fld "Kid" = .present ∧ (r.fld "Headers").isNil = false ∧
    (r.fld "Payload").isNil = false ∧ r.fld "Claims" = .present ∧ r.kid ≠ "" :=
  ⟨{ flds := [("Kid", .present), ("Headers", .empty), ("Payload", .empty), ("Claims", .present)], kid := "x" }, by decide⟩

/-- **validation refuses before the key store is consulted**: a request that fails `validate()` gets the SAME 400
    answer in every key store state (in particular nothing about any key can be learned from it), and a request
    without a kid never reaches a key. -/
theorem api_invalid_request_independent_of_store (s t : Store) (r : ApiReq) :
    ((r.fld "Kid").lenZero = true ∨ (r.fld "Headers").isNil = true ∨ (r.fld "Payload").isNil = true →
      apiSignJws valid apiCfg keyDir s r = apiSignJws valid apiCfg keyDir t r ∧
      ∃ d, apiSignJws valid apiCfg keyDir s r = .problem 400 d) ∧
    ((r.fld "Kid").lenZero = true ∨ (r.fld "Claims").lenZero = true →
      apiSignJwt valid apiCfg keyDir s r = apiSignJwt valid apiCfg keyDir t r ∧
      ∃ d, apiSignJwt valid apiCfg keyDir s r = .problem 400 d) := by
  refine ⟨?_, ?_⟩
  · intro h
    unfold apiSignJws
    rw [fact_api_validate_checks.2.1]
    simp only [validateReq_len0, validateReq_isNil, validateReq_nil, fact_api_status_table.2.1]
    cases h1 : (r.fld "Kid").lenZero
    · cases h2 : (r.fld "Headers").isNil
      · cases h3 : (r.fld "Payload").isNil
        · simp [h1, h2, h3] at h
        · exact ⟨rfl, _, rfl⟩
      · exact ⟨rfl, _, rfl⟩
    · exact ⟨rfl, _, rfl⟩
  · intro h
    unfold apiSignJwt
    rw [fact_api_validate_checks.1]
    simp only [validateReq_len0, validateReq_nil, fact_api_status_table.2.1]
    cases h1 : (r.fld "Kid").lenZero
    · cases h2 : (r.fld "Claims").lenZero
      · simp [h1, h2] at h
      · exact ⟨rfl, _, rfl⟩
    · exact ⟨rfl, _, rfl⟩

/-- **decrypt_jwe endpoint**: a 200 answer means the message's protected `kid` has a reference row to a validated
    key name and the plaintext was produced with exactly that backend entry, which is the key the message was
    encrypted for. -/
theorem api_decrypt_200_only_by_key_id (s : Store) (r : ApiReq) (m : JweMsg) (k : Nat)
    (hok : apiDecryptJwe valid apiCfg keyDir s r m = .plain k) :
    ∃ kid, m = .jwe kid k ∧ kid ≠ "" ∧ ∃ ref, s.ref kid = some ref ∧ valid ref.keyName = true ∧ s.key ref.keyName = some k := by
  revert hok
  fun_cases apiDecryptJwe valid apiCfg keyDir s r m with
  | case5 _ _ _ kid enc k' hd =>
    rintro ⟨⟩
    revert hd
    fun_cases decryptJWE valid s kid enc with
    | case3 hne hg =>
      rintro ⟨⟩
      obtain ⟨ref, h1, h2, h3, _⟩ := sign_only_by_reference valid s kid _ hg
      exact ⟨kid, rfl, hne, ref, h1, h2, h3⟩
    | _ => nofun
  | _ => nofun

example : apiDecryptJwe (fun _ => true) apiCfg "/k" { refs := [("did:a#1", ⟨"n1", "1"⟩)], backend := [("n1", 7)], nextKey := 8 }
    { flds := [("Message", .present)] } (.jwe "did:a#1" 7) = .plain 7 := by decide

/-- **noninterference at the REST surface.** Two key stores that went through the same history and differ only in
    key MATERIAL (same reference rows, same entry names) answer every sign_jws / sign_jwt request with the same status,
    the same problem detail and the same protected header — the only difference is which key pair made the signature. -/
theorem api_sign_response_independent_of_key_material (s t : Store) (h : SameButKeys s t) (ops : List Op) (r : ApiReq) :
    (apiSignJws valid apiCfg keyDir (run valid s ops) r).noKey = (apiSignJws valid apiCfg keyDir (run valid t ops) r).noKey ∧
    (apiSignJwt valid apiCfg keyDir (run valid s ops) r).noKey = (apiSignJwt valid apiCfg keyDir (run valid t ops) r).noKey := by
  have hR := same_run valid h ops
  have hk := same_getPrivateKey valid hR r.kid
  refine ⟨?_, ?_⟩
  · unfold apiSignJws
    cases apiCfg.checks "SignJwsRequest" with
    | none => rfl
    | some cs =>
      simp only
      cases validateReq cs r with
      | none => rfl
      | some o =>
        cases o with
        | some m => rfl
        | none =>
          simp only
          unfold signKey
          rcases resErr_eq_cases hk with ⟨x, y, hs, ht⟩ | ⟨e, hs, ht⟩ <;> simp only [hs, ht]
          · cases storeSignJWSHeaders true (hput (dedup r.headers) "kid" (HVal.str r.kid)) r.kid <;> rfl
          · simp only [ApiResp.noKey, same_errDetail keyDir hR]
  · unfold apiSignJwt
    cases apiCfg.checks "SignJwtRequest" with
    | none => rfl
    | some cs =>
      simp only
      cases validateReq cs r with
      | none => rfl
      | some o =>
        cases o with
        | some m => rfl
        | none =>
          simp only
          unfold signKey
          rcases resErr_eq_cases hk with ⟨x, y, hs, ht⟩ | ⟨e, hs, ht⟩ <;> simp only [hs, ht]
          · cases storeSignJWTHeaders true [] r.kid <;> rfl
          · simp only [ApiResp.noKey, same_errDetail keyDir hR]

/-- non-vacuity: same history, other key generator: same answer, other signing key -/
example : SameButKeys {} { nextKey := 100 } ∧
    apiSignJwt (fun _ => true) apiCfg "/k" (run (fun _ => true) {} [.new "n1" (some "did:a#1")])
      { flds := [("Kid", .present), ("Claims", .present)], kid := "did:a#1" } = .token 0 [("typ", .str "JWT"), ("kid", .str "did:a#1")] ∧
    apiSignJwt (fun _ => true) apiCfg "/k" (run (fun _ => true) { nextKey := 100 } [.new "n1" (some "did:a#1")])
      { flds := [("Kid", .present), ("Claims", .present)], kid := "did:a#1" } = .token 100 [("typ", .str "JWT"), ("kid", .str "did:a#1")] :=
  ⟨⟨rfl, rfl⟩, by decide, by decide⟩

/-! ## DPoP proofs: the `jwk` header is ALWAYS the public key of the key that signs -/

/-- `(*DPoP).Sign` derives the `jwk` header from the signing key and writes it into the headers UNCONDITIONALLY, at
    the top level of the function, before `jwt.Sign` uses those headers; `Crypto.SignDPoP` fetches the key by kid and
    passes that key to `Sign` (token by value, headers shared). -/
theorem fact_dpop_sign_overwrites_jwk :
    C03.dpopSignStmts = ["if:;t.raw != \"\"{1}", "assign:publicKeyJWK, err := jwk.FromRaw(key.Public())", "if:;err != nil{1}",
      "assign:_ = publicKeyJWK.Set(jwk.AlgorithmKey, alg)", "assign:_ = t.Headers.Set(jws.JWKKey, publicKeyJWK)",
      "assign:sig, err := jwt.Sign(t.Token, jwt.WithKey(alg, key, jws.WithProtectedHeaders(t.Headers)))", "if:;err != nil{1}",
      "assign:t.raw = string(sig)", "assign:t.Kid = kid", "return:return t.raw, nil"] ∧
    C03.signDPoPShape = ["param:ctx:context.Context", "param:token:dpop.DPoP", "param:kid:string",
      "call:client.getPrivateKey(ctx,kid)", "call:token.Sign(kid,privateKey,alg)"] := ⟨rfl, rfl⟩

/-- **dpop_jwk_is_signing_key.** For EVERY key store state, EVERY header state the token starts with (including a
    `jwk` header — public or PRIVATE — that the caller put there, or the one a previous signing left) and EVERY sequence
    of kids the same token is signed for: each proof that is issued for kid K is signed by the key pair the reference
    row of K names, and its `jwk` header is exactly the public JWK of THAT key pair — never a key material carrying
    value, never the key of an earlier call. -/
theorem dpop_jwk_is_signing_key (s : Store) (h0 : Headers) (kids : List String) (kid : String) (k : Nat) (hdr : Headers)
    (hm : (kid, .ok (k, hdr)) ∈ signDPoPSeq valid s h0 kids) :
    signKey valid s kid = .ok k ∧ hget hdr "jwk" = some (pubJwk k) ∧
    (∃ ref, s.ref kid = some ref ∧ valid ref.keyName = true ∧ s.key ref.keyName = some k) := by
  induction kids generalizing h0 with
  | nil => cases hm
  | cons kid' rest ih =>
    unfold signDPoPSeq at hm
    simp only at hm
    rcases List.mem_cons.mp hm with e | hrest
    · unfold signDPoP at e
      cases hsk : signKey valid s kid' with
      | error er => simp [hsk] at e
      | ok k' =>
        simp only [hsk] at e
        injection e with e1 e2
        injection e2 with e3
        injection e3 with e4 e5
        subst e1; subst e4; subst e5
        obtain ⟨ref, h1, h2, h3, _⟩ := sign_only_by_reference valid s kid k hsk
        refine ⟨hsk, ?_, ref, h1, h2, h3⟩
        exact alGet_alPut_self _ _ _
    · exact ih _ hrest

/-- non-vacuity + the seeded shape: a token that carries a PRIVATE jwk, signed for two different kids in a row -/
example : signDPoPSeq (fun _ => true) { refs := [("a", ⟨"n1", "1"⟩), ("b", ⟨"n2", "1"⟩)], backend := [("n1", 1), ("n2", 2)], nextKey := 3 }
    [("jwk", .jwk "*ecdsa.PrivateKey" "ecPriv")] ["a", "b"] =
    [("a", .ok (1, [("jwk", pubJwk 1)])), ("b", .ok (2, [("jwk", pubJwk 2)]))] := by decide

/-! ## fs backend: file names back to key names (`ListPrivateKeys`, the source of the kids `Migrate` creates) -/

/-- the walk callback as the model mirrors it: walk over the key directory, suffix test on the base name, `upper`
    computed in (signed) int, the guard `upper > 0`, the slice `[:upper]`, version "1" -/
theorem fact_fs_list_callback :
    C03.fsListCallback = ["walk:filepath.Walk(fsc.fspath)", "if:err != nil",
      "if:!info.IsDir() && strings.HasSuffix(info.Name(), string(privateKeyEntry))",
      "upper:len(info.Name()) - len(privateKeyEntry) - 1", "if:upper > 0", "field:KeyName=info.Name()[:upper]",
      "field:Version=\"1\"", "if:err != nil"] := rfl

theorem hasSuffix_append (a suf : Bytes) : hasSuffix (a ++ suf) suf = true := by
  unfold hasSuffix
  simp [List.length_append]

/-- **every stored key is listed under exactly its own name**: for every non-empty key name `n` (in particular every
    name `validateKID` accepts and every uuid `New` draws) and every entry type, the file the backend created for `n`
    (`getEntryFileName`) is parsed back to `n` — `Migrate` binds the kid to the name the key is really stored under. -/
theorem fs_list_roundtrip (n et : Bytes) (hn : n ≠ []) : fsListName (fsEntryFileName n et) et = some n := by
  unfold fsListName fsEntryFileName
  have h1 : n ++ USCORE :: et = (n ++ [USCORE]) ++ et := by simp
  rw [h1, hasSuffix_append]
  simp only [if_true]
  have hl : 0 < n.length := List.length_pos_iff.mpr hn
  have : ((((n ++ [USCORE]) ++ et).length : Int) - (et.length : Int) - 1) = (n.length : Int) := by
    simp [List.length_append]; omega
  rw [this]
  have hpos : (n.length : Int) > 0 := by omega
  simp only [hpos, if_true, Int.toNat_natCast]
  congr 1
  rw [List.append_assoc]
  exact List.take_left' rfl

/-- **what a listed name can be**: a non-empty proper prefix of a file name of the key directory tree; the file name is
    that prefix, ONE arbitrary byte, and the entry type. No name is invented, no byte of any file's CONTENT is involved. -/
theorem fs_listed_name_shape (f et m : Bytes) (h : fsListName f et = some m) : m ≠ [] ∧ ∃ c, f = m ++ c :: et := by
  unfold fsListName hasSuffix at h
  split at h
  · rename_i hs
    simp only [Bool.and_eq_true, decide_eq_true_eq, beq_iff_eq] at hs
    simp only at h
    split at h
    · rename_i hu
      cases h
      -- the name is the first `n` bytes, byte `n` is dropped unseen, the suffix starts at `n + 1`
      obtain ⟨n, hn⟩ : ∃ n, f.length - et.length = n + 1 := ⟨f.length - et.length - 1, by omega⟩
      rw [show ((f.length : Int) - (et.length : Int) - 1).toNat = n by omega]
      have hlt : n < f.length := by omega
      refine ⟨fun e => ?_, f[n], ?_⟩
      · have := congrArg List.length e
        rw [List.length_take, List.length_nil] at this
        omega
      · rw [← hs.2, hn, ← List.drop_eq_getElem_cons hlt, List.take_append_drop]
    · cases h
  · cases h

/-- limit of the code that exists (mirrored, not repaired — not a key-material path): the byte before the suffix is not
    compared with `_`: the file `abprivate.pem` is listed as key `a`; `_private.pem` and `private.pem` are skipped. -/
theorem fs_list_separator_not_checked :
    ∀ et ∈ C03.fsEntryTypes,
      fsListName ([97, 98] ++ et) et = some [97] ∧ fsListName (USCORE :: et) et = none ∧ fsListName et et = none := by decide

example : fsListName (fsEntryFileName [107] [112]) [112] = some [107] := by decide

/-! ## external secret-store backend: the request target of a key name -/

/-- every SPI method of the external backend hands `url.PathEscape(name)` to the generated client, and every generated
    request builder that takes a key puts the (once more escaped, path-located, simple-style) parameter behind `/secrets/` -/
theorem fact_external_name_to_path :
    C03.externalNameUses = ["GetPrivateKey:LookupSecretWithResponse:url.PathEscape(keyName)",
      "PrivateKeyExists:LookupSecretWithResponse:url.PathEscape(keyName)", "SavePrivateKey:StoreSecretWithResponse:url.PathEscape(kid)",
      "DeletePrivateKey:DeleteSecretWithResponse:url.PathEscape(keyName)"] ∧
    C03.externalRequestPaths = ["NewDeleteSecretRequest:fmt.Sprintf(\"/secrets/%s\", pathParam0)",
      "NewDeleteSecretRequest:style(\"simple\",false,\"key\",runtime.ParamLocationPath,key)", "NewHealthCheckRequest:fmt.Sprintf(\"/health\")",
      "NewListKeysRequest:fmt.Sprintf(\"/secrets\")", "NewLookupSecretRequest:fmt.Sprintf(\"/secrets/%s\", pathParam0)",
      "NewLookupSecretRequest:style(\"simple\",false,\"key\",runtime.ParamLocationPath,key)",
      "NewStoreSecretRequestWithBody:fmt.Sprintf(\"/secrets/%s\", pathParam0)",
      "NewStoreSecretRequestWithBody:style(\"simple\",false,\"key\",runtime.ParamLocationPath,key)"] := ⟨rfl, rfl⟩

/-- **external_target_confined.** For EVERY key name (bytes of a Go string) — whether or not `validateKID` would accept
    it — the segment that stands for it on the wire contains no `/`, `?`, `#`, `\`, NUL: the request target is
    `<base dir>secrets/<one segment>`; two different names never share a target; a server that unescapes the segment
    twice gets the name back literally; and the segment is a dot segment (`.` / `..`, which reference resolution would
    fold away) only if the NAME is `.` / `..` — exactly the two names the wrapper refuses literally. -/
theorem external_target_confined (name : Bytes) (hn : ∀ c ∈ name, c < 256) :
    (∀ b ∈ externalSegment name, targetSafe b = true) ∧
    (∀ other : Bytes, (∀ c ∈ other, c < 256) → externalSegment other = externalSegment name → other = name) ∧
    ((pathUnescape (externalSegment name)).bind pathUnescape = some name) ∧
    (externalSegment name = [DOT] → name = [DOT]) ∧ (externalSegment name = [DOT, DOT] → name = [DOT, DOT]) ∧
    (externalSegment name = [] → name = []) := by
  have h1 : ∀ b ∈ pathEscape name, b < 256 := fun b hb => (pathEscape_out name hn b hb).2
  have hrt : (pathUnescape (externalSegment name)).bind pathUnescape = some name := by
    unfold externalSegment
    rw [pathUnescape_escape _ h1]
    simp [pathUnescape_escape _ hn]
  have hinj : ∀ other : Bytes, (∀ c ∈ other, c < 256) → externalSegment other = externalSegment name → other = name := by
    intro other ho he
    exact pathEscape_injective _ _ ho hn (pathEscape_injective _ _ (fun b hb => (pathEscape_out other ho b hb).2) h1 he)
  have hlit : ∀ lit : Bytes, (∀ c ∈ lit, c < 256) → externalSegment lit = lit → externalSegment name = lit → name = lit := by
    intro lit hl hfix he
    exact (hinj lit hl (by rw [hfix, he])).symm
  refine ⟨fun b hb => (pathEscape_out _ h1 b hb).1, hinj, hrt, hlit [DOT] (by decide) (by decide), hlit [DOT, DOT] (by decide) (by decide),
    hlit [] (by decide) (by decide)⟩

/-- with the wrapper in front: a name `validateKID` accepts is neither `.` nor `..`, so its target is never folded -/
theorem external_valid_name_not_dot_segment (name : Bytes) (hn : ∀ c ∈ name, c < 256)
    (hv : validName? C03.kidPatternRx C03.validateKIDRefusedNames name = some true) :
    externalSegment name ≠ [DOT] ∧ externalSegment name ≠ [DOT, DOT] ∧ externalSegment name ≠ [] := by
  have hc := external_target_confined name hn
  have hne : name ≠ [DOT] ∧ name ≠ [DOT, DOT] ∧ name ≠ [] := by
    refine ⟨?_, ?_, ?_⟩ <;> (intro e; subst e; revert hv; decide)
  exact ⟨fun e => hne.1 (hc.2.2.2.1 e), fun e => hne.2.1 (hc.2.2.2.2.1 e), fun e => hne.2.2 (hc.2.2.2.2.2 e)⟩

example : validName? C03.kidPatternRx C03.validateKIDRefusedNames [46, 46, 35] = some true ∧ (∀ c ∈ [46, 46, 35], c < 256) := by decide

example : externalTarget [47, 98, 97, 115, 101] [46, 46, 35] =
    [47, 98, 97, 115, 101, 47, 115, 101, 99, 114, 101, 116, 115, 47, 46, 46, 37, 50, 53, 50, 51] := by decide   -- "/base" + "..#" -> "/base/secrets/..%2523"

end Nuts.C03.Props
