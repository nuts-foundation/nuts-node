/-
  C13 — the request context inside `transactionHelper`, and the subject look-up. Model: NutsModel/C13/Context.lean,
  instantiated by NutsModel/C13/ContextNow.lean with the regenerated facts.
-/
import NutsModel.C13.ContextNow
import NutsProofs.Props.C13
import NutsProofs.Lemmas.C13Ctx

namespace Nuts.C13.Props
open Nuts.C13 Nuts

/-- `transactionHelper` hands its context to the Commit calls and to nothing else (its two SQL transactions do not depend
    on the request being alive); did:web's Commit names neither of its parameters -/
theorem fact_request_context_only_reaches_commit :
    Facts.C13.transactionHelperContextUses = ["manager.Commit(ctx, change)"] ∧
    Facts.C13.webCommitParamNames = ["_", "_"] ∧ Now.webFails true = false ∧ Now.webFails false = false :=
  ⟨rfl, rfl, by decide, by decide⟩

/-- `FindBySubject` and `SubjectExists` compare the subject name with `=` (no pattern matching, no case folding) -/
theorem fact_subject_lookup_is_equality :
    Facts.C13.findBySubjectQueries = ["subject = ?"] ∧ Facts.C13.subjectExistsQueries = ["subject = ?"] ∧
    Facts.C13.findBySubjectOperator = "=" := ⟨rfl, rfl, rfl⟩

/-- with a did:web Commit that cannot fail, the commit loop does not depend on when the request context ends -/
theorem commit_loop_ignores_context (cancelAt : Option Nat) (f : Fault) (chs : List Change) :
    ∀ (order : List Method) (i : Nat) (pub : Nat → List Content),
      commitLoopCtx (fun _ => false) cancelAt f chs order i pub = commitLoop f chs order i pub := by
  intro order i pub
  fun_induction commitLoop f chs order i pub <;> simp [commitLoopCtx, *]

theorem webFails_now : Now.webFails = fun _ => false :=
  funext fun
    | true => fact_request_context_only_reaches_commit.2.2.1
    | false => fact_request_context_only_reaches_commit.2.2.2

/-- the code as it is: an operation whose request context ends at ANY moment after the first transaction
    (before the k-th Commit call, any k; any fault on top; any commit order) ends exactly like the same operation with a
    live context — same rows, same change records, same published documents, same answer. -/
theorem cancelled_request_changes_nothing (cancelAt : Option Nat) (cfg : Cfg) (w : World) (o : Op) (order : List Method)
    (f : Fault) : stepOpCtx Now.webFails cancelAt cfg w o order f = stepOp cfg w o order f := by
  rw [webFails_now]
  have core : stepOpCtxCore (fun _ => false) cancelAt cfg w o order f = stepOpCore cfg w o order f := by
    unfold stepOpCtxCore stepOpCore
    cases tx1 cfg w o with
    | err e => rfl
    | panic s => rfl
    | ok p =>
      obtain ⟨w1, chs⟩ := p
      simp only [commit_loop_ignores_context]
      rcases commitLoop f chs order 0 w1.pub with ⟨pub, ph⟩
      cases ph <;> rfl
  unfold stepOpCtx stepOp
  rw [core]
  cases tx1 cfg w o with
  | err e => rfl
  | panic s => rfl
  | ok p =>
    obtain ⟨w1, chs⟩ := p
    simp only
    cases f.inTx1 chs.length <;> rfl

/-- so every history in which requests are cancelled stays inside `Reach`: all theorems about reachable worlds
    (uniform versions, all-or-nothing after the sweep, retry, …) hold for it -/
theorem cancelled_request_reach {cfg : Cfg} {w : World} (cancelAt : Option Nat) (o : Op) (order : List Method) (f : Fault)
    (h : Reach cfg w) (hc : Clean w.dids o.subject) : Reach cfg (stepOpCtx Now.webFails cancelAt cfg w o order f).1 := by
  rw [cancelled_request_changes_nothing]
  exact Reach.op o order f h hc

def cfg2 : Cfg := { methods := [.nuts, .web], threshold := 60, notFoundIsUncommitted := true,
                    rollbackDeletesCreatedDID := true, sweepWholeTx := true }

/-- non-vacuity: a Create cancelled after did:nuts published completes, both DIDs exist, no change record is left -/
example : (stepOpCtx Now.webFails (some 1) cfg2 {} (.create "s") [.nuts, .web] .none).2 = "ok" ∧
    ((stepOpCtx Now.webFails (some 1) cfg2 {} (.create "s") [.nuts, .web] .none).1.dids.map (·.method)) = [.nuts, .web] ∧
    logCount (stepOpCtx Now.webFails (some 1) cfg2 {} (.create "s") [.nuts, .web] .none).1 = 0 := by decide

/-- NEGATION WITNESS (not the code): if did:web's Commit failed on a dead context, an operation cancelled after did:nuts
    published would answer with an error and delete the new version of BOTH DIDs while did:nuts' stays published: the
    DIDs did not change together, the key of the abandoned version is on the network, and no change record is left
    for the sweep to repair it. -/
theorem web_commit_failing_on_dead_context_breaks_all_or_nothing :
    let r := stepOpCtx (fun dead => dead) (some 1) cfg2 {} (.create "s") [.nuts, .web] .none
    r.2 = "err:web" ∧ r.1.dids = [] ∧ logCount r.1 = 0 ∧ pubLatest r.1.pub 0 = some { vms := [0], svcs := [] } := by decide

/-- the look-up every operation uses is the model's `listDIDs` (rows whose subject IS the asked name) -/
theorem lookup_is_exact (w : World) (s : String) : findBySubject Now.sameSubject w s = listDIDs w s := by
  unfold findBySubject listDIDs
  congr 1

def twoSubjects : World :=
  (stepOp cfg2 (stepOp cfg2 {} (.create "a_1") [.nuts, .web] .none).1 (.create "a-1") [.nuts, .web] .none).1

/-- NEGATION WITNESS (not the code): with SQL `LIKE` as the comparison, the name `a_1` also selects the DIDs of subject
    `a-1` (two DIDs per method), and `A-1` those of `a-1`; with `=`, `a_1` has exactly its own two and `A-1` none -/
theorem lookup_by_like_merges_subjects :
    ((findBySubject sqlLike twoSubjects "a_1").map (·.method)) = [.nuts, .web, .nuts, .web] ∧
    ((findBySubject sqlLike twoSubjects "A-1").map (·.method)) = [.nuts, .web] ∧
    ((findBySubject Now.sameSubject twoSubjects "a_1").map (·.method)) = [.nuts, .web] ∧
    (findBySubject Now.sameSubject twoSubjects "A-1") = [] := by decide +kernel

/-- clauses A and G of props/C13.coverage.md from the other side: in every reachable world an operation on one subject (any of the six, ANY fault — failed
    publish, stop at any point, DB error / stop inside the first transaction —, any commit order) leaves the DIDs of every
    OTHER subject exactly as they were: same rows, same versions, same change records. -/
theorem other_subjects_untouched {cfg : Cfg} (hfix : Fixed cfg) (hms : cfg.methods.Nodup) {w : World} (h : Reach cfg w)
    (o : Op) (order : List Method) (f : Fault) (hc : Clean w.dids o.subject) (s : String) (hs : s ≠ o.subject) :
    listDIDs (stepOp cfg w o order f).1 s = listDIDs w s :=
  stepOp_other o order f hms (reach_inv hfix hms h) hc s hs

/-- the same through the look-up the code uses and with a request context that ends at any moment -/
theorem other_subjects_untouched_by_cancelled_request {cfg : Cfg} (hfix : Fixed cfg) (hms : cfg.methods.Nodup) {w : World}
    (h : Reach cfg w) (cancelAt : Option Nat) (o : Op) (order : List Method) (f : Fault) (hc : Clean w.dids o.subject)
    (s : String) (hs : s ≠ o.subject) :
    findBySubject Now.sameSubject (stepOpCtx Now.webFails cancelAt cfg w o order f).1 s = findBySubject Now.sameSubject w s := by
  rw [lookup_is_exact, lookup_is_exact, cancelled_request_changes_nothing]
  exact other_subjects_untouched hfix hms h o order f hc s hs

/-- non-vacuity: the hypotheses are met by the empty world … -/
example : listDIDs (stepOp cfg2 {} (.create "a_1") [.nuts, .web] .none).1 "a-1" = listDIDs {} "a-1" :=
  other_subjects_untouched ⟨rfl, rfl, rfl⟩ (by decide) Reach.init _ _ _ (by intro r hr; cases hr) "a-1" (by decide)

/-- … and concretely: a failed `addSvc` on `a_1` and a deactivation of `a_1` leave both DIDs of `a-1` as they were -/
example : listDIDs (stepOp cfg2 twoSubjects (.addSvc "a_1" "A") [.nuts, .web] .failNuts).1 "a-1" = listDIDs twoSubjects "a-1" ∧
    listDIDs (stepOp cfg2 twoSubjects (.deactivate "a_1") [.web, .nuts] .none).1 "a-1" = listDIDs twoSubjects "a-1" ∧
    (listDIDs twoSubjects "a-1").length = 2 := by decide

/-- composition: a request that is cancelled at any moment AND whose publication fails leaves every row as it was and
    answers with the error (the clean-up transaction does not depend on the request being alive) -/
theorem cancelled_and_failed_request_restores {cfg : Cfg} (hfix : Fixed cfg) (hms : cfg.methods.Nodup) {w : World} (h : Reach cfg w)
    (cancelAt : Option Nat) (o : Op) (order : List Method) (f : Fault) (hf : ∀ n, f.inTx1 n = none) (hc : Clean w.dids o.subject)
    {w1 : World} {chs : List Change} {e : String}
    (ht : tx1 cfg w o = .ok (w1, chs)) (hph : (commitLoop f chs order 0 w1.pub).2 = .failed e) :
    (stepOpCtx Now.webFails cancelAt cfg w o order f).1.dids = w.dids ∧
    (stepOpCtx Now.webFails cancelAt cfg w o order f).2 = "err:" ++ e := by
  rw [cancelled_request_changes_nothing]
  exact failed_commit_restores hfix hms h o order f hf hc ht hph

/-- non-vacuity: an `addSvc` on `a_1` cancelled after the first Commit call, with a failing did:nuts publication -/
example : (stepOpCtx Now.webFails (some 1) cfg2 twoSubjects (.addSvc "a_1" "A") [.web, .nuts] .failNuts).1.dids = twoSubjects.dids ∧
    (stepOpCtx Now.webFails (some 1) cfg2 twoSubjects (.addSvc "a_1" "A") [.web, .nuts] .failNuts).2 = "err:injected" := by decide

end Nuts.C13.Props
