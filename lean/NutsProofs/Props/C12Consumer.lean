/-
  C12 — verifier-side consumers of vcr/pe (auth/api/iam PEXConsumer, resolveInputDescriptorValues) and ChooseVPFormat.
  Property theorems over NutsModel/C12/Consumer.lean: invariants over ALL reachable consumer states (any history of
  `fulfill` calls, any map iteration order), refinement to the vcr/pe layer (`validate`, `resolve`, `resolveFields`) and
  end-to-end corollaries composed with `forged_mapping_rejected` / `field_values_faithful`.
-/
import NutsModel.C12.Consumer
import NutsModel.Facts.C12
import NutsProofs.Lemmas.C12Validate
import NutsProofs.Props.C12

namespace Nuts.C12.Props
open Nuts Nuts.C12

theorem findRequired_eq_find (id : String) : ∀ (order : Required),
    findRequired id order = (order.find? fun od => od.2.id == id).map (·.2)
  | [] => rfl
  | (o, d) :: rest => by
    unfold findRequired
    rw [List.find?_cons]
    cases d.id == id with
    | true => rfl
    | false => exact findRequired_eq_find id rest

theorem findRequired_spec {id : String} {order : Required} {d : PD} (h : findRequired id order = some d) :
    ∃ o, (o, d) ∈ order ∧ d.id = id := by
  rw [findRequired_eq_find] at h
  obtain ⟨⟨o, d'⟩, hf, rfl⟩ := Option.map_eq_some_iff.1 h
  exact ⟨o, List.mem_of_find?_eq_some hf, by simpa using List.find?_some hf⟩

theorem findRequired_none {id : String} {order : Required} (h : ∀ x ∈ order, x.2.id ≠ id) : findRequired id order = none := by
  rw [findRequired_eq_find, List.find?_eq_none.2 fun x hx => by simpa using h x hx]
  rfl

/-- REFINEMENT of `fulfill` to the vcr/pe layer: an accepted submission names a definition the consumer iterates over,
    was not fulfilled before, passed `Validate` for THAT definition and the given envelope, and the new state differs
    from the old one exactly by the two stores under the definition id. -/
theorem fulfill_ok_spec (cfg : Cfg) (re : Regex) (decode : Decoder) (order : Required) (c c' : Consumer)
    (sub : Submission) (env : Envelope) (h : c.fulfill cfg re decode order sub env = .ok c') :
    ∃ o d m, (o, d) ∈ order ∧ d.id = sub.definitionId ∧ c.isFulfilled sub.definitionId = false ∧
      validate cfg re decode d env sub.descriptorMap = .ok m ∧
      c' = { c with submissions := alPut c.submissions sub.definitionId sub,
                    envelopes := alPut c.envelopes sub.definitionId env } := by
  revert h
  fun_cases Consumer.fulfill cfg re decode order c sub env with
  | case5 d hd hf m hv =>
    intro h
    obtain ⟨o, hm, hid⟩ := findRequired_spec hd
    exact ⟨o, d, m, hm, hid, by simpa using hf, hv, (Res.ok.inj h).symm⟩
  | _ => exact fun h => nomatch h

/-- a submission for a definition that is not required is refused, whatever it contains -/
theorem fulfill_unrequired_refused (cfg : Cfg) (re : Regex) (decode : Decoder) (order : Required) (c : Consumer)
    (sub : Submission) (env : Envelope) (h : ∀ x ∈ order, x.2.id ≠ sub.definitionId) :
    c.fulfill cfg re decode order sub env = .err "not-required" := by
  unfold Consumer.fulfill
  rw [findRequired_none h]

/-- a definition is fulfilled AT MOST ONCE: after an accepted submission every further submission for the same
    definition id is refused (any content, any envelope, any iteration order) -/
theorem fulfill_at_most_once (cfg : Cfg) (re : Regex) (decode : Decoder) (order order' : Required) (c c' : Consumer)
    (sub sub' : Submission) (env env' : Envelope) (h : c.fulfill cfg re decode order sub env = .ok c')
    (hid : sub'.definitionId = sub.definitionId) :
    (c'.fulfill cfg re decode order' sub' env').isOk = false := by
  obtain ⟨_, _, _, _, _, _, _, hc'⟩ := fulfill_ok_spec cfg re decode order c c' sub env h
  have hful : c'.isFulfilled sub'.definitionId = true := by
    rw [hc', hid]; simp [Consumer.isFulfilled, alGet_alPut_self]
  unfold Consumer.fulfill
  split
  · rfl
  · simp [hful, Res.isOk]

/-- `fulfill` never panics (Validate does not) -/
theorem fulfill_total (re : Regex) (decode : Decoder) (order : Required) (c : Consumer) (sub : Submission) (env : Envelope)
    (site : String) : c.fulfill Facts.C12.cfg re decode order sub env ≠ .panic site := by
  fun_cases Consumer.fulfill Facts.C12.cfg re decode order c sub env with
  | case4 d _ _ s hv => exact absurd hv (pe_total_validate re decode d env sub.descriptorMap s)
  | _ => exact fun h => nomatch h

/-- the states of a `PEXConsumer` created for `req`: any number of accepted `fulfill` calls, each with its own map
    iteration order over (a part of) the required definitions -/
inductive Reachable (cfg : Cfg) (re : Regex) (decode : Decoder) (req : Required) : Consumer → Prop where
  | init : Reachable cfg re decode req (newPEXConsumer req)
  | step {c c' : Consumer} {order : Required} {sub : Submission} {env : Envelope} :
      Reachable cfg re decode req c → (∀ x ∈ order, x ∈ req) →
      c.fulfill cfg re decode order sub env = .ok c' → Reachable cfg re decode req c'

/-- what holds of every stored submission -/
def Stored (cfg : Cfg) (re : Regex) (decode : Decoder) (req : Required) (c : Consumer) (id : String) (sub : Submission) : Prop :=
  sub.definitionId = id ∧ ∃ o d env m, (o, d) ∈ req ∧ d.id = id ∧ alGet c.envelopes id = some env ∧
    validate cfg re decode d env sub.descriptorMap = .ok m

/-- INVARIANT over all reachable states: the required definitions never change, and every stored submission is stored
    under its own definition id, together with the envelope it arrived in, and passed `Validate` for a REQUIRED
    definition with that id and that envelope. -/
theorem consumer_invariant (cfg : Cfg) (re : Regex) (decode : Decoder) (req : Required) (c : Consumer)
    (h : Reachable cfg re decode req c) :
    c.required = req ∧ ∀ id sub, alGet c.submissions id = some sub → Stored cfg re decode req c id sub := by
  induction h with
  | init => exact ⟨rfl, fun id sub h => by simp [newPEXConsumer, alGet] at h⟩
  | @step c c' order sub env _ hord hf ih =>
    obtain ⟨o, d, m, hm, hid, _, hv, hc'⟩ := fulfill_ok_spec cfg re decode order c c' sub env hf
    subst hc'
    refine ⟨ih.1, ?_⟩
    intro id s hs
    by_cases hk : id = sub.definitionId
    · subst hk
      simp only [alGet_alPut_self] at hs
      injection hs with hs; subst hs
      exact ⟨rfl, o, d, env, m, hord _ hm, hid, alGet_alPut_self _ _ _, hv⟩
    · simp only [alGet_alPut_of_ne _ _ hk] at hs
      obtain ⟨h1, o', d', env', m', h2, h3, h4, h5⟩ := ih.2 id s hs
      exact ⟨h1, o', d', env', m', h2, h3, by simp only [alGet_alPut_of_ne _ _ hk]; exact h4, h5⟩

/-- END-TO-END (session state → forged-mapping theorem): in every reachable consumer state, every entry of every
    stored descriptor map resolves — whole `path_nested` chain — inside the envelope stored with it to a credential
    whose `Raw()` equals that of the credential `Build`/`Match` select for that input descriptor on the envelope's OWN
    credentials, for a REQUIRED definition; no descriptor is mapped twice and none is missing — for a stored envelope
    that meets the two conditions of `forged_mapping_rejected` (at least one presentation, no empty `Raw()`). -/
theorem consumer_stored_mappings_not_forged (re : Regex) (decode : Decoder) (req : Required) (c : Consumer)
    (h : Reachable Facts.C12.cfg re decode req c) (id : String) (sub : Submission)
    (hs : alGet c.submissions id = some sub) :
    sub.definitionId = id ∧ ∃ o d env m, (o, d) ∈ req ∧ d.id = id ∧ alGet c.envelopes id = some env ∧
      validate Facts.C12.cfg re decode d env sub.descriptorMap = .ok m ∧
      ((∀ p ∈ env.presentations, ∀ cr ∈ p, cr.raw ≠ "") → env.presentations ≠ [] →
        ∃ ms vcs, build Facts.C12.cfg re d env.presentations = .ok (ms, vcs) ∧ expectedMap [] ms vcs = .ok m ∧
          (sub.descriptorMap.map (·.id)).Nodup ∧ sub.descriptorMap.length = m.length ∧
          (∀ mp ∈ sub.descriptorMap, ∃ cr e, resolveCredential decode mp env.asInterface = .ok cr ∧
              alGet m mp.id = some e ∧ e.raw = cr.raw) ∧
          (∀ e ∈ m, ∃ mp ∈ sub.descriptorMap, mp.id = e.1)) := by
  obtain ⟨h1, o, d, env, m, h2, h3, h4, h5⟩ := (consumer_invariant _ re decode req c h).2 id sub hs
  exact ⟨h1, o, d, env, m, h2, h3, h4, h5, fun hraw hne => forged_mapping_rejected re decode d env sub.descriptorMap m hraw hne h5⟩

theorem next_eq (c : Consumer) :
    c.next = [Owner.organization, .user].findSome? fun o =>
      ((lookupOwner o c.required).filter fun d => !c.isFulfilled d.id).map (Prod.mk o) := by
  unfold Consumer.next
  simp only [List.findSome?_cons, List.findSome?_nil]
  cases lookupOwner .organization c.required with
  | none => cases lookupOwner .user c.required with
    | none => rfl
    | some u => cases hu : c.isFulfilled u.id <;> simp [Option.filter, hu]
  | some g => cases hg : c.isFulfilled g.id with
    | false => simp [Option.filter, hg]
    | true => cases lookupOwner .user c.required with
      | none => simp [Option.filter, hg]
      | some u => cases hu : c.isFulfilled u.id <;> simp [Option.filter, hg, hu]

/-- `next` returns a required definition of that wallet owner that is not fulfilled yet -/
theorem next_some_spec (c : Consumer) (o : Owner) (d : PD) (h : c.next = some (o, d)) :
    lookupOwner o c.required = some d ∧ c.isFulfilled d.id = false := by
  rw [next_eq] at h
  obtain ⟨o', _, ho'⟩ := List.exists_of_findSome?_eq_some h
  obtain ⟨d', hd', he⟩ := Option.map_eq_some_iff.1 ho'
  cases he
  exact (Option.filter_eq_some_iff.1 hd').imp_right fun hf => by simpa using hf

/-- `next` reports "nothing left" exactly when every required definition (of either wallet owner) is fulfilled -/
theorem next_none_iff_all_fulfilled (c : Consumer) :
    c.next = none ↔ ∀ o d, lookupOwner o c.required = some d → c.isFulfilled d.id = true := by
  rw [next_eq, List.findSome?_eq_none_iff]
  refine ⟨fun h o d hod => ?_, fun h o _ => ?_⟩
  · have := Option.filter_eq_none_iff.1 (Option.map_eq_none_iff.1 (h o (by cases o <;> simp))) d hod
    simpa using this
  · exact Option.map_eq_none_iff.2 (Option.filter_eq_none_iff.2 fun d hd => by simp [h o d hd])

theorem mem_mergeCreds : ∀ (curr acc : List (String × Cred)) (e : String × Cred), e ∈ mergeCreds acc curr → e ∈ acc ∨ e ∈ curr
  | [], acc, e, h => Or.inl (by simpa [mergeCreds] using h)
  | (k, v) :: rest, acc, e, h => by
    unfold mergeCreds at h
    rcases mem_mergeCreds rest _ e h with h1 | h1
    · rcases mem_alPut h1 with h2 | h2
      · subst h2; exact Or.inr List.mem_cons_self
      · exact Or.inl h2
    · exact Or.inr (List.mem_cons_of_mem _ h1)

/-- where an entry of the credential map comes from: a mapping entry of a stored submission, resolved in the envelope
    stored with it -/
def FromStored (decode : Decoder) (c : Consumer) (e : String × Cred) : Prop :=
  ∃ id sub env, alGet c.submissions id = some sub ∧ alGet c.envelopes id = some env ∧
    ∃ mp ∈ sub.descriptorMap, mp.id = e.1 ∧ resolveCredential decode mp env.asInterface = .ok e.2

/-- `credentialMap` on a reachable state NEVER fails (the stored submissions re-resolve in their stored envelopes; a
    definition that is not fulfilled yet contributes nothing), for every iteration order, and every entry it returns is
    the credential a stored, validated mapping entry with that input-descriptor id resolves to in its own envelope. -/
theorem credential_map_of_reachable (cfg : Cfg) (re : Regex) (decode : Decoder) (req : Required) (c : Consumer)
    (h : Reachable cfg re decode req c) :
    ∀ (order : Required) (acc : List (String × Cred)), ∃ cm, c.credentialMap cfg decode acc order = .ok cm ∧
      ∀ e ∈ cm, e ∈ acc ∨ FromStored decode c e
  | [], acc => ⟨acc, rfl, fun e he => Or.inl he⟩
  | (o, d) :: rest, acc => by
    have inv := (consumer_invariant cfg re decode req c h).2
    unfold Consumer.credentialMap
    simp only
    cases hs : alGet c.submissions d.id with
    | none =>
      simp only [resolve]
      obtain ⟨cm, h1, h2⟩ := credential_map_of_reachable cfg re decode req c h rest (mergeCreds acc [])
      exact ⟨cm, h1, fun e he => by simpa [mergeCreds] using h2 e he⟩
    | some s =>
      obtain ⟨_, o', d', env, m, _, _, henv, hv⟩ := inv d.id s hs
      obtain ⟨actual, ha, _⟩ := validate_ok hv
      simp only [henv, ha]
      obtain ⟨cm, h1, h2⟩ := credential_map_of_reachable cfg re decode req c h rest (mergeCreds acc actual)
      refine ⟨cm, h1, fun e he => ?_⟩
      rcases h2 e he with h3 | h3
      · rcases mem_mergeCreds actual acc e h3 with h4 | h4
        · exact Or.inl h4
        · rcases resolve_mem cfg decode env.asInterface s.descriptorMap [] actual ha e h4 with h5 | ⟨mp, hmp, h6, h7⟩
          · cases h5
          · exact Or.inr ⟨d.id, s, env, hs, henv, mp, hmp, h6, h7⟩
      · exact Or.inr h3

/-- END-TO-END (what feeds the access token): every credential `credentialMap` hands to the token carries the `Raw()`
    of the credential that `Build`/`Match` select for that input descriptor of a REQUIRED definition on the stored
    envelope's own credentials — when every stored envelope meets the two conditions of `forged_mapping_rejected` (`hraw`). -/
theorem access_token_credentials_not_forged (re : Regex) (decode : Decoder) (req : Required) (c : Consumer)
    (h : Reachable Facts.C12.cfg re decode req c) (order : Required) (cm : List (String × Cred))
    (hcm : c.credentialMap Facts.C12.cfg decode [] order = .ok cm)
    (hraw : ∀ id env, alGet c.envelopes id = some env → (∀ p ∈ env.presentations, ∀ cr ∈ p, cr.raw ≠ "") ∧ env.presentations ≠ []) :
    ∀ e ∈ cm, ∃ o d env ms vcs m x, (o, d) ∈ req ∧ alGet c.envelopes d.id = some env ∧
      build Facts.C12.cfg re d env.presentations = .ok (ms, vcs) ∧ expectedMap [] ms vcs = .ok m ∧
      alGet m e.1 = some x ∧ x.raw = e.2.raw := by
  intro e he
  obtain ⟨cm', h1, h2⟩ := credential_map_of_reachable _ re decode req c h order []
  rw [hcm] at h1; injection h1 with h1; subst h1
  rcases h2 e he with h3 | ⟨id, sub, env, hs, henv, mp, hmp, hid, hres⟩
  · cases h3
  · obtain ⟨_, o, d, env', m, hreq, hdid, henv', _, hf⟩ := consumer_stored_mappings_not_forged re decode req c h id sub hs
    rw [henv] at henv'; injection henv' with henv'; subst henv'
    obtain ⟨hr, hn⟩ := hraw id env henv
    obtain ⟨ms, vcs, hb, hx, _, _, hall, _⟩ := hf hr hn
    obtain ⟨cr, x, hc, hget, hrawEq⟩ := hall mp hmp
    rw [hres] at hc; injection hc with hc; subst hc
    exact ⟨o, d, env, ms, vcs, m, x, hreq, by rw [hdid]; exact henv, hb, hx, by rw [← hid]; exact hget, hrawEq⟩

/-- a merge that succeeds found every key fresh, so it only prepended: the merged map is the new entries (last first)
    in front of the old ones -/
theorem mergeFields_spec : ∀ {curr acc r : Values}, mergeFields acc curr = some r →
    r = curr.reverse ++ acc ∧ ∀ e ∈ curr, alGet acc e.1 = none
  | [], acc, r, h => by cases h; exact ⟨rfl, fun _ he => nomatch he⟩
  | (k, v) :: rest, acc, r, h => by
    unfold mergeFields at h
    split at h
    · cases h
    · next hk =>
      have hk' : alGet acc k = none := by simpa using hk
      rw [alPut_fresh v hk'] at h
      obtain ⟨h1, h2⟩ := mergeFields_spec h
      refine ⟨by rw [h1, List.reverse_cons, List.append_assoc]; rfl, fun e he => ?_⟩
      cases he with
      | head => exact hk'
      | tail _ he' =>
        have := h2 e he'
        rw [alGet_cons] at this
        split at this
        · cases this
        · exact this

/-- every value `resolveInputDescriptorValues` returns comes from `ResolveConstraintsFields` of ONE of the definitions
    it iterates over (applied to the same credential map) — or was in the accumulator -/
theorem input_descriptor_values_source (cfg : Cfg) (re : Regex) (cm : List (String × Cred)) (order : Required) (acc vals : Values) :
    resolveInputDescriptorValues cfg re cm acc order = .ok vals →
      ∀ e ∈ vals, e ∈ acc ∨ ∃ od ∈ order, ∃ vs, resolveFields cfg re od.2 [] cm = .ok vs ∧ e ∈ vs := by
  fun_induction resolveInputDescriptorValues cfg re cm acc order with
  | case1 acc => intro h; cases h; exact fun _ he => .inl he
  | case5 acc o d rest curr hc acc' hm ih =>
    intro h e he
    rcases ih h e he with h1 | ⟨od, hod, vs, h2, h3⟩
    · rw [(mergeFields_spec hm).1, List.mem_append, List.mem_reverse] at h1
      exact h1.symm.imp_right fun h4 => ⟨(o, d), List.mem_cons_self, curr, hc, h4⟩
    · exact .inr ⟨od, List.mem_cons_of_mem _ hod, vs, h2, h3⟩
  | _ => exact fun h => nomatch h

/-- END-TO-END (access-token claims): every claim value comes, through a named constraint field of an input descriptor
    of one of the definitions, from the credential mapped to that descriptor: the value at one of the field's paths, or
    the single capture group (`field_values_faithful` lifted through the merge over definitions). -/
theorem access_token_fields_faithful (re : Regex) (cm : List (String × Cred)) (order : Required) (vals : Values)
    (h : resolveInputDescriptorValues Facts.C12.cfg re cm [] order = .ok vals) :
    ∀ e ∈ vals, ∃ od ∈ order, FieldSource re od.2 cm e := by
  intro e he
  rcases input_descriptor_values_source _ re cm order [] vals h e he with h1 | ⟨od, hod, vs, h2, h3⟩
  · cases h1
  · exact ⟨od, hod, field_values_faithful re od.2 cm vs h2 e h3⟩

/-- a field id that two definitions both map is REFUSED (no silent overwrite of a claim), whatever the two values are -/
theorem duplicate_field_refused (cfg : Cfg) (re : Regex) (cm : List (String × Cred)) (o1 o2 : Owner) (d1 d2 : PD)
    (rest : Required) (v1 v2 : Values) (k : String) (x1 x2 : Option J)
    (h1 : resolveFields cfg re d1 [] cm = .ok v1) (h2 : resolveFields cfg re d2 [] cm = .ok v2)
    (hk1 : (k, x1) ∈ v1) (hk2 : (k, x2) ∈ v2) :
    resolveInputDescriptorValues cfg re cm [] ((o1, d1) :: (o2, d2) :: rest) = .err "duplicate-field" := by
  unfold resolveInputDescriptorValues
  simp only [h1]
  cases hm : mergeFields [] v1 with
  | none => rfl
  | some acc1 =>
    simp only
    unfold resolveInputDescriptorValues
    simp only [h2]
    cases hm2 : mergeFields acc1 v2 with
    | none => rfl
    | some acc2 =>
      -- `k` came into `acc1` from `v1`, so the second merge meets it
      have hnone := (mergeFields_spec hm2).2 (k, x2) hk2
      rw [(mergeFields_spec hm).1, alGet_eq_none_iff] at hnone
      exact absurd (List.mem_map.2 ⟨(k, x1), List.mem_append_left _ (List.mem_reverse.2 hk1), rfl⟩) hnone

/-- the preference list the model walks is the one written in format.go (regenerated) -/
theorem fact_vp_format_preference : Facts.C12.vpFormatPreference = vpFormatPreference := rfl

theorem chooseVPFormat_eq_find : ∀ (prefs : List (String × String)) (sup : List String),
    chooseVPFormat prefs sup = ((prefs.find? fun kr => sup.contains kr.1).map (·.2)).getD ""
  | [], _ => rfl
  | (k, r) :: rest, sup => by
    unfold chooseVPFormat
    rw [List.find?_cons]
    cases sup.contains k with
    | true => rfl
    | false => exact chooseVPFormat_eq_find rest sup

theorem chooseVPFormat_spec (prefs : List (String × String)) (sup : List String) :
    chooseVPFormat prefs sup = "" ∨ ∃ k, (k, chooseVPFormat prefs sup) ∈ prefs ∧ k ∈ sup := by
  rw [chooseVPFormat_eq_find]
  cases h : prefs.find? fun kr => sup.contains kr.1 with
  | none => exact .inl rfl
  | some kr => exact .inr ⟨kr.1, List.mem_of_find?_eq_some h, by simpa using List.find?_some h⟩

/-- `ChooseVPFormat` returns a presentation format the wallet can produce, or "" -/
theorem choose_vp_format_range (supported : List String) :
    chooseVPFormat Facts.C12.vpFormatPreference supported ∈ ["jwt_vp", "ldp_vp", ""] := by
  rcases chooseVPFormat_spec Facts.C12.vpFormatPreference supported with h | ⟨k, h, _⟩
  · rw [h]; simp
  · rw [fact_vp_format_preference] at h ⊢
    generalize chooseVPFormat vpFormatPreference supported = r at h
    simp only [vpFormatPreference, List.mem_cons, List.not_mem_nil, or_false, Prod.mk.injEq] at h
    rcases h with ⟨_, rfl⟩ | ⟨_, rfl⟩ | ⟨_, rfl⟩ <;> simp

/-- … "" exactly if the verifier's metadata lists none of the three keys; `ldp_vp` only if it lists `ldp_vp` and neither
    JWT key -/
theorem choose_vp_format_supported (supported : List String) :
    (chooseVPFormat Facts.C12.vpFormatPreference supported = "" ↔
      (supported.contains "jwt_vp" = false ∧ supported.contains "jwt_vp_json" = false ∧ supported.contains "ldp_vp" = false)) ∧
    (chooseVPFormat Facts.C12.vpFormatPreference supported = "ldp_vp" →
      supported.contains "ldp_vp" = true ∧ supported.contains "jwt_vp" = false ∧ supported.contains "jwt_vp_json" = false) := by
  rw [fact_vp_format_preference]
  simp only [vpFormatPreference, chooseVPFormat]
  cases h1 : supported.contains "jwt_vp" <;> cases h2 : supported.contains "jwt_vp_json" <;>
    cases h3 : supported.contains "ldp_vp" <;> simp

/-! ### the source of the modelled consumer functions, statement by statement (regenerated by extract/c12consumer.go with
    go/printer; prose string literals blanked).  The model in NutsModel/C12/Consumer.lean mirrors exactly
    these statement lists: any edit of one of these functions flips the fact, the module fails, and the check reports
    (after searching for a concrete failing input with the consumer leg). -/

theorem fact_fulfill_source : Facts.C12.fulfillShape = ["definitionID := submission.DefinitionId", "var definition *PresentationDefinition", "for _, curr := range v.RequiredPresentationDefinitions { if curr.Id == definitionID { definition = &curr break } }", "if definition == nil { return fmt.Errorf(\"...\", definitionID) }", "if v.isFulfilled(definitionID) { return errors.New(\"...\") }", "_, err := submission.Validate(envelope, *definition)", "if err != nil { return fmt.Errorf(\"...\", definition.Id) }", "v.Submissions[definitionID] = submission", "v.SubmittedEnvelopes[definitionID] = envelope", "return nil"] := rfl

theorem fact_next_source : Facts.C12.nextShape = ["if def, required := v.RequiredPresentationDefinitions[pe.WalletOwnerOrganization]; required && !v.isFulfilled(def.Id) { org := pe.WalletOwnerOrganization return &org, &def }", "if def, required := v.RequiredPresentationDefinitions[pe.WalletOwnerUser]; required && !v.isFulfilled(def.Id) { user := pe.WalletOwnerUser return &user, &def }", "return nil, nil"] := rfl

theorem fact_is_fulfilled_source : Facts.C12.isFulfilledShape = ["_, fulfilled := v.Submissions[presentationDefinitionID]", "return fulfilled"] := rfl

theorem fact_credential_map_source : Facts.C12.credentialMapShape = ["credentialMap := make(map[string]vc.VerifiableCredential)", "for _, requiredDefinition := range v.RequiredPresentationDefinitions { submission := v.Submissions[requiredDefinition.Id] pexEnvelope := v.SubmittedEnvelopes[requiredDefinition.Id] currCredentialMap, err := submission.Resolve(pexEnvelope) if err != nil { return nil, err } for inputDescriptorID, cred := range currCredentialMap { credentialMap[inputDescriptorID] = cred } }", "return credentialMap, nil"] := rfl

theorem fact_new_pex_consumer_source : Facts.C12.newPEXConsumerShape = ["return &PEXConsumer{ RequiredPresentationDefinitions: requiredPresentationDefinitions, Submissions: map[string]pe.PresentationSubmission{}, SubmittedEnvelopes: map[string]pe.Envelope{}, }"] := rfl

theorem fact_resolve_input_descriptor_values_source : Facts.C12.resolveInputDescriptorValuesShape = ["fieldsMap := make(map[string]any)", "for _, definition := range presentationDefinitions { currFields, err := definition.ResolveConstraintsFields(credentialMap) if err != nil { return nil, oauth.OAuth2Error{ Code: oauth.ServerError, Description: \"...\", InternalError: err, } } for k, v := range currFields { if _, exists := fieldsMap[k]; exists { return nil, oauth.OAuth2Error{ Code: oauth.ServerError, Description: \"...\", } } fieldsMap[k] = v } }", "return fieldsMap, nil"] := rfl

theorem fact_vp_format_default : Facts.C12.vpFormatDefault = "" := rfl

/-! ### non-vacuity: a concrete session (the demo definition of Props/C12.lean) -/

def demoReq : Required := [(.organization, { demoPD with id := "pd-org" }), (.user, { demoPD with id := "pd-user" })]
def demoSubmission (id : String) : Submission := { definitionId := id, descriptorMap := demoSub }
def demoC1 : Consumer :=
  match (newPEXConsumer demoReq).fulfill Cfg.fixed reDemo demoDecode demoReq (demoSubmission "pd-org") demoEnv with
  | .ok c => c
  | _ => {}

example : ((newPEXConsumer demoReq).fulfill Cfg.fixed reDemo demoDecode demoReq (demoSubmission "pd-org") demoEnv).isOk = true := by decide +kernel
example : ((newPEXConsumer demoReq).fulfill Cfg.fixed reDemo demoDecode demoReq (demoSubmission "pd-x") demoEnv).cls = "err:not-required" := by decide
example : ((newPEXConsumer demoReq).fulfill Cfg.fixed reDemo demoDecode demoReq
    { definitionId := "pd-org", descriptorMap := demoSub ++ demoSub } demoEnv).cls = "err:validate" := by decide +kernel
example : (demoC1.fulfill Cfg.fixed reDemo demoDecode demoReq.reverse (demoSubmission "pd-org") demoEnv).cls = "err:already" := by decide +kernel
example : (newPEXConsumer demoReq).next.map (·.1) = some .organization := by decide
example : demoC1.next.map (·.1) = some .user := by decide +kernel
example : Reachable Cfg.fixed reDemo demoDecode demoReq demoC1 :=
  .step .init (fun _ h => h) (c := newPEXConsumer demoReq) (order := demoReq) (sub := demoSubmission "pd-org") (env := demoEnv) rfl
example : (match demoC1.credentialMap Cfg.fixed demoDecode [] demoReq with | .ok cm => cm.map (fun e => (e.1, e.2.name)) | _ => []) = [("d1", "c0")] := by decide +kernel
example : (resolveInputDescriptorValues Cfg.fixed reDemo [("d1", demoCred)] [] [demoReq.head!]).isOk = true := by decide +kernel
example : chooseVPFormat vpFormatPreference ["ldp_vp", "jwt_vp_json"] = "jwt_vp" := by decide
example : chooseVPFormat vpFormatPreference ["ldp_vc"] = "" := by decide

end Nuts.C12.Props
