/-
  C20 — strict mode refuses every insecure configuration it documents.
  Model: NutsModel/C20/{Strict,Outbound,Sources,Engines}.lean (+ the C18 models of net/url and http/client).
  Facts: NutsModel/Facts/C20.lean is REGENERATED from /repo on every run.
-/
import NutsModel.C20.Strict
import NutsModel.Facts.C20
import NutsProofs.Lemmas.C20
import NutsProofs.Lemmas.C18Origin
import NutsModel.C20.Outbound
import NutsModel.C20.Sources
import NutsModel.C20.Engines
import NutsProofs.Lemmas.C20Sources
import NutsProofs.Lemmas.C20Outbound

namespace Nuts.C20.Props
open Nuts Nuts.C18 Nuts.C20

abbrev tlds := Facts.C20.reservedTLDs
abbrev l2s := Facts.C20.reservedAddresses

/-- strict mode is the default -/
theorem fact_default_strict : Facts.C20.defaultStrictmode = true := rfl

/-- `ParsePublicURL`: lenient = http or https, reserved names allowed; strict = https only, nothing reserved; and the
    order of the checks in `ParsePublicURLWithScheme` -/
theorem fact_parse_public_url :
    Facts.C20.parsePublicURLBody = ["if !strictmode", "return ParsePublicURLWithScheme(input, true, \"http\", \"https\")",
      "return ParsePublicURLWithScheme(input, false, \"https\")"] ∧
    Facts.C20.parsePublicURLChecks = ["err != nil", "parsed.Scheme == \"\" || parsed.Hostname() == \"\"",
      "len(allowedSchemes) > 0 && !slices.Contains(allowedSchemes, parsed.Scheme)",
      "net.ParseIP(parsed.Hostname()) != nil && !allowReserved", "!allowReserved && isReserved(parsed)"] := ⟨rfl, rfl⟩

/-- the reserved names contain the RFC 2606 / RFC 6762 classics (the model takes the whole regenerated lists) -/
theorem fact_reserved_lists :
    (∀ t ∈ [[], [108, 111, 99, 97, 108, 104, 111, 115, 116], [108, 111, 99, 97, 108], [116, 101, 115, 116],
             [101, 120, 97, 109, 112, 108, 101], [105, 110, 118, 97, 108, 105, 100]], t ∈ tlds) ∧      -- "", localhost, local, test, example, invalid
    [101, 120, 97, 109, 112, 108, 101, 46, 99, 111, 109] ∈ l2s := by decide                             -- example.com

/-- the empty TLD entry is what makes hosts written with a trailing (root) dot reserved: `localhost.`, `1.2.3.4.` and
    `nuts.nl.` are refused in strict mode although `net.ParseIP` / the name lists do not match them -/
example : isReserved tlds l2s [108, 111, 99, 97, 108, 104, 111, 115, 116, 46] = .ok true ∧
    isReserved tlds l2s [49, 46, 50, 46, 51, 46, 52, 46] = .ok true ∧ isIP [49, 46, 50, 46, 51, 46, 52, 46] = false ∧
    parsePublicURL tlds l2s [104, 116, 116, 112, 115, 58, 47, 47, 49, 46, 50, 46, 51, 46, 52, 46] true = .err "reserved" ∧   -- https://1.2.3.4.
    parsePublicURL tlds l2s [104, 116, 116, 112, 115, 58, 47, 47, 110, 117, 116, 115, 46, 110, 108, 46] true = .err "reserved" := by   -- https://nuts.nl.
  decide +kernel

/-- moved keys stop `Load`, whatever the mode (no strict-mode operand in the condition) -/
theorem fact_moved_keys : Facts.C20.loadConds.head? =
    some "ngc.LegacyTLS.TrustStoreFile != \"\" || ngc.LegacyTLS.CertKeyFile != \"\" || ngc.LegacyTLS.CertFile != \"\"" := rfl

/-- the command-line secret rule: flag name ends in `token` or `password`, and the flag was set -/
theorem fact_secret_flag_rule : Facts.C20.secretFlagConds.take 2 =
    ["strings.HasSuffix(flag.Name, \"token\") || strings.HasSuffix(flag.Name, \"password\")", "flag.Changed"] := rfl

/-- the strict-mode condition of every engine -/
theorem fact_engine_conditions :
    Facts.C20.strictCondsCrypto = ["Configure: config.Strictmode"] ∧
    Facts.C20.cryptoStorageCases = ["fs.StorageType", "vault.StorageType", "azure.StorageType", "external.StorageType", "\"\"", "default"] ∧
    Facts.C20.strictCondsStorage = ["initSQLDatabase: strictmode"] ∧
    Facts.C20.strictCondsNetwork.head? = some "Configure: config.Strictmode" ∧
    Facts.C20.strictCondsAuth = ["Configure: config.Strictmode && auth.config.Irma.SchemeManager != \"pbdf\""] ∧
    Facts.C20.strictCondsNotary = ["Configure: n.config.hasContractValidator(dummy.ContractFormat) && !n.config.StrictMode"] ∧
    Facts.C20.jsonldLoaderCalls = ["NewContextLoader(!serverConfig.Strictmode, j.config.Contexts)"] ∧
    Facts.C20.clientStrictAssignments = ["serverConfig.Strictmode"] := by and_intros <;> rfl

/-- every `http.Client` of http/client refuses non-https redirects in strict mode; `Do` refuses a non-https first request -/
theorem fact_http_client :
    Facts.C20.clientCheckRedirects = ["checkRedirect", "checkRedirect", "checkRedirect"] ∧
    Facts.C20.strictCondsHTTPClient = ["checkRedirect: StrictMode && req.URL.Scheme != \"https\"", "Do: StrictMode && req.URL.Scheme != \"https\""] ∧
    Facts.C20.checkRedirectConds = ["StrictMode && req.URL.Scheme != \"https\"", "len(via) >= maxRedirects"] ∧
    Facts.C20.maxRedirectsConst = some 10 := by and_intros <;> rfl

/-- `auth.Configure` hands the configured strict mode to the IAM client (`auth.strictMode`, passed to `iam.NewClient`) -/
theorem fact_iam_strictmode : Facts.C20.authStrictModeAssignments = ["config.Strictmode"] ∧
    Facts.C20.iamNewClientArgs.contains "auth.strictMode" = true := ⟨rfl, by simp [Facts.C20.iamNewClientArgs]⟩

/-- `client.StrictMode = serverConfig.Strictmode` is unconditional: a top-level statement with no `return` before it, in a
    function the HTTP engine's `Configure` calls first thing — no other option (cache size, …) can skip it; the model's
    `Running.clientStrict` therefore depends on `strict` alone -/
theorem fact_client_strict_unconditional : Facts.C20.clientStrictAssignmentUnconditional = true ∧
    Facts.C20.clientStrictAssignments = ["serverConfig.Strictmode"] := ⟨rfl, rfl⟩

/-- the redirect check is one package-level function that reads `client.StrictMode` when a redirect arrives — not a
    value captured when the client was built (clients are built before the HTTP engine, configured last, sets the flag) -/
theorem fact_redirect_check_reads_global : Facts.C20.checkRedirectReadsGlobalAtCallTime = true := rfl

/-- inventory: the only places outside http/client that build a raw net/http client (CLI client, `status` command,
    external key-store API, PKI CRL / deny-list download); every other outbound HTTP user goes through the three
    http/client constructors (whose users are listed). A new raw client anywhere in the node flips this fact. -/
theorem fact_outbound_inventory :
    Facts.C20.rawHTTPClientSites = ["core/http_client.go:http.Client{}", "core/status/cmd.go:http.Get",
      "crypto/storage/external/client.go:http.Client{}", "pki/denylist.go:http.Client{}", "pki/validator.go:http.Client{}"] ∧
    Facts.C20.strictClientUsers = ["auth/client/iam/openid4vp.go:client.NewWithCache", "discovery/api/server/client/http.go:client.New",
      "discovery/module.go:client.New", "vcr/openid4vci/identifiers.go:client.NewWithTLSConfig", "vcr/vcr.go:client.NewWithCache",
      "vcr/vcr.go:client.NewWithTLSConfig", "vcr/vcr.go:client.NewWithTLSConfig", "vdr/didweb/web.go:client.NewWithCache"] := ⟨rfl, rfl⟩

/-- IAM client: the functions that validate an endpoint URL (`core.ParsePublicURL` / `oauth.IssuerIdToWellKnown`); the request
    builders that do not validate themselves are the two shared helpers -/
theorem fact_iam_call_sites :
    Facts.C20.iamURLCheckers = ["OAuthAuthorizationServerMetadata", "ClientMetadata", "OpenIdCredentialIssuerMetadata", "OpenIDConfiguration",
      "VerifiableCredentials", "PostError", "PostAuthorizationResponse", "PresentationDefinition", "RequestObjectByGet", "RequestObjectByPost", "AccessToken",
      "RequestRFC021AccessToken"] ∧
    Facts.C20.iamRequestBuilders.filter (fun f => !Facts.C20.iamURLCheckers.contains f) =
      ["postFormExpectRedirect", "doGet"] := ⟨rfl, by decide +kernel⟩

/-- inventory of the IAM client's exported methods: every OpenID4VP-client method that takes an endpoint validates it
    UNCONDITIONALLY (top-level statement before any branch) or hands it to an inner method that does; the inner methods
    without a check of their own are only reached through checking outer methods -/
theorem fact_iam_method_inventory : Facts.C20.iamMethodInventory =
    ["http.OAuthAuthorizationServerMetadata:unconditional", "http.ClientMetadata:unconditional", "http.PresentationDefinition:none",
     "http.RequestObjectByGet:none", "http.RequestObjectByPost:none", "http.AccessToken:none", "http.PostError:none",
     "http.PostAuthorizationResponse:none", "http.OpenIdCredentialIssuerMetadata:unconditional", "http.OpenIDConfiguration:unconditional",
     "http.KeyProvider:none", "http.VerifiableCredentials:unconditional",
     "vp.ClientMetadata:delegates:ClientMetadata", "vp.PostError:unconditional", "vp.PostAuthorizationResponse:unconditional",
     "vp.PresentationDefinition:unconditional", "vp.AuthorizationServerMetadata:delegates:OAuthAuthorizationServerMetadata",
     "vp.OpenIDConfiguration:delegates:OpenIDConfiguration", "vp.RequestObjectByGet:unconditional", "vp.RequestObjectByPost:unconditional",
     "vp.AccessToken:unconditional", "vp.RequestRFC021AccessToken:unconditional",
     "vp.OpenIdCredentialIssuerMetadata:delegates:OpenIdCredentialIssuerMetadata", "vp.VerifiableCredentials:delegates:VerifiableCredentials"] := rfl

/-- the same secret-flag rule guards both configuration loaders (server and CLI client); the dummy means refuses every
    operation in strict mode; IRMA's production mode is the node's strict mode -/
theorem fact_misc_sites :
    Facts.C20.flagSetLoaders = ["core/client_config.go", "core/server_config.go"] ∧
    Facts.C20.strictCondsDummy = ["VerifyVP: d.InStrictMode", "SigningSessionStatus: d.InStrictMode", "StartSigningSession: d.InStrictMode"] ∧
    Facts.C20.irmaProductionExprs = ["n.config.StrictMode"] := ⟨rfl, rfl, rfl⟩

/-- the strict-mode context filter compares with `==`; the notary matches validator names with `strings.EqualFold`,
    never rewrites the configured list, and registers the dummy means only under `… && !StrictMode` (fact_engine_conditions) -/
theorem fact_filter_and_validator_comparisons :
    Facts.C20.contextFilterConds = ["allowedURL == u"] ∧
    Facts.C20.hasContractValidatorConds = ["strings.EqualFold(cv, curr)"] ∧
    Facts.C20.notaryValidatorListRewrites = [] := ⟨rfl, rfl, rfl⟩

/-- engines are configured in this relative order (the model's `start` follows it) -/
theorem fact_engine_order :
    Facts.C20.engineOrder.filter (fun e => ["storageInstance", "cryptoInstance", "vdrInstance", "networkInstance", "authInstance", "httpServerInstance"].contains e) =
      ["storageInstance", "cryptoInstance", "vdrInstance", "networkInstance", "authInstance", "httpServerInstance"] := by decide +kernel

/-- exactly these registered flags fall under the secret rule … -/
theorem fact_secret_flags : Facts.C20.registeredFlagsB.filter isSecretFlag =
    [[99, 114, 121, 112, 116, 111, 46, 118, 97, 117, 108, 116, 46, 116, 111, 107, 101, 110],                                  -- crypto.vault.token
     [115, 116, 111, 114, 97, 103, 101, 46, 114, 101, 100, 105, 115, 46, 112, 97, 115, 115, 119, 111, 114, 100],              -- storage.redis.password
     [115, 116, 111, 114, 97, 103, 101, 46, 114, 101, 100, 105, 115, 46, 115, 101, 110, 116, 105, 110, 101, 108, 46, 112, 97, 115, 115, 119, 111, 114, 100],   -- storage.redis.sentinel.password
     [115, 116, 111, 114, 97, 103, 101, 46, 115, 101, 115, 115, 105, 111, 110, 46, 114, 101, 100, 105, 115, 46, 112, 97, 115, 115, 119, 111, 114, 100]]        -- storage.session.redis.password
    := by decide +kernel

/-- … every flag name was resolved by the extractor (no `?` entries) -/
theorem fact_flags_resolved : Facts.C20.registeredFlagsB.all (fun f => f.head? ≠ some 63) = true := by decide

/-- stated limit (not claimed): the code's own list of redacted (secret) keys; `storage.sql.connection` — a DSN that can
    carry a password — is redacted when the configuration is printed but is NOT covered by the command-line rule -/
theorem fact_redacted_keys : Facts.C20.redactedConfigKeys =
    ["crypto.vault.token", "storage.redis.password", "storage.redis.sentinel.password", "storage.sql.connection"] := rfl

def secureCfg : Config :=
  { strict := true, url := [104, 116, 116, 112, 115, 58, 47, 47, 110, 117, 116, 115, 46, 110, 108], tls := true, nuts := true, web := true,
    cryptoStorage := .explicit, sqlExplicit := true, dummy := true, irmaPbdf := true, movedKey := false }
def sloppyCfg : Config :=
  { strict := false, url := [104, 116, 116, 112, 58, 47, 47, 49, 46, 50, 46, 51, 46, 52], tls := false, nuts := true, web := true,
    cryptoStorage := .implicit, sqlExplicit := false, dummy := true, irmaPbdf := false, movedKey := false }

/-! ### strict mode refuses every documented insecure setting, whatever the other options are -/

/-- **strict_refuses.** With strict mode on, each documented insecure setting — public URL not https / an IP address / a
    reserved host, network TLS off (network enabled), implicit key storage, implicit SQL database, non-production IRMA
    scheme — makes start-up fail, for EVERY value of all the other options (including arbitrary URL bytes, moved keys,
    command-line flags): no combination masks the refusal. -/
theorem strict_refuses (c : Config) (hs : c.strict = true) (i : Insecure) (hi : hasInsecure tlds l2s i c = true) :
    (start tlds l2s c).isRefuse = true :=
  strict_refuses_aux tlds l2s c hs i hi

/-- **the strict-mode decision table.** For every well-formed configuration (URL parses with scheme and host, a DID method
    enabled, known crypto backend or none, no moved keys / command-line secrets) strict-mode start-up is exactly this
    decision list over the seven insecure settings: refused iff at least one is present, with the first one's reason. -/
theorem strict_decision_table (c : Config) (hs : c.strict = true)
    (hf : c.cliFlags.any isSecretFlag = false) (hk : c.movedKey = false) (hc : c.cryptoStorage ≠ .invalid)
    (hm : c.nuts = true ∨ c.web = true)
    (hu : c.url ≠ [] ∧ ∃ u, parseURL c.url = .ok u ∧ u.scheme ≠ [] ∧ hostname u.host ≠ []) :
    start tlds l2s c =
      if hasInsecure tlds l2s .sqlImplicit c then .refuse "storage" "sql-implicit" else
      if hasInsecure tlds l2s .cryptoImplicit c then .refuse "crypto" "crypto-implicit" else
      if hasInsecure tlds l2s .urlNotHttps c then .refuse "vdr" "url:scheme" else
      if hasInsecure tlds l2s .urlIP c then .refuse "vdr" "url:ip" else
      if hasInsecure tlds l2s .urlReserved c then .refuse "vdr" "url:reserved" else
      if hasInsecure tlds l2s .tlsOff c then .refuse "network" "tls-off" else
      if hasInsecure tlds l2s .irmaNonProduction c then .refuse "auth" "irma-scheme" else
      .ok { dummyMeans := false, unlistedRemoteContexts := false, clientStrict := true } :=
  start_strict_formula tlds l2s c hs hf hk hc hm hu

/-- … and when the setting is the ONLY reason to refuse, the node says so: the reason is the documented one -/
theorem strict_refuses_with_reason (c : Config) (hs : c.strict = true) (i : Insecure)
    (hi : hasInsecure tlds l2s i c = true) (honly : ∀ j, j ≠ i → hasInsecure tlds l2s j c = false)
    (hf : c.cliFlags.any isSecretFlag = false) (hk : c.movedKey = false) (hc : c.cryptoStorage ≠ .invalid)
    (hm : c.nuts = true ∨ c.web = true)
    (hu : c.url ≠ [] ∧ ∃ u, parseURL c.url = .ok u ∧ u.scheme ≠ [] ∧ hostname u.host ≠ []) :
    ∃ e, start tlds l2s c = .refuse e (reasonOf i) := by
  rw [strict_decision_table c hs hf hk hc hm hu]
  cases i <;> simp [hi, honly, reasonOf]

/-- per-action settings in strict mode: a node that did start has no dummy signing means, fetches no JSON-LD context
    outside the allow-list, and its HTTP clients are in strict mode -/
theorem strict_running (c : Config) (hs : c.strict = true) (r : Running) (h : start tlds l2s c = .ok r) :
    r.dummyMeans = false ∧ r.unlistedRemoteContexts = false ∧ r.clientStrict = true := by
  have := ((start_eq_ok tlds l2s c r).mp h).2.2.2.2.2.2
  subst this; simp [hs]

/-- interpretation made explicit: with `didmethods` lacking `nuts` the network engine is disabled and "TLS off" is not
    an insecure setting of that configuration (there is no network TLS to switch off) -/
theorem tls_off_network_disabled (c : Config) (hn : c.nuts = false) :
    networkConfigure c = none ∧ hasInsecure tlds l2s .tlsOff c = false := by
  simp [networkConfigure, hasInsecure, hn]

/-! ### … and accepts them with strict mode off -/

/-- **lenient_accepts.** With strict mode off, ANY combination of the insecure settings is accepted: the node starts
    provided only that the configuration is well-formed (URL parses as http/https with a host, a DID method is enabled,
    crypto.storage is a known backend or empty, no moved keys / command-line secrets) — plain http, IP addresses,
    reserved hosts, TLS off, implicit storage, dummy means and a demo IRMA scheme included. -/
theorem lenient_accepts (c : Config) (hs : c.strict = false) (h : Bytes)
    (hu : c.url ≠ [] ∧ parsePublicURL tlds l2s c.url false = .ok h) (hm : c.nuts = true ∨ c.web = true)
    (hc : c.cryptoStorage ≠ .invalid) (hk : c.movedKey = false) (hf : c.cliFlags.any isSecretFlag = false) :
    start tlds l2s c = .ok { dummyMeans := c.dummy, unlistedRemoteContexts := true, clientStrict := false } :=
  lenient_accepts_aux tlds l2s c hs h hu hm hc hk hf

/-- lenient URL parsing accepts what strict mode refuses: http, an IP address, localhost -/
example : parsePublicURL tlds l2s [104, 116, 116, 112, 58, 47, 47, 110, 117, 116, 115, 46, 110, 108] false = .ok [110, 117, 116, 115, 46, 110, 108] ∧   -- http://nuts.nl
    parsePublicURL tlds l2s [104, 116, 116, 112, 58, 47, 47, 110, 117, 116, 115, 46, 110, 108] true = .err "scheme" ∧
    parsePublicURL tlds l2s [104, 116, 116, 112, 115, 58, 47, 47, 49, 46, 50, 46, 51, 46, 52] false = .ok [49, 46, 50, 46, 51, 46, 52] ∧                    -- https://1.2.3.4
    parsePublicURL tlds l2s [104, 116, 116, 112, 115, 58, 47, 47, 49, 46, 50, 46, 51, 46, 52] true = .err "ip" ∧
    parsePublicURL tlds l2s [104, 116, 116, 112, 115, 58, 47, 47, 108, 111, 99, 97, 108, 104, 111, 115, 116] true = .err "reserved" ∧                       -- https://localhost
    parsePublicURL tlds l2s [104, 116, 116, 112, 115, 58, 47, 47, 110, 117, 116, 115, 46, 110, 108] true = .ok [110, 117, 116, 115, 46, 110, 108] := by      -- https://nuts.nl
  decide +kernel

/-- non-vacuity: a fully secure strict configuration starts; the same with one insecure setting does not; the all-insecure
    configuration starts with strict mode off -/
example : start tlds l2s secureCfg = .ok { dummyMeans := false, unlistedRemoteContexts := false, clientStrict := true } ∧
    start tlds l2s { secureCfg with tls := false } = .refuse "network" "tls-off" ∧
    start tlds l2s { secureCfg with sqlExplicit := false } = .refuse "storage" "sql-implicit" ∧
    start tlds l2s sloppyCfg = .ok { dummyMeans := true, unlistedRemoteContexts := true, clientStrict := false } ∧
    start tlds l2s { sloppyCfg with strict := true } = .refuse "storage" "sql-implicit" := by
  decide +kernel

/-! ### remote JSON-LD contexts and test-only means, in detail -/

/-- **remote_contexts_exact.** In strict mode a context URL that is not, byte for byte, an entry of the allow-list never
    gets past the filter (so it is never fetched) — for every allow-list and every URL; with strict mode off every URL passes. -/
theorem remote_contexts_exact (allow : List Bytes) (u : Bytes) :
    (u ∉ allow → contextPasses true allow u = false) ∧ (u ∈ allow → contextPasses true allow u = true) ∧
    contextPasses false allow u = true := by
  refine ⟨?_, ?_, ?_⟩ <;> simp [contextPasses]

/-- why the comparison is a regenerated fact: under a prefix rule `https://schema.org.attacker.example/ctx` would pass a list that
    contains `https://schema.org`, under equality it does not -/
theorem remote_context_prefix_witness :
    let allow : List Bytes := [[104, 116, 116, 112, 115, 58, 47, 47, 115, 99, 104, 101, 109, 97, 46, 111, 114, 103]]            -- https://schema.org
    let u : Bytes := [104, 116, 116, 112, 115, 58, 47, 47, 115, 99, 104, 101, 109, 97, 46, 111, 114, 103, 46, 97, 116, 116, 97, 99, 107, 101, 114,
                      46, 101, 120, 97, 109, 112, 108, 101, 47, 99, 116, 120]                                                    -- https://schema.org.attacker.example/ctx
    contextPassesPrefix allow u = true ∧ contextPasses true allow u = false := by decide

/-- the dummy means is recognised whatever the case of the configured name (witnesses `DUMMY`, `Dummy`), and a strict node does not
    offer it -/
theorem dummy_any_spelling (c : Config) (hs : c.strict = true) (r : Running) (h : start tlds l2s c = .ok r) :
    r.dummyMeans = false ∧
    hasValidator [100, 117, 109, 109, 121] [[68, 85, 77, 77, 89]] = true ∧ hasValidator [100, 117, 109, 109, 121] [[68, 117, 109, 109, 121]] = true := by
  refine ⟨(strict_running c hs r h).1, by decide, by decide⟩

/-! ### moved keys and command-line secrets: either mode -/

/-- **moved_keys_refused.** A moved key stops start-up in either mode, before any engine is configured -/
theorem moved_keys_refused (c : Config) (hk : c.movedKey = true) :
    start tlds l2s c = .refuse "load" "moved-keys" ∨ start tlds l2s c = .refuse "load" "cli-secret" := by
  rw [start_steps]
  fun_cases load c with
  | case1 => exact .inr rfl
  | case2 => exact .inl rfl
  | case3 _ h => exact absurd hk h

/-- **cli_secrets_refused.** Any flag under the secret rule set on the command line stops start-up in either mode -/
theorem cli_secrets_refused (c : Config) (f : Bytes) (hf : f ∈ c.cliFlags) (hsec : isSecretFlag f = true) :
    start tlds l2s c = .refuse "load" "cli-secret" :=
  start_of_load (load_eq_cli_secret.mpr (List.any_eq_true.mpr ⟨f, hf, hsec⟩))

/-- non-vacuity: the strict and the lenient node both refuse `--crypto.vault.token` and a moved key -/
example : start tlds l2s { secureCfg with cliFlags := [[99, 114, 121, 112, 116, 111, 46, 118, 97, 117, 108, 116, 46, 116, 111, 107, 101, 110]] }
      = .refuse "load" "cli-secret" ∧
    start tlds l2s { sloppyCfg with movedKey := true } = .refuse "load" "moved-keys" := by
  decide

/-! ### outbound requests -/

/-- **outbound_https_only.** In strict mode every request a http/client client makes — the first one and every redirect
    hop, whatever the servers answer — is https (policy read off the regenerated facts) -/
theorem outbound_https_only (srv : Nat → Req → Option Resp) (first : Req) :
    ∀ r ∈ (strictDo (clientPolicy true 10) true srv first).1, r.scheme = sHttps := by
  by_cases hf : first.scheme = sHttps
  · exact strictDo_reqs _ true srv first _ hf (fun nxt n h => checkRedirect_strictHttps (by rfl) h)
  · intro r hr
    simp [strictDo, hf] at hr

/-- a client built by an engine BEFORE strict mode was switched on (real start-up order) is strict once the node runs:
    it does not follow https -> http; with the flag captured at construction it would (the reason the fact matters) -/
theorem early_client_strict (c : Config) (hs : c.strict = true) :
    earlyClientFollowsHttp Facts.C20.checkRedirectReadsGlobalAtCallTime c = false ∧ earlyClientFollowsHttp false c = true := by
  simp [earlyClientFollowsHttp, hs, fact_redirect_check_reads_global]

/-- **IAM endpoints.** On a strict node the IAM client refuses — as an endpoint, before any request — every endpoint URL
    that is not https, names an IP address or a reserved host (all URL bytes) -/
theorem iam_endpoints_strict (c : Config) (hs : c.strict = true) (endpoint : Bytes) (u : URL) (hp : parseURL endpoint = .ok u)
    (hbad : u.scheme ≠ sHttpsB ∨ isIP (hostname u.host) = true ∨ isReserved tlds l2s (hostname u.host) = .ok true) :
    iamEndpoint tlds l2s (Facts.C20.authStrictModeAssignments == ["config.Strictmode"]) c endpoint = "refused-endpoint" := by
  obtain ⟨e, he⟩ := parsePublicURL_strict_err tlds l2s endpoint u hp hbad
  have : iamStrict (Facts.C20.authStrictModeAssignments == ["config.Strictmode"]) c = true := by
    have h := fact_iam_strictmode.1
    simp [iamStrict, hs, h]
  simp [iamEndpoint, this, he]

/-- every outbound call of the IAM client on a strict node: an endpoint that is not https, names an IP address or a
    reserved host is refused as an endpoint, whatever the method (checked per the inventory), before any request -/
theorem iam_calls_strict (c : Config) (hs : c.strict = true) (needsSubject : Bool) (endpoint : Bytes) (u : URL)
    (hp : parseURL endpoint = .ok u)
    (hbad : u.scheme ≠ sHttpsB ∨ isIP (hostname u.host) = true ∨ isReserved tlds l2s (hostname u.host) = .ok true) :
    iamCall tlds l2s (Facts.C20.authStrictModeAssignments == ["config.Strictmode"]) c true needsSubject endpoint = "refused-endpoint" := by
  have h := iam_endpoints_strict c hs endpoint u hp hbad
  unfold iamCall
  simp only [Bool.and_true, h]
  simp

/-- without the assignment (the code before the repair) the check ran lenient: an https://127.0.0.1 endpoint was contacted
    by a strict node, and a plain-http endpoint was stopped only by the HTTP client -/
theorem iam_endpoint_witness :
    iamEndpoint tlds l2s false secureCfg [104, 116, 116, 112, 115, 58, 47, 47, 49, 50, 55, 46, 48, 46, 48, 46, 49, 47] = "sent" ∧      -- https://127.0.0.1/
    iamEndpoint tlds l2s false secureCfg [104, 116, 116, 112, 58, 47, 47, 99, 47] = "refused-client" ∧                                   -- http://c/
    iamEndpoint tlds l2s true secureCfg [104, 116, 116, 112, 115, 58, 47, 47, 49, 50, 55, 46, 48, 46, 48, 46, 49, 47] = "refused-endpoint" := by
  decide +kernel

/-- with strict mode off the same client does follow a redirect to plain http (lenient accepts) -/
theorem lenient_follows_http :
    let srv : Nat → Req → Option Resp := fun hop _ =>
      if hop = 0 then some { status := 302, loc := [104, 116, 116, 112, 58, 47, 47, 98, 47] } else some { status := 200 }   -- http://b/
    ∃ r ∈ (strictDo (clientPolicy true 10) false srv { scheme := sHttps, host := [97], path := [47] }).1, r.scheme = sHttp := by
  refine ⟨{ scheme := sHttp, host := [98], path := [47] }, ?_, rfl⟩
  decide

/-! ### each refusal depends only on its own options -/

/-- no option of another engine can change an engine's verdict -/
theorem refusals_independent (c c' : Config) (hs : c.strict = c'.strict) :
    (c.sqlExplicit = c'.sqlExplicit → storageConfigure c = storageConfigure c') ∧
    (c.cryptoStorage = c'.cryptoStorage → cryptoConfigure c = cryptoConfigure c') ∧
    (c.url = c'.url → c.nuts = c'.nuts → c.web = c'.web → vdrConfigure tlds l2s c = vdrConfigure tlds l2s c') ∧
    (c.tls = c'.tls → c.nuts = c'.nuts → networkConfigure c = networkConfigure c') ∧
    (c.irmaPbdf = c'.irmaPbdf → authConfigure c = authConfigure c') := by
  refine ⟨?_, ?_, ?_, ?_, ?_⟩
  · intro h; simp [storageConfigure, hs, h]
  · intro h; simp [cryptoConfigure, hs, h]
  · intro h1 h2 h3; simp [vdrConfigure, hs, h1, h2, h3]
  · intro h1 h2; simp [networkConfigure, hs, h1, h2]
  · intro h; simp [authConfigure, hs, h]

/-! ### the response cap of http/client (byte level; model NutsModel/C20/Outbound.lean) -/

/-- the cap, the reader limit and the size comparison are REGENERATED as Lean definitions from `limitedReadAll`; `Do`
    reads the final body through it and hands out the bytes read -/
theorem fact_response_cap :
    Facts.C20.maxResponseSize = 1048576 ∧ Facts.C20.responseReadLimit = Facts.C20.maxResponseSize + 1 ∧
    (∀ n, Facts.C20.responseTooLarge n = decide (n > Facts.C20.maxResponseSize)) ∧
    Facts.C20.limitedReadAllShape =
      ["result, err := io.ReadAll(io.LimitReader(reader, DefaultMaxHttpResponseSize+1))", "if len(result) > DefaultMaxHttpResponseSize {",
       "return nil, fmt.Errorf(\"data to read exceeds max. safety limit of %d bytes\", DefaultMaxHttpResponseSize)", "}", "return result, err"] ∧
    Facts.C20.clientDoShape =
      ["if StrictMode && req.URL.Scheme != \"https\" {", "return nil, errors.New(\"strictmode is enabled, but request is not over HTTPS\")", "}",
       "req.Header.Set(\"User-Agent\", core.UserAgent())", "result, err := s.client.Do(req)", "if err != nil {", "return nil, err", "}",
       "if result.Body != nil {", "body, err := limitedReadAll(result.Body)", "if err != nil {", "return nil, err", "}",
       "result.Body = io.NopCloser(bytes.NewReader(body))", "}", "return result, nil"] :=
  ⟨rfl, rfl, fun _ => rfl, rfl, rfl⟩

theorem facts_cap_params : Facts.C20.responseReadLimit = 1048576 + 1 ∧ Facts.C20.responseTooLarge = fun n => decide (n > 1048576) :=
  ⟨by decide, by funext n; simp [Facts.C20.responseTooLarge, Facts.C20.maxResponseSize]⟩

/-- **response_cap_exact.** `limitedReadAll` with the regenerated cap / limit / comparison, for EVERY body the server sends:
    a body of at most 1 MiB is handed out complete, a longer one is an error — never a silently truncated body -/
theorem response_cap_exact (wire : Bytes) :
    limitedReadAll Facts.C20.responseReadLimit Facts.C20.responseTooLarge wire =
      if wire.length ≤ 1048576 then .ok wire else .err "http:toolarge" := by
  rw [facts_cap_params.1, facts_cap_params.2]; exact limitedReadAll_exact 1048576 wire

theorem response_never_truncated (wire r : Bytes)
    (h : limitedReadAll Facts.C20.responseReadLimit Facts.C20.responseTooLarge wire = .ok r) : r = wire ∧ r.length ≤ 1048576 := by
  rw [response_cap_exact] at h
  by_cases hl : wire.length ≤ 1048576
  · simp [hl] at h; subst h; exact ⟨rfl, hl⟩
  · simp [hl] at h

example : limitedReadAll Facts.C20.responseReadLimit Facts.C20.responseTooLarge [1, 2, 3] = .ok [1, 2, 3] := by
  rw [response_cap_exact]; rfl

/-- why the reader limit must be cap + 1: with `LimitReader(reader, cap)` a body one byte over the cap would be handed
    out truncated and WITHOUT an error (witness with cap = 2) -/
theorem reader_limit_witness :
    limitedReadAll 2 (fun n => decide (n > 2)) [1, 2, 3] = .ok [1, 2] ∧
    limitedReadAll (2 + 1) (fun n => decide (n > 2)) [1, 2, 3] = .err "http:toolarge" := by decide

/-- **do_bytes_refines.** The byte-level `Do` (regenerated cap) refines C18's abstract `strictDo`: same requests, and the
    outcome is the abstract outcome where "body above 1 MiB" is C18's `Body.big` — for every policy, mode, server and request -/
theorem do_bytes_refines (pol : Policy) (strict : Bool) (srv : Nat → Req → Option (Resp × Bytes)) (req : Req) :
    strictDo pol strict (absSrv 1048576 srv) req =
      ((strictDoBytes pol strict Facts.C20.responseReadLimit Facts.C20.responseTooLarge srv req).1,
       absRes 1048576 (strictDoBytes pol strict Facts.C20.responseReadLimit Facts.C20.responseTooLarge srv req).2) := by
  rw [facts_cap_params.1, facts_cap_params.2]; exact strictDoBytes_refines 1048576 pol strict srv req

/-- **do_body_bounded.** Whatever the servers answer, in either mode: a response `Do` returns carries at most 1 MiB and
    exactly the bytes the answering server sent -/
theorem do_body_bounded (pol : Policy) (strict : Bool) (srv : Nat → Req → Option (Resp × Bytes)) (req : Req)
    (reqs : List Req) (resp : Resp) (body : Bytes)
    (h : strictDoBytes pol strict Facts.C20.responseReadLimit Facts.C20.responseTooLarge srv req = (reqs, .ok (resp, body))) :
    body.length ≤ 1048576 ∧ clientLoopB pol strict srv req (pol.maxRedirects + 2) [] req = (reqs, .ok (resp, body)) := by
  rw [facts_cap_params.1, facts_cap_params.2] at h; exact strictDoBytes_ok 1048576 pol strict srv req reqs resp body h

/-- **outbound_https_only_bytes.** `outbound_https_only` carried down the refinement: the byte-level strict client makes
    https requests only -/
theorem outbound_https_only_bytes (srv : Nat → Req → Option (Resp × Bytes)) (first : Req) :
    ∀ r ∈ (strictDoBytes (clientPolicy true 10) true Facts.C20.responseReadLimit Facts.C20.responseTooLarge srv first).1,
      r.scheme = sHttps := by
  have h := do_bytes_refines (clientPolicy true 10) true srv first
  have h1 := congrArg Prod.fst h
  simp only at h1
  rw [← h1]
  exact outbound_https_only (absSrv 1048576 srv) first

example : (strictDoBytes (clientPolicy true 10) true Facts.C20.responseReadLimit Facts.C20.responseTooLarge
    (fun _ _ => some ({ status := 200 }, [1, 2, 3])) { scheme := sHttps, host := [110, 108], path := [47] }).2 =
      .ok ({ status := 200 }, [1, 2, 3]) := by decide

/-! ### where the options come from (model NutsModel/C20/Sources.lean) -/

/-- the loader's constants, read off the source -/
def rules : EnvRules := { pre := Facts.C20.envPrefix, envDelim := 95, delim := 46, sep := 44, esc := 92 }
abbrev srcOrder : List Source := sourceOrderOf Facts.C20.loadSourceOrder
abbrev kStrict : Bytes := resolveStrict.sStrictmodeKey
abbrev loadOrder : List LoadStep := loadStepsOf Facts.C20.loadSourceOrder Facts.C20.loadSteps

/-- prefix NUTS_, "_" -> ".", list separator "," escaped by a backslash; sources are loaded file, environment, command
    line; the flag provider gets the map (flags that were not given do not overwrite); shapes of the callbacks -/
theorem fact_config_sources :
    Facts.C20.envPrefix = [78, 85, 84, 83, 95] ∧ Facts.C20.envDelimiter = [rules.envDelim] ∧ Facts.C20.keyDelimiter = [rules.delim] ∧
    Facts.C20.listSeparator = [rules.sep] ∧ Facts.C20.listEscape = [rules.esc] ∧
    Facts.C20.loadSourceOrder = ["loadFromFile", "loadFromEnv", "loadFromFlagSet"] ∧ srcOrder = [.file, .env, .cli] ∧
    Facts.C20.flagProviderCalls = ["posflag.Provider(flags, defaultDelimiter, configMap)"] ∧
    Facts.C20.envKeyExpr = "strings.Replace(strings.ToLower(strings.TrimPrefix(rawKey, defaultEnvPrefix)), defaultEnvDelimiter, defaultDelimiter, -1)" ∧
    Facts.C20.envValueShape.drop 1 = ["values := splitWithEscaping(rawValue, configValueListSeparator, \"\\\\\")",
      "for i, value := range values { values[i] = strings.TrimSpace(value) }", "if len(values) == 1 {", "return key, values[0]", "}", "return key, values"] ∧
    Facts.C20.splitWithEscapingShape = ["s = strings.ReplaceAll(s, escape+separator, \"\\x00\")", "tokens := strings.Split(s, separator)",
      "for i, token := range tokens { tokens[i] = strings.ReplaceAll(token, \"\\x00\", separator) }", "return tokens"] :=
  ⟨rfl, rfl, rfl, rfl, rfl, rfl, by decide +kernel, rfl, rfl, rfl, rfl⟩

theorem srcOrder_eq : srcOrder = [.file, .env, .cli] := fact_config_sources.2.2.2.2.2.2.1

/-- the checks of `ServerConfig.Load` in source order, and the logger formats it accepts -/
theorem fact_load_steps :
    loadOrder = [.configFile, .env, .cliSecret, .unmarshal, .movedKeys, .verbosity, .loggerFormat] ∧
    Facts.C20.loadSteps.length = 6 ∧ Facts.C20.loggerFormats = [[116, 101, 120, 116], [106, 115, 111, 110]] :=
  ⟨by simp [loadOrder, loadStepsOf, Facts.C20.loadSourceOrder, Facts.C20.loadSteps], rfl, rfl⟩

/-- **source_precedence.** For every key, environment and value: the command line wins over the environment wins over the
    config file (order regenerated from `loadConfigMap`) -/
theorem source_precedence (key : Bytes) (src : Sources) :
    resolveRaw rules srcOrder key src =
      match src.cli with
      | some v => some v
      | none => match envLookup rules key src.env with
        | some v => some v
        | none => src.file := by
  rw [srcOrder_eq]; exact resolveRaw_precedence rules key src

/-- **strict_only_off_when_told.** Strict mode (default regenerated: on) resolves to OFF only if one of the three sources
    carries a value for `strictmode` that converts to false — all files, environments (any spelling, any value) and flags -/
theorem strict_only_off_when_told (src : Sources)
    (h : resolveStrict rules srcOrder Facts.C20.defaultStrictmode src = .ok false) :
    ∃ s r, sourceValue rules kStrict src s = some r ∧ toBool r = .ok false := by
  rw [srcOrder_eq, fact_default_strict] at h
  exact resolveStrict_false_source rules src h

/-- **command_line_strict_wins.** `--strictmode` on the command line cannot be undone by the environment or the file -/
theorem command_line_strict_wins (src : Sources) (hc : src.cli = some (.b true)) :
    resolveStrict rules srcOrder Facts.C20.defaultStrictmode src = .ok true := by
  rw [srcOrder_eq]
  exact resolveStrict_cli_wins rules _ true src hc

/-- **sources_to_decision** (configuration text -> decision). If no source carries a `strictmode` value that converts to
    false, then the node whose strict mode was resolved from those sources refuses EVERY documented insecure setting,
    whatever all other options are -/
theorem sources_to_decision (src : Sources) (c : Config)
    (hres : resolveStrict rules srcOrder Facts.C20.defaultStrictmode src = .ok c.strict)
    (hnf : ∀ s r, sourceValue rules kStrict src s = some r → toBool r ≠ .ok false)
    (i : Insecure) (hi : hasInsecure tlds l2s i c = true) : (start tlds l2s c).isRefuse = true := by
  have hs : c.strict = true := by
    cases hcs : c.strict with
    | true => rfl
    | false =>
      rw [hcs] at hres
      obtain ⟨s, r, h1, h2⟩ := strict_only_off_when_told src hres
      exact absurd h2 (hnf s r h1)
  exact strict_refuses c hs i hi

/-- non-vacuity: an environment that says "true" in an odd spelling, a file that says false -/
example : resolveStrict rules srcOrder Facts.C20.defaultStrictmode
    { file := some (.b false), env := [([78, 85, 84, 83, 95, 83, 116, 114, 105, 99, 116, 77, 111, 100, 101], [32, 84, 82, 85, 69, 32])] } = .ok true := by
  rw [srcOrder_eq]; decide
/-- and the environment switching strict mode off, with a trimmed value -/
example : resolveStrict rules srcOrder Facts.C20.defaultStrictmode
    { env := [([78, 85, 84, 83, 95, 83, 84, 82, 73, 67, 84, 77, 79, 68, 69], [32, 102, 97, 108, 115, 101, 32])] } = .ok false := by
  rw [srcOrder_eq]; decide
/-- a name without the exact prefix is not a source -/
example : resolveStrict rules srcOrder Facts.C20.defaultStrictmode
    { env := [([110, 117, 116, 115, 95, 115, 116, 114, 105, 99, 116, 109, 111, 100, 101], [102, 97, 108, 115, 101])] } = .ok true := by
  rw [srcOrder_eq]; decide

/-- **env_key_normal.** Every environment name maps to a key without "_" and without ASCII upper-case letters -/
theorem env_key_normal (raw : Bytes) (c : Nat) (h : c ∈ envKey rules.pre rules.envDelim rules.delim raw) :
    c ≠ 95 ∧ ¬ (65 ≤ c ∧ c ≤ 90) := envKey_normal rules.pre (by decide) (by decide) raw c h

/-- NUTS_NETWORK_CERTFILE is the moved key network.certfile -/
example : envKey rules.pre rules.envDelim rules.delim [78, 85, 84, 83, 95, 78, 69, 84, 87, 79, 82, 75, 95, 67, 69, 82, 84, 70, 73, 76, 69] =
    [110, 101, 116, 119, 111, 114, 107, 46, 99, 101, 114, 116, 102, 105, 108, 101] := by decide

/-- **env_list_plain.** A value without backslash (and NUL) is split at every comma -/
theorem env_list_plain (s : Bytes) (h1 : 92 ∉ s) (h0 : 0 ∉ s) : splitWithEscaping rules.sep rules.esc s = splitOn 44 s :=
  splitWithEscaping_plain 44 92 s h1 h0

/-- `a\,b,c` is the list ["a,b", "c"]; `" false "` is the string "false" -/
example : envValue rules.sep rules.esc [97, 92, 44, 98, 44, 99] = .l [[97, 44, 98], [99]] ∧
    envValue rules.sep rules.esc [32, 102, 97, 108, 115, 101, 32] = .s [102, 97, 108, 115, 101] := by decide

/-- **load_check_order.** `Load` with the regenerated step order, every input: an unreadable config file, then a secret on
    the command line, then a value of the wrong type, then a moved key, then the log settings -/
theorem load_check_order (i : LoadIn) :
    loadFull loadOrder Facts.C20.loggerFormats i =
      if i.badConfigFile then some "config-file" else
      if i.cliFlags.any isSecretFlag then some "cli-secret" else
      if i.unmarshalFails then some "unmarshal" else
      if i.movedKey then some "moved-keys" else
      if !i.verbosityOk then some "verbosity" else
      if !Facts.C20.loggerFormats.contains i.loggerFormat then some "loggerformat" else none := by
  rw [fact_load_steps.1]; exact loadFull_order _ i

/-- **load_full_refines_load.** The complete `Load` refines the abstract `load` of the start-up model: with a readable
    file, well-typed values and valid log settings they refuse the same configurations for the same reason -/
theorem load_full_refines_load (c : Config) :
    loadFull loadOrder Facts.C20.loggerFormats { cliFlags := c.cliFlags, movedKey := c.movedKey } = (load c).map (·.2) := by
  rw [load_check_order]
  fun_cases load c <;> simp [*]
  decide

/-! ### crypto back-end names and the TLS file options (model NutsModel/C20/Engines.lean) -/

/-- the names `crypto.Configure`'s switch accepts (case list + the StorageType constants of the back-end packages), and
    `TLSConfig.Enabled` regenerated as a definition: certificate OR key configured (the trust store does not count) -/
theorem fact_crypto_backends_tls_enabled :
    Facts.C20.cryptoBackendNames = [[102, 115], [118, 97, 117, 108, 116, 107, 118],
      [97, 122, 117, 114, 101, 45, 107, 101, 121, 118, 97, 117, 108, 116], [101, 120, 116, 101, 114, 110, 97, 108]] ∧
    Facts.C20.tlsEnabled = fun a b _ => decide (a > 0 ∨ b > 0) := ⟨rfl, rfl⟩

/-- **crypto_backend_exact.** In strict mode the crypto engine accepts a `crypto.storage` value iff it is, byte for byte,
    one of the back-end names of the switch (no case folding, no trimming; the empty name is the implicit back-end) -/
theorem crypto_backend_exact (c : Config) (hs : c.strict = true) (v : Bytes) :
    cryptoConfigure { c with cryptoStorage := classifyStorage Facts.C20.cryptoBackendNames v } = none ↔
      v ∈ Facts.C20.cryptoBackendNames := by
  unfold cryptoConfigure classifyStorage
  by_cases h : v ∈ Facts.C20.cryptoBackendNames
  · simp [h]
  · by_cases he : v = []
    · subst he; simp [h, hs]
    · simp [h, he]

example : classifyStorage Facts.C20.cryptoBackendNames [70, 83] = .invalid ∧ classifyStorage Facts.C20.cryptoBackendNames [102, 115] = .explicit ∧
    classifyStorage Facts.C20.cryptoBackendNames [] = .implicit := by decide

/-- **start_files_refines.** Start-up over the three tls.* file options (regenerated `Enabled`) refines `start` whenever
    the TLS settings are complete or absent: `tls` of the abstract model IS `TLSConfig.Enabled()` -/
theorem start_files_refines (c : Config) (f : TLSFiles) (hc : f.consistent = true) :
    startFiles Facts.C20.tlsEnabled tlds l2s c f = start tlds l2s { c with tls := Facts.C20.tlsEnabled f.certLen f.keyLen f.trustLen } := by
  rw [fact_crypto_backends_tls_enabled.2]; exact startFiles_refines tlds l2s c f hc

/-- **tls_never_half.** Every configuration, either mode: a node that starts has either the complete TLS material
    (certificate, key, trust store, all valid) or no certificate and no key at all — and the latter, on a strict node, only
    with the network engine disabled. A trust store alone does not count as TLS -/
theorem tls_never_half (c : Config) (f : TLSFiles) (r : Running) (h : startFiles Facts.C20.tlsEnabled tlds l2s c f = .ok r) :
    (f.certLen > 0 ∧ f.keyLen > 0 ∧ f.trustLen > 0 ∧ f.valid = true) ∨ (f.certLen = 0 ∧ f.keyLen = 0 ∧ (c.strict = true → c.nuts = false)) := by
  rw [fact_crypto_backends_tls_enabled.2] at h; exact startFiles_ok tlds l2s c f r h

/-- a strict node with only a trust store configured is refused as "TLS off"; the same files start a lenient node -/
example : startFiles Facts.C20.tlsEnabled tlds l2s secureCfg { certLen := 0, keyLen := 0, trustLen := 9 } = .refuse "network" "tls-off" ∧
    (startFiles Facts.C20.tlsEnabled tlds l2s { secureCfg with strict := false } { certLen := 0, keyLen := 0, trustLen := 9 }).isRefuse = false ∧
    startFiles Facts.C20.tlsEnabled tlds l2s { secureCfg with strict := false } { certLen := 9, keyLen := 0, trustLen := 9 } = .refuse "vcr" "tls-cert" := by
  decide +kernel

end Nuts.C20.Props
