/-
  C11 — Revocation is effective, permanent and issuer-only; status-list slots are unique.
  Property theorems over NutsModel.C11 (model of vcr/revocation and of the revocation handling of vcr/verifier).
  All statements quantify over every schedule / history / input; nothing here is a bounded enumeration.
-/
import NutsProofs.Lemmas.C11
import NutsProofs.Lemmas.C11Entry
import NutsModel.Facts.C11
namespace Nuts.C11.Props

/-! ### a small concrete environment for the non-vacuity examples -/

def exEnv : Env :=
  { lenBytes := 1, maxIndex := 7, validity := 100, minLeft := 25, maxAge := 15
    keyOf := fun i => some (i ++ "#k"), sign := fun kid _ => kid
    verify := fun vc => vc.proof == some (vc.body.issuer ++ "#k") }

theorem exEnv_ok : EnvOK exEnv := by
  refine ⟨by decide, by decide, ?_⟩
  intro issuer kid body hk hb
  simp only [exEnv, Option.some.injEq] at hk
  simp [exEnv, ← hk, hb]

def exNode (base : String) : Node := { base := base, dids := ["did:a", "did:b"] }
def exWorld : World := { a := exNode "https://n0", b := exNode "https://n1" }

theorem exWorld_inv : WInv exEnv exWorld := ⟨NInv.empty _ _ _, NInv.empty _ _ _, by decide⟩

theorem exWorld_cache : CacheSound exWorld := by
  intro i iss p rec h
  cases i <;> simp [exWorld, exNode, World.get, Node.cred?] at h

def exK : KeyEnv := ⟨fun _ _ => none, fun _ _ _ => false⟩
def exList : Url := .sl "https://n0" "did:a" 1
def exEntry : StatusEntry := { list := exList, idx := some 0 }
def exCred : Cred := { id := some "did:a#1", issuer := "did:a", statuses := some [{ type := "Other", list := .raw "x", idx := none }, exEntry] }
/-- node 0 issues an entry and revokes it; node 1 verifies a credential naming it (downloads the list) -/
def exHistory : List Act := [.entryTx false "did:a" none, .revoke false "did:a#1" exEntry, .verify true exCred]

/-! ### 1. status-list positions are never shared (all schedules, several issuers, retries, page roll-over) -/

/-- a new node (no pages, no running `Entry` calls) satisfies the invariant the schedules of `entries_injective` start from -/
theorem einv_fresh (E : Env) (base : String) (dids : List String) (now : Nat) :
    EInv E { node := { base := base, dids := dids }, threads := [], now := now } := by
  refine { fn := ?_, le := ?_, done := ?_, lock := ?_, uniq := ?_ }
  · intro r1 r2 h; cases h
  · intro r h; cases h
  · intro t th l i h; simp at h
  · intro t th r _ h; simp at h
  · intro t1 t2 th1 th2 l i _ h; simp at h

example : EInv exEnv { node := exNode "https://n0" } := einv_fresh exEnv _ _ 0

/-- `entries_injective`: whatever the schedule of read steps (with any row the database may hand out, `none` included),
    write steps, new `Entry` calls of any issuers, `Revoke`/`Credential` transactions and clock ticks — no two `Entry`
    calls return the same (list, index), and every returned index fits the bitstring. Retries after a duplicate key and
    page roll-over at `maxBitstringIndex` are steps of the same machine. -/
theorem entries_injective (E : Env) (w0 : EWorld) (h0 : EInv E w0) (acts : List EAct) :
    (∀ (t1 t2 : Nat) (th1 th2 : EThread) l i, t1 ≠ t2 → (eRun E w0 acts).threads[t1]? = some th1 →
        (eRun E w0 acts).threads[t2]? = some th2 → th1.phase = .done l i → th2.phase ≠ .done l i) ∧
    (∀ (t : Nat) (th : EThread) l i, (eRun E w0 acts).threads[t]? = some th → th.phase = .done l i → i ≤ E.maxIndex) := by
  have h := eRun_inv (E := E) acts h0
  refine ⟨h.uniq, ?_⟩
  intro t th l i ht hd
  obtain ⟨r, hr, _, hi⟩ := h.done t th l i ht hd
  exact Nat.le_trans hi (h.le r hr)

/-- non-vacuity: two calls of a first-time issuer race (both selects see no row); the loser gets a duplicate key, retries
    on the pinned page, and both end with different positions -/
example :
    ((eRun exEnv { node := exNode "https://n0" }
        [.spawn "did:a", .spawn "did:a", .read 0 none, .read 1 none, .write 0, .write 1,
         .read 1 (some (.sl "https://n0" "did:a" 1)), .write 1]).threads.map (·.phase)) =
      [.done (.sl "https://n0" "did:a" 1) 0, .done (.sl "https://n0" "did:a" 1) 1] := by decide

/-! ### 2. bitstring -/

/-- `bit_set_get`: for every bitstring, all in-range positions `i`, `j` and every value: after `setBit i v` succeeds,
    position `j` reads `v` if `j = i` and what it read before otherwise. -/
theorem bit_set_get (bs bs' : Bits) (i j : Nat) (v : Bool) (hj : j < 8 * bs.length)
    (h : bs.setBit (i : Int) v = .ok bs') :
    bs'.bit (j : Int) = if i = j then .ok v else bs.bit (j : Int) :=
  bit_setBit bs bs' i j v hj h

example : (newBits 2).setBit 11 true = .ok [0#8, 16#8] ∧ Bits.bit [0#8, 16#8] 11 = .ok true := by decide

/-- `bit` never panics (the guard covers every index, negative ones included) and fails exactly out of range -/
theorem bit_total (bs : Bits) (i : Int) :
    (0 ≤ i ∧ i < 8 * bs.length → ∃ v, bs.bit i = .ok v) ∧ (¬ (0 ≤ i ∧ i < 8 * bs.length) → bs.bit i = .err "index") := by
  fun_cases Bits.bit bs i with
  | case1 h => exact ⟨fun hr => by omega, fun _ => rfl⟩
  | case2 _ h => exact ⟨fun hr => by omega, fun _ => rfl⟩
  | case3 h0 h1 b _ => exact ⟨fun _ => ⟨_, rfl⟩, fun hn => absurd ⟨by omega, by omega⟩ hn⟩
  | case4 _ h1 hb => exact absurd (List.getElem?_eq_none_iff.mp hb) (by omega)

example : Bits.bit [0#8] (-1) = .err "index" ∧ Bits.bit [0#8] 8 = .err "index" ∧ Bits.bit [128#8] 0 = .ok true := by decide

/-! ### 3. every served list is validly signed, not about to expire, and says exactly what was revoked -/

/-- `served_list_signed_and_fresh`: after every history, whatever list a node serves (API call or another node's download)
    verifies under `VerifySignature`, expires no earlier than `now + minTimeUntilExpired`, names the requested list and
    its set bits are exactly the revoked positions of that list. -/
theorem served_list_signed_and_fresh (E : Env) (K : KeyEnv) (hE : EnvOK E) (w0 : World) (h0 : WInv E w0) (acts : List Act)
    (k : Bool) (issuer : String) (page : Nat) (vc : VC) (n' : Node)
    (h : credential E (run E K w0 acts).now ((run E K w0 acts).get k) issuer page = .ok (vc, n')) :
    E.verify vc = true ∧ (∃ e, vc.body.expires = some e ∧ (run E K w0 acts).now + E.minLeft ≤ e) ∧
    Served n' (((run E K w0 acts).get k).url issuer page) vc := by
  have hw := (run_nodes (K := K) hE h0 acts).1
  obtain ⟨h1, h2, h3, _, _⟩ := credential_served hE (hw.node k) h
  exact ⟨h1, h2, h3⟩

/-- `list_signed_in_same_transaction`: in every reachable state the stored credential of every managed list is signed by
    the list issuer's key and carries exactly the revocations: there is no committed state in which a revocation is
    recorded but missing from the signed list. -/
theorem list_signed_in_same_transaction (E : Env) (K : KeyEnv) (hE : EnvOK E) (w0 : World) (h0 : WInv E w0) (acts : List Act)
    (k : Bool) (u : Url) (hu : ((run E K w0 acts).get k).isManaged u = true) :
    ∃ rec, ((run E K w0 acts).get k).cred? u = some rec ∧ E.verify rec.raw = true ∧ Signed E rec ∧
      ∀ j, getB rec.bits j = true ↔ j ∈ ((run E K w0 acts).get k).revsOf u := by
  have hw := (run_nodes (K := K) hE h0 acts).1
  obtain ⟨rec, hrec⟩ := (hw.node k).has u hu
  obtain ⟨h1, _, _, _, h5, _⟩ := signed_served hE (hw.node k) hu hrec
  exact ⟨rec, hrec, h1, ((hw.node k).crec u rec hu hrec).2, h5⟩

example : (credential exEnv 0 (step exEnv ⟨fun _ _ => none, fun _ _ _ => false⟩ exWorld (.entryTx false "did:a" none)).a "did:a" 1).isOk = true := by
  decide

/-- `Credential` dereferences `*credRecord.Expires`; in every reachable state the record of a managed list has an expiry
    (it was built by `updateCredential`), so serving a list never panics -/
theorem credential_never_panics (E : Env) (K : KeyEnv) (hE : EnvOK E) (w0 : World) (h0 : WInv E w0) (acts : List Act)
    (k : Bool) (issuer : String) (page : Nat) (s : String) :
    credential E (run E K w0 acts).now ((run E K w0 acts).get k) issuer page ≠ .panic s := by
  have hn := (run_nodes (K := K) hE h0 acts).1.node k
  generalize (run E K w0 acts).get k = n at hn
  generalize (run E K w0 acts).now = now
  fun_cases credential E now n issuer page with
  | case2 u row hrow cached s' hc =>
    obtain ⟨rec, hrec⟩ := hn.has u (by simp only [Node.isManaged, hrow]; rfl)
    obtain ⟨_, _, _, t, _, _, _, hexp, _⟩ := hn.crec u rec (by simp only [Node.isManaged, hrow]; rfl) hrec
    simp only [cached, hrec, hexp] at hc
    split at hc <;> cases hc
  | case8 u row _ _ _ kid _ s' hup => exact fun e => updateCredential_ne_panic _ _ _ _ _ _ (Res.panic.inj e ▸ hup)
  | _ => nofun

/-- `sign_failure_is_atomic`: when the injected `Sign` fails (key store outage; `ResolveKey` before the transaction still
    worked) `Revoke` does not succeed — it returns the error and, being an error, leaves no revocation row and no changed
    list —; `Credential` either serves the stored list unchanged or fails; the write half of `Entry` never creates a page.
    (A later, healthy call then behaves as if the failed one had not happened: all other theorems apply to the history
    without it.) -/
theorem sign_failure_is_atomic (E : Env) (hf : E.signFails = true) (now : Nat) (n : Node) :
    (∀ credId e n', revoke E now n credId e ≠ .ok n') ∧
    (∀ issuer page vc n', credential E now n issuer page = .ok (vc, n') → n' = n ∧ ∃ rec, n.cred? (n.url issuer page) = some rec ∧ vc = rec.raw) ∧
    (∀ issuer kid row nr rec, entryDecide E now n issuer kid row ≠ .create nr rec) := by
  refine ⟨?_, ?_, ?_⟩
  · intro credId e n' h
    obtain ⟨_, row, kid, vc, rec, _, _, _, _, _, _, hup, _⟩ := revoke_ok h
    exact updateCredential_sign_fails hf _ _ _ _ vc rec hup
  · intro issuer page vc n' h
    obtain ⟨row, _, h1 | h1⟩ := credential_ok h
    · obtain ⟨rec, e, hrec, _, _, hvc, hn⟩ := h1
      exact ⟨hn, rec, hrec, hvc⟩
    · obtain ⟨kid, rec, _, hup, _⟩ := h1
      exact absurd hup (updateCredential_sign_fails hf _ _ _ _ vc rec)
  · intro issuer kid row nr rec h
    obtain ⟨_, _, _, _, ⟨vc, hup⟩, _⟩ := entryDecide_create h
    exact updateCredential_sign_fails hf _ _ _ _ vc rec hup

example : revoke { exEnv with signFails := true } 0 (run exEnv exK exWorld [.entryTx false "did:a" none]).a "did:a#1" exEntry = .err "sign" := by decide

/-! ### 4. a set bit is never cleared; revocation is idempotent -/

/-- `set_monotone`: along every history the revoked positions of every list only grow … -/
theorem set_monotone (E : Env) (K : KeyEnv) (hE : EnvOK E) (w0 : World) (h0 : WInv E w0) (acts : List Act) (k : Bool) (u : Url) (j : Nat)
    (h : j ∈ (w0.get k).revsOf u) : j ∈ ((run E K w0 acts).get k).revsOf u :=
  ((run_nodes hE h0 acts).2 k).revs u j h

/-- … so a bit that was set in a served list is set in every list served later, whatever happened in between. -/
theorem served_bit_never_cleared (E : Env) (K : KeyEnv) (hE : EnvOK E) (w0 : World) (h0 : WInv E w0)
    (k : Bool) (issuer : String) (page : Nat) (vc1 : VC) (n1 : Node) (bits1 : Bits) (j : Nat)
    (h1 : credential E w0.now (w0.get k) issuer page = .ok (vc1, n1))
    (hb1 : vc1.body.subjects = [{ id := (w0.get k).url issuer page, purpose := "revocation", enc := .ok bits1 }]) (hj : getB bits1 j = true)
    (acts : List Act) (vc2 : VC) (n2 : Node) (bits2 : Bits)
    (h2 : credential E (run E K (w0.set k n1) acts).now ((run E K (w0.set k n1) acts).get k) issuer page = .ok (vc2, n2))
    (hb2 : vc2.body.subjects = [{ id := (w0.get k).url issuer page, purpose := "revocation", enc := .ok bits2 }]) :
    getB bits2 j = true := by
  obtain ⟨_, _, ⟨b1, hs1, hiff1⟩, _, _⟩ := credential_served hE (h0.node k) h1
  rw [hb1] at hs1
  simp only [List.cons.injEq, Subject.mk.injEq, Enc.ok.injEq, and_true, true_and] at hs1
  subst hs1
  have hp1 : WPrim E K w0 (w0.set k n1) := .node w0 k n1 (credential_step h1)
  obtain ⟨hw2, hm⟩ := run_after hE h0 hp1 acts
  obtain ⟨_, _, ⟨b2, hs2, hiff2⟩, _, hrevs⟩ := credential_served hE (hw2.node k) h2
  have hbase : ((run E K (w0.set k n1) acts).get k).url issuer page = (w0.get k).url issuer page := by
    simp only [Node.url]
    rw [(hm k).base, ((hp1.nodes h0).2 k).base]
  rw [hbase, hb2] at hs2
  simp only [List.cons.injEq, Subject.mk.injEq, Enc.ok.injEq, and_true, true_and] at hs2
  subst hs2
  rw [hbase] at hiff2
  rw [hiff2]
  have : j ∈ n2.revsOf ((w0.get k).url issuer page) ↔ j ∈ ((run E K (w0.set k n1) acts).get k).revsOf ((w0.get k).url issuer page) := by
    unfold Node.revsOf; rw [hrevs]
  rw [this]
  apply (hm k).revs
  rw [get_set_same]
  exact (hiff1 j).mp hj

/-- a successful `Revoke` makes the position revoked on the issuing node -/
theorem revoke_effective (E : Env) (now : Nat) (n n' : Node) (credId : String) (e : StatusEntry)
    (h : revoke E now n credId e = .ok n') : ∃ j : Nat, e.idx = some (j : Int) ∧ j ∈ n'.revsOf e.list :=
  revoke_mem h

/-- `revoke_idempotent`: once `Revoke` of an entry succeeded, every later `Revoke` of the same list position — after any
    history, with any credential id — answers errRevoked and (being an error) changes nothing. -/
theorem revoke_idempotent (E : Env) (K : KeyEnv) (hE : EnvOK E) (w0 : World) (h0 : WInv E w0) (k : Bool) (credId : String)
    (e : StatusEntry) (n1 : Node) (h1 : revoke E w0.now (w0.get k) credId e = .ok n1) (acts : List Act) (credId' : String) :
    revoke E (run E K (w0.set k n1) acts).now ((run E K (w0.set k n1) acts).get k) credId' e = .err "revoked" := by
  obtain ⟨i, hi, hmem1⟩ := revoke_effective E _ _ n1 credId e h1
  obtain ⟨_, row, kid, _, _, _, hp, hrow, hkid, _⟩ := revoke_ok h1
  obtain ⟨hw2, hm⟩ := run_after hE h0 (WPrim.revoke w0 k credId e n1 h1) acts
  refine revoke_again (hw2.node k) hi hp ((hm k).revs _ _ (by rw [get_set_same]; exact hmem1)) ?_ _ _
  intro row' hrow'
  exact ⟨kid, by rw [page_issuer (h0.node k) (hw2.node k) hrow hrow']; exact hkid⟩

example : 0 ∈ ((run exEnv exK exWorld exHistory).get false).revsOf exList := by decide +kernel
example : (revoke exEnv 0 (run exEnv exK exWorld [.entryTx false "did:a" none]).a "did:a#1" exEntry).isOk = true := by decide

/-! ### 5. network revocations: permanent, also when they arrive before the credential; issuer-only -/

/-- `revoked_forever` (network): once a node holds a revocation whose subject is the credential's id, every later
    verification of that credential on that node — after any history of credentials, revocations, lists, ticks — answers
    revoked. -/
theorem revoked_forever_network (E : Env) (K : KeyEnv) (hE : EnvOK E) (w0 : World) (h0 : WInv E w0) (i : Bool) (r : Revocation) (c : Cred)
    (hr : r ∈ (w0.get i).netRevs) (hc : c.id = some r.subject) (acts : List Act) :
    (verify E i (run E K w0 acts) c).1 = .revoked :=
  RevokedAt.run hE h0 (.inl (credRevoked_of_mem hr hc)) acts

/-- `revocation_before_credential`: the revocation is accepted at some point of a history; wherever the credential itself
    is received or verified (`Act.verify`, before or after, or never), every verification after the revocation answers
    revoked. -/
theorem revocation_before_credential (E : Env) (K : KeyEnv) (hE : EnvOK E) (w0 : World) (h0 : WInv E w0) (i : Bool) (r : Revocation) (c : Cred)
    (before after : List Act) (n' : Node)
    (hacc : registerRevocation K ((run E K w0 before).get i) r = .ok n') (hc : c.id = some r.subject) :
    (verify E i (run E K w0 (before ++ [.register i r] ++ after)) c).1 = .revoked :=
  verify_of_credRevoked (run_register hE h0 before after hacc hc).1

/-- `revocation_event_stored_or_retried`: a revocation that passes `RegisterRevocation`'s checks and is delivered by the
    network is stored (event done), or — when the store fails with a context time-out / cancellation, however often that
    error was wrapped — the event is handed back for a retry; it is dropped for good only for a non-transient storage error.
    Nothing is stored on a failed delivery. -/
theorem revocation_event_stored_or_retried (K : KeyEnv) (n n1 : Node) (r : Revocation) (fault : StoreFault)
    (hacc : registerRevocation K n r = .ok n1) :
    (fault = .none ∧ handleRevocationEvent K n r fault = (.done, n1) ∧ r ∈ n1.netRevs) ∨
    ((∃ k, fault = .transient k) ∧ handleRevocationEvent K n r fault = (.retry, n)) ∨
    (fault = .other ∧ handleRevocationEvent K n r fault = (.fatal, n)) := by
  have hmem : r ∈ n1.netRevs := by obtain ⟨rfl, _⟩ := registerRevocation_ok hacc; simp
  cases fault with
  | none => exact Or.inl ⟨rfl, handleRevocationEvent_of_ok hacc _, hmem⟩
  | transient k => exact Or.inr (Or.inl ⟨⟨k, rfl⟩, handleRevocationEvent_of_ok hacc _⟩)
  | other => exact Or.inr (Or.inr ⟨rfl, handleRevocationEvent_of_ok hacc _⟩)

/-- `redelivered_revocation_effective`: after any number of deliveries that failed with transient store errors, the
    retried delivery (store healthy) stores the revocation, and from then on the credential is answered revoked for ever -/
theorem redelivered_revocation_effective (E : Env) (K : KeyEnv) (hE : EnvOK E) (w0 : World) (h0 : WInv E w0) (i : Bool) (r : Revocation) (c : Cred)
    (wraps : List Nat) (n1 : Node) (hacc : registerRevocation K (w0.get i) r = .ok n1) (hc : c.id = some r.subject) (acts : List Act) :
    (wraps.foldl (fun n k => (handleRevocationEvent K n r (.transient k)).2) (w0.get i)) = w0.get i ∧
    (handleRevocationEvent K (w0.get i) r .none) = (.done, n1) ∧
    (verify E i (run E K (w0.set i n1) acts) c).1 = .revoked := by
  refine ⟨?_, handleRevocationEvent_of_ok hacc _, ?_⟩
  · induction wraps with
    | nil => rfl
    | cons k rest ih => rw [List.foldl_cons, handleRevocationEvent_of_ok hacc]; exact ih
  · exact RevokedAt.run hE ((WPrim.node w0 i n1 (register_step hacc)).nodes h0).1 (.of_register hacc hc) acts

/-- `issuer_only`: `RegisterRevocation` stores a revocation only if its issuer is the DID prefix of the revoked credential's
    id, the proof's key id is prefixed by the same issuer, that key resolves and the signature verifies under it; in every
    other case nothing is stored. Consequently every revocation a node ever holds satisfies this. -/
theorem issuer_only (K : KeyEnv) (n n' : Node) (r : Revocation) (h : registerRevocation K n r = .ok n') :
    Accepted K r ∧ n'.netRevs = n.netRevs ++ [r] := by
  obtain ⟨rfl, hacc⟩ := registerRevocation_ok h
  exact ⟨hacc, rfl⟩

theorem stored_revocations_accepted (E : Env) (K : KeyEnv) (hE : EnvOK E) (w0 : World) (h0 : WInv E w0) (hn : NetOK K w0) (acts : List Act) :
    NetOK K (run E K w0 acts) :=
  netok_path (run_path hE acts h0) h0 hn

/-- for a credential whose id is prefixed by its issuer (what the node's issuer produces and the Nuts validators demand), a
    revoked verdict caused by a network revocation is caused by a revocation naming that issuer, signed with a key of that
    issuer -/
theorem network_revocation_is_by_issuer (E : Env) (K : KeyEnv) (hE : EnvOK E) (w0 : World) (h0 : WInv E w0) (hn : NetOK K w0)
    (acts : List Act) (i : Bool) (c : Cred) (id : String) (hid : c.id = some id) (hpre : prefixOf id = c.issuer)
    (h : ((run E K w0 acts).get i).credRevoked c = true) :
    ∃ r p pk, r ∈ ((run E K w0 acts).get i).netRevs ∧ r.subject = id ∧ r.issuer = c.issuer ∧ r.proof = some p ∧
      prefixOf p.vm = c.issuer ∧ K.resolveKey p.vm r.date = some pk ∧ K.sigOK pk r p.sig = true := by
  simp only [Node.credRevoked, hid, Node.isRevoked, List.any_eq_true, beq_iff_eq] at h
  obtain ⟨r, hr, hs⟩ := h
  obtain ⟨p, pk, h1, h2, h3, h4, h5⟩ := stored_revocations_accepted E K hE w0 h0 hn acts i r hr
  refine ⟨r, p, pk, hr, hs, ?_, h1, ?_, h4, h5⟩
  · rw [← h2, hs, hpre]
  · rw [h3, ← h2, hs, hpre]

/-- the forged documents of the property text are rejected: another issuer than the id prefix, a key of another party, an
    unresolvable key, a bad signature -/
theorem forged_revocations_rejected (K : KeyEnv) (n : Node) (r : Revocation) (p : RevProof) (hp : r.proof = some p) :
    (prefixOf r.subject ≠ r.issuer → ∃ e, registerRevocation K n r = .err e) ∧
    (prefixOf p.vm ≠ r.issuer → ∃ e, registerRevocation K n r = .err e) ∧
    (K.resolveKey p.vm r.date = none → ∃ e, registerRevocation K n r = .err e) ∧
    (∀ pk, K.resolveKey p.vm r.date = some pk → K.sigOK pk r p.sig = false → ∃ e, registerRevocation K n r = .err e) := by
  have rej : ¬ Accepted K r → ∃ e, registerRevocation K n r = .err e := fun hna =>
    (registerRevocation_cases K n r).resolve_right fun h => hna h.2
  refine ⟨fun h => rej ?_, fun h => rej ?_, fun h => rej ?_, fun pk h1 h2 => rej ?_⟩
  · rintro ⟨_, _, _, h2, _⟩; exact h h2
  · rintro ⟨p', _, h1, _, h3, _⟩; rw [hp] at h1; cases h1; exact h h3
  · rintro ⟨p', pk, h1, _, _, h4, _⟩; rw [hp] at h1; cases h1; rw [h] at h4; cases h4
  · rintro ⟨p', pk', h1, _, _, h4, h5⟩; rw [hp] at h1; cases h1; rw [h1] at h4; cases h4; rw [h2] at h5; cases h5

def exKeys : KeyEnv :=
  { resolveKey := fun vm _ => if vm == "did:nuts:B#k" then some "pkB" else if vm == "did:nuts:A#k" then some "pkA" else none
    sigOK := fun pk r sig => sig == pk ++ "|" ++ r.subject }

def exRevByB : Revocation :=
  { subject := "did:nuts:B#1", issuer := "did:nuts:B", date := some 5, proof := some { vm := "did:nuts:B#k", sig := "pkB|did:nuts:B#1" } }

example : Accepted exKeys exRevByB := by
  refine ⟨_, "pkB", rfl, ?_, ?_, ?_, ?_⟩ <;> decide +kernel

example : handleRevocationEvent exKeys (exNode "https://n0") exRevByB (.transient 3) = (.retry, exNode "https://n0") := by decide +kernel
example : (handleRevocationEvent exKeys (exNode "https://n0") exRevByB .none).1 = .done := by decide +kernel

/-- `foreign_prefix_witness` (candidate defect 16): the check keys on the DID prefix of the credential *id*. For a credential
    of issuer A whose id is not prefixed by A but by B (the default validator does not forbid it), B's revocation is stored
    and the credential is then answered revoked, while A's own revocation of it is refused. For such credentials "only the
    credential's issuer" does not hold; it holds for id-prefixed credentials (`network_revocation_is_by_issuer`). -/
theorem foreign_prefix_witness :
    let c : Cred := { id := some "did:nuts:B#1", issuer := "did:nuts:A", statuses := none }
    let byA : Revocation := { subject := "did:nuts:B#1", issuer := "did:nuts:A", date := some 5,
                              proof := some { vm := "did:nuts:A#k", sig := "pkA|did:nuts:B#1" } }
    (match registerRevocation exKeys (exNode "https://n0") exRevByB with
      | .ok n' => n'.credRevoked c
      | _ => false) = true ∧
    (match registerRevocation exKeys (exNode "https://n0") byA with
      | .err e => e == "issuer-mismatch"
      | _ => false) = true := by
  decide +kernel

/-- the full-strength reading of "only the credential's issuer can cause this": a stored revocation whose subject is a
    credential's id names that credential's issuer. It is FALSE of the code (`issuer_only_stmt_false`, known finding
    C11:foreign-id-prefix, replayed on the real verifier by harness/corpus/C11/v_foreign_prefix.jsonl); what holds is
    `issuer_only_partial`: it is true of every credential whose id is prefixed by its issuer. -/
def IssuerOnlyStmt : Prop :=
  ∀ (K : KeyEnv) (n n' : Node) (r : Revocation) (c : Cred),
    registerRevocation K n r = .ok n' → c.id = some r.subject → r.issuer = c.issuer

theorem issuer_only_stmt_false : ¬ IssuerOnlyStmt := by
  intro h
  have := h exKeys (exNode "https://n0") { exNode "https://n0" with netRevs := [exRevByB] } exRevByB
    { id := some "did:nuts:B#1", issuer := "did:nuts:A", statuses := none } (by decide +kernel) rfl
  exact absurd this (by decide +kernel)

/-- `issuer_only_partial`: the part of `IssuerOnlyStmt` that holds. Missing: credentials whose id is not prefixed by their
    issuer (accepted by the default validator; refused by the two Nuts validators, see `nuts_validators_enforce_prefix`). -/
theorem issuer_only_partial (K : KeyEnv) (n n' : Node) (r : Revocation) (c : Cred) (id : String)
    (h : registerRevocation K n r = .ok n') (_hid : c.id = some id) (hs : id = r.subject) (hpre : prefixOf id = c.issuer) :
    r.issuer = c.issuer := by
  obtain ⟨⟨_, _, _, h2, _⟩, _⟩ := issuer_only K n n' r h
  rw [← h2, ← hs, hpre]

/-- the validators of NutsOrganizationCredential / NutsAuthorizationCredential refuse a credential whose id is not prefixed
    by its issuer before any revocation check: for those types "only the issuer" holds without further assumption -/
theorem nuts_validators_enforce_prefix (E : Env) (i : Bool) (w : World) (c : Cred)
    (h : ∀ e, (verifyFull E i w c true).1 ≠ .err e) : ∃ id, c.id = some id ∧ prefixOf id = c.issuer := by
  unfold verifyFull validateNutsId at h
  cases hid : c.id with
  | none => simp [hid] at h
  | some id =>
    refine ⟨id, rfl, ?_⟩
    by_cases hp : prefixOf id = c.issuer
    · exact hp
    · simp [hid, hp] at h

example : (verifyFull exEnv false exWorld { id := some "did:nuts:B#1", issuer := "did:nuts:A", statuses := none } true).1 = .err "validation" := by decide +kernel
example : (verifyFull exEnv false exWorld { id := some "did:nuts:A#1", issuer := "did:nuts:A", statuses := none } true).1 = .ok := by decide +kernel

/-! ### 6. status list revocation: effective at once on the issuing node, permanent on every node that refreshed -/

/-- `revoked_forever` (status list, issuing node): from the moment a position is revoked, the node that manages the list
    answers revoked for every credential whose first relevant status entry names that list and position, after any history.
    (Entries before it may be of another type or purpose; those are skipped.) -/
theorem revoked_forever_local (E : Env) (K : KeyEnv) (hE : EnvOK E) (w0 : World) (h0 : WInv E w0) (i : Bool) (u : Url) (j : Nat)
    (hj : j ∈ (w0.get i).revsOf u) (acts : List Act) (c : Cred) (pre post : List StatusEntry) (st : StatusEntry)
    (hc : c.statuses = some (pre ++ st :: post)) (hpre : ∀ s, s ∈ pre → s.relevant = false)
    (hst : st.list = u) (hty : st.type = "StatusList2021Entry") (hpu : st.purpose = "revocation") (hidx : st.idx = some (j : Int)) :
    (verify E i (run E K w0 acts) c).1 = .revoked :=
  RevokedAt.run hE h0 (.inr ⟨pre, st, post, j, hc, hpre, hty, hpu, hidx, .inl (hst ▸ hj)⟩) acts

example : (verify exEnv false (run exEnv exK exWorld exHistory) exCred).1 = .revoked := by decide +kernel

/-- `revoked_forever` (status list, other node): once node `i` holds a record of the other node's list with the bit set
    (it refreshed the list after the revocation, see `refresh_after_revocation_pins`), it answers revoked for that position
    after any further history: refreshes only bring supersets, failed refreshes keep the old record. -/
theorem revoked_forever_remote (E : Env) (K : KeyEnv) (hE : EnvOK E) (w0 : World) (h0 : WInv E w0) (hc0 : CacheSound w0)
    (i : Bool) (ob iss : String) (p j : Nat) (hpin : Pin w0 i ob iss p j) (acts : List Act)
    (c : Cred) (pre post : List StatusEntry) (st : StatusEntry)
    (hc : c.statuses = some (pre ++ st :: post)) (hpre : ∀ s, s ∈ pre → s.relevant = false)
    (hst : st.list = .sl ob iss p) (hty : st.type = "StatusList2021Entry") (hpu : st.purpose = "revocation") (hidx : st.idx = some (j : Int)) :
    (verify E i (run E K w0 acts) c).1 = .revoked :=
  RevokedAt.run hE h0 (.inr ⟨pre, st, post, j, hc, hpre, hty, hpu, hidx, .inr ⟨ob, iss, p, hst, hc0, hpin⟩⟩) acts

/-- non-vacuity: after `exHistory` node 1 holds node 0's list with bit 0 set (it downloaded it while verifying) -/
example : Pin (run exEnv exK exWorld exHistory) true "https://n0" "did:a" 1 0 := by
  have h : (match ((run exEnv exK exWorld exHistory).get true).cred? exList with
      | some rec => rec.purpose == "revocation" && getB rec.bits 0
      | none => false) = true := by decide +kernel
  refine ⟨by decide +kernel, ?_⟩
  split at h
  · rename_i rec hrec
    simp only [Bool.and_eq_true, beq_iff_eq] at h
    exact ⟨rec, hrec, h.1, h.2⟩
  · cases h

example : (verify exEnv true (run exEnv exK exWorld (exHistory ++ [.tick 1000, .verify true exCred])) exCred).1 = .revoked := by decide +kernel

/-- "refreshed the list": a successful `update` of node `i`'s record of the other node's list, made from that node's
    `Credential` answer while position `j` is revoked there, pins bit `j` -/
theorem refresh_after_revocation_pins (E : Env) (w : World) (i : Bool) (iss : String) (p j : Nat) (f : Fetch) (rec : CredRec) (n' : Node)
    (hj : j ∈ (w.get (!i)).revsOf (.sl (w.get (!i)).base iss p)) (hf : FetchOK w (.sl (w.get (!i)).base iss p) f)
    (hup : update E w.now (w.get i) (.sl (w.get (!i)).base iss p) f = .ok (rec, n')) :
    Pin (w.set i n') i (w.get (!i)).base iss p j := by
  obtain ⟨hpurp, hiff, hc⟩ := update_served hf hup
  refine ⟨by simp, (w.get i).stored rec, by rw [get_set_same]; exact hc, by simpa using hpurp, by simpa using (hiff j).mpr hj⟩

/-- no false revocations through the cache either: in every reachable state what a node holds about the other node's lists
    is a subset of what that node revoked -/
theorem cache_sound (E : Env) (K : KeyEnv) (hE : EnvOK E) (w0 : World) (h0 : WInv E w0) (hc0 : CacheSound w0) (acts : List Act) :
    CacheSound (run E K w0 acts) :=
  cache_path (run_path hE acts h0) h0 hc0

/-! ### 7. a status entry is honoured only from the list the credential names -/

/-- `status_only_from_named_list`: if the status check answers revoked, the credential carries a status entry of type
    StatusList2021Entry and purpose revocation, and the bit consulted is bit `statusListIndex` of a record whose id is that
    entry's `statusListCredential`, whose stored credential has exactly one subject with that same id and that bitstring,
    and whose purpose equals the entry's. Lists stored under other URLs, or downloaded credentials naming another list
    (`update` refuses them), cannot revoke it. -/
theorem status_only_from_named_list (E : Env) (K : KeyEnv) (hE : EnvOK E) (w : World) (hw : WInv E w) (i : Bool) (c : Cred)
    (h : (statusVerify E i w c).1 = .revoked) :
    ∃ sts st, c.statuses = some sts ∧ st ∈ sts ∧ st.type = "StatusList2021Entry" ∧ st.purpose = "revocation" ∧
      ∃ (j : Int) (rec : CredRec), st.idx = some j ∧ rec.bits.bit j = .ok true ∧ rec.id = st.list ∧
        (∃ s, rec.raw.body.subjects = [s] ∧ s.id = st.list ∧ s.enc = .ok rec.bits) ∧ rec.purpose = st.purpose := by
  unfold statusVerify at h
  split at h
  · cases h
  · rename_i sts hs
    obtain ⟨st, hm, hrel, j, rec, h1, h2, h3, ⟨s, h4, h5, h6⟩, h7⟩ := verifyStatuses_revoked (K := K) hE i sts hw h
    simp only [StatusEntry.relevant, Bool.and_eq_true, beq_iff_eq] at hrel
    exact ⟨sts, st, hs, hm, hrel.1, hrel.2, j, rec, h1, h2, h3, ⟨s, h4, by rw [h5, h3], h6⟩, h7⟩

example : (statusVerify exEnv true (run exEnv exK exWorld exHistory) exCred).1 = .revoked := by decide +kernel

/-- a downloaded credential whose subject names another list is refused, whoever signed it -/
theorem update_refuses_other_list (E : Env) (now : Nat) (n : Node) (u : Url) (v : VC) (rec : CredRec) (n' : Node)
    (h : update E now n u (.vc v) = .ok (rec, n')) : ∃ s, v.body.subjects = [s] ∧ s.id = u ∧ E.verify v = true := by
  obtain ⟨v', s, hv, h1, h2, _, h3, _⟩ := update_ok h
  cases hv
  exact ⟨s, h1, h2, h3⟩

/-! ### 8. the issuer's `Revoke`: which mechanism, which entry, which revocation document -/

/-- `revokeStatusList` picks the FIRST relevant status entry of the credential — the same entry the verifier's loop reaches
    first (`revoked_forever_local` / `revoked_forever_remote` are stated for exactly that decomposition) -/
theorem first_revocation_entry_is_first_relevant (sts : List StatusEntry) (e : StatusEntry) (h : firstRevocationEntry sts = some e) :
    ∃ pre post, sts = pre ++ e :: post ∧ (∀ s, s ∈ pre → s.relevant = false) ∧ e.type = "StatusList2021Entry" ∧ e.purpose = "revocation" := by
  rw [firstRevocationEntry_eq_find?, List.find?_eq_some_iff_append] at h
  obtain ⟨hrel, pre, post, hsts, hpre⟩ := h
  simp only [StatusEntry.relevant, Bool.and_eq_true, beq_iff_eq] at hrel
  exact ⟨pre, post, hsts, fun s hs => by simpa using hpre s hs, hrel⟩

/-- `issuer_revoke_status_list_effective`: the issuer revokes a credential that is not did:nuts: the route is the status
    list, the entry is the credential's first relevant one, and once that `Revoke` succeeded every verification of the
    credential on the issuing node answers revoked, after any history -/
theorem issuer_revoke_status_list_effective (E : Env) (K : KeyEnv) (hE : EnvOK E) (w0 : World) (h0 : WInv E w0) (i : Bool) (c : Cred)
    (id kid sig : String) (date : Nat) (already : Bool) (e : StatusEntry) (n1 : Node)
    (hroute : issuerRevokeRoute false already c id kid sig date = .statusList e)
    (hrev : revoke E w0.now (w0.get i) id e = .ok n1) (acts : List Act) :
    (verify E i (run E K (w0.set i n1) acts) c).1 = .revoked := by
  revert hroute
  fun_cases issuerRevokeRoute false already c id kid sig date with
  | case4 _ sts hs e' hf =>
    intro hroute; cases hroute
    obtain ⟨pre, post, hsts, hpre, hty, _⟩ := first_revocation_entry_is_first_relevant sts e hf
    exact RevokedAt.run hE ((WPrim.revoke (K := K) w0 i id e n1 hrev).nodes h0).1 (.of_revoke hrev (by rw [hs, hsts]) hpre hty) acts
  | _ => intro hroute; cases hroute

/-- `issuer_network_revocation_accepted`: the document `buildRevocation` makes for a credential id (issuer = the DID part of
    the id, proof by that DID's key) passes `RegisterRevocation` wherever that key resolves and the proof verifies — so the
    issuer's own revocation of an id-prefixed credential is never refused -/
theorem issuer_network_revocation_accepted (K : KeyEnv) (n : Node) (id kid sig pk : String) (date : Nat)
    (hfrag : fragmentOf id ≠ "") (hid : id ≠ "") (hiss : prefixOf id ≠ "") (hkid : prefixOf kid = prefixOf id)
    (hres : K.resolveKey kid (some date) = some pk) (hsig : K.sigOK pk (buildRevocation id kid sig date) sig = true) :
    registerRevocation K n (buildRevocation id kid sig date) = .ok { n with netRevs := n.netRevs ++ [buildRevocation id kid sig date] } := by
  simp [registerRevocation, validateRevocation, buildRevocation, hfrag, hid, hiss, hkid, hres] at hsig ⊢
  simp [hsig]

example : issuerRevokeRoute false false exCred "did:a#1" "did:a#k" "s" 1 = .statusList exEntry := by decide
example : issuerRevokeRoute true false exCred "did:nuts:B#1" "did:nuts:B#k" "pkB|did:nuts:B#1" 5 = .network exRevByB := by decide +kernel

/-! ### 9. several status entries; store read faults -/

/-- `each_entry_judged_by_its_own_list`: on the node that manages the lists, a credential with any number of status entries
    (different lists, different issuers, any order, irrelevant entries in between) is answered revoked exactly when some
    relevant entry's position is revoked in the list THAT entry names; otherwise the status check passes. Nothing is
    downloaded. (`status_only_from_named_list` gives the "only from its own list" direction on every node.) -/
theorem each_entry_judged_by_its_own_list (E : Env) (hE : EnvOK E) (i : Bool) (w : World) (hw : WInv E w) (c : Cred) (sts : List StatusEntry)
    (hc : c.statuses = some sts) (hl : LocalEntries E (w.get i) sts) :
    ((statusVerify E i w c).1 = .revoked ↔
      ∃ st j, st ∈ sts ∧ st.relevant = true ∧ st.idx = some ((j : Nat) : Int) ∧ j ∈ (w.get i).revsOf st.list) ∧
    ((statusVerify E i w c).1 = .revoked ∨ (statusVerify E i w c).1 = .ok) := by
  simp only [statusVerify, hc]
  exact verifyStatuses_local_exact hE i sts hw hl

/-- non-vacuity: two entries naming different lists of node 0; only the second one's position is revoked -/
example :
    let w := run exEnv exK exWorld [.entryTx false "did:a" none, .entryTx false "did:b" none, .revoke false "x" exEntry];
    (statusVerify exEnv false w (Cred.mk (some "did:a#2") "did:a"
        (some [StatusEntry.mk "StatusList2021Entry" "revocation" (.sl "https://n0" "did:b" 1) (some 0), exEntry]))).1 = .revoked ∧
    (statusVerify exEnv false w (Cred.mk (some "did:a#3") "did:a"
        (some [StatusEntry.mk "StatusList2021Entry" "revocation" (.sl "https://n0" "did:b" 1) (some 0)]))).1 = .ok := by decide +kernel

/-- `store_read_fault_never_accepts`: while the revocation store cannot be read, `Verify` of a credential answers an error
    (the validator's, or — the credential having an id, which both validators demand — the store's), never "valid", whether
    or not a revocation is stored -/
theorem store_read_fault_never_accepts (E : Env) (i : Bool) (w : World) (c : Cred) (nutsType : Bool) :
    (verifyFullF E i w c nutsType true).1 ≠ .ok := by
  rcases verifyFullF_cases E i w c nutsType true with ⟨e, h⟩ | ⟨h, _⟩
  · rw [h]; nofun
  · cases h

/-- every statement of `(cs *StatusList2021) Verify` and of `verifier.Verify`: the list is fetched inside the loop for every
    entry (`sList,err := cs.statusList(slEntry.StatusListCredential)`), an error of `IsRevoked` is returned, and the
    soft-fail block (`errors.Is(err,types.ErrRevoked)` else log) follows `v.credentialStatus.Verify` only -/
theorem fact_verify_soft_fail_scope :
    Facts.C11.statusVerifyStmts = ["if credentialToVerify.CredentialStatus == nil", "return nil", "statuses,err := credentialToVerify.CredentialStatuses()", "if err != nil", "return err", "range statuses", "if status.Type != StatusList2021EntryType", "continue", "if err != nil", "err = json.Unmarshal(status.Raw(),&slEntry)", "return err", "if slEntry.StatusPurpose != \"revocation\"", "continue", "sList,err := cs.statusList(slEntry.StatusListCredential)", "if err != nil", "return fmt.Errorf(\"status list: %w\",err)", "if sList.StatusPurpose != slEntry.StatusPurpose", "return fmt.Errorf(\"StatusList2021Credential.credentialSubject.statusPuspose='%s' does not match vc.credentialStatus.statusPurpose='%s'\",sList.StatusPurpose,slEntry.StatusPurpose)", "index,err := strconv.Atoi(slEntry.StatusListIndex)", "if err != nil", "return err", "revoked,err := sList.Bitstring.bit(index)", "if err != nil", "return err", "if revoked", "return errRevoked", "return nil"] ∧
    Facts.C11.verifierVerifyStmts = ["validator := credential.FindValidator(credentialToVerify)", "if err != nil", "err := validator.Validate(credentialToVerify)", "return err", "if len(credentialToVerify.Type) > 2", "return errors.New(\"verifiable credential must list at most 2 types\")", "if credentialToVerify.ID != nil", "revoked,err := v.IsRevoked(*credentialToVerify.ID)", "if err != nil", "return err", "if revoked", "return types.ErrRevoked", "err := v.credentialStatus.Verify(credentialToVerify)", "if err != nil", "if errors.Is(err,types.ErrRevoked)", "return err", "bs,_ := json.Marshal(credentialToVerify)", "if !allowUntrusted", "range credentialToVerify.Type", "if t.String() == verifiableCredentialType", "continue", "if !v.trustConfig.IsTrusted(t,credentialToVerify.Issuer)", "return types.ErrUntrusted", "validAtNotNil := time.Now()", "if validAt != nil", "validAtNotNil = *validAt", "if !credentialToVerify.ValidAt(validAtNotNil,maxSkew)", "return types.ErrCredentialNotValidAtTime", "if checkSignature", "issuerDID,err := did.ParseDID(credentialToVerify.Issuer.String())", "if err != nil", "return fmt.Errorf(\"could not validate issuer: %w\",err)", "metadata := resolver.ResolveMetadata{ResolveTime:validAt,AllowDeactivated:false}", "rawJwt := credentialToVerify.Raw()", "if rawJwt != \"\"", "headers,err := ExtractProtectedHeaders(rawJwt)", "if err != nil", "return err", "metadata.JwtProtectedHeaders = headers", "_,_,err = v.didResolver.Resolve(*issuerDID,&metadata)", "if err != nil", "return fmt.Errorf(\"could not validate issuer: %w\",err)", "return v.VerifySignature(credentialToVerify,validAt)", "return nil"] :=
  ⟨rfl, rfl⟩

/-! ### 10. when a cached external list is refreshed -/

/-- `refresh_iff_expired_or_too_old`: a cached record of a list this node does not manage is refreshed exactly when it has an
    expiry that lies in the past OR its (first) download is older than `maxAgeExternal` — in particular a list WITHOUT
    expirationDate is refreshed as soon as it is too old -/
theorem refresh_iff_expired_or_too_old (E : Env) (now : Nat) (rec : CredRec) :
    (stale E now rec = true ↔ (∃ e, rec.expires = some e ∧ e < now) ∨ rec.createdAt + E.maxAge < now) ∧
    (∀ hasExpiry expired tooOld, refreshDecision hasExpiry expired tooOld = true ↔ (hasExpiry = true ∧ expired = true) ∨ tooOld = true) ∧
    (∀ expired, refreshDecision false expired true = true) := by
  refine ⟨?_, ?_, ?_⟩
  · unfold stale refreshDecision
    cases h : rec.expires with
    | none => simp
    | some e => simp
  · intro a b c; cases a <;> cases b <;> cases c <;> simp [refreshDecision]
  · intro b; cases b <;> rfl

/-- and then `statusList` does ask for a download (`needsFetch`) -/
theorem too_old_external_list_is_fetched (E : Env) (now : Nat) (n : Node) (u : Url) (rec : CredRec)
    (hrec : n.cred? u = some rec) (hnm : n.isManaged u = false) (hold : rec.createdAt + E.maxAge < now) :
    needsFetch E now n u = true := by
  have := ((refresh_iff_expired_or_too_old E now rec).1).mpr (Or.inr hold)
  simp [needsFetch, hrec, hnm, this]

/-- the operator tree of the refresh condition in the source: `||` at the root, the `Expires != nil` guard only over the
    expiry test (a moved parenthesis changes this tree even where a textual comparison might be normalised away) -/
theorem fact_status_list_refresh_tree :
    Facts.C11.statusListRefreshTree =
      "(|| (&& [cr.Expires != nil] [time.Unix(*cr.Expires,0).Before(time.Now())]) [time.Unix(cr.CreatedAt,0).Add(maxAgeExternal).Before(time.Now())])" :=
  rfl

/-! ### regenerated facts the model relies on -/

theorem fact_bitstring_arithmetic :
    Facts.C11.bitstring_bit = ["q,r := statusListIndex / 8,byte(statusListIndex % 8)", "if statusListIndex < 0 || q >= len(*bs)",
      "return false,ErrIndexNotInBitstring", "return isSet((*bs)[q],r),nil"] ∧
    Facts.C11.bitstring_setBit = ["q,r := statusListIndex / 8,byte(statusListIndex % 8)", "if statusListIndex < 0 || q >= len(*bs)",
      "return ErrIndexNotInBitstring", "if isSet((*bs)[q],r) != value", "(*bs)[q] ^= 1 << (7 - r)", "return nil"] ∧
    Facts.C11.bitstring_isSet = ["return b >> (7 - r) & 1 == 1"] ∧
    Facts.C11.bitstring_new = ["bs := bitstring(make([]byte,defaultBitstringLengthInBytes))", "return &bs"] := by and_intros <;> rfl

/-- `EnvOK` for the regenerated constants: the last index is the last bit of the bitstring, and a list is re-issued for
    longer than the minimum remaining validity -/
theorem fact_constants :
    Facts.C11.maxBitstringIndex + 1 = 8 * Facts.C11.defaultBitstringLengthInBytes ∧
    Facts.C11.minTimeUntilExpired ≤ Facts.C11.statusListValidity ∧ 0 < Facts.C11.minTimeUntilExpired ∧
    0 < Facts.C11.maxAgeExternal := by decide

theorem fact_env_ok (keyOf : String → Option String) (sign : String → VCBody → String) (verify : VC → Bool)
    (hs : ∀ issuer kid body, keyOf issuer = some kid → body.issuer = issuer → verify { body := body, proof := some (sign kid body) } = true) :
    EnvOK { lenBytes := Facts.C11.defaultBitstringLengthInBytes, maxIndex := Facts.C11.maxBitstringIndex,
            validity := Facts.C11.statusListValidity, minLeft := Facts.C11.minTimeUntilExpired, maxAge := Facts.C11.maxAgeExternal,
            keyOf := keyOf, sign := sign, verify := verify } :=
  ⟨fact_constants.1, fact_constants.2.1, hs⟩

/-- the status list URL is `<base>/statuslist/<issuer>/<page>` (the model's `Url.sl base issuer page`) -/
theorem fact_status_list_url :
    Facts.C11.statusListURL = ["result,_ := url.Parse(cs.baseURL)",
      "return result.JoinPath(\"statuslist\",issuer.String(),strconv.Itoa(page)).String()"] := rfl

theorem fact_entry_structure :
    Facts.C11.entryConds = ["purpose != StatusPurposeRevocation", "!errors.Is(err,gorm.ErrRecordNotFound)",
      "credentialIssuer.LastIssuedIndex > maxBitstringIndex", "errors.Is(err,gorm.ErrDuplicatedKey)"] ∧
    Facts.C11.entryFirstTimeLiteral = ["LastIssuedIndex:maxBitstringIndex", "Page:0"] ∧
    Facts.C11.entryAssignments = ["credentialIssuer.LastIssuedIndex++", "credentialIssuer.LastIssuedIndex = 0", "credentialIssuer.Page++",
      "credentialIssuer.SubjectID = cs.statusListURL(issuer,credentialIssuer.Page)"] ∧
    Facts.C11.entrySelectsForUpdate = true ∧ Facts.C11.entryRetriesInLoop = true ∧
    Facts.C11.entryCalls = ["cs.ResolveKey", "cs.db.Transaction", "tx.Create", "cs.updateCredential", "tx.Create",
      "tx.Model().Where().UpdateColumn"] ∧
    Facts.C11.primaryKeys = ["credentialIssuerRecord.SubjectID", "credentialRecord.SubjectID",
      "revocationRecord.StatusListCredential", "revocationRecord.StatusListIndex"] := by and_intros <;> rfl

/-- `Revoke` and `Credential` read the revocations of the list (`Preload("Revocations")`) on the transaction handle, after
    `lockCredentialRecord`: this is what makes the model's atomic `revoke` / `credential` (whose only reads before the
    transaction decide between "serve the stored list" and "re-issue") a faithful description -/
theorem fact_revoke_and_credential_structure :
    Facts.C11.revokeConds = ["entry.StatusPurpose != StatusPurposeRevocation", "!cs.isManaged(entry.StatusListCredential)",
      "errors.Is(err,gorm.ErrDuplicatedKey)", "statusListIndex < 0 || statusListIndex > issuerRecord.LastIssuedIndex"] ∧
    Facts.C11.revokeCalls = ["cs.db.Transaction", "lockCredentialRecord", "tx.Create", "tx.Preload().First", "tx.Preload",
      "cs.updateCredential", "tx.Clauses().Create"] ∧
    Facts.C11.credentialConds = ["!cs.isManaged(statusListCredentialURL)",
      "err == nil && time.Now().Add(minTimeUntilExpired).Before(time.Unix(*credRecord.Expires,0))"] ∧
    Facts.C11.credentialCalls = ["cs.isManaged", "cs.loadCredential", "cs.db.Transaction", "lockCredentialRecord", "tx.Preload().First",
      "tx.Preload", "cs.updateCredential", "tx.Clauses().Create"] ∧
    Facts.C11.signValidity = ["iss := time.Now()", "exp := iss.Add(statusListValidity)"] := by and_intros <;> rfl

theorem fact_status_verifier_structure :
    Facts.C11.statusVerifyConds = ["credentialToVerify.CredentialStatus == nil", "status.Type != StatusList2021EntryType",
      "slEntry.StatusPurpose != \"revocation\"", "sList.StatusPurpose != slEntry.StatusPurpose", "revoked"] ∧
    Facts.C11.statusListConds = ["err != nil", "cs.isManaged(statusListCredential)",
      "(cr.Expires != nil && time.Unix(*cr.Expires,0).Before(time.Now())) || time.Unix(cr.CreatedAt,0).Add(maxAgeExternal).Before(time.Now())",
      "err == nil", "cr.Expires != nil && time.Unix(*cr.Expires,0).Before(time.Now())"] ∧
    Facts.C11.updateConds = ["statusListCredential != credSubject.ID"] ∧
    Facts.C11.updateCalls = ["cs.download", "cs.verify", "cs.db.Clauses().Create"] ∧
    Facts.C11.verifyListCalls = ["cs.validate", "expand", "cs.VerifySignature"] ∧
    Facts.C11.validateConds = ["!cred.ContainsContext(vc.VCContextV1URI())", "!cred.ContainsContext(StatusList2021ContextURI)",
      "!cred.IsType(vc.VerifiableCredentialTypeV1URI())", "!cred.IsType(statusList2021CredentialTypeURI)", "len(cred.Type) > 2",
      "cred.ID == nil", "cred.IssuanceDate.IsZero()", "cred.Format() == vc.JSONLDCredentialProofFormat && cred.Proof == nil",
      "cred.CredentialStatus != nil", "err != nil", "len(target) != 1", "credentialSubject.Type != StatusList2021CredentialSubjectType",
      "credentialSubject.StatusPurpose == \"\"", "credentialSubject.EncodedList == \"\""] := by and_intros <;> rfl

theorem fact_register_and_verify_order :
    Facts.C11.registerConds = ["subjectIssuer != revocation.Issuer.String()", "vmIssuer != revocation.Issuer.String()"] ∧
    Facts.C11.registerCalls = ["credential.ValidateRevocation", "strings.Split", "strings.Split", "v.keyResolver.ResolveKeyByID",
      "ldProof.Verify", "v.store.StoreRevocation"] ∧
    Facts.C11.verifyConds = ["credentialToVerify.ID != nil", "revoked", "errors.Is(err,types.ErrRevoked)"] ∧
    Facts.C11.verifyCalls = ["v.IsRevoked", "v.credentialStatus.Verify", "v.trustConfig.IsTrusted", "v.VerifySignature"] ∧
    Facts.C11.isRevokedConds = ["err != nil", "errors.Is(err,ErrNotFound)"] ∧
    Facts.C11.isRevokedCalls = ["v.store.GetRevocations"] ∧
    Facts.C11.validateRevocationConds = ["r.Subject.String() == \"\" || r.Subject.Fragment == \"\"", "len(r.Context) != 0",
      "val == RevocationType", "!foundType", "r.Issuer.String() == \"\"", "r.Date.IsZero()", "r.Proof == nil"] ∧
    Facts.C11.ambassadorRevocationCalls = ["n.verifier.RegisterRevocation"] := by and_intros <;> rfl

/-- the ambassador hands a failed revocation event to `handleError`, which recognises context time-outs / cancellations with
    `errors.Is` (through any `%w` wrapping; no identity `switch err`) before anything is declared fatal -/
theorem fact_ambassador_transient_errors :
    Facts.C11.ambassadorHandleRevocationCalls = ["n.jsonLDRevocationCallback", "n.handleError"] ∧
    Facts.C11.ambassadorHandleErrorSwitches = [] ∧
    Facts.C11.ambassadorHandleErrorConds = ["errors.Is(err,context.Canceled) || errors.Is(err,context.DeadlineExceeded)",
      "errors.Is(err,jsonld.ContextURLNotAllowedErr)",
      "errors.As(err,&jsonLDError) && jsonLDError.Code == ld.LoadingRemoteContextFailed && !errors.Is(err,jsonld.ContextURLNotAllowedErr)"] := by and_intros <;> rfl

/-- the sites around the core mechanism that the model's routing / wiring assumptions rest on — the issuer's
    `Revoke` routing (did:nuts ⇒ network revocation, else status list), the `revokeStatusList` loop (`continue` on another
    purpose), `revokeDIDNuts` (already-revoked check, publish, store), `buildRevocation` (issuer = id without path/fragment),
    the constructors that inject Sign / ResolveKey / VerifySignature into the shared StatusList2021, the credential id and
    status entry made by `buildAndSignVC`, the ambassador's two subscriptions with their filters, and the revocation
    store's exact-match query on `subject` -/
theorem fact_issuer_ambassador_store_sites :
    Facts.C11.issuerRevoke = ["credentialDIDURL,err := did.ParseDIDURL(credentialID.String())", "if err != nil || credentialDIDURL.Method == didnuts.MethodName", "return i.revokeDIDNuts(ctx,credentialID)", "return nil,i.revokeStatusList(ctx,credentialID)"] ∧
    Facts.C11.issuerRevokeStatusList = ["cred,err := i.store.GetCredential(credentialID)", "if err != nil", "return err", "statuses,err := cred.CredentialStatuses()", "if err != nil", "return err", "range statuses", "if status.Type == revocation.StatusList2021EntryType", "err = json.Unmarshal(status.Raw(),&slEntry)", "if err != nil", "return err", "if slEntry.StatusPurpose != revocation.StatusPurposeRevocation", "continue", "return i.statusList.Revoke(ctx,credentialID,slEntry)", "return types.ErrStatusNotFound"] ∧
    Facts.C11.issuerRevokeDIDNuts = ["isRevoked,err := i.isRevoked(credentialID)", "if err != nil", "return nil,fmt.Errorf(\"error while checking revocation status: %w\",err)", "if isRevoked", "return nil,types.ErrRevoked", "revocation,err := i.buildRevocation(ctx,credentialID)", "if err != nil", "return nil,err", "err = i.networkPublisher.PublishRevocation(ctx,*revocation)", "if err != nil", "return nil,fmt.Errorf(\"failed to publish revocation: %w\",err)", "if err != nil", "err := i.store.StoreRevocation(*revocation)", "return nil,fmt.Errorf(\"unable to store revocation: %w\",err)", "return revocation,nil"] ∧
    Facts.C11.issuerBuildRevocation = ["issuer := credentialID", "issuer.Path = \"\"", "issuer.Fragment = \"\"", "issuerDID,err := did.ParseDID(issuer.String())", "return nil,fmt.Errorf(\"failed to extract issuer: %w\",err)", "keyURI,_,err := i.keyResolver.ResolveKey(*issuerDID,nil,resolver.AssertionMethod)", "revocation := credential.BuildRevocation(issuerDID.URI(),credentialID)", "signingResult,err := ldProof.Sign(ctx,revocationAsMap,webSig,keyURI)"] ∧
    Facts.C11.issuerWiring = ["statusList.Sign = i.buildJSONLDCredential", "statusList.ResolveKey = i.keyResolver.ResolveKey"] ∧
    Facts.C11.verifierWiring = ["credentialStatus.VerifySignature = v.VerifySignature"] ∧
    Facts.C11.issuerStatusEntry = ["credentialID := ssi.MustParseURI(fmt.Sprintf(\"%s#%s\",issuerDID.String(),uuid.New().String()))", "if options.WithStatusListRevocation", "credentialStatusEntry,err := i.statusList.Entry(ctx,*issuerDID,revocation.StatusPurposeRevocation)", "unsignedCredential.CredentialStatus = append(unsignedCredential.CredentialStatus,credentialStatusEntry)"] ∧
    Facts.C11.ambassadorConfigure = ["err := n.networkClient.Subscribe(\"vcr_vcs\",n.handleNetworkVCs,n.networkClient.WithPersistency(),network.WithSelectionFilter(<*ast.FuncLit>))", "return event.Type == dag.PayloadEventType && event.Transaction.PayloadType() == types.VcDocumentType", "if err != nil", "return err", "return n.networkClient.Subscribe(\"vcr_revocations\",n.handleNetworkRevocations,n.networkClient.WithPersistency(),network.WithSelectionFilter(<*ast.FuncLit>))", "return event.Type == dag.PayloadEventType && event.Transaction.PayloadType() == types.RevocationLDDocumentType"] ∧
    Facts.C11.leiaGetRevocations = ["query := leia.New(leia.Eq(leia.NewJSONPath(credential.RevocationSubjectPath),leia.MustParseScalar(id.String())))", "results,err := s.revocationCollection().Find(context.Background(),query)", "if err != nil", "return nil,fmt.Errorf(\"error while getting revocation by id: %w\",err)", "if len(results) == 0", "return nil,ErrNotFound", "revocations := make([]*credential.Revocation,len(results))", "range results", "revocation := &credential.Revocation{}", "if err != nil", "err := json.Unmarshal(result,revocation)", "return nil,err", "revocations[i] = revocation", "return revocations,nil"] ∧
    Facts.C11.verifierIsRevoked = ["_,err := v.store.GetRevocations(credentialID)", "if err != nil", "if errors.Is(err,ErrNotFound)", "return false,nil", "return false,err", "return true,nil"] := by and_intros <;> rfl

/-- every statement of `Revoke`, `Credential` and `updateCredential` (assignments, conditions, returns in source order): in
    particular an error of `updateCredential` / `buildAndSignVC` is RETURNED from the transaction function (`return err`,
    `return nil,nil,err`), so a failing `Sign` rolls the revocation row back instead of committing a stale list -/
theorem fact_revoke_credential_statements :
    Facts.C11.revokeStmts = ["statusListIndex,err := strconv.Atoi(entry.StatusListIndex)", "if err != nil", "return err", "if entry.StatusPurpose != StatusPurposeRevocation", "return errUnsupportedPurpose", "if !cs.isManaged(entry.StatusListCredential)", "return errNotFound", "err = cs.db.Model(&credentialIssuerRecord{}).Select(\"issuer\").First(&issuerStr,\"subject_id = ?\",entry.StatusListCredential).Error", "if err != nil", "return err", "issuerDID,err := did.ParseDID(issuerStr)", "if err != nil", "return err", "kid,_,err := cs.ResolveKey(*issuerDID,nil,resolver.AssertionMethod)", "if err != nil", "return err", "return cs.db.Transaction(<*ast.FuncLit>)", "err = lockCredentialRecord(tx,entry.StatusListCredential)", "if err != nil", "return err", "revocation := revocationRecord{StatusListCredential:entry.StatusListCredential,StatusListIndex:statusListIndex,CredentialID:credentialID.String()}", "err = tx.Create(&revocation).Error", "if err != nil", "if errors.Is(err,gorm.ErrDuplicatedKey)", "return errRevoked", "return err", "issuerRecord := new(credentialIssuerRecord)", "err = tx.Preload(\"Revocations\").First(issuerRecord,\"subject_id = ?\",entry.StatusListCredential).Error", "if err != nil", "if errors.Is(err,gorm.ErrRecordNotFound)", "return errNotFound", "return err", "if statusListIndex < 0 || statusListIndex > issuerRecord.LastIssuedIndex", "return ErrIndexNotInBitstring", "transactionContext := context.WithValue(ctx,storage.TransactionKey{},tx)", "_,credRecord,err := cs.updateCredential(transactionContext,issuerRecord,kid)", "if err != nil", "return err", "return tx.Clauses(clause.OnConflict{UpdateAll:true}).Create(credRecord).Error"] ∧
    Facts.C11.credentialStmts = ["statusListCredentialURL := cs.statusListURL(issuerDID,page)", "if !cs.isManaged(statusListCredentialURL)", "return nil,errNotFound", "credRecord,err := cs.loadCredential(statusListCredentialURL)", "if err == nil && time.Now().Add(minTimeUntilExpired).Before(time.Unix(*credRecord.Expires,0))", "cred,err := vc.ParseVerifiableCredential(credRecord.Raw)", "if err == nil", "return cred,nil", "info := audit.InfoFromContext(ctx)", "if info != nil", "module,operation,ok := strings.Cut(info.Operation,\".\")", "if ok", "ctx = audit.Context(ctx,\"_system_signing_expired_statuslist2021credential\",module,operation)", "kid,_,err := cs.ResolveKey(issuerDID,nil,resolver.AssertionMethod)", "if err != nil", "return nil,err", "err = cs.db.Transaction(<*ast.FuncLit>)", "err = lockCredentialRecord(tx,statusListCredentialURL)", "if err != nil", "return err", "issuerRecord := new(credentialIssuerRecord)", "err = tx.Preload(\"Revocations\").First(issuerRecord,\"subject_id = ?\",statusListCredentialURL).Error", "if err != nil", "return err", "transactionContext := context.WithValue(ctx,storage.TransactionKey{},tx)", "cred,credRecord,err = cs.updateCredential(transactionContext,issuerRecord,kid)", "if err != nil", "return err", "err = tx.Clauses(clause.OnConflict{UpdateAll:true}).Create(credRecord).Error", "if err != nil", "return nil", "if err != nil", "return nil,err", "return cred,nil"] ∧
    Facts.C11.updateCredentialStmts = ["issuerDID,err := did.ParseDID(issuerRecord.Issuer)", "if err != nil", "return nil,nil,err", "expanded := newBitstring()", "range issuerRecord.Revocations", "if err != nil", "err = expanded.setBit(rev.StatusListIndex,true)", "return nil,nil,err", "encodedList,err := compress(*expanded)", "if err != nil", "return nil,nil,err", "credSubject := &StatusList2021CredentialSubject{ID:issuerRecord.SubjectID,Type:StatusList2021CredentialSubjectType,StatusPurpose:StatusPurposeRevocation,EncodedList:encodedList}", "statusListCredential,err := cs.buildAndSignVC(ctx,*issuerDID,*credSubject,kid)", "if err != nil", "return nil,nil,err", "expires := statusListCredential.ExpirationDate.Unix()", "credRecord := &credentialRecord{SubjectID:credSubject.ID,StatusPurpose:credSubject.StatusPurpose,Bitstring:*expanded,Expires:&expires,Raw:statusListCredential.Raw()}", "return statusListCredential,credRecord,nil"] := by and_intros <;> rfl

/-- every statement of the verifier's `update`: the downloaded list is stored with `OnConflict{UpdateAll:true}` — ALL columns
    of the row (bitstring, purpose, expiry, raw) are replaced by a refresh, which is what the model's `putCred` does (only
    gorm's autoCreateTime column `created_at` is left alone, see `Node.stored`) -/
theorem fact_update_upserts_all_columns :
    Facts.C11.updateStmts = ["cred,err := cs.download(statusListCredential)", "if err != nil", "return nil,err", "credSubject,err := cs.verify(*cred)", "if err != nil", "return nil,err", "if statusListCredential != credSubject.ID", "return nil,fmt.Errorf(\"status list: wrong credential: expected '%s', got '%s'\",statusListCredential,credSubject.ID)", "expanded,err := expand(credSubject.EncodedList)", "if err != nil", "return nil,err", "if cred.ExpirationDate != nil && !cred.ExpirationDate.IsZero()", "expires := cred.ExpirationDate.Unix()", "expiresPtr = &expires", "sl := credentialRecord{SubjectID:statusListCredential,StatusPurpose:credSubject.StatusPurpose,Bitstring:expanded,Expires:expiresPtr,Raw:cred.Raw()}", "err = cs.db.Clauses(clause.OnConflict{UpdateAll:true}).Create(&sl).Error", "if err != nil", "return &sl,nil"] :=
  rfl

end Nuts.C11.Props
