/-
  C17 — caseVariantMember's reflect loop over the fields of the decoded Go type (vcr/verifier/signature_verifier.go).
  Model: NutsModel/C17/CaseVar.lean.
-/
import NutsModel.C17.CaseVar
import NutsModel.Facts.C17
import NutsProofs.Props.C17Fold

namespace Nuts.C17.Props
open Nuts.C17 Nuts.C17.Fold Nuts.C17.CaseVar

/-- the regenerated constants of the loop: Cut separator, tag key, skipped names + what skipping is, the inner comparison, the tail call -/
theorem fact_caseVariant_loop :
    Facts.C17.caseVariantCutSep = "," ∧ Facts.C17.caseVariantTagKey = "structType.Field(i).Tag.Get:json" ∧
    Facts.C17.caseVariantSkipNames = ["", "-"] ∧ Facts.C17.caseVariantSkipAction = "continue" ∧
    Facts.C17.caseVariantCompare = "member != name && strings.EqualFold(member, name)" ∧
    Facts.C17.caseVariantFinal = "return ambiguousMember(map[string]interface{}(document))" := by
  and_intros <;> rfl

/-- the separator as a character (the model's `cutAt` takes a Char) -/
def cvSep : Char := (Facts.C17.caseVariantCutSep.toList.head?).getD ','
theorem fact_cvSep : cvSep = ',' ∧ Facts.C17.caseVariantCutSep.length = 1 := by decide

theorem variantIn_eq_find? (fold : String → String) (name : String) :
    ∀ ms : List String, variantIn fold name ms = ms.find? (fun m => m ≠ name ∧ fold m = fold name) := fun ms => by
  fun_induction variantIn fold name ms with
  | case1 => rfl
  | case2 m r h => simp [h]
  | case3 m r h ih => simp [h, ih]

theorem structLoop_eq_findSome? (sep : Char) (skip : List String) (fold : String → String) (ms : List String) :
    ∀ tags : List String, structLoop sep skip fold ms tags = (fieldNames sep skip tags).findSome? (variantIn fold · ms)
  | [] => rfl
  | t :: r => by
    rw [structLoop, fieldNames, List.filterMap_cons, structLoop_eq_findSome? sep skip fold ms r]
    cases tagName sep skip t with
    | none => rfl
    | some name => simp only [List.findSome?_cons]; cases variantIn fold name ms <;> rfl

/-- **structLoop_none_iff** (completeness of the guard's first half, ALL member lists / tag lists / folds): the loop finds nothing
    exactly when no member of the document is a case variant of (folds like, but is not) the JSON name of a field -/
theorem structLoop_none_iff (sep : Char) (skip : List String) (fold : String → String) (ms : List String) :
    ∀ tags : List String, structLoop sep skip fold ms tags = none ↔
      ∀ name ∈ fieldNames sep skip tags, ∀ m ∈ ms, m = name ∨ fold m ≠ fold name := by
  intro tags
  simp only [structLoop_eq_findSome?, List.findSome?_eq_none_iff, variantIn_eq_find?, List.find?_eq_none, decide_eq_true_eq, not_and]
  exact forall₂_congr fun _ _ => forall₂_congr fun _ _ => Decidable.imp_iff_not_or.trans (by rw [Decidable.not_not])

/-- **structLoop_sound**: what the loop reports IS a member of the document that differs from a field's JSON name only by case -/
theorem structLoop_sound {sep : Char} {skip : List String} {fold : String → String} {ms : List String} {m : String} :
    ∀ {tags : List String}, structLoop sep skip fold ms tags = some m →
      m ∈ ms ∧ ∃ name ∈ fieldNames sep skip tags, m ≠ name ∧ fold m = fold name := by
  intro tags h
  rw [structLoop_eq_findSome?] at h
  obtain ⟨name, hn, hv⟩ := List.exists_of_findSome?_eq_some h
  rw [variantIn_eq_find?] at hv
  exact ⟨List.mem_of_find?_eq_some hv, name, hn, by simpa using List.find?_some hv⟩

/-- **caseVariant_verdict_order_independent**: Go ranges over the document in map order; WHETHER a variant is found does not depend on it -/
theorem caseVariant_verdict_order_independent (sep : Char) (skip : List String) (fold : String → String) (ms ms' tags : List String)
    (hp : ∀ m, m ∈ ms ↔ m ∈ ms') :
    (structLoop sep skip fold ms tags).isNone = (structLoop sep skip fold ms' tags).isNone := by
  rw [Bool.eq_iff_iff, Option.isNone_iff_eq_none, Option.isNone_iff_eq_none, structLoop_none_iff, structLoop_none_iff]
  exact forall₂_congr fun _ _ => forall_congr' fun m => imp_congr_left (hp m)

/-- **clean_document_decodes_exact_names**: when caseVariantMember finds nothing, every top-level member that encoding/json stores in a
    field of the decoded struct is spelt EXACTLY like that field's JSON name — the term the JSON-LD canonicalisation (hence the
    signature) knows; no unsigned look-alike is read. For all documents, struct types (through any number of pointers), folds. -/
theorem clean_document_decodes_exact_names (sep : Char) (skip : List String) (fold : String → String) (ty : GoType) (tags : List String)
    (doc : JMembers) (hty : deref ty = .struct tags) (h : caseVariantMember sep skip fold ty doc = none) :
    (∀ m ∈ namesOf doc, ∀ f, decodesInto fold (fieldNames sep skip tags) m = some f → f = m) ∧ ambVal fold (.obj doc) = none := by
  unfold caseVariantMember at h
  cases hs : structPart sep skip fold ty (namesOf doc) with
  | some x => rw [hs] at h; cases h
  | none =>
    rw [hs] at h
    refine ⟨?_, h⟩
    unfold structPart at hs
    rw [hty] at hs
    have hall := (structLoop_none_iff sep skip fold (namesOf doc) tags).1 hs
    intro m hm f hf
    unfold decodesInto at hf
    split at hf
    · injection hf with hf; exact hf.symm
    · have hmem := List.mem_of_find?_eq_some hf
      have hfold : fold f = fold m := by simpa using List.find?_some hf
      cases hall f hmem m hm with
      | inl e => exact e.symm
      | inr e => exact absurd hfold.symm e

/-- **vcJsonLdDocS_refines**: with the loop computed, jsonldProof-up-to-the-guard is Fold.`vcJsonLdDoc` with `structVariant` := "the loop
    found a member" — accept_vcJsonLdDoc / ambiguousMember_refuses_every_conflated_pair carry over -/
theorem vcJsonLdDocS_refines (sep : Char) (skip : List String) (fold : String → String) (docOK : Bool) (ty : GoType) (doc : JMembers) (rest : Outcome) :
    vcJsonLdDocS sep skip fold docOK ty doc rest =
      vcJsonLdDoc fold docOK (structPart sep skip fold ty (namesOf doc)).isSome (.obj doc) rest := by
  unfold vcJsonLdDocS vcJsonLdDoc caseVariantMember
  cases docOK <;> simp only [Bool.not_true, Bool.not_false, if_true, if_false, Bool.false_eq_true]
  cases structPart sep skip fold ty (namesOf doc) <;> simp <;> cases ambVal fold (JVal.obj doc) <;> rfl

/-- **accept_vcJsonLdDocS**: an accepted JSON-LD document (decoded into a struct) went through the rest of jsonldProof, none of its
    top-level members is an unsigned look-alike of a struct field, and no object at any depth holds two conflated members -/
theorem accept_vcJsonLdDocS (sep : Char) (skip : List String) (fold : String → String) (docOK : Bool) (ty : GoType) (tags : List String)
    (doc : JMembers) (rest : Outcome) (vs : List Verified) (hty : deref ty = .struct tags)
    (h : vcJsonLdDocS sep skip fold docOK ty doc rest = .accept vs) :
    rest = .accept vs ∧ docOK = true ∧
    (∀ m ∈ namesOf doc, ∀ f, decodesInto fold (fieldNames sep skip tags) m = some f → f = m) ∧ ambVal fold (.obj doc) = none := by
  unfold vcJsonLdDocS at h
  split at h; · cases h
  next hd =>
  split at h; · cases h
  next hc => exact ⟨h, by simpa using hd, clean_document_decodes_exact_names sep skip fold ty tags doc hty hc⟩

/-- **accepted_jsonld_reads_what_was_signed** (end to end, composing the document guard with the proof check, accept_vcJsonLd): a JSON-LD
    credential / presentation decoded into a struct and ACCEPTED by jsonldProof (a) carries a single proof object whose verificationMethod
    is a DID URL of exactly the issuer, verified once with the key the resolver returns for it and an asymmetric algorithm derived from that
    key; (b) none of its top-level members is an unsigned look-alike of a struct field; (c) no object at ANY depth holds two members that
    encoding/json conflates. For all documents, decoded types, folds, environments. -/
theorem accepted_jsonld_reads_what_was_signed (sep : Char) (skip : List String) (fold : String → String) (docOK : Bool) (ty : GoType)
    (tags : List String) (doc : JMembers) (E : Env) (L : LdEnv) (po : Bool) (issuer vm : String) (didOf : String → String) (va canon : Bool)
    (parts : Nat) (dec : Bool) (vs : List Verified) (hty : deref ty = .struct tags)
    (hderive : ∀ k a, L.keyAlg k = some a → a ∈ Facts.C17.keyDerivedAlgs)
    (h : vcJsonLdDocS sep skip fold docOK ty doc (vcJsonLdProof E L po issuer vm didOf va canon parts dec) = .accept vs) :
    (po = true ∧ didOf vm = issuer ∧ ∃ k v, E.resolve vm = some k ∧ vs = [v] ∧ v.key = k ∧ L.keyAlg k = some v.alg ∧
      v.alg ∉ symmetricOrNone ∧ L.verifiesDetached k v.alg = true) ∧
    (∀ m ∈ namesOf doc, ∀ f, decodesInto fold (fieldNames sep skip tags) m = some f → f = m) ∧
    (∀ ns ∈ objsVal (.obj doc), ns.Pairwise (fun a b => fold a ≠ fold b)) := by
  obtain ⟨hrest, _, hexact, hamb⟩ := accept_vcJsonLdDocS sep skip fold docOK ty tags doc _ vs hty h
  exact ⟨accept_vcJsonLd E L po issuer vm didOf va canon parts dec vs hderive hrest, hexact,
         fun ns hns => (ambVal_none fold (.obj doc) hamb ns hns).2⟩

/-- negation for a loop that compares exact names only (no EqualFold): a look-alike of a field passes and is decoded into it -/
theorem exact_compare_misses_case_variant :
    ∃ (doc : JMembers) (tags : List String), structLoop ',' ["", "-"] id (namesOf doc) tags = none ∧
      ∃ m ∈ namesOf doc, ∃ f, decodesInto (foldName sf) (fieldNames ',' ["", "-"] tags) m = some f ∧ f ≠ m :=
  ⟨.cons "Issuer" .leaf .nil, ["issuer,omitempty"], by decide +kernel, "Issuer", .head _, "issuer", by decide +kernel, by decide⟩

private def vcTags : List String := ["@context", "id,omitempty", "type", "issuer", "-", "", "credentialSubject,omitempty", "proof,omitempty"]
example : fieldNames cvSep Facts.C17.caseVariantSkipNames vcTags = ["@context", "id", "type", "issuer", "credentialSubject", "proof"] := by decide +kernel
/-- a clean document through two pointers: nothing found; hypotheses of clean_document_decodes_exact_names hold -/
example : caseVariantMember cvSep Facts.C17.caseVariantSkipNames (foldName sf) (.ptr (.ptr (.struct vcTags)))
    (.cons "issuer" .leaf (.cons "credentialSubject" (.obj (.cons "id" .leaf .nil)) .nil)) = none := by decide +kernel
/-- `iſsuer` (LONG S) next to nothing else: reported, although no two members of the document conflate -/
example : caseVariantMember cvSep Facts.C17.caseVariantSkipNames (foldName sf) (.ptr (.struct vcTags)) (.cons "iſsuer" .leaf .nil) = some "iſsuer" := by decide +kernel
example : ambVal (foldName sf) (.obj (.cons "iſsuer" .leaf .nil)) = none := by decide
/-- not a struct (map / nil): only ambiguousMember speaks -/
example : caseVariantMember cvSep Facts.C17.caseVariantSkipNames (foldName sf) .other (.cons "ISSUER" .leaf .nil) = none := by decide
example : caseVariantMember cvSep Facts.C17.caseVariantSkipNames (foldName sf) .nil (.cons "ISSUER" .leaf (.cons "issuer" .leaf .nil)) = some "issuer" := by decide +kernel

end Nuts.C17.Props
