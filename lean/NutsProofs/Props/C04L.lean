/-
  C04 — the internal rate limiter behind the auth guard.
  Model: NutsModel/C04/Limiter.lean.  Abstract layer it refines: `serveEcho` / `serveConn` of NutsModel/C04/HttpGuard.lean.
-/
import NutsModel.C04.Limiter
import NutsModel.Facts.C04
import NutsProofs.Lemmas.C04
import NutsProofs.Props.C04

namespace Nuts.C04.Props
open Nuts.C04

/-- the wiring decision of `applyRateLimiterMiddleware` is the one `limiterEnabled` models: one `if`, one `Use` -/
theorem fact_limiter_condition :
    Facts.C04.limiterCondition =
      "(serverConfig.Strictmode || serverConfig.InternalRateLimiter) && slices.Contains(serverConfig.DIDMethods, didnuts.MethodName)"
    ∧ Facts.C04.limiterInstallShape = [1, 1] ∧ Facts.C04.limiterConstructor = "newInternalRateLimiter"
    ∧ Facts.C04.didnutsMethodName = "nuts" :=
  ⟨rfl, rfl, rfl, rfl⟩

/-- 3000 requests per 24 h, burst 30 -/
theorem fact_limiter_params :
    Facts.C04.limiterIntervalExpr = "24 * time.Hour" ∧ Facts.C04.limiterPerInterval = 3000 ∧ Facts.C04.limiterBurst = 30 :=
  ⟨rfl, rfl, rfl⟩

/-- ratelimiter.go: the skipper compares `c.Path()` with `==` against `protectedPaths[method]`, there is ONE bucket
    (identifier ""), `Allow` is the bucket's `Allow` -/
theorem fact_limiter_skipper :
    Facts.C04.limiterSkipper =
      "func(c echo.Context) bool { for _, path := range protectedPaths[c.Request().Method] { if c.Path() == path { return false } } return true }"
    ∧ Facts.C04.limiterIdentifier = "func(ctx echo.Context) (string, error) { return \"\", nil }"
    ∧ Facts.C04.limiterAllowBody = "{ return s.limiter.Allow(), nil }"
    ∧ Facts.C04.limiterStoreExpr = "newInternalRateLimiterStore(interval, limitPerInterval, burst)"
    ∧ Facts.C04.limiterBucketBody =
      "{ return &internalRateLimiterStore{limiter: rate.NewLimiter(limitPerInterval*rate.Every(interval), burst)} }" :=
  ⟨rfl, rfl, rfl, rfl, rfl⟩

/-- every route of the table is a route under the guarded path -/
def TableGuarded (tbl : LimTable) : Prop :=
  ∀ e ∈ tbl, ∀ p ∈ e.2, ∃ ps, patOf p = .lit internalLit :: ps

def tableGuardedB (tbl : LimTable) : Bool :=
  tbl.all (fun e => e.2.all (fun p => (patOf p).head? = some (.lit internalLit)))

theorem tableGuarded_of_B {tbl : LimTable} (h : tableGuardedB tbl = true) : TableGuarded tbl := by
  intro e he p hp
  simp only [tableGuardedB, List.all_eq_true, decide_eq_true_eq] at h
  have := h e he p hp
  cases hq : patOf p with
  | nil => simp [hq] at this
  | cons a ps => simp [hq] at this; exact ⟨ps, by rw [this]⟩

/-- EVERY rate-limited route of the regenerated table lies under `/internal`: with token auth enabled the limiter
    can only be reached through the guard. A table entry outside `/internal` breaks this proof. -/
theorem fact_limited_routes_are_guarded : TableGuarded Facts.C04.limiterTable := by
  apply tableGuarded_of_B
  unfold Facts.C04.limiterTable
  -- The kernel evaluates `toList` of a string literal by decoding its UTF-8 bytes position by position, at a cost
  -- quadratic in the length; `String.toList_ofList` reads the characters off the literal instead.
  repeat rewrite [String.toList_ofList]
  decide +kernel

/-- the table is non-empty for POST and PUT and has no other method -/
theorem fact_limiter_methods : Facts.C04.limiterTable.map (·.1) = ["POST", "PUT"]
    ∧ (protectedFor Facts.C04.limiterTable "POST").length = 9 ∧ (protectedFor Facts.C04.limiterTable "PUT").length = 2 := by
  refine ⟨rfl, ?_, ?_⟩ <;> decide

/-- registrations as `addFn` creates them: the router pattern is the pattern of the registered path -/
def RegsWF (regs : List Registered) : Prop := ∀ g ∈ regs, g.route.pat = patOf g.path

theorem patOf_nil_ne {ps : List Seg} : patOf [] ≠ .lit internalLit :: ps := by
  simp [patOf, splitSegs]

theorem echoPath_spec {regs : List Registered} (hregs : RegsWF regs) (method : String) (p : Str) :
    echoPath regs method p = [] ∨ ∃ leaf, matchPat leaf (patOf (echoPath regs method p)) p = true := by
  fun_cases echoPath regs method p with
  | case1 _ r0 hf =>
    unfold pathOfRoute
    split
    · next g hg =>
      obtain rfl : g.route = r0 := by simpa using List.find?_some hg
      have hm := (findRoute_handler hf).2.1
      rw [pathMatches, hregs g (List.mem_of_find?_eq_some hg)] at hm
      exact .inr ⟨_, hm⟩
    · exact .inl rfl
  | case3 _ _ c rest hc =>
    have hmem : c ∈ candidates (regs.map (·.route)) p := hc ▸ List.mem_cons_self
    have hm := (List.mem_filter.mp ((sortBy_perm _ _).mem_iff.mp hmem)).2
    unfold pathOfPat
    split
    · next g hg =>
      have hgp : g.route.pat = c.pat := by simpa using List.find?_some hg
      rw [pathMatches, ← hgp, hregs g (List.mem_of_find?_eq_some hg)] at hm
      exact .inr ⟨_, hm⟩
    · exact .inl rfl
  | _ => exact .inl rfl

/-- if the limiter engages, the router matched a pattern under `/internal`, so the auth guard is engaged too -/
theorem limiter_engages_only_behind_guard (lim : LimCfg) (regs : List Registered) (method : String) (r : Req)
    (hwf : ReqWF r) (hregs : RegsWF regs) (htbl : TableGuarded lim.tbl)
    (h : limiterEngaged lim regs method r = true) : guardEngaged .urlPath internalPath r = true := by
  simp only [limiterEngaged, limiterSkips, Bool.and_eq_true, Bool.not_not, List.any_eq_true, decide_eq_true_eq] at h
  obtain ⟨_, p, hp, hpe⟩ := h
  obtain ⟨ps, hps⟩ : ∃ ps, patOf p = .lit internalLit :: ps := by
    unfold protectedFor at hp
    split at hp
    · next e he => exact htbl e (List.mem_of_find?_eq_some he) p hp
    · cases hp
  rw [hpe] at hps
  rcases echoPath_spec hregs method (routerPath r) with h0 | ⟨leaf, hm⟩
  · exact absurd (h0 ▸ hps) patOf_nil_ne
  · exact guard_covers_router hwf (hps ▸ hm)

theorem runRouted_status_ne_429 (method : String) (user : Option String) (x : Routed) : (runRouted method user x).status ≠ 429 := by
  cases x <;> simp [runRouted]
  split <;> simp

/-- **denied_keeps_budget** (all requests, all route tables, all bucket states): a request without an accepted token —
    whatever its target, guarded or not — leaves the limiter's bucket unchanged and is never answered 429 -/
theorem denied_keeps_budget (lim : LimCfg) (regs : List Registered) (method : String) (r : Req) (b : Nat)
    (hwf : ReqWF r) (hregs : RegsWF regs) (htbl : TableGuarded lim.tbl) :
    (serveEchoL .urlPath internalPath true lim regs .denied method r b).2 = b
    ∧ (serveEchoL .urlPath internalPath true lim regs .denied method r b).1.status ≠ 429 := by
  unfold serveEchoL
  by_cases hg : guardEngaged .urlPath internalPath r = true
  · simp [hg]
  · have he : ¬ limiterEngaged lim regs method r = true := fun h =>
      hg (limiter_engages_only_behind_guard lim regs method r hwf hregs htbl h)
    simp only [hg, Bool.and_false, Bool.false_eq_true, if_false, limStage, he]
    exact ⟨by trivial, runRouted_status_ne_429 _ _ _⟩

/-- the same on the regenerated configuration (selector, guarded path and table of /repo's source) -/
theorem denied_keeps_budget_facts (on : Bool) (regs : List Registered) (method : String) (r : Req) (b : Nat)
    (hwf : ReqWF r) (hregs : RegsWF regs) :
    (serveEchoL Facts.C04.authSelector Facts.C04.authPath true { on := on, tbl := Facts.C04.limiterTable } regs .denied method r b).2 = b := by
  rw [fact_auth_selector_is_url_path, fact_auth_path]
  exact (denied_keeps_budget _ regs method r b hwf hregs fact_limited_routes_are_guarded).1

/-- non-vacuity: the same request WITH a token spends one token, and is refused 429 on an empty bucket -/
def exRegs : List Registered :=
  [{ path := "/internal/vdr/v1/did".toList, route := { id := 31, method := "POST", pat := patOf "/internal/vdr/v1/did".toList } }]
def exReq : Req := { requestURI := "/internal/vdr/v1/did".toList, path := "/internal/vdr/v1/did".toList, rawPath := [] }
def exLim : LimCfg := { on := true, tbl := [("POST", ["/internal/vdr/v1/did".toList])] }

example : serveEchoL .urlPath internalPath true exLim exRegs (.granted "alice") "POST" exReq 2
    = ({ status := 200, ran := some 31, user := some "alice" }, 1) := by
  unfold exLim exRegs exReq
  repeat rewrite [String.toList_ofList]
  decide +kernel
example : serveEchoL .urlPath internalPath true exLim exRegs (.granted "alice") "POST" exReq 0 = (tooMany, 0) := by
  unfold exLim exRegs exReq
  repeat rewrite [String.toList_ofList]
  decide
example : serveEchoL .urlPath internalPath true exLim exRegs .denied "POST" exReq 2
    = ({ status := 401, ran := none, user := none }, 2) := by
  unfold exLim exRegs exReq
  repeat rewrite [String.toList_ofList]
  decide

theorem limStage_cases (lim : LimCfg) (regs : List Registered) (method : String) (r : Req) (user : Option String) (b : Nat)
    {out : Response × Nat} (h : limStage lim regs method r user b = out) :
    (out.1 = runRouted method user (findRoute (regs.map (·.route)) method (routerPath r)) ∧ out.1.status ≠ 429 ∧
      out.2 ≤ b ∧ b ≤ out.2 + 1)
    ∨ (out = (tooMany, 0) ∧ b = 0 ∧ lim.on = true) := by
  subst h
  simp only [limStage]
  by_cases he : limiterEngaged lim regs method r = true
  · by_cases hb : b = 0
    · subst hb
      exact Or.inr ⟨by simp [he, allow], rfl, by simp only [limiterEngaged, Bool.and_eq_true] at he; exact he.1⟩
    · simp only [he, allow, hb, if_false, if_true]
      exact Or.inl ⟨trivial, runRouted_status_ne_429 _ _ _, Nat.sub_le b 1, by omega⟩
  · rw [if_neg he]
    exact Or.inl ⟨rfl, runRouted_status_ne_429 _ _ _, Nat.le_refl b, Nat.le_succ b⟩

/-- the limiter-extended chain answers as the abstract guard layer (`serveEcho`) does, taking at most one token, or with
    the 429 record on an empty bucket -/
theorem serveEchoL_cases (sel : Selector) (authPath : Str) (authOn : Bool) (lim : LimCfg) (regs : List Registered)
    (tok : Decision) (method : String) (r : Req) (b : Nat) {out : Response × Nat}
    (h : serveEchoL sel authPath authOn lim regs tok method r b = out) :
    (out.1 = serveEcho sel authPath authOn (regs.map (·.route)) tok method r ∧ out.1.status ≠ 429 ∧ out.2 ≤ b ∧ b ≤ out.2 + 1)
    ∨ (out = (tooMany, 0) ∧ b = 0 ∧ lim.on = true) := by
  subst h
  unfold serveEchoL serveEcho
  simp only
  split
  · cases tok with
    | denied => exact Or.inl ⟨rfl, by simp, Nat.le_refl b, Nat.le_succ b⟩
    | granted u => exact limStage_cases lim regs method r (some u) b rfl
  · exact limStage_cases lim regs method r none b rfl

/-- **too_many_only_when_authenticated**: a 429 is only ever given to a request that carried an accepted token, on an
    enabled limiter with an empty bucket -/
theorem too_many_only_when_authenticated (lim : LimCfg) (regs : List Registered) (tok : Decision) (method : String) (r : Req)
    (b : Nat) (hwf : ReqWF r) (hregs : RegsWF regs) (htbl : TableGuarded lim.tbl)
    (h : (serveEchoL .urlPath internalPath true lim regs tok method r b).1.status = 429) :
    (∃ u, tok = .granted u) ∧ b = 0 ∧ lim.on = true := by
  rcases serveEchoL_cases .urlPath internalPath true lim regs tok method r b rfl with ⟨_, h1, _⟩ | ⟨_, hb⟩
  · exact absurd h h1
  · cases tok with
    | denied => exact absurd h (denied_keeps_budget lim regs method r b hwf hregs htbl).2
    | granted u => exact ⟨⟨u, rfl⟩, hb⟩

/-- **limiter_refines_guard**: the response of the limiter-extended chain is the response of the abstract guard layer
    (`serveEcho`), or the 429 record on an empty bucket -/
theorem limiter_refines_guard (sel : Selector) (authPath : Str) (authOn : Bool) (lim : LimCfg) (regs : List Registered)
    (tok : Decision) (method : String) (r : Req) (b : Nat) :
    (serveEchoL sel authPath authOn lim regs tok method r b).1 = serveEcho sel authPath authOn (regs.map (·.route)) tok method r
    ∨ ((serveEchoL sel authPath authOn lim regs tok method r b).1 = tooMany ∧ b = 0 ∧ lim.on = true) := by
  rcases serveEchoL_cases sel authPath authOn lim regs tok method r b rfl with ⟨h, _⟩ | ⟨h, hb⟩
  · exact Or.inl h
  · exact Or.inr ⟨by rw [h], hb⟩

/-- with a token in the bucket, or the limiter not installed, the refinement is an equality -/
theorem limiter_transparent_with_budget (sel : Selector) (authPath : Str) (authOn : Bool) (lim : LimCfg) (regs : List Registered)
    (tok : Decision) (method : String) (r : Req) (b : Nat) (hb : 0 < b ∨ lim.on = false) :
    (serveEchoL sel authPath authOn lim regs tok method r b).1 = serveEcho sel authPath authOn (regs.map (·.route)) tok method r := by
  rcases limiter_refines_guard sel authPath authOn lim regs tok method r b with h | ⟨_, h0, hon⟩
  · exact h
  · rcases hb with hb | hb
    · omega
    · rw [hon] at hb; exact absurd hb (by decide)

theorem serveConnL_refines (authOK : Str → Bool) (sel : Selector) (authPath : Str) (authOn : Bool) (lim : LimCfg)
    (regs : List Registered) (tok : Decision) (method : String) (target : Str) (b : Nat) :
    (serveConnL authOK sel authPath authOn lim regs tok method target b).1
        = serveConn authOK sel authPath authOn (regs.map (·.route)) tok method target
    ∨ (serveConnL authOK sel authPath authOn lim regs tok method target b).1 = tooMany := by
  unfold serveConnL serveConn
  cases parseTarget authOK method target with
  | none => exact Or.inl rfl
  | some r =>
    simp only
    split
    · exact Or.inl rfl
    · rcases limiter_refines_guard sel authPath authOn lim regs tok method r b with h | h
      · exact Or.inl h
      · exact Or.inr h.1

/-- **no_bypass_limited** (end to end, wire bytes -> handler, on the chain with the limiter): for all authority
    verdicts, registrations, limiter configurations, bucket states, methods and request targets, a handler under
    /internal runs only with an accepted token and sees exactly its user -/
theorem no_bypass_limited (authOK : Str → Bool) (lim : LimCfg) (regs : List Registered) (tok : Decision) (method : String)
    (target : Str) (b i : Nat)
    (hran : (serveConnL authOK Facts.C04.authSelector Facts.C04.authPath true lim regs tok method target b).1.ran = some i)
    (hint : ∀ r ∈ regs.map (·.route), r.id = i → underInternal r) :
    ∃ u, tok = .granted u ∧
      (serveConnL authOK Facts.C04.authSelector Facts.C04.authPath true lim regs tok method target b).1.user = some u := by
  rcases serveConnL_refines authOK Facts.C04.authSelector Facts.C04.authPath true lim regs tok method target b with h | h
  · rw [h] at hran ⊢
    exact no_bypass authOK _ tok method target i hran hint
  · rw [h] at hran; simp [tooMany] at hran

theorem serveConnL_budget (authOK : Str → Bool) (lim : LimCfg) (regs : List Registered) (tok : Decision) (method : String)
    (target : Str) (b : Nat) (hregs : RegsWF regs) (htbl : TableGuarded lim.tbl) :
    let out := serveConnL authOK .urlPath internalPath true lim regs tok method target b
    out.2 ≤ b ∧ (tok = .denied → out.2 = b ∧ out.1.status ≠ 429) ∧ b ≤ out.2 + 1 := by
  simp only
  unfold serveConnL
  cases hp : parseTarget authOK method target with
  | none => simp
  | some r =>
    simp only
    split
    · simp
    · refine ⟨?_, fun ht => ht ▸ denied_keeps_budget lim regs method r b (parseTarget_wf hp) hregs htbl, ?_⟩ <;>
        rcases serveEchoL_cases .urlPath internalPath true lim regs tok method r b rfl with ⟨_, _, h1, h2⟩ | ⟨h, _⟩
      · exact h1
      · rw [h]; exact Nat.zero_le b
      · exact h2
      · rw [h]; omega

def GuardedEngine (e : EngineL) : Prop :=
  e.sel = .urlPath ∧ e.authPath = internalPath ∧ e.authOn = true ∧ RegsWF e.regs ∧ TableGuarded e.lim.tbl

theorem run_spec (e : EngineL) (he : GuardedEngine e) (h : List LimEvent) (b : Nat) (hb : b ≤ e.burst) :
    (e.run b h).1 ≤ e.burst ∧ b ≤ (e.run b h).1 + grantedCount h ∧
    (grantedCount h = 0 → ∀ resp ∈ (e.run b h).2, resp.status ≠ 429) := by
  obtain ⟨hs, hp, ha, hregs, htbl⟩ := he
  induction h generalizing b with
  | nil => exact ⟨hb, Nat.le_refl b, fun _ _ h => nomatch h⟩
  | cons ev rest ih =>
    cases ev with
    | refill n =>
      have hle : b ≤ refill e.burst n b ∧ refill e.burst n b ≤ e.burst := by unfold refill; omega
      obtain ⟨h1, h2, h3⟩ := ih _ hle.2
      exact ⟨h1, Nat.le_trans hle.1 h2, h3⟩
    | request tok m t =>
      obtain ⟨s1, s2, s3⟩ := serveConnL_budget e.authOK e.lim e.regs tok m t b hregs htbl
      obtain ⟨h1, h2, h3⟩ := ih _ (Nat.le_trans s1 hb)
      simp only [EngineL.run, EngineL.step, hs, hp, ha]
      cases tok with
      | denied =>
        refine ⟨h1, by simp only [grantedCount]; have := (s2 rfl).1; omega, fun h0 resp hmem => ?_⟩
        rcases List.mem_cons.mp hmem with rfl | hmem
        · exact (s2 rfl).2
        · exact h3 h0 resp hmem
      | granted u => exact ⟨h1, by simp only [grantedCount]; omega, fun h0 => nomatch h0⟩

/-- **budget_spent_le_granted** (ALL histories of requests and refills, by induction): the bucket never exceeds the burst
    size, and what was taken out of it is bounded by the number of requests that carried an accepted token -/
theorem budget_spent_le_granted (e : EngineL) (he : GuardedEngine e) (h : List LimEvent) (b : Nat) (hb : b ≤ e.burst) :
    (e.run b h).1 ≤ e.burst ∧ b ≤ (e.run b h).1 + grantedCount h :=
  ⟨(run_spec e he h b hb).1, (run_spec e he h b hb).2.1⟩

/-- **anonymous_history_cannot_drain**: after ANY history in which no request carried an accepted token (any targets,
    any interleaving with refills) the bucket holds at least what it held before, and no request was answered 429 -/
theorem anonymous_history_cannot_drain (e : EngineL) (he : GuardedEngine e) (h : List LimEvent) (b : Nat) (hb : b ≤ e.burst)
    (hanon : grantedCount h = 0) :
    b ≤ (e.run b h).1 ∧ ∀ resp ∈ (e.run b h).2, resp.status ≠ 429 :=
  ⟨by have := (run_spec e he h b hb).2.1; omega, (run_spec e he h b hb).2.2 hanon⟩

/-- non-vacuity: a guarded engine exists; 3 anonymous POSTs on the protected route keep the bucket, 3 with a token drain it -/
def exEngine : EngineL :=
  { authOK := fun _ => true, sel := .urlPath, authPath := internalPath, authOn := true, lim := exLim, regs := exRegs, burst := 2 }

example : (exEngine.run 2 (List.replicate 3 (.request .denied "POST" "/internal/vdr/v1/did".toList))).1 = 2 := by
  unfold exEngine exLim exRegs
  repeat rewrite [String.toList_ofList]
  decide
example : ((exEngine.run 2 (List.replicate 3 (.request (.granted "a") "POST" "/internal/vdr/v1/did".toList))).2.map (·.status))
    = [200, 200, 429] := by
  unfold exEngine exLim exRegs
  repeat rewrite [String.toList_ofList]
  decide +kernel
example : ((exEngine.run 2 ([.request (.granted "a") "POST" "/internal/vdr/v1/did".toList, .request (.granted "a") "POST" "/internal/vdr/v1/did".toList,
      .refill 1, .request (.granted "a") "POST" "/internal/vdr/v1/did".toList, .request (.granted "a") "POST" "/internal/vdr/v1/did".toList])).2.map (·.status))
    = [200, 200, 200, 429] := by
  unfold exEngine exLim exRegs
  repeat rewrite [String.toList_ofList]
  decide +kernel

/-- the limiter is installed exactly when did:nuts is enabled and (strict mode or the explicit flag) -/
theorem limiter_enabled_iff (strict flag : Bool) (ms : List String) :
    limiterEnabled Facts.C04.didnutsMethodName strict flag ms = true ↔ (strict = true ∨ flag = true) ∧ "nuts" ∈ ms := by
  rw [fact_limiter_condition.2.2.2]
  simp [limiterEnabled]

example : limiterEnabled "nuts" true false ["web", "nuts"] = true := by decide
example : limiterEnabled "nuts" true true ["web"] = false := by decide

end Nuts.C04.Props
