/-
  C14 — the operator's view (NutsModel.C14.Api): the REST listing shows every job that
  spent its budget (end-to-end with completed_or_visible), and the clean-up action removes only what it is asked to,
  records what it removes as completed and never calls a receiver.
-/
import NutsModel.C14.Api
import NutsModel.Facts.C14
import NutsProofs.Props.C14

namespace Nuts.C14.Props
open Nuts.C14

theorem failedRows_mem (c : Cfg) (σ : St) (s r : Nat) (j : Job) (hr : r ∈ failedEvents c σ s) (hj : σ.shelf s r = some j) :
    ({ ref := r, type := j.type, retries := j.retries, err := j.err } : ApiEvent) ∈ failedRows c σ s := by
  unfold failedRows
  exact List.mem_filterMap.mpr ⟨r, hr, by simp [hj]⟩

/-- every row of GetFailedEvents is a job on the shelf at/over the threshold (nothing invented) -/
theorem failedRows_sound (c : Cfg) (σ : St) (s : Nat) (e : ApiEvent) (h : e ∈ failedRows c σ s) :
    ∃ j, σ.shelf s e.ref = some j ∧ c.failedThreshold ≤ j.retries ∧ e.type = j.type ∧ e.retries = j.retries ∧ e.err = j.err := by
  unfold failedRows at h
  obtain ⟨r, hr, hm⟩ := List.mem_filterMap.mp h
  obtain ⟨_, j, hj, hf⟩ := (mem_failedEvents_iff c σ s r).mp hr
  simp only [hj, Option.map_some, Option.some.injEq] at hm
  subst hm
  exact ⟨j, hj, hf, rfl, rfl, rfl⟩

theorem listEvents_mem (c : Cfg) (names : Nat → String) (σ : St) (readFail : Nat → Bool) (order : List Nat)
    (l : List (String × List ApiEvent)) (h : listEvents c names σ readFail order = .ok l) (s : Nat) (hs : s ∈ order) :
    (names s, failedRows c σ s) ∈ l := by
  fun_induction listEvents c names σ readFail order generalizing l with
  | case1 => cases hs
  | case2 | case4 | case5 => cases h
  | case3 a rest _ l' _ ih =>
    cases h
    rcases List.mem_cons.mp hs with rfl | hs
    · exact List.mem_cons_self
    · exact List.mem_cons_of_mem _ (ih l' ‹_› hs)

/-- **rest_lists_every_spent_job**: whenever ListEvents answers, every job at/over the failed threshold of every notifier
    that `Subscribers()` returned is in the answer under its subscriber's name, with its retries, type and error -/
theorem rest_lists_every_spent_job (c : Cfg) (names : Nat → String) (σ : St) (readFail : Nat → Bool) (order : List Nat)
    (l : List (String × List ApiEvent)) (h : listEvents c names σ readFail order = .ok l)
    (s r : Nat) (j : Job) (hs : s ∈ order) (hr : r < c.nRefs) (hj : σ.shelf s r = some j) (hb : c.failedThreshold ≤ j.retries) :
    ∃ rows, (names s, rows) ∈ l ∧ ({ ref := r, type := j.type, retries := j.retries, err := j.err } : ApiEvent) ∈ rows :=
  ⟨failedRows c σ s, listEvents_mem c names σ readFail order l h s hs,
    failedRows_mem c σ s r j ((mem_failedEvents_iff c σ s r).mpr ⟨hr, j, hj, hb⟩) hj⟩

/-- **undelivered_visible_at_rest_api** (end to end: admission → notifier → REST): after ANY history that leaves no job parked
    by the context-error rule (`NoCtx`), a (re)start and any calm suffix, at rest, every admitted event selected by a typed
    persistent subscriber is completed, or the operator sees it in the ListEvents answer (no read fault) under that
    subscriber's name -/
theorem undelivered_visible_at_rest_api (c : Cfg) (hthr : c.failedThreshold ≤ c.maxRetries) (ops0 : List Op) (order : List Nat) (ops : List Op)
    (hctx : NoCtx (run c init ops0)) (hcalm : CalmFrom c (run c init ops0)) (hord : ∀ s, s < c.nSubs → s ∈ order)
    (hops : ∀ op, op ∈ ops → CalmOp c op)
    (hrest : (run c (restart c (run c init ops0) order) ops).running = [] ∧ (run c (restart c (run c init ops0) order) ops).pending = [])
    (r : Nat) (ty : EvType) (s : Nat) (t : EvType)
    (hadm : (r, ty) ∈ (run c (restart c (run c init ops0) order) ops).admitted) (hs : s < c.nSubs) (hsel : c.sel s r ty = true)
    (htyp : Typed c s t)
    (names : Nat → String) (subscribers : List Nat) (hsub : s ∈ subscribers) (l : List (String × List ApiEvent))
    (hl : listEvents c names (run c (restart c (run c init ops0) order) ops) (fun _ => false) subscribers = .ok l) :
    completedIn (run c (restart c (run c init ops0) order) ops).ledger s r = true ∨
    ∃ rows e, (names s, rows) ∈ l ∧ e ∈ rows ∧ e.ref = r := by
  rcases completed_or_visible c hthr ops0 order ops hctx hcalm hord hops hrest r ty s t hadm hs hsel htyp with hc | hv
  · exact .inl hc
  · obtain ⟨_, j, hj, _⟩ := (mem_failedEvents_iff c _ s r).mp hv
    exact .inr ⟨_, { ref := r, type := j.type, retries := j.retries, err := j.err },
      listEvents_mem c names _ _ subscribers l hl s hsub, failedRows_mem c _ s r j hv hj, rfl⟩

/-- with no read error ListEvents always answers, one entry per subscriber, in `Subscribers()` order -/
theorem listEvents_ok (c : Cfg) (names : Nat → String) (σ : St) (order : List Nat) :
    listEvents c names σ (fun _ => false) order = .ok (order.map fun s => (names s, failedRows c σ s)) := by
  induction order with
  | nil => rfl
  | cons a rest ih => unfold listEvents; simp [ih]

example : listEvents (wCfg true neverDone) (fun s => s!"sub{s}") (run (wCfg true neverDone) init exhaustOps) (fun _ => false) [1, 0] =
    .ok [("sub1", [{ ref := 0, type := .tx, retries := 20, err := .incomplete }]), ("sub0", [])] := by decide +kernel

/-! ### CleanupSubscriberEvents -/

/-- what the clean-up may change about a state: only shelf entries, and `.fin` records in the ledger -/
structure CleanRel (σ σ' : St) : Prop where
  dag : σ'.dag = σ.dag
  running : σ'.running = σ.running
  pending : σ'.pending = σ.pending
  admitted : σ'.admitted = σ.admitted
  calls : ∀ s r, attemptNo σ' s r = attemptNo σ s r
  shelf : ∀ s r, σ'.shelf s r = σ.shelf s r ∨ (σ'.shelf s r = none ∧ Entry.fin s r ∈ σ'.ledger)
  ledgerMono : ∀ e, e ∈ σ.ledger → e ∈ σ'.ledger

theorem CleanRel.refl (σ : St) : CleanRel σ σ := ⟨rfl, rfl, rfl, rfl, fun _ _ => rfl, fun _ _ => .inl rfl, fun _ h => h⟩

theorem CleanRel.trans {a b d : St} (h1 : CleanRel a b) (h2 : CleanRel b d) : CleanRel a d := by
  refine ⟨h2.dag.trans h1.dag, h2.running.trans h1.running, h2.pending.trans h1.pending, h2.admitted.trans h1.admitted,
    fun s r => (h2.calls s r).trans (h1.calls s r), ?_, fun e he => h2.ledgerMono e (h1.ledgerMono e he)⟩
  intro s r
  rcases h2.shelf s r with e2 | ⟨e2, f2⟩
  · rcases h1.shelf s r with e1 | ⟨e1, f1⟩
    · exact .inl (e2.trans e1)
    · exact .inr ⟨e2.trans e1, h2.ledgerMono _ f1⟩
  · exact .inr ⟨e2, f2⟩

theorem finishedExt_clean (σ : St) (s r : Nat) : CleanRel σ (finishedExt σ s r false) := by
  rcases finishedExt_spec σ s r false with e | ⟨_, _, e⟩ <;> rw [e]
  · exact CleanRel.refl σ
  · refine ⟨rfl, rfl, rfl, rfl, fun s' r' => ?_, fun s' r' => ?_, fun _ he => List.mem_cons_of_mem _ he⟩
    · show ((Entry.fin s r :: σ.ledger).filter _).length = _
      rw [List.filter_cons]; rfl
    · by_cases h : s' = s ∧ r' = r
      · exact .inr ⟨if_pos h, h.1 ▸ h.2 ▸ List.mem_cons_self⟩
      · exact .inl (if_neg h)

theorem cleanupEvents_clean (pre : JErr → Bool) (failAt : Option Nat) (s : Nat) (evs : List ApiEvent) (σ : St) :
    CleanRel σ (cleanupEvents pre failAt s evs σ).1 := by
  fun_induction cleanupEvents pre failAt s evs σ with
  | case1 | case2 => exact .refl _
  | case3 e _ σ _ _ ih => exact (finishedExt_clean σ s e.ref).trans ih
  | case4 _ _ _ _ ih => exact ih

theorem cleanup_clean (c : Cfg) (names : Nat → String) (target : String) (pre : JErr → Bool) (readFail : Nat → Bool) (failAt : Option Nat)
    (order : List Nat) (σ : St) : CleanRel σ (cleanup c names target pre readFail failAt order σ).1 := by
  fun_induction cleanup c names target pre readFail failAt order σ with
  | case1 | case2 => exact .refl _
  | case3 s _ σ _ _ _ h => exact h ▸ cleanupEvents_clean pre failAt s _ σ
  | case4 s _ σ _ _ _ h ih => exact .trans (h ▸ cleanupEvents_clean pre failAt s _ σ :) ih
  | case5 _ _ _ _ ih => exact ih

/-- **cleanup_calls_nobody_and_records_what_it_removes**: for every target name, prefix, fault and `Subscribers()` order the
    operator's clean-up never calls a receiver, starts or stops no retry loop, admits nothing; every job it removes leaves a
    completion record (`Entry.fin`) — so by no_call_after_done the subscriber is not called for it again — and every other
    job is untouched -/
theorem cleanup_calls_nobody_and_records_what_it_removes (c : Cfg) (names : Nat → String) (target : String) (pre : JErr → Bool)
    (readFail : Nat → Bool) (failAt : Option Nat) (order : List Nat) (σ : St) :
    let σ' := (cleanup c names target pre readFail failAt order σ).1
    (∀ s r, attemptNo σ' s r = attemptNo σ s r) ∧ σ'.running = σ.running ∧ σ'.pending = σ.pending ∧ σ'.admitted = σ.admitted ∧
    σ'.dag = σ.dag ∧ ∀ s r, σ'.shelf s r = σ.shelf s r ∨ (σ'.shelf s r = none ∧ Entry.fin s r ∈ σ'.ledger) := by
  have h := cleanup_clean c names target pre readFail failAt order σ
  exact ⟨h.calls, h.running, h.pending, h.admitted, h.dag, h.shelf⟩

theorem finishedExt_shelf_other (σ : St) (s r s' r' : Nat) (h : ¬ (s' = s ∧ r' = r)) : (finishedExt σ s r false).shelf s' r' = σ.shelf s' r' := by
  rcases finishedExt_spec σ s r false with e | ⟨_, _, e⟩ <;> rw [e]
  exact if_neg h

theorem cleanupEvents_frame (pre : JErr → Bool) (failAt : Option Nat) (s : Nat) (evs : List ApiEvent) (σ : St) (s' r' : Nat)
    (h : s' ≠ s ∨ ∀ e, e ∈ evs → e.ref = r' → pre e.err = false) :
    (cleanupEvents pre failAt s evs σ).1.shelf s' r' = σ.shelf s' r' := by
  fun_induction cleanupEvents pre failAt s evs σ with
  | case1 | case2 => rfl
  | case3 e _ σ hp _ ih =>
    rw [ih (h.imp_right fun h e' he' => h e' (List.mem_cons_of_mem _ he'))]
    refine finishedExt_shelf_other _ _ _ _ _ fun hh => h.elim (· hh.1) fun h => ?_
    rw [h e List.mem_cons_self hh.2.symm] at hp; cases hp
  | case4 _ _ _ _ ih => exact ih (h.imp_right fun h e' he' => h e' (List.mem_cons_of_mem _ he'))

/-- **cleanup_touches_only_named_failed_matching**: a job survives the clean-up unchanged if its subscriber is not the named
    one, or it is below the failed threshold, or its error does not start with the prefix: undelivered events of other
    subscribers / with other errors / still being retried do not vanish -/
theorem cleanup_touches_only_named_failed_matching (c : Cfg) (names : Nat → String) (target : String) (pre : JErr → Bool)
    (readFail : Nat → Bool) (failAt : Option Nat) (order : List Nat) (σ : St) (s' r' : Nat) (j : Job) (hj : σ.shelf s' r' = some j)
    (h : names s' ≠ target ∨ j.retries < c.failedThreshold ∨ pre j.err = false) :
    (cleanup c names target pre readFail failAt order σ).1.shelf s' r' = some j := by
  have hfr (s σ) (hj : σ.shelf s' r' = some j) (hname : (names s == target) = true) :
      (cleanupEvents pre failAt s (failedRows c σ s) σ).1.shelf s' r' = some j := by
    rw [cleanupEvents_frame, hj]
    by_cases hs : s' = s
    · subst hs
      refine .inr fun e he hre => ?_
      obtain ⟨j', hj', hthr, _, _, herr⟩ := failedRows_sound c σ s' e he
      rw [hre, hj] at hj'; cases hj'
      rcases h with h | h | h
      · exact absurd (by simpa using hname) h
      · omega
      · rw [herr]; exact h
    · exact .inl hs
  fun_induction cleanup c names target pre readFail failAt order σ with
  | case1 | case2 => exact hj
  | case3 s _ σ hn _ _ hq => exact hq ▸ hfr s σ hj hn
  | case4 s _ σ hn _ _ hq ih => exact ih (hq ▸ hfr s σ hj hn :)
  | case5 _ _ _ _ ih => exact ih hj

example : (cleanup (wCfg true neverDone) (fun s => s!"sub{s}") "sub1" (fun e => e == .incomplete) (fun _ => false) none [0, 1, 2]
    (run (wCfg true neverDone) init exhaustOps)).1.shelf 1 0 = none := by decide
example : (cleanup (wCfg true neverDone) (fun s => s!"sub{s}") "sub1" (fun e => e == .generic) (fun _ => false) none [0, 1, 2]
    (run (wCfg true neverDone) init exhaustOps)).1.shelf 1 0 = some { type := .tx, retries := 20, err := .incomplete } := by decide

/-- api/v1 ListEvents as modelled by `listEvents`: one entry per notifier of Subscribers() (appended unconditionally), one
    row per failed event (appended unconditionally), the first GetFailedEvents error aborts; the row carries name, hash,
    retries, type, error -/
theorem fact_list_events :
    Facts.C14.listEventsReturns = ["range a.Service.Subscribers() && err != nil => return nil, err", "return response, nil"] ∧
    Facts.C14.listEventsAppends =
      ["range a.Service.Subscribers() > range events > eventSubscriber.Events = append(eventSubscriber.Events, Event{…})",
       "range a.Service.Subscribers() > response = append(response, eventSubscriber)"] ∧
    Facts.C14.listEventsFields =
      ["EventSubscriber.Name: notifier.Name()", "Event.Error: &eventError", "Event.Hash: event.Hash.String()", "Event.Retries: event.Retries",
       "Event.LatestNotificationAttempt: &eventLatest", "Event.Transaction: event.Transaction.Ref().String()", "Event.Type: &eventType"] :=
  ⟨rfl, rfl, rfl⟩

end Nuts.C14.Props
