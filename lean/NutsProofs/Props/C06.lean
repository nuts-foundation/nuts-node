/-
  C06 — Only valid, signed, causally complete transactions enter the DAG, exactly once.
  Model: NutsModel/C06/Admit.lean (parser.go, verifier.go, keys.go, state.go:Add, dag.go:add/addSingle, payloadstore.go,
  notifier.go:Save/Notify, network.go:CreateTransaction). Facts: NutsModel/Facts/C06.lean is REGENERATED from /repo on every run.
  Hashes, signature verdicts, base64 and DID resolution are parameters (`Env`, `b64`), never axioms.
-/
import NutsModel.C06.Admit
import NutsModel.C06.Cfg
import NutsModel.Facts.C06
import NutsProofs.Lemmas.C06
import NutsModel.C06.Framing
import NutsProofs.Lemmas.C06Framing
import NutsModel.C06.Shelf
import NutsProofs.Lemmas.C06Shelf
import NutsModel.C06.Create
import NutsProofs.Lemmas.C06Create
import NutsModel.C06.Late
import NutsProofs.Lemmas.C06Late

namespace Nuts.C06.Props
open Nuts Nuts.C06

/-! ### Obligations on the regenerated facts (a source change flips these) -/

/-- only asymmetric algorithms are allowed: no `none`, no HMAC, no RSA PKCS#1 v1.5 -/
theorem fact_allowed_algos : Facts.C06.allowedAlgos = ["ES256", "ES384", "ES512", "PS256", "PS384", "PS512"] := rfl

theorem fact_allowed_versions : Facts.C06.allowedVersion = [1, 2] := rfl

/-- header names the model reads -/
theorem fact_header_names :
    (Facts.C06.sigtHeader, Facts.C06.verHeader, Facts.C06.prevsHeader, Facts.C06.palHeader, Facts.C06.lcHeader)
      = ("sigt", "ver", "prevs", "pal", "lc") := rfl

/-- `ParseTransaction` runs exactly the steps of `Nuts.C06.parse`, in that order -/
theorem fact_parse_steps : Facts.C06.parseSteps =
    ["parseSigningAlgorithm", "parsePayload", "parseContentType", "parseSignatureParams", "parseSigningTime",
     "parseVersion", "parsePrevious", "parsePAL", "parseLamportClock"] := rfl

/-- zero signatures and more than one signature are both refused before any step runs -/
theorem fact_signature_count_checked :
    "len(message.Signatures()) == 0" ∈ Facts.C06.parseConds ∧ "len(message.Signatures()) > 1" ∈ Facts.C06.parseConds := by
  simp [Facts.C06.parseConds]

/-- `parseLamportClock` refuses negative, too large and non-integral `lc` values (the model's `lcStrict`) -/
theorem fact_lc_strict : srcCfg.lcStrict = true := by
  simp [srcCfg, lcGuardsStrict, Facts.C06.parseLamportClockConds]

/-- an embedded `jwk` that is a private (EC/RSA/OKP) or symmetric key is refused -/
theorem fact_jwk_public_only : srcCfg.jwkPublicOnly = true := by
  simp [srcCfg, jwkGuardsPublicOnly, Facts.C06.jwkRefusedKeyTypes]

/-- `ParseTransaction` refuses bytes that are not a JWS serialization even where jws.Parse is tolerant (further
    segments, padded / standard-alphabet base64, line breaks) -/
theorem fact_strict_framing : srcCfg.strictFraming = true := by
  simp [srcCfg, framingGuardsStrict, Facts.C06.parseConds, Facts.C06.framingConds]

def litCfg : Cfg := { allowedAlgos := ["ES256", "ES384", "ES512", "PS256", "PS384", "PS512"], allowedVersion := [1, 2], lcStrict := true }

theorem srcCfg_eq : srcCfg = litCfg := by
  have h := fact_header_names
  have a := fact_lc_strict
  have b := fact_jwk_public_only
  have c := fact_strict_framing
  unfold srcCfg at a b c ⊢
  simp only [Prod.mk.injEq] at h a b c
  rw [fact_allowed_algos, fact_allowed_versions, h.1, h.2.1, h.2.2.1, h.2.2.2.1, h.2.2.2.2, a, b, c]
  rfl

/-- the prevs verifier: starts at −1, keeps the maximum, demands `clock = max + 1` -/
theorem fact_prev_verifier :
    Facts.C06.prevVerifierInit = ["-1"] ∧
    "int(previousTransaction.Clock()) >= highestLamportClock" ∈ Facts.C06.prevVerifierConds ∧
    "int(transaction.Clock()) != highestLamportClock + 1" ∈ Facts.C06.prevVerifierConds ∧
    "errors.Is(err, ErrTransactionNotFound)" ∈ Facts.C06.prevVerifierConds := by
  refine ⟨rfl, ?_⟩
  simp [Facts.C06.prevVerifierConds]

/-- the node installs the prevs verifier, then the signature verifier -/
theorem fact_verifier_order :
    Facts.C06.stateVerifiers = ["dag.NewPrevTransactionsVerifier", "dag.NewTransactionSignatureVerifier"] := rfl

/-- embedded key first, otherwise the key resolver; the ECDSA algorithm must fit the key's curve (jws.Verify only checks the
    family: the signature verdicts `Env.sigJwk` / `Env.sigKey` are RFC 7518 verdicts — ES256+P-256, ES384+P-384, ES512+P-521); the resolver loop stops at the first result that is not exactly ErrNotFound -/
theorem fact_signature_verifier :
    Facts.C06.sigVerifierConds = ["transaction.SigningKey() != nil", "err != nil", "err != nil",
      "!jwx.AlgorithmFitsKey(jwa.SignatureAlgorithm(transaction.SigningAlgorithm()), signingKey)"] ∧
    Facts.C06.keyResolverConds = ["err == nil", "err != resolver.ErrNotFound", "err != nil", "err != nil", "vm == nil"] := ⟨rfl, rfl⟩

/-- the closure `state.Add` hands to `s.db.Write` (= `writeBody` / `writeBodyP` of the model), statement by statement: presence
    re-check first, `txAdded` before anything is written, payload hash / writePayload / saveEvent(payload) / marker, THEN
    `graph.add` whose error — `errRootAlreadyExists` included — is returned as it is (⇒ rollback of what was written before it),
    saveEvent(tx), updateState; and the options of the call: the rollback handler reloads with a fresh context, unlock after
    commit, the notifications and the transaction counter only under `txAdded`, the write lock. -/
theorem fact_add_write_body :
    Facts.C06.body_addWrite =
      ["if s.graph.isPresent(tx, transaction.Ref())", "return nil", "txAdded = true", "if payload != nil", "emitPayloadEvent = true", "payloadHash := hash.SHA256Sum(payload)", "if !transaction.PayloadHash().Equals(payloadHash)", "return errors.New(\"tx.PayloadHash does not match hash of payload\")", "err := s.payloadStore.writePayload(tx, payloadHash, payload)", "if err != nil", "return err", "err := s.saveEvent(tx, payloadEvent)", "if err != nil", "return err", "err := markPayloadEventSaved(tx, transaction.Ref())", "if err != nil", "return err", "err := s.graph.add(tx, transaction)", "if err != nil", "return err", "err := s.saveEvent(tx, txEvent)", "if err != nil", "return err", "return s.updateState(tx, transaction)"] ∧
    Facts.C06.addWriteOptions =
      ["stoabs.OnRollback(func() { log.Logger().Warn(\"Reloading the XOR and IBLT trees due to a DB transaction Rollback\") s.loadState(context.Background()) })", "stoabs.AfterCommit(unlock)", "stoabs.AfterCommit(func() { if txAdded { s.notify(txEvent) if emitPayloadEvent { s.notify(payloadEvent) } } })", "stoabs.AfterCommit(func() { if txAdded { s.transactionCount.Inc() } })", "stoabs.WithWriteLock()"] := ⟨rfl, rfl⟩

/-- `jwx.AlgorithmFitsKey` as the model has it: the curve switch (regenerated curve names and `jwa` constants) is the model's
    table, its default is `true`; the type switch has exactly the clauses `KeyShape` distinguishes (exact source text); and
    the verifier's body, statement by statement: `signingKey` is assigned in BOTH branches (embedded / resolved) before the
    guard, the guard is applied to `signingKey`, and `jws.Verify` gets the same `signingKey`. -/
theorem fact_alg_fits_key :
    Facts.C06.algFitsCurves.zip Facts.C06.algFitsCurveAlgs = ecAlgOfCurve ∧
    Facts.C06.algFitsCurves.length = Facts.C06.algFitsCurveAlgs.length ∧
    Facts.C06.algFitsCurveDefault = "true" ∧
    Facts.C06.algFitsTypeCases =
      ["ed25519.PublicKey => return alg == jwa.EdDSA && len(k) == ed25519.PublicKeySize",
       "*ed25519.PublicKey => return k != nil && alg == jwa.EdDSA && len(*k) == ed25519.PublicKeySize",
       "jwk.OKPPublicKey => if k.Crv() == jwa.Ed25519 { return alg == jwa.EdDSA && len(k.X()) == ed25519.PublicKeySize }; return true",
       "*ecdsa.PublicKey => curve = k.Params().Name", "ecdsa.PublicKey => curve = k.Params().Name",
       "*ecdsa.PrivateKey => curve = k.Params().Name", "jwk.ECDSAPublicKey => curve = k.Crv().String()",
       "jwk.ECDSAPrivateKey => curve = k.Crv().String()", "default => return true"] ∧
    Facts.C06.body_sigVerifier =
      ["var signingKey crypto2.PublicKey", "if transaction.SigningKey() != nil", "err := transaction.SigningKey().Raw(&signingKey)",
       "if err != nil", "return err", "else",
       "pk, err := resolver.ResolvePublicKey(transaction.SigningKeyID(), transaction.Previous())", "if err != nil",
       "return fmt.Errorf(\"unable to verify transaction signature, can't resolve key by TX ref (kid=%s, tx=%s): %w\", transaction.SigningKeyID(), transaction.Ref().String(), err)",
       "signingKey = pk",
       "if !jwx.AlgorithmFitsKey(jwa.SignatureAlgorithm(transaction.SigningAlgorithm()), signingKey)",
       "return fmt.Errorf(\"signing algorithm %s does not fit the signing key (tx=%s)\", transaction.SigningAlgorithm(), transaction.Ref().String())",
       "_, err := jws.Verify(transaction.Data(), jws.WithKey(jwa.SignatureAlgorithm(transaction.SigningAlgorithm()), signingKey))",
       "return err"] := ⟨by decide, by decide, rfl, rfl, rfl⟩

/-- `state.Add` = one read transaction, then — only AFTER it — `addMutex` and one write transaction under the write lock
    whose first statement is the presence re-check. The mutex makes write + rollback handler one critical section, it does
    NOT cover the read transaction: two Adds of the same transaction can both pass phase 1 before either writes, so the
    re-check is not redundant; it is released by `AfterCommit(unlock)` or, on failure, by the deferred `unlock` AFTER db.Write
    returned, i.e. after the rollback handler reloaded the trees (go-stoabs releases its own write lock BEFORE it calls the
    rollback handlers: without the mutex a sibling Add could persist leaves that still contain the rolled-back transaction —
    harness op `rbwin`); without the re-check, schedule [0,1,0,1] stores/counts/digests the ref twice
    (`concurrent_adds_serialise` is proved for exactly this step structure, and the schedule explorer parks threads before and
    right after the read transaction, never while they hold the mutex); inside: payload hash check, writePayload, saveEvent, graph.add, saveEvent, updateState -/
theorem fact_add_two_phases :
    Facts.C06.addPhases = ["s.db.Read", "s.addMutex.Lock", "s.db.Write"] ∧
    Facts.C06.addWriteFirst = ["s.graph.isPresent(tx, transaction.Ref()) -> return nil"] ∧
    "stoabs.WithWriteLock" ∈ Facts.C06.addWriteOpts ∧ "stoabs.OnRollback" ∈ Facts.C06.addWriteOpts ∧
    Facts.C06.addWriteCalls = ["s.graph.isPresent", "hash.SHA256Sum", "s.payloadStore.writePayload", "s.saveEvent",
                               "s.graph.add", "s.saveEvent", "s.updateState"] ∧
    "!transaction.PayloadHash().Equals(payloadHash)" ∈ Facts.C06.addWriteConds ∧
    "payload != nil" ∈ Facts.C06.addWriteConds ∧
    Facts.C06.addUnlocking = ["unlock := unlockOnce.Do(s.addMutex.Unlock)", "defer unlock()"] ∧
    Facts.C06.addWriteOptArgs = ["stoabs.AfterCommit(unlock)"] := by
  refine ⟨rfl, rfl, ?_, ?_, rfl, ?_, ?_, rfl, rfl⟩ <;> simp [Facts.C06.addWriteOpts, Facts.C06.addWriteConds]

/-- a rolled-back write reloads the volatile copies (XOR/IBLT trees, atomic clock) with a FRESH context: the reload must
    not fail because the caller's context — the reason for the rollback — is cancelled (the model's rollback = old state) -/
theorem fact_rollback_reloads : "s.loadState(context.Background())" ∈ Facts.C06.addRollbackStmts := by
  simp [Facts.C06.addRollbackStmts]

/-- wiring (Network.Configure): the state gets the prevs verifier, then the signature verifier, whose key resolver looks
    documents up in the node's DID store as of the source transaction -/
theorem fact_state_wiring : Facts.C06.stateWiring =
    ["nutsKeyResolver := dag.SourceTXKeyResolver{Resolver: n.didStore}",
     "dag.NewState(dagStore, dag.NewPrevTransactionsVerifier(), dag.NewTransactionSignatureVerifier(nutsKeyResolver))"] := rfl

/-- `handleTransactionList` (model: `handleList`): every transaction of the message is parsed first and one failure refuses
    the message; a public transaction needs its payload; `Add` gets the payload of the SAME index; a missing prev ends the list -/
theorem fact_list_handler :
    Facts.C06.listHandlerCalls = ["subEnvelope.parseTransactions(data)", "p.state.Add(ctx, tx, msg.Transactions[i].Payload)"] ∧
    "len(tx.PAL()) == 0" ∈ Facts.C06.listHandlerConds ∧ "len(msg.Transactions[i].Payload) == 0" ∈ Facts.C06.listHandlerConds ∧
    "errors.Is(err, dag.ErrPreviousTransactionMissing)" ∈ Facts.C06.listHandlerConds ∧
    Facts.C06.parseTransactionsCalls = ["dag.ParseTransaction(transaction.Data)", "on-error:return"] := by
  refine ⟨rfl, ?_, ?_, ?_, rfl⟩ <;> simp [Facts.C06.listHandlerConds]

/-- `handleTransactionPayload` (model: `latePayload`): the transaction must be on the DAG and the bytes must hash to its
    declared payload hash before `WritePayload` (which does not check anything itself) -/
theorem fact_payload_handler :
    Facts.C06.payloadHandlerCalls = ["p.state.GetTransaction(ctx, ref)", "hash.SHA256Sum(msg.Data)",
                                     "p.state.WritePayload(ctx, tx, payloadHash, msg.Data)"] ∧
    "!tx.PayloadHash().Equals(payloadHash)" ∈ Facts.C06.payloadHandlerConds ∧
    "errors.Is(err, dag.ErrTransactionNotFound)" ∈ Facts.C06.payloadHandlerConds := by
  refine ⟨rfl, ?_, ?_⟩ <;> simp [Facts.C06.payloadHandlerConds]

/-- `CreateTransaction` (model: `additionalOK`, `createPrevsClock`, `dedup`): additional prevs need their payload; prevs = head
    then the additional prevs; clock = 1 + the highest prev clock; `NewTransaction` de-duplicates; the result goes through `Add` -/
theorem fact_create_transaction :
    Facts.C06.createTxCalls = ["n.isPayloadPresent(ctx, prev)", "n.state.Head(ctx)", "append(prevs, head)",
      "append(prevs, template.AdditionalPrevs)", "n.calculateLamportClock(ctx, prevs)",
      "dag.NewTransaction(payloadHash, template.Type, prevs, pal, lamportClock)",
      "dag.NewTransactionSigner(n.keyStore, template.KID, template.PublicKey)", "n.state.Add(ctx, transaction, template.Payload)"] ∧
    Facts.C06.calcClockConds = ["len(prevs) == 0", "err != nil", "tx.Clock() > clock", "return 0", "return 0", "return clock + 1"] ∧
    "dd.Equals(prev)" ∈ Facts.C06.newTransactionConds ∧ "!found" ∈ Facts.C06.newTransactionConds ∧
    "!head.Equals(hash.EmptyHash())" ∈ Facts.C06.createTxConds ∧ "!isPresent" ∈ Facts.C06.createTxConds := by
  refine ⟨rfl, rfl, ?_, ?_, ?_, ?_⟩ <;> simp [Facts.C06.newTransactionConds, Facts.C06.createTxConds]

/-- `addSingle` refuses a second transaction without prevs once clock 0 is occupied; `dag.add` moves the head on a
    higher clock or on clock 0 -/
theorem fact_root_check :
    "len(transaction.Previous()) == 0" ∈ Facts.C06.addSingleConds ∧ "getRoots(lc) != nil" ∈ Facts.C06.addSingleConds ∧
    "transaction.Clock() > highestLC" ∈ Facts.C06.dagAddConds ∧ "transaction.Clock() == 0" ∈ Facts.C06.dagAddConds := by
  simp [Facts.C06.addSingleConds, Facts.C06.dagAddConds]

/-- Whatever `ParseTransaction` accepts is a well-formed RFC004 transaction: exactly one signature, an allowed
    algorithm, a hex payload hash, a MIME content type, exactly one of `kid`/`jwk`, numeric `sigt`, `ver` ∈ allowed,
    `prevs` an array of hex refs, `pal` (if any) an array of base64 strings, numeric `lc`. -/
theorem parse_sound (cfg : Cfg) (b64 : String → Bool) (h : Hdr) (tx : Tx)
    (hp : parse cfg b64 h = .ok tx) : WellFormed cfg b64 h tx :=
  parse_wellFormed hp

/-- a valid header whose `lc` is 1.5 (= 3·2⁻¹) -/
def lcWitness : Hdr :=
  { nSigs := 1, alg := "ES256", cty := "a/b", hasJwk := true, kid := none, payload := "", ref := 7,
    priv := [("sigt", .num 1 0), ("ver", .num 1 0), ("prevs", .arr []), ("lc", .num 3 (-1))] }

/-- accepted bytes are a JWS serialization: JSON, or exactly three canonical unpadded base64url segments (for the source as
    it is now, `fact_strict_framing`) — so a signed transaction cannot be re-framed into other bytes (other refs) by
    appending segments or re-encoding a segment -/
theorem accepted_bytes_are_a_jws_serialization (b64 : String → Bool) (h : Hdr) (tx : Tx)
    (hp : parse srcCfg b64 h = .ok tx) : h.framingStrict = true :=
  (parse_wellFormed hp).framing fact_strict_framing

/-- without that guard such bytes parse (the code before the repair; witnesses in harness/corpus/C06) -/
theorem lenient_framing_accepted_without_guard :
    ∃ h tx, h.framingStrict = false ∧ parse { srcCfg with strictFraming := false } (fun _ => true) h = .ok tx :=
  ⟨{ lcWitness with framingStrict := false, priv := [("sigt", .num 1 0), ("ver", .num 1 0), ("prevs", .arr []), ("lc", .num 0 0)] },
   { ref := 7, alg := "ES256", payloadHash := 0, cty := "a/b", jwk := true, kid := "", sigt := 1, ver := 1, prevs := [], pal := [], clock := 0 },
   rfl, by rw [srcCfg_eq]; decide⟩

/-- an accepted transaction never embeds private key material (for the source as it is now, `fact_jwk_public_only`) -/
theorem embedded_key_is_public (b64 : String → Bool) (h : Hdr) (tx : Tx) (hp : parse srcCfg b64 h = .ok tx)
    (hj : h.hasJwk = true) : h.jwkPrivate = false :=
  (parse_wellFormed hp).jwkPublic fact_jwk_public_only hj

/-- without that guard a header embedding a private key parses (the code before the repair) -/
theorem embedded_private_key_accepted_without_guard :
    ∃ h tx, h.hasJwk = true ∧ h.jwkPrivate = true ∧ parse { srcCfg with jwkPublicOnly := false } (fun _ => true) h = .ok tx :=
  ⟨{ lcWitness with jwkPrivate := true, priv := [("sigt", .num 1 0), ("ver", .num 1 0), ("prevs", .arr []), ("lc", .num 0 0)] },
   { ref := 7, alg := "ES256", payloadHash := 0, cty := "a/b", jwk := true, kid := "", sigt := 1, ver := 1, prevs := [], pal := [], clock := 0 },
   rfl, rfl, by rw [srcCfg_eq]; decide⟩

/-- **lc is exact** (for the source as it is now, `fact_lc_strict`): the admitted clock IS the declared `lc`
    header value, which is an integer in [0, 2^32). -/
theorem lc_exact (b64 : String → Bool) (h : Hdr) (tx : Tx) (hp : parse srcCfg b64 h = .ok tx) :
    ∃ m e, h.get srcCfg.lcH = some (.num m e) ∧ numEqNat m e tx.clock ∧ tx.clock < 2 ^ 32 := by
  obtain ⟨m, e, hg, hl⟩ := (parse_wellFormed hp).lc
  exact ⟨m, e, hg, lc_strict_exact fact_lc_strict hg hl⟩

/-- **The last occurrence of a header member decides** (jwx keeps the last one; duplicated members are where
    smuggling hides): for the raw member list `ms` of the protected header (document order, duplicates kept), whatever is
    accepted took its algorithm, clock, prevs, version and embedded-key flag from the LAST `alg` / `lc` / `prevs` / `ver` /
    `jwk` member — an allowed algorithm given as a JSON string, `lc` exactly the clock, and so on. -/
theorem last_member_decides (b64 : String → Bool) (nSigs : Nat) (ms : List (String × J)) (jwkOK jwkPrivate : Bool)
    (payload : String) (ref : Nat) (h : Hdr) (tx : Tx)
    (hh : hdrOfMembers nSigs ms jwkOK jwkPrivate payload ref = .ok h) (hp : parse srcCfg b64 h = .ok tx) :
    getLast ms "alg" = some (.str tx.alg) ∧ tx.alg ∈ Facts.C06.allowedAlgos ∧
    (∃ m e, getLast ms "lc" = some (.num m e) ∧ numEqNat m e tx.clock) ∧
    (∃ l, getLast ms "prevs" = some (.arr l) ∧ parsePrevEls "prevs" l = .ok tx.prevs) ∧
    (∃ m e, getLast ms "ver" = some (.num m e) ∧ tx.ver = toInt64 m e ∧ tx.ver ∈ Facts.C06.allowedVersion) ∧
    tx.jwk = (getLast ms "jwk").isSome := by
  unfold hdrOfMembers at hh
  split at hh
  · rename_i r hr
    simp only [Res.ok.injEq] at hh
    obtain ⟨p1, p2, p3⟩ := jwxMembers_spec hr
    have hget : ∀ k, isPrivName k = true → h.get k = getLast ms k := by
      intro k hk
      subst hh
      show getLast r.priv k = _
      rw [p1 k hk]
      cases getLast ms k <;> rfl
    have wf := parse_wellFormed hp
    have halg : h.alg = r.alg := by subst hh; rfl
    have hjwk : h.hasJwk = r.hasJwk := by subst hh; rfl
    refine ⟨?_, ?_, ?_, ?_, ?_, ?_⟩
    · have hin : r.alg ∈ Facts.C06.allowedAlgos := halg ▸ wf.alg.2
      rcases p2 with ⟨_, ha⟩ | ⟨s, g, ha⟩ | ⟨_, ha⟩
      · rw [ha] at hin; exact absurd hin (by decide)
      · rw [g, wf.alg.1, halg, ha]
      · rw [ha] at hin; exact absurd hin (by decide)
    · rw [wf.alg.1]; exact wf.alg.2
    · obtain ⟨m, e, hg, hn, _⟩ := lc_exact b64 h tx hp
      exact ⟨m, e, by rw [← hget "lc" (by decide)]; exact hg, hn⟩
    · obtain ⟨l, hg, hl⟩ := wf.prevs
      exact ⟨l, by rw [← hget "prevs" (by decide)]; exact hg, hl⟩
    · obtain ⟨m, e, hg, hv, hin⟩ := wf.ver
      exact ⟨m, e, by rw [← hget "ver" (by decide)]; exact hg, hv, hin⟩
    · rw [wf.keyRef.1, hjwk, p3]; rfl
  · cases hh
  · cases hh

/-- the first half of `lc_exact` (the admitted clock is the declared value), for an arbitrary configuration -/
def LcExactStmt (cfg : Cfg) : Prop :=
  ∀ (b64 : String → Bool) (h : Hdr) (tx : Tx), parse cfg b64 h = .ok tx →
    ∃ m e, h.get cfg.lcH = some (.num m e) ∧ numEqNat m e tx.clock

/-- **Candidate defect #15, as a theorem**: without the integrality/range guard (`lcStrict = false`, the code before the
    repair) `lc: 1.5` is accepted with clock 1 — `LcExactStmt` is false. The harness replays this witness
    (harness/corpus/C06) on `ParseTransaction`. -/
theorem lc_exact_fails_without_guard : ¬ LcExactStmt { srcCfg with lcStrict := false } := by
  intro h
  have hp : parse { srcCfg with lcStrict := false } (fun _ => true) lcWitness =
      .ok { ref := 7, alg := "ES256", payloadHash := 0, cty := "a/b", jwk := true, kid := "", sigt := 1, ver := 1,
            prevs := [], pal := [], clock := 1 } := by rw [srcCfg_eq]; decide
  obtain ⟨m, e, hg, hn⟩ := h _ _ _ hp
  have hg' : lcWitness.get "lc" = some (.num 3 (-1)) := by decide
  have : (J.num m e) = .num 3 (-1) := by
    have := hg.symm.trans hg'
    exact Option.some.inj this
  cases this
  exact absurd hn (by decide)

/-- with the guard the same header is refused -/
example : parse srcCfg (fun _ => true) lcWitness = .err "invalid:lc" := by rw [srcCfg_eq]; decide

/-- **Admission soundness.** If offering bytes (decoded header `hd`, optional payload) changes the state at all, then the
    bytes are a well-formed transaction `tx`, `Add` returned nil, and: `tx` was not present; all prevs are present and its
    clock is exactly one more than the highest prev clock (0 without prevs) — `prevsOK`, spelled out by
    `admitted_prevs_clock`; the signature verifies against the embedded key or the key its kid resolves to as of the prevs;
    a transaction without prevs enters only a DAG without root; a supplied payload hashes to the declared payload hash;
    exactly `tx` is added; counters, head, digest, payload shelf move as stated; new jobs / notifications concern `tx` only. -/
theorem admitted_sound (cfg : Cfg) (b64 : String → Bool) (env : Env) (subs : List Sub) (s : St) (hd : Hdr) (p : Option Nat)
    (hne : (offer cfg b64 env subs s hd p).1 ≠ s) :
    ∃ tx, parse cfg b64 hd = .ok tx ∧ WellFormed cfg b64 hd tx ∧ (offer cfg b64 env subs s hd p).2 = .ok () ∧
      Admitted env s tx p (offer cfg b64 env subs s hd p).1 := by
  rcases offer_adds cfg b64 env subs s hd p with h | ⟨tx, htx, h⟩
  · exact (hne h).elim
  · rw [h] at hne ⊢
    exact ⟨tx, htx, parse_wellFormed htx, add_cases.resolve_left hne⟩

/-- what `prevsOK` means: every prev is stored and strictly older, the clock is 0 without prevs and otherwise exactly
    one more than the clock of a prev that is maximal -/
theorem admitted_prevs_clock (env : Env) (s s' : St) (tx : Tx) (p : Option Nat) (h : Admitted env s tx p s') :
    (∀ r ∈ tx.prevs, ∃ u ∈ s.txs, u.ref = r ∧ u.clock < tx.clock) ∧ (tx.prevs = [] → tx.clock = 0) ∧
    (tx.prevs ≠ [] → ∃ u ∈ s.txs, u.ref ∈ tx.prevs ∧ tx.clock = u.clock + 1) :=
  verifyPrevs_spec h.prevsOK

/-- which key: the embedded one, else the key the kid denotes in the signer's document as of the first prev that has one;
    and the header algorithm FITS THAT KEY (`jwx.AlgorithmFitsKey` applied to the key that is then handed to `jws.Verify`) —
    for every `Env`, i.e. whatever a JWS library that only compares algorithm family and key type answers. -/
theorem admitted_alg_fits_key (env : Env) (s s' : St) (tx : Tx) (p : Option Nat) (h : Admitted env s tx p s') :
    (tx.jwk = true ∧ algorithmFitsKey tx.alg (env.jwkShape tx) = true ∧ env.sigJwk tx = true) ∨
    (tx.jwk = false ∧ ∃ k, resolveKey env tx.kid tx.prevs = .ok k ∧ algorithmFitsKey tx.alg (env.keyShape k) = true ∧
      env.sigKey tx k = true) := by
  have hs := h.sigOK
  revert hs
  fun_cases verifySig env tx with
  | case2 hj hf hs => exact fun _ => Or.inl ⟨hj, by simpa using hf, hs⟩
  | case5 hj k hk hf hs => exact fun _ => Or.inr ⟨by simpa using hj, k, hk, by simpa using hf, hs⟩
  | _ => nofun

theorem admitted_signature (env : Env) (s s' : St) (tx : Tx) (p : Option Nat) (h : Admitted env s tx p s') :
    (tx.jwk = true ∧ env.sigJwk tx = true) ∨
    (tx.jwk = false ∧ ∃ k, resolveKey env tx.kid tx.prevs = .ok k ∧ env.sigKey tx k = true) := by
  rcases admitted_alg_fits_key env s s' tx p h with ⟨a, _, c⟩ | ⟨a, k, hk, _, c⟩
  · exact Or.inl ⟨a, c⟩
  · exact Or.inr ⟨a, k, hk, c⟩

/-- **wire bytes → key fit** (admitted_sound ∘ admitted_alg_fits_key): whenever offering bytes changes the state at all, they
    parse to a transaction whose header algorithm fits the key that verified it — the embedded one, or the one its kid
    resolves to as of its prevs. -/
theorem offered_bytes_alg_fits_key (cfg : Cfg) (b64 : String → Bool) (env : Env) (subs : List Sub) (s : St) (hd : Hdr) (p : Option Nat)
    (hne : (offer cfg b64 env subs s hd p).1 ≠ s) :
    ∃ tx, parse cfg b64 hd = .ok tx ∧
      ((tx.jwk = true ∧ algorithmFitsKey tx.alg (env.jwkShape tx) = true ∧ env.sigJwk tx = true) ∨
       (tx.jwk = false ∧ ∃ k, resolveKey env tx.kid tx.prevs = .ok k ∧ algorithmFitsKey tx.alg (env.keyShape k) = true ∧
         env.sigKey tx k = true)) := by
  obtain ⟨tx, h1, _, _, h4⟩ := admitted_sound cfg b64 env subs s hd p hne
  exact ⟨tx, h1, admitted_alg_fits_key env s _ tx p h4⟩

/-- the curve switch of `AlgorithmFitsKey` is RFC 7518 §3.4: P-256 ⇒ ES256, P-384 ⇒ ES384, P-521 ⇒ ES512, nothing asked of other curves -/
theorem alg_fits_ec_iff (alg c : String) :
    algorithmFitsKey alg (.ec c) = true ↔
      (c = "P-256" → alg = "ES256") ∧ (c = "P-384" → alg = "ES384") ∧ (c = "P-521" → alg = "ES512") := by
  unfold algorithmFitsKey algorithmFitsCurve ecAlgOfCurve
  by_cases h1 : c = "P-256"
  · subst h1; simp [List.find?]
  · by_cases h2 : c = "P-384"
    · subst h2; simp [List.find?]
    · by_cases h3 : c = "P-521"
      · subst h3; simp [List.find?]
      · have e1 : ("P-256" = c) = False := by simp [eq_comm, h1]
        have e2 : ("P-384" = c) = False := by simp [eq_comm, h2]
        have e3 : ("P-521" = c) = False := by simp [eq_comm, h3]
        simp [List.find?, h1, h2, h3, e1, e2, e3]

/-- **a kid-referenced key of another curve never gets a transaction in**: when the key the kid resolves to does not fit
    the header algorithm, `Add` leaves the whole state as it was — whatever `jws.Verify` (`env.sigKey`) would have said. -/
theorem alg_must_fit_resolved_key (env : Env) (subs : List Sub) (s : St) (tx : Tx) (p : Option Nat) (k : Nat)
    (hj : tx.jwk = false) (hk : resolveKey env tx.kid tx.prevs = .ok k)
    (hf : algorithmFitsKey tx.alg (env.keyShape k) = false) :
    verifySig env tx = .err "signature" ∧ (add env subs s tx p).1 = s := by
  have hv : verifySig env tx = .err "signature" := by
    unfold verifySig
    simp [hj, hk, hf]
  refine ⟨hv, add_cases.resolve_right fun h => ?_⟩
  have := h.2.sigOK
  rw [hv] at this
  cases this

/-- non-vacuity + the negative witness for the POSITION of the guard: a P-384 key referred to by kid, header ES256, a JWS
    library that accepts it (family only). The code's verifier refuses; the same guard applied up front to the embedded key
    (absent here ⇒ `default: return true`) lets it through. -/
theorem fit_guard_must_see_the_resolved_key :
    ∃ (env : Env) (tx : Tx), tx.jwk = false ∧ resolveKey env tx.kid tx.prevs = .ok 4 ∧
      algorithmFitsKey tx.alg (env.keyShape 4) = false ∧ env.sigKey tx 4 = true ∧
      verifySig env tx = .err "signature" ∧ verifySigGuardFirst env tx = .ok () := by
  refine ⟨{ sha := id, sigJwk := fun _ => true, sigKey := fun _ _ => true, kidDid := fun _ => some "did:nuts:c",
            resolve := fun _ _ => .doc [("did:nuts:c#k1", 4)], keyShape := fun _ => .ec "P-384" },
          { ref := 9, alg := "ES256", payloadHash := 0, cty := "x/y", jwk := false, kid := "did:nuts:c#k1", sigt := 0, ver := 1,
            prevs := [1], pal := [], clock := 1 }, ?_⟩
  decide

example : algorithmFitsKey "ES384" (.ec "P-384") = true ∧ algorithmFitsKey "ES256" (.ec "P-384") = false ∧
    algorithmFitsKey "ES256" (.ec "P-224") = true ∧ algorithmFitsKey "EdDSA" (.ed 32) = true ∧ algorithmFitsKey "EdDSA" (.ed 31) = false ∧
    algorithmFitsKey "ES256" .other = true := by decide

/-- **Re-adding changes nothing**: durable and volatile state identical (all shelves, digest, counters, job shelves) and
    no notification (the ledger is part of the state). -/
theorem add_idempotent (env : Env) (subs : List Sub) (s : St) (tx : Tx) (p : Option Nat) (h : tx.ref ∈ refsOf s.txs) :
    add env subs s tx p = (s, .ok ()) :=
  add_present (present_iff.mpr h)

/-- **A rejected transaction leaves no trace**: on any error (or panic) result the whole state is unchanged —
    at the level of bytes offered (parse errors included). -/
theorem rejected_no_trace (cfg : Cfg) (b64 : String → Bool) (env : Env) (subs : List Sub) (s : St) (hd : Hdr) (p : Option Nat)
    (h : (offer cfg b64 env subs s hd p).2 ≠ .ok ()) : (offer cfg b64 env subs s hd p).1 = s := by
  rcases offer_adds cfg b64 env subs s hd p with h' | ⟨tx, _, h'⟩
  · exact h'
  · rw [h'] at h ⊢; exact add_not_ok h

/-- **A cancelled Add leaves no trace either**: when the caller's context is cancelled while the write transaction is
    open (stoabs rolls back before the commit), whatever the transaction and the state, nothing changes — shelves, digest,
    clocks, jobs, ledger — and a non-present, admissible transaction is reported as an error (`fact_rollback_reloads` ties
    the "volatile copies are reloaded" part to the source; the harness cancels inside a subscriber's Save). -/
theorem cancelled_add_no_trace (env : Env) (subs : List Sub) (s : St) (tx : Tx) (p : Option Nat) :
    (addCancelled env subs s tx p).1 = s ∧
    (tx.ref ∉ refsOf s.txs → (addCancelled env subs s tx p).2 ≠ .ok ()) := by
  have h1 := @phase1_cases env subs s tx p
  unfold addCancelled
  cases hph : phase1 env s tx <;> simp only [hph] at h1
  · exact ⟨rfl, fun hf => by rw [present_false_iff.mpr hf] at h1; cases h1.1⟩
  · exact ⟨rfl, fun _ => nofun⟩
  · exact ⟨rfl, fun _ => nofun⟩
  · unfold phase2Cancelled
    rw [h1.1, if_neg Bool.false_ne_true]
    cases writeBody env subs s tx p <;> exact ⟨rfl, fun _ => nofun⟩

/-- **The other doors.** A TransactionList (transport/v2 `handleTransactionList`) only ever changes the state through `Add`,
    so whatever it leaves behind is a valid DAG again; and a payload that arrives later (`handleTransactionPayload` →
    `WritePayload`) is stored only for a transaction that is on the DAG and only if it hashes to that transaction's
    declared payload hash — the payload store keeps "content hashes to its key". -/
theorem other_doors_keep_invariant (env : Env) (subs : List Sub) (s : St) (hi : Inv env s) :
    (∀ items, Inv env (handleList env subs s items).1) ∧
    (∀ ref p, Inv env (latePayload env subs s ref p).1 ∧
      ((latePayload env subs s ref p).2 = "ok" → ∃ tx ∈ s.txs, tx.ref = ref ∧ env.sha p = tx.payloadHash)) := by
  refine ⟨fun items => ?_, fun ref p => ⟨(inv_steps [.inr (ref, p)] hi).1, fun hok => ?_⟩⟩
  · obtain ⟨k, _, e⟩ := handleList_adds env subs items s
    rw [e]; exact inv_adds _ hi
  · rcases latePayload_cases env subs s ref p with ⟨_, h⟩ | ⟨tx, hf, hsha, _⟩
    · exact absurd hok h
    · exact ⟨tx, (findTx_some_ref hf).2, (findTx_some_ref hf).1, hsha⟩

structure Offer where
  hd : Hdr
  payload : Option Nat

def offerStep (cfg : Cfg) (b64 : String → Bool) (env : Env) (subs : List Sub) (s : St) (o : Offer) : St :=
  (offer cfg b64 env subs s o.hd o.payload).1

theorem offers_adds (cfg : Cfg) (b64 : String → Bool) (env : Env) (subs : List Sub) (os : List Offer) (s : St) :
    ∃ cs, os.foldl (offerStep cfg b64 env subs) s = adds env subs s cs := by
  refine foldl_invariant (fun s' => ∃ cs, s' = adds env subs s cs) _ os s (fun o _ s' ⟨cs, e⟩ => ?_) ⟨[], rfl⟩
  rcases offer_adds cfg b64 env subs s' o.hd o.payload with h | ⟨tx, _, h⟩
  · exact ⟨cs, by unfold offerStep; rw [h, e]⟩
  · exact ⟨cs ++ [⟨tx, o.payload⟩], by unfold offerStep adds; rw [h, e, List.foldl_append]; rfl⟩

theorem offers_reached (cfg : Cfg) (b64 : String → Bool) (env : Env) (subs : List Sub) (os : List Offer) :
    let s := os.foldl (offerStep cfg b64 env subs) {}
    Inv env s ∧ (SubsOK subs → Once subs s) := by
  obtain ⟨cs, e⟩ := offers_adds cfg b64 env subs os {}
  have h := inv_steps (subs := subs) (cs.map .inl) (inv_empty env)
  rw [← adds_eq_steps, ← e] at h
  exact ⟨h.1, fun hok => h.2 hok fun _ _ _ ht => nomatch ht⟩

/-- **DAG invariant.** After ANY sequence of offers (valid, invalid, repeated, in any order) starting from the empty
    store: refs are unique; every stored transaction's prevs are stored and strictly older (so the graph is acyclic and
    prev-closed); its clock is 0 without prevs and otherwise one more than its highest prev; there is at most one root;
    every stored transaction's signature verified; every stored payload hashes to its key; count, highest clock (both
    copies), head and XOR digest are exactly what the stored set implies; jobs and notifications only concern stored
    transactions. -/
theorem dag_inv (cfg : Cfg) (b64 : String → Bool) (env : Env) (subs : List Sub) (os : List Offer) :
    let s := os.foldl (offerStep cfg b64 env subs) {}
    (refsOf s.txs).Nodup ∧
    (∀ t ∈ s.txs, (∀ r ∈ t.prevs, ∃ u ∈ s.txs, u.ref = r ∧ u.clock < t.clock) ∧ (t.prevs = [] → t.clock = 0) ∧
        (t.prevs ≠ [] → ∃ u ∈ s.txs, u.ref ∈ t.prevs ∧ t.clock = u.clock + 1) ∧ verifySig env t = .ok ()) ∧
    (∀ t ∈ s.txs, ∀ u ∈ s.txs, t.prevs = [] → u.prevs = [] → t = u) ∧
    (∀ q ∈ s.payloads, env.sha q.2 = q.1) ∧
    s.count = s.txs.length ∧ s.lcHigh = maxClock s.txs ∧ s.lcAtomic = s.lcHigh ∧ s.xor = xorAll s.txs ∧
    ((s.txs = [] ∧ s.head = 0) ∨ ∃ t ∈ s.txs, t.ref = s.head ∧ t.clock = s.lcHigh) ∧
    (∀ j ∈ s.jobs, j.ref ∈ refsOf s.txs) ∧ (∀ e ∈ s.ledger, e.ref ∈ refsOf s.txs) :=
  have hi := (offers_reached cfg b64 env subs os).1
  ⟨chain_nodup hi.chain, fun t ht => let ⟨a, b, c⟩ := chain_mem hi.chain t ht; ⟨a, b, c, chain_sig hi.chain t ht⟩,
    chain_root_unique hi.chain, hi.payloads, hi.count, hi.lcHigh, hi.lcAtomic, hi.xor, hi.head, hi.jobsRefs, hi.ledgerRefs⟩

/-- **Notified exactly once.** With the node's subscriber configuration (`SubsOK`: unique names; a persistent
    subscriber listens to one event type) — after ANY sequence of offers, every subscriber whose filter accepts the
    transaction event of a stored transaction has received exactly one transaction event for it; nobody has received
    an event about a ref that is not stored. Re-offers, rejected offers and other transactions never add one
    (`add_idempotent`, `rejected_no_trace`, `Admitted.ledger`). -/
theorem notified_exactly_once (cfg : Cfg) (b64 : String → Bool) (env : Env) (subs : List Sub) (hok : SubsOK subs) (os : List Offer) :
    let s := os.foldl (offerStep cfg b64 env subs) {}
    (∀ sub ∈ subs, ∀ t ∈ s.txs, sub.accepts .tx t = true → evCount s.ledger sub.name .tx t.ref = 1) ∧
    (∀ (n : String) (typ : EvType) (r : Nat), r ∉ refsOf s.txs → evCount s.ledger n typ r = 0) := by
  intro s
  have h := offers_reached cfg b64 env subs os
  exact ⟨h.2 hok, fun n typ r hr => evCount_zero fun e he hc => hr (hc ▸ h.1.ledgerRefs e he)⟩

/-- **Concurrent adds serialise.** For ANY number of concurrent `Add` calls (same, sibling, dependent, invalid
    transactions — anything) and ANY interleaving of their read-transaction / write-transaction steps (`sched` is an
    arbitrary list of thread ids; a finished thread's slot is a no-op), at EVERY point of the execution: the state equals
    the state after running the finished calls one after the other in some order (`order`: each finished thread exactly
    once), and every finished thread returned exactly what it returns in that sequential run. Threads that are between
    their two phases have changed nothing. -/
theorem concurrent_adds_serialise (env : Env) (subs : List Sub) (calls : List Call) (sched : List Nat) (s0 : St) :
    let w := run env subs calls sched { st := s0, pcs := List.replicate calls.length .start }
    ∃ order : List Nat, order.Nodup ∧ (∀ i : Nat, i ∈ order ↔ ∃ r, w.pcs[i]? = some (PC.done r)) ∧
      (seqRun env subs calls order s0).1 = w.st ∧
      (∀ (i : Nat) (r : Res Unit), (i, r) ∈ (seqRun env subs calls order s0).2 ↔ w.pcs[i]? = some (PC.done r)) :=
  (lin_run sched (lin_init calls.length)).ex

/-- hence, started from a valid DAG, every interleaving ends in a valid DAG: each ref stored once, counted once
    (`count = length`, refs `Nodup`), digest = XOR of the stored refs, notifications only for stored transactions -/
theorem concurrent_adds_keep_invariant (env : Env) (subs : List Sub) (calls : List Call) (sched : List Nat) (s0 : St)
    (h0 : Inv env s0) :
    let w := run env subs calls sched { st := s0, pcs := List.replicate calls.length .start }
    Inv env w.st ∧ (refsOf w.st.txs).Nodup ∧ w.st.count = w.st.txs.length ∧ w.st.xor = xorAll w.st.txs := by
  intro w
  obtain ⟨order, _, _, hst, _⟩ := concurrent_adds_serialise env subs calls sched s0
  have hi : Inv env w.st := by
    rw [← hst, seqRun_adds]
    exact inv_adds _ h0
  exact ⟨hi, chain_nodup hi.chain, hi.count, hi.xor⟩

/-- **A transaction built by the `CreateTransaction` rule is admissible**: prevs = head + additional prevs
    (de-duplicated), clock from `calculateLamportClock`; signed by a key that verifies; payload hash = hash of the
    payload. On the state it was built on, `Add` accepts it and stores it.
    `hnz`: no stored transaction has the all-zero ref (the code uses the empty hash for "no head"). -/
theorem created_tx_admissible (env : Env) (subs : List Sub) (s : St) (additional prevs : List Nat) (clock : Nat) (tx : Tx) (q : Nat)
    (hi : Inv env s) (hnz : ∀ t ∈ s.txs, t.ref ≠ 0)
    (hc : createPrevsClock s additional = .ok (prevs, clock)) (hp : tx.prevs = prevs) (hk : tx.clock = clock)
    (hfresh : tx.ref ∉ refsOf s.txs) (hsig : verifySig env tx = .ok ()) (hq : env.sha q = tx.payloadHash) :
    (add env subs s tx (some q)).2 = .ok () ∧ (add env subs s tx (some q)).1.txs = tx :: s.txs := by
  obtain ⟨hv, hr⟩ := create_verifies hi hnz hc tx hp hk
  exact add_success hfresh hv hsig hr (by intro x hx; cases hx; exact hq)

/-! ### non-vacuity: concrete instances meeting the hypotheses -/

namespace Ex

def env : Env :=
  { sha := fun p => p + 100, sigJwk := fun _ => true, sigKey := fun _ k => k == 1,
    kidDid := fun k => if k = "did:nuts:a#k1" then some "did:nuts:a" else none,
    resolve := fun d src => if d = "did:nuts:a" ∧ src = 11 then .doc [("did:nuts:a#k1", 1)] else .notFound }

def subs : List Sub :=
  [{ name := "gossip", persistent := false, wantTx := true, wantPayload := false, palOnly := false, outcome := .finished },
   { name := "nats", persistent := true, wantTx := false, wantPayload := true, palOnly := false, outcome := .finished }]

def mk (ref clock : Nat) (prevs : List Nat) (ph : Nat) (jwk : Bool) (kid : String) : Tx :=
  { ref := ref, alg := "ES256", payloadHash := ph, cty := "a/b", jwk := jwk, kid := kid, sigt := 1, ver := 2, prevs := prevs,
    pal := [], clock := clock }

def root : Tx := mk 11 0 [] 101 true ""
def child : Tx := mk 12 1 [11] 102 false "did:nuts:a#k1"
def sibling : Tx := mk 13 1 [11] 103 true ""
def root2 : Tx := mk 14 0 [] 104 true ""

def s1 : St := (add env subs {} root (some 1)).1
def s2 : St := (add env subs s1 child (some 2)).1

/-- the root and a kid-signed child are admitted; both are stored, counted, digested, notified -/
example : s2.txs = [child, root] ∧ s2.count = 2 ∧ s2.lcHigh = 1 ∧ s2.head = 12 ∧ s2.xor = 11 ^^^ 12 ∧
    s2.payloads = [(102, 2), (101, 1)] ∧ s2.jobs = [] ∧
    s2.ledger = [⟨"gossip", .tx, 11⟩, ⟨"nats", .payload, 11⟩, ⟨"gossip", .tx, 12⟩, ⟨"nats", .payload, 12⟩] := by decide +kernel

/-- `add_idempotent` applies (and a re-add with another payload argument is a no-op as well) -/
example : add env subs s2 root (some 9) = (s2, .ok ()) := by decide +kernel
/-- `rejected_no_trace` applies: second root, wrong clock, missing prev, wrong payload -/
example : add env subs s2 root2 (some 4) = (s2, .err "root-exists") := by decide +kernel
example : add env subs s2 (mk 15 3 [12] 105 true "") none = (s2, .err "clock") := by decide +kernel
example : add env subs s2 (mk 15 1 [99] 105 true "") none = (s2, .err "prev-missing") := by decide +kernel
example : add env subs s2 sibling (some 2) = (s2, .err "payload-hash") := by decide +kernel
/-- `cancelled_add_no_trace`: an admissible sibling whose Add is cancelled in the write transaction -/
example : addCancelled env subs s2 sibling (some 3) = (s2, .err "cancelled") := by decide +kernel
/-- `other_doors_keep_invariant`: a list whose second item misses its prev, and a late payload with wrong / right bytes -/
example : (handleList env subs s1 [⟨sibling, some 3⟩, ⟨mk 20 5 [99] 120 true "", some 20⟩, ⟨child, some 2⟩]).2 = "ok:missing-prevs" := by decide
example : (latePayload env subs s2 12 9).2 = "err:payload-mismatch" ∧ (latePayload env subs s2 12 2).2 = "ok" ∧
    (latePayload env subs s2 77 2).2 = "err:unknown-tx" := by decide +kernel
/-- a kid that resolves for no prev is refused -/
example : add env subs s2 (mk 16 2 [12] 105 false "did:nuts:a#k1") none = (s2, .err "did-not-found") := by decide +kernel

/-- `concurrent_adds_serialise` on a schedule where two threads add the same transaction and a third a sibling:
    both duplicates return nil, the transaction is stored once -/
example :
    let calls : List Call := [⟨sibling, some 3⟩, ⟨sibling, some 3⟩, ⟨child, some 2⟩]
    let w := run env subs calls [0, 1, 2, 1, 0, 2] { st := s1, pcs := List.replicate 3 .start }
    w.st.txs = [child, sibling, root] ∧ w.pcs = [.done (.ok ()), .done (.ok ()), .done (.ok ())] ∧ w.st.count = 3 := by decide +kernel

/-- competing roots: both pass phase 1, the second write is refused by the root check -/
example :
    let calls : List Call := [⟨root, some 1⟩, ⟨root2, some 4⟩]
    let w := run env subs calls [0, 1, 1, 0] { st := {}, pcs := List.replicate 2 .start }
    w.st.txs = [root2] ∧ w.pcs = [.done (.err "root-exists"), .done (.ok ())] := by decide

/-- `created_tx_admissible`: hypotheses are satisfiable on s2 (head = child, additional prev = root) -/
example : createPrevsClock s2 [11] = .ok ([12, 11], 2) := by decide
example : (add env subs s2 (mk 17 2 [12, 11] 105 true "") (some 5)).2 = .ok () := by decide

/-- `last_member_decides`: a header with duplicated `lc` and `alg` members — the last ones win -/
example :
    (hdrOfMembers 1 [("alg", .str "none"), ("lc", .num 7 0), ("alg", .str "ES256"), ("cty", .str "a/b"), ("jwk", .obj),
        ("sigt", .num 1 0), ("ver", .num 1 1), ("prevs", .arr []), ("lc", .num 5 0)] true false "" 7 >>=
      parse srcCfg (fun _ => true)) =
    .ok { ref := 7, alg := "ES256", payloadHash := 0, cty := "a/b", jwk := true, kid := "", sigt := 1, ver := 2,
          prevs := [], pal := [], clock := 5 } := by rw [srcCfg_eq]; decide

/-- `notified_exactly_once`: the example subscriber set satisfies `SubsOK` -/
example : SubsOK subs := by
  refine ⟨by decide, ?_⟩
  intro sub hs hp
  simp [subs] at hs
  rcases hs with h | h <;> subst h <;> simp at hp ⊢

/-- `parse_sound` / `lc_exact`: a header that parses -/
example : parse srcCfg (fun _ => true)
    { nSigs := 1, alg := "ES256", cty := "a/b", hasJwk := true, kid := none, payload := "", ref := 7,
      priv := [("sigt", .num 1 0), ("ver", .num 1 1), ("prevs", .arr [.str ""]), ("lc", .num 5 0)] } =
    .ok { ref := 7, alg := "ES256", payloadHash := 0, cty := "a/b", jwk := true, kid := "", sigt := 1, ver := 2,
          prevs := [0], pal := [], clock := 5 } := by rw [srcCfg_eq]; decide

end Ex


/-! ### the framing check on the BYTES (parser.go `isJWSSerialization`, NutsModel/C06/Framing.lean) -/

section FramingBytes
open Nuts.C06.Framing

/-- the body of `isJWSSerialization` is the one `Framing.isJWSSerialization` mirrors, statement by statement: trim with
    `unicode.IsSpace`, '{' ⇒ JSON; else split at '.', exactly 3 segments, each must decode with `RawURLEncoding` and re-encode to itself -/
theorem fact_framing_body :
    Facts.C06.framingStmts =
      ["trimmed := bytes.TrimLeftFunc(input, unicode.IsSpace)", "if len(trimmed) > 0 && trimmed[0] == '{'", "return true", "segments := bytes.Split(input, []byte{'.'})", "if len(segments) != 3", "return false", "range segments", "decoded, err := base64.RawURLEncoding.DecodeString(string(segment))", "if err != nil || base64.RawURLEncoding.EncodeToString(decoded) != string(segment)", "return false", "return true"] ∧
    (Facts.C06.framingSep, Facts.C06.framingSegments, Facts.C06.framingJsonByte) = (46, 3, 123) := ⟨rfl, rfl⟩

/-- `ParseTransaction` on bytes: whatever it accepts passed `isJWSSerialization` computed on those bytes, and carries their hash as ref -/
theorem accepted_bytes_pass_framing (b64 : String → Bool) (sha : List Nat → Nat) (input : List Nat) (h : Hdr) (tx : Tx)
    (hp : parseBytes srcCfg b64 sha input h = .ok tx) : isJWSSerialization input = true ∧ tx.ref = sha input :=
  ⟨accepted_bytes_are_a_jws_serialization b64 _ tx hp, (parse_wellFormed hp).ref⟩

/-- an accepted compact serialization consists of exactly three segments over the base64url alphabet: no padding '=', no
    standard-alphabet '+' '/', no line breaks, no further '.' — everything `jws.Parse` tolerates beyond RFC 7515 is refused -/
theorem accepted_compact_is_three_canonical_segments (b64 : String → Bool) (sha : List Nat → Nat) (input : List Nat) (h : Hdr) (tx : Tx)
    (hp : parseBytes srcCfg b64 sha input h = .ok tx) (hj : jsonStart input = false) :
    ∃ s1 s2 s3, input = s1 ++ 46 :: (s2 ++ 46 :: s3) ∧
      (∀ s ∈ [s1, s2, s3], (∀ c ∈ s, isAlpha c = true) ∧ s.length % 4 ≠ 1 ∧ ∃ d, b64Decode s = some d ∧ b64Encode d = s) := by
  obtain ⟨s1, s2, s3, hs, c1, c2, c3⟩ := compact_of_isJWS (accepted_bytes_pass_framing b64 sha input h tx hp).1 hj
  refine ⟨s1, s2, s3, ?_, ?_⟩
  · have := join_split 46 input
    rw [hs] at this
    simpa [joinWith] using this.symm
  · intro s hs'
    simp at hs'
    rcases hs' with e | e | e <;> subst e
    · exact ⟨canonical_alpha c1, canonical_len c1, canonical_eq c1⟩
    · exact ⟨canonical_alpha c2, canonical_len c2, canonical_eq c2⟩
    · exact ⟨canonical_alpha c3, canonical_len c3, canonical_eq c3⟩

/-- ONE SIGNED TRANSACTION, ONE REFERENCE: two accepted compact inputs that carry the same header, payload and signature bytes
    are the same byte string, hence the same transaction reference (for any hash function).  This is what the framing guard is
    for: the DAG identifies a transaction by the hash of its bytes. -/
theorem one_signed_transaction_one_ref (b64 : String → Bool) (sha : List Nat → Nat) (a b : List Nat) (ha hb : Hdr) (ta tb : Tx)
    (pa : parseBytes srcCfg b64 sha a ha = .ok ta) (pb : parseBytes srcCfg b64 sha b hb = .ok tb)
    (ja : jsonStart a = false) (jb : jsonStart b = false)
    (same : decodedSegments a = decodedSegments b) : a = b ∧ ta.ref = tb.ref := by
  have fa := accepted_bytes_pass_framing b64 sha a ha ta pa
  have fb := accepted_bytes_pass_framing b64 sha b hb tb pb
  have e := compact_unique fa.1 ja fb.1 jb same
  exact ⟨e, by rw [fa.2, fb.2, e]⟩

/-- THE LIMIT OF THE GUARD (stated, not hidden): the JSON branch puts no demand on the bytes — whatever follows a '{' passes
    `isJWSSerialization`; `one_signed_transaction_one_ref` therefore speaks about compact inputs only (`jsonStart = false`). Whether a
    JSON-serialised copy of a signed transaction parses at all is decided by `jws.Parse` (contract), and if it does it is a transaction
    with ANOTHER ref (level note; C17 lists it as `C17:dagtx:json-serialisation-second-reference`). -/
theorem json_branch_puts_no_demand_on_the_bytes (rest : List Nat) : isJWSSerialization (123 :: rest) = true := by
  have : jsonStart (123 :: rest) = true := by
    unfold jsonStart trimLeftSpace
    simp only [List.length_cons, trimLeftFuel, spaceRune_brace]
    simp
  unfold isJWSSerialization
  rw [this]; rfl

/-- the guard refuses nothing honest: the compact serialization of ANY header / payload / signature bytes passes -/
theorem honest_compact_passes_framing (d1 d2 d3 : List Nat)
    (h1 : ∀ x ∈ d1, x < 256) (h2 : ∀ x ∈ d2, x < 256) (h3 : ∀ x ∈ d3, x < 256) :
    isJWSSerialization (b64Encode d1 ++ 46 :: (b64Encode d2 ++ 46 :: b64Encode d3)) = true ∧
    decodedSegments (b64Encode d1 ++ 46 :: (b64Encode d2 ++ 46 :: b64Encode d3)) = [some d1, some d2, some d3] := by
  refine ⟨compact_accepted d1 d2 d3 h1 h2 h3, ?_⟩
  unfold decodedSegments
  rw [splitOn_append _ (encode_no_dot d1), splitOn_append _ (encode_no_dot d2), splitOn_no_sep (encode_no_dot d3)]
  simp [decode_encode _ h1, decode_encode _ h2, decode_encode _ h3]

/-- without the re-encode comparison the decoder alone is NOT injective: "QQ" and "QR" (non-zero trailing bits), "QQ\n" (line
    break) all decode to the byte 'A' — three byte strings, three refs, one signed content (the defect repaired in 88f8bf0) -/
theorem decoder_alone_is_not_injective :
    b64Decode [81, 81] = some [65] ∧ b64Decode [81, 82] = some [65] ∧ b64Decode [81, 81, 10] = some [65] ∧
    canonical [81, 81] = true ∧ canonical [81, 82] = false ∧ canonical [81, 81, 10] = false := by decide

/-- non-vacuity: "e30.QQ.QQ" is accepted framing, "e30.QQ.QQ.x", "e30.QQ=.QQ", "e30.QQ" and "e30.Q.QQ" are not; " \t{" is JSON -/
example : isJWSSerialization [101, 51, 48, 46, 81, 81, 46, 81, 81] = true := by decide
example : isJWSSerialization [101, 51, 48, 46, 81, 81, 46, 81, 81, 46, 120] = false := by decide
example : isJWSSerialization [101, 51, 48, 46, 81, 81, 61, 46, 81, 81] = false := by decide
example : isJWSSerialization [101, 51, 48, 46, 81, 81] = false := by decide
example : isJWSSerialization [101, 51, 48, 46, 81, 46, 81, 81] = false := by decide
example : isJWSSerialization [32, 9, 0xC2, 0xA0, 0xE2, 0x80, 0x83, 123] = true := by decide
example : jsonStart [101, 51, 48, 46, 81, 81, 46, 81, 81] = false := by decide

end FramingBytes


/-! ### the bytes in the store (dag.go: clocks / documents / metadata shelves, NutsModel/C06/Shelf.lean) -/

section StoreBytes
open Nuts.C06.Shelf

/-- the functions of dag.go that `NutsModel/C06/Shelf.lean` mirrors, statement by statement (exact source text): hash-list
    codec, clock index, root check, `addSingle`, `add` (head / lc_high / tx_num bookkeeping), the range scan with `stopAtNil = true`
    and the byte order of the sort, the widths of the big-endian counters -/
theorem fact_store_bodies :
    Facts.C06.dagBody_parseHashList =
      ["if len(input) == 0", "return nil", "num := (len(input) - (len(input) % hash.SHA256HashSize)) / hash.SHA256HashSize", "result := make([]hash.SHA256Hash, num)", "for i := 0; i < num; i++", "result[i] = hash.FromSlice(input[i*hash.SHA256HashSize : i*hash.SHA256HashSize+hash.SHA256HashSize])", "return result"] ∧
    Facts.C06.dagBody_appendHashList =
      ["newList := make([]byte, 0, len(list)+hash.SHA256HashSize)", "newList = append(newList, list...)", "newList = append(newList, h.Slice()...)", "return newList"] ∧
    Facts.C06.dagBody_indexClockValue =
      ["lc := tx.GetShelfWriter(clockShelf)", "clockKey := stoabs.Uint32Key(transaction.Clock())", "ref := transaction.Ref()", "currentRefs, err := lc.Get(clockKey)", "if err != nil && !errors.Is(err, stoabs.ErrKeyNotFound)", "return err", "range parseHashList(currentRefs)", "if ref.Equals(cRef)", "return nil", "err := lc.Put(clockKey, appendHashList(currentRefs, ref))", "if err != nil", "return err", "log.Logger(). WithField(core.LogFieldTransactionRef, ref). Tracef(\"Storing transaction logical clock (LC: %d)\", clockKey)", "return nil"] ∧
    Facts.C06.dagBody_getRoots =
      ["roots, err := lcBucket.Get(stoabs.Uint32Key(0))", "if err != nil", "return nil", "return parseHashList(roots)"] ∧
    Facts.C06.dagBody_addSingle =
      ["ref := transaction.Ref()", "refKey := stoabs.NewHashKey(ref)", "transactions := tx.GetShelfWriter(transactionsShelf)", "lc := tx.GetShelfWriter(clockShelf)", "if exists(transactions, ref)", "log.Logger(). WithField(core.LogFieldTransactionRef, ref). Trace(\"Transaction already exists, not adding it again.\")", "return nil", "if len(transaction.Previous()) == 0", "if getRoots(lc) != nil", "return errRootAlreadyExists", "err := indexClockValue(tx, transaction)", "if err != nil", "return fmt.Errorf(\"unable to calculate LC value for %s: %w\", ref, err)", "return transactions.Put(refKey, transaction.Data())"] ∧
    Facts.C06.dagBody_add =
      ["highestLC := d.getHighestClockValue(tx)", "headRef := hash.EmptyHash()", "range transactions", "if transaction != nil", "err := d.addSingle(tx, transaction)", "if err != nil", "return err", "if transaction.Clock() > highestLC || transaction.Clock() == 0", "highestLC = transaction.Clock()", "headRef = transaction.Ref()", "err := d.setHighestClockValue(tx, highestLC)", "if err != nil", "return err", "if !headRef.Equals(hash.EmptyHash())", "err := d.setHead(tx, headRef)", "if err != nil", "return err", "txCount := d.getNumberOfTransactions(tx) + uint64(len(transactions))", "return d.setNumberOfTransactions(tx, txCount)"] ∧
    Facts.C06.dagBody_visitBetweenLC =
      ["reader := tx.GetShelfReader(clockShelf)", "return reader.Range(stoabs.Uint32Key(startInclusive), stoabs.Uint32Key(endExclusive), func(_ stoabs.Key, value []byte) error { parsed := parseHashList(value) sort.Slice(parsed, func(i, j int) bool { return parsed[i].Compare(parsed[j]) <= 0 }) for _, next := range parsed { transaction, err := getTransaction(next, tx) if err != nil { return err } visitor(transaction) } return nil }, true)"] ∧
    Facts.C06.dagBody_setNumberOfTransactions =
      ["writer := tx.GetShelfWriter(metadataShelf)", "bytes := make([]byte, 8)", "binary.BigEndian.PutUint64(bytes[:], count)", "return writer.Put(stoabs.BytesKey(numberOfTransactionsKey), bytes)"] ∧
    Facts.C06.dagBody_setHighestClockValue =
      ["writer := tx.GetShelfWriter(metadataShelf)", "bytes := make([]byte, 4)", "binary.BigEndian.PutUint32(bytes[:], count)", "return writer.Put(stoabs.BytesKey(highestClockValue), bytes)"] ∧
    Facts.C06.dagBody_setHead =
      ["writer := tx.GetShelfWriter(metadataShelf)", "return writer.Put(stoabs.BytesKey(headRefKey), ref.Slice())"] ∧
    Facts.C06.dagBody_bytesToClock =
      ["return binary.BigEndian.Uint32(clockBytes)"] ∧
    Facts.C06.dagBody_bytesToCount =
      ["return binary.BigEndian.Uint64(clockBytes)"] := by
  and_intros <;> rfl

/-- shelf names, metadata keys and the hash size the model uses are the ones in the source -/
theorem fact_store_keys :
    (Facts.C06.dag_numberOfTransactionsKey, Facts.C06.dag_highestClockValue, Facts.C06.dag_headRefKey) =
      (numberOfTransactionsKey, highestClockValue, headRefKey) ∧
    (Facts.C06.dag_metadataShelf, Facts.C06.dag_transactionsShelf, Facts.C06.dag_clockShelf) = ("metadata", "documents", "clocks") ∧
    Facts.C06.sha256HashSize = hashSize := ⟨rfl, rfl, rfl⟩

/-- BYTE-LEVEL `dag.add` REFINES `graphAdd`: on a store holding the abstract state `s`, adding a fresh transaction writes exactly
    the bytes that hold `graphAdd s tx` (clock index entry appended, `tx_num`+1 as 8 bytes, `lc_high` as 4 bytes, `head_ref` only
    when the clock is a new maximum or 0) and is refused exactly when `graphAdd` refuses (a second root, read off the bytes under key 0) -/
theorem store_bytes_refine_graph_add {st : Store} {s : St} (h : Refines st s) (tx : Tx)
    (hfresh : hashBytes tx.ref ∉ st.docs) (hr0 : tx.ref ≠ 0) (hr : tx.ref < 256 ^ hashSize)
    (hc : tx.clock < 256 ^ 4) (hh : s.lcHigh < 256 ^ 4) (hn : s.count + 1 < 256 ^ 8) :
    match graphAdd s tx with
    | .ok s' => ∃ st', dagAdd st (hashBytes tx.ref) tx.clock tx.prevs.isEmpty = .ok st' ∧ Refines st' s'
    | .err e => dagAdd st (hashBytes tx.ref) tx.clock tx.prevs.isEmpty = .err e
    | .panic _ => False := by
  have hne : hashBytes tx.ref ≠ be hashSize 0 := fun e => hr0 (hashBytes_inj hr (by decide) e)
  have hcont : st.docs.contains (hashBytes tx.ref) = false := by simpa using hfresh
  unfold graphAdd dagAdd addSingle
  rw [hcont, if_neg Bool.false_ne_true, h.clocks, roots_build, h.lcHigh]
  by_cases hroot : (tx.prevs.isEmpty && hasRoot s.txs) = true
  · rw [if_pos hroot, if_pos hroot]
  · rw [if_neg hroot, if_neg hroot]
    refine ⟨_, rfl, ?_⟩
    have hlc : (if (decide (tx.clock > s.lcHigh) || decide (tx.clock = 0)) = true then tx.clock else s.lcHigh) < 256 ^ 4 := by
      split <;> assumption
    -- the head is written only on a new maximum; the two counters read back the same either way
    refine { clocks := rfl, docs := congrArg _ h.docs, count := ?_, lcHigh := ?_, head := ?_ } <;> dsimp only
    · rw [getCounter_putIf _ _ _ (by decide), getCounter_put_other (k := highestClockValue) _ _ (by decide), h.count,
        getCounter_put_same _ _ 8 _ hn]
    · rw [getCounter_put_other _ _ (by decide), getCounter_putIf _ _ _ (by decide), getCounter_put_same _ _ 4 _ hlc]
    · rw [get_put_other _ _ (by decide)]
      by_cases hnew : (decide (tx.clock > s.lcHigh) || decide (tx.clock = 0)) = true
      · simp only [hnew, if_true, hne, ne_eq, not_false_eq_true]
        rw [get_put_same]; rfl
      · simp only [hnew, Bool.false_eq_true, if_false, ne_eq, not_true_eq_false]
        rw [get_put_other _ _ (by decide)]; exact h.head

/-- `parseHashList ∘ appendHashList`: appending one ref to a whole number of refs parses back to the old refs and the new one -/
theorem hash_list_append_parses {l h : List Nat} (hl : l.length % hashSize = 0) (hh : h.length = hashSize) :
    parseHashList (appendHashList l h) = parseHashList l ++ [h] := parseHashList_append hl hh

/-- THE CLOCKS SHELF DECODES TO THE DAG: under every clock value the bytes hold exactly the refs of the stored transactions with that
    clock, each once, in admission order; and `getRoots(lc) != nil` — the root-uniqueness check of `addSingle` — is true exactly when a
    stored transaction has clock 0 -/
theorem clock_shelf_decodes (txs : List Tx) (hn : (refsOf txs).Nodup) (hb : ∀ t ∈ txs, t.ref < 256 ^ hashSize) (c : Nat) :
    refsAt (buildClocks txs) c = ((txs.filter (fun t => t.clock = c)).reverse.map (fun t => hashBytes t.ref)) ∧
    rootsNonNil (buildClocks txs) = hasRoot txs :=
  ⟨refsAt_build txs (nodup_hashBytes hn hb) c, roots_build txs⟩

/-- FindBetweenLC READS EVERY STORED TRANSACTION, for ALL offer histories: the range scan of `visitBetweenLC` stops at the first
    missing clock value (`stopAtNil`) — but a reachable DAG skips none (every non-root transaction sits one above a stored prev), so
    over the bytes of the store the scan visits exactly the refs of the stored transactions with `a ≤ clock < b` -/
theorem find_between_lc_reads_every_stored_tx (cfg : Cfg) (b64 : String → Bool) (env : Env) (subs : List Sub) (os : List Offer) :
    let s := os.foldl (offerStep cfg b64 env subs) {}
    (∀ t ∈ s.txs, t.ref < 256 ^ hashSize) →
    ∀ a b h, h ∈ visitBetweenLC (buildClocks s.txs) a b ↔ ∃ t ∈ s.txs, hashBytes t.ref = h ∧ a ≤ t.clock ∧ t.clock < b := by
  intro s _ a b h
  obtain ⟨_, hl, _⟩ := dag_inv cfg b64 env subs os
  refine mem_visit (nogap_of_links ?_) a b h
  intro t ht
  obtain ⟨_, h0, h1, _⟩ := hl t ht
  by_cases hp : t.prevs = []
  · exact Or.inl (h0 hp)
  · obtain ⟨u, hu, _, hc⟩ := h1 hp
    exact Or.inr ⟨u, hu, hc⟩

/-- with a skipped clock value the scan is NOT complete (why the DAG invariant is needed): refs filed under clocks 0 and 2 only -/
theorem range_scan_stops_at_a_gap :
    let sh := indexClockValue (indexClockValue [] 0 (hashBytes 1)) 2 (hashBytes 2)
    refsAt sh 2 = [hashBytes 2] ∧ visitBetweenLC sh 0 3 = [hashBytes 1] := by decide +kernel

/-- big-endian counters and 32-byte refs read back as written (`bytesToClock`, `bytesToCount`, `hash.FromSlice`) -/
theorem counters_read_back (n v : Nat) : ofBe (be n v) = v % 256 ^ n ∧ (be n v).length = n := ⟨ofBe_be n v, be_length n v⟩

/-- non-vacuity: a root, a child and a grandchild through the byte-level `dagAdd`; the store refines the abstract state, the scan finds all -/
example : (buildStore [⟨3, "", 0, "", true, "", 0, 0, [2], [], 2⟩, ⟨2, "", 0, "", true, "", 0, 0, [1], [], 1⟩, ⟨1, "", 0, "", true, "", 0, 0, [], [], 0⟩]).md
    = [("tx_num", be 8 3), ("head_ref", hashBytes 3), ("lc_high", be 4 2)] := by decide +kernel
example : dagAdd (buildStore [⟨1, "", 0, "", true, "", 0, 0, [], [], 0⟩]) (hashBytes 5) 0 true = .err "root-exists" := by decide +kernel
example : visitBetweenLC (buildClocks [⟨3, "", 0, "", true, "", 0, 0, [2], [], 1⟩, ⟨2, "", 0, "", true, "", 0, 0, [1], [], 1⟩, ⟨1, "", 0, "", true, "", 0, 0, [], [], 0⟩]) 0 5
    = [hashBytes 1, hashBytes 2, hashBytes 3] := by decide +kernel
example : parseHashList (hashBytes 7 ++ [1, 2, 3]) = [hashBytes 7] ∧ parseHashListNonNil [1, 2, 3] = true ∧ parseHashList [1, 2, 3] = [] := by decide

end StoreBytes


/-! ### making a transaction (transaction.go `NewTransaction`, signing.go `Sign`, NutsModel/C06/Create.lean) -/

section Creation
open Nuts.C06.Create

/-- `NewTransaction`, `ValidatePayloadType` and `Sign` as `NutsModel/C06/Create.lean` mirrors them, statement by statement
    (exact source text): the two refusals, the de-duplication loop, `version: currentVersion` (= 2), the pre-checks of `Sign`, the
    header map (`cty`, `crit` = sigt, ver, prevs, lc; `sigt` = Unix seconds; `prevs` as hex; `pal` only when non-nil; `jwk` xor `kid`),
    the payload = hex of the payload hash, and the final `ParseTransaction` -/
theorem fact_create_bodies :
    Facts.C06.body_NewTransaction =
      ["if !ValidatePayloadType(payloadType)", "return nil, errInvalidPayloadType", "range prevs", "if prev.Empty()", "return nil, errInvalidPrevs", "deduplicated := make([]hash.SHA256Hash, 0)", "range prevs", "found := false", "range deduplicated", "if dd.Equals(prev)", "found = true", "break", "if !found", "deduplicated = append(deduplicated, prev)", "result := transaction{ payload: payload, payloadType: payloadType, version: currentVersion, pal: pal, lamportClock: lamportClock, }", "if len(deduplicated) > 0", "result.prevs = deduplicated", "return &result, nil"] ∧
    Facts.C06.body_ValidatePayloadType = ["return strings.Contains(payloadType, \"/\")"] ∧
    Facts.C06.body_Sign =
      ["if signingTime.IsZero()", "return nil, errors.New(\"signing time is zero\")", "tx, ok := input.(Transaction)", "if ok && !tx.SigningTime().IsZero()", "return nil, errors.New(\"transaction is already signed\")", "var key jwk.Key", "var err error", "if d.key != nil", "key, err = jwk.FromRaw(d.key)", "if err != nil", "return nil, fmt.Errorf(errSigningTransactionFmt, err)", "_ = key.Set(jwk.KeyIDKey, d.kid)", "prevsAsString := make([]string, len(input.Previous()))", "range input.Previous()", "prevsAsString[i] = prev.String()", "normalizedMoment := signingTime.UTC()", "headerMap := map[string]interface{}{ jws.ContentTypeKey: input.PayloadType(), jws.CriticalKey: []string{signingTimeHeader, versionHeader, previousHeader, lamportClockHeader}, signingTimeHeader: normalizedMoment.Unix(), previousHeader: prevsAsString, versionHeader: input.Version(), lamportClockHeader: input.Clock(), }", "if input.PAL() != nil", "headerMap[palHeader] = input.PAL()", "if d.key != nil", "headerMap[jws.JWKKey] = key", "else", "headerMap[jws.KeyIDKey] = d.kid", "data, err := d.signer.SignJWS(ctx, []byte(input.PayloadHash().String()), headerMap, d.kid, false)", "if err != nil", "return nil, fmt.Errorf(errSigningTransactionFmt, err)", "signedTransaction, err := ParseTransaction([]byte(data))", "if err != nil", "return nil, fmt.Errorf(errSigningTransactionFmt, err)", "return signedTransaction, nil"] ∧
    Facts.C06.currentVersion = currentVersion ∧
    [Facts.C06.sigtHeader, Facts.C06.verHeader, Facts.C06.prevsHeader, Facts.C06.lcHeader] = critHeaders :=
  ⟨rfl, rfl, rfl, rfl, rfl⟩

/-- `NewTransaction`: what it accepts has a MIME-like payload type and no empty prev; the prevs it keeps are the given ones without
    repetition (each once), and nothing else -/
theorem new_transaction_sound {p : Nat} {pt : String} {prevs : List Nat} {pal : Option (List String)} {lc : Nat} {u : Unsigned}
    (h : newTransaction p pt prevs pal lc = .ok u) :
    containsSlash pt = true ∧ (∀ x ∈ prevs, x ≠ 0) ∧ u.prevs.Nodup ∧ (∀ x, x ∈ u.prevs ↔ x ∈ prevs) ∧
    u.payload = p ∧ u.payloadType = pt ∧ u.clock = lc ∧ u.version = 2 ∧ u.pal = pal := by
  obtain ⟨hc, hz, rfl⟩ := newTransaction_ok h
  refine ⟨hc, hz, dedup_nodup (by simp), ?_, rfl, rfl, rfl, rfl, rfl⟩
  intro x
  simp [dedup_mem]

/-- SIGN THEN PARSE (the last step of `Sign` is `ParseTransaction` of what was signed): for every input `NewTransaction` accepts,
    the header `Sign` builds parses — under the source's own configuration — to a transaction with exactly the de-duplicated prevs,
    the clock, payload hash, payload type, version 2 and signing time that went in -/
theorem signed_transaction_parses_back (b64 : String → Bool) {p : Nat} {pt : String} {prevs : List Nat} {pal : Option (List String)}
    {lc : Nat} {u : Unsigned} (hu : newTransaction p pt prevs pal lc = .ok u)
    (sigt : Int) (hs0 : -(2 : Int) ^ 63 ≤ sigt) (hs1 : sigt < (2 : Int) ^ 63)
    (alg : String) (ha : alg ∈ srcCfg.allowedAlgos) (key : KeyRef) (hk : ∀ id, key = .kid id → id ≠ "")
    (ref : Nat) (hp : p < 16 ^ 64) (hpr : ∀ x ∈ prevs, x < 16 ^ 64) (hlc : lc < 2 ^ 32)
    (hpal : ∀ l, pal = some l → ∀ s ∈ l, b64 s = true) :
    parse srcCfg b64 (signHdr u sigt alg key ref true) =
      .ok { ref := ref, alg := alg, payloadHash := p, cty := pt,
            jwk := (match key with | .jwk => true | .kid _ => false),
            kid := (match key with | .jwk => "" | .kid id => id),
            sigt := sigt, ver := 2, prevs := dedup prevs [], pal := pal.getD [], clock := lc } := by
  obtain ⟨hcs, hnz, rfl⟩ := newTransaction_ok hu
  have hdd : ∀ x ∈ dedup prevs [], x < 16 ^ 64 := fun x hx => hpr x ((dedup_mem.mp hx).resolve_right (by simp))
  rw [srcCfg_eq] at ha ⊢
  obtain ⟨g1, g2, g3, g4, g5⟩ := mkH_get p pt (dedup prevs []) pal lc sigt alg key ref
  refine wellFormed_parse (h := mkH p pt (dedup prevs []) pal lc sigt alg key ref)
    { oneSig := rfl, alg := ⟨rfl, ha⟩, payload := parseHex_hex64 hp, cty := ⟨rfl, hcs⟩, keyRef := ?_,
      jwkPublic := fun _ _ => rfl, framing := fun _ => rfl,
      sigt := ⟨sigt, 0, g1, (toInt64_int hs0 hs1).symm⟩, ver := ⟨2, 0, g3, (by decide : (2 : Int) = toInt64 2 0), (by decide : (2 : Int) ∈ litCfg.allowedVersion)⟩,
      prevs := ⟨_, g2, parsePrevEls_hex _ _ hdd⟩, pal := ?_, lc := ⟨lc, 0, g4, parseLamportClock_nat rfl (g4) hlc⟩,
      ref := rfl }
  · cases key with
    | jwk => exact ⟨rfl, rfl, Or.inl ⟨rfl, rfl⟩⟩
    | kid id => exact ⟨rfl, rfl, Or.inr ⟨rfl, hk id rfl⟩⟩
  · cases pal with
    | none => exact Or.inl ⟨g5, rfl⟩
    | some l => exact Or.inr ⟨_, g5, parsePalEls_ok b64 _ l (hpal l rfl)⟩

/-- REQUEST → CREATED → SIGNED → PARSED → ADMITTED: on any reachable state (`Inv`), the transaction `CreateTransaction` makes —
    prevs = head + additional prevs and clock by `createPrevsClock`, built by `NewTransaction`, signed and re-parsed by `Sign` — is
    accepted by `Add` on that state and stored, provided its signature verifies and the payload hashes to the declared hash.
    (`created_tx_admissible` assumes the parsed prevs / clock; here they are derived from the header `Sign` builds.) -/
theorem created_signed_parsed_admitted (b64 : String → Bool) (env : Env) (subs : List Sub) (s : St) (additional prevs : List Nat)
    (clock p q : Nat) (pt : String) (pal : Option (List String)) (u : Unsigned)
    (hi : Inv env s) (hnz : ∀ t ∈ s.txs, t.ref ≠ 0)
    (hc : createPrevsClock s additional = .ok (prevs, clock))
    (hu : newTransaction p pt ((if s.head ≠ 0 then [s.head] else []) ++ additional) pal clock = .ok u)
    (sigt : Int) (hs0 : -(2 : Int) ^ 63 ≤ sigt) (hs1 : sigt < (2 : Int) ^ 63)
    (alg : String) (ha : alg ∈ srcCfg.allowedAlgos) (key : KeyRef) (hk : ∀ id, key = .kid id → id ≠ "")
    (ref : Nat) (hp : p < 16 ^ 64) (hpr : ∀ x ∈ (if s.head ≠ 0 then [s.head] else []) ++ additional, x < 16 ^ 64) (hlc : clock < 2 ^ 32)
    (hpal : ∀ l, pal = some l → ∀ x ∈ l, b64 x = true)
    (hfresh : ref ∉ refsOf s.txs) (hq : env.sha q = p) :
    ∃ tx, parse srcCfg b64 (signHdr u sigt alg key ref true) = .ok tx ∧ tx.prevs = prevs ∧ tx.clock = clock ∧
      (verifySig env tx = .ok () → (add env subs s tx (some q)).2 = .ok () ∧ (add env subs s tx (some q)).1.txs = tx :: s.txs) := by
  refine ⟨_, signed_transaction_parses_back b64 hu sigt hs0 hs1 alg ha key hk ref hp hpr hlc hpal, (create_prevs_eq hc).symm, rfl, ?_⟩
  intro hsig
  exact created_tx_admissible env subs s additional prevs clock _ q hi hnz hc (create_prevs_eq hc).symm rfl hfresh hsig hq

/-- `hash.ParseHex(h.String()) = h` for every 256-bit value (refs and payload hashes travel as hex in `prevs` and the JWS payload) -/
theorem hex_round_trip {n : Nat} (h : n < 16 ^ 64) : parseHex (hex64 n) = some n := parseHex_hex64 h

/-- non-vacuity: NewTransaction's three outcomes; Sign's pre-checks; a signed root and a signed child parse back -/
example : newTransaction 7 "application/did+json" [5, 9, 5] none 3 = .ok ⟨7, "application/did+json", [5, 9], none, 3, 2⟩ := by decide +kernel
example : newTransaction 7 "nomime" [5] none 3 = .err "invalid-payload-type" := by decide
example : newTransaction 7 "a/b" [5, 0] none 3 = .err "invalid-prevs" := by decide
example : signPrecheck true false = .err "signing-time-zero" ∧ signPrecheck false true = .err "already-signed" ∧ signPrecheck false false = .ok () := by decide
example : (parse srcCfg (fun _ => true) (signHdr ⟨7, "a/b", [5, 9], some ["QUJD"], 3, 2⟩ 1600000000 "ES256" (.kid "did:nuts:a#k1") 77 true)).isOk = true := by
  rw [signed_transaction_parses_back (fun _ => true) (p := 7) (pt := "a/b") (prevs := [5, 9]) (pal := some ["QUJD"]) (lc := 3) (by decide) 1600000000 (by decide) (by decide)
    "ES256" (by decide) (.kid "did:nuts:a#k1") (by intro id h; cases h; decide) 77 (by decide) (by decide) (by decide) (by intro l h s hs; rfl)]
  rfl

end Creation

section LatePayload
open Nuts.C06.Late Ex

/-! ### the `payloadEvents` shelf, `handleTransactionPayload` / `WritePayload`, `state.Verify` -/

/-- **The state with the marker shelf refines the state without it**: `Add` with the `payloadEvents` bookkeeping does to
    every other shelf, digest, job and notification exactly what `add` does, with the same result — every theorem above
    about `add` holds for the code with the marker. -/
theorem add_with_marker_refines_add (env : Env) (subs : List Sub) (sp : StP) (tx : Tx) (p : Option Nat) :
    (addP env subs sp tx p).1.st = (add env subs sp.st tx p).1 ∧ (addP env subs sp tx p).2 = (add env subs sp.st tx p).2 :=
  (addP_spec env subs sp tx p).1

/-- the marker moves only on admission, and then exactly when a payload came with the transaction -/
theorem marker_set_iff_admitted_with_payload (env : Env) (subs : List Sub) (sp : StP) (tx : Tx) (p : Option Nat) :
    (addP env subs sp tx p).1 = sp ∨
    ((addP env subs sp tx p).2 = .ok () ∧ Admitted env sp.st tx p (addP env subs sp tx p).1.st ∧
     (addP env subs sp tx p).1.pev = if p.isSome then markPayloadEventSaved sp.pev tx.ref else sp.pev) :=
  (addP_spec env subs sp tx p).2

/-- the first late payload of a transaction (marker not set, ref not empty) is `latePayload` of the abstract layer -/
theorem first_late_payload_refines (env : Env) (subs : List Sub) (sp : StP) (ref p : Nat) (hr : ref ≠ 0)
    (hm : isPayloadEventSaved sp.pev ref = false) :
    (handlePayload env subs sp ref (some p)).1.st = (latePayload env subs sp.st ref p).1 ∧
    (handlePayload env subs sp ref (some p)).2 = (latePayload env subs sp.st ref p).2 := by
  rw [handlePayload_some env subs sp hr, hm]
  rcases latePayload_cases env subs sp.st ref p with ⟨h1, h2⟩ | ⟨_, _, _, hok, _⟩
  · rw [if_neg fun h => h2 h.1]; exact ⟨h1.symm, rfl⟩
  · rw [if_pos ⟨hok, rfl⟩]; exact ⟨rfl, hok.symm⟩

/-- **Re-delivering a payload changes nothing and notifies no-one.** Once a payload message for `ref` was accepted,
    ANY further payload message for that ref — same bytes, other bytes, no bytes — leaves the whole state (payload store,
    job shelves, receiver ledger, marker shelf) identical. -/
theorem payload_redelivery_changes_nothing (env : Env) (subs : List Sub) (sp : StP) (ref : Nat) (d d' : Option Nat)
    (h : (handlePayload env subs sp ref d).2 = "ok") :
    (handlePayload env subs (handlePayload env subs sp ref d).1 ref d').1 = (handlePayload env subs sp ref d).1 :=
  handlePayload_marked (handlePayload_ok h) d'

/-- **A payload that came with its transaction blocks every late payload for it**: after an admission with payload no
    payload message for that transaction changes anything or notifies anyone. -/
theorem payload_with_transaction_blocks_late_payload (env : Env) (subs : List Sub) (sp : StP) (tx : Tx) (q : Nat)
    (d : Option Nat) (h : (addP env subs sp tx (some q)).1 ≠ sp) :
    (handlePayload env subs (addP env subs sp tx (some q)).1 tx.ref d).1 = (addP env subs sp tx (some q)).1 := by
  rcases (addP_spec env subs sp tx (some q)).2 with h0 | ⟨_, _, hp⟩
  · exact (h h0).elim
  · apply handlePayload_marked
    rw [hp]
    exact mark_contains _ _

/-- **A refused payload message leaves no trace.** -/
theorem refused_payload_no_trace (env : Env) (subs : List Sub) (sp : StP) (ref : Nat) (d : Option Nat)
    (h : (handlePayload env subs sp ref d).2 ≠ "ok") : (handlePayload env subs sp ref d).1 = sp := by
  rcases handlePayload_cases env subs sp ref d with h' | ⟨hr, p, rfl⟩
  · exact h'.1
  · rw [handlePayload_some env subs sp hr] at h ⊢
    split
    · rename_i hc; rw [if_pos hc] at h; exact absurd rfl h
    · rfl

/-- **Marker invariant over ALL histories** of offers (with or without payload) and payload messages, from the empty store:
    every marker belongs to a stored transaction, and a payload for the hash that transaction declares is in the payload store
    (so "nothing to do" in `WritePayload` never hides a payload the node does not have). -/
theorem payload_marker_inv (cfg : Cfg) (b64 : String → Bool) (env : Env) (subs : List Sub) (ops : List Op) :
    PevInv (runOps cfg b64 env subs {} ops) :=
  pevInv_run cfg b64 env subs ops {} (by intro r hr; cases hr)

/-- **`state.Verify` accepts every reachable store.** After ANY sequence of offers, the loop of `Verify` over any list of
    stored transactions (in particular the range scan `findBetweenLC(0, MaxLamportClock)`, which by
    `find_between_lc_reads_every_stored_tx` returns all of them) ends without error: every stored transaction passes the prevs
    verifier and the signature verifier against the WHOLE store. -/
theorem verify_accepts_every_reachable_state (cfg : Cfg) (b64 : String → Bool) (env : Env) (subs : List Sub) (os : List Offer) :
    let s := os.foldl (offerStep cfg b64 env subs) {}
    ∀ scan : List Tx, (∀ t ∈ scan, t ∈ s.txs) → verifyEach env s scan = .ok () := by
  intro s scan hs
  have hi : Inv env s := (offers_reached cfg b64 env subs os).1
  exact verifyEach_ok_iff.mpr (fun t ht => verify_stored hi.chain (hs t ht))

/-- … and it is sound: a nil result means every scanned transaction passes both verifiers (first error wins otherwise) -/
theorem verify_ok_means_every_scanned_tx_verifies (env : Env) (s : St) (scan : List Tx) :
    verifyEach env s scan = .ok () ↔ ∀ t ∈ scan, verify env s t = .ok () := verifyEach_ok_iff


/-! non-vacuity: the sibling is private-like here (offered WITHOUT payload), the payload arrives later, twice -/
def sp2 : StP := { st := s2, pev := [12, 11] }
def sp3 : StP := (addP env subs sp2 sibling none).1
example : sp3.st.txs = [sibling, child, root] ∧ sp3.pev = [12, 11] := by decide
example : (handlePayload env subs sp3 13 (some 3)).2 = "ok" ∧ (handlePayload env subs sp3 13 (some 3)).1.pev = [13, 12, 11] ∧
    (handlePayload env subs sp3 13 (some 3)).1.st.ledger = sp3.st.ledger ++ [⟨"nats", .payload, 13⟩] := by decide +kernel
example : handlePayload env subs (handlePayload env subs sp3 13 (some 3)).1 13 (some 3) = ((handlePayload env subs sp3 13 (some 3)).1, "ok") := by
  decide +kernel
example : (handlePayload env subs sp3 13 (some 9)).2 = "err:payload-mismatch" ∧ (handlePayload env subs sp3 13 none).2 = "err:no-data" ∧
    (handlePayload env subs sp3 0 (some 3)).2 = "err:no-ref" ∧ (handlePayload env subs sp3 77 (some 3)).2 = "err:unknown-tx" := by decide +kernel
/-- admitted WITH its payload: the marker is set by `Add`, a late payload is a no-op -/
example : (addP env subs sp2 sibling (some 3)).1.pev = [13, 12, 11] ∧ (addP env subs sp2 sibling (some 3)).1 ≠ sp2 ∧
    handlePayload env subs (addP env subs sp2 sibling (some 3)).1 13 (some 3) = ((addP env subs sp2 sibling (some 3)).1, "ok") := by decide +kernel
example : isPayloadEventSaved sp3.pev 13 = false ∧ (13 : Nat) ≠ 0 := by decide
/-- `Verify`: the reachable store passes; a transaction written past the verifiers (wrong clock) is reported -/
example : verifyEach env s2 s2.txs = .ok () := by decide
example : verifyEach env { s2 with txs := mk 15 3 [12] 105 true "" :: s2.txs } (mk 15 3 [12] 105 true "" :: s2.txs) = .err "clock" := by decide

/-! ### the transaction counter (last AfterCommit hook of `state.Add`) -/

/-- **the metric counts exactly the admissions**: one `Add` moves `nuts_dag_transactions_total` by exactly what it moves the
    stored `tx_num` by — +1 when the transaction got in, 0 for a present, refused, or rolled-back one. -/
theorem transaction_counter_counts_admissions (env : Env) (subs : List Sub) (s : St) (tx : Tx) (p : Option Nat) (n : Nat) :
    addCounter env subs s tx p n = n + ((add env subs s tx p).1.count - s.count) := by
  have h1 := @phase1_cases env subs s tx p
  unfold addCounter
  cases hph : phase1 env s tx <;> simp only [hph] at h1
  · rw [h1.2]; simp
  · rw [h1.2.2]; simp
  · rw [h1.2.2]; simp
  · have h2 := @phase2_cases env subs _ _ p h1.1
    rw [h1.2.2, h1.1, if_neg Bool.false_ne_true]
    cases hw : writeBody env subs s tx p <;> simp only [hw] at h2 <;> rw [h2]
    · have := writeBody_count hw
      simp only [afterCommit]
      omega
    · simp
    · simp

/-- a call that leaves the state as it was (re-add, rejection, rollback) does not count -/
theorem transaction_counter_unchanged_unless_admitted (env : Env) (subs : List Sub) (s : St) (tx : Tx) (p : Option Nat) (n : Nat)
    (h : (add env subs s tx p).1 = s) : addCounter env subs s tx p n = n := by
  rw [transaction_counter_counts_admissions, h]; simp

example : addCounter env subs sp2.st sibling (some 3) 2 = 3 ∧ addCounter env subs sp3.st sibling (some 3) 3 = 3 := by decide

end LatePayload

end Nuts.C06.Props
