/-
  Composition C11 → C01 → (C12) → C02 — the credential pipeline end to end.
  Maps: NutsModel/Compose/Cred.lean.

  What the single properties leave open and this file closes:
    * C01's verifier takes "the revocation store holds a revocation for this id" (`Env.revoked`) and "the status list has this
      bit" (`Env.statusList`) as free parameters; C11 proves permanence of revocations about ITS OWN verdict function.  Here
      C01's two inputs are READ from C11's world (`revEnv`), and C01's refusal is derived from what C11's
      `revocation_before_credential` (`run_register`: an accepted revocation stays stored) and `revoked_forever_local` /
      `revoked_forever_remote` (`RevokedAt.run`) rest on, for every later C11 history and every `validAt`.
    * C02's token endpoint takes "VerifyVP accepted" (`VP.verifies`), "the submission matches" (`S2SReq.pex`) and the claim
      values (`S2SReq.claims`) as free parameters.  Here they are COMPUTED by C01's `verifyVP` over a C11-reachable world and
      by C12's `validate` / `resolve` / `resolveFields` (`s2sOf`), and what C02's `s2s_token_only_if` /
      `introspect_active_only_if_issued` / `introspect_faithful` rest on (`issueS2S_ok`, `token_in_store_was_issued`,
      `introspect_issued`) is read back through the maps.
  What the downstream models need and no upstream model produces is data, the fields of `Glue` in the model file.  The hypotheses
  that remain are listed at each theorem: the components' own (C11 `EnvOK` / `WInv`, conditions on C02's and C12's configuration) and
  `hdid`, the seam on the signer reported before (3).
-/
import NutsModel.Compose.Cred
import NutsProofs.Lemmas.ComposeCred
import NutsProofs.Lemmas.Base
import NutsProofs.Props.C01
import NutsProofs.Props.C11
import NutsProofs.Props.C12
import NutsProofs.Props.C02

namespace Nuts.Compose.Cred.Props
open Nuts Nuts.Compose.Cred

/-! ## (1) the maps are exact where both models can be compared -/

/-- C01's revocation-store input read from C11's world IS C11's `credRevoked` of the same credential -/
theorem revocation_store_input_exact (g : Glue) (E : C11.Env) (i : Bool) (w : C11.World) (base : C01.Env) (c : C01.Cred) (id : String)
    (hid : c.id = some id) : (revEnv g E i w base).revoked id = (w.get i).credRevoked (cred11 g c) := by
  simp [revEnv, C11.Node.credRevoked, cred11, hid]

/-- the status-list input is EXACT on a credential with one (well-formed) status entry: C01's status verdict over `revEnv` says
    revoked iff C11's own `statusVerify` says revoked — for every world, entry type, purpose, index, list record or fetch failure.
    (More entries: C11 threads the world through the entries — a download changes the cache —, C01 reads one environment; the
    composition theorems below therefore speak, like C11's own, about the first relevant entry.) -/
theorem single_entry_verdicts_agree (g : Glue) (E : C11.Env) (i : Bool) (w : C11.World) (base : C01.Env) (c : C01.Cred)
    (s : C01.Status) (hc : c.statuses = some [s]) (hv : s.entryValid = true) :
    C01.statusVerdict (revEnv g E i w base) c = .revoked ↔ (C11.statusVerify E i w (cred11 g c)).1 = .revoked := by
  simp only [C01.statusVerdict_some hc, hc, C11.statusVerify, cred11, Option.map_some, List.map_cons, List.map_nil]
  by_cases hr : s.typ = C01.statusListEntryType ∧ s.purpose = "revocation"
  · -- both loops stop at the entry, and both read the record `statusRecord` yields for its list: same purpose test, same bit
    rw [verifyStatuses_single_revoked_iff E i w ((relevant_status11 g s).mpr hr)]
    constructor
    · intro h
      obtain ⟨sl, n, hsl, hp, hi, hb | ⟨_, h0⟩⟩ := C01.statusVerdictL_cons_revoked _ [] hr.1 hv hr.2 h
      · obtain ⟨rec, hrec, rfl⟩ := Option.map_eq_some_iff.mp hsl
        exact ⟨rec, n, hrec, hp, by simp [status11, hi], slOf_bit.mp hb⟩
      · cases h0
    · rintro ⟨rec, j, hrec, hp, hj, hb⟩
      obtain ⟨n, hn, rfl⟩ := Option.map_eq_some_iff.mp hj
      exact statusVerdictL_revoked _ [] [] s (slOf rec) n (fun _ h => nomatch h) hr.1 hv hr.2 hn
        (congrArg (Option.map slOf) hrec) hp (slOf_bit.mpr hb)
  · -- neither loop looks at the entry
    rw [C01.statusVerdictL_cons_skip _ [] ((Decidable.not_and_iff_not_or_not.mp hr).imp_right fun h => ⟨hv, h⟩),
      C11.verifyStatuses_irrel E i w (Bool.eq_false_iff.mpr (mt (relevant_status11 g s).mp hr)) []]
    exact ⟨nofun, nofun⟩

/-! ## (2) a revoked credential never verifies -/

/-- **revoked_credential_never_verifies.**  For every C11 history in which the credential was revoked (`RevokedIn`: a network
    revocation for its id was accepted, or the issuer's status-list `Revoke` of its entry succeeded on this node, or this node
    refreshed the other node's list after the bit was set — anything before, anything after), C01's verifier over the revocation inputs of the resulting world accepts neither the credential (any `validAt`,
    `allowUntrusted`, `checkSignature`) nor any presentation that contains it (`VerifyVP` with credential verification). -/
theorem revoked_credential_never_verifies (g : Glue) (E : C11.Env) (K : C11.KeyEnv) (hE : C11.EnvOK E) (w0 : C11.World)
    (h0 : C11.WInv E w0) (i : Bool) (c : C01.Cred) (acts : List C11.Act) (hrev : RevokedIn g E K w0 i c acts)
    (cfg : C01.Cfg) (P : C01.Crypto) (base : C01.Env) (au : Bool) (at_ : Option C01.Time) :
    (∀ cs, C01.verify cfg P (revEnv g E i (C11.run E K w0 acts) base) au cs at_ c ≠ .ok ()) ∧
    (∀ vp : C01.Pres, c ∈ vp.vcs → C01.verifyVP cfg P (revEnv g E i (C11.run E K w0 acts) base) true au at_ vp ≠ .ok ()) := by
  -- network: C11's `run_register` keeps the accepted revocation stored to the end, and the store is C01's input as it stands.
  -- The two status-list routes: C11's `RevokedAt` holds at the point of the history where the revocation took effect (for the
  -- credential that carries only the image of the entry) and C11 keeps it to the end; the bridge hands C11's verdict to C01
  have hv : ∀ cs, C01.verify cfg P (revEnv g E i (C11.run E K w0 acts) base) au cs at_ c ≠ .ok () := by
    intro cs
    cases hrev with
    | network before after r n' hacc hc =>
      exact C01.verify_ne_ok_of_revoked hc (.inr (C11.run_register hE h0 before after hacc
        (c := { id := some r.subject, issuer := "", statuses := none }) rfl).1)
    | status before after credId e n1 hrev pre post s hc hpre hty hv hpu hlist hidx =>
      obtain ⟨j, hj, hmem⟩ := C11.revoke_mem hrev
      have hR : C11.RevokedAt ((C11.run E K w0 before).set i n1) i { id := none, issuer := "", statuses := some [status11 g s] } :=
        .inr ⟨[], status11 g s, [], j, rfl, nofun, hty, hpu, hidx.trans hj,
          .inl (by rw [C11.get_set_same, show (status11 g s).list = e.list from hlist]; exact hmem)⟩
      have h11 := hR.run (K := K) hE
        ((C11.WPrim.revoke (K := K) _ i credId e n1 hrev).nodes (C11.run_nodes hE h0 before).1).1 after
      rw [show (C11.run E K w0 before).set i n1 = C11.step E K (C11.run E K w0 before) (.revoke i credId e) from by
        simp only [C11.step, hrev], ← C11.run_mid] at h11
      exact verify_not_ok_of_entry_revoked g E i _ hc hpre hty hv hpu h11 cfg P base au cs at_
    | refreshed before after hc0 ob iss p j hpin pre post s hc hpre hty hv hpu hlist hidx =>
      have hidx' : s.index.map Int.ofNat = some (j : Int) := by rw [hidx]; rfl
      have hR : C11.RevokedAt (C11.run E K w0 before) i { id := none, issuer := "", statuses := some [status11 g s] } :=
        .inr ⟨[], status11 g s, [], j, rfl, nofun, hty, hpu, hidx',
          .inr ⟨ob, iss, p, hlist, C11.cache_path (C11.run_path hE before h0) h0 hc0, hpin⟩⟩
      have h11 := hR.run (K := K) hE (C11.run_nodes (K := K) hE h0 before).1 after
      rw [show C11.run E K (C11.run E K w0 before) after = C11.run E K w0 (before ++ after) from by
        simp only [C11.run, List.foldl_append]] at h11
      exact verify_not_ok_of_entry_revoked g E i _ hc hpre hty hv hpu h11 cfg P base au cs at_
  exact ⟨hv, fun vp hc => C01.verifyVP_ne_ok_of_vc hc hv⟩

/-! non-vacuity: C11's own example world, keys and histories; a C01 credential for each route -/

def exGlue : Glue :=
  { urlOf := fun s => if s = "https://n0/statuslist/did:a/1" then C11.Props.exList else .raw s
    view := fun c => { raw := c.raw, key := c.raw }
    envJ := fun _ => .null
    pdOf := fun _ => default
    render := fun vals => vals.map (fun p => (p.1, ""))
    clock := fun t => 1900 + (t : Int) }

def exCredNet : C01.Cred := { id := some "did:nuts:B#1", issuer := "did:nuts:B" }
def exCredSL : C01.Cred :=
  { id := some "did:a#1", issuer := "did:a",
    statuses := some [{ id := "x", typ := "Other" },
                      { id := "s", typ := C01.statusListEntryType, purpose := "revocation", indexText := "0",
                        listCred := "https://n0/statuslist/did:a/1" }] }

example : RevokedIn exGlue C11.Props.exEnv C11.Props.exKeys C11.Props.exWorld false exCredNet
    ([] ++ [.register false C11.Props.exRevByB] ++ []) := by
  have ⟨n', h⟩ := Res.exists_ok_of_isOk (r := C11.registerRevocation C11.Props.exKeys
    ((C11.run C11.Props.exEnv C11.Props.exKeys C11.Props.exWorld []).get false) C11.Props.exRevByB) (by decide +kernel)
  exact .network [] [] _ n' h rfl

example : RevokedIn exGlue C11.Props.exEnv C11.Props.exK C11.Props.exWorld false exCredSL
    ([.entryTx false "did:a" none] ++ [.revoke false "did:a#1" C11.Props.exEntry] ++ [.verify true C11.Props.exCred]) := by
  have ⟨n1, h⟩ := Res.exists_ok_of_isOk (r := C11.revoke C11.Props.exEnv
    (C11.run C11.Props.exEnv C11.Props.exK C11.Props.exWorld [.entryTx false "did:a" none]).now
    ((C11.run C11.Props.exEnv C11.Props.exK C11.Props.exWorld [.entryTx false "did:a" none]).get false) "did:a#1" C11.Props.exEntry)
    (by decide +kernel)
  exact .status _ _ _ _ n1 h [{ id := "x", typ := "Other" }] [] _ rfl (by decide) rfl rfl rfl (by decide) (by decide)

/-- the verifying node is node 1: it downloaded node 0's list while verifying (C11's example history) -/
example : RevokedIn exGlue C11.Props.exEnv C11.Props.exK C11.Props.exWorld true exCredSL (C11.Props.exHistory ++ []) := by
  have hpin : C11.Pin (C11.run C11.Props.exEnv C11.Props.exK C11.Props.exWorld C11.Props.exHistory) true "https://n0" "did:a" 1 0 := by
    have h : (match ((C11.run C11.Props.exEnv C11.Props.exK C11.Props.exWorld C11.Props.exHistory).get true).cred? C11.Props.exList with
        | some rec => rec.purpose == "revocation" && C11.getB rec.bits 0
        | none => false) = true := by decide
    refine ⟨by decide, ?_⟩
    split at h
    · rename_i rec hrec
      simp only [Bool.and_eq_true, beq_iff_eq] at h
      exact ⟨rec, hrec, h.1, h.2⟩
    · cases h
  exact .refreshed _ [] C11.Props.exWorld_cache "https://n0" "did:a" 1 0 hpin [{ id := "x", typ := "Other" }] [] _ rfl (by decide) rfl rfl rfl
    (by decide) rfl

/-- both verdicts on C11's example: revoked on node 0 after its history, not revoked in the initial world (list not fetchable) -/
example : C01.statusVerdict (revEnv exGlue C11.Props.exEnv false (C11.run C11.Props.exEnv C11.Props.exK C11.Props.exWorld C11.Props.exHistory) C01.Props.exE)
    { exCredSL with statuses := some [{ id := "s", typ := C01.statusListEntryType, purpose := "revocation", indexText := "0",
                                         listCred := "https://n0/statuslist/did:a/1" }] } = .revoked := by decide +kernel
example : C01.statusVerdict (revEnv exGlue C11.Props.exEnv false C11.Props.exWorld C01.Props.exE)
    { exCredSL with statuses := some [{ id := "s", typ := C01.statusListEntryType, purpose := "revocation", indexText := "0",
                                         listCred := "https://n0/statuslist/did:a/1" }] } = .softErr := by decide +kernel

/-! ### the seam C01 → C02 on the signer (a FINDING about the models)

    C02's theorems (`s2s_token_only_if`, `introspect_active_only_if_issued`, `introspect_faithful`) assume `vp.signer ≠ some ""`
    ("DIDs that parse are non-empty", `HistWF`).  C01's `presentationSigner` guarantees that in its JSON-LD branch (it tests
    `d == ""`), but its JWT branch returns `Env.didOfURL kid` unfiltered: with a DID-URL parser that can yield the empty DID the
    upstream model outputs exactly what the downstream hypothesis excludes.  The theorems of (3) and (4) are therefore stated
    under the exact extra hypothesis `hdid : ∀ u, base.didOfURL u ≠ some ""` (go-did's `ParseDIDURL` contract) and named `_partial`. -/

theorem signer_seam_witness :
    (∃ (E : C01.Env) (vp : C01.Pres), C01.presentationSigner E vp = some "") ∧
    (∀ (E : C01.Env) (vp : C01.Pres), vp.format = .ld → C01.presentationSigner E vp ≠ some "") := by
  refine ⟨⟨{ C01.Props.exE with didOfURL := fun _ => some "" }, { format := .jwt, jwt := some { kid := "x" } }, by decide⟩, ?_⟩
  exact fun E vp hf h => nomatch hf.symm.trans (C01.presentationSigner_eq_empty h).1

/-! ## (3) a token is issued only for verified, matching, unrevoked presentations -/

/-- one request: if C02's token endpoint answers 200 to the composed request, then C01's `VerifyVP(vp, true, true, nil)` over
    the revocation world accepted EVERY presentation, C12's `Validate` accepted the submission for the definition the policy
    names for the requested scope, and what introspection later reports as additional claims is exactly the rendering of
    the values C12's `resolveFields` resolved from the credentials C12's `resolve` found in the envelope. -/
theorem token_step_only_for_verified_matching_partial (x : Ctx) (cfg2 : C02.Cfg)
    (hchk : cfg2.emptyVpChecked = true) (httl : cfg2.nonceTtl ≠ 0) (httl' : cfg2.tokenTtl ≠ 0)
    (hdid : ∀ u, x.base.didOfURL u ≠ some "")
    (rw : C11.World) (w w' : C02.World) (now : Nat) (r : Req) (resp : C02.TokenResponse)
    (h : C02.issueS2S cfg2 w now (s2sOf x rw now r) = (w', .ok resp)) :
    ∃ claims, Established x cfg2 rw now r claims ∧
      ∀ now' ri, C02.introspect cfg2 w' now' resp.token = .ok (some ri) → ri.additional = claims := by
  obtain ⟨rec, hiss, hrec⟩ := C02.issueS2S_issued cfg2 id w w' now _ resp h
  refine ⟨rec.claims, established_of_issued x cfg2 id rw w now r _ rec hchk httl httl' hdid hiss, ?_⟩
  intro now' ri hi
  obtain ⟨t, _, hget, _, _, hri⟩ := C02.introspect_some cfg2 w' now' resp.token ri hi
  rw [hrec, C02.Store.get_put_same _ _ _ _ _ _ httl'] at hget
  split at hget
  · cases hget; rw [hri]
  · cases hget

/-- **token_issued_only_for_verified_matching_unrevoked** (`_partial`: under `hdid`, see `signer_seam_witness`).  For every composed history (revocation-layer events and token
    requests in any order) from the empty authorization server: a token that introspection reports active stems from a request
    event of the history such that, in the C11-REACHABLE revocation world of that moment, C01 accepted every presentation of
    the request; no credential of any presentation was revoked in the C11 history so far (`RevokedIn`); C12's `Validate`
    accepted the submission for the scope's definition; and the introspected claims are exactly the rendering of what C12
    resolved (`claims_cannot_override` then keeps them from shadowing a standard member). -/
theorem token_issued_only_for_verified_matching_unrevoked_partial (x : Ctx) (cfg2 : C02.Cfg) (sha : String → String)
    (hchk : cfg2.emptyVpChecked = true) (httl : cfg2.nonceTtl ≠ 0) (httl' : cfg2.tokenTtl ≠ 0)
    (hdid : ∀ u, x.base.didOfURL u ≠ some "")
    (hE : C11.EnvOK x.E11) (rw0 : C11.World) (h0 : C11.WInv x.E11 rw0)
    (evs : List Ev) (now : Nat) (tok : String) (ri : C02.Introspection)
    (h : C02.introspect cfg2 (runEv x cfg2 ⟨rw0, {}⟩ evs).as now tok = .ok (some ri)) :
    ∃ pre t r post, evs = pre ++ Ev.req t r :: post ∧
      Established x cfg2 (C11.run x.E11 x.K rw0 (revActs pre)) t r ri.additional ∧
      (∀ p ∈ r.vps, ∀ c ∈ p.1.vcs, ¬ RevokedIn x.g x.E11 x.K rw0 x.node c (revActs pre)) := by
  rw [runEv_as x cfg2 sha evs ⟨rw0, {}⟩] at h
  obtain ⟨rec, _, hget, _, _, hadd⟩ := C02.introspect_some cfg2 _ now tok ri h
  obtain h0 | ⟨pre', t, op, post', heq, hiss, _⟩ := C02.token_in_store_was_issued cfg2 sha httl' _ {} now tok rec hget
  · cases h0
  obtain ⟨pre, r, post, hevs, htr, hop⟩ := trace_split x cfg2 evs _ pre' post' t op heq
  subst hop
  have hest := established_of_issued x cfg2 sha _ _ t r tok rec hchk httl httl' hdid hiss
  rw [runEv_rw] at hest
  rw [hadd]
  refine ⟨pre, t, r, post, hevs, hest, ?_⟩
  intro p hp c hc hrev
  exact (revoked_credential_never_verifies x.g x.E11 x.K hE rw0 h0 x.node c _ hrev x.cfg1 x.P _ true none).2 p.1 hc (hest.1 p hp)

/-- **introspected_claims_are_resolved_fields** (C02 `claims_cannot_override` ∘ C12 `field_values_faithful`).  For the token of
    an established request (`Established`, as delivered by (3)): every additional claim reported by introspection is the
    rendering of a value C12 resolved, each such value comes — through a constraint field with that id of the input descriptor
    the credential is mapped to — from a credential of the map C12's `resolve` read out of the envelope; and in the marshalled
    RFC 7662 answer no such claim shadows a standard member. -/
theorem introspected_claims_are_resolved_fields (x : Ctx) (cfg2 : C02.Cfg) (rw : C11.World) (t : Nat) (r : Req)
    (h12 : x.cfg12 = Facts.C12.cfg) (hres : cfg2.reserved = Facts.C02.reservedClaims)
    (w : C02.World) (now : Nat) (tok : String) (ri : C02.Introspection)
    (hi : C02.introspect cfg2 w now tok = .ok (some ri)) (hest : Established x cfg2 rw t r ri.additional) :
    (∃ (d : C02.Def) (cm : List (String × C12.Cred)) (vals : C12.Values), C12.resolve x.cfg12 x.decode (x.g.envJ r.pres) [] r.sub = .ok cm ∧ ri.additional = x.g.render vals ∧
        ∀ e ∈ vals, C12.FieldSource x.re (x.g.pdOf d.key) cm e) ∧
    (∀ k ∈ Facts.C02.introspectionFields, C02.objGet (C02.marshal Facts.C02.marshalAssignOrder ri) k = ri.std k) := by
  obtain ⟨_, defs, d, m, cm, vals, _, _, _, hcm, hv, hcl⟩ := hest
  refine ⟨⟨d, cm, vals, hcm, hcl, ?_⟩, ?_⟩
  · rw [h12] at hv
    exact C12.Props.field_values_faithful x.re _ cm vals hv
  · intro k hk
    exact C02.Props.claims_cannot_override_today cfg2 hres w now tok ri hi k hk

/-! ## (4) revocation after issue -/

/-- **revocation_after_issue_does_not_resurrect** (`_partial`: under `hdid`, see `signer_seam_witness`).  A token was issued for request `r` (event `req t r` after `pre`).  Later
    (`mid`) a credential `c` is revoked in the C11 layer.  Then, after any further history `post`:
      (a) EVERY later token request that presents `c` in any of its presentations is refused — never a 200;
      (b) what the models say about the ALREADY ISSUED token: nothing in C02 connects the token store to the revocation
          layer — its introspection is, at every moment, the same as if nothing had happened after the issue, and until its own
          expiry (`t + tokenValidity`) it is NOT reported inactive.  (The composition states this; it does not invent a
          token-revocation behaviour the Go code does not have.) -/
theorem revocation_after_issue_does_not_resurrect_partial (x : Ctx) (cfg2 : C02.Cfg) (sha : String → String)
    (hchk : cfg2.emptyVpChecked = true) (httl : cfg2.nonceTtl ≠ 0) (httl' : cfg2.tokenTtl ≠ 0)
    (hsame : cfg2.tokenTtl = cfg2.tokenValidity) (hdid : ∀ u, x.base.didOfURL u ≠ some "")
    (hE : C11.EnvOK x.E11) (rw0 : C11.World) (h0 : C11.WInv x.E11 rw0)
    (pre mid post : List Ev) (t : Nat) (r : Req) (resp : C02.TokenResponse)
    (hiss : (stepEv x cfg2 (runEv x cfg2 ⟨rw0, {}⟩ pre) (.req t r)).2 = some (.ok resp))
    (c : C01.Cred) (hrev : RevokedIn x.g x.E11 x.K rw0 x.node c (revActs (pre ++ Ev.req t r :: mid))) :
    (∀ t' r' resp', (∃ p ∈ r'.vps, c ∈ p.1.vcs) →
        (stepEv x cfg2 (runEv x cfg2 ⟨rw0, {}⟩ ((pre ++ Ev.req t r :: mid) ++ post)) (.req t' r')).2 ≠ some (.ok resp')) ∧
    (∀ now, C02.introspect cfg2 (runEv x cfg2 ⟨rw0, {}⟩ ((pre ++ Ev.req t r :: mid) ++ post)).as now resp.token =
            C02.introspect cfg2 (runEv x cfg2 ⟨rw0, {}⟩ (pre ++ [Ev.req t r])).as now resp.token) ∧
    (∀ now, now ≤ t + cfg2.tokenValidity →
        C02.introspect cfg2 (runEv x cfg2 ⟨rw0, {}⟩ ((pre ++ Ev.req t r :: mid) ++ post)).as now resp.token ≠ .ok none) := by
  refine ⟨?_, ?_⟩
  · intro t' r' resp' ⟨p, hp, hc⟩ hok
    obtain ⟨rec, hiss', _⟩ := C02.issueS2S_issued cfg2 sha _ _ t' _ resp' (issueS2S_of_stepEv hok)
    have hest := established_of_issued x cfg2 sha _ _ t' r' _ rec hchk httl httl' hdid hiss'
    rw [runEv_rw, revActs_append] at hest
    exact (revoked_credential_never_verifies x.g x.E11 x.K hE rw0 h0 x.node c _ (hrev.extend _) x.cfg1 x.P _ true none).2
      p.1 hc (hest.1 p hp)
  · -- the issued token: an `Issued` step of C02 at this point of the trace; C02 says what introspection answers for it after
    -- ANY continuation of the history, and the answer does not mention the continuation
    obtain ⟨rec, hIssued, _⟩ := C02.issueS2S_issued cfg2 sha _ _ t _ resp (issueS2S_of_stepEv hiss)
    rw [runEv_as x cfg2 sha pre] at hIssued
    have hAs : ∀ rest, (runEv x cfg2 ⟨rw0, {}⟩ (pre ++ Ev.req t r :: rest)).as =
        C02.after cfg2 sha (trace x cfg2 ⟨rw0, {}⟩ pre ++ (t, .s2s (s2sOf x (runEv x cfg2 ⟨rw0, {}⟩ pre).rw t r)) ::
          trace x cfg2 (stepEv x cfg2 (runEv x cfg2 ⟨rw0, {}⟩ pre) (.req t r)).1 rest) {} := fun rest => by
      rw [runEv_as x cfg2 sha, trace_append]; simp [trace, opOf]
    have key := fun rest => C02.introspect_issued cfg2 sha httl' _
      (trace x cfg2 (stepEv x cfg2 (runEv x cfg2 ⟨rw0, {}⟩ pre) (.req t r)).1 rest) {} t _ resp.token rec hIssued
    have e1 : (pre ++ Ev.req t r :: mid) ++ post = pre ++ Ev.req t r :: (mid ++ post) := by simp
    refine ⟨fun now => ?_, fun now hle => ?_⟩
    · rw [e1, hAs, key, hAs [], key]
    · rw [e1, hAs, key, if_pos ⟨hsame ▸ hle, hle⟩]
      cases C02.firstReserved cfg2.reserved rec.claims <;> simp


/-! non-vacuity of (3) and (4): C01's accepted example presentation at the token endpoint, then the issuer's revocation -/

/-- the revocation layer's key resolver knows the example issuer's key; toy signature check -/
def exK1 : C11.KeyEnv := ⟨fun vm _ => if vm == "did:x:i#k" then some "K1" else none, fun _ _ _ => true⟩
/-- the issuer `did:x:i` revokes its credential `did:x:i#1` (C11 `buildRevocation`) -/
def exRev1 : C11.Revocation := C11.buildRevocation "did:x:i#1" "did:x:i#k" "sig" 150

/-- C01's example verifier (toy crypto, one trusted issuer; its clock shows 1900 + t at C02-time t), C11's example world and keys, C12 as the source
    has it today -/
def exCtx : Ctx :=
  { g := exGlue, cfg1 := C01.Props.exCfg, P := C01.Props.exP, base := C01.Props.exE,
    E11 := C11.Props.exEnv, K := exK1, node := false,
    cfg12 := Facts.C12.cfg, re := C12.Props.reNone, decode := fun _ _ => none }

def exCfg2 : C02.Cfg :=
  { maxValidity := 5, nonceTtl := 15, tokenValidity := 900, tokenTtl := 900, codeTtl := 60, oauthNonceTtl := 60,
    stateTtl := 60, verifierSkew := 5, second := 1, emptyVpChecked := true, reserved := Facts.C02.reservedClaims,
    marshalOrder := Facts.C02.marshalAssignOrder, publicURL := "https://as", subjects := ["alpha"],
    policy := [("care", [("organization", ⟨"pd_org", 0⟩)])] }

def exWire : C02.S2SReq :=
  { subject := "alpha", paramsPresent := true, clientId := "client", scope := "care", envelopeOK := true,
    submissionOK := true, vps := [], subDefId := "pd_org", pex := fun _ => false, claims := fun _ => [], dpop := .absent }

def exVPWire (nonce : String) : C02.VP :=
  { created := some 100, expires := some 105, signer := none, subjects := [], aud := ["https://as/oauth2/alpha"],
    nonce := nonce, challenge := "", verifies := false }

/-- C01's accepted example presentation (one credential, `did:x:i#1`) -/
def exReq (nonce : String) : Req := { wire := exWire, vps := [(C01.Props.exVP, exVPWire nonce)], sub := [] }

def exS0 : St := ⟨C11.Props.exWorld, {}⟩

example : accepts exCtx C11.Props.exWorld 102 C01.Props.exVP = true := by decide +kernel
example : (fieldsOf exCtx C11.Props.exWorld 102 [C01.Props.exVP] [] 0).isOk = true := by decide
example : ((stepEv exCtx exCfg2 exS0 (.req 102 (exReq "n1"))).2.map (·.isOk)) = some true := by decide +kernel

/-- (3) non-vacuity: the token of the request is reported active -/
example : (match C02.introspect exCfg2 (runEv exCtx exCfg2 exS0 [.req 102 (exReq "n1")]).as 200 "tok#0" with
    | .ok (some ri) => ri.active | _ => false) = true := by decide +kernel

/-- (4) non-vacuity: token issued, THEN the issuer's revocation arrives and is accepted (`RevokedIn` through `mid`) … -/
example : (stepEv exCtx exCfg2 (runEv exCtx exCfg2 exS0 []) (.req 102 (exReq "n1"))).2 =
    some (.ok { token := "tok#0", tokenType := "Bearer", dpopKid := none, scope := "care", expiresIn := 900 }) := by decide +kernel
example : RevokedIn exGlue C11.Props.exEnv exK1 C11.Props.exWorld false C01.Props.exC
    (revActs ([] ++ Ev.req 102 (exReq "n1") :: [.rev (.register false exRev1)])) := by
  show RevokedIn exGlue C11.Props.exEnv exK1 C11.Props.exWorld false C01.Props.exC ([] ++ [.register false exRev1] ++ [])
  have ⟨n', h⟩ := Res.exists_ok_of_isOk (r := C11.registerRevocation exK1
    ((C11.run C11.Props.exEnv exK1 C11.Props.exWorld []).get false) exRev1) (by decide +kernel)
  exact .network [] [] _ n' h rfl
/-- … the same presentation with a fresh nonce is now refused, while the old token is still reported active -/
example : (stepEv exCtx exCfg2 (runEv exCtx exCfg2 exS0 [.req 102 (exReq "n1"), .rev (.register false exRev1)]) (.req 103 (exReq "n2"))).2 =
    some (.err "invalid_request/vp-invalid") := by decide +kernel
example : (stepEv exCtx exCfg2 (runEv exCtx exCfg2 exS0 [.req 102 (exReq "n1")]) (.req 103 (exReq "n2"))).2.map (·.isOk) = some true := by decide +kernel
example : (match C02.introspect exCfg2 (runEv exCtx exCfg2 exS0 [.req 102 (exReq "n1"), .rev (.register false exRev1)]).as 200 "tok#0" with
    | .ok (some ri) => ri.active | _ => false) = true := by decide +kernel
example : C11.EnvOK C11.Props.exEnv ∧ C11.WInv C11.Props.exEnv C11.Props.exWorld ∧ (∀ u, exCtx.base.didOfURL u ≠ some "") :=
  ⟨C11.Props.exEnv_ok, C11.Props.exWorld_inv, by intro u; show (if _ then _ else _) ≠ _; split <;> simp⟩


/-- a second instance with a NON-trivial Presentation Exchange leg: one input descriptor with a constraint field `issuer_did`
    at `$.issuer`; the envelope carries the presented credential; the descriptor map points at it -/
def exCredJ (c : C01.Cred) : C12.J := .obj [("issuer", .str c.issuer), ("id", .str (c.id.getD ""))]
def exGlue2 : Glue :=
  { exGlue with
    view := fun c => { fmt := "ldp_vc", key := c.id.getD "", raw := c.id.getD "", tree := exCredJ c }
    envJ := fun vps => .obj [("verifiableCredential",
      match vps.flatMap (·.vcs) with
      | [c] => exCredJ c
      | l => .arr (l.map exCredJ))]
    pdOf := fun _ => { id := "pd_org", descs := [{ id := "d1", constraints := some [{ id := some "issuer_did", paths := [some { steps := [.key "issuer"] }] }] }] }
    render := fun vals => vals.map (fun p => (p.1, match p.2 with | some (.str s) => s | _ => "")) }
def exDecode : C12.Decoder := fun j _ =>
  match j with
  | .obj [("issuer", .str iss), ("id", .str id)] =>
    some { cred := some { fmt := "ldp_vc", key := id, raw := id, tree := .obj [("issuer", .str iss), ("id", .str id)] }, asMap := some j }
  | _ => none
def exCtx2 : Ctx := { exCtx with g := exGlue2, decode := exDecode }
def exReq2 (nonce : String) : Req :=
  { exReq nonce with sub := [{ top := { id := "d1", fmt := "ldp_vc", path := some C12.vcPathSingle } }] }

/-- the token's introspected claims are what C12 resolved from the presented (and C01-verified) credential -/
example : (match C02.introspect exCfg2 (runEv exCtx2 exCfg2 exS0 [.req 102 (exReq2 "n1")]).as 200 "tok#0" with
    | .ok (some ri) => ri.additional | _ => []) = [("issuer_did", "did:x:i")] := by decide +kernel
/-- a descriptor map that points nowhere is refused by C12's `Validate`, hence no token -/
example : (stepEv exCtx2 exCfg2 exS0 (.req 102 (exReq "n1"))).2 = some (.err "invalid_request/pd-not-conform") := by decide +kernel

end Nuts.Compose.Cred.Props
