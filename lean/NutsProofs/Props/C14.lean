/-
  C14 — admitted transactions/payloads reach every persistent subscriber at least once; completion is final;
  nothing that was not admitted is delivered.  Property theorems over NutsModel.C14.Notifier.
  All statements quantify over every configuration `c` (subscriber behaviour `c.beh` is an arbitrary function),
  every op sequence `ops` (stops — `Op.crash`, a `crash` outcome inside a receiver, failed commits, failed
  `Finished` writes — at every position) unless a hypothesis says otherwise.
-/
import NutsProofs.Lemmas.C14Inv
import NutsProofs.Lemmas.C14Cov
import NutsProofs.Lemmas.C14Deliver
import NutsModel.Facts.C14

namespace Nuts.C14.Props
open Nuts.C14

/-! ### the regenerated facts the model relies on -/

theorem fact_retry_constants :
    Facts.C14.maxRetries = 20 ∧ Facts.C14.retriesFailedThreshold = 10 ∧
    Facts.C14.retriesFailedThreshold ≤ Facts.C14.maxRetries ∧ 0 < Facts.C14.defaultRetryDelayNs := by decide

/-- `retryAttempts` is the arithmetic of notifier.retry as written -/
theorem fact_retry_arithmetic :
    Facts.C14.retryInitialCount = "event.Retries + 1" ∧
    Facts.C14.retryAttemptsExpr = "maxRetries - uint(initialCount)" ∧
    Facts.C14.retryGuard = "attempts <= 0 || attempts >= maxRetries" := ⟨rfl, rfl, rfl⟩

/-- back-off: `delay *= 2` per initial count, retry-go BackOffDelay (+ jitter below retryDelay), capped at 24 h,
    `retry.Attempts(attempts)` -/
theorem fact_retry_backoff :
    Facts.C14.retryDelayDoublings = 1 ∧
    Facts.C14.retryDelayInit = "p.retryDelay" ∧
    Facts.C14.retryDoublingLoop = "for i := 0; i < initialCount; i++ { delay *= 2; }" ∧
    "retry.Attempts(attempts)" ∈ Facts.C14.retryOptions ∧
    "retry.Delay(delay)" ∈ Facts.C14.retryOptions ∧
    "retry.MaxJitter(p.retryDelay)" ∈ Facts.C14.retryOptions ∧
    "retry.DelayType(retry.CombineDelay(retry.BackOffDelay, retry.RandomDelay))" ∈ Facts.C14.retryOptions ∧
    Facts.C14.retryMaxDelayNs = 86400000000000 := by
  refine ⟨rfl, rfl, rfl, ?_, ?_, ?_, ?_, rfl⟩ <;>
    simp only [Facts.C14.retryOptions, List.mem_cons, true_or, or_true]

/-- Notify reschedules the failed first notification unless the error is an EventFatal (errors.As), i.e. also when
    notifyNow hands back a storage error of its own. Since the repair only the EventFatal is wrapped in
    retry.Unrecoverable (one site): a storage error of the notifier itself no longer ends a running retry loop. -/
theorem fact_notify_drops_only_event_fatal :
    Facts.C14.notifyRetryCondition = ["err != nil", "!errors.As(err, new(EventFatal))"] ∧
    Facts.C14.notifyNowUnrecoverable = ["retry.Unrecoverable(err)"] ∧ Facts.C14.storageFaultEndsLoop = false :=
  ⟨rfl, rfl, rfl⟩

theorem fact_notifyNow_retries :
    Facts.C14.notifyNowRetriesWrites = ["dbEvent.Retries = maxRetries", "dbEvent.Retries++"] := rfl

/-- Save: "only schedule new events" - the job is written only when the key is absent -/
theorem fact_save_only_new_events : Facts.C14.saveWritesWhenKeyAbsent = 1 ∧ Facts.C14.saveWritesOtherwise = 0 := by decide

theorem fact_run_replays_every_job :
    Facts.C14.runNotifyNowPerJob = 1 ∧
    Facts.C14.runConditions = ["strings.HasSuffix(event.Error, jsonld.ContextURLNotAllowedErr.Error())", "event.Retries < maxRetries"] := ⟨rfl, rfl⟩

/-- the model's `restart` = Run for every notifier: Network.Start ranges over state.Notifiers() (which returns every
    registered notifier) and calls Run() exactly once per notifier, under no condition, with no continue/break/early
    return and without consulting any other notifier method first -/
theorem fact_start_runs_every_notifier :
    Facts.C14.startResumeLoopRanges = ["n.state.Notifiers()"] ∧ Facts.C14.startRunCalls = 1 ∧
    Facts.C14.startRunGuards = [] ∧ Facts.C14.startLoopSkips = 0 ∧ Facts.C14.startLoopOtherNotifierCalls = [] ∧
    Facts.C14.stateNotifiersConditions = 0 ∧ Facts.C14.stateNotifiersRangeReturns = ["true"] :=
  ⟨rfl, rfl, rfl, rfl, rfl, rfl, rfl⟩

/-- how each registered receiver maps what happened to (done, error), as written: which errors are handed back as they
    are (retried), which are wrapped in dag.EventFatal (not retried, marked failed), what counts as done. `Notifier.lean`
    treats the receiver as an arbitrary function (`Cfg.beh`); `Receivers.lean` models these returns (Props/C14Recv), and the
    vcr / v2 harness legs run the real functions. -/
theorem fact_receiver_error_classification :
    Facts.C14.natsReceiverReturns =
      ["err != nil => return false, fmt.Errorf(errEventFailedMsg, err)",
      "err != nil => return false, fmt.Errorf(errEventFailedMsg, err)",
      "js.PublishAsync(events.TransactionsSubject, twpData); err != nil => return false, fmt.Errorf(errEventFailedMsg, err)",
      "return true, nil"] ∧
    Facts.C14.vdrReceiverReturns =
      ["n.callback(event.Transaction, event.Payload); err != nil && !errors.As(err, new(stoabs.ErrDatabase)) => return false, dag.EventFatal{Err: err}",
      "n.callback(event.Transaction, event.Payload); err != nil => return false, err",
      "return true, nil"] ∧
    Facts.C14.vcrVcsReceiverReturns =
      ["n.vcCallback(event.Transaction, event.Payload); err != nil => return n.handleError(err)",
      "return true, nil"] ∧
    Facts.C14.vcrRevocationsReceiverReturns =
      ["n.jsonLDRevocationCallback(event.Transaction, event.Payload); err != nil => return n.handleError(err)",
      "return true, nil"] ∧
    Facts.C14.vcrHandleErrorReturns =
      ["errors.Is(err, context.Canceled) || errors.Is(err, context.DeadlineExceeded) => return false, err",
      "errors.Is(err, jsonld.ContextURLNotAllowedErr) => return true, nil",
      "errors.As(err, &jsonLDError) && jsonLDError.Code == ld.LoadingRemoteContextFailed && !errors.Is(err, jsonld.ContextURLNotAllowedErr) => return false, err",
      "return false, dag.EventFatal{Err: err}"] ∧
    Facts.C14.privateReceiverReturns =
      ["err != nil && !errors.As(err, new(stoabs.ErrDatabase)) => err = dag.EventFatal{Err: err}",
      "err != nil => return false, fmt.Errorf(\"unable to read payload (tx=%s): %w\", event.Hash, err)",
      "isPresent => return true, nil",
      "err != nil && !errors.As(err, new(stoabs.ErrDatabase)) => err = dag.EventFatal{Err: err}",
      "err != nil => return false, fmt.Errorf(\"failed to decrypt PAL header (tx=%s): %w\", event.Hash, err)",
      "pal == nil => return true, nil",
      "!sent => return false, fmt.Errorf(\"no authenticated connection to any of the participants (tx=%s, PAL=%v)\", event.Hash.String(), pal)",
      "return false, nil"] := ⟨rfl, rfl, rfl, rfl, rfl, rfl⟩

/-- which function each registration hands to Subscribe / Notifier -/
theorem fact_registration_receivers :
    Facts.C14.registrationReceivers =
      ["gossip <- p.gossipTransaction",
      "nats <- n.emitEvents",
      "private <- func => p.handlePrivateTxRetry(p.ctx, event)",
      "vcr_revocations <- n.handleNetworkRevocations",
      "vcr_vcs <- n.handleNetworkVCs",
      "vdr <- n.handleNetworkEvent"] := rfl

/-- CleanupSubscriberEvents (operator action) only finishes failed events of the NAMED subscriber whose error starts with the prefix -/
theorem fact_cleanup_only_named_subscriber_and_prefix :
    Facts.C14.cleanupSubscriberEventsReturns =
      ["range n.Subscribers() && subscriber.Name() == subscriberName && err != nil => return err",
      "range n.Subscribers() && subscriber.Name() == subscriberName && range events && strings.HasPrefix(event.Error, errorPrefix) && subscriber.Finished(event.Hash); err != nil => return err",
      "return nil"] ∧
    Facts.C14.cleanupSubscriberEventsCalls =
      ["n.Subscribers()",
      "subscriber.Name()",
      "subscriber.GetFailedEvents()",
      "strings.HasPrefix(event.Error, errorPrefix)",
      "subscriber.Finished(event.Hash)"] := ⟨rfl, rfl⟩

/-- the store handed to persistent subscribers of other engines (subscriber.go) is looked up exactly like the store the
    DAG state is opened on (Network.Configure): Save refuses a different store -/
theorem fact_subscribers_persist_on_the_dag_store :
    Facts.C14.dagStoreLookups =
      ["n.storeProvider.GetKVStore(\"data\", storage.PersistentStorageClass)",
      "n.storeProvider.GetKVStore(\"data\", storage.PersistentStorageClass)",
      "n.storeProvider.GetKVStore(\"connections\", storage.VolatileStorageClass)"] := rfl

theorem fact_failed_events_threshold :
    Facts.C14.failedEventsCondition = ["event.Retries >= retriesFailedThreshold"] := rfl

/-- saveEvent only inside the write closure, notify only inside AfterCommit (Add and WritePayload) -/
theorem fact_save_in_write_tx_notify_after_commit :
    Facts.C14.addSaveInWriteTx = 2 ∧ Facts.C14.addSaveOutsideWriteTx = 0 ∧
    Facts.C14.addNotifyInAfterCommit = 2 ∧ Facts.C14.addNotifyElsewhere = 0 ∧
    Facts.C14.writePayloadSaveInWriteTx = 1 ∧ Facts.C14.writePayloadSaveOutsideWriteTx = 0 ∧
    Facts.C14.writePayloadNotifyInAfterCommit = 1 ∧ Facts.C14.writePayloadNotifyElsewhere = 0 := by decide

/-- state.saveEvent stops at the first Save error and returns it (the write transaction is then rolled back: admission is
    all-or-nothing over the subscribers); state.notify visits every notifier; state.Add repeats the presence check as the
    first statement inside its write transaction (a duplicate Add that raced past the read phase admits nothing) -/
theorem fact_save_event_all_or_nothing :
    Facts.C14.saveEventBody = ["err = <*ast.TypeAssertExpr>.Save(tx, event)", "return err == nil", "return err"] ∧
    Facts.C14.notifyBody = ["return true"] ∧ Facts.C14.addRechecksPresenceFirstInWriteTx = true := ⟨rfl, rfl, rfl⟩

/-- State.WritePayload returns before saveEvent, and then does not notify, exactly when the payload event of THIS
    transaction was saved before: the test is keyed by the transaction ref (not by the payload hash), and both Add
    (with payload) and WritePayload set the marker inside the write transaction that saves the event -/
theorem fact_writePayload_skips_stored_payload :
    Facts.C14.writePayloadSkipsPresent = true ∧
    Facts.C14.writePayloadSkipCondition = "isPayloadEventSaved(tx, transaction.Ref())" ∧
    Facts.C14.addMarksPayloadEventInWriteTx = 1 ∧ Facts.C14.writePayloadMarksPayloadEventInWriteTx = 1 ∧
    Facts.C14.payloadEventMarker =
      ["isPayloadEventSaved: tx.GetShelfReader(payloadEventShelf).Get(stoabs.NewHashKey(ref))",
       "markPayloadEventSaved: tx.GetShelfWriter(payloadEventShelf).Put(stoabs.NewHashKey(ref), <*ast.ArrayType>{1})"] :=
  ⟨rfl, rfl, rfl, rfl, rfl⟩

/-- the AfterCommit notification of State.WritePayload is guarded by `payloadWritten`, which is false at the start and set
    only after the "payload event already saved" return, right before saveEvent: a WritePayload that saves nothing
    notifies nobody (`Cfg.notifyGuarded`; theorem calls_bounded_by_budget needs it) -/
theorem fact_writePayload_notifies_only_what_it_saved :
    Facts.C14.writePayloadGuardTrace =
      ["top: payloadWritten := false",
       "tx: if isPayloadEventSaved(tx, transaction.Ref()) => return nil",
       "tx: payloadWritten = true",
       "tx: s.saveEvent(tx, event)",
       "tx: markPayloadEventSaved(tx, transaction.Ref())",
       "tx: return s.payloadStore.writePayload(tx, payloadHash, data)",
       "afterCommit: if payloadWritten => s.notify(event)"] ∧
    Facts.C14.writePayloadNotifyGuarded = true ∧ Facts.C14.writePayloadReturnsEarlyWhenPresent = true := ⟨rfl, rfl, rfl⟩

/-- the write-back of notifyNow leaves an event alone that was removed (Finished) while the receiver ran -/
theorem fact_write_back_skips_removed_event : Facts.C14.writeBackSkipsGone = true := by decide

theorem fact_payload_handler_sequence :
    Facts.C14.payloadHandlerCalls = ["p.state.GetTransaction", "p.state.WritePayload", "p.privatePayloadReceiver.Finished"] ∧
    Facts.C14.payloadHandlerReturnsWhenTxUnknown = true := ⟨rfl, rfl⟩

/-- every registration of the repository: names, persistence, and each has a filter that fixes the event type -/
theorem fact_registrations :
    Facts.C14.registrations.map (fun r => (r.1, r.2.1)) =
      [("gossip", false), ("nats", true), ("private", true), ("vcr_revocations", true), ("vcr_vcs", true), ("vdr", true)] ∧
    Facts.C14.registrations.all (fun r => r.2.2.any (fun f => f.type.isSome)) = true := ⟨rfl, rfl⟩

/-- a filter list containing a filter with `type = some t` only accepts events of type `t` -/
theorem typed_of_filter (subs : List (List Filter)) (pal : Nat → Bool) (ptype : Nat → String) (s : Nat)
    (fs : List Filter) (f : Filter) (t : EvType) (hs : subs[s]? = some fs) (hf : f ∈ fs) (ht : f.type = some t) (c : Cfg)
    (hc : c.sel = selOf subs pal ptype) : Typed c s t := by
  intro r ty' h
  rw [hc] at h
  unfold selOf at h
  rw [hs] at h
  simp only [List.all_eq_true] at h
  have := h f hf
  unfold Filter.test at this
  rw [ht] at this
  simp only [Bool.and_eq_true, decide_eq_true_eq] at this
  exact this.1.1.symm

/-! ### no_loss -/

/-- **no_loss** (invariant over all op sequences, stops at every position): for every admitted event and every
    subscriber whose filters select it and fix the event type, a job of that type is on the shelf or completion has
    been recorded. -/
theorem no_loss (c : Cfg) (ops : List Op) (r : Nat) (ty : EvType) (s : Nat) (t : EvType)
    (hadm : (r, ty) ∈ (run c init ops).admitted) (hs : s < c.nSubs) (hsel : c.sel s r ty = true) (htyp : Typed c s t) :
    (∃ j, (run c init ops).shelf s r = some j ∧ j.type = ty) ∨ completedIn (run c init ops).ledger s r = true :=
  ((Inv.init c).run ops).loss r ty s t hadm hs hsel htyp

/-- a committed `Add` records the transaction event in `admitted`, and the payload event when a payload came along
    (a committed `WritePayload` that saves the payload event: `payload_event_per_transaction`). -/
theorem admitted_by_commit (c : Cfg) (σ : St) (a : AddArgs) (h : (addTx c σ a).2 = .ok) :
    (a.ref, EvType.tx) ∈ (addTx c σ a).1.admitted ∧ (a.withPayload = true → (a.ref, EvType.payload) ∈ (addTx c σ a).1.admitted) := by
  rcases addTx_spec c σ a with ⟨e, hn, he⟩ | ⟨he, _⟩ <;> rw [he] at h ⊢
  · exact absurd h hn
  · rw [addCommit_admitted]
    exact ⟨List.mem_cons_self, fun hp => by rw [if_pos hp]; exact List.mem_cons_of_mem _ List.mem_cons_self⟩

/-- a payload event per TRANSACTION: when the payload of an admitted transaction arrives and the commit succeeds, the
    payload event of that transaction is admitted unless ITS event was saved before - whatever payloads (e.g. the
    byte-identical payload of another transaction) are already in the payload store. With `no_loss` every selecting
    subscriber then holds a job for it or has completed it. -/
theorem payload_event_per_transaction (c : Cfg) (σ : St) (r : Nat) (hd : r ∈ σ.dag) (hne : r ∉ σ.evented) :
    (writePayload c σ r false).2 = .ok ∧ (r, EvType.payload) ∈ (writePayload c σ r false).1.admitted ∧
    r ∈ (writePayload c σ r false).1.evented := by
  rcases writePayload_spec c σ r false with ⟨_, _, _, _, h⟩ | ⟨h, _⟩ | ⟨he, _⟩
  · exact absurd hd (h.resolve_right Bool.false_ne_true)
  · exact absurd h hne
  · rw [he, payloadCommit_admitted, payloadCommit_evented]
    exact ⟨rfl, List.mem_cons_self, List.mem_cons_self⟩

/-- **saveEvent reaches every subscriber**: after `saveEvent` every registered subscriber whose filters select the event
    holds a job for the ref (a new one, or the one it had) -/
theorem save_event_reaches_every_subscriber (c : Cfg) (σ : St) (ev : Nat × EvType) (s : Nat) (hs : s < c.nSubs)
    (hsel : c.sel s ev.1 ev.2 = true) : ∃ j, (saveEvent c σ ev).shelf s ev.1 = some j := by
  rw [(saveEvent_spec c σ ev).shelf]
  cases h : σ.shelf s ev.1 with
  | none => exact ⟨newJob ev.2, by simp [hs, hsel]⟩
  | some j => exact ⟨j, by simp⟩

/-- **admission is all-or-nothing over the subscribers**: a storage fault while writing ONE subscriber's job for the
    transaction event inside the write transaction (`failShelf`) leaves the state as it was: nothing is admitted - no event,
    no job of any subscriber -/
theorem add_with_shelf_fault_admits_nothing (c : Cfg) (σ : St) (a : AddArgs) (f : Nat) (hf : a.failShelf = some f)
    (hlt : f < c.nSubs) (hsel : c.sel f a.ref .tx = true) : (addTx c σ a).1 = σ := by
  rcases addTx_spec c σ a with ⟨e, _, he⟩ | ⟨_, _, _, hno⟩
  · rw [he]
  · exact absurd (by simp [shelfFaultHits, hf, hlt, hsel]) hno

/-- a duplicate `Add` of a transaction that is already on the DAG changes nothing (no event admitted again, no job
    re-created, no notification queued) - whatever came with it -/
theorem duplicate_add_changes_nothing (c : Cfg) (σ : St) (a : AddArgs) (h : a.ref ∈ σ.dag) : (addTx c σ a).1 = σ := by
  rcases addTx_spec c σ a with ⟨e, _, he⟩ | ⟨_, _, hnd, _⟩
  · rw [he]
  · exact absurd h hnd

/-! ### only_admitted_delivered -/

/-- **only_admitted_delivered**: every receiver call in the ledger is for a transaction on the DAG, for an event the
    subscriber's filters select; a payload event is only delivered when the payload is stored. -/
theorem only_admitted_delivered (c : Cfg) (ops : List Op) (s r : Nat) (ty : EvType) (k : Nat) (o : Outcome)
    (h : Entry.call s r ty k o ∈ (run c init ops).ledger) :
    r ∈ (run c init ops).dag ∧ c.sel s r ty = true ∧
    (ty = .payload → c.phash r ∈ (run c init ops).payloads ∧ r ∈ (run c init ops).evented) :=
  ((Inv.init c).run ops).callOk s r ty k o h

/-- a rejected / failed / rolled-back `Add` changes nothing -/
theorem not_admitted_unchanged (c : Cfg) (σ : St) (a : AddArgs) (h : (addTx c σ a).2 ≠ .ok) : (addTx c σ a).1 = σ := by
  rcases addTx_spec c σ a with ⟨e, _, he⟩ | ⟨he, _⟩ <;> rw [he] at h ⊢
  exact absurd rfl h

/-! ### no_call_after_done -/

/-- the full-strength statement: in every reachable ledger no call of (s, r) is newer than a completion record of (s, r),
    for every subscriber `s` whose filters fix the event type -/
def noCallAfterDoneStmt (c : Cfg) : Prop :=
  ∀ (ops : List Op) (s r : Nat) (t : EvType), Typed c s t → okLedger s r (run c init ops).ledger = true

/-- **no_call_after_done** at full strength for the code as it is now (`WritePayload` skips a stored payload, the
    write-back of `notifyNow` does not re-create a removed event): over all op sequences including stops, restarts
    and `Finished` calls that land in the middle of a receiver call (outcome `notDoneFin`). -/
theorem no_call_after_done (c : Cfg) (hskip : c.skipPresent = true) (hwb : c.writeBackSkipsGone = true) : noCallAfterDoneStmt c :=
  fun ops s r t htyp => (Inv2.run hskip hwb (Inv.init c) (Inv2.init c) ops).ok s r t htyp

/-- the same, spelled out: whatever was logged after a completion record of (s, r) is not a call of (s, r) -/
theorem no_call_after_done_split (c : Cfg) (hskip : c.skipPresent = true) (hwb : c.writeBackSkipsGone = true) (ops : List Op) (s r : Nat) (t : EvType)
    (htyp : Typed c s t) (newer older : List Entry) (e : Entry)
    (hl : (run c init ops).ledger = newer ++ e :: older) (he : e.completes s r = true) :
    ∀ e' ∈ newer, e'.isCallOf s r = false :=
  okLedger_split s r newer older e (hl ▸ no_call_after_done c hskip hwb ops s r t htyp) he

/-- once completion is recorded the job is gone and stays gone -/
theorem completed_job_gone (c : Cfg) (hskip : c.skipPresent = true) (hwb : c.writeBackSkipsGone = true) (ops : List Op) (s r : Nat) (t : EvType)
    (htyp : Typed c s t) (h : completedIn (run c init ops).ledger s r = true) : (run c init ops).shelf s r = none :=
  (Inv2.run hskip hwb (Inv.init c) (Inv2.init c) ops).doneGone s r t htyp h

/-! #### witnesses: the five persistent registrations of the repository, one private VC transaction -/

def realSubs : List (List Filter) :=
  [[{ type := some .payload }], [{ type := some .tx, needPAL := true }],
   [{ type := some .payload, ptype := some "application/did+json" }],
   [{ type := some .payload, ptype := some "application/vc+json" }],
   [{ type := some .payload, ptype := some "application/ld+json;type=revocation" }]]

/-- the persistent registrations of the source, in the order the harness uses -/
theorem realSubs_are_the_registrations :
    realSubs = (["nats", "private", "vdr", "vcr_vcs", "vcr_revocations"].filterMap fun n =>
      (Facts.C14.registrations.find? (fun r => r.1 == n)).map (fun r => r.2.2)) := by decide +kernel

def wCfg (skip : Bool) (beh : Nat → Nat → Nat → Outcome) : Cfg :=
  { nSubs := 5, nRefs := 2, sel := selOf realSubs (fun _ => true) (fun _ => "application/vc+json"),
    phash := fun _ => 7, root := fun r => r == 0, beh := beh, maxRetries := 20, failedThreshold := 10, skipPresent := skip,
    writeBackSkipsGone := true, storageFaultEndsLoop := false }

def allDone : Nat → Nat → Nat → Outcome := fun _ _ _ => .done

/-- a private transaction arrives, its payload arrives and is processed (done), the same payload arrives again -/
def secondPayloadOps : List Op :=
  [.add { ref := 0 }, .afterCommit [0, 1, 2, 3, 4],
   .writePayload 0 false, .afterCommit [0, 1, 2, 3, 4], .finishedExt 1 0 false,
   .writePayload 0 false, .afterCommit [0, 1, 2, 3, 4], .finishedExt 1 0 false]

/-- **negation witness for the code before the repair** (`skipPresent = false`): the second matching
    TransactionPayload re-creates the finished job and vcr_vcs (subscriber 3) is called again after `done`. -/
theorem call_after_done_without_presence_check :
    okLedger 3 0 (run (wCfg false allDone) init secondPayloadOps).ledger = false ∧
    ((run (wCfg false allDone) init secondPayloadOps).ledger.filter (Entry.isCallOf 3 0)).length = 2 := by decide +kernel

/-- **second negation witness for the code before the repair** (`writeBackSkipsGone = false`): while the "private"
    subscriber (1) is being called for transaction 0, the payload reply is handled (`Finished`, outcome `notDoneFin`);
    the write-back of `notifyNow` re-creates the removed job and the next timer calls the subscriber again. -/
def finDuringCall : Nat → Nat → Nat → Outcome := fun s _ k => if s = 1 ∧ k = 0 then .notDoneFin else .done
def finDuringCallOps : List Op := [.add { ref := 0 }, .afterCommit [0, 1, 2, 3, 4], .fire 1 0]

theorem call_after_done_when_write_back_recreates :
    okLedger 1 0 (run { wCfg true finDuringCall with writeBackSkipsGone := false } init finDuringCallOps).ledger = false ∧
    okLedger 1 0 (run (wCfg true finDuringCall) init finDuringCallOps).ledger = true ∧
    ((run (wCfg true finDuringCall) init finDuringCallOps).ledger.filter (Entry.isCallOf 1 0)).length = 1 := by decide +kernel

/-- the same history on the repaired code: one call -/
example : okLedger 3 0 (run (wCfg true allDone) init secondPayloadOps).ledger = true ∧
    ((run (wCfg true allDone) init secondPayloadOps).ledger.filter (Entry.isCallOf 3 0)).length = 1 := by decide +kernel

/-- non-vacuity of no_call_after_done / no_loss: the hypotheses hold for the real registrations -/
example : Typed (wCfg true allDone) 3 .payload :=
  typed_of_filter realSubs _ _ 3 _ { type := some .payload, ptype := some "application/vc+json" } .payload rfl
    (List.mem_cons_self) rfl _ rfl
example : (0, EvType.payload) ∈ (run (wCfg true allDone) init secondPayloadOps).admitted ∧
    (wCfg true allDone).sel 3 0 .payload = true ∧ completedIn (run (wCfg true allDone) init secondPayloadOps).ledger 3 0 = true := by decide +kernel

/-- witness (all refs of `wCfg` have the same payload hash): transaction 0 arrives with its payload, the private
    transaction 1 without; when the byte-identical payload of 1 arrives, vcr_vcs (3) is called for transaction 1 too,
    and a duplicate of that message calls nobody -/
def identicalPayloadOps : List Op :=
  [.add { ref := 0, withPayload := true }, .afterCommit [0, 1, 2, 3, 4], .afterCommit [0, 1, 2, 3, 4],
   .add { ref := 1 }, .afterCommit [0, 1, 2, 3, 4],
   .writePayload 1 false, .afterCommit [0, 1, 2, 3, 4], .finishedExt 1 1 false,
   .writePayload 1 false, .afterCommit [0, 1, 2, 3, 4], .finishedExt 1 1 false]

theorem identical_payload_witness :
    (wCfg true allDone).phash 0 = (wCfg true allDone).phash 1 ∧
    (1, EvType.payload) ∈ (run (wCfg true allDone) init identicalPayloadOps).admitted ∧
    ((run (wCfg true allDone) init identicalPayloadOps).ledger.filter (Entry.isCallOf 3 1)) = [.call 3 1 .payload 0 .done] ∧
    ((run (wCfg true allDone) init identicalPayloadOps).ledger.filter (Entry.isCallOf 3 0)).length = 1 := by decide +kernel

/-! #### open finding: a private transaction whose payload bytes are already stored -/

/-- the stronger reading of no_loss: every transaction on the DAG whose payload is AVAILABLE in the (hash-keyed) payload
    store has, for every selecting type-filtered subscriber, a payload job or a completion record -/
def payloadAvailableNoLossStmt (c : Cfg) : Prop :=
  ∀ (ops : List Op) (r s : Nat) (t : EvType), r ∈ (run c init ops).dag → c.phash r ∈ (run c init ops).payloads →
    s < c.nSubs → c.sel s r .payload = true → Typed c s t →
    (∃ j, (run c init ops).shelf s r = some j ∧ j.type = .payload) ∨ completedIn (run c init ops).ledger s r = true

/-- what is proved: the same with the explicit hypothesis that the payload event of THIS transaction was created, i.e.
    its payload came with `Add` or through `WritePayload` (admitted_by_commit, payload_event_per_transaction) -/
theorem payload_no_loss_partial (c : Cfg) (ops : List Op) (r s : Nat) (t : EvType)
    (hev : (r, EvType.payload) ∈ (run c init ops).admitted) (hs : s < c.nSubs) (hsel : c.sel s r .payload = true)
    (htyp : Typed c s t) :
    (∃ j, (run c init ops).shelf s r = some j ∧ j.type = .payload) ∨ completedIn (run c init ops).ledger s r = true :=
  no_loss c ops r .payload s t hev hs hsel htyp

/-- **negation witness (open finding)**: transaction 0 arrives with its payload; the private transaction 1 has the same
    payload bytes and arrives without them. The "private" receiver (handlePrivateTxRetry) sees "payload present" and
    reports done - `allDone` - without `WritePayload`: transaction 1's payload is available, yet vcr_vcs (3) has neither a
    job nor a completion record for it and is never called. -/
def storedBeforePrivateOps : List Op :=
  [.add { ref := 0, withPayload := true }, .afterCommit [0, 1, 2, 3, 4], .afterCommit [0, 1, 2, 3, 4],
   .add { ref := 1 }, .afterCommit [0, 1, 2, 3, 4]]

theorem payload_available_no_loss_fails : ¬ payloadAvailableNoLossStmt (wCfg true allDone) := by
  intro h
  have htyp : Typed (wCfg true allDone) 3 .payload :=
    typed_of_filter realSubs _ _ 3 _ { type := some .payload, ptype := some "application/vc+json" } .payload rfl
      (List.mem_cons_self) rfl _ rfl
  have hv : 1 ∈ (run (wCfg true allDone) init storedBeforePrivateOps).dag ∧
      (wCfg true allDone).phash 1 ∈ (run (wCfg true allDone) init storedBeforePrivateOps).payloads ∧
      (wCfg true allDone).sel 3 1 .payload = true ∧
      (run (wCfg true allDone) init storedBeforePrivateOps).shelf 3 1 = none ∧
      completedIn (run (wCfg true allDone) init storedBeforePrivateOps).ledger 3 1 = false := by decide +kernel
  obtain ⟨hd, hp, hsel, hn, hnc⟩ := hv
  rcases h storedBeforePrivateOps 1 3 .payload hd hp (by decide) hsel htyp with ⟨j, hj, _⟩ | hc
  · rw [hn] at hj; cases hj
  · rw [hnc] at hc; cases hc

/-- in that history the private job is finished and nobody was ever called for transaction 1's payload -/
example : (run (wCfg true allDone) init storedBeforePrivateOps).shelf 1 1 = none ∧
    (1, EvType.payload) ∉ (run (wCfg true allDone) init storedBeforePrivateOps).admitted ∧
    ((run (wCfg true allDone) init storedBeforePrivateOps).ledger.filter (Entry.isCallOf 3 1)) = [] := by decide +kernel

/-! ### delivered at least once across a stop: restart_redelivers -/

/-- **restart_redelivers**: whatever state a stop left behind (`σ` is arbitrary: stopped before commit, between commit
    and notification, inside a receiver, during retries, after a failed Finished write), `Run` calls the receiver
    of every job on the shelf that is not parked by the context-error rule — unless the node stops again inside a
    receiver during this very start-up (then `no_loss` still holds the job for the next start), or a transient store
    fault keeps Run from reading this job (`readFault`: the attempt is on the ledger, the receiver was not reached; Run
    then starts the retry loop for it, see `storage_fault_is_rescheduled`). -/
theorem restart_redelivers (c : Cfg) (σ : St) (order : List Nat) (s r : Nat) (j : Job)
    (hs : s ∈ order) (hr : r < c.nRefs) (hj : σ.shelf s r = some j) (hctx : j.err ≠ .ctx) :
    ∃ new, (restart c σ order).ledger = new ++ σ.ledger ∧
      ((∃ ty k o, o ≠ Outcome.crash ∧ o ≠ Outcome.readFault ∧ Entry.call s r ty k o ∈ new) ∨
       (∃ s' r' ty k, Entry.call s' r' ty k .crash ∈ new) ∨ (∃ ty k, Entry.call s r ty k .readFault ∈ new)) := by
  obtain ⟨new, h1, h2⟩ := restart_delivers σ order s r j hs hr hj hctx
  refine ⟨new, h1, ?_⟩
  rcases h2 with ⟨ty, k, o, ho, hm⟩ | h2
  · by_cases hf : o = .readFault
    · subst hf; exact .inr (.inr ⟨ty, k, hm⟩)
    · exact .inl ⟨ty, k, o, ho, hf, hm⟩
  · exact .inr (.inl h2)

/-- at-least-once, end to end: for every admitted event and every selecting type-filtered subscriber, after any history
    (stops anywhere) followed by a restart, the event has been completed, or its receiver is called during the restart,
    or the restart itself is stopped inside a receiver, or the job is parked by the context-error rule, or a transient
    store fault kept Run from reading the job (then its retry loop is started). -/
theorem delivered_at_least_once (c : Cfg) (ops : List Op) (order : List Nat) (r : Nat) (ty : EvType) (s : Nat) (t : EvType)
    (hadm : (r, ty) ∈ (run c init ops).admitted) (hs : s < c.nSubs) (hso : s ∈ order) (hsel : c.sel s r ty = true)
    (htyp : Typed c s t) :
    completedIn (run c init ops).ledger s r = true ∨
    (∃ j, (run c init ops).shelf s r = some j ∧ j.err = .ctx) ∨
    ∃ new, (restart c (run c init ops) order).ledger = new ++ (run c init ops).ledger ∧
      ((∃ ty' k o, o ≠ Outcome.crash ∧ o ≠ Outcome.readFault ∧ Entry.call s r ty' k o ∈ new) ∨
       (∃ s' r' ty' k, Entry.call s' r' ty' k .crash ∈ new) ∨ (∃ ty' k, Entry.call s r ty' k .readFault ∈ new)) := by
  have hinv := (Inv.init c).run ops
  rcases hinv.loss r ty s t hadm hs hsel htyp with ⟨j, hj, _⟩ | hc
  · by_cases hctx : j.err = .ctx
    · exact .inr (.inl ⟨j, hj, hctx⟩)
    · exact .inr (.inr (restart_redelivers c _ order s r j hso (hinv.dagLt r (hinv.admDag r ty hadm)) hj hctx))
  · exact .inl hc

/-- **only an EventFatal stops retrying** (Notify): whatever `notifyNow` returns for a selected event - the receiver's
    error, "incomplete", a failed Finished write, or the notifier's OWN unrecoverable storage error while reading the job
    or writing the failure count back (`NRes.unrec`) - a retry loop with the full budget is started, unless the result is
    nil (done / job gone), an EventFatal, or the node stopped. -/
theorem notify_reschedules_unless_fatal (c : Cfg) (σ : St) (s : Nat) (ev : Nat × EvType) (hsel : c.sel s ev.1 ev.2 = true)
    (hres : (notifyNow c σ s ev.1).2 = .err ∨ (notifyNow c σ s ev.1).2 = .unrec) :
    (notify c σ s ev).1 = spawn c (notifyNow c σ s ev.1).1 s ev.1 0 ∧ (notify c σ s ev).2 = false :=
  notify_of_err hsel hres

/-- the storage faults of the notifier itself give the `unrec` result (not `fatal`: none of them is an EventFatal) and leave
    the job as it was -/
theorem storage_fault_is_rescheduled (c : Cfg) (σ : St) (s r : Nat) (j : Job) (hj : σ.shelf s r = some j)
    (ho : c.beh s r (attemptNo σ s r) = .readFault ∨ c.beh s r (attemptNo σ s r) = .notDoneWriteFail ∨
          c.beh s r (attemptNo σ s r) = .failWriteFail) :
    (notifyNow c σ s r).2 = .unrec ∧ (notifyNow c σ s r).1.shelf s r = some j := by
  rw [notifyNow_some hj]
  rcases ho with h | h | h <;> rw [h] <;> simp [resAfter, jobAfter]

/-- with `maxRetries > 1` the rescheduled loop exists: a task for (s, r) with `maxRetries - 1` attempts -/
theorem rescheduled_loop_exists (c : Cfg) (σ : St) (s r : Nat) (h : 1 < c.maxRetries) :
    ∃ t, t ∈ (spawn c σ s r 0).running ∧ t.sub = s ∧ t.ref = r ∧ t.left = c.maxRetries - 1 := by
  obtain ⟨t, ht, a, b, d⟩ := spawn_mem (c := c) (σ := σ) (s := s) (r := r) (k := 0) (by omega)
  exact ⟨t, ht, a, b, by omega⟩

/-- **a storage fault does not end a running retry loop** (code after the repair, `storageFaultEndsLoop = false`): the
    attempt is spent, the loop goes on with one attempt less -/
theorem loop_survives_storage_fault (c : Cfg) (hflag : c.storageFaultEndsLoop = false) (σ : St) (s r : Nat) (t : Task)
    (ht : σ.running.find? (Task.isFor s r) = some t) (hleft : 1 < t.left)
    (hres : (notifyNow c { σ with running := σ.running.erase t } s r).2 = .unrec) :
    ∃ t', t' ∈ (fire c σ s r).running ∧ t'.sub = t.sub ∧ t'.ref = t.ref ∧ t'.left = t.left - 1 := by
  rcases fire_spec c σ s r with ⟨hn, _⟩ | ⟨t', ht', hf⟩
  · rw [hn] at ht; cases ht
  · rw [ht] at ht'; cases ht'
    rcases hf _ _ rfl with ⟨hc, _⟩ | ⟨_, _, e⟩ | ⟨_, hno, _⟩
    · exact nomatch hres.symm.trans hc
    · rw [e]; exact ⟨_, List.mem_append_right _ List.mem_cons_self, rfl, rfl, rfl⟩
    · exact absurd ⟨hleft, .inr ⟨hres, hflag⟩⟩ hno

/-- **negation witness for the code before that repair** (`storageFaultEndsLoop = true`): the private subscriber (1) does
    not complete transaction 0; its retry loop is running; one transient fault while reading the job ends the loop: no
    loop, no pending notification, one recorded attempt - below the threshold, not listed by GetFailedEvents - until the
    next restart. On the repaired code the loop is still there. -/
def faultInLoop : Nat → Nat → Nat → Outcome := fun s _ k => if s = 1 ∧ k = 1 then .readFault else .notDone
def faultInLoopOps : List Op := [.add { ref := 0 }, .afterCommit [0, 1, 2, 3, 4], .fire 1 0]

theorem storage_fault_ended_loop_before_repair :
    (run { wCfg true faultInLoop with storageFaultEndsLoop := true } init faultInLoopOps).running = [] ∧
    (run { wCfg true faultInLoop with storageFaultEndsLoop := true } init faultInLoopOps).shelf 1 0 =
      some { type := .tx, retries := 1, err := .incomplete } ∧
    failedEvents (wCfg true faultInLoop) (run { wCfg true faultInLoop with storageFaultEndsLoop := true } init faultInLoopOps) 1 = [] ∧
    ((run (wCfg true faultInLoop) init faultInLoopOps).running.map (·.left)) = [18] := by decide +kernel

/-- **Run re-reads the shelf**: Run resumes its snapshot one job at a time; an event whose completion record landed while
    the loop was busy with an earlier job (its job is gone from the shelf: `Finished` by the payload handler or by the
    operator, with `completed_job_gone` for the reason) is not delivered by the rest of the loop - whatever the
    snapshot `l` contains - and it stays gone. -/
theorem resume_skips_event_finished_meanwhile (c : Cfg) (s r : Nat) (l : List (Nat × Nat)) (σ : St) (acc : List (Nat × Nat))
    (h : σ.shelf s r = none) :
    ∃ new, (runCalls c s l σ acc).1.ledger = new ++ σ.ledger ∧ (∀ e, e ∈ new → e.isCallOf s r = false) ∧
      (runCalls c s l σ acc).1.shelf s r = none :=
  (runCalls_run c s l σ acc).elim fun _ h' => h'.elim fun _ h' => h'.2.2.2.absent h

/-- non-vacuity: job 1 of vcr_vcs is in the snapshot, is finished before the loop reaches it, and is not called -/
def resumeState : St :=
  run (wCfg true allDone) init [.add { ref := 0, withPayload := true }, .add { ref := 1, withPayload := true }, .crash]

example : (1, 0) ∈ runSnapshot (wCfg true allDone) resumeState 3 ∧
    ((runCalls (wCfg true allDone) 3 (runSnapshot (wCfg true allDone) resumeState 3) (finishedExt resumeState 3 1 false) []).1.ledger.filter
      (Entry.isCallOf 3 1)) = [] ∧
    ((runCalls (wCfg true allDone) 3 (runSnapshot (wCfg true allDone) resumeState 3) (finishedExt resumeState 3 1 false) []).1.ledger.filter
      (Entry.isCallOf 3 0)).length = 1 := by decide +kernel

/-! ### eventual_delivery, failed_visible -/

/-- **eventual_delivery**: let `σ0` be ANY state (e.g. what a stop left behind) without context-error jobs, and assume
    that from now on no receiver call stops the node, hits a storage fault or returns the context error (`CalmFrom`;
    the receivers are otherwise arbitrary: done / notDone / error / fatal in any pattern). Start the notifiers (`Run`,
    any order that covers them), then let any sequence of ops happen that contains no stop and whose AfterCommit
    notifications reach every notifier (admissions, payload arrivals, external Finished, timers firing in ANY order).
    Whenever the node is at rest (no retry loop alive, no notification pending), every job still on a shelf has
    spent its retry budget: `retries ≥ maxRetries` (reached by counting, or set by a fatal error). -/
theorem eventual_delivery (c : Cfg) (σ0 : St) (order : List Nat) (ops : List Op)
    (hctx : NoCtx σ0) (hcalm : CalmFrom c σ0) (hord : ∀ s, s < c.nSubs → s ∈ order)
    (hops : ∀ op, op ∈ ops → CalmOp c op)
    (hrest : (run c (restart c σ0 order) ops).running = [] ∧ (run c (restart c σ0 order) ops).pending = [])
    (s r : Nat) (j : Job) (hs : s < c.nSubs) (hr : r < c.nRefs)
    (hj : (run c (restart c σ0 order) ops).shelf s r = some j) : c.maxRetries ≤ j.retries := by
  obtain ⟨h1, h2⟩ := restart_ok hcalm order
  have hcov : Covered c (restart c σ0 order) := fun s r hs hr => h2 hctx s (hord s hs) r hr
  exact ((hcov.run (hcalm.mono h1.grows) ops hops).quiescent hrest.1 hrest.2) s r j hs hr hj

/-- the same without any stop at all, from the empty node -/
theorem eventual_delivery_from_start (c : Cfg) (ops : List Op) (hcalm : CalmFrom c init)
    (hops : ∀ op, op ∈ ops → CalmOp c op)
    (hrest : (run c init ops).running = [] ∧ (run c init ops).pending = [])
    (s r : Nat) (j : Job) (hs : s < c.nSubs) (hr : r < c.nRefs) (hj : (run c init ops).shelf s r = some j) :
    c.maxRetries ≤ j.retries := by
  have hcov : Covered c init := by intro s r _ _ j hj; simp [init] at hj
  exact ((hcov.run hcalm ops hops).quiescent hrest.1 hrest.2) s r j hs hr hj

/-- **failed_visible**: a job that spent its budget is listed by GetFailedEvents (threshold ≤ budget: fact_retry_constants) -/
theorem failed_visible (c : Cfg) (hthr : c.failedThreshold ≤ c.maxRetries) (σ : St) (s r : Nat) (j : Job) (hr : r < c.nRefs)
    (hj : σ.shelf s r = some j) (hb : c.maxRetries ≤ j.retries) : r ∈ failedEvents c σ s :=
  (mem_failedEvents_iff c σ s r).mpr ⟨hr, j, hj, Nat.le_trans hthr hb⟩

/-- the two together with no_loss: at rest after a restart from a state without parked jobs (`NoCtx`) and a calm suffix, every
    admitted event is completed or visible as failed -/
theorem completed_or_visible (c : Cfg) (hthr : c.failedThreshold ≤ c.maxRetries) (ops0 : List Op) (order : List Nat) (ops : List Op)
    (hctx : NoCtx (run c init ops0)) (hcalm : CalmFrom c (run c init ops0)) (hord : ∀ s, s < c.nSubs → s ∈ order)
    (hops : ∀ op, op ∈ ops → CalmOp c op)
    (hrest : (run c (restart c (run c init ops0) order) ops).running = [] ∧ (run c (restart c (run c init ops0) order) ops).pending = [])
    (r : Nat) (ty : EvType) (s : Nat) (t : EvType)
    (hadm : (r, ty) ∈ (run c (restart c (run c init ops0) order) ops).admitted) (hs : s < c.nSubs) (hsel : c.sel s r ty = true)
    (htyp : Typed c s t) :
    completedIn (run c (restart c (run c init ops0) order) ops).ledger s r = true ∨
    r ∈ failedEvents c (run c (restart c (run c init ops0) order) ops) s := by
  have e : run c (restart c (run c init ops0) order) ops = run c init (ops0 ++ .restart order :: ops) := by
    simp [run, List.foldl_append, step]
  have hinv : Inv c (run c (restart c (run c init ops0) order) ops) := by rw [e]; exact (Inv.init c).run _
  rcases hinv.loss r ty s t hadm hs hsel htyp with ⟨j, hj, _⟩ | hc
  · have hr := hinv.dagLt r (hinv.admDag r ty hadm)
    exact .inr (failed_visible c hthr _ s r j hr hj (eventual_delivery c _ order ops hctx hcalm hord hops hrest s r j hs hr hj))
  · exact .inl hc

/-- non-vacuity: a subscriber that never completes; one admission, AfterCommit, 19 timer firings: at rest, budget spent, listed -/
def neverDone : Nat → Nat → Nat → Outcome := fun _ _ _ => .notDone
def exhaustOps : List Op :=
  [.add { ref := 0 }, .afterCommit [0, 1, 2, 3, 4]] ++ List.replicate 19 (.fire 1 0)

example : (run (wCfg true neverDone) init exhaustOps).running = [] ∧ (run (wCfg true neverDone) init exhaustOps).pending = [] ∧
    (run (wCfg true neverDone) init exhaustOps).shelf 1 0 = some { type := .tx, retries := 20, err := .incomplete } ∧
    failedEvents (wCfg true neverDone) (run (wCfg true neverDone) init exhaustOps) 1 = [0] := by decide
example : CalmFrom (wCfg true neverDone) init := fun _ _ _ _ => rfl
example : ∀ op, op ∈ exhaustOps → CalmOp (wCfg true neverDone) op := by
  intro op h
  simp only [exhaustOps, List.mem_append, List.mem_cons, List.mem_replicate] at h
  rcases h with (rfl | rfl | h) | ⟨_, rfl⟩
  · trivial
  · intro s hs; simp only [wCfg] at hs; have : s = 0 ∨ s = 1 ∨ s = 2 ∨ s = 3 ∨ s = 4 := by omega
    rcases this with rfl | rfl | rfl | rfl | rfl <;> simp
  · cases h
  · trivial

/-- **parked_witness** (modelled as coded, nuts-node issue 2569): a job whose last error ends in the json-ld
    "context not allowed" text is NOT replayed by Run. After a stop it rests on the shelf with retries below the
    threshold: not retried, not listed by GetFailedEvents. This is why eventual_delivery excludes that error. -/
def ctxOnce : Nat → Nat → Nat → Outcome := fun s _ k => if s = 3 ∧ k = 0 then .failCtx else .done
def parkedOps : List Op :=
  [.add { ref := 0, withPayload := true }, .afterCommit [0, 1, 2, 3, 4], .afterCommit [0, 1, 2, 3, 4], .crash, .restart [0, 1, 2, 3, 4]]

theorem parked_witness :
    (run (wCfg true ctxOnce) init parkedOps).shelf 3 0 = some { type := .payload, retries := 1, err := .ctx } ∧
    (run (wCfg true ctxOnce) init parkedOps).running = [] ∧
    failedEvents (wCfg true ctxOnce) (run (wCfg true ctxOnce) init parkedOps) 3 = [] ∧
    ((run (wCfg true ctxOnce) init parkedOps).ledger.filter (Entry.isCallOf 3 0)).length = 1 := by decide +kernel

/-- **shared_key_witness**: transaction and payload event share the job key. A subscriber WITHOUT a type filter
    (subscriber 5 below) gets only the payload job for a transaction that arrives with its payload; the transaction
    event is skipped by "only schedule new events" and is never delivered: once the payload job is done its completion
    record stands for the shared key (before that, the conclusion of `no_loss` is false for the transaction event:
    the job on the shelf has the other type). -/
def untypedCfg : Cfg :=
  { wCfg true allDone with nSubs := 6, sel := selOf (realSubs ++ [[{}]]) (fun _ => false) (fun _ => "application/vc+json") }

theorem shared_key_witness :
    let σ := run untypedCfg init [.add { ref := 0, withPayload := true }, .afterCommit [5], .afterCommit [5]]
    (0, EvType.tx) ∈ σ.admitted ∧ untypedCfg.sel 5 0 .tx = true ∧
    σ.shelf 5 0 = none ∧
    (σ.ledger.filter (Entry.isCallOf 5 0)) = [.call 5 0 .payload 0 .done] := by decide +kernel

/-! ### delay_monotone -/

/-- **delay_monotone**: the sleep before the next attempt never shrinks: `min maxDelay (retryDelay · 2^base · 2^n)` -/
theorem delay_monotone (d maxDelay base n : Nat) : backoff d maxDelay base n ≤ backoff d maxDelay base (n + 1) := by
  unfold backoff
  have h : d * 2 ^ base * 2 ^ n ≤ d * 2 ^ base * 2 ^ (n + 1) :=
    Nat.mul_le_mul_left _ (Nat.pow_le_pow_right (by decide) (Nat.le_succ n))
  omega

/-- below the cap the delay doubles with every attempt -/
theorem delay_doubles (d maxDelay base n : Nat) (h : d * 2 ^ base * 2 ^ (n + 1) ≤ maxDelay) :
    backoff d maxDelay base (n + 1) = 2 * backoff d maxDelay base n := by
  unfold backoff
  have e : d * 2 ^ base * 2 ^ (n + 1) = 2 * (d * 2 ^ base * 2 ^ n) := by
    rw [Nat.pow_succ, Nat.mul_comm (2 ^ n) 2, ← Nat.mul_assoc, Nat.mul_comm _ 2, Nat.mul_assoc]
  omega

/-- **the back-off continues across a restart**: a job resumed by Run with `k` recorded failures starts its loop with
    `initialCount = k + 1`; its n-th sleep equals the (k+n)-th sleep of a loop that was never interrupted -/
theorem resume_delay_continues (d maxDelay k n : Nat) : backoff d maxDelay (k + 1) n = backoff d maxDelay 1 (k + n) := by
  unfold backoff
  have e : d * 2 ^ (k + 1) * 2 ^ n = d * 2 ^ 1 * 2 ^ (k + n) := by
    rw [Nat.mul_assoc, Nat.mul_assoc, ← Nat.pow_add, ← Nat.pow_add]
    congr 2; omega
  rw [e]

/-- hence the delay never falls back after a restart: every sleep of the resumed loop is at least every sleep the job
    had seen before (sleep j of the uninterrupted loop, j ≤ k + n) -/
theorem resume_delay_monotone (d maxDelay k n j : Nat) (hj : j ≤ k + n) :
    backoff d maxDelay 1 j ≤ backoff d maxDelay (k + 1) n := by
  rw [resume_delay_continues d maxDelay k n]
  unfold backoff
  have h : d * 2 ^ 1 * 2 ^ j ≤ d * 2 ^ 1 * 2 ^ (k + n) := Nat.mul_le_mul_left _ (Nat.pow_le_pow_right (by decide) hj)
  exact Nat.le_min.mpr ⟨Nat.min_le_left _ _, Nat.le_trans (Nat.min_le_right _ _) h⟩

/-- in the model the loop started for a job with `k` recorded failures carries `base = k + 1` -/
theorem spawn_base_is_recorded_failures_plus_one (c : Cfg) (σ : St) (s r k : Nat) (t : Task)
    (ht : t ∈ (spawn c σ s r k).running) (hn : t ∉ σ.running) : t.base = k + 1 ∧ t.n = 0 := by
  rw [spawn_eq] at ht
  rcases List.mem_append.mp ht with ht | ht
  · exact absurd ht hn
  · split at ht
    · rw [List.mem_singleton.mp ht]; exact ⟨rfl, rfl⟩
    · cases ht

example : backoff 1000000000 86400000000000 1 0 = 2000000000 ∧ backoff 1000000000 86400000000000 1 18 = 86400000000000 := by decide

end Nuts.C14.Props
