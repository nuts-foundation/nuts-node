/-
  C12 — wallet/verifier agreement at full strength for basic definitions with an unambiguous selection:
  `hstable` of wallet_verifier_agree_partial is derived, not assumed.
-/
import NutsProofs.Props.C12
import NutsModel.C12.Agree

namespace Nuts.C12.Props
open Nuts Nuts.C12

/-- the credential loop of every descriptor finds, among the SELECTED credentials (preceded by any credentials every
    remaining descriptor rejects), the credential it found in the wallet, when the selection is unambiguous -/
theorem rematch_first (cfg : Cfg) (re : Regex) (pd : PD) (wallet : List Cred) :
    ∀ (cands : List Cand) (k : Nat) (pre : List Cred),
      (∀ x ∈ cands, firstMatch cfg re pd x.1 wallet = .ok x.2) →
      cands.any (fun c => c.2.isNone) = false →
      Unambiguous cfg re pd cands →
      (∀ x ∈ pre, ∀ b ∈ cands, accepts cfg re pd b.1 x = .ok false) →
      ∀ x ∈ cands, firstMatch cfg re pd x.1 (pre ++ (basicMappings k cands).2) = .ok x.2
  | [], _, _, _, _, _, _, _, hx => nomatch hx
  | (_, none) :: _, _, _, _, hall, _, _, _, _ => nomatch hall
  | (d, some c) :: r, k, pre, hfm, hall, hun, hpre, x, hx => by
    obtain ⟨hhead, htail⟩ := List.pairwise_cons.mp hun
    show firstMatch cfg re pd x.1 (pre ++ c :: (basicMappings (k + 1) r).2) = _
    cases hx with
    | head =>
      rw [firstMatch_skip_prefix _ pre (fun y hy => hpre y hy _ List.mem_cons_self), firstMatch_cons,
        (firstMatch_some (hfm _ List.mem_cons_self)).2]
    | tail _ hx' =>
      rw [List.append_cons]
      refine rematch_first cfg re pd wallet r (k + 1) (pre ++ [c]) (fun y hy => hfm y (List.mem_cons_of_mem _ hy)) hall htail
        (fun y hy b hb => ?_) x hx'
      rcases List.mem_append.mp hy with hy | hy
      · exact hpre y hy b (List.mem_cons_of_mem _ hb)
      · rw [List.mem_singleton.1 hy]; exact hhead b hb c rfl

/-- … so re-running the descriptor loop on them reproduces the selection -/
theorem rematch_constraints (cfg : Cfg) (re : Regex) (pd : PD) (wallet : List Cred)
    (ds : List Desc) (cands : List Cand)
    (h : matchConstraints cfg re pd wallet ds = .ok cands)
    (hall : cands.any (fun c => c.2.isNone) = false)
    (hun : Unambiguous cfg re pd cands) :
    matchConstraints cfg re pd (basicMappings 0 cands).2 ds = .ok cands :=
  (matchConstraints_ok h).1 ▸ matchConstraints_of
    (rematch_first cfg re pd wallet cands 0 [] (matchConstraints_ok h).2 hall hun fun _ hx => nomatch hx)

/-- RE-MATCHING IS STABLE for definitions without submission requirements whose selection is unambiguous: `Match` on
    the selected credentials returns the same descriptor map and the same credentials. -/
theorem rematch_stable_basic (cfg : Cfg) (re : Regex) (pd : PD) (wallet : List Cred) (cands : List Cand)
    (ms : List Mapping) (vcs : List Cred) (hbasic : pd.srs = [])
    (hsel : matchConstraints cfg re pd wallet pd.descs = .ok cands)
    (hun : Unambiguous cfg re pd cands)
    (h : pdMatch cfg re pd wallet = .ok (ms, vcs)) : pdMatch cfg re pd vcs = .ok (ms, vcs) := by
  rw [pdMatch_basic hbasic hsel] at h
  split at h
  · cases h
  · next hn =>
    injection h with h
    have := rematch_constraints cfg re pd wallet pd.descs cands hsel (Bool.eq_false_iff.mpr hn) hun
    rw [show vcs = (basicMappings 0 cands).2 by rw [h], pdMatch_basic hbasic this, if_neg hn, h]

/-- WALLET AND VERIFIER AGREE, at full strength for definitions without submission requirements whose selection is
    unambiguous: `hstable` of `wallet_verifier_agree_partial` is not a hypothesis here — it is
    DERIVED from the wallet's own run (`hmatch`, `hsel`) and the structural condition `Unambiguous`. The verifier
    accepts the submission `Build` wrote (single-mapping rewrite included) and resolves exactly the expected mapping. -/
theorem wallet_verifier_agree_basic_unambiguous (re : Regex) (decode : Decoder) (pd : PD) (wallet : List Cred)
    (cands : List Cand) (env : Envelope) (ms : List Mapping) (vcs : List Cred)
    (hbasic : pd.srs = [])
    (hsel : matchConstraints Facts.C12.cfg re pd wallet pd.descs = .ok cands)
    (hun : Unambiguous Facts.C12.cfg re pd cands)
    (hmatch : pdMatch Facts.C12.cfg re pd wallet = .ok (ms, vcs))
    (hpres : env.presentations = [vcs]) (hsig : env.signerOK.any (fun b => !b) = false)
    (hids : (ms.map (·.id)).Nodup)
    (hcar : Carries decode env.asInterface (rewriteSingle ms) vcs) :
    ∃ m, validate Facts.C12.cfg re decode pd env (rewriteSingle ms) = .ok m ∧ expectedMap [] (rewriteSingle ms) vcs = .ok m :=
  wallet_verifier_agree_partial re decode pd env ms vcs hpres hsig
    (rematch_stable_basic Facts.C12.cfg re pd wallet cands ms vcs hbasic hsel hun hmatch) hids hcar

/-- the condition is exactly what the open finding's witness lacks: there the credential selected for `d1` (cB) is
    also accepted by the later descriptor `d2` -/
theorem disagree_witness_is_ambiguous :
    matchConstraints Cfg.fixed (fun _ _ => ReRes.noMatch) wPD [wA, wB] wPD.descs = .ok [(wPD.descs[0]!, some wB), (wPD.descs[1]!, some wA)] ∧
    ¬ Unambiguous Cfg.fixed (fun _ _ => ReRes.noMatch) wPD [(wPD.descs[0]!, some wB), (wPD.descs[1]!, some wA)] := by
  refine ⟨rfl, ?_⟩
  intro h
  have := (List.pairwise_cons.mp h).1 (wPD.descs[1]!, some wA) (by simp) wB rfl
  revert this
  decide

/-- non-vacuity: a two-descriptor definition whose selection IS unambiguous (d1 wants t = "B", d2 wants t = "A") -/
def uPD : PD :=
  { descs := [{ id := "d1", constraints := some [{ paths := [some { steps := [.key "t"] }], filter := some { type := "string", const := some "B" } }] },
              { id := "d2", constraints := some [{ paths := [some { steps := [.key "t"] }], filter := some { type := "string", const := some "A" } }] }] }

example : uPD.srs = [] ∧
    matchConstraints Cfg.fixed (fun _ _ => ReRes.noMatch) uPD [wA, wB] uPD.descs = .ok [(uPD.descs[0]!, some wB), (uPD.descs[1]!, some wA)] ∧
    pdMatch Cfg.fixed (fun _ _ => ReRes.noMatch) uPD [wA, wB] = .ok (wMs, [wB, wA]) := ⟨rfl, rfl, rfl⟩

example : Unambiguous Cfg.fixed (fun _ _ => ReRes.noMatch) uPD [(uPD.descs[0]!, some wB), (uPD.descs[1]!, some wA)] := by
  unfold Unambiguous
  refine List.pairwise_cons.mpr ⟨?_, List.pairwise_cons.mpr ⟨(fun a ha => by cases ha), List.Pairwise.nil⟩⟩
  intro b hb ca hca
  simp at hb; subst hb
  injection hca with hca; subst hca
  decide

end Nuts.C12.Props
