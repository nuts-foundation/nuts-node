/-
  C04 — "a UUID token id" and "signed by an authorised key": the jti grammar (uuid.Parse of
  google/uuid v1.6.0, NutsModel/C04/Uuid.lean) and the RSA strength rule of keyIsSecure.
-/
import NutsModel.C04.Uuid
import NutsModel.C04.Token
import NutsModel.Facts.C04

namespace Nuts.C04.Props
open Nuts.C04

/-- bestPracticesCheck tests the jti with `uuid.Validate` on `tokenJTI(token)` (a non-string jti is "") -/
theorem fact_jti_check :
    Facts.C04.jtiCheck = ["jti := tokenJTI(token)", "if err := uuid.Validate(jti); err != nil"]
    ∧ Facts.C04.jtiFunction = .validate
    ∧ Facts.C04.tokenJTIBody =
      "{ if jtiIface, ok := token.Get(jwt.JwtIDKey); ok { if jtiStr, ok := jtiIface.(string); ok { return jtiStr } } return \"\" }" :=
  ⟨rfl, rfl, rfl⟩

/-- the grammar in Uuid.lean is the one of this version of the library (an upgrade needs a re-read of `Parse`) -/
theorem fact_uuid_module_version : Facts.C04.uuidModuleVersion = "v1.6.0" := rfl

/-- keyIsSecure measures an RSA key by the BIT length of its modulus (`N.BitLen()`), not by its size in bytes -/
theorem fact_rsa_strength_is_modulus_bit_length :
    Facts.C04.rsaStrengthCase =
      "if bitLen := rawKey.N.BitLen(); bitLen >= minimumRSAKeySize { return true, nil }; return false, fmt.Errorf(\"key is too weak (rsa keys must be at least %d-bit)\", minimumRSAKeySize)" := by
  rfl

theorem dashAt_take {s : Str} {n i : Nat} (h : i < n) : dashAt (s.take n) i = dashAt s i := by
  simp only [dashAt, List.getElem?_take_of_lt h]

theorem hexPairAt_take {s : Str} {n i : Nat} (h : i + 1 < n) : hexPairAt (s.take n) i = hexPairAt s i := by
  simp only [hexPairAt, List.getElem?_take_of_lt h, List.getElem?_take_of_lt (Nat.lt_of_succ_lt h)]

theorem parseDashed_take (s : Str) : parseDashed (s.take 36) = parseDashed s := by
  have hx : uuidHexOffsets.all (hexPairAt (s.take 36)) = uuidHexOffsets.all (hexPairAt s) := by
    rw [Bool.eq_iff_iff, List.all_eq_true, List.all_eq_true]
    refine forall₂_congr fun i hi => ?_
    rw [hexPairAt_take]
    revert i; decide
  simp (disch := omega) only [parseDashed, hx, dashAt_take]

/-- what may stand around the UUID proper -/
inductive Affix (pre post : Str) : Prop where
  | bare (h1 : pre = []) (h2 : post = [])
  | urn (h1 : isUrnPrefix pre = true) (h2 : post = [])
  | braces (h1 : pre = ['{']) (h2 : post = ['}'])

theorem take_one_of_head {s : Str} {c : Char} (h : s.head? = some c) : s.take 1 = [c] := by
  cases s with
  | nil => simp at h
  | cons a r => simp at h; simp [h]

theorem drop_37_of_last {s : Str} {c : Char} (hl : s.length = 38) (h : s.getLast? = some c) : s.drop 37 = [c] := by
  have h1 : (s.drop 37).length = 1 := by simp [hl]
  have h2 : (s.drop 37).getLast? = some c := by
    rw [List.getLast?_drop]; simp [hl, h]
  match hd : s.drop 37, h1 with
  | [x], _ => rw [hd] at h2; simp at h2; rw [h2]

/-- **jti_accepted_shapes** (every byte string): whatever the jti test accepts is a canonical 8-4-4-4-12 UUID or 32 hex
    digits, alone, or the canonical form behind a `urn:uuid:` prefix (any case), or the canonical form in braces.
    Nothing else — no free text before, after or between. -/
theorem jti_accepted_shapes (s : Str) (h : jtiOK Facts.C04.jtiFunction s = true) :
    ∃ pre core post, s = pre ++ core ++ post ∧ Affix pre post ∧
      (isCanonicalUuid core = true ∨ (core.length = 32 ∧ (List.range 16).all (fun i => hexPairAt core (2 * i)) = true ∧ pre = [] ∧ post = [])) := by
  rw [fact_jti_check.2.1, jtiOK] at h
  revert h
  fun_cases uuidValidate s with
  | case1 h36 => exact fun h => ⟨[], s, [], by simp, .bare rfl rfl, Or.inl (by simp [isCanonicalUuid, h36, h])⟩
  | case2 _ h45 =>
    intro h
    simp only [Bool.and_eq_true] at h
    refine ⟨s.take 9, s.drop 9, [], by simp, .urn h.1 rfl, Or.inl ?_⟩
    simp only [isCanonicalUuid, Bool.and_eq_true, decide_eq_true_eq, List.length_drop]
    exact ⟨by omega, h.2⟩
  | case3 _ _ h38 =>
    intro h
    simp only [Bool.and_eq_true, decide_eq_true_eq] at h
    obtain ⟨⟨hh, hlast⟩, hd⟩ := h
    refine ⟨s.take 1, (s.drop 1).take 36, s.drop 37, ?_, ?_, Or.inl ?_⟩
    · have : s.drop 37 = (s.drop 1).drop 36 := by simp
      rw [this, List.append_assoc, List.take_append_drop, List.take_append_drop]
    · exact .braces (take_one_of_head hh) (drop_37_of_last h38 hlast)
    · simp only [isCanonicalUuid, Bool.and_eq_true, decide_eq_true_eq, List.length_take, List.length_drop]
      exact ⟨by omega, (parseDashed_take _).trans hd⟩
  | case4 _ _ _ h32 => exact fun h => ⟨[], s, [], by simp, .bare rfl rfl, Or.inr ⟨h32, h, rfl, rfl⟩⟩
  | case5 => nofun

theorem validate_implies_parse (s : Str) : uuidValidate s = true → uuidParse s = true := by
  unfold uuidParse
  fun_cases uuidValidate s with
  | case1 h1 => rw [if_pos h1]; exact id
  | case2 h1 h2 => rw [if_neg h1, if_pos h2]; exact id
  | case3 h1 h2 h3 => rw [if_neg h1, if_neg h2, if_pos h3, Bool.and_eq_true]; exact And.right
  | case4 h1 h2 h3 h4 => rw [if_neg h1, if_neg h2, if_neg h3, if_pos h4]; exact id
  | case5 => nofun

/-- the defect of the code before the repair (witness replayed on the real middleware by the token harness, variant
    `jti-uuid-38-any-ends`): `uuid.Parse` takes ANY two bytes around a canonical UUID for braces -/
theorem uuid_parse_admits_non_uuid_38 :
    jtiOK .parse ("x".toList ++ "123e4567-e89b-12d3-a456-426614174000".toList ++ "y".toList) = true
    ∧ jtiOK .validate ("x".toList ++ "123e4567-e89b-12d3-a456-426614174000".toList ++ "y".toList) = false := by
  -- The kernel evaluates `toList` of a string literal by decoding its UTF-8 bytes position by position, at a cost
  -- quadratic in the length; `String.toList_ofList` reads the characters off the literal instead.
  repeat rewrite [String.toList_ofList]
  decide +kernel

/-- `uuid.Parse` switches on the length first -/
theorem uuidParse_length {s : Str} :
    uuidParse s = true → s.length = 36 ∨ s.length = 36 + 9 ∨ s.length = 36 + 2 ∨ s.length = 32 := by
  fun_cases uuidParse s with
  | case1 h1 => exact fun _ => .inl h1
  | case2 _ h2 => exact fun _ => .inr (.inl h2)
  | case3 _ _ h3 => exact fun _ => .inr (.inr (.inl h3))
  | case4 _ _ _ h4 => exact fun _ => .inr (.inr (.inr h4))
  | case5 => nofun

theorem uuid_with_extra_text_rejected_parse (pre u post : Str) (hu : u.length = 36)
    (hk : pre.length + post.length ≠ 0 ∧ pre.length + post.length ≠ 2 ∧ pre.length + post.length ≠ 9) :
    uuidParse (pre ++ u ++ post) = false := by
  cases hp : uuidParse (pre ++ u ++ post) with
  | false => rfl
  | true =>
    have := uuidParse_length hp
    simp only [List.length_append, hu] at this
    omega

/-- **uuid_with_extra_text_rejected**: a canonical UUID with ANY text around it whose total length is not 2 or 9 bytes
    (`batch-<uuid>`, `<uuid>-retry-17`, `<uuid><uuid>`, free text containing a UUID …) is not a UUID -/
theorem uuid_with_extra_text_rejected (fn : JtiFn) (pre u post : Str) (hu : u.length = 36)
    (hk : pre.length + post.length ≠ 0 ∧ pre.length + post.length ≠ 2 ∧ pre.length + post.length ≠ 9) :
    jtiOK fn (pre ++ u ++ post) = false := by
  have hp := uuid_with_extra_text_rejected_parse pre u post hu hk
  cases fn with
  | parse => exact hp
  | validate =>
    simp only [jtiOK]
    cases hv : uuidValidate (pre ++ u ++ post) with
    | false => rfl
    | true => rw [validate_implies_parse _ hv] at hp; exact absurd hp (by decide)

/-- non-vacuity and the remaining affix lengths on a concrete UUID: the accepted notations, and 2 / 9 bytes of text that
    are not the braces position / the URN prefix -/
def exUuid : Str := "123e4567-e89b-12d3-a456-426614174000".toList

example : uuidParse exUuid = true := by
  unfold exUuid
  repeat rewrite [String.toList_ofList]
  decide +kernel
example : uuidParse ("uRn:UUID:".toList ++ exUuid) = true := by
  unfold exUuid
  repeat rewrite [String.toList_ofList]
  decide +kernel
example : uuidParse ("{".toList ++ exUuid ++ "}".toList) = true := by
  unfold exUuid
  repeat rewrite [String.toList_ofList]
  decide +kernel
example : uuidParse "123e4567e89b12d3a456426614174000".toList = true := by
  repeat rewrite [String.toList_ofList]
  decide
example : uuidParse ("batch-".toList ++ exUuid) = false := by
  unfold exUuid
  repeat rewrite [String.toList_ofList]
  decide
example : uuidParse (exUuid ++ "-retry-17".toList) = false := by      -- 9 bytes behind: not the URN form
  unfold exUuid
  repeat rewrite [String.toList_ofList]
  decide
example : uuidParse ("urn-uuid:".toList ++ exUuid) = false := by
  unfold exUuid
  repeat rewrite [String.toList_ofList]
  decide
example : uuidParse (exUuid ++ "-1".toList) = false := by            -- 2 bytes behind: dashes are off by one
  unfold exUuid
  repeat rewrite [String.toList_ofList]
  decide
example : uuidParse ("id".toList ++ exUuid) = false := by
  unfold exUuid
  repeat rewrite [String.toList_ofList]
  decide
example : uuidParse (exUuid ++ exUuid) = false := by
  unfold exUuid
  repeat rewrite [String.toList_ofList]
  decide
example : uuidParse [] = false := by decide
example : uuidValidate ("{".toList ++ exUuid ++ "}".toList) = true := by
  unfold exUuid
  repeat rewrite [String.toList_ofList]
  decide +kernel
example : uuidValidate ("x".toList ++ exUuid ++ "y".toList) = false := by
  unfold exUuid
  repeat rewrite [String.toList_ofList]
  decide
example : uuidValidate ("{".toList ++ exUuid ++ "-".toList) = false := by
  unfold exUuid
  repeat rewrite [String.toList_ofList]
  decide

/-- a rule that measures the key in whole bytes (`Size()*8 >= 2048`) admits 2041…2047-bit moduli, which the rule of the
    source (`N.BitLen() >= 2048`, regenerated fact above + `fact_authorized_keys`) refuses -/
theorem byte_rounded_strength_rule_admits_weak_keys (bits : Nat) (h : 2041 ≤ bits ∧ bits ≤ 2047) :
    (bits + 7) / 8 * 8 ≥ 2048 ∧ keyIsSecure Facts.C04.minimumRSAKeySize (.rsa bits) = false := by
  have : Facts.C04.minimumRSAKeySize = 2048 := by decide
  rw [this]
  simp only [keyIsSecure, ge_iff_le, decide_eq_false_iff_not, Nat.not_le]
  omega

example : keyIsSecure Facts.C04.minimumRSAKeySize (.rsa 2048) = true := by decide

end Nuts.C04.Props
