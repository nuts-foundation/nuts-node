/-
  C04 — "signed by an authorised key": the strength rule of authorized_keys.go on the BYTES of the key blob.
-/
import NutsModel.C04.SshKey
import NutsModel.Facts.C04
import NutsProofs.Props.C04

namespace Nuts.C04.Props
open Nuts.C04

/-- the RSA case of keyIsSecure measures the modulus with N.BitLen() (regenerated: the model and the driver run on this value) -/
theorem fact_rsa_measure_is_bit_length : Facts.C04.rsaMeasure = .bitLen := rfl

/-- `bits.Len8` is a 256-entry table in Go (`len8tab`); the model's threshold chain agrees with the binary logarithm on every
    non-zero byte, checked entry by entry -/
theorem bitsOfByte_eq_log2 : ∀ b < 256, 0 < b → bitsOfByte b = b.log2 + 1 := by decide +kernel

theorem bitsOfByte_spec (b : Nat) (h : b < 256) (h0 : 0 < b) : 2 ^ (bitsOfByte b - 1) ≤ b ∧ b < 2 ^ bitsOfByte b ∧ 1 ≤ bitsOfByte b := by
  rw [bitsOfByte_eq_log2 b h h0]
  exact ⟨Nat.log2_self_le (Nat.ne_of_gt h0), Nat.lt_log2_self, Nat.le_add_left ..⟩

theorem natOfBytes_foldl (bs : Bytes) (a : Nat) :
    bs.foldl (fun a b => a * 256 + b.toNat) a = a * 256 ^ bs.length + bs.foldl (fun a b => a * 256 + b.toNat) 0 := by
  induction bs generalizing a with
  | nil => simp
  | cons b r ih =>
    simp only [List.foldl_cons, List.length_cons]
    rw [ih (a * 256 + b.toNat), ih (0 * 256 + b.toNat)]
    rw [Nat.pow_succ, Nat.add_mul, Nat.zero_mul, Nat.zero_add, Nat.mul_assoc, Nat.mul_comm 256, Nat.add_assoc]

theorem natOfBytes_cons (b : UInt8) (r : Bytes) : natOfBytes (b :: r) = b.toNat * 256 ^ r.length + natOfBytes r := by
  unfold natOfBytes
  simp only [List.foldl_cons]
  rw [natOfBytes_foldl]; simp

theorem natOfBytes_lt (bs : Bytes) : natOfBytes bs < 256 ^ bs.length := by
  induction bs with
  | nil => simp [natOfBytes]
  | cons b r ih =>
    rw [natOfBytes_cons, List.length_cons, Nat.pow_succ]
    have hb : b.toNat < 256 := UInt8.toNat_lt b
    have : b.toNat * 256 ^ r.length + 256 ^ r.length ≤ 256 * 256 ^ r.length := by
      have := Nat.mul_le_mul_right (256 ^ r.length) (show b.toNat + 1 ≤ 256 by omega)
      rw [Nat.add_mul, Nat.one_mul] at this; exact this
    rw [Nat.mul_comm (256 ^ r.length) 256]; omega

/-- `BitLen` of a byte string is the position of the highest set bit of its VALUE, for every byte string (leading zeros or not) -/
theorem bitLen_spec (bs : Bytes) :
    natOfBytes bs < 2 ^ bitLen bs ∧ (0 < bitLen bs → 2 ^ (bitLen bs - 1) ≤ natOfBytes bs) := by
  induction bs with
  | nil => simp [natOfBytes, bitLen]
  | cons b r ih =>
    rw [natOfBytes_cons]
    unfold bitLen
    by_cases hb : b = 0
    · subst hb; simpa using ih
    · simp only [hb, if_false]
      have hbn : 0 < b.toNat := by
        rcases Nat.eq_zero_or_pos b.toNat with h | h
        · exact absurd (UInt8.toNat_inj.mp (by simpa using h)) hb
        · exact h
      have hs := bitsOfByte_spec b.toNat (UInt8.toNat_lt b) hbn
      have hr := natOfBytes_lt r
      have p256 : (256 : Nat) ^ r.length = 2 ^ (8 * r.length) := by rw [Nat.pow_mul]
      rw [p256] at hr ⊢
      -- with P = 2 ^ (8 * |r|):  2 ^ (bits - 1) * P ≤ b * P ≤ b * P + value r < (b + 1) * P ≤ 2 ^ bits * P
      constructor
      · calc b.toNat * 2 ^ (8 * r.length) + natOfBytes r
            < b.toNat * 2 ^ (8 * r.length) + 2 ^ (8 * r.length) := Nat.add_lt_add_left hr _
          _ = (b.toNat + 1) * 2 ^ (8 * r.length) := (Nat.succ_mul ..).symm
          _ ≤ 2 ^ bitsOfByte b.toNat * 2 ^ (8 * r.length) := Nat.mul_le_mul_right _ hs.2.1
          _ = 2 ^ (8 * r.length + bitsOfByte b.toNat) := by rw [Nat.pow_add, Nat.mul_comm]
      · intro _
        calc 2 ^ (8 * r.length + bitsOfByte b.toNat - 1)
            = 2 ^ (bitsOfByte b.toNat - 1) * 2 ^ (8 * r.length) := by
              rw [Nat.add_sub_assoc hs.2.2, Nat.pow_add, Nat.mul_comm]
          _ ≤ b.toNat * 2 ^ (8 * r.length) := Nat.mul_le_mul_right _ hs.1
          _ ≤ _ := Nat.le_add_right ..

/-- the strength rule is a rule about the modulus as a NUMBER: `BitLen ≥ k+1` iff the value is at least 2^k -/
theorem bitLen_ge_iff (bs : Bytes) (k : Nat) : k + 1 ≤ bitLen bs ↔ 2 ^ k ≤ natOfBytes bs := by
  have hs := bitLen_spec bs
  constructor
  · intro h
    exact Nat.le_trans (Nat.pow_le_pow_right (by omega) (by omega)) (hs.2 (by omega))
  · intro h
    rcases Nat.lt_or_ge (bitLen bs) (k + 1) with hlt | hge
    · have : 2 ^ bitLen bs ≤ 2 ^ k := Nat.pow_le_pow_right (by omega) (by omega)
      omega
    · exact hge

/-- whole-byte rounding never under-states and over-states by less than 8 bits -/
theorem sizeBits_bounds (bs : Bytes) : bitLen bs ≤ sizeBits bs ∧ sizeBits bs < bitLen bs + 8 := by
  unfold sizeBits; omega

/-- every blob the rule of the source accepts carries an ECDSA key, an Ed25519 key, or an "ssh-rsa" modulus n ≥ 2^2047 — for
    ALL byte strings -/
theorem secure_blob_kinds (blob : Bytes)
    (h : blobIsSecure Facts.C04.rsaMeasure Facts.C04.minimumRSAKeySize blob = true) :
    kindOfBlob Facts.C04.rsaMeasure blob = .ecdsa ∨ kindOfBlob Facts.C04.rsaMeasure blob = .ed25519 ∨
      ∃ n, rsaModulus blob = some n ∧ 2 ^ 2047 ≤ natOfBytes n := by
  rw [fact_rsa_measure_is_bit_length, fact_authorized_keys.1] at *
  revert h
  unfold blobIsSecure
  fun_cases kindOfBlob .bitLen blob with
  | case3 r n hm hs =>
    intro h
    refine .inr (.inr ⟨n, by simp [rsaModulus, hs, hm], ?_⟩)
    unfold rsaKind at h
    cases n with
    | nil => simp [keyIsSecure] at h
    | cons t rest =>
      simp only at h
      split at h
      · simp [keyIsSecure] at h
      · simp only [keyIsSecure, measure] at h
        exact (bitLen_ge_iff _ 2047).mp (of_decide_eq_true h)
  | case4 => exact fun _ => .inr (.inl rfl)
  | case5 => exact fun _ => .inl rfl
  | _ => nofun

/-- and conversely: an "ssh-rsa" blob with a non-negative modulus is accepted EXACTLY when the modulus is at least 2^2047 -/
theorem rsa_blob_secure_iff (blob n : Bytes) (hm : rsaModulus blob = some n) (hpos : ∀ t ∈ n.head?, t.toNat < 128) :
    blobIsSecure Facts.C04.rsaMeasure Facts.C04.minimumRSAKeySize blob = true ↔ 2 ^ 2047 ≤ natOfBytes n := by
  rw [fact_rsa_measure_is_bit_length, fact_authorized_keys.1]
  unfold rsaModulus at hm
  unfold blobIsSecure kindOfBlob
  cases hs : sshString blob with
  | none => simp [hs] at hm
  | some p =>
    obtain ⟨algo, r⟩ := p
    simp only [hs] at hm ⊢
    by_cases ha : algo = algoName "ssh-rsa"
    · simp only [ha, if_true] at hm ⊢
      simp only [hm]
      unfold rsaKind
      cases n with
      | nil =>
        have hp : 0 < 2 ^ 2047 := Nat.two_pow_pos 2047
        simp only [keyIsSecure, natOfBytes, List.foldl_nil]
        constructor
        · intro h; have := of_decide_eq_true h; omega
        · intro h; omega
      | cons t rest =>
        have ht : ¬ t.toNat ≥ 128 := by have := hpos t (by simp); omega
        simp only [ht, if_false, keyIsSecure, measure, decide_eq_true_eq]
        exact bitLen_ge_iff _ 2047
    · simp [ha] at hm

/-- a 2041-bit modulus: 0x01 followed by 255 zero bytes -/
def weak2041 : Bytes := 1 :: List.replicate 255 0

theorem bitLen_one_zeros (n : Nat) : bitLen (1 :: List.replicate n 0) = 8 * n + 1 := by
  simp [bitLen, bitsOfByte]

/-- the whole-byte rule (`Size()*8`, seeded mutation C04-w8m2) accepts a modulus BELOW 2^2047, the source's rule does not -/
theorem size_rule_admits_weak_modulus :
    natOfBytes weak2041 < 2 ^ 2047 ∧ keyIsSecure 2048 (rsaKind .sizeTimes8 weak2041) = true ∧
      keyIsSecure 2048 (rsaKind .bitLen weak2041) = false := by
  have hb : bitLen weak2041 = 2041 := bitLen_one_zeros 255
  have hk : ∀ m, rsaKind m weak2041 = .rsa (measure m weak2041) := fun m => by unfold rsaKind weak2041; rfl
  refine ⟨?_, ?_, ?_⟩
  · rcases Nat.lt_or_ge (natOfBytes weak2041) (2 ^ 2047) with h | h
    · exact h
    · have := (bitLen_ge_iff weak2041 2047).mpr h; omega
  · simp [hk, measure, sizeBits, keyIsSecure, hb]
  · simp [hk, measure, keyIsSecure, hb]

/-- END TO END over the file: every authorised key of a file whose entries are given as key BLOBS comes from a line that is
    not commented out, has a user name, and carries an ECDSA / Ed25519 key or an RSA modulus of at least 2^2047 -/
theorem authorized_blob_keys_sound (ls : List BlobLine) (ks : List AuthKey) (k : AuthKey)
    (hs : authorizedKeysOfBlobs Facts.C04.rsaMeasure Facts.C04.minimumRSAKeySize ls = some ks) (h : k ∈ ks) :
    ∃ l ∈ ls, preprocess l.raw ≠ [] ∧ k.comment ≠ "" ∧ ∃ blob, l.parsed = some (blob, k.comment) ∧
      (kindOfBlob Facts.C04.rsaMeasure blob = .ecdsa ∨ kindOfBlob Facts.C04.rsaMeasure blob = .ed25519 ∨
        ∃ n, rsaModulus blob = some n ∧ 2 ^ 2047 ≤ natOfBytes n) := by
  unfold authorizedKeysOfBlobs at hs
  obtain ⟨kl, hkl, hpre, hc, kind, hv, hkind⟩ := authorized_keys_sound _ ks k hs h
  obtain ⟨l, hl, rfl⟩ := List.mem_map.mp hkl
  refine ⟨l, hl, hpre, hc, ?_⟩
  unfold BlobLine.toKeyLine at hv
  cases hp : l.parsed with
  | none => simp [hp] at hv
  | some p =>
    obtain ⟨blob, c⟩ := p
    simp only [hp, SshVerdict.key.injEq] at hv
    obtain ⟨hk1, hk2⟩ := hv
    refine ⟨blob, by rw [hk2], ?_⟩
    apply secure_blob_kinds
    unfold blobIsSecure
    rw [hk1, fact_authorized_keys.1]
    rcases hkind with h1 | h1 | ⟨bits, h1, h2⟩ <;> subst h1 <;> simp [keyIsSecure]
    exact h2

/-- non-vacuity: a file with one Ed25519 entry -/
example : authorizedKeysOfBlobs .bitLen 2048
    [{ raw := "ssh-ed25519 AAAA alice".toList, parsed := some (encString (algoName "ssh-ed25519") ++ encString [1, 2, 3], "alice") }]
    = some [{ comment := "alice" }] := by decide +kernel

end Nuts.C04.Props
