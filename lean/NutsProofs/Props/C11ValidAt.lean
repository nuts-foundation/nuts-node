/-
  C11 — a received revocation counts for EVERY `validAt` (seeded mutation C11-w8m1).
  `verifier.Verify` evaluates the revocation store and the credential status before, and independently of, the validity
  period at `validAt`. All statements quantify over every history, every `validAt`, every clock and every validity period.
-/
import NutsModel.C11.ValidAt
import NutsProofs.Props.C11
namespace Nuts.C11.Props

theorem verifyAt_revoked_iff (E : Env) (i : Bool) (w : World) (c : Cred) (nutsType rf : Bool)
    (validAt : Option Int) (now : Int) (period : Int → Bool) :
    (verifyAt E i w c nutsType rf validAt now period).1 = .revoked ↔ (verifyFullF E i w c nutsType rf).1 = .revoked := by
  unfold verifyAt
  split
  · rename_i w' h
    rw [h]
    split <;> simp
  · rename_i r hne
    rfl

/-- `revoked_whatever_valid_at`: whether `Verify` answers revoked does not depend on `validAt`, the clock or the credential's
    validity period — for every world, credential, validator kind and store-read outcome. -/
theorem revoked_whatever_valid_at (E : Env) (i : Bool) (w : World) (c : Cred) (nutsType rf : Bool)
    (at1 at2 : Option Int) (now1 now2 : Int) (p1 p2 : Int → Bool) :
    (verifyAt E i w c nutsType rf at1 now1 p1).1 = .revoked ↔ (verifyAt E i w c nutsType rf at2 now2 p2).1 = .revoked := by
  rw [verifyAt_revoked_iff, verifyAt_revoked_iff]

/-- `received_revocation_refused_at_every_valid_at`: a node that holds a revocation for the credential's id answers revoked for
    every `validAt` (default validator, revocation store readable). -/
theorem received_revocation_refused_at_every_valid_at (E : Env) (i : Bool) (w : World) (c : Cred)
    (hrev : (w.get i).credRevoked c = true) (hid : c.id.isSome = true) (validAt : Option Int) (now : Int) (period : Int → Bool) :
    (verifyAt E i w c false false validAt now period).1 = .revoked := by
  rw [verifyAt_revoked_iff]
  exact verifyFullF_of_credRevoked hrev

/-- `revoked_forever_network_at_every_valid_at`: `revocation_before_credential` for `Verify(…, validAt)`: once the revocation
    was accepted at some point of a history, every later verification — asking about ANY moment `validAt` (before, at or
    after the revocation's own date, or nil), at any clock value, whatever the credential's validity period — answers revoked
    (default validator, revocation store readable). -/
theorem revoked_forever_network_at_every_valid_at (E : Env) (K : KeyEnv) (hE : EnvOK E) (w0 : World) (h0 : WInv E w0) (i : Bool)
    (r : Revocation) (c : Cred) (before after : List Act) (n' : Node)
    (hacc : registerRevocation K ((run E K w0 before).get i) r = .ok n') (hc : c.id = some r.subject)
    (validAt : Option Int) (now : Int) (period : Int → Bool) :
    (verifyAt E i (run E K w0 (before ++ [.register i r] ++ after)) c false false validAt now period).1 = .revoked :=
  received_revocation_refused_at_every_valid_at E i _ c (run_register hE h0 before after hacc hc).1
    (by simp [hc]) validAt now period

/-- non-vacuity: B's accepted revocation, then verification asking about a moment long before (`validAt = -100000`), with a
    validity period that does not even contain that moment: revoked, not "not valid at that time" -/
example : (verifyAt exEnv false (run exEnv exKeys exWorld [.register false exRevByB]) { id := some "did:nuts:B#1", issuer := "did:nuts:B", statuses := none }
    false false (some (-100000)) 0 (fun t => decide (-60 ≤ t))).1 = .revoked := by decide +kernel
example : (verifyAt exEnv false exWorld { id := some "did:nuts:B#1", issuer := "did:nuts:B", statuses := none }
    false false (some (-100000)) 0 (fun t => decide (-60 ≤ t))).1 = .err "not-valid-at-time" := by decide

end Nuts.C11.Props
