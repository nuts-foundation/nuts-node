/-
  C16 — the client loop's guards against what a REMOTE server hands out (fix bb52a33:
  format / id checked before anything is dereferenced or stored) and the seed discipline that lets a client notice a
  server reset: `Register` passes the empty seed, `sqlStore.add` then draws a fresh one, seeds are never reused.
-/
import NutsModel.C16.Discovery
import NutsModel.C16.Spec
import NutsModel.Facts.C16
import NutsProofs.Lemmas.C16Replica
import NutsProofs.Props.C16
import NutsProofs.Props.C16Node
import NutsModel.C16.Node

namespace Nuts.C16.Props
open Nuts Nuts.C16

/-! ### regenerated facts -/

/-- the top-level statements of the loop in `clientUpdater.updateService`, in source order: format, id, signer, exists
    (skip), add — `clientLoop` runs exactly these, in this order -/
theorem fact_update_loop_guards :
    Facts.C16.updateLoopGuards =
      ["if presentation.Format() != vc.JWTPresentationProofFormat -> return:format",
       "if presentation.ID == nil -> return:no-id",
       "call credential.PresentationSigner", "if err != nil -> return",
       "call u.store.exists", "if err != nil -> return", "if exists -> continue",
       "if record, err := u.store.add(service.ID, presentation, seed, serverTimestamp); err != nil -> return"] := rfl

/-- `Register` calls `store.add` with the EMPTY seed and timestamp 0 (`register` passes `0 0`); `updateService` passes the
    response's seed and timestamp (`clientLoop` passes `seed ts`) -/
theorem fact_add_arguments :
    Facts.C16.registerAddArgs = ["serviceID", "presentation", "\"\"", "0"] ∧
    Facts.C16.updateAddArgs = ["service.ID", "presentation", "seed", "serverTimestamp"] := ⟨rfl, rfl⟩

/-- an empty seed argument is replaced by `uuid.NewString()`; the list's seed is set only while it is empty
    (`Store.add`: `if s1.seed = 0 then (if seed = 0 then fresh else seed) else s1.seed`) -/
theorem fact_seed_draw :
    Facts.C16.seedDraw = ["add: if len(seed) == 0 { seed = uuid.NewString() }",
                          "incrementTimestamp: if len(service.Seed) == 0 { service.Seed = seed }"] := rfl

/-! ### the client loop and hostile responses -/

/-- **client_loop_never_panics.** Whatever a (faulty, hostile) Discovery Server puts into its response — presentations
    without id, not JWTs, without signer, with credentials without id, in any order — the loop of `updateService` ends
    with `ok` or an error, never with a panic (before fix bb52a33 an id-less or non-JWT presentation crashed the
    background update routine of every client of that server). -/
theorem client_loop_never_panics (d : Def) (now seed ts : Nat) :
    ∀ (resp : List VP) (c : Store) (ctr : Nat) (p : String), (clientLoop d now seed ts c ctr resp).2.2 ≠ .panic p := by
  intro resp c ctr p
  fun_induction clientLoop d now seed ts c ctr resp
  case case5 ih => exact ih
  case case6 ih => exact ih
  case case8 hj id hi _ _ _ _ _ q ha =>
    exact absurd (congrArg Prod.snd ha) (add_no_panic _ now _ seed ts _ id (Bool.of_not_eq_false hj) hi q)
  all_goals exact fun h => nomatch h

/-- **client_refuses_malformed.** A presentation that is not a JWT or has no id is refused where the loop meets it: the
    replica, its timestamp and its seed stay exactly as they were at that point, nothing of it is stored. -/
theorem client_refuses_malformed (d : Def) (now seed ts : Nat) (c : Store) (ctr : Nat) (vp : VP) (rest : List VP)
    (h : vp.jwt = false ∨ vp.id = none) :
    ∃ e, clientLoop d now seed ts c ctr (vp :: rest) = (c, ctr, .err e) ∧ (e = "format" ∨ e = "no-id") := by
  rcases clientLoop_cons_cases d now seed ts c ctr vp rest with
    ⟨x, ⟨_, hx⟩ | ⟨_, hx⟩ | ⟨hj, ⟨_, hi⟩, _⟩, e⟩ | ⟨_, _, _, hj, hi, _⟩
  · exact ⟨x, e, .inl hx⟩
  · exact ⟨x, e, .inr hx⟩
  all_goals
    rcases h with h | h
    · exact nomatch hj.symm.trans h
    · exact nomatch hi.symm.trans h

/-- … also behind any number of entries the replica already holds (the shape of a quiescent poll of a hostile server):
    the whole poll changes nothing. -/
theorem client_refuses_malformed_after_held (d : Def) (now seed ts : Nat) (c : Store) (ctr : Nat) (vp : VP) :
    ∀ (held rest : List VP), (∀ v ∈ held, ∃ subj id e, VPWF v subj id e ∧ c.hasKey subj id = true) →
      (vp.jwt = false ∨ vp.id = none) →
      ∃ e, clientLoop d now seed ts c ctr (held ++ vp :: rest) = (c, ctr, .err e) ∧ (e = "format" ∨ e = "no-id") := by
  intro held
  induction held with
  | nil => intro rest _ h; exact client_refuses_malformed d now seed ts c ctr vp rest h
  | cons v hs ih =>
    intro rest hh h
    obtain ⟨subj, id, e, hv, hk⟩ := hh v (by simp)
    rw [List.cons_append, clientLoop_cons d now seed ts c ctr v (hs ++ vp :: rest) subj id e hv, clientIter_skip hk]
    exact ih rest (fun v' hv' => hh v' (by simp [hv'])) h

example : (clientLoop exDef 10 5 3 { seed := 5, lastTs := 3 } 0 [{ exVP "a" "v1" 50 with id := none }]).2.2 = .err "no-id" ∧
    (clientLoop exDef 10 5 3 { seed := 5, lastTs := 3 } 0 [{ exVP "a" "v1" 50 with id := none }]).1.rows = [] := by decide

example : (clientLoop exDef 10 5 3 { seed := 5, lastTs := 3 } 0 [exVP "b" "v2" 60, { exVP "a" "v1" 50 with jwt := false }]).2.2 =
    .err "format" := by decide

/-! ### seeds are never reused: a client notices a server reset -/

/-- **seeds_bounded.** Over ALL histories (registrations, resets, polls in both reads, overlapping polls, restarts, any map
    order): no seed anywhere — server list, replica, responses in flight — is ahead of the draw counter, i.e. every seed
    in the system was drawn by an earlier `uuid.NewString()` (or is still empty). -/
theorem seeds_bounded (cfg : Cfg) (d : Def) (evs : List Ev) (t0 : Nat) : SeedsBounded (run cfg d { t := t0 } evs) :=
  run_inv cfg d SeedsBounded (fun w e => seedsBounded_step cfg d w e) evs { t := t0 } (seedsBounded_init t0)

/-- **reset_draws_unseen_seed.** After ANY history, a server that lost its list (`reset`) and accepts a registration
    gets a seed that is not empty and differs from the seed of the list before the reset, from the replica's seed and
    from the seed of every response still in flight: `Register` passes the empty seed (`fact_add_arguments`), `add`
    draws a fresh one (`fact_seed_draw`). This is exactly what the seeded mutation C16-w8m1 (seed derived from the
    service id) destroys. -/
theorem reset_draws_unseen_seed (cfg : Cfg) (d : Def) (evs : List Ev) (t0 : Nat) (vp : VP)
    (hacc : (step cfg d (step cfg d (run cfg d { t := t0 } evs) .reset).1 (.register vp)).2 = .ok ()) :
    let w := run cfg d { t := t0 } evs
    let w' := (step cfg d (step cfg d w .reset).1 (.register vp)).1
    w'.S.seed ≠ 0 ∧ w'.S.seed ≠ w.S.seed ∧ w'.S.seed ≠ w'.C.seed ∧ w'.C = w.C ∧
    (∀ p, w'.pending = some p → p.seed ≠ w'.S.seed) ∧ ∀ p ∈ w'.delayed, p.seed ≠ w'.S.seed := by
  intro w w'
  have hb : SeedsBounded w := seeds_bounded cfg d evs t0
  have hS : w'.S = (register d {} w.t (w.ctr + 1) vp).1 := rfl
  have hacc' : (register d {} w.t (w.ctr + 1) vp).2 = .ok () := hacc
  have hseed : w'.S.seed = w.ctr + 1 := by
    rw [hS]
    rcases register_cases d {} w.t (w.ctr + 1) vp with ⟨x, _, ho⟩ | ⟨subj, e, id, _, _, _, hreg⟩
    · rw [ho] at hacc'; exact nomatch hacc'
    · rw [hreg]; simp [addOk, Store.setValidated, Store.prune]
  have hC : w'.C = w.C := rfl
  have hP : w'.pending = w.pending := rfl
  have hD : w'.delayed = w.delayed := rfl
  refine ⟨by omega, ?_, ?_, hC, ?_, ?_⟩
  · have := hb.s; omega
  · rw [hC]; have := hb.c; omega
  · intro p hp; rw [hP] at hp; have := hb.pend p hp; omega
  · intro p hp; rw [hD] at hp; have := hb.del p hp; omega

/-- **reset_noticed_by_client** (end to end: history → reset → first registration → one poll). A client that holds a
    replica (non-empty seed) and polls after the server lost its list and accepted a new registration ends that poll
    with an EMPTY replica at timestamp 0 under the new seed, and its next `get` asks for everything after 0. -/
theorem reset_noticed_by_client (d : Def) (evs : List Ev) (t0 : Nat) (vp : VP) (perm : List VP → List VP)
    (hc : (run factCfg d { t := t0 } evs).C.seed ≠ 0)
    (hacc : (step factCfg d (step factCfg d (run factCfg d { t := t0 } evs) .reset).1 (.register vp)).2 = .ok ()) :
    let w' := (step factCfg d (step factCfg d (run factCfg d { t := t0 } evs) .reset).1 (.register vp)).1
    (poll factCfg d w' perm).C.rows = [] ∧ (poll factCfg d w' perm).C.lastTs = 0 ∧
    (poll factCfg d w' perm).C.seed = w'.S.seed ∧
    ((step factCfg d (poll factCfg d w' perm) .pollA).1.pending.map (·.after)) = some 0 := by
  intro w'
  obtain ⟨_, _, h3, h4, _, _⟩ := reset_draws_unseen_seed factCfg d evs t0 vp hacc
  exact reset_restarts d w' perm (fun h => h3 h.symm) (by rw [h4]; exact hc)

/-- non-vacuity: a history with a poll, then reset + accepted registration -/
example : (run factCfg exDef { t := 10 } [.register (exVP "a" "v1" 100), .pollA, .pollB id]).C.seed ≠ 0 ∧
    (step factCfg exDef (step factCfg exDef (run factCfg exDef { t := 10 } [.register (exVP "a" "v1" 100), .pollA, .pollB id]) .reset).1
      (.register (exVP "b" "v2" 110))).2 = .ok () := by decide

/-! ### the REST wrapper of `Get` hands on everything -/

/-- `Wrapper.GetPresentations`: timestamp default, `Server.Get`, error, and a return of exactly the map, seed and timestamp
    `Server.Get` returned — nothing between the call and the return (no cap, no filter: `apiGet` is `Node.get`) -/
theorem fact_get_presentations_body :
    Facts.C16.getPresentationsBody =
      ["var timestamp int",
       "if request.Params.Timestamp != nil { timestamp = *request.Params.Timestamp }",
       "presentations, seed, newTimestamp, err := w.Server.Get(contextWithForwardedHost(ctx), request.ServiceID, timestamp)",
       "if err != nil { return nil, err }",
       "return GetPresentations200JSONResponse{Seed: seed, Entries: presentations, Timestamp: newTimestamp}, nil"] := rfl

/-- **api_get_no_gap.** Through the REST wrapper (`GET …?timestamp=a`, or without the parameter = 0) a served list answers
    with EVERY row whose timestamp is above `a` — however many there are — together with the list's seed and last
    timestamp: a client that takes over the reported timestamp has missed nothing at or below it (`get_no_gap` then
    applies to what the client does with the answer). -/
theorem api_get_no_gap (n : Node) (sid : String) (f : Fwd) (a : Option Nat) (x : Service)
    (h : n.defs.server.get sid = some x) :
    ∃ rows, apiGet n sid f (a.map Int.ofNat) = .rows rows (n.stores sid).seed (n.stores sid).lastTs ∧
      (∀ r ∈ (n.stores sid).rows, a.getD 0 < r.ts → r ∈ rows) ∧ ∀ r ∈ rows, r ∈ (n.stores sid).rows ∧ a.getD 0 < r.ts := by
  refine ⟨(n.stores sid).rowsAfter (a.getD 0), ?_, ?_, ?_⟩
  · cases a with
    | none => exact node_get_served n sid f 0 x h
    | some v => exact node_get_served n sid f v x h
  · intro r hr hlt; simp [Store.rowsAfter, hr, hlt]
  · intro r hr; simpa [Store.rowsAfter] using hr

/-- non-vacuity of `api_get_no_gap`: a node that serves list "A" -/
example : ∃ x, ({ defs := { all := [("A", exSvc "A" 100)], server := [("A", exSvc "A" 100)] } } : Node).defs.server.get "A" = some x :=
  ⟨_, rfl⟩

end Nuts.C16.Props
