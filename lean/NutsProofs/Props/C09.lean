/-
  C09 — did:nuts documents change only by the DID's own key or a controller's key.
  Model: NutsModel/C09/Ambassador.lean (ambassador.go, validators.go, resolver.go, dag/keys.go, dag/verifier.go)
  over the C10 store model.
  Facts: NutsModel/Facts/C09.lean is REGENERATED from /repo on every run.
-/
import NutsModel.C09.Ambassador
import NutsModel.Facts.C09
import NutsModel.Facts.C10
import NutsProofs.Lemmas.C09

namespace Nuts.C09.Props
open Nuts Nuts.C10 Nuts.C09

/-! ### Obligations on the regenerated facts (a source change flips these) -/

/-- `NetworkDocumentValidator` composes exactly the nil-entry validator, go-did's W3C validator, the Nuts
    verification-method validator and the Nuts service validator, in this order (the model's `validate` folds over this list) -/
theorem fact_network_validators : Facts.C09.networkValidators = [.nilEntry, .w3c, .nutsVM, .nutsService] := rfl

/-- `verifyDocumentEntryID` checks fragment, uniqueness, prefix — in this order (model: `entryIdErr`) -/
theorem fact_entry_id_checks :
    Facts.C09.entryIdChecks = ["ID must have a fragment", "ID must be unique", "ID must have document prefix"] := rfl

/-- the two Nuts validators range over `document.VerificationMethod` / `document.Service` only, calling the entry-id
    check (and the thumbprint check for keys); service types are checked for uniqueness -/
theorem fact_validator_scope :
    Facts.C09.vmValidatorRanges = ["document.VerificationMethod"] ∧
    Facts.C09.vmValidatorChecks = ["verifyDocumentEntryID", "v.verifyThumbprint"] ∧
    Facts.C09.serviceValidatorRanges = ["document.Service"] ∧
    Facts.C09.serviceValidatorChecks = ["verifyDocumentEntryID"] ∧
    Facts.C09.serviceTypeUniquenessChecked = true := ⟨rfl, rfl, rfl, rfl, rfl⟩

/-- `verifyThumbprint` compares the fragment with the thumbprint it calculates from the key material (model: `thumb k`,
    a function of the key alone); it does not read the id back through `jwk.AssignKeyID`/`KeyID()`, which would
    trust a "kid" member inside the publicKeyJwk (repaired defect, witness harness/corpus/C09/vm-id-named-by-jwk-kid.jsonl) -/
theorem fact_thumbprint_from_key_material : Facts.C09.thumbprintCalculatedFromKeyMaterial = true := rfl

/-- the depth limit the concrete instances below are stated for -/
theorem fact_max_controller_depth : Facts.C09.maxControllerDepth = 5 := rfl

/-- `resolve` refuses at `depth >= maxControllerDepth` and checks controllers iff the document has some and
    deactivated documents are not allowed -/
theorem fact_resolve_conditions :
    Facts.C09.resolveDepthTest = "depth >= maxControllerDepth" ∧
    Facts.C09.resolveControllerCheckCondition =
      "len(doc.Controller) > 0 && (metadata == nil || !metadata.AllowDeactivated)" := ⟨rfl, rfl⟩

/-- `resolveControllers` skips exactly these errors and filters leaves with `IsDeactivated` (model: `skippable`;
    ErrDIDMethodNotSupported cannot come from the did:nuts store) -/
theorem fact_controller_skips :
    Facts.C09.controllerSkippedErrors = ["ErrDeactivated", "ErrNoActiveController", "ErrNotFound", "ErrDIDMethodNotSupported"] ∧
    Facts.C09.controllerLeavesFilteredByIsDeactivated = true := ⟨rfl, rfl⟩

/-- a transaction is an update iff it carries no embedded key; creation binds `ID.ID` to the embedded key's thumbprint -/
theorem fact_create_update_split :
    Facts.C09.isUpdateCriterion = "transaction.SigningKey() == nil" ∧
    Facts.C09.createBinding = "proposedDIDDocument.ID.ID != signingKeyThumbprint" := ⟨rfl, rfl⟩

/-- `callback`: integrity, refusal of null key entries + unmarshal (one outcome class: the payload does not parse),
    validate, then update/create — in this order -/
theorem fact_callback_steps :
    Facts.C09.callbackSteps = ["checkTransactionIntegrity", "resolver.RejectNullKeyEntries", "json.Unmarshal", "NetworkDocumentValidator().Validate",
      "n.isUpdate", "n.handleUpdateDIDDocument", "n.handleCreateDIDDocument"] := rfl

/-- the ambassador touches the DID store only here: one `Add` at the end of each handler, two `Resolve`s in update -/
theorem fact_store_calls :
    Facts.C09.ambassadorStoreCalls = ["handleCreateDIDDocument:Add", "handleUpdateDIDDocument:Resolve",
      "handleUpdateDIDDocument:Resolve", "handleUpdateDIDDocument:Add"] := rfl

/-- `handleUpdateDIDDocument`: versions by prevs (all of them; the first one found is the succeeded version), fallback
    to latest, controllers, signing key, thumbprint search, the same check for every other named version, add -/
theorem fact_update_steps :
    Facts.C09.updateSteps = ["didStore.Resolve", "didStore.Resolve", "resolveControllers",
      "keyResolver.ResolvePublicKey", "findKeyByThumbprint", "resolveControllers", "findKeyByThumbprint", "didStore.Add"] ∧
    Facts.C09.updateFallsBackToLatest = true := ⟨rfl, rfl⟩

/-- the succeeded version only ever comes from the store (by prev, then latest; never the proposed document), the
    fallback refuses on ANY error (an unknown DID cannot be updated), and the authorising keys are collected from the
    controllers' `CapabilityInvocation` only (model: `currentVersion`, `capInvOf`) -/
theorem fact_succeeded_version_and_key_collection :
    Facts.C09.succeededVersionSources = ["version", "n.didStore.Resolve"] ∧
    Facts.C09.updateFallbackErrorCondition = "err != nil" ∧
    Facts.C09.controllerKeysCollectedFrom = ["CapabilityInvocation", "CapabilityInvocation"] := ⟨rfl, rfl, rfl⟩

/-- `ambassador.resolveControllers`: per-prev errors skipped, by-signing-time fallback when nothing was found -/
theorem fact_ambassador_controller_resolution :
    Facts.C09.ambassadorSkippedErrors = ["ErrNotFound", "ErrNoActiveController"] ∧
    Facts.C09.controllersFallBackToSigningTime = true := ⟨rfl, rfl⟩

/-- the key resolver moves to the next previous transaction on `ErrNotFound` only -/
theorem fact_key_resolver : Facts.C09.keyResolverAbortCondition = "err != resolver.ErrNotFound" := rfl

/-- **Wiring.** The DAG signature verifier's key resolver reads the DID store itself (model: `resolvePublicKeyStore`);
    the ambassador's key resolver and DID resolver go through `didnuts.Resolver` over the same store (model:
    `resolvePublicKey`, `resolveControllersTop`) -/
theorem fact_wiring :
    Facts.C09.verifierWiring =
      "nutsKeyResolver := dag.SourceTXKeyResolver{Resolver: n.didStore} ; NewTransactionSignatureVerifier(nutsKeyResolver)" ∧
    Facts.C09.ambassadorWiring = ["resolver := Resolver{Store: didStore}", "didStore: didStore",
      "keyResolver: dag.SourceTXKeyResolver{Resolver: resolver}", "didResolver: &Resolver{Store: didStore}"] := ⟨rfl, rfl⟩

/-- the DAG signature verifier cannot succeed without `jws.Verify`: no `return nil` anywhere, and it ends by returning
    the verdict of `jws.Verify` (model: `verifySig` answers ok only when the verification key is the signer's) -/
theorem fact_verifier_always_verifies :
    Facts.C09.verifierNilReturns = 0 ∧ Facts.C09.verifierEndsWithJwsVerify = true := ⟨rfl, rfl⟩

/-- `verifyThumbprint` never looks at the method's `type` (attacker-chosen text) and succeeds only at its end, after
    the comparison (model: `validateVMs` applies the thumbprint rule to every entry of `verificationMethod`) -/
theorem fact_thumbprint_rule_for_every_type :
    Facts.C09.verifyThumbprintLooksAtType = false ∧ Facts.C09.verifyThumbprintSucceedsOnlyAtTheEnd = true := ⟨rfl, rfl⟩

/-- both Nuts validators hand the DOCUMENT's DID (not e.g. the method's `controller`) and the entry's own id to
    `verifyDocumentEntryID` (model: `validateVMs … d.id d.vms`, `validateSvcs … d.id d.services`) -/
theorem fact_entry_id_owner_is_document :
    Facts.C09.vmEntryIdArguments = ["document.ID | method.ID.URI()"] ∧
    Facts.C09.serviceEntryIdArguments = ["document.ID | service.ID"] := ⟨rfl, rfl⟩

/-- **Call sites.** `callback` is entered from the two subscriber functions only and is the only caller of the two
    handlers; the only other `Add` on the DID store in the package is the node's own publishing path
    (`Manager.Update`, which validates with `ManagedDocumentValidator` = network validator + service checks first);
    the subscription delivers payload events of type did+json -/
theorem fact_call_sites :
    Facts.C09.handlerCallers = ["handleReprocessEvent->callback", "handleNetworkEvent->callback",
      "callback->handleUpdateDIDDocument", "callback->handleCreateDIDDocument"] ∧
    Facts.C09.didStoreAddSites = ["ambassador.go:handleCreateDIDDocument:n.didStore.Add",
      "ambassador.go:handleUpdateDIDDocument:n.didStore.Add", "manager.go:Update:m.store.Add"] ∧
    Facts.C09.managedValidators = ["NetworkDocumentValidator()", "managedServiceValidator{serviceResolver}"] ∧
    Facts.C09.subscriptionFilter =
      "event.Type == dag.PayloadEventType && event.Transaction.PayloadType() == DIDDocumentType" := ⟨rfl, rfl, rfl, rfl⟩

/-- **Comparisons and helpers** are exact: whole-thumbprint equality (then `break`), whole-string prefix equality,
    SHA-256 thumbprints rendered in base58 for DIDs, keys looked up among `VerificationMethod` only, and
    `IsDeactivated` = no controller and no capabilityInvocation (model: `findKey`, `entryIdErr`, `didThumb`,
    `resolvePublicKey1`, `C10.isDeactivated`) -/
theorem fact_comparisons :
    Facts.C09.findKeyComparison = "bytes.Equal(thumbPrint, documentThumbprint) => break" ∧
    Facts.C09.entryIdPrefixComparison = "owner.String() != entryID.String()" ∧
    Facts.C09.thumbprintAlg = "crypto.SHA256" ∧
    Facts.C09.nutsThumbprintSteps = ["key.Thumbprint(crypto.SHA256)", "base58.EncodeAlphabet(pkHash[:], base58.BTCAlphabet)"] ∧
    Facts.C09.keyLookup = "doc.VerificationMethod.FindByID(*id)" ∧
    Facts.C09.isDeactivatedBody = "len(document.Controller) == 0 && len(document.CapabilityInvocation) == 0" := ⟨rfl, rfl, rfl, rfl, rfl, rfl⟩

/-! ### accepted documents are authorised and well-formed -/

/-- **Creation.** If the callback accepts a transaction that carries an embedded key, then the document parsed, passed
    the network validator, and the DID's method-specific id IS the thumbprint of that embedded key; the only effect is
    one `store.Add` of exactly that document under exactly that transaction. -/
theorem accepted_create_sound (c : Cfg) (s s' : Store) (tx : Tx) (pd : Option NDoc) (k : Key)
    (h : callback c s tx pd = .ok s') (hk : tx.embedded = some k) :
    ∃ d, pd = some d ∧ validate c.thumb c.vmNilJwkErr c.validators d = .ok () ∧ d.idID = c.didThumb k ∧
      checkTransactionIntegrity tx = .ok () ∧ add c.store s (eventOf tx d) = .ok s' := by
  obtain ⟨hint, d, hpd, hval, hcase⟩ := (callback_ok_iff c s s' tx pd).mp h
  rcases hcase with ⟨k', hk', hc⟩ | ⟨hnone, _⟩
  · rw [hk] at hk'
    cases hk'
    obtain ⟨hid, hadd⟩ := (handleCreate_ok_iff c s s' tx k d).mp hc
    exact ⟨d, hpd, hval, hid, hint, hadd⟩
  · rw [hk] at hnone; cases hnone

/-- with the DAG's signature verifier in front (as in the node): the embedded key is the key that signed, so —
    thumbprints being collision-free — a DID can only be created by the holder of the key it is derived from -/
theorem accepted_create_signed_by_did_key (c : Cfg) (s s' : Store) (tx : Tx) (pd : Option NDoc) (k : Key)
    (hinj : ∀ a b, c.didThumb a = c.didThumb b → a = b)
    (h : deliver c s tx pd = .ok s') (hk : tx.embedded = some k) :
    ∃ d, pd = some d ∧ d.idID = c.didThumb tx.signer ∧
      ∀ k', d.idID = c.didThumb k' → k' = tx.signer := by
  obtain ⟨hv, hcb⟩ := deliver_ok_inv c s s' tx pd h
  obtain ⟨d, hpd, _, hid, _, _⟩ := accepted_create_sound c s s' tx pd k hcb hk
  have hs := verifySig_embedded s tx k hk hv
  subst hs
  exact ⟨d, hpd, hid, fun k' hk' => hinj _ _ (hk'.symm.trans hid)⟩

/-- **Update.** If the callback accepts a transaction without embedded key, then the document parsed and passed the
    network validator, and there are: the version `cur` the update succeeds (named by the transaction's prevs, with
    the coded fallback), a controller `ctrl` of that version (`ControllerFor`: not deactivated; `cur` itself when it
    controls itself, else the version of a listed controller DID resolved as of the prevs / signing time and active
    within the depth limit), and an entry of `ctrl`'s capabilityInvocation whose key has the same thumbprint as the
    key the transaction's `kid` resolves to as of the prevs. The only effect is one `store.Add`. -/
theorem accepted_update_sound (c : Cfg) (s s' : Store) (tx : Tx) (pd : Option NDoc)
    (h : callback c s tx pd = .ok s') (hu : tx.embedded = none) :
    ∃ d cur ctrl e k k', pd = some d ∧ validate c.thumb c.vmNilJwkErr c.validators d = .ok () ∧
      Succeeds s d.id tx.prevs cur ∧ ControllerFor c s tx cur ctrl ∧
      e ∈ ctrl.f .capInv ∧ KeyInfo.ofBody e.body = .key k' ∧
      resolvePublicKey c.maxDepth s tx.kid tx.prevs = .ok k ∧ c.thumb k' = c.thumb k ∧
      add c.store s (eventOf tx d) = .ok s' := by
  obtain ⟨_, d, hpd, hval, hcase⟩ := (callback_ok_iff c s s' tx pd).mp h
  rcases hcase with ⟨k', hk', _⟩ | ⟨_, hup⟩
  · rw [hu] at hk'; cases hk'
  · obtain ⟨cur, k, _, hcur, hk, _, hauth, hadd⟩ := handleUpdate_authorised c s s' tx d hup
    obtain ⟨ctrl, e, k', hctrl, hmem, hk', ht⟩ := hauth cur List.mem_cons_self
    exact ⟨d, cur, ctrl, e, k, k', hpd, hval, currentVersion_ok s d.id tx.prevs cur hcur, hctrl, hmem, hk', hk, ht, hadd⟩

/-- **Every version the prevs name.** An accepted update is authorised not only by the first version of the document
    that its prevs name (`accepted_update_sound`) but by EVERY one: for each further version `v` that some prev names
    there is a controller of `v` (`ControllerFor`) listing, for capabilityInvocation, a key with the thumbprint of the
    key the `kid` resolves to. So a key that a later version removed cannot take the document over by naming the older
    version first (repaired defect 963038a, witness harness/corpus/C09/removed-key-names-old-version-first.jsonl). -/
theorem accepted_update_authorised_under_every_named_version (c : Cfg) (s s' : Store) (tx : Tx) (pd : Option NDoc)
    (h : callback c s tx pd = .ok s') (hu : tx.embedded = none) :
    ∃ d k others, pd = some d ∧ resolvePublicKey c.maxDepth s tx.kid tx.prevs = .ok k ∧
      otherNamed s d.id tx.prevs = .ok others ∧
      ∀ v ∈ others,
        (∃ p ∈ tx.prevs, ∃ m, resolve s d.id (some { allowDeactivated := true, sourceTx := some p }) = .ok (v, m)) ∧
        ∃ ctrl e k', ControllerFor c s tx v ctrl ∧ e ∈ ctrl.f .capInv ∧ KeyInfo.ofBody e.body = .key k' ∧
          c.thumb k' = c.thumb k := by
  obtain ⟨_, d, hpd, _, hcase⟩ := (callback_ok_iff c s s' tx pd).mp h
  rcases hcase with ⟨k', hk', _⟩ | ⟨_, hup⟩
  · rw [hu] at hk'; cases hk'
  · obtain ⟨_, k, others, _, hk, ho, hauth, _⟩ := handleUpdate_authorised c s s' tx d hup
    exact ⟨d, k, others, hpd, hk, ho, fun v hv =>
      ⟨otherNamed_mem s d.id tx.prevs others ho v hv, hauth v (List.mem_cons_of_mem _ hv)⟩⟩

/-- **The signing time is irrelevant when the prevs pin a controller.** If resolution by the transaction's prevs yields
    any controller, `ambassador.resolveControllers` answers exactly those — whatever signing time the signer chose
    (the by-signing-time resolution is a fallback for transactions whose prevs pin nothing;
    `fact_ambassador_controller_resolution`). -/
theorem signing_time_irrelevant_when_prevs_pin (c : Cfg) (s : Store) (doc : Doc) (tx tx' : Tx) (cs : List Doc)
    (hp : tx'.prevs = tx.prevs) (h : ctrlsPerPrev c s doc tx.prevs = .ok cs) (hne : cs ≠ []) :
    ambControllers c s doc tx = .ok cs ∧ ambControllers c s doc tx' = .ok cs := by
  have hemp : cs.isEmpty = false := by cases cs with | nil => exact absurd rfl hne | cons _ _ => rfl
  constructor
  · unfold ambControllers; rw [h]; simp [hemp]
  · unfold ambControllers; rw [hp, h]; simp [hemp]

/-- with the signature verifier in front and collision-free thumbprints: the key that made the signature is itself
    listed for capabilityInvocation by a controller of the version the update succeeds -/
theorem accepted_update_signed_by_controller_key (c : Cfg) (s s' : Store) (tx : Tx) (pd : Option NDoc)
    (hinj : ∀ a b, c.thumb a = c.thumb b → a = b)
    (h : deliver c s tx pd = .ok s') (hu : tx.embedded = none) :
    ∃ d cur ctrl e, pd = some d ∧ Succeeds s d.id tx.prevs cur ∧ ControllerFor c s tx cur ctrl ∧
      e ∈ ctrl.f .capInv ∧ KeyInfo.ofBody e.body = .key tx.signer := by
  obtain ⟨hv, hcb⟩ := deliver_ok_inv c s s' tx pd h
  obtain ⟨d, cur, ctrl, e, k, k', hpd, _, hsucc, hctrl, he, hk', hk, ht, _⟩ := accepted_update_sound c s s' tx pd hcb hu
  have hs := verifySig_kid s tx hu hv
  rw [resolvePublicKey_ok_store c.maxDepth s tx.kid tx.prevs k hk] at hs
  cases hs
  have := hinj _ _ ht
  subst this
  exact ⟨d, cur, ctrl, e, hpd, hsucc, hctrl, he, hk'⟩

/-- **Exactly these checks.** The callback accepts iff integrity, parsing and validation pass, and — creation — the
    DID is the embedded key's thumbprint, or — update — the version named by the prevs resolves, its controllers
    resolve, the `kid` resolves as of the prevs, the thumbprint search over the controllers' capabilityInvocation
    succeeds, and the same search succeeds for every other version the prevs name; and the store accepts the event.
    (So a delivery the model refuses fails one of the stated checks.) -/
theorem callback_accepts_iff (c : Cfg) (s s' : Store) (tx : Tx) (pd : Option NDoc) :
    callback c s tx pd = .ok s' ↔
    (checkTransactionIntegrity tx = .ok () ∧ ∃ d, pd = some d ∧ validate c.thumb c.vmNilJwkErr c.validators d = .ok () ∧
      ((∃ k, tx.embedded = some k ∧ d.idID = c.didThumb k) ∨
       (tx.embedded = none ∧ ∃ cur ctrls k, currentVersion s d.id tx.prevs = .ok cur ∧
          ambControllers c s cur tx = .ok ctrls ∧ resolvePublicKey c.maxDepth s tx.kid tx.prevs = .ok k ∧
          findKey c.thumb c.findKeyNilJwkErr (c.thumb k) (capInvOf ctrls) = .ok true ∧
          ∃ others, otherNamed s d.id tx.prevs = .ok others ∧ checkOthers c s tx (c.thumb k) others = .ok true)) ∧
      add c.store s (eventOf tx d) = .ok s') := by
  simp only [callback_ok_iff, handleCreate_ok_iff, handleUpdate_ok_iff]
  constructor
  · rintro ⟨hi, d, hpd, hv, ⟨k, hk, hid, hadd⟩ | ⟨hu, cur, ctrls, k, others, h1, h2, h3, h4, h5, h6, hadd⟩⟩
    · exact ⟨hi, d, hpd, hv, Or.inl ⟨k, hk, hid⟩, hadd⟩
    · exact ⟨hi, d, hpd, hv, Or.inr ⟨hu, cur, ctrls, k, h1, h2, h3, h4, others, h5, h6⟩, hadd⟩
  · rintro ⟨hi, d, hpd, hv, ⟨k, hk, hid⟩ | ⟨hu, cur, ctrls, k, h1, h2, h3, h4, others, h5, h6⟩, hadd⟩
    · exact ⟨hi, d, hpd, hv, Or.inl ⟨k, hk, hid, hadd⟩⟩
    · exact ⟨hi, d, hpd, hv, Or.inr ⟨hu, cur, ctrls, k, others, h1, h2, h3, h4, h5, h6, hadd⟩⟩

/-! ### a rejected document is inert -/

/-- **Rejected ⇒ inert.** Whatever the reason (integrity, parsing, validation, thumbprint, unresolvable version /
    controllers / key, unauthorised key, store error, panic): the store after the delivery IS the store before — so
    `Resolve` under every metadata form, the didnuts resolver, the key resolver's answers, and every later
    authorisation decision are unchanged. -/
theorem rejected_inert (c : Cfg) (s : Store) (tx : Tx) (pd : Option NDoc)
    (h : (step c s tx pd).2 ≠ "ok") :
    (step c s tx pd).1 = s ∧
    (∀ id rm, resolve (step c s tx pd).1 id rm = resolve s id rm) ∧
    (∀ n rm id, resolverResolve n (step c s tx pd).1 rm id = resolverResolve n s rm id) ∧
    (∀ n kid refs, resolvePublicKey n (step c s tx pd).1 kid refs = resolvePublicKey n s kid refs) ∧
    (∀ tx' pd', step c (step c s tx pd).1 tx' pd' = step c s tx' pd') := by
  have hs : (step c s tx pd).1 = s :=
    ((step_cases c s tx pd).resolve_right fun ⟨_, _, _, hok, _⟩ => h (congrArg Prod.snd hok)).1
  rw [hs]
  exact ⟨rfl, fun _ _ => rfl, fun _ _ _ => rfl, fun _ _ _ => rfl, fun _ _ => rfl⟩

/-- an accepted document changes the records of its own DID only: every other DID's event list, version chain,
    and therefore `Resolve` answers stay as they were -/
theorem accepted_changes_own_did_only (c : Cfg) (s s' : Store) (tx : Tx) (pd : Option NDoc)
    (h : deliver c s tx pd = .ok s') :
    ∃ d, pd = some d ∧ ∀ id, id ≠ d.id → s'.get id = s.get id ∧ ∀ rm, resolve s' id rm = resolve s id rm := by
  obtain ⟨d, hpd, hadd⟩ := callback_ok_add c s s' tx pd (deliver_ok_inv c s s' tx pd h).2
  refine ⟨d, hpd, fun id hid => ?_⟩
  have hg := (add_get c.store s s' (eventOf tx d) hadd).1 id hid
  exact ⟨hg, fun rm => by unfold resolve; rw [hg]⟩

/-- **All histories.** After ANY sequence of deliveries (any length, any mix of hostile and legitimate pairs, starting
    from the empty store) every event in every DID's event list — and the store's versions and `Resolve` answers are
    a function of exactly these lists (C10 `store_is_fold`) — is the (transaction, document) of a delivery of that
    history which was accepted in the state the history had reached at that point; so it satisfied
    `callback_accepts_iff` / `accepted_create_sound` / `accepted_update_sound` there. -/
theorem resolvable_only_if_accepted (c : Cfg) (l : List (Tx × Option NDoc)) (id : String) (e : Event)
    (h : e ∈ ((runHist c {} l).get id).events) :
    ∃ pre tx d post, l = pre ++ (tx, some d) :: post ∧ e = eventOf tx d ∧ d.id = id ∧
      (step c (runHist c {} pre) tx (some d)).2 = "ok" := by
  exact (runHist_events c l {} id e h).resolve_left (by simp [Store.get, alGet])

/-- **REPROCESS.** Replaying the DAG's did+json transactions (`handleReprocessEvent` → `callback`,
    `fact_call_sites`) over ANY store and ANY list of transactions — including those whose documents were rejected when
    they were received — adds an event only for a transaction that `callback` accepts in the state reached at that
    moment (so integrity, parsing, `NetworkDocumentValidator` and the authorisation of `callback_accepts_iff` hold for
    it), and a transaction the store already holds changes nothing when it is accepted again. -/
theorem reprocess_is_callback_again (c : Cfg) (l : List (Tx × Option NDoc)) (s : Store) :
    (∀ id e, e ∈ ((reprocess c s l).get id).events →
      e ∈ (s.get id).events ∨
      ∃ pre tx d post s', l = pre ++ (tx, some d) :: post ∧ e = eventOf tx d ∧ d.id = id ∧
        callback c (reprocess c s pre) tx (some d) = .ok s') ∧
    (∀ tx d, contains (s.get d.id).events (eventOf tx d) = true → reprocessOne c s tx (some d) = s) := by
  refine ⟨fun id e h => ?_, reprocessOne_known c s⟩
  rcases run_first_step _ (reprocess c) (fun _ => rfl) (fun _ _ _ => rfl) (fun s => e ∈ (s.get id).events)
      (fun s p => reprocessOne_events c s p.1 p.2 id e) l s h with h0 | ⟨pre, ⟨tx, _⟩, post, hl, d, s', rfl, hok, he, hid⟩
  · exact Or.inl h0
  · exact Or.inr ⟨pre, tx, d, post, s', hl, he, hid, hok⟩

/-! ### controller resolution is bounded -/

/-- **Depth bound.** Whenever `resolve` (remaining depth `n`) succeeds for a DID there is a chain of at most `n`
    documents — each the foreign controller of the one before, each resolvable — that it followed; in particular
    resolution never follows more than `maxControllerDepth` indirections. -/
theorem controller_chain_bounded (R : String → Res Doc) (n : Nat) (id : String) (doc : Doc)
    (h : resolveN R false n id = .ok doc) :
    R id = .ok doc ∧ ∃ chain : List String, chain.length ≤ n ∧ chain.head? = some id ∧
      (∀ x ∈ chain, ∃ d, R x = .ok d) ∧ IsCtrlChain R chain := by
  obtain ⟨h1, h2⟩ := resolveN_ok R n id doc h
  exact ⟨h1, activeWithin_chain R n id h2⟩

/-- **Cycles terminate and are refused.** The recursion is total by construction (structural in the remaining
    depth); over a resolver under which EVERY identifier resolves to a document that neither controls itself nor is
    uncontrolled it answers `too-deep` for every DID and every depth limit. (A cycle or endless chain inside a resolver
    that does not know every identifier, as a store is: `resolveN_foreignClosed`.) -/
theorem controller_cycle_refused (R : String → Res Doc) (hR : OnlyForeign R) (n : Nat) (id : String) :
    resolveN R false n id = .err eTooDeep :=
  resolveN_foreignClosed R (fun _ => True)
    (fun x _ => (hR x).imp fun _ ⟨h1, h2, h3⟩ => ⟨h1, h2, fun c hc => ⟨h3 c hc, trivial⟩⟩) n id trivial

/-! ### deactivated controllers, removed keys -/

/-- **Deactivated controllers never authorise.** When the succeeded version does not control itself and every listed
    controller is skipped (deactivated, without active controller, or unknown — as of the transaction's prevs and
    signing time), controller resolution answers no controller and the update is refused. (That no document it answers
    is deactivated: `controllers_never_deactivated`.) -/
theorem deactivated_controller_rejected (c : Cfg) (s : Store) (tx : Tx) (d : NDoc) (cur : Doc)
    (hcur : currentVersion s d.id tx.prevs = .ok cur)
    (hself : selfLeaves cur = [])
    (hskip : ∀ rm, MetaFor tx rm → ∀ r ∈ foreignRefs cur,
      ∃ e, resolveN (resolverResolve c.maxDepth s (some rm)) (allowOf (some rm)) c.maxDepth r = .err e ∧ skippable e = true) :
    (∀ ctrls, ambControllers c s cur tx = .ok ctrls → ctrls = []) ∧
    ∀ s', handleUpdate c s tx d ≠ .ok s' := by
  have hnone : ∀ rm, MetaFor tx rm → resolveControllersTop c.maxDepth s (some rm) cur = .ok [] := by
    intro rm hrm
    unfold resolveControllersTop
    exact ctrlsWith_none _ cur hself (hskip rm hrm)
  have hctrls : ∀ ctrls, ambControllers c s cur tx = .ok ctrls → ctrls = [] := by
    intro ctrls h
    cases ctrls with
    | nil => rfl
    | cons x xs =>
      obtain ⟨rm, hrm, l', hl', hx⟩ := ambControllers_mem c s cur tx (x :: xs) h x List.mem_cons_self
      rw [hnone rm hrm] at hl'
      cases hl'
      cases hx
  refine ⟨hctrls, fun s' h => ?_⟩
  obtain ⟨cur', ctrls, k, _, hcur', hc, _, hf, _⟩ := (handleUpdate_ok_iff c s s' tx d).mp h
  rw [hcur] at hcur'
  cases hcur'
  rw [hctrls ctrls hc] at hf
  simp [capInvOf, findKey] at hf

/-- every controller the ambassador uses is not deactivated (document-level `IsDeactivated`) -/
theorem controllers_never_deactivated (c : Cfg) (s : Store) (cur : Doc) (tx : Tx) (ctrls : List Doc)
    (h : ambControllers c s cur tx = .ok ctrls) : ∀ x ∈ ctrls, isDeactivated x = false :=
  fun x hx => (ambControllers_sound c s cur tx ctrls h x hx).1

/-- every foreign controller document the ambassador uses is a stored version of a DID the succeeded version lists,
    selected by the transaction's prevs / signing time, and that version is NOT flagged deactivated in the store
    (nor deactivated as a document). By C10 `deactivated_monotone` it therefore precedes any deactivation. -/
theorem controller_versions_are_active (c : Cfg) (s : Store) (cur : Doc) (tx : Tx) (ctrls : List Doc)
    (h : ambControllers c s cur tx = .ok ctrls) :
    ∀ x ∈ ctrls, isDeactivated x = false ∧
      (x = cur ∨ ∃ r ∈ controllersOf cur, ∃ rm, MetaFor tx rm ∧ ∃ m, resolve s r (some rm) = .ok (x, m) ∧
        m.deactivated = false ∧ (x, m) ∈ (s.get r).chain) := by
  intro x hx
  obtain ⟨hd, hc⟩ := ambControllers_sound c s cur tx ctrls h x hx
  refine ⟨hd, ?_⟩
  rcases hc with ⟨rfl, _, _⟩ | ⟨r, hr, _, rm, hrm, hs, _, _⟩
  · exact Or.inl rfl
  · obtain ⟨m, h1, h2, h3⟩ := storeDoc_ok s (some rm) (allowOf_metaFor tx rm hrm) r x hs
    exact Or.inr ⟨r, hr, rm, hrm, m, h1, h2, h3⟩

/-- **Removed keys do not authorise** (relative to the version named by the transaction's prevs): if no
    capabilityInvocation entry of any controller of the succeeded version carries a key with the thumbprint of the
    key the transaction's `kid` resolves to, the update is refused — in particular when the succeeded version
    controls itself and no longer lists the key. -/
theorem removed_key_rejected (c : Cfg) (s : Store) (tx : Tx) (d : NDoc) (cur : Doc) (k : Key)
    (hcur : currentVersion s d.id tx.prevs = .ok cur)
    (hk : resolvePublicKey c.maxDepth s tx.kid tx.prevs = .ok k)
    (hgone : ∀ ctrl, ControllerFor c s tx cur ctrl →
      ∀ e ∈ ctrl.f .capInv, ∀ k', KeyInfo.ofBody e.body = .key k' → c.thumb k' ≠ c.thumb k) :
    ∀ s', handleUpdate c s tx d ≠ .ok s' := by
  intro s' h
  obtain ⟨cur', k₂, _, hcur', hk₂, _, hauth, _⟩ := handleUpdate_authorised c s s' tx d h
  rw [hcur] at hcur'; cases hcur'
  rw [hk] at hk₂; cases hk₂
  obtain ⟨ctrl, e, k', hctrl, hmem, hk', ht⟩ := hauth cur List.mem_cons_self
  exact hgone ctrl hctrl e hmem k' hk' ht

/-- the self-controlled special case spelled out: the version named by the prevs has no foreign controller and
    does not list a key with the signer's thumbprint ⇒ refused -/
theorem removed_key_rejected_self_controlled (c : Cfg) (s : Store) (tx : Tx) (d : NDoc) (cur : Doc) (k : Key)
    (hcur : currentVersion s d.id tx.prevs = .ok cur)
    (hk : resolvePublicKey c.maxDepth s tx.kid tx.prevs = .ok k)
    (hown : ∀ r ∈ controllersOf cur, r = cur.id)
    (hgone : ∀ e ∈ cur.f .capInv, ∀ k', KeyInfo.ofBody e.body = .key k' → c.thumb k' ≠ c.thumb k) :
    ∀ s', handleUpdate c s tx d ≠ .ok s' := by
  apply removed_key_rejected c s tx d cur k hcur hk
  intro ctrl hctrl e he k' hk'
  rcases hctrl.2 with ⟨rfl, _, _⟩ | ⟨r, hr, hne, _⟩
  · exact hgone e he k' hk'
  · exact absurd (hown r hr) hne

/-! ### the validator rules -/

/-- **Jointly sufficient and sound.** The network validator accepts a parsed document exactly when it is well-formed
    per DID-core (go-did's W3C checks) and the Nuts method rules: every verificationMethod / service id has a
    fragment, is prefixed by the document's DID and is unique; every verificationMethod's fragment is the thumbprint
    of its key; at most one service per type. (`WellFormedNuts` is the declarative statement.) -/
theorem validator_rules_sound_complete (thumb : Key → String) (nilErr : Bool) (d : NDoc) :
    validate thumb nilErr Facts.C09.networkValidators d = .ok () ↔ WellFormedNuts thumb d := by
  rw [fact_network_validators]
  exact validate_ok_iff thumb nilErr d

private def wKey : NVM := { id := "did:nuts:a#k", pfx := "did:nuts:a", frag := "k", key := .key "k" }
private def wSvc (id frag type : String) : NSvc := { id := id, pfx := "did:nuts:a", frag := frag, type := type }
private def wDoc (vms : List NVM) (svcs : List NSvc) : NDoc :=
  { id := "did:nuts:a", idID := "a", vms := vms, capInv := [wKey], services := svcs }

def nutsRules : List Rule :=
  [.vmFragment, .vmUnique, .vmPrefix, .vmThumbprint, .svcFragment, .svcUnique, .svcPrefix, .svcTypeUnique]

/-- for each Nuts rule, a document that breaks that rule and no other -/
private def breaks : Rule → NDoc
  | .vmFragment => wDoc [{ wKey with id := "did:nuts:a", frag := "", key := .key "" }] []
  | .vmUnique => wDoc [wKey, wKey] []
  | .vmPrefix => wDoc [{ wKey with id := "did:nuts:b#k", pfx := "did:nuts:b" }] []
  | .vmThumbprint => wDoc [{ wKey with key := .key "other" }] []
  | .svcFragment => wDoc [wKey] [wSvc "did:nuts:a" "" "t"]
  | .svcUnique => wDoc [wKey] [wSvc "did:nuts:a#s" "s" "t1", wSvc "did:nuts:a#s" "s" "t2"]
  | .svcPrefix => wDoc [wKey] [{ wSvc "did:nuts:b#s" "s" "t" with pfx := "did:nuts:b" }]
  | .svcTypeUnique => wDoc [wKey] [wSvc "did:nuts:a#s1" "s1" "t", wSvc "did:nuts:a#s2" "s2" "t"]
  | _ => wDoc [] []

private theorem breaks_checked : ∀ r ∈ nutsRules,
    validateList (fun k => k) Facts.C09.verifyThumbprintGuardsNilJwk (fun x => decide (x ≠ r)) (breaks r) Facts.C09.networkValidators = .ok () ∧
    validate (fun k => k) Facts.C09.verifyThumbprintGuardsNilJwk Facts.C09.networkValidators (breaks r) ≠ .ok () := by
  decide +kernel

/-- **Each rule is necessary.** For every Nuts rule there is a document that the validator with just that rule
    switched off accepts although it is not well-formed. -/
theorem validator_rules_each_necessary :
    ∀ r ∈ nutsRules, ∃ d, validateList (fun k => k) Facts.C09.verifyThumbprintGuardsNilJwk (fun x => decide (x ≠ r)) d Facts.C09.networkValidators = .ok () ∧
      ¬ WellFormedNuts (fun k => k) d :=
  -- not well-formed, because the full validator refuses the document and accepts every well-formed one
  fun r hr => ⟨breaks r, (breaks_checked r hr).1,
    fun hw => (breaks_checked r hr).2 ((validator_rules_sound_complete _ _ _).mpr hw)⟩

/-- The property text read literally — EVERY verification method of an accepted document, also one EMBEDDED in a
    verification relationship, has an id prefixed by the DID whose fragment is the key's thumbprint. -/
def validator_rules_Stmt : Prop :=
  ∀ (thumb : Key → String) (nilErr : Bool) (d : NDoc), validate thumb nilErr Facts.C09.networkValidators d = .ok () →
    ∀ v ∈ d.auth ++ d.assertion ++ d.keyAgr ++ d.capInv ++ d.capDel,
      v.frag ≠ "" ∧ v.pfx = d.id ∧ ∃ k, v.key = .key k ∧ thumb k = v.frag

/-- what IS proved: the rules hold for the entries of `verificationMethod` and `service` (the lists the two Nuts
    validators range over — `fact_validator_scope`); missing from the full statement: embedded relationship methods. -/
theorem validator_rules_partial (thumb : Key → String) (nilErr : Bool) (d : NDoc) :
    validate thumb nilErr Facts.C09.networkValidators d = .ok () ↔ WellFormedNuts thumb d :=
  validator_rules_sound_complete thumb nilErr d

private def wEmbedded : NVM := { id := "did:nuts:b#x", pfx := "did:nuts:b", frag := "x", key := .key "other" }
private def wEmbDoc : NDoc := { id := "did:nuts:a", idID := "a", vms := [wKey], capInv := [wKey, wEmbedded] }

/-- **The literal statement is false of the code** (open finding): a document whose capabilityInvocation embeds a
    method with a foreign id prefix and a fragment that is not its key's thumbprint passes the network validator.
    The same witness shape is replayed on the real ambassador from `harness/corpus/C09`. -/
theorem validator_rules_embedded_witness : ¬ validator_rules_Stmt := by
  intro h
  have := h (fun k => k) Facts.C09.verifyThumbprintGuardsNilJwk wEmbDoc (by decide) wEmbedded (by decide)
  exact absurd this.2.1 (by decide)

/-- non-vacuity: a well-formed document exists and is accepted; each witness above is rejected by the full validator -/
example : validate (fun k => k) Facts.C09.verifyThumbprintGuardsNilJwk Facts.C09.networkValidators (wDoc [wKey] [wSvc "did:nuts:a#s" "s" "t"]) = .ok () := by decide
example : validate (fun k => k) Facts.C09.verifyThumbprintGuardsNilJwk Facts.C09.networkValidators (wDoc [wKey, wKey] []) = .err "validate:vm:unique" := by decide
example : validate (fun k => k) Facts.C09.verifyThumbprintGuardsNilJwk Facts.C09.networkValidators (wDoc [wKey] [wSvc "did:nuts:a#s1" "s1" "t", wSvc "did:nuts:a#s2" "s2" "t"])
    = .err "validate:svc:duplicate-type" := by decide +kernel

/-! ### non-vacuity: concrete histories on the model instantiated with today's facts -/

private def cfg0 : Cfg :=
  { thumb := fun k => k, didThumb := fun k => "D" ++ k, maxDepth := Facts.C09.maxControllerDepth,
    validators := Facts.C09.networkValidators, vmNilJwkErr := Facts.C09.verifyThumbprintGuardsNilJwk,
    findKeyNilJwkErr := Facts.C09.findKeyGuardsNilJwk, store := cfgOf (fun _ l => l) Facts.C10.mergeSortedFields }

private def vmOf (did k : String) : NVM := { id := did ++ "#" ++ k, pfx := did, frag := k, key := .key k }
/-- a document of DID `D<k>` listing `keys` as verification methods and `ci` for capabilityInvocation -/
private def docOf (k : String) (keys ci : List String) (ctrl : List String := []) : NDoc :=
  { id := "did:nuts:D" ++ k, idID := "D" ++ k, controllers := ctrl,
    vms := keys.map (vmOf ("did:nuts:D" ++ k)), capInv := ci.map (vmOf ("did:nuts:D" ++ k)) }
private def createTx (ref : Nat) (k : String) (t : Nat := 10) : Tx :=
  { ref := ref, clock := 0, sigTime := t, prevs := [], payloadHash := s!"p{ref}", embedded := some k, signer := k }
private def updateTx (ref : Nat) (prevs : List Nat) (did k : String) (t : Nat := 20) : Tx :=
  { ref := ref, clock := 1, sigTime := t, prevs := prevs, payloadHash := s!"p{ref}",
    kid := { holder := did, id := did ++ "#" ++ k }, signer := k }

private def runAll (l : List (Tx × NDoc)) : List String :=
  (l.foldl (fun (acc : Store × List String) p => let r := step cfg0 acc.1 p.1 (some p.2); (r.1, acc.2 ++ [r.2])) ({}, [])).2

-- creation by the DID's own key, update by a listed key, update by a key the succeeded version no longer lists,
-- update by a stranger's key, foreign-key creation
example : runAll [
    (createTx 100 "a", docOf "a" ["a", "b"] ["a", "b"]),
    (updateTx 200 [100] "did:nuts:Da" "b", docOf "a" ["a", "b"] ["a"]),
    (updateTx 300 [200] "did:nuts:Da" "b" 30, docOf "a" ["a", "b"] ["a", "b"]),
    (createTx 400 "x", docOf "x" ["x"] ["x"]),
    (updateTx 500 [200, 400] "did:nuts:Dx" "x" 30, docOf "a" ["a"] ["a"]),
    (createTx 600 "z", docOf "y" ["y"] ["y"])]
  = ["ok", "ok", "err:update:not-signed-by-controller", "ok", "err:update:not-signed-by-controller",
     "err:create:thumbprint-mismatch"] := by decide +kernel

-- `resolvable_only_if_accepted` is not vacuous: after this history (accepted, accepted, refused) the DID's event list
-- holds exactly the two accepted transactions
example : ((runHist cfg0 {} [
    (createTx 100 "a", some (docOf "a" ["a", "b"] ["a", "b"])),
    (updateTx 200 [100] "did:nuts:Da" "b", some (docOf "a" ["a", "b"] ["a"])),
    (updateTx 300 [200] "did:nuts:Da" "b" 30, some (docOf "a" ["a", "b"] ["a", "b"]))]).get "did:nuts:Da").events.map (·.ref)
  = [100, 200] := by decide +kernel

-- a key that version 200 removed signs an update naming BOTH the old (100) and the current (200) version: refused in
-- either order (before /repo 963038a the order [100, 200] was accepted); naming only the old version is a fork (by design)
example : runAll [
    (createTx 100 "a", docOf "a" ["a", "b"] ["a", "b"]),
    (updateTx 200 [100] "did:nuts:Da" "a", docOf "a" ["a", "b"] ["a"]),
    (updateTx 300 [100, 200] "did:nuts:Da" "b" 30, docOf "a" ["b"] ["b"]),
    (updateTx 310 [200, 100] "did:nuts:Da" "b" 30, docOf "a" ["b"] ["b"]),
    (updateTx 320 [100] "did:nuts:Da" "b" 30, docOf "a" ["b"] ["b"])]
  = ["ok", "ok", "err:update:not-signed-by-controller", "err:update:not-signed-by-controller", "ok"] := by decide +kernel

-- REPROCESS over a history holding a rejected ill-formed document (key id not the thumbprint) changes nothing
example :
    let hist : List (Tx × Option NDoc) := [
      (createTx 100 "a", some (docOf "a" ["a"] ["a"])),
      (updateTx 200 [100] "did:nuts:Da" "a",
        some { docOf "a" ["a"] ["a"] with vms := [vmOf "did:nuts:Da" "a", { vmOf "did:nuts:Da" "b" with key := .key "x" }] })]
    let s := runHist cfg0 {} hist
    ((s.get "did:nuts:Da").events.map (·.ref), ((reprocess cfg0 s hist).get "did:nuts:Da").events.map (·.ref))
      = ([100], [100]) := by decide +kernel

-- a DID controlled by another DID: the controller's key authorises (prevs name both versions); after the controller
-- is deactivated its key no longer authorises relative to the deactivating transaction — and (by design, see
-- `accepted_update_sound`: authorisation is relative to the versions the prevs select) still does relative to the
-- controller's older, active version
example : runAll [
    (createTx 100 "c", docOf "c" ["c"] ["c"]),
    (createTx 110 "d", docOf "d" ["d"] ["d"] ["did:nuts:Dc"]),
    (updateTx 200 [110, 100] "did:nuts:Dc" "c", docOf "d" ["d"] [] ["did:nuts:Dc"]),
    (updateTx 210 [110] "did:nuts:Dd" "d", docOf "d" ["d"] ["d"] []),
    (updateTx 300 [100] "did:nuts:Dc" "c" 30, docOf "c" [] []),
    (updateTx 400 [200, 300] "did:nuts:Dc" "c" 40, docOf "d" ["d"] ["d"] ["did:nuts:Dc"]),
    (updateTx 410 [200, 100] "did:nuts:Dc" "c" 40, docOf "d" ["d"] ["d"] ["did:nuts:Dc"])]
  = ["ok", "ok", "ok", "err:update:signingkey:no-active-controller", "ok", "err:sig:key:not-found", "ok"] := by decide +kernel

/-- The clause "keys of deactivated controllers" read against the LATEST state: if the succeeded version does not
    control itself and every controller DID it lists is deactivated now (`Resolve(did, nil)` answers deactivated),
    the update is refused. -/
def deactivated_controller_Stmt : Prop :=
  ∀ (c : Cfg) (s : Store) (tx : Tx) (d : NDoc),
    (match currentVersion s d.id tx.prevs with
     | .ok cur => (selfLeaves cur).isEmpty && (foreignRefs cur).all (fun r =>
         match resolve s r none with | .err e => e == eDeactivated | _ => false)
     | _ => false) = true →
    (handleUpdate c s tx d).isOk = false

private def dcStore : Store :=
  (runHist cfg0 {} [
    (createTx 100 "c", some (docOf "c" ["c"] ["c"])),
    (createTx 110 "d", some (docOf "d" ["d"] [] ["did:nuts:Dc"])),
    (updateTx 300 [100] "did:nuts:Dc" "c" 30, some (docOf "c" [] []))])

/-- **False of the code** (open finding). What IS proved is `deactivated_controller_rejected` /
    `controller_versions_are_active`: the controller version selected by the transaction's prevs (or signing time) is
    active. The witness: controller `Dc` is deactivated by transaction 300; an update of `Dd` whose prevs name `Dc`'s
    creation (100) and which is signed by `Dc`'s old key is accepted. Replayed on the real ambassador from
    `harness/corpus/C09/deactivated-controller-old-prev.jsonl`. -/
theorem deactivated_controller_latest_witness : ¬ deactivated_controller_Stmt := by
  intro h
  have := h cfg0 dcStore (updateTx 410 [110, 100] "did:nuts:Dc" "c" 40) (docOf "d" ["d"] ["d"] ["did:nuts:Dc"]) (by decide +kernel)
  revert this
  decide +kernel

-- second open finding (same root): the old key `c` of the deactivated controller `Dc` is also published by the
-- self-controlled `De`; the update's prevs name `Dc`'s DEACTIVATION (300); kid `De#c` resolves through 120, no prev
-- selects an active controller version, the signing-time fallback finds `Dc`'s pre-deactivation version: accepted.
-- With `Dc`'s own kid the same transaction is refused (the key is not resolvable as of the deactivation).
example : runAll [
    (createTx 100 "c", docOf "c" ["c"] ["c"]),
    (createTx 120 "e", docOf "e" ["e", "c"] ["e"]),
    (createTx 110 "d", docOf "d" ["d"] [] ["did:nuts:Dc"]),
    (updateTx 300 [100] "did:nuts:Dc" "c" 30, docOf "c" [] []),
    (updateTx 400 [110, 300] "did:nuts:Dc" "c" 40, docOf "d" ["d"] ["d"] ["did:nuts:Dc"]),
    (updateTx 410 [110, 300, 120] "did:nuts:De" "c" 40, docOf "d" ["d"] ["d"] ["did:nuts:Dc"])]
  = ["ok", "ok", "ok", "ok", "err:sig:key:not-found", "ok"] := by decide +kernel

-- a controller cycle: the callback answers too-deep (never loops), also with the verifier in front (the verifier's key
-- resolver reads the store directly and does not look at controllers)
private def cyc : Store :=
  (step cfg0 (step cfg0 {} (createTx 100 "a") (some (docOf "a" ["a"] ["a"] ["did:nuts:Db"]))).1
    (createTx 110 "b") (some (docOf "b" ["b"] ["b"] ["did:nuts:Da"]))).1
example : (match callback cfg0 cyc (updateTx 200 [100, 110] "did:nuts:Db" "b") (some (docOf "a" ["a"] ["a"])) with
    | .err e => e | _ => "") = "update:controllers:too-deep" := by decide +kernel
example : (step cfg0 cyc (updateTx 200 [100, 110] "did:nuts:Db" "b") (some (docOf "a" ["a"] ["a"]))).2
    = "err:update:controllers:too-deep" := by decide +kernel

-- the depth limit on an abstract resolver: a chain d1 <- d2 <- ... ; `dN` controls itself
private def chainDoc (i : Nat) (root : Bool) : Doc :=
  { id := s!"d{i}", f := fun
      | .controller => if root then [] else [⟨s!"d{i+1}", "c"⟩]
      | .capInv => [⟨s!"d{i}#k", "k"⟩]
      | _ => [] }
private def chainR (len : Nat) (id : String) : Res Doc :=
  match (List.range (len + 1)).find? (fun i => s!"d{i}" == id) with
  | some i => .ok (chainDoc i (i == len))
  | none => .err eNotFound
example : (resolveN (chainR 5) false Facts.C09.maxControllerDepth "d1").isOk = true := by decide
example : (match resolveN (chainR 6) false Facts.C09.maxControllerDepth "d1" with | .err e => e | _ => "") = eTooDeep := by decide +kernel
example : (ctrlsWith (fun r => resolveN (chainR 5) false Facts.C09.maxControllerDepth r) (chainDoc 0 false)).isOk = true := by decide


end Nuts.C09.Props
