/-
  C11 — JSON typing of status entries: a StatusList2021Entry whose statusListIndex (or purpose / list URL)
  is not a JSON string never reaches the revocation logic; on string-typed entries the JSON layer is the wire layer.
-/
import NutsModel.C11.CredStatusJson
import NutsProofs.Props.C11CredStatus
namespace Nuts.C11.Props
open Nuts.C11.Wire

theorem decode_ofWire (e : WireEntry) : (JEntry.ofWire e).decode = .ok e := by
  simp [JEntry.ofWire, JEntry.decode, unmarshalString]

/-- refinement: on entries whose members are all JSON strings the JSON-typed validator is the wire-level validator -/
theorem validate_json_refines_wire (hasCtx : Bool) (urlOk : String → Bool) (sts : List WireEntry) :
    validateCredentialStatusJ hasCtx urlOk (sts.map JEntry.ofWire) = validateCredentialStatus hasCtx urlOk sts := by
  induction sts with
  | nil => rfl
  | cons e rest ih =>
    simp only [List.map_cons, validateCredentialStatusJ, validateCredentialStatus, decode_ofWire, ih]
    rfl

theorem decode_ok_index (e : JEntry) (we : WireEntry) (h : e.decode = .ok we) :
    (e.index = .str we.index ∨ (e.index = .null ∧ we.index = "")) := by
  revert h
  fun_cases JEntry.decode e with
  | case1 p i l _ hi _ =>
    intro h; cases h; revert hi
    cases e.index <;> simp [unmarshalString]
  | case2 => nofun

/-- `validated_entries_have_string_index`: in a credential that passed `validateCredentialStatus`, EVERY StatusList2021Entry has a
    statusListIndex that is a JSON string holding a canonical-range decimal (not a number, bool, null, object), for any number
    of entries and any mix of types. -/
theorem validated_entries_have_string_index (hasCtx : Bool) (urlOk : String → Bool) (sts : List JEntry)
    (h : validateCredentialStatusJ hasCtx urlOk sts = .ok ()) :
    ∀ e ∈ sts, e.type = "StatusList2021Entry" →
      ∃ s : String, e.index = .str s ∧ ∃ n : Int, atoi s = some n ∧ 0 ≤ n ∧ n < (intLimit : Int) := by
  revert h
  fun_induction validateCredentialStatusJ hasCtx urlOk sts with
  | case1 => exact fun _ _ he => nomatch he
  | case5 a rest _ _ _ _ we hd u hv ih =>
    intro h e he ht
    rcases List.mem_cons.1 he with rfl | he
    · obtain ⟨_, _, _, _, n, hn, h0, hlt⟩ := validated_entry_fields urlOk we hv
      rcases decode_ok_index _ we hd with hs | ⟨_, hempty⟩
      · exact ⟨we.index, hs, n, hn, h0, hlt⟩
      · rw [hempty, show atoi "" = none from by decide] at hn; cases hn
    · exact ih h e he ht
  | case10 a rest _ _ h3 ih =>
    intro h e he ht
    rcases List.mem_cons.1 he with rfl | he
    · exact absurd (by simp [ht]) h3
    · exact ih h e he ht
  | _ => intro h; cases h

/-- a non-string statusListIndex in a StatusList2021Entry: the verification is refused by the validator (never "valid", never
    through the revocation logic), whatever else the credential and the world look like -/
theorem non_string_index_refused (E : Env) (i : Bool) (w : World) (cid : Option String) (issuer : String) (hasCtx : Bool)
    (urlOk : String → Bool) (parse : String → Url) (sts : List JEntry) (nutsType rf : Bool) (validAt : Option Int) (now : Int)
    (period : Int → Bool) (e : JEntry) (he : e ∈ sts) (ht : e.type = "StatusList2021Entry") (hns : ∀ s, e.index ≠ .str s) :
    (verifyWireJ E i w cid issuer hasCtx urlOk parse (some sts) nutsType rf validAt now period).1 ≠ .ok ∧
    (verifyWireJ E i w cid issuer hasCtx urlOk parse (some sts) nutsType rf validAt now period).2 = w := by
  unfold verifyWireJ
  simp only
  split
  · exact ⟨by simp, rfl⟩
  · cases hv : validateCredentialStatusJ hasCtx urlOk ((some sts).getD []) with
    | ok u =>
      exfalso
      obtain ⟨s, hs, _⟩ := validated_entries_have_string_index hasCtx urlOk sts (by cases u; simpa using hv) e he ht
      exact hns s hs
    | err x => exact ⟨by simp, rfl⟩
    | panic x => exact ⟨by simp, rfl⟩

/-! non-vacuity -/
def exJ : JEntry := JEntry.ofWire exWireOk
example : validateCredentialStatusJ true (fun _ => true) [exJ] = .ok () := by decide +kernel
example : validateCredentialStatusJ true (fun _ => true) [exJ, { exJ with index := .other }] = .err "unmarshal" := by decide +kernel
example : validateCredentialStatusJ true (fun _ => true) [{ exJ with index := .null }] = .err "index" := by decide +kernel
example : validateCredentialStatusJ true (fun _ => true) [{ exJ with type := "OtherStatus", index := .other }] = .ok () := by decide

end Nuts.C11.Props
