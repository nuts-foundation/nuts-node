/-
  C08 — `state.Add` as two store transactions, and ALL interleavings of concurrent callers (NutsModel/C08/Phases.lean).
  The verdict of a caller's read transaction is computed on an older state than the one its write transaction works on;
  the theorems say that this never matters for what the property promises.
-/
import NutsProofs.Props.C08
import NutsModel.C08.Phases

namespace Nuts.C08.Props
open Nuts Nuts.C08

variable {n : Nat}

/-- **Regenerated from state.go (`Add`, `Start`).** The read function (`present`, then the verifiers), what follows it,
    the head of the write function (presence AGAIN, then `txAdded = true`), the only two assignments of `txAdded`, and
    the three `AfterCommit` hooks — the counter hook is guarded by `txAdded` (`metricHook`). -/
theorem fact_add_phases :
    Facts.C08.addReadFn = ["present = s.graph.isPresent(tx, transaction.Ref())", "if present { return nil }",
      "return s.verifyTX(tx, transaction)", "then: if err != nil { return err }"] ∧
    Facts.C08.addAfterRead = ["if present { return nil }"] ∧
    Facts.C08.addWriteFnHead = ["if s.graph.isPresent(tx, transaction.Ref()) { return nil }", "txAdded = true"] ∧
    Facts.C08.addTxAddedAssigns = ["txAdded := false", "txAdded = true"] ∧
    Facts.C08.addAfterCommitHooks = ["unlock",
      "func() { if txAdded { s.notify(txEvent) if emitPayloadEvent { s.notify(payloadEvent) } } }",
      "func() { if txAdded { s.transactionCount.Inc() } }"] ∧
    Facts.C08.startCounterInit = ["s.transactionCount.Add(float64(currentTXCount))"] :=
  ⟨rfl, rfl, rfl, rfl, rfl, rfl⟩

theorem addRead_proceed {s : State n} {tx : Tx} (h : addRead s tx = .proceed) :
    s.disk.isPresent tx.ref = false ∧ s.disk.verifyPrevs tx = .ok () := by
  unfold addRead at h
  cases hp : s.disk.isPresent tx.ref
  · rw [hp] at h
    simp only [Bool.false_eq_true, if_false] at h
    cases hv : s.disk.verifyPrevs tx with
    | ok u => cases u; exact ⟨rfl, rfl⟩
    | err e => rw [hv] at h; cases h
    | panic e => rw [hv] at h; cases h
  · rw [hp] at h; simp at h

/-- **`Add` = read transaction, then write transaction.** The serial `add` of the state model (which every state
    theorem speaks about) is exactly: the read transaction's verdict, then — for `proceed` — the write transaction on the
    same state, whose `txAdded` is then always true. -/
theorem add_is_read_then_write (c : Cfg) (s : State n) (tx : Tx) (opt : AddOpts) :
    add c s tx opt = (match addRead s tx with
      | .present => (s, .ok ())
      | .refused r => (s, r)
      | .proceed => ((addWrite c s tx opt).1, (addWrite c s tx opt).2.1)) ∧
    (addRead s tx = .proceed → (addWrite c s tx opt).2.2 = true) := by
  rw [add_eq]
  cases hr : addRead s tx with
  | present => exact ⟨rfl, nofun⟩
  | refused r => exact ⟨rfl, nofun⟩
  | proceed =>
    unfold addWrite
    simp only [(addRead_proceed hr).1, Bool.false_eq_true, if_false]
    exact ⟨trivial, fun _ => trivial⟩

theorem getTx_grow {d d' : Disk n} {l : List Tx} (h : d'.txs = d.txs ++ l) {p : Ref} {pt : Tx}
    (hg : d.getTx p = some pt) : d'.getTx p = some pt := by
  unfold Disk.getTx at hg ⊢
  rw [h, List.find?_append, hg]
  rfl

theorem verifyPrevsLoop_grow {d d' : Disk n} {l : List Tx} (h : d'.txs = d.txs ++ l) (ps : List Ref) (hi r : Nat) :
    d.verifyPrevsLoop ps hi = .ok r → d'.verifyPrevsLoop ps hi = .ok r := by
  fun_induction Disk.verifyPrevsLoop d ps hi with
  | case1 hi => exact id
  | case2 => exact nofun
  | case3 p rest hi pt hg ih => rw [Disk.verifyPrevsLoop, getTx_grow h hg]; exact ih

theorem verifyPrevs_grow {d d' : Disk n} {l : List Tx} (h : d'.txs = d.txs ++ l) {tx : Tx}
    (hv : d.verifyPrevs tx = .ok ()) : d'.verifyPrevs tx = .ok () := by
  unfold Disk.verifyPrevs at hv ⊢
  cases hl : d.verifyPrevsLoop tx.prevs 0 with
  | ok r => rw [hl] at hv; rw [verifyPrevsLoop_grow h _ _ _ hl]; exact hv
  | err e => rw [hl] at hv; cases hv
  | panic e => rw [hl] at hv; cases hv

theorem finish_absent {c : Conc n} {i : Nat} {tx : Tx} (cf : Cfg) (opt : AddOpts) (hi : c.pending[i]? = some tx)
    (hp : c.m.s.disk.isPresent tx.ref = false) (hv : c.m.s.disk.verifyPrevs tx = .ok ()) :
    c.finish cf i opt =
      ({ m := { s := (add cf c.m.s tx opt).1, metric := metricHook c.m.metric true (add cf c.m.s tx opt).2 },
         pending := c.pending.eraseIdx i }, some (add cf c.m.s tx opt).2) := by
  unfold Conc.finish addWrite
  simp only [hi, hp, Bool.false_eq_true, if_false]
  rw [← add_of_verified cf c.m.s tx opt hp hv]

theorem finish_present {c : Conc n} {i : Nat} {tx : Tx} (cf : Cfg) (opt : AddOpts) (hi : c.pending[i]? = some tx)
    (hp : c.m.s.disk.isPresent tx.ref = true) :
    c.finish cf i opt =
      if opt.commitFails then
        ({ m := { s := rollback cf c.m.s, metric := c.m.metric }, pending := c.pending.eraseIdx i }, some (.err "commit-failed"))
      else ({ c with pending := c.pending.eraseIdx i }, some (.ok ())) := by
  unfold Conc.finish addWrite
  simp only [hi, hp, if_true]
  cases opt.commitFails <;> simp [metricHook]

/-- what holds between any two store transactions of any schedule -/
structure CInv (c : Conc NB) : Prop where
  s : SInv cfg c.m.s
  metric : c.m.metric = c.m.s.disk.txs.length
  /-- every waiting caller's verdict is still the verdict the CURRENT store would give -/
  pend : ∀ tx ∈ c.pending, c.m.s.disk.verifyPrevs tx = .ok ()

theorem CInv.start {s : State NB} (r : Reachable s) : CInv { m := MState.start { s := s } } :=
  ⟨reachable_inv r, by simp only [MState.start, metricAfterStart, Nat.zero_add]; exact (reachable_inv r).g.count,
   fun _ h => by cases h⟩

theorem CInv.enter {c : Conc NB} (h : CInv c) (tx : Tx) : CInv (c.enter tx).1 := by
  unfold Conc.enter
  cases hr : addRead c.m.s tx with
  | present => exact h
  | refused r => exact h
  | proceed =>
    refine ⟨h.s, h.metric, ?_⟩
    intro t ht
    simp only [List.mem_append, List.mem_singleton] at ht
    rcases ht with ht | rfl
    · exact h.pend t ht
    · exact (addRead_proceed hr).2

theorem CInv.finish {c : Conc NB} (h : CInv c) (i : Nat) (opt : AddOpts) : CInv (c.finish cfg i opt).1 := by
  cases hi : c.pending[i]? with
  | none => unfold Conc.finish; rw [hi]; exact h
  | some tx =>
    have hv := h.pend tx (List.mem_of_getElem? hi)
    have hsub : ∀ t ∈ c.pending.eraseIdx i, c.m.s.disk.verifyPrevs t = .ok () :=
      fun t ht => h.pend t (List.mem_of_mem_eraseIdx ht)
    cases hp : c.m.s.disk.isPresent tx.ref
    · rw [finish_absent cfg opt hi hp hv]
      obtain ⟨hS, hE, hO⟩ := h.s.add cfg_good tx opt
      by_cases hok : (add cfg c.m.s tx opt).2 = .ok ()
      · rcases hO hok with ⟨_, hp'⟩ | ⟨ht, _⟩
        · rw [hp] at hp'; cases hp'
        · refine ⟨hS, ?_, fun t hm => verifyPrevs_grow ht (hsub t hm)⟩
          simp only [metricHook, hok, true_and, if_true, ht, List.length_append, List.length_singleton, h.metric]
      · refine ⟨hS, ?_, fun t hm => ?_⟩
        · simp only [metricHook, hok, false_and, if_false, hE hok, h.metric]
        · have : (add cfg c.m.s tx opt).1.disk.txs = c.m.s.disk.txs ++ [] := by rw [hE hok, List.append_nil]
          exact verifyPrevs_grow this (hsub t hm)
    · rw [finish_present cfg opt hi hp]
      split
      · exact ⟨h.s.rollback cfg_good, h.metric, hsub⟩
      · exact ⟨h.s, h.metric, hsub⟩

theorem CInv.repair {c : Conc NB} (h : CInv c) (lcSeen : Nat) : CInv (c.repair cfg lcSeen) := by
  have ht := checkPageWith_txs cfg lcSeen c.m.s
  refine ⟨(h.s.checkPageWith cfg_good lcSeen).1, ?_, fun t hm => ?_⟩
  · show c.m.metric = (checkPageWith cfg lcSeen c.m.s).disk.txs.length
    rw [ht]; exact h.metric
  · have : (checkPageWith cfg lcSeen c.m.s).disk.txs = c.m.s.disk.txs ++ [] := by rw [ht, List.append_nil]
    exact verifyPrevs_grow this (h.pend t hm)

theorem CInv.crash {c : Conc NB} (h : CInv c) : CInv (c.crash cfg) := by
  refine ⟨h.s.restart cfg_good, ?_, fun _ hm => by cases hm⟩
  show 0 + (restart cfg c.m.s).disk.count = (restart cfg c.m.s).disk.txs.length
  rw [Nat.zero_add]
  exact (h.s.restart cfg_good).g.count

theorem CInv.step {c : Conc NB} (h : CInv c) (st : CStep) : CInv (c.step cfg st) := by
  cases st with
  | enter tx => exact h.enter tx
  | finish i opt => exact h.finish i opt
  | repair lc => exact h.repair lc
  | signal => exact ⟨⟨h.s.g, h.s.lc, h.s.x, h.s.i⟩, h.metric, h.pend⟩
  | crash => exact h.crash

/-- the states of a node whose `Add` callers interleave at the granularity the code allows: opened on any reachable
    file content and started; then ANY schedule of: a caller's read transaction, a waiting caller's write transaction
    (any waiting caller, any payload / fault / commit outcome), repair steps, signals, crash + reopen -/
inductive CReach : Conc NB → Prop
  | start {s} : Reachable s → CReach { m := MState.start { s := s } }
  | step {c} (st : CStep) : CReach c → CReach (c.step cfg st)

theorem creach_inv {c : Conc NB} (r : CReach c) : CInv c := by
  induction r with
  | start hs => exact CInv.start hs
  | step st _ ih => exact ih.step st

/-- **Concurrent additions.** After ANY interleaving of the read and write transactions of any number of `Add` callers
    (with repair steps, rejected / rolled-back writes and restarts in between) `XOR(c)`, `IBLT(c)` for every clock, every
    listing window, count, highest clock and head are the folds over the stored set, and the transaction counter metric is
    the size of the stored set. -/
theorem concurrent_adds_refine_spec {c : Conc NB} (r : CReach c) :
    Observables c.m.s c.m.s.disk.txs ∧ c.m.metric = c.m.s.disk.txs.length :=
  ⟨observables_of_sinv (creach_inv r).s, (creach_inv r).metric⟩

/-- the same for a whole schedule given as a list of steps -/
theorem concurrent_schedule_refines_spec {s : State NB} (r : Reachable s) (l : List CStep) :
    let c := Conc.run cfg { m := MState.start { s := s } } l
    Observables c.m.s c.m.s.disk.txs ∧ c.m.metric = c.m.s.disk.txs.length := by
  exact concurrent_adds_refine_spec (foldl_invariant CReach _ l _ (fun st _ _ => CReach.step st) (CReach.start r))

/-- **A stale verdict is never wrong**: whatever was stored between a caller's read and write transaction, the
    verifier would still accept its transaction on the store as it is now -/
theorem stale_verdict_still_valid {c : Conc NB} (r : CReach c) :
    ∀ tx ∈ c.pending, c.m.s.disk.verifyPrevs tx = .ok () := (creach_inv r).pend

/-- **The caller that lost the race** (its transaction was stored by another caller after its read transaction):
    nothing on disk changes, the metric does not move, and when its empty write transaction commits the call reports
    success and the whole state is untouched -/
theorem lost_race_changes_nothing {c : Conc NB} (i : Nat) (tx : Tx) (opt : AddOpts)
    (hi : c.pending[i]? = some tx) (hp : c.m.s.disk.isPresent tx.ref = true) :
    (c.finish cfg i opt).1.m.s.disk = c.m.s.disk ∧ (c.finish cfg i opt).1.m.metric = c.m.metric ∧
    (opt.commitFails = false → (c.finish cfg i opt).1.m.s = c.m.s ∧ (c.finish cfg i opt).2 = some (.ok ())) := by
  rw [finish_present cfg opt hi hp]
  cases opt.commitFails
  · exact ⟨rfl, rfl, fun _ => ⟨rfl, rfl⟩⟩
  · exact ⟨rfl, rfl, nofun⟩

/-- **The caller that won**: a write transaction that finds the transaction absent and reports success stored exactly
    it and moved the metric by one; one that reports an error left the disk and the metric alone -/
theorem winner_stores_once {c : Conc NB} (r : CReach c) (i : Nat) (tx : Tx) (opt : AddOpts)
    (hi : c.pending[i]? = some tx) (hp : c.m.s.disk.isPresent tx.ref = false) :
    ((c.finish cfg i opt).2 = some (.ok ()) →
      (c.finish cfg i opt).1.m.s.disk.txs = c.m.s.disk.txs ++ [tx] ∧ (c.finish cfg i opt).1.m.metric = c.m.metric + 1) ∧
    ((c.finish cfg i opt).2 ≠ some (.ok ()) →
      (c.finish cfg i opt).1.m.s.disk = c.m.s.disk ∧ (c.finish cfg i opt).1.m.metric = c.m.metric) := by
  have h := creach_inv r
  have hv := h.pend tx (List.mem_of_getElem? hi)
  obtain ⟨_, hE, hO⟩ := h.s.add cfg_good tx opt
  rw [finish_absent cfg opt hi hp hv]
  constructor
  · intro hok
    have hok' : (add cfg c.m.s tx opt).2 = .ok () := by simpa using hok
    rcases hO hok' with ⟨_, hp'⟩ | ⟨ht, _⟩
    · rw [hp] at hp'; cases hp'
    · exact ⟨ht, by simp only [metricHook, hok', true_and, if_true]⟩
  · intro hne
    have hne' : (add cfg c.m.s tx opt).2 ≠ .ok () := fun e => hne (by simp [e])
    exact ⟨hE hne', by simp only [metricHook, hne', false_and, if_false]⟩

def exC0 : Conc NB := { m := exM0 }
/-- non-vacuity: two callers with the same root, both past the read transaction before either writes -/
def exRace : Conc NB := Conc.run cfg exC0 [.enter exRoot, .enter exRoot, .finish 0 {}, .finish 0 {}]

example : exRace.m.metric = 1 ∧ exRace.m.s.disk.count = 1 ∧ exRace.pending = [] ∧
    (Conc.run cfg exC0 [.enter exRoot, .enter exRoot]).pending = [exRoot, exRoot] := by decide

/-- the hook without its `txAdded` guard would count the lost race (what `metricHook`'s second argument is for) -/
example : metricHook 1 true (.ok ()) = 2 ∧ metricHook 1 false (.ok ()) = 1 ∧ metricHook 1 true (.err "x") = 1 := by decide

/-- a crash between a caller's read and write transaction: the waiting caller dies with the process, the reopened
    collector starts from the stored count (1), and the child, entered again, is stored and counted -/
example : (Conc.run cfg exC0 [.enter exRoot, .finish 0 {}, .enter exChild, .crash, .enter exChild, .finish 0 {}]).m.metric = 2 := by
  decide

theorem add_ok_graphAdd (c : Cfg) (s : State n) (tx : Tx) (opt : AddOpts) (hp : s.disk.isPresent tx.ref = false)
    (h : (add c s tx opt).2 = .ok ()) : s.disk.verifyPrevs tx = .ok () ∧ ∃ d, s.disk.graphAdd tx = .ok d := by
  rcases add_cases c s tx opt with ⟨hp', _⟩ | ⟨_, ⟨hne, _⟩ | ⟨d, hv, hd, _⟩⟩
  · rw [hp] at hp'; cases hp'
  · exact absurd h hne
  · exact ⟨hv, d, hd⟩

theorem graphAdd_root {d d' : Disk n} (g : GInv d) {tx : Tx} (hp : d.isPresent tx.ref = false) (h : d.graphAdd tx = .ok d')
    (hr : tx.prevs = []) : (getSorted 0 d.clocks).getD [] = [] := by
  rw [graphAdd_eq g hp, hr] at h
  cases he : ((getSorted 0 d.clocks).getD []).isEmpty
  · rw [he] at h; cases h
  · exact List.isEmpty_iff.mp he

structure RootInv (l : List Tx) : Prop where
  clock0 : ∀ t ∈ l, t.prevs = [] → t.clock = 0
  one : ∀ t ∈ l, ∀ t' ∈ l, t.prevs = [] → t'.prevs = [] → t = t'

theorem rootInv_add {s : State NB} (h : SInv cfg s) (r : RootInv s.disk.txs) (tx : Tx) (opt : AddOpts) :
    RootInv (add cfg s tx opt).1.disk.txs := by
  obtain ⟨_, hE, hO⟩ := h.add cfg_good tx opt
  by_cases hok : (add cfg s tx opt).2 = .ok ()
  · rcases hO hok with ⟨he, _⟩ | ⟨ht, hp⟩
    · rw [he]; exact r
    · obtain ⟨hv, d, hg⟩ := add_ok_graphAdd cfg s tx opt hp hok
      have noroot : tx.prevs = [] → ∀ u ∈ s.disk.txs, u.prevs ≠ [] := by
        intro hr u hu hup
        have h0 := graphAdd_root h.g hp hg hr
        rw [h.g.idx 0] at h0
        have hnil : s.disk.txs.filter (fun t => t.clock == 0) = [] := by simpa using h0
        have : u ∈ s.disk.txs.filter (fun t => t.clock == 0) := by
          simp only [List.mem_filter, hu, r.clock0 u hu hup, true_and]; rfl
        rw [hnil] at this; cases this
      rw [ht]
      constructor
      · intro t hm hpr
        simp only [List.mem_append, List.mem_singleton] at hm
        rcases hm with hm | rfl
        · exact r.clock0 t hm hpr
        · rcases verifyPrevs_spec hv with ⟨_, hc⟩ | ⟨hne, _⟩
          · exact hc
          · exact absurd hpr hne
      · intro t hm t' hm' hpr hpr'
        simp only [List.mem_append, List.mem_singleton] at hm hm'
        rcases hm with hm | rfl <;> rcases hm' with hm' | rfl
        · exact r.one t hm t' hm' hpr hpr'
        · exact absurd hpr (noroot hpr' t hm)
        · exact absurd hpr' (noroot hpr t' hm')
        · rfl
  · rw [hE hok]; exact r

theorem reachable_root {s : State NB} (r : Reachable s) : RootInv s.disk.txs := by
  induction r with
  | init => exact ⟨fun _ h => (by cases h), fun _ h => (by cases h)⟩
  | add tx opt hr ih => exact rootInv_add (reachable_inv hr) ih tx opt
  | restart _ ih => exact ih
  | signalIncorrect _ ih => exact ih
  | signalCorrect _ ih => exact ih
  | checkPage _ ih => rw [show (checkPage cfg _).disk.txs = _ from checkPageWith_txs cfg _ _]; exact ih
  | checkPageWith lc _ ih => rw [checkPageWith_txs]; exact ih

theorem creach_root {c : Conc NB} (r : CReach c) : RootInv c.m.s.disk.txs := by
  induction r with
  | start hs => exact reachable_root hs
  | @step c st hc ih =>
    have inv := creach_inv hc
    cases st with
    | enter tx =>
      show RootInv (c.enter tx).1.m.s.disk.txs
      unfold Conc.enter
      cases addRead c.m.s tx <;> exact ih
    | finish i opt =>
      show RootInv (c.finish cfg i opt).1.m.s.disk.txs
      cases hi : c.pending[i]? with
      | none => unfold Conc.finish; rw [hi]; exact ih
      | some tx =>
        cases hp : c.m.s.disk.isPresent tx.ref
        · rw [finish_absent cfg opt hi hp (inv.pend tx (List.mem_of_getElem? hi))]
          exact rootInv_add inv.s ih tx opt
        · rw [finish_present cfg opt hi hp]
          split <;> exact ih
    | repair lc =>
      show RootInv (checkPageWith cfg lc c.m.s).disk.txs
      rw [checkPageWith_txs]; exact ih
    | signal => exact ih
    | crash => exact ih

/-- **Concurrent additions keep the stored set a valid DAG**, whatever the schedule: a ref is stored once, there is at
    most one root, roots have clock 0, and every other transaction has a stored transaction one clock below -/
theorem concurrent_adds_keep_dag_valid {c : Conc NB} (r : CReach c) :
    (c.m.s.disk.txs.map (·.ref)).Nodup ∧
    (∀ t ∈ c.m.s.disk.txs, ∀ t' ∈ c.m.s.disk.txs, t.prevs = [] → t'.prevs = [] → t = t') ∧
    (∀ t ∈ c.m.s.disk.txs, t.prevs = [] → t.clock = 0) ∧
    (∀ t ∈ c.m.s.disk.txs, t.clock ≠ 0 → ∃ t' ∈ c.m.s.disk.txs, t'.clock + 1 = t.clock) :=
  ⟨(creach_inv r).s.g.nodup, (creach_root r).one, (creach_root r).clock0, (creach_inv r).s.g.closed⟩

/-- two callers with two different roots, both verified before either is stored: one root is stored -/
example : (Conc.run cfg exC0 [.enter exRoot, .enter { exRoot with ref := 77 }, .finish 1 {}, .finish 0 {}]).m.s.disk.txs.length = 1 := by
  decide

end Nuts.C08.Props
