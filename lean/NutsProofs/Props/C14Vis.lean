/-
  C14 — "an undelivered event stays visible as failed rather than vanishing" over ALL histories
  (restarts, crashes, storage faults, duplicate payload messages, clean-ups; no calm suffix), and Run's treatment of the
  jobs it decides not to replay.
-/
import NutsProofs.Lemmas.C14Vis
import NutsModel.Facts.C14
import NutsProofs.Props.C14
import NutsProofs.Props.C14Api
namespace Nuts.C14.Props
open Nuts.C14

/-- **failed_stays_visible_or_completed**: from ANY state, over ANY further history (admissions, duplicate payload messages,
    notifications, timers in any order, crashes, restarts, storage faults, Finished from outside): an event that GetFailedEvents
    lists for subscriber `s` is still listed afterwards, unless in between a completion of exactly (s, r) was put on record
    (the receiver answered done and the delete was written, or Finished(r) was called on that notifier).
    Needs only `retriesFailedThreshold ≤ maxRetries + 1` (fact_retry_constants: 10 ≤ 21; a fatal answer records maxRetries + 1). -/
theorem failed_stays_visible_or_completed (c : Cfg) (hthr : c.failedThreshold ≤ c.maxRetries + 1) (σ : St) (ops : List Op) (s r : Nat)
    (h : r ∈ failedEvents c σ s) :
    r ∈ failedEvents c (run c σ ops) s ∨ ∃ new, (run c σ ops).ledger = new ++ σ.ledger ∧ completedIn new s r = true := by
  obtain ⟨hr, hv⟩ := (mem_failedEvents_iff c σ s r).mp h
  obtain ⟨new, e, hn⟩ := run_vis c hthr s r ops σ
  rcases hn hv with hv' | hc
  · exact .inl ((mem_failedEvents_iff c _ s r).mpr ⟨hr, hv'⟩)
  · exact .inr ⟨new, e, hc⟩

/-- the same for one restart of the node (Network.Start runs every notifier): what was listed as failed before the stop is listed
    after it, or one of the replayed calls completed it -/
theorem restart_keeps_failed_visible (c : Cfg) (hthr : c.failedThreshold ≤ c.maxRetries + 1) (σ : St) (order : List Nat) (s r : Nat)
    (h : r ∈ failedEvents c σ s) :
    r ∈ failedEvents c (restart c (crashSt σ) order) s ∨
      ∃ new, (restart c (crashSt σ) order).ledger = new ++ σ.ledger ∧ completedIn new s r = true :=
  failed_stays_visible_or_completed c hthr σ [.crash, .restart order] s r h

/-- **restart_leaves_parked_job_alone**: a job whose recorded error ends in ContextURLNotAllowedErr is not replayed by Run -
    and Run does nothing else with it either: after Network.Start (any notifier order, any receiver behaviour of the other jobs,
    a stop inside Run included) it is on the shelf exactly as before -/
theorem restart_leaves_parked_job_alone (c : Cfg) (σ : St) (order : List Nat) (s r : Nat) (j : Job)
    (hj : σ.shelf s r = some j) (hctx : j.err = .ctx) : (restart c σ order).shelf s r = some j :=
  (restart_keeps_parked c σ order s r j hj hctx).1

/-- so a parked job that was listed as failed is listed after every restart, whatever the receivers do -/
theorem parked_failed_job_stays_listed (c : Cfg) (σ : St) (order : List Nat) (s r : Nat) (j : Job)
    (hj : σ.shelf s r = some j) (hctx : j.err = .ctx) (h : r ∈ failedEvents c σ s) : r ∈ failedEvents c (restart c σ order) s := by
  obtain ⟨hr, j0, hj0, ht⟩ := (mem_failedEvents_iff c σ s r).mp h
  rw [hj] at hj0; cases hj0
  exact (mem_failedEvents_iff c _ s r).mpr ⟨hr, j, restart_leaves_parked_job_alone c σ order s r j hj hctx, ht⟩

/-- the parked job is as before and the ledger only grew; that Run added no call of (s, r) (`attemptNo` unchanged) is
    `restart_keeps_parked` -/
theorem restart_never_calls_parked_job (c : Cfg) (σ : St) (order : List Nat) (s r : Nat) (j : Job)
    (hj : σ.shelf s r = some j) (hctx : j.err = .ctx) :
    (restart c σ order).shelf s r = some j ∧ ∃ new, (restart c σ order).ledger = new ++ σ.ledger :=
  ⟨(restart_keeps_parked c σ order s r j hj hctx).1, (restart_dstep c σ order).grows⟩

/-- **rest_row_stays_until_completed** (end to end: notifier shelf -> REST): a failed event the operator sees under subscriber `s`
    in the `ListEvents` answer is, after ANY further history (restarts, crashes, faults included), still shown under that subscriber
    whenever ListEvents answers - unless a completion of exactly that (subscriber, transaction) was recorded in between -/
theorem rest_row_stays_until_completed (c : Cfg) (hthr : c.failedThreshold ≤ c.maxRetries + 1) (names : Nat → String) (σ : St) (ops : List Op)
    (s : Nat) (e : ApiEvent) (he : e ∈ failedRows c σ s) (hr : e.ref < c.nRefs)
    (readFail : Nat → Bool) (order : List Nat) (l : List (String × List ApiEvent))
    (h : listEvents c names (run c σ ops) readFail order = .ok l) (hs : s ∈ order) :
    (∃ rows e', (names s, rows) ∈ l ∧ e' ∈ rows ∧ e'.ref = e.ref) ∨
      ∃ new, (run c σ ops).ledger = new ++ σ.ledger ∧ completedIn new s e.ref = true := by
  obtain ⟨j, hj, ht, _, _, _⟩ := failedRows_sound c σ s e he
  have hm : e.ref ∈ failedEvents c σ s := (mem_failedEvents_iff c σ s e.ref).mpr ⟨hr, j, hj, ht⟩
  rcases failed_stays_visible_or_completed c hthr σ ops s e.ref hm with hv | hc
  · obtain ⟨_, j', hj', _⟩ := (mem_failedEvents_iff c _ s e.ref).mp hv
    exact .inl ⟨failedRows c (run c σ ops) s, _, listEvents_mem c names _ readFail order l h s hs, failedRows_mem c _ s e.ref j' hv hj', rfl⟩
  · exact .inr hc

/-! ### non-vacuity -/

/-- subscriber 3 (vcr_vcs) fails every time with the unknown-context error; everybody else completes -/
def ctxAlways : Nat → Nat → Nat → Outcome := fun s _ _ => if s = 3 then .failCtx else .done
def fatal3 : Nat → Nat → Nat → Outcome := fun s _ _ => if s = 3 then .fatal else .done
def admitOps : List Op := [.add { ref := 0, withPayload := true }, .afterCommit [0, 1, 2, 3, 4], .afterCommit [0, 1, 2, 3, 4]]

-- a fatal answer is listed at once, and still after a stop + restart (Run calls the receiver once more: fatal again)
example : 0 ∈ failedEvents (wCfg true fatal3) (run (wCfg true fatal3) init admitOps) 3 := by decide +kernel
example : 0 ∈ failedEvents (wCfg true fatal3) (run (wCfg true fatal3) (run (wCfg true fatal3) init admitOps) [.crash, .restart [0, 1, 2, 3, 4]]) 3 := by
  decide +kernel
example : ({ ref := 0, type := .payload, retries := 21, err := .fatal } : ApiEvent) ∈ failedRows (wCfg true fatal3) (run (wCfg true fatal3) init admitOps) 3 := by decide +kernel
-- the second disjunct is real: a clean-up (Finished from outside) removes the listed job and is on record
example : 0 ∉ failedEvents (wCfg true fatal3) (run (wCfg true fatal3) (run (wCfg true fatal3) init admitOps) [.finishedExt 3 0 false]) 3 ∧
    completedIn ((run (wCfg true fatal3) (run (wCfg true fatal3) init admitOps) [.finishedExt 3 0 false]).ledger.take 1) 3 0 = true := by decide +kernel
-- a parked job: listed (threshold lowered to 1 for the witness), untouched by Run, receiver not called again
def parkCfg : Cfg := { wCfg true ctxAlways with failedThreshold := 1 }
example : (run parkCfg init admitOps).shelf 3 0 = some { type := .payload, retries := 1, err := .ctx } ∧
    0 ∈ failedEvents parkCfg (run parkCfg init admitOps) 3 ∧
    0 ∈ failedEvents parkCfg (restart parkCfg (crashSt (run parkCfg init admitOps)) [0, 1, 2, 3, 4]) 3 ∧
    ((restart parkCfg (crashSt (run parkCfg init admitOps)) [0, 1, 2, 3, 4]).ledger.filter (Entry.isCallOf 3 0)).length = 1 := by decide +kernel

/-! ### tie to the source -/

/-- Run calls, on the notifier itself, only: isPersistent, the shelf READ, notifyNow and retry - no Finished, no shelf write;
    and the branch that skips a job with the unknown-context error does nothing but `return nil` (the model's `runSnapshot`
    drops the job from the replay list and `restart` leaves it alone: restart_leaves_parked_job_alone) -/
theorem fact_run_only_reads_calls_and_reschedules :
    Facts.C14.runSelfCalls = ["p.isPersistent", "p.db.ReadShelf", "p.shelfName", "p.notifyNow", "p.retry"] ∧
    Facts.C14.runSkipBody = ["return nil"] := ⟨rfl, rfl⟩

/-- the threshold hypothesis of failed_stays_visible_or_completed holds for the constants of the source -/
theorem fact_threshold_below_fatal_mark : Facts.C14.retriesFailedThreshold ≤ Facts.C14.maxRetries + 1 := by decide

end Nuts.C14.Props
