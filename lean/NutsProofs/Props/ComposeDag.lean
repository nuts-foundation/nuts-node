/-
  Composition C06 ∘ C08 ∘ C07 — the DAG transaction network end to end.
  Maps: NutsModel/Compose/Dag.lean.

  What the single properties leave open and this file closes:
    * C08's theorems quantify over ANY call sequence of its own `add` (with its own prev/clock/root verifier) and speak
      about "the stored set"; C06's theorems stop at the admitted list.  Here the admitted list of C06 IS the stored set of
      C08: every C06-admitted transaction passes C08's verifier (discharged by C06's chain invariant), so all of C08's
      observables are its reference folds over exactly C06's admitted set.
    * the only hypothesis: delivered refs are SHA-256 values (`Small`, `< 2^256`).  C06 models refs as unbounded `Nat`,
      C08 as `BitVec 256`; the embedding is injective exactly there (witness: `small_refs_needed`).
    * C07's DAG is an unconstrained abstract list with its own `addCheck`, `xorOf`, `lcOf`, `ibltSet`, `findBetween`.  Here it
      is the view of C06's admitted list: `DagOK` is discharged by C06 (`admitted_view_is_valid_dag`), its `Add` decision is
      C06's (`add_decisions_agree`, `protocol_add_simulates_admission`), its digests are C08's (`gossip_digests_are_c08_digests`,
      `range_reply_is_c08_listing`), XOR faithfulness is restated about C08's `XOR(c)` (`xor_faithfulness_from_c08` / `_to_c08`)
      and `converges` applies to C06 ∘ C08-reachable nodes (`converges_end_to_end`).  What C07 assumes and C06 does not provide:
      `public_payload_not_provided_by_add`.
-/
import NutsProofs.Lemmas.ComposeDag
import NutsModel.C06.Cfg
import NutsProofs.Props.C06
import NutsProofs.Props.C08
import NutsProofs.Props.C07

namespace Nuts.Compose.Dag.Props
open Nuts Nuts.Compose.Dag
open Nuts.C08.Props (cfg NB cfg_good Observables Reachable)
open Nuts.Proto Nuts.Proto.L Nuts.Proto.Live

/-- **Admission feeds the digests.** For EVERY sequence of deliveries to the admission layer — bytes or parsed
    transactions; valid, invalid, duplicate, in any order — whose refs are SHA-256 values (`< 2^256`): the composed node's
    digest state, built by handing exactly what C06 admitted to C08's `add` at the moment of admission,
    * is the state obtained by feeding the admitted list in admission order to C08's `add` from the empty store (`digests`);
    * stores exactly the image of C06's admitted set — no `add` of the digest layer was refused: C08's own verifier
      (prevs present, clock = highest prev + 1, single root, ref not yet stored) passed every time, discharged by C06's
      DAG invariant and not assumed;
    * and every observable — `XOR(c)` and `IBLT(c)` with their clocks for EVERY requested clock, `FindBetweenLC(a, b)` for
      every window, transaction count, highest clock (atomic and stored), head — equals C08's reference fold over exactly
      C06's admitted set. -/
theorem admitted_stream_digests (a : Adm) (w : Wire) (ds : List Delivery) (hs : ∀ d ∈ ds, Small d.ref) :
    let nd : Node NB := Node.run a cfg w ds
    nd.st = run6 a ds ∧ nd.dg = digests cfg w nd.st ∧ nd.dg.disk.txs = embSet w nd.st ∧ Reachable nd.dg ∧
    Observables nd.dg (embSet w nd.st) := by
  have S := sim_run a w ds hs
  exact ⟨run_st a cfg w ds _, S.dg, S.built.rel.txs, S.built.reach, S.built.obs⟩



/-- **The digest layer never refuses what the admission layer admitted.** In every state the composed node can reach, a
    delivery that changes the admission layer's state at all is the admission of exactly one transaction `tx` (the
    delivered one), and C08's `add` of its image on the current digest state reports success, stores exactly it — and
    that is the node's new digest state. -/
theorem admitted_never_refused_by_digest_layer (a : Adm) (w : Wire) (ds : List Delivery) (hs : ∀ d ∈ ds, Small d.ref)
    (d : Delivery) (hd : Small d.ref) :
    let nd : Node NB := Node.run a cfg w ds
    (nd.deliver a cfg w d).1.st ≠ nd.st →
    ∃ tx p, tx.ref = d.ref ∧ (nd.deliver a cfg w d).2 = .ok () ∧ C06.Admitted a.env nd.st tx p (nd.deliver a cfg w d).1.st ∧
      C08.add cfg nd.dg (embTx w tx) {} = ((nd.deliver a cfg w d).1.dg, .ok ()) ∧
      (nd.deliver a cfg w d).1.dg.disk.txs = nd.dg.disk.txs ++ [embTx w tx] := by
  intro nd hne
  obtain ⟨hsinv, hrel, _, _⟩ := (sim_run a w ds hs).built
  rcases Node.step_cases a cfg w nd d with e | ⟨tx, p, hr, hres, ha, hdg⟩
  · exact absurd (congrArg Node.st e) hne
  · have hf := feed_admitted cfg_good hsinv hrel (hr ▸ hd) ha.fresh ha.prevsOK ha.rootOK (w := w)
    refine ⟨tx, p, hr, hres, ha, ?_, ?_⟩
    · rw [show (nd.deliver a cfg w d).1.dg = _ from hdg]; exact Prod.ext rfl hf.1
    · rw [show (nd.deliver a cfg w d).1.dg = _ from hdg, hf.2.2.txs, hrel.txs, embList_cons]

/-- **A rejected or duplicate delivery changes no digest (C06 `rejected_no_trace` / `add_idempotent` ∘ C08).**
    For ANY node state: a delivery the admission layer answers with an error (parse error, missing prev, wrong clock, bad
    signature, payload hash mismatch, second root, …) or whose ref is already stored leaves the whole node — admission
    state and digest state — exactly as it was; so `XOR(c)`, `IBLT(c)` for every clock `c`, every listing window, count,
    clocks and head are unchanged. -/
theorem rejected_delivery_changes_no_digest (a : Adm) (w : Wire) (nd : Node NB) (d : Delivery)
    (h : (nd.deliver a cfg w d).2 ≠ .ok () ∨ d.ref ∈ C06.refsOf nd.st.txs) :
    (nd.deliver a cfg w d).1 = nd ∧
    (∀ c, C08.xorAt (nd.deliver a cfg w d).1.dg c = C08.xorAt nd.dg c) ∧
    (∀ c, C08.ibltAt (nd.deliver a cfg w d).1.dg c = C08.ibltAt nd.dg c) ∧
    (∀ x y, C08.listing (nd.deliver a cfg w d).1.dg x y = C08.listing nd.dg x y) ∧
    C08.diagnostics (nd.deliver a cfg w d).1.dg = C08.diagnostics nd.dg := by
  have e : (deliver6 a nd.st d).1 = nd.st := by
    rcases h with h | h
    · exact deliver6_not_ok a nd.st d h
    · exact deliver6_dup a nd.st d h
  have hn : (nd.deliver a cfg w d).1 = nd := Node.step_same e
  rw [hn]
  exact ⟨rfl, fun _ => rfl, fun _ => rfl, fun _ _ => rfl, rfl⟩

/-- the same on the observables of the reference folds: along any history, after a rejected or duplicate delivery the
    digests are still C08's folds over C06's (unchanged) admitted set -/
theorem rejected_delivery_keeps_spec (a : Adm) (w : Wire) (ds : List Delivery) (hs : ∀ d ∈ ds, Small d.ref) (d : Delivery)
    (h : ((Node.run a cfg w ds : Node NB).deliver a cfg w d).2 ≠ .ok () ∨ d.ref ∈ C06.refsOf (run6 a ds).txs) :
    Observables ((Node.run a cfg w ds : Node NB).deliver a cfg w d).1.dg (embSet w (run6 a ds)) := by
  have m := admitted_stream_digests a w ds hs
  simp only at m
  have := (rejected_delivery_changes_no_digest a w (Node.run a cfg w ds) d (by rw [m.1]; exact h)).1
  rw [this, ← m.1]
  exact m.2.2.2.2

/-! ### non-vacuity: a concrete history on the configuration of the source -/

namespace Ex
def env : C06.Env :=
  { sha := fun p => p + 100, sigJwk := fun t => t.ref != 15, sigKey := fun _ _ => false, kidDid := fun _ => none,
    resolve := fun _ _ => .notFound }
def adm : Adm := { cfg := C06.srcCfg, b64 := fun _ => true, env := env, subs := [] }
def wire : Wire :=
  { hk := fun r => BitVec.ofNat 64 (r * 7), idx := fun r => [r % 1024, (r * 3 + 1) % 1024], palId := String.length, size := fun _ => 100 }
def mk (ref clock : Nat) (prevs : List Nat) (ph : Nat) : C06.Tx :=
  { ref := ref, alg := "ES256", payloadHash := ph, cty := "a/b", jwk := true, kid := "", sigt := 1, ver := 2, prevs := prevs,
    pal := [], clock := clock }
def root : C06.Tx := mk 11 0 [] 101
def child : C06.Tx := mk 12 1 [11] 102
/-- valid root, child with a wrong clock, orphan, valid child, the root again, a second root, a child with a bad signature,
    a payload that does not hash to the declared hash, bytes that do not parse -/
def ds : List Delivery :=
  [.tx root (some 1), .tx (mk 13 5 [11] 103) none, .tx (mk 14 1 [99] 104) none, .tx child (some 2), .tx root (some 1),
   .tx (mk 16 0 [] 106) (some 6), .tx (mk 15 2 [12] 105) none, .tx (mk 17 2 [12] 107) (some 9),
   .bytes { nSigs := 2, alg := "ES256", cty := "a/b", hasJwk := true, kid := none, priv := [], payload := "", ref := 18 } none]
end Ex

example : ∀ d ∈ Ex.ds, Small d.ref := by decide
/-- what the admission layer answers to each delivery once root and child are stored -/
example : (Ex.ds.map fun d => (deliver6 Ex.adm (run6 Ex.adm [.tx Ex.root (some 1), .tx Ex.child (some 2)]) d).2) =
    [.ok (), .err "clock", .err "prev-missing", .ok (), .ok (), .err "root-exists", .err "signature", .err "payload-hash",
     .err "multiple-signatures"] := by decide +kernel
example : (run6 Ex.adm Ex.ds).txs = [Ex.child, Ex.root] := by decide +kernel
example : (Node.run Ex.adm cfg Ex.wire Ex.ds : Node NB).dg.disk.txs = [embTx Ex.wire Ex.root, embTx Ex.wire Ex.child] := by decide +kernel
example : (C08.xorAt (Node.run Ex.adm cfg Ex.wire Ex.ds : Node NB).dg 0).1 = 11 ^^^ 12 := by decide +kernel
/-! ### the gossip protocol (C07) over C06 ∘ C08-reachable nodes -/

/-- **Every admitted DAG is a valid DAG of the protocol model.** After ANY sequence of deliveries the protocol's view of
    C06's admitted list satisfies C07's `DagOK` (good verdict, no duplicate, prevs present before, clock = `expectedClock`,
    one root) — the hypothesis `DagOK` of `safety_any_schedule`, `round_progress`, `converges` is discharged by C06. -/
theorem admitted_view_is_valid_dag (a : Adm) (w : Wire) (ds : List Delivery) :
    DagOK (view w a.env (run6 a ds)) := by
  have h : C06.Inv a.env (run6 a ds) :=
    foldl_invariant _ _ ds _ (fun d _ _ h => inv_deliver6 a h d) (C06.inv_empty a.env)
  exact (dagOK_view_iff w a.env _).mpr h.chain

/-- **The two models of `state.Add`'s decision agree** (C06 `add` vs C07 `addCheck`), in EVERY state and for every
    transaction and payload: the protocol model admits exactly what the admission model stores. -/
theorem add_decisions_agree (a : Adm) (w : Wire) (s : C06.St) (tx : C06.Tx) (p : Option Nat) :
    addCheck (view w a.env s) (viewTx w a.env tx) (p.map (viewPayload a.env.sha)) = .added ↔
      (C06.add a.env a.subs s tx p).1.txs = tx :: s.txs :=
  addCheck_added_iff w a.env a.subs s tx p

theorem xorAt_top (env : C06.Env) (w : Wire) (l : List C06.Tx) (hc : C06.ChainOK env l) (hs : ∀ t ∈ l, Small t.ref)
    (c : Nat) (hge : C06.maxClock l ≤ c) :
    C08.xorAt (build cfg w l : C08.State NB) c = (embRef (C06.xorAll l), C06.maxClock l) := by
  obtain ⟨hsinv, hrel, hr, _⟩ := built w hc hs
  have hd := C08.Props.diagnostics_spec hr
  have hroot : (build cfg w l : C08.State NB).mem.xorTree.rootData C08.xorOps = embRef (C06.xorAll l) := by
    have := congrArg (·.1) hd
    simp only [C08.diagnostics] at this
    rw [this, hrel.txs]
    exact specAll_xor_embList w l
  have hlc : (build cfg w l : C08.State NB).mem.lcHigh = C06.maxClock l := by
    rw [hsinv.lc, hsinv.g.lc, hrel.txs, maxClock_embList]
  unfold C08.xorAt
  have : ¬ c < C06.maxClock l := by omega
  simp only [hroot, hlc, this, if_false]

/-- **The digests the protocol exchanges are C08's digests of C06's admitted set.** Along every delivery history (refs
    SHA-256 values), with `d7` the protocol's view of the admitted list:
    * the `(xor, clock)` pair a node gossips / answers `State` with — C07's abstract `xorOf d7`, `lcOf d7` — is what C08's
      `XOR(c)` returns for every `c` at or above the highest clock;
    * the IBLT C08's `IBLT(c)` returns for EVERY clock `c` is the IBLT of exactly the ref set C07 abstracts it as
      (`ibltSet`, same page size);
    * C06's own copies (`xor`, `lcHigh`, `count`) are the same values;
    * and what C08 alone stores determines the same DAG skeleton (ref, clock, prevs) as C06's list. -/
theorem gossip_digests_are_c08_digests (a : Adm) (w : Wire) (cfg7 : Proto.Cfg) (hps : cfg7.pageSize = cfg.pageSize)
    (ds : List Delivery) (hs : ∀ d ∈ ds, Small d.ref) :
    let nd : Node NB := Node.run a cfg w ds
    let d7 := view w a.env nd.st
    (∀ c, lcOf d7 ≤ c → C08.xorAt nd.dg c = (embRef (xorOf d7), lcOf d7)) ∧
    (∀ c, (C08.ibltAt nd.dg c).1 = ibltOfSet NB w (ibltSet cfg7 d7 c)) ∧
    (nd.st.xor = xorOf d7 ∧ nd.st.lcHigh = lcOf d7 ∧ nd.st.count = d7.length ∧ nd.dg.disk.count = d7.length) ∧
    (viewOfDigests nd.dg).map skeleton = d7.map skeleton := by
  intro nd d7
  have S : Sim a w nd := sim_run a w ds hs
  obtain ⟨_, hrel, _, ob⟩ := S.built
  have hinv := S.inv.inv
  refine ⟨?_, ?_, ⟨?_, ?_, ?_, ?_⟩, ?_⟩
  · intro c hc
    have hx : xorOf d7 = C06.xorAll nd.st.txs := xorOf_view w a.env nd.st.txs
    have hl : lcOf d7 = C06.maxClock nd.st.txs := lcOf_view w a.env nd.st.txs
    rw [S.dg, hx, hl]
    exact xorAt_top a.env w _ hinv.chain S.inv.small c (hl ▸ hc)
  · intro c
    rw [ob.iblt c]
    show C08.specUpTo (C08.ibltOps NB) cfg.pageSize (C08.keyClocks (embList w nd.st.txs)) c = _
    rw [← hps]
    exact iblt_of_ibltSet NB w a.env cfg7 c nd.st.txs
  · rw [hinv.xor]; exact (xorOf_view w a.env nd.st.txs).symm
  · rw [hinv.lcHigh]; exact (lcOf_view w a.env nd.st.txs).symm
  · rw [hinv.count]; simp [d7, view]
  · rw [ob.count]; simp [d7, view, embList]
  · refine skeleton_view w a.env hrel ?_
    intro t ht p hp
    obtain ⟨u, hu, hru, _⟩ := (C06.chain_mem hinv.chain t ht).1 p hp
    rw [← hru]; exact hrel.small u hu

/-- **Convergence for nodes whose DAGs are C06-admitted (and hence carry C08's digests).** Two protocol nodes whose
    DAGs are the views of what C06 admitted along ANY two delivery histories (same resolver) converge under C07's fair
    round pairs to the union — C07's `converges` with its `DagOK` hypotheses discharged by C06. What is still assumed is
    exactly what C07 states and neither C06 nor C08 provides: the decode and sort contracts (`Hyp`), XOR faithfulness on
    `U` (`hxf`: no two valid sub-DAGs of `U` with different content and equal XOR — a collision assumption on SHA-256
    values, about which C08 only says that the XOR exchanged IS the XOR of the stored set), the universe `U` with
    unique refs holding both DAGs and its root in both, and the node bookkeeping invariants (`NI`: payload store sound,
    every public transaction HAS its payload — not provided by C06's `Add`, see `public_payload_not_provided_by_add` —,
    gossip queues in sync; `Linked`). -/
theorem converges_for_admitted_dags {cfg7 : Proto.Cfg} {env7 : Proto.Env} (H : Hyp cfg7 env7)
    (adm : Adm) (w : Wire) (dsA dsB : List Delivery) (U : List Proto.Tx)
    (hU : ∀ t ∈ U, ∀ t' ∈ U, t.ref = t'.ref → t = t')
    (hxf : ∀ d d' : List Proto.Tx, DagOK d → DagOK d' → (∀ t ∈ d, t ∈ U) → (∀ t ∈ d', t ∈ U) → xorOf d' = xorOf d → ∀ t ∈ d', t ∈ d)
    (pA pB : Peer) (fuel : Nat) (hfuel : pageOf cfg7 (lcOf U) + 3 ≤ fuel) (a b : Proto.Node)
    (hda : a.dag = view w adm.env (run6 adm dsA)) (hdb : b.dag = view w adm.env (run6 adm dsB))
    (nia : NI a) (nib : NI b) (ua : ∀ t ∈ a.dag, t ∈ U) (ub : ∀ t ∈ b.dag, t ∈ U)
    (ra : ∀ t ∈ U, t.prevs = [] → t ∈ a.dag) (rb : ∀ t ∈ U, t.prevs = [] → t ∈ b.dag)
    (la : Linked a pB.key) (lb : Linked b pA.key)
    (k : Nat) (hk : 2 * U.length < a.dag.length + b.dag.length + k) :
    (∀ t, t ∈ (roundPairs cfg7 env7 pA pB fuel k (a, b)).1.dag ↔ (t ∈ a.dag ∨ t ∈ b.dag)) ∧
    (∀ t, t ∈ (roundPairs cfg7 env7 pA pB fuel k (a, b)).2.dag ↔ (t ∈ a.dag ∨ t ∈ b.dag)) ∧
    DagOK (roundPairs cfg7 env7 pA pB fuel k (a, b)).1.dag ∧ DagOK (roundPairs cfg7 env7 pA pB fuel k (a, b)).2.dag := by
  have oka : DagOK a.dag := by rw [hda]; exact admitted_view_is_valid_dag adm w dsA
  have okb : DagOK b.dag := by rw [hdb]; exact admitted_view_is_valid_dag adm w dsB
  exact Nuts.C07.Props.converges H U hU hxf pA pB fuel hfuel a b ⟨nia, nib, oka, okb, ua, ub, ra, rb, la, lb⟩ k hk



/-! ### where the seams do not close by themselves (witnesses) -/

/-- **Seam C06/C08 (ref width).** C06 models a ref as an unbounded `Nat` (`Hdr.ref`: "SHA-256 of the input bytes (supplied)"),
    C08 as `BitVec 256`. Without the hypothesis `Small` the composition fails: the admission model stores two transactions
    whose refs differ by `2^256`, the digest model takes the second for a duplicate of the first. (No statement about the
    Go code — a real ref is 32 bytes; it is the reason every theorem above assumes `Small`.) -/
theorem small_refs_needed :
    ¬ Small (2 ^ 256 + 11) ∧ embRef (2 ^ 256 + 11) = embRef 11 ∧
    (Node.run Ex.adm cfg Ex.wire [.tx Ex.root (some 1), .tx (Ex.mk (2 ^ 256 + 11) 1 [11] 102) none] : Node NB).st.txs.length = 2 ∧
    (Node.run Ex.adm cfg Ex.wire [.tx Ex.root (some 1), .tx (Ex.mk (2 ^ 256 + 11) 1 [11] 102) none] : Node NB).dg.disk.txs.length = 1 := by
  decide

/-- **Seam C06/C07 (payload of a public transaction).** C07's liveness invariant `NI` contains `PubHave`: every public
    transaction (empty PAL) on the DAG has its payload in the store. C06's `Add` does not provide it: it admits a public
    transaction delivered WITHOUT payload (only the TransactionList door `handleList` refuses that), so a protocol node
    mirroring such a C06 state violates `PubHave` — `converges_for_admitted_dags` has to keep `NI` as a hypothesis. -/
theorem public_payload_not_provided_by_add :
    (deliver6 Ex.adm {} (.tx Ex.root none)).2 = .ok () ∧ (run6 Ex.adm [.tx Ex.root none]).payloads = [] ∧
    ¬ PubHave { (default : Proto.Node) with dag := view Ex.wire Ex.env (run6 Ex.adm [.tx Ex.root none]), payloads := [] } := by
  refine ⟨by decide, by decide, ?_⟩
  intro h
  have := h (viewTx Ex.wire Ex.env Ex.root) (by decide) (by decide)
  revert this
  decide

/-! ### non-vacuity for the gossip protocol -/

example : Nuts.C07.Ex.exCfg.pageSize = cfg.pageSize := by decide
example : xorOf (view Ex.wire Ex.env (run6 Ex.adm Ex.ds)) = 11 ^^^ 12 ∧ lcOf (view Ex.wire Ex.env (run6 Ex.adm Ex.ds)) = 1 ∧
    ibltSet Nuts.C07.Ex.exCfg (view Ex.wire Ex.env (run6 Ex.adm Ex.ds)) 0 = [12, 11] := by decide +kernel
example : addCheck (view Ex.wire Ex.env (run6 Ex.adm [.tx Ex.root none])) (viewTx Ex.wire Ex.env Ex.child) none = .added := by decide

/-- C07's own two-node instance (`exA` holds the root, `exB` is one transaction ahead) IS the view of two C06 histories -/
def c7root : C06.Tx := Ex.mk 1 0 [] 10
def c7x : C06.Tx := Ex.mk 2 1 [1] 20
example : Nuts.C07.Ex.exA.dag = view Ex.wire Ex.env (run6 Ex.adm [.tx c7root none]) ∧
    Nuts.C07.Ex.exB.dag = view Ex.wire Ex.env (run6 Ex.adm [.tx c7x none, .tx c7root none, .tx c7x none]) := by decide
example : ∀ t, t ∈ (roundPairs Nuts.C07.Ex.exCfg Nuts.C07.Ex.idealEnv { key := 0 } { key := 1 } 4 2
      (Nuts.C07.Ex.exA, Nuts.C07.Ex.exB)).1.dag ↔ (t ∈ Nuts.C07.Ex.exA.dag ∨ t ∈ Nuts.C07.Ex.exB.dag) :=
  (converges_for_admitted_dags
    (Nuts.C07.Ex.fact_hyp 524288 30 Nuts.C07.Ex.idealEnv Nuts.C07.Ex.idealEnv_DC Nuts.C07.Ex.idealEnv_OrderOK)
    Ex.adm Ex.wire [.tx c7root none] [.tx c7x none, .tx c7root none, .tx c7x none] Nuts.C07.Ex.exU (by decide) Nuts.C07.Ex.exXF
    { key := 0 } { key := 1 } 4 (by decide) Nuts.C07.Ex.exA Nuts.C07.Ex.exB (by decide) (by decide)
    Nuts.C07.Ex.exPairInv.nia Nuts.C07.Ex.exPairInv.nib Nuts.C07.Ex.exPairInv.ua Nuts.C07.Ex.exPairInv.ub
    Nuts.C07.Ex.exPairInv.ra Nuts.C07.Ex.exPairInv.rb Nuts.C07.Ex.exPairInv.la Nuts.C07.Ex.exPairInv.lb 2 (by decide)).1

/-! ### any valid admission state, however it was reached: the other doors, concurrency, restart -/

/-- **Static form.** For ANY state of the admission layer that satisfies C06's invariant (`C06.Inv`: the conclusion of
    `dag_inv`, kept by every door — `other_doors_keep_invariant` — and every interleaving —
    `concurrent_adds_keep_invariant`) and holds SHA-256 refs: feeding its admitted list in admission order to C08's `add`
    never fails, and the resulting digest state's observables are C08's folds over exactly that list. -/
theorem digests_of_valid_admission_state (env : C06.Env) (w : Wire) (s : C06.St) (hi : C06.Inv env s)
    (hs : ∀ t ∈ s.txs, Small t.ref) :
    (digests cfg w s : C08.State NB).disk.txs = embSet w s ∧ Reachable (digests cfg w s : C08.State NB) ∧
    Observables (digests cfg w s : C08.State NB) (embSet w s) ∧ DagOK (view w env s) := by
  have B := built w hi.chain hs
  exact ⟨B.rel.txs, B.reach, B.obs, (dagOK_view_iff w env _).mpr hi.chain⟩

/-- **Restart (C08 `restart_equiv` ∘ C06).** Stopping the node and reloading the digest trees from the persisted leaves
    gives the same observables: C08's folds over C06's admitted set. -/
theorem admitted_stream_digests_survive_restart (a : Adm) (w : Wire) (ds : List Delivery) (hs : ∀ d ∈ ds, Small d.ref) :
    let nd : Node NB := Node.run a cfg w ds
    (C08.restart cfg nd.dg).disk.txs = embSet w nd.st ∧ Observables (C08.restart cfg nd.dg) (embSet w nd.st) := by
  intro nd
  have B := (sim_run a w ds hs).built
  have := (C08.Props.restart_equiv B.reach).2.1
  rw [B.rel.txs] at this
  exact ⟨B.rel.txs, this⟩

/-- **Concurrent submissions.** After any delivery history, ANY number of concurrent `Add` calls under ANY interleaving of
    their read / write transactions (C06 `concurrent_adds_serialise`) end in an admission state whose digests — built by
    feeding its admitted list to C08 — are C08's folds over that list, and whose protocol view is a valid DAG. -/
theorem concurrent_admission_digests (a : Adm) (w : Wire) (ds : List Delivery) (hs : ∀ d ∈ ds, Small d.ref)
    (calls : List C06.Call) (hc : ∀ c ∈ calls, Small c.tx.ref) (sched : List Nat) :
    let wd := C06.run a.env a.subs calls sched { st := run6 a ds, pcs := List.replicate calls.length .start }
    (digests cfg w wd.st : C08.State NB).disk.txs = embSet w wd.st ∧
    Observables (digests cfg w wd.st : C08.State NB) (embSet w wd.st) ∧ DagOK (view w a.env wd.st) := by
  intro wd
  obtain ⟨order, _, _, hst, _⟩ := C06.Props.concurrent_adds_serialise a.env a.subs calls sched (run6 a ds)
  have h6 : Inv6 a wd.st := by
    rw [← hst, C06.seqRun_adds, adds_eq_deliveries]
    refine Inv6.run _ (inv6_run6 a ds hs) fun d hd => ?_
    obtain ⟨c, hcm, rfl⟩ := List.mem_map.mp hd
    obtain ⟨i, _, hi⟩ := List.mem_filterMap.mp hcm
    exact hc c (List.mem_of_getElem? hi)
  have := digests_of_valid_admission_state a.env w wd.st h6.inv h6.small
  exact ⟨this.1, this.2.2.1, this.2.2.2⟩

/-- **The TransactionList door is a sequence of single deliveries**: `handleList` (transport/v2 `handleTransactionList`
    once the message parsed) ends in the state reached by delivering a prefix of its items one by one — so every theorem
    over "every sequence of deliveries" covers it; and a payload arriving later (`latePayload`) does not touch the admitted
    list, hence no digest. -/
theorem other_doors_are_covered (a : Adm) (w : Wire) (s : C06.St) :
    (∀ items, ∃ k, k ≤ items.length ∧ (C06.handleList a.env a.subs s items).1 =
        ((items.take k).map (fun it => Delivery.tx it.tx it.payload)).foldl (step6 a) s) ∧
    (∀ ref p, (digests cfg w (C06.latePayload a.env a.subs s ref p).1 : C08.State NB) = digests cfg w s) := by
  refine ⟨fun items => handleList_prefix a items s, fun ref p => ?_⟩
  rw [digests_eq_build, digests_eq_build, C06.latePayload_txs]

/-- **A range reply is C08's listing.** For every window `[x, y)`, C08's `FindBetweenLC` on the composed node's digest
    state returns exactly the refs of C07's `findBetween` on the protocol view, in the same (clock, ref) order. -/
theorem range_reply_is_c08_listing (a : Adm) (w : Wire) (ds : List Delivery) (hs : ∀ d ∈ ds, Small d.ref) (x y : Nat) :
    let nd : Node NB := Node.run a cfg w ds
    C08.listing nd.dg x y = .ok ((findBetween (view w a.env nd.st) x y).map (fun t => embRef t.ref)) := by
  intro nd
  have S := sim_run a w ds hs
  rw [S.built.obs.listing x y]
  congr 1
  exact listing_view w a.env S.inv.small (C06.chain_nodup S.inv.inv.chain) x y

example : (C06.handleList Ex.adm.env Ex.adm.subs {} [⟨Ex.root, some 1⟩, ⟨Ex.mk 13 5 [11] 103, some 3⟩, ⟨Ex.child, some 2⟩]).1.txs = [Ex.root] := by decide
example : C08.listing (Node.run Ex.adm cfg Ex.wire Ex.ds : Node NB).dg 0 5 = .ok [11, 12] := by decide +kernel

/-! ### the models of `state.Add` agree pairwise (C06 ↔ C08 here; C06 ↔ C07 is `add_decisions_agree`) -/

/-- **The heads agree.** C06 (`St.head`, 0 = empty hash) and C08 (`Disk.head`) each apply `dag.add`'s head rule to their
    own copy of the highest clock; along every delivery history they record the same head transaction. -/
theorem heads_agree (a : Adm) (w : Wire) (ds : List Delivery) (hs : ∀ d ∈ ds, Small d.ref) :
    let nd : Node NB := Node.run a cfg w ds
    (nd.st.txs = [] ∧ nd.st.head = 0 ∧ nd.dg.disk.head = none) ∨
    (nd.st.txs ≠ [] ∧ nd.dg.disk.head = some (embRef nd.st.head) ∧ ∃ t ∈ nd.st.txs, t.ref = nd.st.head ∧ t.clock = nd.st.lcHigh) := by
  intro nd
  have S := sim_run a w ds hs
  rcases S.head with ⟨e, h8⟩ | ⟨ne, h8⟩
  · rcases S.inv.inv.head with ⟨_, h0⟩ | ⟨t, ht, _⟩
    · exact Or.inl ⟨e, h0, h8⟩
    · rw [e] at ht; cases ht
  · rcases S.inv.inv.head with ⟨e, _⟩ | h
    · exact absurd e ne
    · exact Or.inr ⟨ne, h8, h⟩

/-- **The two models of the prev verifier agree, outcome by outcome** (`NewPrevTransactionsVerifier`: C06 counts the
    highest prev clock from −1 in `Int`, C08 its successor from 0 in `Nat`; they look the prevs up in differently ordered
    shelves keyed by differently typed refs): on every reachable composed node, for ANY transaction with SHA-256 prevs,
    C08's verifier on the image returns C06's verdict — ok, missing prev, or wrong clock. -/
theorem prev_verifiers_agree (a : Adm) (w : Wire) (ds : List Delivery) (hs : ∀ d ∈ ds, Small d.ref) (tx : C06.Tx)
    (hp : ∀ p ∈ tx.prevs, Small p) :
    let nd : Node NB := Node.run a cfg w ds
    nd.dg.disk.verifyPrevs (embTx w tx) = prevErr8 (C06.verifyPrevs nd.st.txs tx) :=
  (sim_run a w ds hs).built.rel.verifyPrevs_agree tx hp

/-- **The digest layer on its own is exactly as strict as the admission layer's structural checks.** If the digest state
    of a reachable composed node is handed ANY transaction directly (bypassing admission; SHA-256 ref and prevs), C08's
    `add` stores it if and only if C06's structural conditions hold: ref not stored, prev verifier ok, single-root rule.
    So what C06 adds on top is exactly the signature and payload-hash checks, and a C06-rejected delivery whose
    rejection is structural (duplicate, missing prev, wrong clock, second root) would be refused by C08 as well. -/
theorem digest_layer_stores_iff_structurally_admissible (a : Adm) (w : Wire) (ds : List Delivery)
    (hs : ∀ d ∈ ds, Small d.ref) (tx : C06.Tx) (ht : Small tx.ref) (hp : ∀ p ∈ tx.prevs, Small p) :
    let nd : Node NB := Node.run a cfg w ds
    (C08.add cfg nd.dg (embTx w tx) {}).1.disk.txs = nd.dg.disk.txs ++ [embTx w tx] ↔
      (tx.ref ∉ C06.refsOf nd.st.txs ∧ C06.verifyPrevs nd.st.txs tx = .ok () ∧ (tx.prevs = [] → C06.hasRoot nd.st.txs = false)) := by
  intro nd
  have B := (sim_run a w ds hs).built
  exact add8_stores_iff cfg_good B.sinv B.rel tx ht hp

example : (Node.run Ex.adm cfg Ex.wire Ex.ds : Node NB).dg.disk.head = some (embRef 12) ∧ (run6 Ex.adm Ex.ds).head = 12 := by decide +kernel
example : (Node.run Ex.adm cfg Ex.wire Ex.ds : Node NB).dg.disk.verifyPrevs (embTx Ex.wire (Ex.mk 13 5 [11] 103)) = .err "bad-clock" ∧
    C06.verifyPrevs (run6 Ex.adm Ex.ds).txs (Ex.mk 13 5 [11] 103) = .err "clock" := by decide +kernel

/-! ### XOR faithfulness stated about C08's digests; convergence end to end -/

/-- **XOR faithfulness, instantiated with C08's digest over C06-admitted sets.** C07's liveness theorems assume `hxf`: within
    the universe `U`, two valid DAGs with equal XOR hold the same transactions — stated about C07's abstract `xorOf` over
    ALL `DagOK` lists. Here that hypothesis is derived from the same statement about what the implementation layers
    compute: for valid C06 chains `l`, `l'` inside a universe `U6` of C06 transactions (SHA-256 refs), if the XOR that
    C08's `XOR(c)` returns at the top clock on the digest state built from `l'` equals the one built from `l`, then
    `l' ⊆ l`. (A collision assumption on SHA-256 values; neither model can discharge it — see `exXF` for an instance.) -/
theorem xor_faithfulness_from_c08 (env : C06.Env) (w : Wire) (U6 : List C06.Tx) (hs : ∀ t ∈ U6, Small t.ref)
    (hxf8 : ∀ l l' : List C06.Tx, C06.ChainOK env l → C06.ChainOK env l' → (∀ t ∈ l, t ∈ U6) → (∀ t ∈ l', t ∈ U6) →
      (C08.xorAt (build cfg w l' : C08.State NB) (C06.maxClock l')).1 = (C08.xorAt (build cfg w l : C08.State NB) (C06.maxClock l)).1 →
      ∀ t ∈ l', t ∈ l) :
    ∀ d d' : List Proto.Tx, DagOK d → DagOK d' → (∀ t ∈ d, t ∈ U6.map (viewTx w env)) → (∀ t ∈ d', t ∈ U6.map (viewTx w env)) →
      xorOf d' = xorOf d → ∀ t ∈ d', t ∈ d := by
  intro d d' hd hd' hu hu' hx t ht
  obtain ⟨l, rfl, hl⟩ := preimage_of_view w env U6 d hu
  obtain ⟨l', rfl, hl'⟩ := preimage_of_view w env U6 d' hu'
  have c := (dagOK_view_iff w env l).mp hd
  have c' := (dagOK_view_iff w env l').mp hd'
  rw [xorOf_view, xorOf_view] at hx
  have h8 := hxf8 l l' c c' hl hl'
    (by rw [xorAt_top env w l' c' (fun t ht => hs t (hl' t ht)) _ (Nat.le_refl _),
            xorAt_top env w l c (fun t ht => hs t (hl t ht)) _ (Nat.le_refl _), hx])
  obtain ⟨u, hu, rfl⟩ := List.mem_map.mp ht
  exact List.mem_map.mpr ⟨u, h8 u hu, rfl⟩



/-- … and conversely: on a universe with unique SHA-256 refs the two formulations of XOR faithfulness are equivalent, so
    nothing is lost by stating the hypothesis about C08's digests -/
theorem xor_faithfulness_to_c08 (env : C06.Env) (w : Wire) (U6 : List C06.Tx) (hs : ∀ t ∈ U6, Small t.ref)
    (hU6 : ∀ t ∈ U6, ∀ t' ∈ U6, t.ref = t'.ref → t = t')
    (hxf : ∀ d d' : List Proto.Tx, DagOK d → DagOK d' → (∀ t ∈ d, t ∈ U6.map (viewTx w env)) →
      (∀ t ∈ d', t ∈ U6.map (viewTx w env)) → xorOf d' = xorOf d → ∀ t ∈ d', t ∈ d) :
    ∀ l l' : List C06.Tx, C06.ChainOK env l → C06.ChainOK env l' → (∀ t ∈ l, t ∈ U6) → (∀ t ∈ l', t ∈ U6) →
      (C08.xorAt (build cfg w l' : C08.State NB) (C06.maxClock l')).1 = (C08.xorAt (build cfg w l : C08.State NB) (C06.maxClock l)).1 →
      ∀ t ∈ l', t ∈ l := by
  intro l l' c c' hl hl' hx u hu
  have sl : ∀ t ∈ l, Small t.ref := fun t ht => hs t (hl t ht)
  have sl' : ∀ t ∈ l', Small t.ref := fun t ht => hs t (hl' t ht)
  rw [xorAt_top env w l' c' sl' _ (Nat.le_refl _), xorAt_top env w l c sl _ (Nat.le_refl _)] at hx
  have hx' : C06.xorAll l' = C06.xorAll l := embRef_inj (small_xorAll l' sl') (small_xorAll l sl) hx
  have := hxf (viewL w env l) (viewL w env l') ((dagOK_view_iff w env l).mpr c) ((dagOK_view_iff w env l').mpr c')
    (fun t ht => by obtain ⟨x, hx, rfl⟩ := List.mem_map.mp ht; exact List.mem_map.mpr ⟨x, hl x hx, rfl⟩)
    (fun t ht => by obtain ⟨x, hx, rfl⟩ := List.mem_map.mp ht; exact List.mem_map.mpr ⟨x, hl' x hx, rfl⟩)
    (by rw [xorOf_view, xorOf_view, hx'])
    (viewTx w env u) (List.mem_map.mpr ⟨u, hu, rfl⟩)
  obtain ⟨u2, hu2, he⟩ := List.mem_map.mp this
  have : u2.ref = u.ref := congrArg (·.ref) he
  rw [← hU6 u2 (hl u2 hu2) u (hl' u hu) this]
  exact hu2

/-- **End to end.** Two nodes whose DAGs are what C06 admitted along ANY two delivery histories inside a universe `U6`
    of transactions (unique SHA-256 refs), and whose digests are therefore C08's folds (`admitted_stream_digests`), converge
    under C07's fair round pairs to the union of their DAGs — with `DagOK` discharged by C06 and XOR faithfulness stated
    about C08's `XOR(c)` on C06-admitted sets. Remaining hypotheses are C07's own: decode/sort contracts (`Hyp`), the
    node bookkeeping invariants `NI` / `Linked`, the shared root, enough fuel and rounds. -/
theorem converges_end_to_end {cfg7 : Proto.Cfg} {env7 : Proto.Env} (H : Hyp cfg7 env7)
    (adm : Adm) (w : Wire) (dsA dsB : List Delivery) (U6 : List C06.Tx) (hs : ∀ t ∈ U6, Small t.ref)
    (hU6 : ∀ t ∈ U6, ∀ t' ∈ U6, t.ref = t'.ref → t = t')
    (hxf8 : ∀ l l' : List C06.Tx, C06.ChainOK adm.env l → C06.ChainOK adm.env l' → (∀ t ∈ l, t ∈ U6) → (∀ t ∈ l', t ∈ U6) →
      (C08.xorAt (build cfg w l' : C08.State NB) (C06.maxClock l')).1 = (C08.xorAt (build cfg w l : C08.State NB) (C06.maxClock l)).1 →
      ∀ t ∈ l', t ∈ l)
    (pA pB : Peer) (fuel : Nat) (hfuel : pageOf cfg7 (lcOf (U6.map (viewTx w adm.env))) + 3 ≤ fuel) (a b : Proto.Node)
    (hda : a.dag = view w adm.env (run6 adm dsA)) (hdb : b.dag = view w adm.env (run6 adm dsB))
    (nia : NI a) (nib : NI b) (ua : ∀ t ∈ (run6 adm dsA).txs, t ∈ U6) (ub : ∀ t ∈ (run6 adm dsB).txs, t ∈ U6)
    (ra : ∀ t ∈ U6, t.prevs = [] → t ∈ (run6 adm dsA).txs) (rb : ∀ t ∈ U6, t.prevs = [] → t ∈ (run6 adm dsB).txs)
    (la : Linked a pB.key) (lb : Linked b pA.key)
    (k : Nat) (hk : 2 * U6.length < a.dag.length + b.dag.length + k) :
    (∀ t, t ∈ (roundPairs cfg7 env7 pA pB fuel k (a, b)).1.dag ↔ (t ∈ a.dag ∨ t ∈ b.dag)) ∧
    (∀ t, t ∈ (roundPairs cfg7 env7 pA pB fuel k (a, b)).2.dag ↔ (t ∈ a.dag ∨ t ∈ b.dag)) ∧
    DagOK (roundPairs cfg7 env7 pA pB fuel k (a, b)).1.dag ∧ DagOK (roundPairs cfg7 env7 pA pB fuel k (a, b)).2.dag := by
  refine converges_for_admitted_dags H adm w dsA dsB (U6.map (viewTx w adm.env)) ?_
    (xor_faithfulness_from_c08 adm.env w U6 hs hxf8) pA pB fuel hfuel a b hda hdb nia nib ?_ ?_ ?_ ?_ la lb k (by simpa using hk)
  · intro t ht t' ht' he
    obtain ⟨u, hu, rfl⟩ := List.mem_map.mp ht
    obtain ⟨u', hu', rfl⟩ := List.mem_map.mp ht'
    rw [hU6 u hu u' hu' he]
  · intro t ht
    rw [hda] at ht
    obtain ⟨u, hu, rfl⟩ := List.mem_map.mp ht
    exact List.mem_map.mpr ⟨u, ua u hu, rfl⟩
  · intro t ht
    rw [hdb] at ht
    obtain ⟨u, hu, rfl⟩ := List.mem_map.mp ht
    exact List.mem_map.mpr ⟨u, ub u hu, rfl⟩
  · intro t ht hp
    obtain ⟨u, hu, rfl⟩ := List.mem_map.mp ht
    rw [hda]
    exact List.mem_map.mpr ⟨u, ra u hu hp, rfl⟩
  · intro t ht hp
    obtain ⟨u, hu, rfl⟩ := List.mem_map.mp ht
    rw [hdb]
    exact List.mem_map.mpr ⟨u, rb u hu hp, rfl⟩

/-- non-vacuity: C07's own example universe is the view of a C06 universe; its XOR faithfulness (`exXF`) gives the C08 form -/
example : [c7x, c7root].map (viewTx Ex.wire Ex.env) = Nuts.C07.Ex.exU := by decide
example : ∀ t, t ∈ (roundPairs Nuts.C07.Ex.exCfg Nuts.C07.Ex.idealEnv { key := 0 } { key := 1 } 4 2
      (Nuts.C07.Ex.exA, Nuts.C07.Ex.exB)).1.dag ↔ (t ∈ Nuts.C07.Ex.exA.dag ∨ t ∈ Nuts.C07.Ex.exB.dag) :=
  (converges_end_to_end
    (Nuts.C07.Ex.fact_hyp 524288 30 Nuts.C07.Ex.idealEnv Nuts.C07.Ex.idealEnv_DC Nuts.C07.Ex.idealEnv_OrderOK)
    Ex.adm Ex.wire [.tx c7root none] [.tx c7x none, .tx c7root none, .tx c7x none] [c7x, c7root] (by decide) (by decide)
    (xor_faithfulness_to_c08 Ex.env Ex.wire [c7x, c7root] (by decide) (by decide)
      (by rw [show [c7x, c7root].map (viewTx Ex.wire Ex.env) = Nuts.C07.Ex.exU from by decide]; exact Nuts.C07.Ex.exXF))
    { key := 0 } { key := 1 } 4 (by decide) Nuts.C07.Ex.exA Nuts.C07.Ex.exB (by decide) (by decide)
    Nuts.C07.Ex.exPairInv.nia Nuts.C07.Ex.exPairInv.nib (by decide) (by decide) (by decide) (by decide)
    Nuts.C07.Ex.exPairInv.la Nuts.C07.Ex.exPairInv.lb 2 (by decide)).1

/-! ### the three layers in step -/

/-- **The protocol model's `Add` simulates the admission model's.** If a protocol node's DAG is the view of an admission
    state, then after C07's `addTx` (decision `addCheck`, then `commitTx`) of the view of ANY transaction and payload its
    DAG is the view of the admission state after C06's `add` of that transaction — admitted, rejected or duplicate alike.
    Hence along any sequence of `Add` calls the three layers stay in step: C07's DAG = view of C06's list, C08's stored set
    = image of C06's list (`admitted_stream_digests`). -/
theorem protocol_add_simulates_admission (a : Adm) (w : Wire) (cfg7 : Proto.Cfg) (env7 : Proto.Env) (s : C06.St)
    (n : Proto.Node) (hn : n.dag = view w a.env s) (tx : C06.Tx) (p : Option Nat) :
    (addTx cfg7 env7 n (viewTx w a.env tx) (p.map (viewPayload a.env.sha))).1.dag = view w a.env (C06.add a.env a.subs s tx p).1 ∧
    ((addTx cfg7 env7 n (viewTx w a.env tx) (p.map (viewPayload a.env.sha))).2.2 = .added ↔
      (C06.add a.env a.subs s tx p).1.txs = tx :: s.txs) := by
  have hiff := add_decisions_agree a w s tx p
  rw [← hn] at hiff
  unfold addTx
  cases hc : addCheck n.dag (viewTx w a.env tx) (p.map (viewPayload a.env.sha)) with
  | added =>
    have h6 := hiff.mp hc
    refine ⟨?_, by simp [h6]⟩
    show (commitTx cfg7 n _ _).dag = _
    unfold view
    rw [h6, List.map_cons, ← show view w a.env s = s.txs.map (viewTx w a.env) from rfl, ← hn]
    rfl
  | present | prevMissing | badClock | badSig | payloadMismatch | rootExists =>
    have hne : ¬ (C06.add a.env a.subs s tx p).1.txs = tx :: s.txs := by
      intro h; have := hiff.mpr h; rw [hc] at this; cases this
    have hsame : (C06.add a.env a.subs s tx p).1 = s := by
      rcases @C06.add_cases a.env a.subs s tx p with e | ⟨_, ha⟩
      · exact e
      · exact absurd ha.txs hne
    refine ⟨?_, ?_⟩
    · show n.dag = _
      rw [hsame]; exact hn
    · constructor
      · intro h; cases h
      · intro h; exact absurd h hne

end Nuts.Compose.Dag.Props
