/-
  C11 — the node's own answers for credentials of its credential store: vcr.Resolve / vcr.Search.
  A credential the node holds a revocation for is never presented as valid by Resolve (for every resolveTime, trust setting,
  validity period) and never part of a Search result (for every query result order, allowUntrusted, resolveTime).
-/
import NutsModel.C11.Resolve
import NutsModel.Facts.C11
import NutsProofs.Props.C11ValidAt
namespace Nuts.C11.Props

/-- refinement: with `allowUntrusted = true` the trust-aware Verify is the `verifyAt` of the validAt layer -/
theorem verify_trust_at_refines (E : Env) (i : Bool) (w : World) (c : Cred) (nutsType rf trusted : Bool)
    (validAt : Option Int) (now : Int) (period : Int → Bool) :
    verifyTrustAt E i w c nutsType rf true trusted validAt now period = verifyAt E i w c nutsType rf validAt now period := by
  unfold verifyTrustAt verifyAt
  generalize verifyFullF E i w c nutsType rf = r
  obtain ⟨v, w'⟩ := r
  cases v <;> simp

/-- the trust and validity-period checks only turn an `ok` of `verifyFullF` into an error -/
theorem verifyTrustAt_spec (E : Env) (i : Bool) (w : World) (c : Cred) (nutsType rf au tr : Bool)
    (validAt : Option Int) (now : Int) (period : Int → Bool) :
    (verifyTrustAt E i w c nutsType rf au tr validAt now period).2 = (verifyFullF E i w c nutsType rf).2 ∧
    ((verifyTrustAt E i w c nutsType rf au tr validAt now period).1 = .revoked ↔ (verifyFullF E i w c nutsType rf).1 = .revoked) ∧
    ((verifyTrustAt E i w c nutsType rf au tr validAt now period).1 = .ok → (verifyFullF E i w c nutsType rf).1 = .ok) := by
  fun_cases verifyTrustAt E i w c nutsType rf au tr validAt now period with
  | case1 w' h _ | case2 w' h _ _ | case3 w' h _ _ => rw [h]; simp
  | case4 => exact ⟨rfl, .rfl, id⟩

theorem verifyFullF_path {E : Env} {K : KeyEnv} (hE : EnvOK E) (i : Bool) {w : World} (hw : WInv E w) (c : Cred)
    (nutsType rf : Bool) : WPath E K w (verifyFullF E i w c nutsType rf).2 := by
  rcases verifyFullF_cases E i w c nutsType rf with ⟨e, h⟩ | ⟨_, h⟩ <;> rw [h]
  · exact .refl _
  · exact step_path hE hw (.verify i c)

theorem verifyFullF_ok_not_revoked (E : Env) (i : Bool) (w : World) (c : Cred) (nutsType rf : Bool)
    (h : (verifyFullF E i w c nutsType rf).1 = .ok) : (w.get i).credRevoked c = false := by
  rcases verifyFullF_cases E i w c nutsType rf with ⟨e, h'⟩ | ⟨_, h'⟩ <;> rw [h'] at h
  · cases h
  · exact verify_ok_not_revoked h

/-- one `Verify` call and the node's revocation store: the world invariant is kept, no revocation is lost (read backwards:
    what is not revoked afterwards was not revoked before), and an accepted credential was not revoked -/
theorem verifyTrustAt_sound {E : Env} {K : KeyEnv} (hE : EnvOK E) {i : Bool} {w : World} (hw : WInv E w) {c : Cred}
    {nutsType rf au tr : Bool} {validAt : Option Int} {now : Int} {period : Int → Bool} {r : Verdict × World}
    (hr : verifyTrustAt E i w c nutsType rf au tr validAt now period = r) :
    WInv E r.2 ∧ (∀ c', (r.2.get i).credRevoked c' = false → (w.get i).credRevoked c' = false) ∧
    (r.1 = .ok → (w.get i).credRevoked c = false) := by
  subst hr
  obtain ⟨h2, _, hok⟩ := verifyTrustAt_spec E i w c nutsType rf au tr validAt now period
  obtain ⟨hw', hmono⟩ := (verifyFullF_path (K := K) hE i hw c nutsType rf).nodes hw
  rw [h2]
  refine ⟨hw', fun c' h => ?_, fun h => verifyFullF_ok_not_revoked E i w c nutsType rf (hok h)⟩
  cases hc : (w.get i).credRevoked c' with
  | false => rfl
  | true => rw [credRevoked_mono (hmono i) c' hc] at h; cases h

theorem classifyResolve_cred (b : Bool) (v : Verdict) (h : classifyResolve b v = .cred) : v = .ok := by
  cases v with
  | ok => rfl
  | revoked => cases b <;> simp [classifyResolve] at h
  | err e => by_cases he : (e == "untrusted") = true <;> simp [classifyResolve, he] at h

/-- `resolve_never_presents_revoked_as_valid`: for every store content, every world in which the node holds a revocation for
    the stored credential (one the default validator judges; the revocation store readable), every resolveTime, clock, trust
    verdict and validity period: `Resolve` answers (credential, ErrRevoked) — never the plain credential. -/
theorem resolve_never_presents_revoked_as_valid (E : Env) (i : Bool) (w : World) (store : List Stored) (id : String) (s : Stored)
    (hf : findStored store id = some s) (hnt : s.nutsType = false)
    (hrev : (w.get i).credRevoked s.cred = true) (resolveTime : Option Int) (now : Int) :
    (resolve E i w store id false resolveTime now).1 = .credAnd "revoked" := by
  have h2 := (verifyTrustAt_spec E i w s.cred false false false s.trusted resolveTime now s.period).2.1.2
    (verifyFullF_of_credRevoked hrev)
  unfold resolve
  simp only [hf, hnt, h2, hrev, classifyResolve, if_true]

/-- `resolve_valid_only_if_not_revoked`: whenever `Resolve` hands out the plain credential, the node holds no revocation for
    it — whatever validator, resolveTime, trust; and a store read fault never yields the plain credential. -/
theorem resolve_valid_only_if_not_revoked (E : Env) (i : Bool) (w : World) (store : List Stored) (id : String) (rf : Bool)
    (resolveTime : Option Int) (now : Int) (h : (resolve E i w store id rf resolveTime now).1 = .cred) :
    ∃ s, findStored store id = some s ∧ (w.get i).credRevoked s.cred = false ∧ rf = false := by
  unfold resolve at h
  split at h
  · simp at h
  · rename_i s hf
    refine ⟨s, by assumption, ?_⟩
    simp only at h
    have hok := classifyResolve_cred _ _ h
    have hf' := (verifyTrustAt_spec _ _ _ _ _ _ _ _ _ _ _).2.2 hok
    refine ⟨verifyFullF_ok_not_revoked E i w s.cred s.nutsType rf hf', ?_⟩
    cases rf with
    | false => rfl
    | true => exact absurd hf' (store_read_fault_never_accepts E i w s.cred s.nutsType)

/-- every `Resolve` answer that is not the plain credential for a revoked credential says "revoked" — also through the
    status list, where the wrapped error takes the `default` branch of the `==` switch -/
theorem resolve_revoked_says_revoked (E : Env) (i : Bool) (w : World) (store : List Stored) (id : String) (s : Stored) (rf : Bool)
    (hf : findStored store id = some s) (resolveTime : Option Int) (now : Int)
    (hv : (verifyFullF E i w s.cred s.nutsType rf).1 = .revoked) :
    (resolve E i w store id rf resolveTime now).1.saysRevoked = true := by
  have h2 := (verifyTrustAt_spec E i w s.cred s.nutsType rf false s.trusted resolveTime now s.period).2.1.2 hv
  unfold resolve
  simp only [hf, h2, classifyResolve]
  split <;> rfl

/-- `search_omits_revoked`: for every list of found documents (any order, any length), every allowUntrusted / resolveTime /
    clock and every starting world satisfying the world invariant: no credential the node holds a revocation for is part of
    the Search result, and the result is a sub-list of the found documents. -/
theorem search_omits_revoked (E : Env) (K : KeyEnv) (hE : EnvOK E) (i : Bool) (au rf : Bool) (resolveTime : Option Int) (now : Int) :
    ∀ (docs : List Stored) (w : World), WInv E w →
      (∀ s, s ∈ (search E i w docs au rf resolveTime now).1 → (w.get i).credRevoked s.cred = false) ∧
      List.Sublist (search E i w docs au rf resolveTime now).1 docs := by
  intro docs w hw
  fun_induction search E i w docs au rf resolveTime now with
  | case1 w => exact ⟨fun s hs => (nomatch hs), .slnil⟩
  | case2 w d rest r r2 ih =>
    obtain ⟨hw', hback, hok⟩ := verifyTrustAt_sound (K := K) (r := r) hE hw rfl
    obtain ⟨ih1, ih2⟩ := ih hw'
    by_cases h : r.1 = .ok
    · rw [if_pos h]
      refine ⟨fun s hs => ?_, ih2.cons_cons _⟩
      rcases List.mem_cons.1 hs with rfl | hs
      · exact hok h
      · exact hback _ (ih1 s hs)
    · rw [if_neg h]
      exact ⟨fun s hs => hback _ (ih1 s hs), ih2.cons _⟩

/-- end to end over histories: once a revocation was accepted at some point of a history, every later `Resolve` of a stored
    credential with that id (default validator, store readable) — for any resolveTime (before or after the revocation's date),
    any trust setting — answers (credential, ErrRevoked), also when the credential was stored after the revocation arrived. -/
theorem resolve_after_revocation_in_history (E : Env) (K : KeyEnv) (hE : EnvOK E) (w0 : World) (h0 : WInv E w0) (i : Bool)
    (r : Revocation) (before after : List Act) (n' : Node)
    (hacc : registerRevocation K ((run E K w0 before).get i) r = .ok n')
    (store : List Stored) (s : Stored) (hf : findStored store r.subject = some s) (hc : s.cred.id = some r.subject)
    (hnt : s.nutsType = false) (resolveTime : Option Int) (now : Int) :
    (resolve E i (run E K w0 (before ++ [.register i r] ++ after)) store r.subject false resolveTime now).1 = .credAnd "revoked" :=
  resolve_never_presents_revoked_as_valid E i _ store r.subject s hf hnt
    (run_register hE h0 before after hacc hc).1 resolveTime now

/-- the regenerated source of the two call sites: Resolve's statement chain (Verify with allowUntrusted = false,
    checkSignature = false, resolveTime), its `switch err` with `==` cases, Search's Verify call and what it does with the
    verdict, and the wrapped error of the status list verifier -/
theorem fact_resolve_and_search_sites :
    Nuts.Facts.C11.vcrResolveChain =
      ["stmt:credential,err := c.find(ID)", "err != nil",
       "err = c.verifier.Verify(credential,false,false,resolveTime); err != nil", "return &credential,nil"] ∧
    Nuts.Facts.C11.vcrResolveSwitch =
      ["switch err", "case types.ErrRevoked => return &credential,types.ErrRevoked",
       "case types.ErrUntrusted => return &credential,types.ErrUntrusted", "default => return nil,err"] ∧
    Nuts.Facts.C11.vcrSearchVerifySites.drop 3 =
      ["if err = c.verifier.Verify(foundCredential,allowUntrusted,false,resolveTime); err == nil {VCs = append(VCs,foundCredential)}",
       "return VCs,nil"] ∧
    Nuts.Facts.C11.statusListErrRevoked = "fmt.Errorf(\"status list: %w\",types.ErrRevoked)" := by and_intros <;> rfl

/-! non-vacuity -/
def exStoredB : Stored := { cred := { id := some "did:nuts:B#1", issuer := "did:nuts:B", statuses := none }, trusted := true,
                            period := fun t => decide (-60 ≤ t) }
def exStoredB2 : Stored := { cred := { id := some "did:nuts:B#2", issuer := "did:nuts:B", statuses := none }, trusted := true }

-- revocation first, credential stored later; asked about a moment long before: (credential, ErrRevoked)
example : (resolve exEnv false (run exEnv exKeys exWorld [.register false exRevByB]) [exStoredB2, exStoredB] "did:nuts:B#1" false (some (-30)) 0).1
    = .credAnd "revoked" := by decide +kernel
-- without the revocation the same call hands out the credential; an untrusted issuer gives (credential, ErrUntrusted)
example : (resolve exEnv false exWorld [exStoredB2, exStoredB] "did:nuts:B#1" false (some (-30)) 0).1 = .cred := by decide
example : (resolve exEnv false exWorld [{ exStoredB with trusted := false }] "did:nuts:B#1" false none 0).1 = .credAnd "untrusted" := by decide
example : (resolve exEnv false exWorld [exStoredB] "did:nuts:B#1" false (some (-100000)) 0).1 = .err "not-valid-at-time" := by decide
example : (resolve exEnv false exWorld [exStoredB] "did:nuts:B#9" false none 0).1 = .notFound := by decide
-- Search: the revoked credential is dropped, the other one stays
example : ((search exEnv false (run exEnv exKeys exWorld [.register false exRevByB]) [exStoredB, exStoredB2] false false (some (-30)) 0).1.map (·.cred.id))
    = [some "did:nuts:B#2"] := by decide +kernel
example : ((search exEnv false exWorld [exStoredB, exStoredB2] false false (some (-30)) 0).1.map (·.cred.id))
    = [some "did:nuts:B#1", some "did:nuts:B#2"] := by decide

end Nuts.C11.Props
