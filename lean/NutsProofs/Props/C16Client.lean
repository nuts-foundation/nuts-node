/-
  C16 — a client node mirroring SEVERAL lists in one store: `updateService` on list `d.id` IS the
  single-list `clientApply` on that list's replica (so every replica theorem of Props/C16 holds per list), and it
  changes another list's replica at most by pruning expired rows — which no search and no live set can see.
-/
import NutsModel.C16.Client
import NutsModel.C16.Spec
import NutsProofs.Lemmas.C16Replica
import NutsProofs.Lemmas.C16Node
import NutsProofs.Props.C16

namespace Nuts.C16.Props
open Nuts Nuts.C16

theorem node_clientLoop_refines (d : Def) (now seed ts : Nat) :
    ∀ (resp : List VP) (n : Node) (ctr : Nat),
      (Node.clientLoop d now seed ts n ctr resp).1.stores d.id = (clientLoop d now seed ts (n.stores d.id) ctr resp).1 ∧
      (Node.clientLoop d now seed ts n ctr resp).2 = (clientLoop d now seed ts (n.stores d.id) ctr resp).2 ∧
      ∀ k, k ≠ d.id → (Node.clientLoop d now seed ts n ctr resp).1.stores k = n.stores k ∨
                       (Node.clientLoop d now seed ts n ctr resp).1.stores k = (n.stores k).prune now := by
  intro resp n ctr
  have hother : ∀ (n : Node) (c : Store) (k : String), k ≠ d.id →
      ((n.pruneAll now).setStore d.id c).stores k = (n.stores k).prune now := by
    intro n c k hk'; simp [Node.setStore, Node.pruneAll, hk']
  have hself : ∀ (n : Node) (c : Store), ((n.pruneAll now).setStore d.id c).stores d.id = c := by
    intro n c; simp [Node.setStore]
  fun_induction Node.clientLoop d now seed ts n ctr resp
  case case1 => exact ⟨rfl, rfl, fun _ _ => .inl rfl⟩
  case case2 hj => simp only [clientLoop, hj, ↓reduceIte]; exact ⟨trivial, trivial, fun _ _ => .inl trivial⟩
  case case3 hj hi => simp only [clientLoop, hj, hi]; exact ⟨rfl, rfl, fun _ _ => .inl trivial⟩
  case case4 hj _ hi hs => simp only [clientLoop, hj, hi, hs]; exact ⟨rfl, rfl, fun _ _ => .inl trivial⟩
  case case5 hj _ hi _ _ hs hk ih => simp only [clientLoop, hj, hi, hs, hk, ↓reduceIte]; exact ih
  case case6 n ctr vp rest hj id hi subj m hs hk n1 c' row ha c'' ih =>
    -- the node's `add` runs on the pruned list, which `add` prunes anyway
    have ha' := (add_prune (n.stores d.id) now vp seed ts (ctr + 1) subj m hs).symm.trans ha
    simp only [clientLoop, hj, hi, hs, hk, ha']
    rw [hself] at ih
    refine ⟨ih.1, ih.2.1, fun k hk' => .inr ?_⟩
    rcases ih.2.2 k hk' with h3 | h3 <;> rw [h3, hother n c'' k hk']
    exact prune_prune _ _
  case case7 n ctr vp rest hj id hi subj m hs hk n1 c' x ha | case8 n ctr vp rest hj id hi subj m hs hk n1 c' x ha =>
    have ha' := (add_prune (n.stores d.id) now vp seed ts (ctr + 1) subj m hs).symm.trans ha
    simp only [clientLoop, hj, hi, hs, hk, ha']
    exact ⟨hself n c', rfl, fun k hk' => .inr (hother n c' k hk')⟩

/-- **node_update_refines.** On a node that mirrors several lists, `updateService` for list `d.id`, given the
    response `(vps, seed, ts)`, leaves in that list's replica exactly what the single-list `clientApply` computes from
    that replica alone, with the same outcome: every replica theorem of Props/C16 (convergence, restart on a seed change,
    search soundness, never panics) holds per list of a multi-list client. -/
theorem node_update_refines (cfg : Cfg) (n : Node) (now ctr : Nat) (d : Def) (ans : Nat → Answer) (vps : List VP) (seed ts : Nat)
    (h : ans (n.stores d.id).lastTs = .resp vps seed ts) :
    (n.updateService cfg now ctr d ans).1.stores d.id = (clientApply cfg d (n.stores d.id) now ctr seed ts vps).1 ∧
    (n.updateService cfg now ctr d ans).2 = (clientApply cfg d (n.stores d.id) now ctr seed ts vps).2 := by
  simp only [Node.updateService, h, clientApply]
  have hself : ∀ (c : Store), (n.setStore d.id c).stores d.id = c := by intro c; simp [Node.setStore]
  by_cases hw : (cfg.restartOnWipe && ((n.stores d.id).wipeOnSeedChange seed).2) = true
  · simp only [hw, ↓reduceIte]; exact ⟨hself _, by first | rfl | trivial⟩
  · simp only [hw, Bool.false_eq_true, ↓reduceIte]
    have := node_clientLoop_refines d now seed ts vps (n.setStore d.id ((n.stores d.id).wipeOnSeedChange seed).1) ctr
    rw [hself] at this
    exact ⟨this.1, this.2.1⟩

/-- **node_update_frame.** … and whatever the response holds (and when `Get` fails), every OTHER list's replica is
    unchanged or pruned of rows that expired before `now`: the same seed and timestamp (the next `Get` of that list asks
    for the same `after`), the same live set, the same search result. -/
theorem node_update_frame (cfg : Cfg) (n : Node) (now ctr : Nat) (d : Def) (ans : Nat → Answer) (k : String) (hk : k ≠ d.id) :
    ((n.updateService cfg now ctr d ans).1.stores k).seed = (n.stores k).seed ∧
    ((n.updateService cfg now ctr d ans).1.stores k).lastTs = (n.stores k).lastTs ∧
    ((n.updateService cfg now ctr d ans).1.stores k).liveKeys now = (n.stores k).liveKeys now ∧
    ((n.updateService cfg now ctr d ans).1.stores k).search now = (n.stores k).search now := by
  have hcases : (n.updateService cfg now ctr d ans).1.stores k = n.stores k ∨
      (n.updateService cfg now ctr d ans).1.stores k = (n.stores k).prune now := by
    simp only [Node.updateService]
    cases ha : ans (n.stores d.id).lastTs with
    | fail => exact Or.inl rfl
    | resp vps seed ts =>
      simp only []
      have hother : ∀ (c : Store), (n.setStore d.id c).stores k = n.stores k := by
        intro c; simp [Node.setStore, hk]
      by_cases hw : (cfg.restartOnWipe && ((n.stores d.id).wipeOnSeedChange seed).2) = true
      · simp only [hw, ↓reduceIte]; exact Or.inl (hother _)
      · simp only [hw, Bool.false_eq_true, ↓reduceIte]
        have := (node_clientLoop_refines d now seed ts vps (n.setStore d.id ((n.stores d.id).wipeOnSeedChange seed).1) ctr).2.2 k hk
        rw [hother] at this
        exact this
  rcases hcases with h | h <;> rw [h]
  · exact ⟨rfl, rfl, rfl, rfl⟩
  · exact ⟨rfl, rfl, liveKeys_prune _ _, search_prune _ _⟩

/-- a failing `Get` changes nothing at all -/
theorem node_update_get_fails (cfg : Cfg) (n : Node) (now ctr : Nat) (d : Def) (ans : Nat → Answer)
    (h : ans (n.stores d.id).lastTs = .fail) :
    (n.updateService cfg now ctr d ans).1.stores = n.stores ∧ (n.updateService cfg now ctr d ans).2 = (ctr, .err "get") := by
  simp [Node.updateService, h]

/-! non-vacuity: a node with two lists; polling "A" stores the entry there and leaves "B" alone -/

def exCNode : Node := { stores := fun k => if k = "B" then { seed := 7, lastTs := 2 } else {} }

def exAnsA : Nat → Answer := fun _ => .resp [exVP "a" "v1" 100] 5 1

example : ((exCNode.updateService factCfg 10 0 exDef exAnsA).1.stores exDef.id).rows.map (fun r => (r.subject, r.id)) = [("a", "v1")] ∧
    ((exCNode.updateService factCfg 10 0 exDef exAnsA).1.stores "B").lastTs = 2 ∧
    (exCNode.updateService factCfg 10 0 exDef exAnsA).2.2 = .ok () := by decide

end Nuts.C16.Props
