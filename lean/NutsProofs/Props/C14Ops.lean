/-
  C14 — the construction side of a notifier (NutsModel.C14.Options): options, registry, which registration is a
  persistent subscriber, the non-persistent path, and the machine arithmetic of notifier.retry refined to the abstract
  `retryAttempts` of Notifier.lean.
-/
import NutsModel.C14.Options
import NutsModel.Facts.C14
import NutsProofs.Lemmas.C14Budget
import NutsProofs.Props.C14
import NutsProofs.Lemmas.Base

namespace Nuts.C14.Props
open Nuts.C14

/-! ### options -/

theorem applyOpt_name (n : NCfg) (o : Opt) : (applyOpt n o).name = n.name := by cases o <;> rfl

theorem foldl_applyOpt_name (opts : List Opt) (n : NCfg) : (opts.foldl applyOpt n).name = n.name :=
  foldl_invariant (fun m => m.name = n.name) applyOpt opts n (fun o _ m hm => (applyOpt_name m o).trans hm) rfl

theorem newNotifier_name (d : Int) (name : String) (opts : List Opt) : (newNotifier d name opts).name = name :=
  foldl_applyOpt_name opts _

def isPersistency : Opt → Bool | .persistency _ => true | _ => false
def isFilter : Opt → Option Filter | .filter f => some f | _ => none

theorem foldl_applyOpt_persistent (opts : List Opt) (n : NCfg) :
    (opts.foldl applyOpt n).persistent = (n.persistent || opts.any isPersistency) := by
  induction opts generalizing n with
  | nil => simp
  | cons o os ih =>
    simp only [List.foldl_cons, List.any_cons]; rw [ih]
    cases o <;> simp [applyOpt, NCfg.persistent, isPersistency]

/-- **options_persistent_iff**: for EVERY option list, the notifier is persistent exactly when a `WithPersistency`
    option occurs in it — no other option, in any position, switches persistency on or off -/
theorem options_persistent_iff (d : Int) (name : String) (opts : List Opt) :
    (newNotifier d name opts).persistent = opts.any isPersistency := by
  unfold newNotifier; rw [foldl_applyOpt_persistent]; simp [NCfg.persistent]

theorem foldl_applyOpt_filters (opts : List Opt) (n : NCfg) :
    (opts.foldl applyOpt n).filters = n.filters ++ opts.filterMap isFilter := by
  induction opts generalizing n with
  | nil => simp
  | cons o os ih =>
    simp only [List.foldl_cons]; rw [ih]
    cases o <;> simp [applyOpt, isFilter, List.filterMap_cons]

/-- **options_filters_accumulate**: the notifier's filters are exactly the `WithSelectionFilter` options, in order;
    so it accepts an event iff every one of them does (none is dropped or overridden by a later option) -/
theorem options_filters_accumulate (d : Int) (name : String) (opts : List Opt) (pal : Bool) (pt : String) (ty : EvType) :
    (newNotifier d name opts).accepts pal pt ty = (opts.filterMap isFilter).all (fun f => f.test pal pt ty) := by
  unfold newNotifier NCfg.accepts; rw [foldl_applyOpt_filters]; simp

theorem foldl_applyOpt_delay_unchanged (post : List Opt) (n : NCfg) (hpost : ∀ o, o ∈ post → ∀ y, o ≠ .retryDelay y) :
    (post.foldl applyOpt n).retryDelay = n.retryDelay := by
  refine foldl_invariant (·.retryDelay = n.retryDelay) _ post n (fun o ho s hs => ?_) rfl
  cases o with
  | retryDelay y => exact absurd rfl (hpost _ ho y)
  | _ => exact hs

/-- a later `WithRetryDelay` overrides an earlier one (and the default); other trailing options leave it alone -/
theorem options_last_delay_wins (d : Int) (name : String) (pre post : List Opt) (x : Int)
    (hpost : ∀ o, o ∈ post → ∀ y, o ≠ .retryDelay y) :
    (newNotifier d name (pre ++ .retryDelay x :: post)).retryDelay = x := by
  unfold newNotifier
  rw [List.foldl_append, List.foldl_cons, foldl_applyOpt_delay_unchanged post _ hpost]
  rfl

/-- without any `WithRetryDelay` the default delay stays -/
theorem options_default_delay (d : Int) (name : String) (opts : List Opt) (h : ∀ o, o ∈ opts → ∀ y, o ≠ .retryDelay y) :
    (newNotifier d name opts).retryDelay = d := by
  unfold newNotifier; rw [foldl_applyOpt_delay_unchanged opts _ h]

example : (newNotifier 1000000000 "vdr" [.retryDelay 5, .persistency 1, .filter { type := some .payload }, .retryDelay 7, .counters]) =
    { name := "vdr", db := some 1, retryDelay := 7, filters := [{ type := some .payload }], ctx := 0, counters := true } := by decide

/-! ### registry (state.Notifier) -/

def NamesNodup (reg : List NCfg) : Prop := (reg.map (·.name)).Nodup

theorem register_keeps_nodup (d : Int) (reg : List NCfg) (name : String) (opts : List Opt) (h : NamesNodup reg) :
    NamesNodup (register d reg name opts).1 := by
  unfold register
  split
  · exact h
  · rename_i hn
    unfold NamesNodup at *
    simp only [List.map_append, List.map_cons, List.map_nil, newNotifier_name]
    refine nodup_snoc h fun ha => hn ?_
    obtain ⟨n, hn1, hn2⟩ := List.mem_map.mp ha
    exact List.any_eq_true.mpr ⟨n, hn1, by simp [hn2]⟩

/-- **registry_names_unique**: after ANY sequence of registrations (duplicates, any options) no two registered
    notifiers share a name — hence no two share a job shelf `_<name>_jobs` -/
theorem registry_names_unique (d : Int) (rs : List (String × List Opt)) : NamesNodup (registerAll d [] rs) := by
  suffices h : ∀ reg, NamesNodup reg → NamesNodup (registerAll d reg rs) from h [] List.nodup_nil
  induction rs with
  | nil => intro reg h; exact h
  | cons r rs ih => intro reg h; exact ih _ (register_keeps_nodup d reg r.1 r.2 h)

theorem register_prefix (d : Int) (reg : List NCfg) (name : String) (opts : List Opt) :
    ∃ tail, (register d reg name opts).1 = reg ++ tail := by
  unfold register; split
  · exact ⟨[], by simp⟩
  · exact ⟨_, rfl⟩

/-- **first_registration_stays**: a registered notifier is never displaced or altered by later registrations
    (a duplicate name is refused, `LoadOrStore` keeps the first): its position and configuration are final -/
theorem first_registration_stays (d : Int) (rs : List (String × List Opt)) (reg : List NCfg) (i : Nat) (n : NCfg)
    (h : reg[i]? = some n) : (registerAll d reg rs)[i]? = some n := by
  induction rs generalizing reg with
  | nil => exact h
  | cons r rs ih =>
    apply ih
    obtain ⟨tail, ht⟩ := register_prefix d reg r.1 r.2
    show ((register d reg r.1 r.2).1)[i]? = some n
    rw [ht, List.getElem?_append_left (by
      rcases Nat.lt_or_ge i reg.length with hl | hl
      · exact hl
      · rw [List.getElem?_eq_none hl] at h; cases h)]
    exact h

/-- a refused registration reports it and changes nothing -/
theorem register_duplicate_refused (d : Int) (reg : List NCfg) (name : String) (opts : List Opt)
    (h : reg.any (fun n => n.name == name) = true) : register d reg name opts = (reg, false) := by
  unfold register; simp [h]

example : (registerAll 1 [] [("a", [.persistency 1]), ("b", []), ("a", [.retryDelay 9])]).map (fun n => (n.name, n.persistent, n.retryDelay)) =
    [("a", true, 1), ("b", false, 1)] := by decide

/-! ### who is a persistent subscriber: the first statements of Save -/

/-- **save_proceeds_iff**: `Save` reaches "only schedule new events" exactly for a notifier that got `WithPersistency`
    with the store of the admission's write transaction and whose filters all accept (a non-persistent notifier never
    keeps a job: `save_nonpersistent_iff`; on another store `Save` fails, `SaveKind.differentDB`, and `saveEvent` hands
    the error back) -/
theorem save_proceeds_iff (d : Int) (name : String) (opts : List Opt) (txdb : Nat) (pal : Bool) (pt : String) (ty : EvType) :
    saveKind (newNotifier d name opts) txdb pal pt ty = .proceed ↔
      (newNotifier d name opts).db = some txdb ∧ (opts.filterMap isFilter).all (fun f => f.test pal pt ty) = true := by
  rw [← options_filters_accumulate d name opts pal pt ty]
  unfold saveKind
  cases hdb : (newNotifier d name opts).db with
  | none => simp
  | some x =>
    by_cases hx : x = txdb
    · subst hx; by_cases ha : (newNotifier d name opts).accepts pal pt ty = true <;> simp [ha]
    · simp [hx]

theorem save_nonpersistent_iff (n : NCfg) (txdb : Nat) (pal : Bool) (pt : String) (ty : EvType) :
    saveKind n txdb pal pt ty = .nonPersistent ↔ n.persistent = false := by
  unfold saveKind NCfg.persistent
  cases n.db with
  | none => simp
  | some x => by_cases hx : x = txdb <;> simp [hx] <;> split <;> simp

example : saveKind (newNotifier 1 "gossip" [.filter { type := some .tx }]) 1 false "" .tx = .nonPersistent := by decide
example : saveKind (newNotifier 1 "x" [.persistency 2]) 1 false "" .tx = .differentDB := by decide
example : saveKind (newNotifier 1 "x" [.persistency 1, .filter { type := some .tx }]) 1 false "" .payload = .filtered := by decide
example : saveKind (newNotifier 1 "x" [.persistency 1, .filter { type := some .tx }]) 1 false "" .tx = .proceed := by decide

/-! ### the non-persistent path: bounded, and invisible -/

theorem npLoop_le (beh : Nat → Outcome) (left k : Nat) : npLoop beh left k ≤ left := by
  fun_induction npLoop beh left k with
  | case1 => exact Nat.le_refl _
  | case2 _ _ _ ih => omega
  | case3 => omega

/-- **np_calls_bounded**: one `Notify` on a non-persistent notifier calls the receiver at most `maxRetries` times,
    whatever the receiver does and whatever `Retries` the event carries — and then the event is gone:
    nothing is on a shelf, `Run` has nothing to replay, `GetFailedEvents` is empty (`npFailedEvents = []`).
    That is why the property speaks of PERSISTENT subscribers (`save_proceeds_iff`). -/
theorem np_calls_bounded (maxRetries : Nat) (beh : Nat → Outcome) (retries : Nat) (h : 0 < maxRetries) :
    1 ≤ npNotifyCalls maxRetries beh retries ∧ npNotifyCalls maxRetries beh retries ≤ maxRetries := by
  unfold npNotifyCalls
  split
  · split
    · have := npLoop_le beh (maxRetries - (retries + 1)) 1; omega
    · omega
  · omega

theorem npLoop_never_done (beh : Nat → Outcome) (h : ∀ k, npNotifyNow (beh k) = .err) (left k : Nat) : npLoop beh left k = left := by
  fun_induction npLoop beh left k with
  | case1 => rfl
  | case2 _ _ _ ih => omega
  | case3 _ k hn => exact absurd (h k) hn

/-- a receiver that never completes is called exactly `maxRetries` times for a fresh event, then never again -/
theorem np_gives_up_after_budget (maxRetries : Nat) (beh : Nat → Outcome) (h : ∀ k, npNotifyNow (beh k) = .err) (hm : 1 < maxRetries) :
    npNotifyCalls maxRetries beh 0 = maxRetries := by
  unfold npNotifyCalls; rw [h 0]; simp only [hm, if_true, Nat.zero_add]; rw [npLoop_never_done beh h]; omega

example : npNotifyCalls 20 (fun k => if k < 3 then .fail else .done) 0 = 4 := by decide
example : npNotifyCalls 20 (fun _ => .fatal) 0 = 1 := by decide

/-! ### machine arithmetic of notifier.retry -/

/-- the unsigned computation of notifier.retry on an int64 `Retries`: in range it is the plain difference, out of range the
    wrap-around lands at or below 0 or at or above `maxRetries`, which is what the guard tests -/
theorem attemptsM_eq (retries : Int) (hlo : -9223372036854775808 ≤ retries) (hhi : retries < 9223372036854775808) :
    (0 ≤ retries ∧ retries + 1 < 20 ∧ toU64 (20 - toU64 (wrapI64 (retries + 1))) = 20 - (retries + 1)) ∨
    (¬(0 ≤ retries ∧ retries + 1 < 20) ∧
      (toU64 (20 - toU64 (wrapI64 (retries + 1))) ≤ 0 ∨ toU64 (20 - toU64 (wrapI64 (retries + 1))) ≥ 20)) := by
  unfold toU64 wrapI64 two64 two63
  by_cases h : 0 ≤ retries ∧ retries + 1 < 20
  · exact .inl ⟨h.1, h.2, by omega⟩
  · exact .inr ⟨h, by omega⟩

/-- **retry_attempts_machine**: for EVERY int64 value of `event.Retries` (negative and overflowing ones included)
    the unsigned wrap-around computation of notifier.retry starts a loop exactly when `0 ≤ Retries` and
    `Retries + 1 < maxRetries`, with `maxRetries - (Retries + 1)` attempts -/
theorem retry_attempts_machine (retries : Int) (hlo : -9223372036854775808 ≤ retries) (hhi : retries < 9223372036854775808) :
    retryAttemptsM 20 retries = if 0 ≤ retries ∧ retries + 1 < 20 then some (20 - (retries + 1)) else none := by
  show (if toU64 (20 - toU64 (wrapI64 (retries + 1))) ≤ 0 ∨ toU64 (20 - toU64 (wrapI64 (retries + 1))) ≥ 20 then none
    else some (toU64 (20 - toU64 (wrapI64 (retries + 1))))) = _
  rcases attemptsM_eq retries hlo hhi with ⟨h1, h2, e⟩ | ⟨hn, hx⟩
  · rw [e, if_neg (by omega : ¬(20 - (retries + 1) ≤ 0 ∨ 20 - (retries + 1) ≥ 20)), if_pos ⟨h1, h2⟩]
  · rw [if_pos hx, if_neg hn]

/-- refinement: on the values the notifier stores (`Retries ≥ 0`) the machine computation is the model's `retryAttempts` -/
theorem retry_attempts_refines (c : Cfg) (hc : c.maxRetries = 20) (retries : Nat) (h : (retries : Int) < 9223372036854775808) :
    retryAttemptsM 20 retries = (retryAttempts c retries).map (fun a : Nat => (a : Int)) := by
  rw [retry_attempts_machine retries (by omega) h]
  unfold retryAttempts; rw [hc]
  by_cases hlt : retries + 1 < 20
  · rw [if_pos hlt, if_pos ⟨by omega, by omega⟩]
    show some (20 - ((retries : Int) + 1)) = some ((20 - (retries + 1) : Nat) : Int)
    congr 1; omega
  · rw [if_neg hlt, if_neg fun h => hlt (by omega)]
    rfl

theorem delayM_no_overflow (k : Nat) (delay : Int) (h0 : 0 ≤ delay) (h : delay * 2 ^ k < 9223372036854775808) :
    delayM delay k = delay * 2 ^ k := by
  induction k generalizing delay with
  | zero => simp [delayM]
  | succ k ih =>
    unfold delayM
    have h2 : delay * 2 ^ (k + 1) = (delay * 2) * 2 ^ k := by rw [Int.pow_succ]; rw [Int.mul_assoc, Int.mul_comm (2 ^ k) 2, ← Int.mul_assoc]
    have hp : (1 : Int) ≤ 2 ^ k := by
      have : (0 : Int) < 2 ^ k := Int.pow_pos (by decide)
      omega
    have hb : delay * 2 < 9223372036854775808 := by
      rw [h2] at h
      have : delay * 2 * 1 ≤ delay * 2 * 2 ^ k := Int.mul_le_mul_of_nonneg_left hp (by omega)
      omega
    have hw : wrapI64 (delay * 2) = delay * 2 := by unfold wrapI64 two63 two64; omega
    rw [hw, ih (delay * 2) (by omega) (by rw [← h2]; exact h), h2]

/-- **retry_delay_never_overflows**: whenever notifier.retry starts a loop (`Retries + 1 < maxRetries = 20`), the doubled
    start delay `retryDelay · 2^(Retries+1)` is computed without int64 overflow for every configured `retryDelay`
    up to 2^43 ns (≈ 2.4 h; the default is 1 s): the back-off of `Notifier.backoff` is what the code sleeps on -/
theorem retry_delay_never_overflows (retryDelay : Int) (h0 : 0 ≤ retryDelay) (hd : retryDelay ≤ 8796093022208) (retries : Nat) (hr : retries + 1 < 20) :
    delayM retryDelay (retries + 1) = retryDelay * 2 ^ (retries + 1) := by
  apply delayM_no_overflow _ _ h0
  have hall : ∀ k : Fin 20, (2 : Int) ^ k.val ≤ 2 ^ 19 := by decide
  have hp : (2 : Int) ^ (retries + 1) ≤ 2 ^ 19 := hall ⟨retries + 1, hr⟩
  have h1 : retryDelay * 2 ^ (retries + 1) ≤ retryDelay * 2 ^ 19 := Int.mul_le_mul_of_nonneg_left hp h0
  have h2 : retryDelay * 2 ^ 19 ≤ 8796093022208 * 2 ^ 19 := Int.mul_le_mul_of_nonneg_right hd (by decide)
  have h3 : (8796093022208 : Int) * 2 ^ 19 < 9223372036854775808 := by decide
  omega

/-- witness that the bound matters: a 5-hour `WithRetryDelay` doubled 19 times wraps to a NEGATIVE int64 delay -/
example : delayM 18000000000000 19 < 0 := by decide
example : retryAttemptsM 20 (-1) = none ∧ retryAttemptsM 20 0 = some 19 ∧ retryAttemptsM 20 18 = some 1 ∧ retryAttemptsM 20 19 = none ∧
    retryAttemptsM 20 9223372036854775807 = none ∧ retryAttemptsM 20 (-9223372036854775808) = none := by decide

/-! ### the retry budget over all histories (incl. duplicate payload messages) -/

/-- a payload message for a transaction whose payload event was saved before changes nothing: nothing saved, nobody notified -/
theorem duplicate_payload_write_is_silent (c : Cfg) (hskip : c.skipPresent = true) (hg : c.notifyGuarded = true) (σ : St) (ref : Nat)
    (cf : Bool) (h : ref ∈ σ.evented) : (writePayload c σ ref cf).1 = σ := by
  rcases writePayload_spec c σ ref cf with ⟨e, _, _, he, _⟩ | ⟨_, p, he, _, hp⟩ | ⟨_, _, hns⟩
  · rw [he]
  · rw [he, hp hg]
  · exact absurd ⟨hskip, h⟩ hns

/-- non-vacuity + the bound is reached: never-completing subscriber, one payload message and TWO duplicates, 19 timers -/
def dupOps : List Op :=
  [.add { ref := 1 }, .afterCommit [0, 1, 2, 3, 4], .writePayload 1 false, .afterCommit [0, 1, 2, 3, 4]] ++
  List.replicate 19 (.fire 3 1) ++ [.writePayload 1 false, .afterCommit [4, 3, 2, 1, 0], .writePayload 1 false, .afterCommit [0, 1, 2, 3, 4]]

def neverDone' : Nat → Nat → Nat → Outcome := fun s _ _ => if s = 3 then .notDone else .done
def wCfg' (guarded : Bool) (beh : Nat → Nat → Nat → Outcome) : Cfg := { wCfg true beh with notifyGuarded := guarded }

example : attemptNo (run (wCfg' true neverDone') init dupOps) 3 1 = 20 := by decide +kernel
example : ∀ op, op ∈ dupOps → NoRestart op := by
  intro op h
  simp only [dupOps, List.mem_append, List.mem_cons, List.mem_replicate, List.not_mem_nil, or_false] at h
  rcases h with ((rfl | rfl | rfl | rfl) | ⟨_, rfl⟩) | rfl | rfl | rfl | rfl <;> simp [NoRestart]

/-- **witness without the guard** (State.WritePayload notifying after every commit): the duplicate payload message calls a
    subscriber again AFTER its fatal error (2 calls, the second one sees retries = maxRetries + 1) -/
def fatalAt3 : Nat → Nat → Nat → Outcome := fun s _ _ => if s = 3 then .fatal else .done
def dupFatalOps : List Op :=
  [.add { ref := 1 }, .afterCommit [0, 1, 2, 3, 4], .writePayload 1 false, .afterCommit [0, 1, 2, 3, 4],
   .writePayload 1 false, .afterCommit [0, 1, 2, 3, 4]]

theorem duplicate_payload_calls_again_without_guard :
    (run (wCfg' false fatalAt3) init dupFatalOps).ledger.filter (Entry.isCallOf 3 1) =
      [.call 3 1 .payload 21 .fatal, .call 3 1 .payload 0 .fatal] ∧
    (run (wCfg' true fatalAt3) init dupFatalOps).ledger.filter (Entry.isCallOf 3 1) = [.call 3 1 .payload 0 .fatal] := by decide +kernel

/-! ### the retry budget across restarts -/

theorem cnt_le_one_of_nodup (s : Nat) (l : List Nat) (h : l.Nodup) : cnt s l ≤ 1 :=
  cnt_eq_count s l ▸ List.nodup_iff_count.mp h s

def isRestart : Op → Bool | .restart _ => true | _ => false
/-- number of node starts (Network.Start) in a history -/
def restarts (ops : List Op) : Nat := (ops.filter isRestart).length

/-- a history whose Range orders (state.notify) and notifier lists (Network.Start) are duplicate-free, as `sync.Map.Range` /
    `Notifiers()` deliver them -/
def NodupOp : Op → Prop
  | .afterCommit order => order.Nodup
  | .restart order => order.Nodup
  | _ => True

theorem runCost_le (c : Cfg) (s : Nat) (ops : List Op) (h : ∀ op, op ∈ ops → NodupOp op) : runCost c s ops ≤ c.maxRetries * restarts ops := by
  induction ops with
  | nil => simp [runCost, restarts]
  | cons op ops ih =>
    have ih' := ih (fun o ho => h o (List.mem_cons_of_mem _ ho))
    have hop := h op List.mem_cons_self
    unfold runCost restarts at *
    cases op with
    | restart order =>
      have := cnt_le_one_of_nodup s order hop
      have hm : c.maxRetries * cnt s order ≤ c.maxRetries := by
        rcases Nat.le_one_iff_eq_zero_or_eq_one.mp this with h0 | h1 <;> simp [*]
      simp only [List.map_cons, List.sum_cons, opCost, List.filter_cons, isRestart, if_true, List.length_cons, Nat.mul_add, Nat.mul_one]
      omega
    | add a => simpa [opCost, isRestart, List.filter_cons] using ih'
    | afterCommit order => simpa [opCost, isRestart, List.filter_cons] using ih'
    | writePayload ref cf => simpa [opCost, isRestart, List.filter_cons] using ih'
    | finishedExt s' r' f => simpa [opCost, isRestart, List.filter_cons] using ih'
    | fire s' r' => simpa [opCost, isRestart, List.filter_cons] using ih'
    | crash => simpa [opCost, isRestart, List.filter_cons] using ih'

/-- **calls_bounded_across_restarts**: over ANY history (restarts at any point included - with or without a preceding stop,
    admissions, duplicate payload messages, timers in any order, storage faults, Finished from outside) a typed persistent
    subscriber is called for one event at most `maxRetries` times per run of the node: `maxRetries * (1 + number of starts)`.
    `Run` replays every job once and starts at most one loop of `maxRetries - Retries - 1` attempts for it; jobs that spent
    their budget or ended fatally get exactly the one replay call (potential-function invariant `Bud` with a budget that grows
    by `maxRetries` per Run of that subscriber). -/
theorem calls_bounded_across_restarts (c : Cfg) (hM : 1 ≤ c.maxRetries) (hskip : c.skipPresent = true) (hg : c.notifyGuarded = true)
    (ops : List Op) (hops : ∀ op, op ∈ ops → NodupOp op) (s r : Nat) (t : EvType) (htyp : Typed c s t) :
    attemptNo (run c init ops) s r ≤ c.maxRetries * (1 + restarts ops) := by
  have hok : ∀ op, op ∈ ops → OkOp op := by
    intro op ho
    have := hops op ho
    cases op with
    | afterCommit order => exact this
    | _ => trivial
  have h := Bud.runR hM hskip hg htyp ops hok init (Bud.init c s r t)
  have hp := h.pot
  have hc := runCost_le c s ops hops
  unfold spent at hp
  rw [Nat.mul_add, Nat.mul_one]
  omega

/-- **calls_bounded_by_budget**: in one run of the node (any op sequence without a restart: admissions with and without
    payload, rejected / failed / duplicate admissions, payload messages incl. DUPLICATE ones for the same transaction,
    AfterCommit notifications in any Range order, timers in any order, external Finished, stops, storage faults) a typed
    persistent subscriber is called at most `maxRetries` times for one event — it is not called again after a fatal
    error or after the budget is spent, and no second retry loop with a fresh budget is started.
    Needs the `payloadWritten` guard of State.WritePayload (`notifyGuarded`, fact_writePayload_notifies_only_what_it_saved)
    and the per-transaction skip (`skipPresent`). (A restart replays every job once more: `Run`.) -/
theorem calls_bounded_by_budget (c : Cfg) (hM : 1 ≤ c.maxRetries) (hskip : c.skipPresent = true) (hg : c.notifyGuarded = true)
    (ops : List Op) (hops : ∀ op, op ∈ ops → NoRestart op) (s r : Nat) (t : EvType) (htyp : Typed c s t) :
    attemptNo (run c init ops) s r ≤ c.maxRetries := by
  have key : ∀ op, op ∈ ops → NodupOp op ∧ isRestart op = false := fun op ho => by
    have := hops op ho
    cases op with
    | afterCommit order => exact ⟨this, rfl⟩
    | restart order => exact this.elim
    | _ => exact ⟨trivial, rfl⟩
  have h0 : restarts ops = 0 := by
    unfold restarts
    rw [List.filter_eq_nil_iff.mpr fun op ho => by rw [(key op ho).2]; exact Bool.false_ne_true]
    rfl
  have := calls_bounded_across_restarts c hM hskip hg ops (fun op ho => (key op ho).1) s r t htyp
  rw [h0, Nat.add_zero, Nat.mul_one] at this
  exact this

/-- the cost of a restart is real: one stop + start lets subscriber 3 be called once more although its job ended fatally -/
example : attemptNo (run (wCfg' true fatalAt3) init (dupFatalOps ++ [.crash, .restart [0, 1, 2, 3, 4]])) 3 1 =
    attemptNo (run (wCfg' true fatalAt3) init dupFatalOps) 3 1 + 1 := by decide +kernel
example : NodupOp (.restart [0, 1, 2, 3, 4]) ∧ NodupOp (.afterCommit [0, 1, 2, 3, 4]) ∧ NodupOp .crash := by simp [NodupOp]

/-- the same for the constant the source has today (`Facts.C14.maxRetries`, used by the driver): a changed budget re-proves or fails -/
theorem retry_attempts_machine_source (retries : Int) (hlo : -9223372036854775808 ≤ retries) (hhi : retries < 9223372036854775808) :
    retryAttemptsM (Int.ofNat Facts.C14.maxRetries) retries =
      if 0 ≤ retries ∧ retries + 1 < Int.ofNat Facts.C14.maxRetries then some (Int.ofNat Facts.C14.maxRetries - (retries + 1)) else none :=
  retry_attempts_machine retries hlo hhi

/-! ### regenerated facts the construction-side model relies on -/

/-- the option closures: each assigns exactly the field the model's `applyOpt` sets; filters are APPENDED -/
theorem fact_notifier_options :
    Facts.C14.notifierOptionBodies =
      ["WithRetryDelay: notifier.retryDelay = delay",
       "WithPersistency: notifier.db = db",
       "WithSelectionFilter: notifier.filters = append(notifier.filters, filter)",
       "WithContext: notifier.ctx = subCtx; notifier.cancel = cancelFn",
       "withCounters: notifier.notifiedCounter = notifiedCounter; notifier.finishedCounter = finishedCounter"] ∧
    Facts.C14.newNotifierDefaults = ["name: name", "ctx: ctx", "cancel: cancel", "receiver: receiverFn", "retryDelay: defaultRetryDelay"] ∧
    Facts.C14.newNotifierOptionLoop = ["range options { option(subscriber) }"] ∧
    Facts.C14.isPersistentExpr = "p.db != nil" := ⟨rfl, rfl, rfl, rfl⟩

/-- the job shelf of a notifier: the model's `shelfName` IS the regenerated format `_%s_jobs` applied to the name -/
theorem fact_shelf_name (n : NCfg) : n.shelfName = Facts.C14.shelfNamePrefix ++ n.name ++ Facts.C14.shelfNameSuffix := rfl

/-- the check order of Save: not persistent ⇒ nil; other store ⇒ error; a rejecting filter ⇒ nil; then "only new events" (`saveKind`) -/
theorem fact_save_check_order :
    Facts.C14.saveReturns =
      ["p.db == nil => return nil",
       "tx.Store() != p.db => return errors.New(\"trying to save Event on different DB\")",
       "range p.filters && !f(event) => return nil",
       "errors.Is(err, stoabs.ErrKeyNotFound) => return p.writeEvent(writer, event)",
       "err != nil => return err",
       "return nil"] := rfl

/-- state.Notifier: withCounters appended, NewNotifier, LoadOrStore by name, a loaded (duplicate) name is refused (`register`) -/
theorem fact_registry :
    Facts.C14.stateNotifierCalls =
      ["append(options, withCounters(s.eventsNotifyCount, s.eventsFinishedCount))", "NewNotifier(name, receiver, options)",
       "s.notifiers.LoadOrStore(name, n)"] ∧
    Facts.C14.stateNotifierReturns =
      ["loaded => return nil, fmt.Errorf(\"nuts event receiver %q registration denied on duplicate name\", name)", "return n, nil"] := ⟨rfl, rfl⟩

end Nuts.C14.Props
