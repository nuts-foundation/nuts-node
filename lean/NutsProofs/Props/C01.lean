/-
  C01 — Credentials/presentations verify iff authentic, untampered, current, unrevoked.
  Property theorems over NutsModel.C01.Verifier.  Level: proof of the decision logic; tamper-evidence is CONDITIONAL on the
  canonicalisation contract and on unforgeability (hypotheses of the theorems, never axioms).
-/
import NutsProofs.Lemmas.C01
import NutsModel.Facts.C01
namespace Nuts.C01.Props
open Nuts.C01

/-- `Verify` accepts exactly when every one of its checks passes (`VcAccept` spells the conjunction out), and no
    re-ordering of the checks changes the accept set: no order lets a defective document through. -/
theorem check_order_irrelevant_for_accept (cfg : Cfg) (P : Crypto) (E : Env) (au cs : Bool) (at_ : Option Time) (c : Cred) :
    (verify cfg P E au cs at_ c = .ok () ↔ VcAccept cfg P E au cs at_ c) ∧
    (verify cfg P E au cs at_ c = .ok () ↔ ∀ chk ∈ vcChecks cfg P E au cs at_ c, chk.run c = .pass) ∧
    (∀ l', (vcChecks cfg P E au cs at_ c).Perm l' → (runChecks l' c = .ok () ↔ verify cfg P E au cs at_ c = .ok ())) := by
  refine ⟨verify_ok_iff, runChecks_ok_iff _ _, ?_⟩
  intro l' hp
  exact (runChecks_perm hp c).symm

/-- A credential reported valid (signature checked) is signed by a key that is listed under the proof's key id among the
    ASSERTION methods of the DID document the key id's DID resolves to AT THE VALIDATION TIME, the key id belongs to the
    claimed issuer (whose document resolves, not deactivated, at that time), the validation time lies in the credential's
    window (± maxSkew) and the proof's / token's own window, the credential is not revoked (network revocation and status
    list), and — when trust is required — the issuer is trusted for every type other than `VerifiableCredential`. -/
theorem valid_only_if (cfg : Cfg) (P : Crypto) (E : Env) (au : Bool) (at_ : Option Time) (c : Cred)
    (h : verify cfg P E au true at_ c = .ok ()) :
    (∃ d, E.parseDID c.issuer = some d ∧ (E.resolve at_ d).isSome = true) ∧
    (match c.format with
      | .ld => ∃ p k, c.proof = .one p ∧ beforeHash p.vm = c.issuer ∧ AuthorisedAt E at_ p.vm k ∧
          P.sigOK k (tbs P p (P.canon c.stripProof)) p.jws = true ∧
          (p.created ≤ atOf E at_ + cfg.maxSkew ∧ ∀ e, p.expires = some e → atOf E at_ ≤ e + cfg.maxSkew)
      | .jwt => ∃ j k, c.jwt = some j ∧ (j.kid = "" ∨ beforeHash j.kid = c.issuer) ∧
          AuthorisedAt E at_ (jwtKeyID j.kid c.issuer) k ∧
          (cfg.supportedAlgs.contains j.alg = true ∧ algorithmFitsKey j.alg (P.keyKind k) = true) ∧
          P.sigOK k (P.jwtInput c.raw) j.sig = true ∧ jwtTimeOK j (atOf E at_) = true
      | .other => False) ∧
    (c.issued ≤ atOf E at_ + cfg.maxSkew ∧ ∀ e, c.expires = some e → atOf E at_ - cfg.maxSkew ≤ e) ∧
    (∀ id, c.id = some id → (E.storeFails = false ∧ E.revoked id = false)) ∧ statusVerdict E c ≠ .revoked ∧
    (au = false → ∀ t ∈ c.types, t ≠ vcType → E.trusted t c.issuer = true) := by
  obtain ⟨hiss, hsv⟩ := verify_sig h
  refine ⟨hiss, ?_, verify_window h, verify_not_revoked h, verify_status h,
    fun hau => (verify_trusted h).resolve_left (by simp [hau])⟩
  revert hsv
  unfold SigValid
  cases c.format with
  | ld => rintro ⟨_, _, p, k, hp, _, hb, ha, _, hs, hv⟩; exact ⟨p, k, hp, hb, ha, hs, (proofValidAt_iff cfg p _).mp hv⟩
  | jwt => rintro ⟨j, k, hj, hk, ha, _, halg, hs, ht⟩; exact ⟨j, k, hj, hk, ha, halg, hs, ht⟩
  | other => exact id

/-- with go-did's parser contract (the DID of a key id `<did>#fragment` is `<did>`), the key of a linked-data credential
    comes from the claimed ISSUER's own document -/
theorem key_is_from_the_issuers_document (cfg : Cfg) (P : Crypto) (E : Env) (au : Bool) (at_ : Option Time) (c : Cred)
    (hURL : ∀ u d, E.parseDID (beforeHash u) = some d → E.didOfURL u = some d)
    (hfmt : c.format = .ld)
    (h : verify cfg P E au true at_ c = .ok ()) :
    ∃ d doc p k id, E.parseDID c.issuer = some d ∧ E.resolve at_ d = some doc ∧ c.proof = .one p ∧ (id, k) ∈ doc.assertion ∧
      keyIdMatches doc.base id p.vm = true ∧ P.sigOK k (tbs P p (P.canon c.stripProof)) p.jws = true := by
  obtain ⟨⟨d, hd, _⟩, hs, _⟩ := valid_only_if cfg P E au at_ c h
  simp only [hfmt] at hs
  obtain ⟨p, k, hp, hb, ⟨d', doc, id, hd', hr, hm, hk⟩, hsig, _⟩ := hs
  have : E.didOfURL p.vm = some d := hURL p.vm d (by rw [hb]; exact hd)
  rw [this] at hd'
  cases hd'
  exact ⟨d, doc, p, k, id, hd, hr, hp, hm, hk, hsig⟩

/-! ## non-vacuity: a concrete world in which the hypotheses above are met -/

def exCfg : Cfg := { maxSkew := 5000, supportedAlgs := ["ES256"] }
/-- toy crypto: the signature of `m` under key `k` is `k ++ m`; canonical forms are injective on the members that vary below -/
def exP : Crypto :=
  { canon := fun c => c.issuer ++ "|" ++ (c.id.getD "") ++ "|" ++ toString c.issued, canonVP := fun vp => vp.holder.getD "-",
    canonProof := fun p => p.vm ++ "|" ++ toString p.created,
    digest := fun b => b ++ ";", jwtInput := fun r => r, sigOK := fun k m s => s == k ++ m }
def exSign : Key → Bytes → Sig := fun k m => k ++ m
def exE : Env :=
  { now := 0
    resolve := fun _ d => if d == "did:x:i" then some { assertion := [("did:x:i#k", "K1")] } else none
    revoked := fun _ => false, statusList := fun _ => none
    trusted := fun t i => t == "T" && i == "did:x:i"
    parseDID := fun s => if s == "did:x:i" then some s else none
    didOfURL := fun s => if beforeHash s == "did:x:i" then some "did:x:i" else none }
def exProof : Proof := { typ := "JsonWebSignature2020", vm := "did:x:i#k", purpose := "assertionMethod", created := 1000 }
def exU : Cred :=
  { format := .ld, ctx := [vcContextV1], id := some "did:x:i#1", types := ["T", vcType], issuer := "did:x:i", issued := 1000,
    subjects := some [.did "did:x:i"] }
def exC : Cred := { exU with proof := .one { exProof with jws := exSign "K1" (tbs exP exProof (exP.canon exU)) }, nProofs := 1 }
def exJ : Cred :=
  { exU with format := .jwt, raw := "hdr.claims", jwt := some { kid := "did:x:i#k", alg := "ES256", nbf := some 1000, sig := exSign "K1" "hdr.claims" } }
def exVP : Pres :=
  { format := .ld, holder := some "did:x:i", vcs := [exC], nProofs := 1, signerVM := "did:x:i#k",
    proof := .one { exProof with jws := exSign "K1" (tbs exP exProof "did:x:i") } }
def exEmptyVP : Pres :=
  { format := .ld, holder := some "did:x:somebody-else", vcs := [], nProofs := 1, signerVM := "did:x:i#k",
    proof := .one { exProof with jws := exSign "K1" (tbs exP exProof "did:x:somebody-else") } }
def exM0 : Bytes := tbs exP exProof (exP.canon exU)
def exP2 : Crypto := { exP with sigOK := fun k m s => k == "K1" && m == exM0 && s == "S0" }
def exC2 : Cred := { exU with proof := .one { exProof with jws := "S0" }, nProofs := 1 }
def exT : Template := { ctx := [vcContextV1], types := ["T"], issuer := "did:x:i", expires := none, subjects := some [.did "did:x:i"], shapeOK := true, claims := [] }

/-- The relationship that is consulted is not the signer's choice: whatever `proofPurpose` an accepted proof states, its key id
    resolved among the ASSERTION methods. -/
theorem proof_purpose_does_not_select_the_relationship (cfg : Cfg) (P : Crypto) (E : Env) (au : Bool) (at_ : Option Time) (c : Cred)
    (p : Proof) (purpose : String) (hfmt : c.format = .ld) (hp : c.proof = .one p)
    (h : verify cfg P E au true at_ { c with proof := .one { p with purpose := purpose } } = .ok ()) :
    ∃ k, AuthorisedAt E at_ p.vm k ∧ resolveKeyByID E at_ p.vm = some k := by
  have hsv := (verify_sig h).2
  simp only [SigValid, hfmt] at hsv
  obtain ⟨_, _, p', k, hp', _, _, ha, hk, _, _⟩ := hsv
  cases hp'
  exact ⟨k, ha, hk⟩

/-- A presentation reported valid is signed (same conjuncts as for a credential, with the SIGNER's DID in the place of
    the issuer: the key id belongs to the signer, the key is an assertion key of the signer's document at the validation
    time) by the SUBJECT OF EVERY CREDENTIAL IT CARRIES; when it carries credentials, a `holder` member — if present — is
    that same DID; and every carried credential is itself reported valid by `Verify` (its own signature being checked,
    except for a credential without proof issued by the holder = signer itself). -/
theorem vp_valid_only_if (cfg : Cfg) (P : Crypto) (E : Env) (au : Bool) (at_ : Option Time) (vp : Pres)
    (h : verifyVP cfg P E true au at_ vp = .ok ()) :
    ∃ s, presentationSigner E vp = some s ∧
      (∀ c ∈ vp.vcs, subjectDID c = some s) ∧
      (vp.vcs ≠ [] → vp.holder = none ∨ vp.holder = some s) ∧
      VpSigValid cfg P E at_ vp s ∧
      (∀ c ∈ vp.vcs, verify cfg P E au (vcCheckSig vp c) at_ c = .ok ()) ∧
      (∀ c ∈ vp.vcs, vcCheckSig vp c = false → c.issuer = s ∧ c.nProofs = 0) := by
  obtain ⟨s, d, hs, hd, hsd, hh, hsig, hvcs⟩ := verifyVP_ok_iff.mp h
  have hhold : vp.vcs ≠ [] → vp.holder = none ∨ vp.holder = some s := fun hne => hh (hsd.resolve_right hne)
  refine ⟨s, hs, signer_is_subject hd hsd, hhold, hsig, hvcs rfl, ?_⟩
  intro c hc hcs
  obtain ⟨hho, hn⟩ := vcCheckSig_false_iff.mp hcs
  exact ⟨by simpa [hho] using hhold (List.ne_nil_of_mem hc), hn⟩

/-- The exemption from the signature check is PER CREDENTIAL: in a presentation reported valid, every carried credential that
    is not a proof-less credential issued by the signer itself (`c.issuer ≠ s ∨ c.nProofs > 0`) has passed `Verify` WITH its
    signature checked — so it satisfies all conjuncts of `valid_only_if`, whatever stands before it in the list (in particular
    after a proof-less self-attested credential). -/
theorem vp_every_other_credential_is_signature_checked (cfg : Cfg) (P : Crypto) (E : Env) (au : Bool) (at_ : Option Time) (vp : Pres)
    (h : verifyVP cfg P E true au at_ vp = .ok ()) :
    ∃ s, presentationSigner E vp = some s ∧
      ∀ c ∈ vp.vcs, (c.issuer ≠ s ∨ c.nProofs > 0) →
        verify cfg P E au true at_ c = .ok () ∧
        (∃ d, E.parseDID c.issuer = some d ∧ (E.resolve at_ d).isSome = true) ∧ SigValid cfg P E at_ c := by
  obtain ⟨s, hs, _, _, _, hver, hex⟩ := vp_valid_only_if cfg P E au at_ vp h
  refine ⟨s, hs, ?_⟩
  intro c hc hne
  have hcs : vcCheckSig vp c = true := (Bool.not_eq_false _).mp fun hb => by
    obtain ⟨h1, h2⟩ := hex c hc hb
    exact hne.elim (fun h => h h1) (by omega)
  have hv := hcs ▸ hver c hc
  exact ⟨hv, verify_sig hv⟩

/-- `VerifyVP` accepts exactly when all its checks pass; the order of the three head checks is irrelevant for acceptance -/
theorem vp_check_order_irrelevant_for_accept (cfg : Cfg) (P : Crypto) (E : Env) (vf au : Bool) (at_ : Option Time) (vp : Pres) :
    (verifyVP cfg P E vf au at_ vp = .ok () ↔ VpAccept cfg P E vf au at_ vp) ∧
    (∀ l', (vpHeadChecks E).Perm l' → (runChecks l' vp = .ok () ↔ runChecks (vpHeadChecks E) vp = .ok ())) :=
  ⟨verifyVP_ok_iff, fun _ hp => (runChecks_perm hp vp).symm⟩

/-- the binding of `holder` to the signer exists only when the presentation carries credentials: an empty presentation
    with an arbitrary `holder` member is accepted (the node identifies the presenter by the signer, never by `holder`) -/
theorem empty_presentation_holder_is_not_checked :
    ∃ (cfg : Cfg) (P : Crypto) (E : Env) (vp : Pres) (s : String),
      verifyVP cfg P E true false (some 2000) vp = .ok () ∧ presentationSigner E vp = some s ∧ vp.holder ≠ some s ∧ vp.holder ≠ none :=
  ⟨exCfg, exP, exE, exEmptyVP, "did:x:i", by decide +kernel, by decide +kernel, by decide, by decide⟩

/-! ## the sibling entry points report valid only what `Verify` reports valid -/

/-- POST /internal/vcr/v2/verifier/vc: a credential the API reports valid satisfies every conjunct of `valid_only_if` at the
    current time, with trust REQUIRED whenever the issuer is a did:nuts DID and the caller did not opt out -/
theorem api_vc_valid_only_if (cfg : Cfg) (P : Crypto) (E : Env) (option : Option Bool) (c : Cred)
    (h : apiVerifyVC cfg P E option c = .ok ()) :
    verify cfg P E (apiAllowUntrustedVC c.issuer option) true none c = .ok () ∧
    (("did:nuts".toList.isPrefixOf c.issuer.toList) = true → option ≠ some true →
        ∀ t ∈ c.types, t ≠ vcType → E.trusted t c.issuer = true) := by
  refine ⟨h, ?_⟩
  intro hn ho
  have hau : apiAllowUntrustedVC c.issuer option = false := by
    unfold apiAllowUntrustedVC
    simp only [hn, if_true]
    cases option with
    | none => rfl
    | some b => cases b with
      | false => rfl
      | true => exact absurd rfl ho
  unfold apiVerifyVC at h
  rw [hau] at h
  exact (verify_trusted h).resolve_left Bool.false_ne_true

/-- the wallet lists only credentials that are inside their validity window, not revoked and well-formed -/
theorem wallet_lists_only_current_unrevoked (cfg : Cfg) (P : Crypto) (E : Env) (stored : List Cred) (c : Cred)
    (h : c ∈ walletList cfg P E stored) :
    c ∈ stored ∧ validate E c = .pass ∧
    (c.issued ≤ E.now + cfg.maxSkew ∧ ∀ e, c.expires = some e → E.now - cfg.maxSkew ≤ e) ∧
    (∀ id, c.id = some id → (E.storeFails = false ∧ E.revoked id = false)) ∧ statusVerdict E c ≠ .revoked := by
  obtain ⟨hm, hok⟩ := List.mem_filter.mp h
  obtain ⟨_, hv⟩ := Res.exists_ok_of_isOk hok
  exact ⟨hm, (verify_ok_iff.mp hv).1, verify_window hv, verify_not_revoked hv, verify_status hv⟩

/-- BuildPresentation(validateVC = true) only presents credentials whose signature verifies at the proof's creation time -/
theorem wallet_validate_ok (cfg : Cfg) (P : Crypto) (E : Env) (created : Time) (l : List Cred)
    (h : walletValidate cfg P E created l = .ok ()) : ∀ c ∈ l, SigValid cfg P E (some created) c := by
  fun_induction walletValidate cfg P E created l with
  | case1 => exact List.forall_mem_nil _
  | case2 x xs _ hr ih => exact List.forall_mem_cons.mpr ⟨signatureChecks_ok_iff.mp hr, ih h⟩
  | _ => cases h

/-- The network-ingest path: whatever `StoreCredential` adds to the store had its signature verified (all signature conjuncts of
    `valid_only_if`, at the ingest time), whoever the issuer is and whatever the node knows about the id; a credential arriving
    under an id that is already stored never replaces the stored one.  So what `Resolve` later reports valid (without checking the
    signature again) is a document whose signature verified over exactly its stored content. -/
theorem stored_credentials_were_signature_checked (cfg : Cfg) (P : Crypto) (E : Env) (validAt : Option Time) (store store' : List Cred)
    (c : Cred) (h : storeCredential cfg P E validAt store c = .ok store') :
    (store' = store ∨ (store' = c :: store ∧ SigValid cfg P E validAt c)) ∧
    (∀ x ∈ store, x ∈ store') := by
  revert h
  fun_cases storeCredential cfg P E validAt store c with
  | case1 => rintro ⟨⟩; exact ⟨.inl rfl, fun _ hx => hx⟩
  | case3 _ _ hr => rintro ⟨⟩; exact ⟨.inr ⟨rfl, signatureChecks_ok_iff.mp hr⟩, fun _ hx => List.mem_cons_of_mem _ hx⟩
  | _ => nofun

/-- `Resolve` reports a member of the store (with the requested id, accepted by `Verify` without signature check): whatever holds of
    every stored credential holds of what it reports.  The intended `Checked`: the signature verified at the ingest time, which
    `stored_credentials_were_signature_checked` gives for each `StoreCredential` call that added one. -/
theorem resolve_reports_only_signature_checked (cfg : Cfg) (P : Crypto) (E : Env) (t : Option Time) (store : List Cred) (id : String) (c : Cred)
    (Checked : Cred → Prop) (hstore : ∀ x ∈ store, Checked x)
    (h : resolveStored cfg P E t store id = some c) :
    Checked c ∧ c.id = some id ∧ verify cfg P E false false t c = .ok () := by
  obtain ⟨hf, hok⟩ := Option.filter_eq_some_iff.mp h
  obtain ⟨_, hv⟩ := Res.exists_ok_of_isOk hok
  exact ⟨hstore _ (List.mem_of_find?_eq_some hf), by simpa using List.find?_some hf, hv⟩

/-! ## "has a trusted issuer when trust is required": untrusting is effective for EVERY content of the trust file -/

/-- Whatever list the trust file held for the type — duplicates of the issuer, other issuers in between, any order, the same
    issuer under other types — after `RemoveTrust(t, i)` the issuer is not trusted for `t` any more, no other type is touched, and
    other issuers of `t` keep their trust; `AddTrust(t, i)` makes the issuer trusted for `t`.
    (`i ≠ ""`, `i' ≠ ""`: the slice RemoveTrust allocates keeps Go's zero value "" in its tail when it dropped duplicates.) -/
theorem untrust_is_effective (s : TrustStore) (t i : String) (hi : i ≠ "") :
    isTrusted (removeTrust s t i) t i = false ∧
    (∀ t' i', t' ≠ t → isTrusted (removeTrust s t i) t' i' = isTrusted s t' i') ∧
    (∀ i', i' ≠ i → i' ≠ "" → isTrusted (removeTrust s t i) t i' = isTrusted s t i') ∧
    isTrusted (addTrust s t i) t i = true :=
  ⟨untrust_effective s t i hi, fun t' i' h => untrust_other_type s t i t' i' h,
   fun i' h h' => untrust_other_issuer s t i i' h h', trust_after_add s t i⟩

/-- ... and so a credential of that type and issuer is no longer reported valid where trust is required -/
theorem untrusted_issuer_is_rejected (cfg : Cfg) (P : Crypto) (E : Env) (cs : Bool) (at_ : Option Time) (c : Cred)
    (s : TrustStore) (t : String) (hi : c.issuer ≠ "") (ht : t ∈ c.types) (hvc : t ≠ vcType) :
    verify cfg P { E with trusted := isTrusted (removeTrust s t c.issuer) } false cs at_ c ≠ .ok () := by
  intro h
  cases verify_trusted h with
  | inl h => cases h
  | inr h =>
    have := h t ht hvc
    simp only at this
    rw [untrust_effective s t c.issuer hi] at this
    cases this

/-! ## tamper evidence (CONDITIONAL: unforgeability, SHA-256, and the canonicalisation contract are hypotheses) -/

/-- Linked-data credential.  Let `c` be a document with proof options `p`, and let `c'` be any document presented to the
    node.  Hypotheses: `hEUF` — a signature that verifies under a key was made with that key (`Signed`); `hOnly` — the keys
    that the issuer's DID document authorises for `c'` at the validation time have signed nothing but `c` with options `p`
    (the attacker has no authorised key and no other document signed by one); `hTbs` — digest(proof) ‖ digest(document)
    determines both canonical forms (SHA-256 collision freedom, fixed length); `hCanon` / `hCanonProof` — the
    canonicalisation contract for these two documents: equal canonical bytes imply agreement on id, types, issuer,
    issuance and expiration date, subject ids, status entries and every claim the JSON-LD context defines, resp. on every
    proof option.  Then a `c'` that differs from `c` in any of those members, or in any proof option, is NOT reported valid. -/
theorem tamper_evident (cfg : Cfg) (P : Crypto) (E : Env) (au : Bool) (at_ : Option Time)
    (Signed : Key → Bytes → Prop) (defined : String → Bool)
    (c c' : Cred) (p : Proof)
    (hEUF : ∀ k m s, P.sigOK k m s = true → Signed k m)
    (hTbs : ∀ p' : Proof, c'.proof = .one p' → tbs P p' (P.canon c'.stripProof) = tbs P p (P.canon c.stripProof) →
        P.canonProof p'.options = P.canonProof p.options ∧ P.canon c'.stripProof = P.canon c.stripProof)
    (hCanon : P.canon c'.stripProof = P.canon c.stripProof → signedView defined c' = signedView defined c)
    (hCanonProof : ∀ p' : Proof, c'.proof = .one p' → P.canonProof p'.options = P.canonProof p.options → p'.options = p.options)
    (hfmt : c'.format = .ld)
    (hOnly : ∀ k p', c'.proof = .one p' → AuthorisedAt E at_ p'.vm k → ∀ m, Signed k m → m = tbs P p (P.canon c.stripProof))
    (hdiff : signedView defined c' ≠ signedView defined c ∨ ∀ p', c'.proof = .one p' → p'.options ≠ p.options) :
    verify cfg P E au true at_ c' ≠ .ok () := by
  intro hv
  have hsv := (verify_sig hv).2
  simp only [SigValid, hfmt] at hsv
  obtain ⟨_, _, p', k, hp', _, _, ha, _, hs, _⟩ := hsv
  have hm := hOnly k p' hp' ha _ (hEUF _ _ _ hs)
  obtain ⟨h1, h2⟩ := hTbs p' hp' hm
  cases hdiff with
  | inl h => exact h (hCanon h2)
  | inr h => exact h p' hp' (hCanonProof p' hp' h1)

theorem tamper_evident_jwt (cfg : Cfg) (P : Crypto) (E : Env) (au : Bool) (at_ : Option Time)
    (Signed : Key → Bytes → Prop) (c c' : Cred)
    (hEUF : ∀ k m s, P.sigOK k m s = true → Signed k m)
    (hParse : P.jwtInput c'.raw = P.jwtInput c.raw → jwtView c' = jwtView c)
    (hfmt : c'.format = .jwt)
    (hOnly : ∀ k j', c'.jwt = some j' → AuthorisedAt E at_ (jwtKeyID j'.kid c'.issuer) k → ∀ m, Signed k m → m = P.jwtInput c.raw)
    (hdiff : jwtView c' ≠ jwtView c) :
    verify cfg P E au true at_ c' ≠ .ok () := by
  intro hv
  have hsv := (verify_sig hv).2
  simp only [SigValid, hfmt] at hsv
  obtain ⟨j, k, hj, _, ha, _, _, hs, _⟩ := hsv
  exact hdiff (hParse (hOnly k j hj ha _ (hEUF _ _ _ hs)))

/-- The stated RESIDUE: a claim the JSON-LD context does not define is outside the signed view; under the converse
    contract (`hComplete`: documents with the same signed view have the same canonical bytes) adding it changes neither the
    canonical form nor the verdict (nor the error class) of `Verify`.  The node's own issuer refuses to sign such members
    (`AllFieldsDefined`, see `own_output_verifies_ld`), a foreign issuer may not. -/
theorem undefined_member_unsigned (cfg : Cfg) (P : Crypto) (E : Env) (au cs : Bool) (at_ : Option Time)
    (defined : String → Bool) (c : Cred) (path v : String)
    (hund : defined path = false)
    (hComplete : ∀ c', signedView defined c' = signedView defined c → c'.stripProof.format = c.stripProof.format →
        P.canon c'.stripProof = P.canon c.stripProof) :
    signedView defined { c with claims := c.claims ++ [(path, v)] } = signedView defined c ∧
    verify cfg P E au cs at_ { c with claims := c.claims ++ [(path, v)] } = verify cfg P E au cs at_ c := by
  have hsv : signedView defined { c with claims := c.claims ++ [(path, v)] } = signedView defined c := by
    simp [signedView, List.filter_append, hund]
  refine ⟨hsv, ?_⟩
  exact verify_congr_claims cfg P E au cs at_ c _ (hComplete _ hsv rfl)

/-- JSON-LD presentation: what was said for credentials holds for the holder and the carried credentials, PROVIDED the raw
    document has no member that only differs by case from a member go-did reads (`caseVariant = false`, which acceptance
    implies since repo commit e2f889b; before it the contract `hCanon` was false of the implementation: see the corpus
    witness).  The order of carried credentials is not covered (`Perm`). -/
theorem tamper_evident_vp (cfg : Cfg) (P : Crypto) (E : Env) (vf au : Bool) (at_ : Option Time)
    (Signed : Key → Bytes → Prop) (defined : String → Bool)
    (vp vp' : Pres) (p : Proof)
    (hEUF : ∀ k m s, P.sigOK k m s = true → Signed k m)
    (hTbs : ∀ p' : Proof, vp'.proof = .one p' → tbs P p' (P.canonVP vp'.stripProof) = tbs P p (P.canonVP vp.stripProof) →
        P.canonProof p'.options = P.canonProof p.options ∧ P.canonVP vp'.stripProof = P.canonVP vp.stripProof)
    (hCanon : vp'.caseVariant = false → P.canonVP vp'.stripProof = P.canonVP vp.stripProof →
        (signedViewVP defined vp').1 = (signedViewVP defined vp).1 ∧ ((signedViewVP defined vp').2).Perm (signedViewVP defined vp).2)
    (hCanonProof : ∀ p' : Proof, vp'.proof = .one p' → P.canonProof p'.options = P.canonProof p.options → p'.options = p.options)
    (hfmt : vp'.format = .ld)
    (hOnly : ∀ k p', vp'.proof = .one p' → AuthorisedAt E at_ p'.vm k → ∀ m, Signed k m → m = tbs P p (P.canonVP vp.stripProof))
    (hv : verifyVP cfg P E vf au at_ vp' = .ok ()) :
    vp'.holder = vp.holder ∧ ((signedViewVP defined vp').2).Perm (signedViewVP defined vp).2 ∧
      ∃ p', vp'.proof = .one p' ∧ p'.options = p.options := by
  obtain ⟨s, _, hsig⟩ := verifyVP_sig hv
  simp only [VpSigValid, hfmt] at hsig
  obtain ⟨_, hcv, p', k, hp', _, _, ha, _, hs, _⟩ := hsig
  obtain ⟨h1, h2⟩ := hTbs p' hp' (hOnly k p' hp' ha _ (hEUF _ _ _ hs))
  obtain ⟨h3, h4⟩ := hCanon hcv h2
  exact ⟨h3, h4, p', hp', hCanonProof p' hp' h1⟩

/-! ## the node's own output verifies on any node that can resolve the signer -/

/-- A JSON-LD credential returned by `Issue` (so: accepted input — issuer is a DID with an assertion key on the issuing
    node, at most one extra type, all fields defined by the context, type-specific validator passed) is reported valid by
    `Verify` on ANY node `E'` (same DID-URL parser) and at any validation time at which: the issuer and the signing key id
    resolve (key listed as assertion method), the key id is `<issuer>#…`, the time is inside the credential's window, the
    credential is not revoked there, and the issuer is trusted there (or trust is not required).  `hSig` is signature correctness. -/
theorem own_output_verifies_ld (cfg : Cfg) (P : Crypto) (E : Env) (sign : Key → Bytes → Sig) (allDefined : Cred → Bool)
    (rawOf : Cred → String) (t : Template) (uuid : String) (now : Time) (c : Cred)
    (hSig : ∀ k m, P.sigOK k m (sign k m) = true)
    (hissue : issue P E sign allDefined rawOf .ld t uuid now = .ok c) :
    ∃ d kid key, E.parseDID t.issuer = some d ∧ resolveKey E d = some (kid, key) ∧ allDefined c = true ∧
      ∀ (E' : Env) (au : Bool) (at_ : Option Time),
        E'.didOfURL = E.didOfURL →
        (∃ d', E'.parseDID t.issuer = some d' ∧ (E'.resolve at_ d').isSome = true) →
        resolveKeyByID E' at_ kid = some key →
        beforeHash kid = t.issuer →
        (now ≤ atOf E' at_ + cfg.maxSkew ∧ ∀ e, t.expires = some e → atOf E' at_ - cfg.maxSkew ≤ e) →
        (E'.storeFails = false ∧ E'.revoked (d ++ "#" ++ uuid) = false) →
        (au = true ∨ ∀ ty ∈ c.types, ty ≠ vcType → E'.trusted ty t.issuer = true) →
        verify cfg P E' au true at_ c = .ok () := by
  obtain ⟨d, kid, key, hd, hk, hty, hval, ⟨_, hdef, rfl⟩ | ⟨hf, _⟩⟩ := issue_ok hissue
  · refine ⟨d, kid, key, hd, hk, hdef, ?_⟩
    intro E' au at_ hurl hres hkey hkid hwin hrev htr
    have hi := validate_pass_issuer hval
    rw [← validate_congr hurl] at hval
    refine verify_ok_iff.mpr ⟨hval, issued_types_le_two t hty, ?_, ?_, htr, hwin, fun _ => ⟨hres, ?_⟩⟩
    · intro id hid; cases hid; exact hrev
    · rw [statusVerdict_some (l := []) rfl]; nofun
    · refine ⟨hi, rfl, _, key, rfl, ?_, hkid, resolveKeyByID_some hkey, hkey, hSig _ _, ?_⟩
      · intro h0; simp only at h0; rw [h0, beforeHash_empty] at hkid
        exact hi hkid.symm
      · rw [proofValidAt_iff]; exact ⟨hwin.1, by intro e he; cases he⟩
  · cases hf

theorem own_output_verifies_jwt (cfg : Cfg) (P : Crypto) (E : Env) (sign : Key → Bytes → Sig) (allDefined : Cred → Bool)
    (rawOf : Cred → String) (t : Template) (uuid : String) (now : Time) (c : Cred)
    (hSig : ∀ k m, P.sigOK k m (sign k m) = true)
    (hAlg : cfg.supportedAlgs.contains "ES256" = true)
    (hFit : ∀ k, algorithmFitsKey "ES256" (P.keyKind k) = true)
    (hissue : issue P E sign allDefined rawOf .jwt t uuid now = .ok c) :
    ∃ d kid key, E.parseDID t.issuer = some d ∧ resolveKey E d = some (kid, key) ∧
      ∀ (E' : Env) (au : Bool) (at_ : Option Time),
        E'.didOfURL = E.didOfURL →
        (∃ d', E'.parseDID t.issuer = some d' ∧ (E'.resolve at_ d').isSome = true) →
        resolveKeyByID E' at_ (jwtKeyID kid t.issuer) = some key →
        (kid = "" ∨ beforeHash kid = t.issuer) →
        (now ≤ atOf E' at_ + cfg.maxSkew ∧ ∀ e, t.expires = some e → atOf E' at_ - cfg.maxSkew ≤ e) →
        (∀ j, c.jwt = some j → jwtTimeOK j (atOf E' at_) = true) →
        (E'.storeFails = false ∧ E'.revoked (d ++ "#" ++ uuid) = false) →
        (au = true ∨ ∀ ty ∈ c.types, ty ≠ vcType → E'.trusted ty t.issuer = true) →
        verify cfg P E' au true at_ c = .ok () := by
  obtain ⟨d, kid, key, hd, hk, hty, hval, ⟨hf, _⟩ | ⟨_, rfl⟩⟩ := issue_ok hissue
  · cases hf
  · refine ⟨d, kid, key, hd, hk, ?_⟩
    intro E' au at_ hurl hres hkey hkid hwin hclock hrev htr
    rw [← validate_congr hurl] at hval
    refine verify_ok_iff.mpr ⟨hval, issued_types_le_two t hty, ?_, ?_, htr, hwin, fun _ => ⟨hres, ?_⟩⟩
    · intro id hid; cases hid; exact hrev
    · rw [statusVerdict_some (l := []) rfl]; nofun
    · exact ⟨_, key, rfl, hkid, resolveKeyByID_some hkey, hkey, ⟨hAlg, hFit _⟩, hSig _ _, hclock _ rfl⟩

theorem own_presentation_verifies (cfg : Cfg) (P : Crypto) (E : Env) (sign : Key → Bytes → Sig) (rawOf : Pres → String)
    (fmt : Format) (signer : String) (vcs : List Cred) (o : PresOptions) (vp : Pres)
    (hSig : ∀ k m, P.sigOK k m (sign k m) = true)
    (hAlg : cfg.supportedAlgs.contains "ES256" = true)
    (hFit : ∀ k, algorithmFitsKey "ES256" (P.keyKind k) = true)
    (hpres : present P E sign rawOf fmt signer vcs o = .ok vp) :
    ∃ kid key, resolveKey E signer = some (kid, key) ∧ vp.vcs = vcs ∧
      ∀ (E' : Env) (au : Bool) (at_ : Option Time),
        signer ≠ "" → kid ≠ "" →
        E'.didOfURL kid = some signer →
        beforeHash kid = signer →
        resolveKeyByID E' at_ (jwtKeyID kid signer) = some key → resolveKeyByID E' at_ kid = some key →
        (∀ c ∈ vcs, subjectDID c = some signer) →
        (o.holder = none ∨ o.holder = some signer) →
        (o.created ≤ atOf E' at_ + cfg.maxSkew ∧ ∀ e, o.expires = some e → atOf E' at_ ≤ e + cfg.maxSkew) →
        (∀ j, vp.jwt = some j → jwtTimeOK j (atOf E' at_) = true) →
        (∀ c ∈ vcs, verify cfg P E' au (vcCheckSig vp c) at_ c = .ok ()) →
        verifyVP cfg P E' true au at_ vp = .ok () := by
  unfold present at hpres
  cases hk : resolveKey E signer with
  | none => simp [hk] at hpres
  | some kk =>
    obtain ⟨kid, key⟩ := kk
    simp only [hk] at hpres
    cases fmt <;> simp only at hpres <;> cases hpres
    -- the two formats differ only in the signature conjunct
    all_goals
      refine ⟨kid, key, rfl, rfl, ?_⟩
      intro E' au at_ hs hkid hurl hbh hkeyj hkey hsub hhold hwin hclock hvcs
      rw [verifyVP_ok_iff]
      refine ⟨signer, if vcs = [] then "" else signer, ?_, resolveSubjectDID_of_all hsub, ?_,
        fun _ => hhold, ?_, fun _ => hvcs⟩
      · simp [presentationSigner, hurl, hs, hkid]
      · cases vcs <;> simp
    · exact ⟨hs, rfl, _, key, rfl, hkid, hbh, resolveKeyByID_some hkey, hkey, hSig _ _, (proofValidAt_iff ..).mpr hwin⟩
    · exact ⟨_, key, rfl, Or.inr hbh, resolveKeyByID_some hkeyj, hkeyj, ⟨hAlg, hFit _⟩, hSig _ _, hclock _ rfl⟩

-- valid_only_if / check_order: an accepted credential in each format, an accepted presentation
theorem exC_verifies : verify exCfg exP exE false true (some 2000) exC = .ok () := by decide +kernel
example : verify exCfg exP exE false true (some 2000) exC = .ok () := exC_verifies
example : verify exCfg exP exE false true (some 2000) exJ = .ok () := by decide +kernel
example : verifyVP exCfg exP exE true false (some 2000) exVP = .ok () := by decide +kernel
-- ... and each conjunct matters: other issuer, too early, untrusted type, revoked, wrong key relation
example : verify exCfg exP exE false true (some 2000) { exC with issuer := "did:x:j" } ≠ .ok () :=
  fun h => absurd (verify_trusted h) (by decide)
example : verify exCfg exP exE false true (some (-5000)) exC ≠ .ok () :=
  fun h => absurd (verify_window h).1 (by decide)
example : verify exCfg exP exE false true (some 2000) { exC with types := [vcType, "U"] } = .err "untrusted" := by decide +kernel
example : verify exCfg exP { exE with revoked := fun _ => true } false true (some 2000) exC = .err "revoked" := by decide +kernel
example : verify exCfg exP { exE with resolve := fun _ _ => some { assertion := [] } } false true (some 2000) exC = .err "key-unresolvable" := by decide +kernel
example : verifyVP exCfg exP exE true false (some 2000) { exVP with vcs := [{ exC with subjects := some [.did "did:x:h"] }] } = .err "vp-not-by-subject" := by decide +kernel
-- the exemption does not leak: a forged (wrongly signed) third-party credential AFTER a proof-less self-attested one is rejected,
-- while the same list with the genuine credential is accepted
def exSelf : Cred := { exU with id := some "did:x:i#self", types := [vcType], proof := .absent, nProofs := 0 }
def exForged : Cred := { exC with issuer := "did:x:i2", id := some "did:x:i2#1", subjects := some [.did "did:x:i"] }
def exE2 : Env := { exE with
    resolve := fun _ d => if d == "did:x:i" then some { assertion := [("did:x:i#k", "K1")] } else if d == "did:x:i2" then some { assertion := [("did:x:i2#k", "K2")] } else none
    trusted := fun _ _ => true
    parseDID := fun s => if s == "did:x:i" || s == "did:x:i2" then some s else none
    didOfURL := fun s => if beforeHash s == "did:x:i" then some "did:x:i" else if beforeHash s == "did:x:i2" then some "did:x:i2" else none }
example : verifyVP exCfg exP exE2 true false (some 2000) { exVP with vcs := [exSelf, exC] } = .ok () := by decide +kernel
example : verifyVP exCfg exP exE2 true false (some 2000) { exVP with vcs := [exSelf, exForged] } = .err "vc:vm-not-of-issuer" := by decide +kernel
example : verifyVP exCfg exP exE2 true false (some 2000) { exVP with vcs := [exForged, exSelf] } = .err "vc:vm-not-of-issuer" := by decide +kernel
-- untrust_is_effective: a hand-edited file with duplicates (and another issuer in between)
example : isTrusted (removeTrust [("T", ["did:x:i", "did:x:o", "did:x:i"])] "T" "did:x:i") "T" "did:x:i" = false ∧
    isTrusted (removeTrust [("T", ["did:x:i", "did:x:o", "did:x:i"])] "T" "did:x:i") "T" "did:x:o" = true ∧
    removeTrust [("T", ["did:x:i", "did:x:o", "did:x:i"])] "T" "did:x:i" = [("T", ["did:x:o", ""])] := by decide
-- the key id must belong to exactly the claimed issuer: a look-alike DID that is a textual prefix of it (and resolves, with
-- its own assertion key that really signed) is rejected
example : verify exCfg exP { exE2 with
      resolve := fun _ d => if d == "did:x:i" || d == "did:x:i2" then some { assertion := [(d ++ "#k", "K1")] } else none }
    true true (some 2000)
    { exU with issuer := "did:x:i2", id := some "did:x:i2#1",
               proof := .one { exProof with jws := exSign "K1" (tbs exP exProof (exP.canon { exU with issuer := "did:x:i2", id := some "did:x:i2#1" })) }, nProofs := 1 }
    = .err "vm-not-of-issuer" := by decide +kernel
-- @base documents: a relative id of the ASSERTION relationship is matched through the base; a key that the document lists only
-- for authentication (it is in verificationMethod, not in assertionMethod) does not resolve
example : resolveKeyByID { exE with resolve := fun _ _ => some { assertion := [("#k", "K1")], base := some "did:x:i" } } (some 1) "did:x:i#k" = some "K1" ∧
    resolveKeyByID { exE with resolve := fun _ _ => some { assertion := [("#k", "K1")], base := some "did:x:i" } } (some 1) "did:x:i#auth" = none ∧
    resolveKeyByID { exE with resolve := fun _ _ => some { assertion := [("#k", "K1")], base := none } } (some 1) "did:x:i#k" = none := by decide +kernel
-- the JWT algorithm must be the one of the key's curve: ES256 over a P-384 key is rejected even if the signature check passes
example : verify exCfg { exP with keyKind := fun _ => "P-384" } exE false true (some 2000) exJ = .err "jwt-alg-key" := by decide +kernel
-- network ingest: an altered copy of a stored id is refused and never replaces it; a credential with a bad signature is never stored
example : storeCredential exCfg exP exE (some 2000) [] exC = .ok [exC] ∧
    storeCredential exCfg exP exE (some 2000) [exC] { exC with issued := 1500 } = .err "exists-with-different-content" ∧
    storeCredential exCfg exP exE (some 2000) [] { exC with issued := 1500 } = .err "bad-signature" ∧
    resolveStored exCfg exP exE (some 2000) [exC] "did:x:i#1" = some exC := by decide +kernel
-- tamper_evident: its hypotheses are satisfiable together.  Crypto in which exactly ONE (key, message, signature) triple
-- verifies (so unforgeability holds with `Signed k m := m = exM0`); c' = the signed credential with another issuance date.
example : ∃ (Signed : Key → Bytes → Prop) (c' : Cred),
    verify exCfg exP2 exE false true (some 2000) exC2 = .ok () ∧
    (∀ k m s, exP2.sigOK k m s = true → Signed k m) ∧
    (∀ p' : Proof, c'.proof = .one p' → tbs exP2 p' (exP2.canon c'.stripProof) = tbs exP2 exProof (exP2.canon exC2.stripProof) →
        exP2.canonProof p'.options = exP2.canonProof exProof.options ∧ exP2.canon c'.stripProof = exP2.canon exC2.stripProof) ∧
    (exP2.canon c'.stripProof = exP2.canon exC2.stripProof → signedView (fun _ => true) c' = signedView (fun _ => true) exC2) ∧
    (∀ p' : Proof, c'.proof = .one p' → exP2.canonProof p'.options = exP2.canonProof exProof.options → p'.options = exProof.options) ∧
    c'.format = .ld ∧
    (∀ k p', c'.proof = .one p' → AuthorisedAt exE (some 2000) p'.vm k → ∀ m, Signed k m → m = tbs exP2 exProof (exP2.canon exC2.stripProof)) ∧
    signedView (fun _ => true) c' ≠ signedView (fun _ => true) exC2 :=
  ⟨fun _ m => m = exM0, { exC2 with issued := 2000 }, by decide +kernel,
   by intro k m s h; simp [exP2] at h; exact h.1.2,
   by intro p' hp'; cases hp'; decide,
   by decide,
   by intro p' hp'; cases hp'; decide,
   rfl,
   by intro k p' _ _ m hm; rw [hm]; decide,
   by decide⟩
-- own_output_verifies: Issue accepts the template and its output verifies
theorem exT_issues : issue exP exE exSign (fun _ => true) (fun _ => "hdr.claims") .ld exT "1" 1000 = .ok exC := by decide +kernel
example : (issue exP exE exSign (fun _ => true) (fun _ => "hdr.claims") .ld exT "1" 1000).isOk = true := by rw [exT_issues]; rfl
example : ∀ c, issue exP exE exSign (fun _ => true) (fun _ => "hdr.claims") .ld exT "1" 1000 = .ok c →
    verify exCfg exP exE false true (some 2000) c = .ok () := by
  intro c h
  cases exT_issues.symm.trans h
  exact exC_verifies

/-! ## facts regenerated from the source (extract/c01.go): the check sequences the model's check tables stand for -/

def verifyReturnsSrc : List (String × String) :=
  [ ("validator", "err := validator.Validate(credentialToVerify); err != nil => err"),
    ("max-2-types", "len(credentialToVerify.Type) > 2 => errors.New(\"verifiable credential must list at most 2 types\")"),
    ("-store-error", "credentialToVerify.ID != nil && revoked,err := v.IsRevoked(*credentialToVerify.ID); err != nil => err"),
    ("not-revoked", "credentialToVerify.ID != nil && revoked => types.ErrRevoked"),
    ("status-list", "err := v.credentialStatus.Verify(credentialToVerify); err != nil && errors.Is(err,types.ErrRevoked) => err"),
    ("trusted", "!allowUntrusted && range credentialToVerify.Type && !v.trustConfig.IsTrusted(t,credentialToVerify.Issuer) => types.ErrUntrusted"),
    ("valid-at", "!credentialToVerify.ValidAt(validAtNotNil,maxSkew) => types.ErrCredentialNotValidAtTime"),
    ("issuer-is-did", "checkSignature && issuerDID,err := did.ParseDID(credentialToVerify.Issuer.String()); err != nil => fmt.Errorf(\"could not validate issuer: %w\",err)"),
    ("-jwt-protected-headers", "checkSignature && rawJwt != \"\" && headers,err := ExtractProtectedHeaders(rawJwt); err != nil => err"),
    ("issuer-resolves", "checkSignature && _,_,err = v.didResolver.Resolve(*issuerDID,&metadata); err != nil => fmt.Errorf(\"could not validate issuer: %w\",err)"),
    ("sig:*", "checkSignature => v.VerifySignature(credentialToVerify,validAt)") ]

def doVerifyVPReturnsSrc : List (String × String) :=
  [ ("vp:signer-and-subject-resolve", "subjectDID,err := credential.PresenterIsCredentialSubject(presentation); err != nil => newVerificationError(\"presenter is credential subject: %w\",err)"),
    ("vp:signer-is-subject", "!(subjectDID,err := credential.PresenterIsCredentialSubject(presentation); err != nil) && subjectDID == nil && len(presentation.VerifiableCredential) > 0 => newVerificationError(\"credential(s) must be presented by subject\")"),
    ("vp:holder-is-subject", "subjectDID != nil && presentation.Holder != nil && presentation.Holder.String() != subjectDID.String() => newVerificationError(\"presentation holder must equal credential subject\")"),
    ("vp:signature", "err = v.signatureVerifier.VerifyVPSignature(presentation,validAt); err != nil => err"),
    ("vp:verify-vcs", "verifyVCs && range presentation.VerifiableCredential && err = vcVerifier.Verify(current,allowUntrustedVCs,checkSignature,validAt); err != nil => newVerificationError(\"invalid VC (id=%s): %w\",current.ID,err)") ]

def jsonldProofReturnsSrc : List (String × String) :=
  [ ("-marshal", "signedDocument,err := proof.NewSignedDocument(documentToVerify); err != nil => newVerificationError(\"invalid LD-JSON document: %w\",err)"),
    ("ld:no-case-variant-member", "member := caseVariantMember(signedDocument,documentToVerify); member != \"\" => newVerificationError(\"invalid LD-JSON document: member '%s' only differs by case from another member\",member)"),
    ("ld:proof-decodes", "err = signedDocument.UnmarshalProofValue(&ldProof); err != nil => newVerificationError(\"unsupported proof type: %w\",err)"),
    ("ld:proof-present", "verificationMethod == \"\" => newVerificationError(\"missing proof\")"),
    ("ld:vm-of-issuer", "verificationMethodIssuer == \"\" || verificationMethodIssuer != issuer => errVerificationMethodNotOfIssuer"),
    ("ld:proof-valid-at", "!ldProof.ValidAt(validAt,maxSkew) => toVerificationError(types.ErrPresentationNotValidAtTime)"),
    ("ld:key-resolves", "signingKey,err := sv.keyResolver.ResolveKeyByID(ldProof.VerificationMethod.String(),metadata,resolver.NutsSigningKeyType); err != nil => fmt.Errorf(\"unable to resolve valid signing key: %w\",err)"),
    ("ld:signature", "err = ldProof.Verify(signedDocument.DocumentWithoutProof(),signature.JSONWebSignature2020{},signingKey); err != nil => newVerificationError(\"invalid signature: %w\",err)") ]

def jwtSignatureReturnsSrc : List (String × String) :=
  [ ("-protected-headers", "func && headers,err := ExtractProtectedHeaders(jwtDocumentToVerify); err != nil => err"),
    ("jwt:key-resolves", "func => sv.resolveSigningKey(kid,issuer,metadata)"),
    ("-clock-now", "func && at == nil => time.Now()"),
    ("-clock-at", "func => *at"),
    ("jwt:ParseJWT", "_,err := crypto.ParseJWT(jwtDocumentToVerify,func,jwt.WithClock(jwt.ClockFunc(func))); err != nil => fmt.Errorf(\"unable to validate JWT signature: %w\",err)"),
    ("jwt:kid-of-issuer", "keyID != \"\" && strings.Split(keyID,\"#\")[0] != issuer => errVerificationMethodNotOfIssuer") ]

def parseJWTReturnsSrc : List (String × String) :=
  [ ("jwt:parses", "kid,alg,err := JWTKidAlg(tokenString); err != nil => err"),
    ("jwt:key-resolves", "key,err := f(kid); err != nil => err"),
    ("jwt:alg-supported", "!jwx.IsAlgorithmSupported(alg) => fmt.Errorf(\"token signing algorithm is not supported: %s\",alg)"),
    ("jwt:alg-fits-key", "!jwx.AlgorithmFitsKey(alg,key) => fmt.Errorf(\"token signing algorithm does not fit the key: %s\",alg)"),
    ("jwt:signature+jwt:clock", " => jwt.ParseString(tokenString,options)") ]

def verifySignatureReturnsSrc : List (String × String) :=
  [ ("format:ld", "switch credentialToVerify.Format() case vc.JSONLDCredentialProofFormat => sv.jsonldProof(credentialToVerify,credentialToVerify.Issuer.String(),validateAt)"),
    ("format:jwt", "switch credentialToVerify.Format() case vc.JWTCredentialProofFormat => sv.jwtSignature(credentialToVerify.Raw(),credentialToVerify.Issuer.String(),validateAt)"),
    ("sig:format", "switch credentialToVerify.Format() default => errors.New(\"unsupported credential proof format\")") ]

def verifyVPSignatureReturnsSrc : List (String × String) :=
  [ ("-signer(unreachable after PresenterIsCredentialSubject)", "signerDID,err := credential.PresentationSigner(presentation); err != nil => toVerificationError(err)"),
    ("format:ld", "switch presentation.Format() case vc.JSONLDPresentationProofFormat => sv.jsonldProof(presentation,signerDID.String(),validateAt)"),
    ("format:jwt", "switch presentation.Format() case vc.JWTPresentationProofFormat => sv.jwtSignature(presentation.Raw(),signerDID.String(),validateAt)"),
    ("sig:format", "switch presentation.Format() default => errors.New(\"unsupported presentation proof format\")") ]

def presenterIsCredentialSubjectReturnsSrc : List (String × String) :=
  [ ("signer", "signerDID,err := PresentationSigner(vp); err != nil => err"),
    ("subject", "credentialSubjectID,err := ResolveSubjectDID(vp.VerifiableCredential); err != nil => err") ]

def resolveSubjectDIDReturnsSrc : List (String × String) :=
  [ ("subjectDID", "range credentials && sid,err := credential.SubjectDID(); err != nil => err"),
    ("same-subject", "range credentials && !subjectID.Empty() && !subjectID.Equals(*sid) => errors.New(\"not all VCs have the same credentialSubject.id\")") ]

def findValidatorReturnsSrc : List (String × String) :=
  [ ("org", "vcTypes := ExtractTypes(credential); len(vcTypes) > 0 && range vcTypes && switch t case NutsOrganizationCredentialType => nutsOrganizationCredentialValidator{}"),
    ("auth", "vcTypes := ExtractTypes(credential); len(vcTypes) > 0 && range vcTypes && switch t case NutsAuthorizationCredentialType => nutsAuthorizationCredentialValidator{}"),
    ("default", " => defaultCredentialValidator{}") ]

def proofValidAtReturnsSrc : List (String × String) :=
  [ ("created", "o.Created.After(at.Add(maxSkew)) => false"),
    ("expires", "o.Expires != nil && o.Expires.Add(maxSkew).Before(at) => false"),
    ("ok", " => true") ]

def presentationSignerReturnsSrc : List (String × String) :=
  [ ("jwt:parses", "switch presentation.Format() case vc.JWTPresentationProofFormat && kid,_,err := crypto.JWTKidAlg(presentation.Raw()); err != nil => err"),
    ("jwt:kid-present", "switch presentation.Format() case vc.JWTPresentationProofFormat && kid == \"\" => errors.New(\"no kid header in JWT\")"),
    ("jwt:kid-is-did-url", "switch presentation.Format() case vc.JWTPresentationProofFormat && kidURL,err := did.ParseDIDURL(kid); err != nil => fmt.Errorf(\"cannot parse kid as did: %w\",err)"),
    ("ld:one-proof", "switch presentation.Format() case vc.JSONLDPresentationProofFormat && proof,err := ParseLDProof(presentation); err != nil => err"),
    ("ld:vm-is-did-url", "switch presentation.Format() case vc.JSONLDPresentationProofFormat && verificationMethod,err := did.ParseDIDURL(proof.VerificationMethod.String()); err != nil || verificationMethod.DID.Empty() => fmt.Errorf(\"invalid verification method for JSON-LD presentation: %w\",err)"),
    ("format", "switch presentation.Format() default => fmt.Errorf(\"unsupported presentation format: %s\",presentation.Format())") ]

def issueReturnsSrc : List (String × String) :=
  [ ("-publish-jwt", "options.Publish && options.Format == vc.JWTCredentialProofFormat => errors.New(\"publishing VC JWTs is not supported\")"),
    ("buildAndSignVC", "createdVC,err := i.buildAndSignVC(ctx,template,options); err != nil => err"),
    ("undefined-fields", "err = jsonld.AllFieldsDefined(i.jsonldManager.DocumentLoader(),createdVCJSON); err != nil => err"),
    ("validator", "err := validator.Validate(*createdVC); err != nil => err"),
    ("-trust-add", "range credential.ExtractTypes(*createdVC) && err := i.trustConfig.AddTrust(ssi.MustParseURI(credentialType),createdVC.Issuer); err != nil => fmt.Errorf(\"failed to trust issuer when issuing VC (did=%s,type=%s): %w\",createdVC.Issuer,credentialType,err)"),
    ("store", "err = i.store.StoreCredential(*createdVC); err != nil => fmt.Errorf(\"unable to store the issued credential: %w\",err)"),
    ("-publish", "options.Publish && err := i.networkPublisher.PublishCredential(ctx,*createdVC,options.Public); err != nil => fmt.Errorf(\"unable to publish the issued credential: %w\",err)") ]

/-- Issue: sign (buildAndSignVC), then the AllFieldsDefined gate, then the type-specific validator, then store -/
theorem fact_issue_sequence : Nuts.Facts.C01.issueReturns = issueReturnsSrc.map (·.2) := by rfl
theorem fact_verify_check_sequence : Nuts.Facts.C01.verifyReturns = verifyReturnsSrc.map (·.2) := by rfl
theorem fact_doVerifyVP_check_sequence : Nuts.Facts.C01.doVerifyVPReturns = doVerifyVPReturnsSrc.map (·.2) := by rfl
theorem fact_jsonldProof_check_sequence : Nuts.Facts.C01.jsonldProofReturns = jsonldProofReturnsSrc.map (·.2) := by rfl
theorem fact_jwtSignature_check_sequence : Nuts.Facts.C01.jwtSignatureReturns = jwtSignatureReturnsSrc.map (·.2) := by rfl
theorem fact_parseJWT_check_sequence : Nuts.Facts.C01.parseJWTReturns = parseJWTReturnsSrc.map (·.2) := by rfl
theorem fact_verifySignature_dispatch : Nuts.Facts.C01.verifySignatureReturns = verifySignatureReturnsSrc.map (·.2) := by rfl
theorem fact_verifyVPSignature_dispatch : Nuts.Facts.C01.verifyVPSignatureReturns = verifyVPSignatureReturnsSrc.map (·.2) := by rfl
theorem fact_presenterIsCredentialSubject : Nuts.Facts.C01.presenterIsCredentialSubjectReturns = presenterIsCredentialSubjectReturnsSrc.map (·.2) := by rfl
theorem fact_resolveSubjectDID : Nuts.Facts.C01.resolveSubjectDIDReturns = resolveSubjectDIDReturnsSrc.map (·.2) := by rfl
theorem fact_presentationSigner : Nuts.Facts.C01.presentationSignerReturns = presentationSignerReturnsSrc.map (·.2) := by rfl
theorem fact_validator_selection : Nuts.Facts.C01.findValidatorReturns = findValidatorReturnsSrc.map (·.2) := by rfl
theorem fact_proof_valid_at : Nuts.Facts.C01.proofValidAtReturns = proofValidAtReturnsSrc.map (·.2) := by rfl

/-- the model's check tables carry exactly the names the source tables map to (entries starting with "-" have no check of
    their own in the model: the store failure is an error class of "not-revoked", header extraction and marshalling are error paths
    of infrastructure the model does not have) -/
theorem fact_model_checks_are_the_source_checks (cfg : Cfg) (P : Crypto) (E : Env) (au : Bool) (at_ : Option Time) (i : String) (b : Bytes) :
    verifyReturnsSrc.map (·.1) = ["validator", "max-2-types", "-store-error", "not-revoked", "status-list", "trusted", "valid-at",
        "issuer-is-did", "-jwt-protected-headers", "issuer-resolves", "sig:*"] ∧
    (preChecks cfg E au at_).map (·.name) = ["validator", "max-2-types", "not-revoked", "status-list", "trusted", "valid-at"] ∧
    (issuerChecks E at_).map (·.name) = ["issuer-is-did", "issuer-resolves"] ∧
    "-marshal" :: (ldChecks cfg P E at_ i b).map (·.name) = jsonldProofReturnsSrc.map (·.1) ∧
    (jwtChecks cfg P E at_ i b).map (·.name) =
      ["jwt:parses", "jwt:key-resolves", "jwt:alg-supported", "jwt:alg-fits-key", "jwt:signature", "jwt:clock", "jwt:kid-of-issuer"] ∧
    (vpHeadChecks E).map (·.name) ++ ["vp:signature", "vp:verify-vcs"] = doVerifyVPReturnsSrc.map (·.1) := by
  and_intros <;> rfl

/-- doVerifyVP declares `checkSignature := true` inside the loop over the credentials (the model's `vcCheckSig vp c` is per credential) -/
theorem fact_check_signature_flag_is_per_credential : Nuts.Facts.C01.checkSignatureFlagIsPerCredential = true := by decide
def removeTrustReturnsSrc : List String :=
  [ " => tc.save()" ]
def addTrustReturnsSrc : List String :=
  [ " => tc.save()" ]
def isTrustedReturnsSrc : List String :=
  [ "range tc.issuersPerType[credentialType.String()] && i == issuerString => true",
    " => false" ]
/-- trust.go as modelled: IsTrusted is a scan of the type's list; AddTrust appends unless trusted; RemoveTrust returns early unless
    trusted and otherwise keeps every entry that differs from the issuer (all occurrences are dropped) -/
theorem fact_trust_store_code : Nuts.Facts.C01.removeTrustReturns = removeTrustReturnsSrc ∧ Nuts.Facts.C01.addTrustReturns = addTrustReturnsSrc ∧
    Nuts.Facts.C01.isTrustedReturns = isTrustedReturnsSrc ∧ Nuts.Facts.C01.removeTrustDropsEveryOccurrence = true := by
  refine ⟨by rfl, by rfl, by rfl, by decide⟩
/-! ### wiring: where the verifier is called from and with which flags; the sibling entry points' statements -/

def verifierCallSitesSrc : List String :=
  [ "vcr/api/vcr/v2/api.go:VerifyVC: w.VCR.Verifier().Verify(requestedVC,allowUntrustedIssuer,true,nil)",
    "vcr/api/vcr/v2/api.go:VerifyVP: w.VCR.Verifier().VerifyVP(request.Body.VerifiablePresentation,verifyCredentials,allowUntrustedIssuers,validAt)",
    "vcr/api/vcr/v2/api.go:LoadVC: w.VCR.Verifier().Verify(*request.Body,true,true,nil)",
    "vcr/holder/sql_wallet.go:BuildPresentation: h.verifier.VerifySignature(cred,&options.ProofOptions.Created)",
    "vcr/holder/sql_wallet.go:List: h.verifier.Verify(credential,true,false,nil)",
    "vcr/store.go:StoreCredential: c.verifier.VerifySignature(credential,validAt)",
    "vcr/search.go:Search: c.verifier.Verify(foundCredential,allowUntrusted,false,resolveTime)",
    "vcr/vcr.go:Configure: verifier.NewVerifier(c.verifierStore,didResolver,c.keyResolver,c.jsonldManager,c.trustConfig,status)",
    "vcr/vcr.go:Resolve: c.verifier.Verify(credential,false,false,resolveTime)",
    "vcr/ambassador.go:jsonLDRevocationCallback: n.verifier.RegisterRevocation(r)",
    "vcr/revocation/statuslist2021_verifier.go:verify: cs.VerifySignature(cred,nil)",
    "auth/api/iam/openid4vp.go:handleAuthorizeResponseSubmission: r.vcr.Verifier().VerifyVP(presentation,true,true,nil)",
    "auth/api/iam/openid4vci.go:handleOpenID4VCICallback: r.vcr.Verifier().Verify(*credential,true,true,nil)",
    "auth/api/iam/s2s_vptoken.go:handleS2SAccessTokenRequest: r.vcr.Verifier().VerifyVP(presentation,true,true,nil)",
    "auth/services/oauth/authz_server.go:validateAuthorizationCredentials: s.vcVerifier.Verify(authCred,true,true,&iat)",
    "auth/services/selfsigned/validator.go:verifyVP: v.vcr.Verifier().VerifyVP(vp,true,true,validAt)",
    "discovery/client.go:removeRevoked: r.vcr.Verifier().VerifyVP(*verifiablePresentation,true,true,nil)",
    "discovery/module.go:verifyRegistration: m.vcrInstance.Verifier().VerifyVP(presentation,true,true,nil)" ]
def apiVerifyVPReturnsSrc : List String :=
  [ "request.Body.ValidAt != nil && parsedTime,err := time.Parse(time.RFC3339,*request.Body.ValidAt); err != nil => core.InvalidInputError(\"invalid value for validAt: %w\",err)",
    "signerDID,err := credential.PresentationSigner(request.Body.VerifiablePresentation); err != nil => fmt.Errorf(\"cannot determine subject of VP: %w\",err)",
    "verifiedCredentials,err := w.VCR.Verifier().VerifyVP(request.Body.VerifiablePresentation,verifyCredentials,allowUntrustedIssuers,validAt); err != nil => err" ]
def storeCredentialReturnsSrc : List String :=
  [ "credential.ID != nil && existingCredential,err := c.find(*credential.ID); err == nil => fmt.Errorf(\"credential with same ID but different content already exists (id=%s)\",credential.ID)",
    "credential.ID != nil && !(existingCredential,err := c.find(*credential.ID); err == nil) && !errors.Is(err,types.ErrNotFound) => err",
    "err := c.verifier.VerifySignature(credential,validAt); err != nil => err",
    " => c.writeCredential(credential)" ]
def walletBuildPresentationReturnsSrc : List String :=
  [ "validateVC && range credentials && err := h.verifier.VerifySignature(cred,&options.ProofOptions.Created); err != nil => core.InvalidInputError(\"invalid credential (id=%s): %w\",cred.ID,err)",
    " => presenter{}.buildPresentation(ctx,signerDID,credentials,options)" ]
def statusListVerifyReturnsSrc : List String :=
  [ "statuses,err := credentialToVerify.CredentialStatuses(); err != nil => err",
    "range statuses && err = json.Unmarshal(status.Raw(),&slEntry); err != nil => err",
    "range statuses && sList,err := cs.statusList(slEntry.StatusListCredential); err != nil => fmt.Errorf(\"status list: %w\",err)",
    "range statuses && sList.StatusPurpose != slEntry.StatusPurpose => fmt.Errorf(\"StatusList2021Credential.credentialSubject.statusPuspose='%s' does not match vc.credentialStatus.statusPurpose='%s'\",sList.StatusPurpose,slEntry.StatusPurpose)",
    "range statuses && index,err := strconv.Atoi(slEntry.StatusListIndex); err != nil => err",
    "range statuses && revoked,err := sList.Bitstring.bit(index); err != nil => err",
    "range statuses && revoked => errRevoked" ]
def isRevokedReturnsSrc : List String :=
  [ "_,err := v.store.GetRevocations(credentialID); err != nil => err" ]
def registerRevocationReturnsSrc : List String :=
  [ "err := json.Unmarshal(asBytes,&document); err != nil => err",
    "err := credential.ValidateRevocation(revocation); err != nil => err",
    "subjectIssuer != revocation.Issuer.String() => errors.New(\"issuer of revocation is not the same as issuer of credential\")",
    "vmIssuer != revocation.Issuer.String() => errVerificationMethodNotOfIssuer",
    "pk,err := v.keyResolver.ResolveKeyByID(revocation.Proof.VerificationMethod.String(),metadata,resolver.NutsSigningKeyType); err != nil => fmt.Errorf(\"unable to resolve key for revocation: %w\",err)",
    "err := document.UnmarshalProofValue(&ldProof); err != nil => err",
    "err = ldProof.Verify(document.DocumentWithoutProof(),signature.JSONWebSignature2020{},pk); err != nil => fmt.Errorf(\"unable to verify revocation signature: %w\",err)",
    "err := v.store.StoreRevocation(revocation); err != nil => fmt.Errorf(\"unable to store revocation: %w\",err)" ]
def walletListStmtsSrc : List String :=
  [ "credentials,err := h.walletStore.list(holderDID)",
    "if err != nil",
    "validCredentials := make(<*ast.ArrayType>,0,len(credentials))",
    "if err == nil",
    "err = h.verifier.Verify(credential,true,false,nil)",
    "validCredentials = append(validCredentials,credential)",
    "if !errors.Is(err,types.ErrCredentialNotValidAtTime) && !errors.Is(err,types.ErrRevoked)" ]
def apiVerifyVCStmtsSrc : List String :=
  [ "requestedVC := request.Body.VerifiableCredential",
    "allowUntrustedIssuer := true",
    "if strings.HasPrefix(request.Body.VerifiableCredential.Issuer.String(),\"did:nuts\")",
    "allowUntrustedIssuer = false",
    "if options != nil",
    "options := request.Body.VerificationOptions",
    "if allowUntrusted != nil",
    "allowUntrusted := options.AllowUntrustedIssuer",
    "allowUntrustedIssuer = *allowUntrusted",
    "if err != nil",
    "err := w.VCR.Verifier().Verify(requestedVC,allowUntrustedIssuer,true,nil)",
    "errMsg := err.Error()" ]
def apiVerifyVPStmtsSrc : List String :=
  [ "verifyCredentials := true",
    "if request.Body.VerifyCredentials != nil",
    "verifyCredentials = *request.Body.VerifyCredentials",
    "if request.Body.ValidAt != nil",
    "parsedTime,err := time.Parse(time.RFC3339,*request.Body.ValidAt)",
    "if err != nil",
    "validAt = &parsedTime",
    "signerDID,err := credential.PresentationSigner(request.Body.VerifiablePresentation)",
    "if err != nil",
    "allowUntrustedIssuers := true",
    "if signerDID.Method == \"nuts\"",
    "allowUntrustedIssuers = false",
    "verifiedCredentials,err := w.VCR.Verifier().VerifyVP(request.Body.VerifiablePresentation,verifyCredentials,allowUntrustedIssuers,validAt)",
    "if err != nil",
    "if errors.Is(err,verifier.VerificationError{})",
    "msg := err.Error()",
    "result := VPVerificationResult{}" ]

/-- Call sites of Verify / VerifyVP / VerifySignature / RegisterRevocation / NewVerifier with their flag arguments (every
    consumer that decides on validity passes checkSignature / verifyVCs = true; the wallet's List and VCR.Resolve/Search are
    the only sites that skip the signature, on credentials whose signature `StoreCredential` checked before writing them), and
    the statements of the REST handlers, the wallet, StoreCredential, IsRevoked, RegisterRevocation and StatusList2021.Verify -/
theorem fact_wiring :
    Nuts.Facts.C01.verifierCallSites = verifierCallSitesSrc ∧
    Nuts.Facts.C01.apiVerifyVPReturns = apiVerifyVPReturnsSrc ∧
    Nuts.Facts.C01.storeCredentialReturns = storeCredentialReturnsSrc ∧
    Nuts.Facts.C01.walletBuildPresentationReturns = walletBuildPresentationReturnsSrc ∧
    Nuts.Facts.C01.statusListVerifyReturns = statusListVerifyReturnsSrc ∧
    Nuts.Facts.C01.isRevokedReturns = isRevokedReturnsSrc ∧
    Nuts.Facts.C01.registerRevocationReturns = registerRevocationReturnsSrc ∧
    Nuts.Facts.C01.walletListStmts = walletListStmtsSrc ∧
    Nuts.Facts.C01.apiVerifyVCStmts = apiVerifyVCStmtsSrc ∧
    Nuts.Facts.C01.apiVerifyVPStmts = apiVerifyVPStmtsSrc := by
  and_intros <;> rfl

/-- a refreshed status list replaces EVERY column of the stored copy (UpdateAll), so the bitstring that later checks read is the
    downloaded one -/
theorem fact_status_list_refresh_replaces_all_columns : Nuts.Facts.C01.statusListUpdateOnConflict = ["UpdateAll:true"] := rfl
/-- ResolveKeyByID iterates ONE collection — the requested relationship — for absolute and for @base-relative ids alike, and the
    AssertionMethod relation selects `doc.AssertionMethod` (the model's `DidDoc.assertion`, `keyIdMatches`) -/
theorem fact_key_lookup_iterates_the_relationship :
    Nuts.Facts.C01.resolveKeyByIDRanges = ["relationships"] ∧
    Nuts.Facts.C01.relationshipCollections = ["Authentication=>doc.Authentication", "AssertionMethod=>doc.AssertionMethod",
      "KeyAgreement=>doc.KeyAgreement", "CapabilityInvocation=>doc.CapabilityInvocation", "CapabilityDelegation=>doc.CapabilityDelegation"] := by
  refine ⟨by rfl, by rfl⟩
/-- the status list issuer rebuilds a list from the issuer record WITH its revocations on renewal (Credential) and on Revoke -/
theorem fact_status_list_renewal_loads_revocations :
    Nuts.Facts.C01.statusListIssuerPreloads = ["Credential:Preload(\"Revocations\")", "Revoke:Preload(\"Revocations\")"] := by rfl
/-- the JSON-LD engine the verifier is wired with fetches unlisted contexts only when the node is NOT in strict mode: Configure hands
    `!Strictmode` to NewContextLoader, which installs the allow-list filter unless that flag is set (the canonicalisation contract of
    `tamper_evident` presupposes a FIXED set of contexts) -/
theorem fact_strict_mode_fixes_the_contexts :
    Nuts.Facts.C01.contextLoaderArgs = ["!serverConfig.Strictmode", "j.config.Contexts"] ∧
    Nuts.Facts.C01.contextLoaderGuards = ["if !allowUnlistedExternalCalls", "if err != nil"] := by
  refine ⟨by rfl, by rfl⟩
/-- the verifier holds only its collaborators (resolvers, JSON-LD engine, store, trust config, status lists): no cache of resolved keys
    or verdicts, so every call resolves the key at ITS validation time (the model's `verify` is a function of the call's Env); and the
    JWT path resolves through the key resolver as well -/
theorem fact_verifier_is_stateless :
    Nuts.Facts.C01.verifierFields = ["verifier.didResolver resolver.DIDResolver", "verifier.keyResolver resolver.KeyResolver", "verifier.jsonldManager jsonld.JSONLD", "verifier.store Store", "verifier.trustConfig *trust.Config", "verifier.<embedded> signatureVerifier", "verifier.credentialStatus revocation.StatusList2021Verifier", "signatureVerifier.keyResolver resolver.KeyResolver", "signatureVerifier.jsonldManager jsonld.JSONLD"] ∧
    Nuts.Facts.C01.resolveSigningKeyReturns = [" => sv.keyResolver.ResolveKeyByID(kid,metadata,resolver.NutsSigningKeyType)"] := by
  refine ⟨by rfl, by rfl⟩
/-- StoreCredential's `VerifySignature(credential, validAt)` is a top-level statement: no condition (issuer, id known to the node, …)
    can skip it (see also `storeCredentialReturns` in fact_wiring) -/
theorem fact_store_credential_always_verifies_the_signature :
    Nuts.Facts.C01.storeCredentialVerifiesSignatureUnconditionally = true := by decide
/-- every key lookup of the verifier asks for the SAME constant relationship (NutsSigningKeyType = AssertionMethod, see
    fact_signing_key_relation) — jsonldProof once, the JWT path once, RegisterRevocation once; no proof field selects it.  And the status
    list verifier checks downloaded lists with VerifySignature (signature + key of the list's issuer), not with the soft-failing Verify -/
theorem fact_key_lookup_relationship_is_constant :
    Nuts.Facts.C01.keyLookupRelations = ["jsonldProof:resolver.NutsSigningKeyType", "resolveSigningKey:resolver.NutsSigningKeyType", "RegisterRevocation:resolver.NutsSigningKeyType"] ∧
    Nuts.Facts.C01.newVerifierStatusListWiring = ["credentialStatus.VerifySignature = v.VerifySignature"] := by
  refine ⟨by rfl, by rfl⟩
theorem fact_max_skew : Nuts.Facts.C01.maxSkewMs = 5000 := rfl
theorem fact_supported_algs : Nuts.Facts.C01.supportedAlgs = ["ES256", "EdDSA", "ES384", "ES512", "PS256", "PS384", "PS512"] := rfl
theorem fact_signing_key_relation : Nuts.Facts.C01.signingKeyRelation = "AssertionMethod" := rfl
theorem fact_type_constants : Nuts.Facts.C01.c_NutsOrganizationCredentialType = orgType ∧
    Nuts.Facts.C01.c_NutsAuthorizationCredentialType = authType ∧ Nuts.Facts.C01.c_NutsV1Context = nutsContextV1 := ⟨rfl, rfl, rfl⟩

end Nuts.C01.Props
