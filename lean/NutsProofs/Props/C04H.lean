/-
  C04 — "all Authorization header shapes": the header block of the request -> the middleware's decision.
-/
import NutsModel.C04.Headers
import NutsModel.Facts.C04
import NutsProofs.Props.C04
import NutsProofs.Props.C04L

namespace Nuts.C04.Props
open Nuts.C04

/-- authenticationCredential reads ONE request header, "Authorization", through Header.Get (first value), and nothing else of the
    request; its three conditions and four returns are the ones `authenticationCredential` / `headerGet` of the model mirror
    (regenerated from the source on every run) -/
theorem fact_authentication_credential :
    Facts.C04.authHeaderReads = ["Get:\"Authorization\""] ∧
    Facts.C04.authCredentialConds = ["credential == \"\"", "len(fields) != 2", "strings.ToLower(fields[0]) != \"bearer\""] ∧
    Facts.C04.authCredentialReturns = ["return \"\"", "return \"\"", "return \"\"", "return fields[1]"] :=
  ⟨rfl, rfl, rfl⟩

/-- the FIRST line named `key` decides what `Header.Get` returns: whatever follows it is never looked at -/
theorem headerGet_first (key : Str) (pre post : List Str) (l : Str)
    (hpre : ∀ p ∈ pre, lineIs key p = false) (hl : lineIs key l = true) :
    headerGet key (pre ++ l :: post) = lineValue l := by
  induction pre with
  | nil => simp [headerGet, hl]
  | cons p rest ih =>
    have hp : lineIs key p = false := hpre p (by simp)
    simp only [List.cons_append, headerGet, hp]
    exact ih (fun q hq => hpre q (by simp [hq]))

theorem headerGet_none (key : Str) (lines : List Str) (h : ∀ p ∈ lines, lineIs key p = false) : headerGet key lines = [] := by
  induction lines with
  | nil => rfl
  | cons p rest ih =>
    simp only [headerGet, h p (by simp)]
    exact ih (fun q hq => h q (by simp [hq]))

/-- a second (third, …) Authorization line cannot change the decision: neither rescue a request whose first Authorization line
    is not acceptable, nor spoil one whose first line is — for ALL lists of header lines as `headerDecision` reads them: one
    line per header, continuation lines already joined (`headerValue` does the joining; `no_bypass_header_block` is on it) -/
theorem later_authorization_lines_are_ignored (P : Policy) (aud : String) (keys : List AuthKey) (now : Int) (an : Str → Analysis)
    (pre post post' : List Str) (l : Str)
    (hpre : ∀ p ∈ pre, lineIs authorizationKey p = false) (hl : lineIs authorizationKey l = true) :
    headerDecision P aud keys now (pre ++ l :: post) an = headerDecision P aud keys now (pre ++ l :: post') an := by
  unfold headerDecision
  rw [headerGet_first _ pre post l hpre hl, headerGet_first _ pre post' l hpre hl]

/-- a request without a line named Authorization (whatever else it carries: Proxy-Authorization, X-Authorization, cookies …)
    is denied -/
theorem no_authorization_line_is_denied (P : Policy) (aud : String) (keys : List AuthKey) (now : Int) (an : Str → Analysis)
    (lines : List Str) (h : ∀ p ∈ lines, lineIs authorizationKey p = false) :
    headerDecision P aud keys now lines an = .denied := by
  unfold headerDecision
  rw [headerGet_none _ lines h]
  simp [tokenDecision, authenticationCredential, fields, fieldsAux]

/-- header lines (continuation lines already joined) -> decision, composed with `granted_sound`: a request is granted as user u
    only if its header block HAS a line named Authorization and the value of the FIRST such line is `Bearer <credential>` with
    a credential that satisfies every clause of the property (stated on the library verdicts for exactly that value) -/
theorem header_block_granted_sound (aud : String) (keys : List AuthKey) (now : Int) (hnow : 0 ≤ now) (an : Str → Analysis)
    (lines : List Str) (u : String)
    (h : headerDecision Facts.C04.policy aud keys now lines an = .granted u) :
    ∃ pre l post, lines = pre ++ l :: post ∧ (∀ p ∈ pre, lineIs authorizationKey p = false) ∧ lineIs authorizationKey l = true ∧
      tokenDecision Facts.C04.policy aud keys now (lineValue l) (an (lineValue l)) = .granted u ∧
      authenticationCredential (lineValue l) ≠ [] ∧ (an (lineValue l)).claims.iss = some u ∧
      (an (lineValue l)).claims.jti = some true := by
  cases hf : lines.find? (lineIs authorizationKey) with
  | none =>
    rw [no_authorization_line_is_denied _ _ _ _ _ _ (by simpa using hf)] at h
    cases h
  | some l =>
    obtain ⟨hl, pre, post, rfl, hp⟩ := List.find?_eq_some_iff_append.mp hf
    have hp : ∀ p ∈ pre, lineIs authorizationKey p = false := by simpa using hp
    unfold headerDecision at h
    rw [headerGet_first _ pre post l hp hl] at h
    have gs := granted_sound aud keys now hnow _ _ u h
    exact ⟨pre, l, post, rfl, hp, hl, h, gs.1, gs.2.2.2.2.2.2.1, gs.2.2.2.2.2.2.2.2.2.1⟩

/-- **no_bypass_header_block** (request line + header block -> handler, on the chain with the limiter): for ALL header blocks
    (any lines: folded, malformed, repeated, look-alike names), authority verdicts, registrations, limiter states, methods and
    targets, a handler under /internal runs only if net/http accepts the block, the value v of its first Authorization line is
    granted as some user u, and the handler sees exactly u; a block net/http refuses runs nothing -/
theorem no_bypass_header_block (aud : String) (keys : List AuthKey) (now : Int) (an : Str → Analysis)
    (authOK : Str → Bool) (lim : LimCfg) (regs : List Registered) (lines : List Str) (method : String) (target : Str) (b i : Nat)
    (hran : (serveConnH Facts.C04.policy aud keys now an authOK Facts.C04.authSelector Facts.C04.authPath true lim regs lines method target b).1.ran = some i)
    (hint : ∀ r ∈ regs.map (·.route), r.id = i → underInternal r) :
    ∃ v u, headerValue authorizationKey lines = some v ∧ tokenDecision Facts.C04.policy aud keys now v (an v) = .granted u ∧
      (serveConnH Facts.C04.policy aud keys now an authOK Facts.C04.authSelector Facts.C04.authPath true lim regs lines method target b).1.user = some u := by
  unfold serveConnH at hran ⊢
  cases hv : headerValue authorizationKey lines with
  | none => simp [hv] at hran
  | some v =>
    simp only [hv] at hran ⊢
    obtain ⟨u, hu, huser⟩ := no_bypass_limited authOK lim regs _ method target b i hran hint
    exact ⟨v, u, rfl, hu, huser⟩

/-- a header block that net/http refuses is answered 400 and leaves the limiter's bucket alone -/
theorem malformed_block_runs_nothing (P : Policy) (aud : String) (keys : List AuthKey) (now : Int) (an : Str → Analysis)
    (authOK : Str → Bool) (sel : Selector) (authPath : Str) (authOn : Bool) (lim : LimCfg) (regs : List Registered)
    (lines : List Str) (method : String) (target : Str) (b : Nat) (h : headerValue authorizationKey lines = none) :
    serveConnH P aud keys now an authOK sel authPath authOn lim regs lines method target b =
      ({ status := 400, ran := none, user := none }, b) := by
  unfold serveConnH; simp [h]

/-- non-vacuity / shapes of the harness: obs-fold re-assembles a credential; blank before the colon, no colon: refused -/
example : headerValue authorizationKey ["Host: h".toList, "Authorization: Bearer".toList, "  abc".toList] = some "Bearer abc".toList := by
  -- The kernel evaluates `toList` of a string literal by decoding its UTF-8 bytes position by position, at a cost
  -- quadratic in the length; `String.toList_ofList` reads the characters off the literal instead.
  unfold authorizationKey
  repeat rewrite [String.toList_ofList]
  decide
example : headerValue authorizationKey ["Authorization : Bearer abc".toList] = none := by
  unfold authorizationKey
  repeat rewrite [String.toList_ofList]
  decide +kernel
example : headerValue authorizationKey [" folded".toList, "Authorization: Bearer abc".toList] = none := by decide
example : headerValue authorizationKey ["Authorization_: x".toList, "authorization: Bearer abc".toList] = some "Bearer abc".toList := by
  unfold authorizationKey
  repeat rewrite [String.toList_ofList]
  decide +kernel

/-- non-vacuity / the shapes of the harness: lower-case name, no blank after the colon, blanks and tabs around the value,
    a second line, look-alike names -/
example : headerGet authorizationKey ["Host: verif.test".toList, "authorization:Bearer abc \t".toList, "Authorization: Bearer zzz".toList]
    = "Bearer abc".toList := by
  unfold authorizationKey
  repeat rewrite [String.toList_ofList]
  decide
example : headerGet authorizationKey ["X-Authorization: Bearer abc".toList, "Proxy-Authorization: Bearer abc".toList,
    "Authorization-X: Bearer abc".toList] = [] := by
  unfold authorizationKey
  repeat rewrite [String.toList_ofList]
  decide
example : headerGet authorizationKey ["AUTHORIZATION: ".toList, "Authorization: Bearer abc".toList] = [] := by
  unfold authorizationKey
  repeat rewrite [String.toList_ofList]
  decide

end Nuts.C04.Props
