/-
  C17 — "the verification key is taken only from where the protocol says — the resolved DID document … never kid of another
  party", on the CHARACTERS of kid and issuer: which kid is handed to the DID key resolver, and what passes the kid ↔ issuer test.
-/
import NutsModel.C17.Kid
import NutsModel.Facts.C17
import NutsProofs.Lemmas.C17Kid
import NutsProofs.Props.C17

namespace Nuts.C17.Props
open Nuts.C17 Nuts.C17.Kid

/-- resolveSigningKey and the kid ↔ issuer test of jwtSignature, verbatim -/
theorem fact_resolveSigningKey :
    Facts.C17.resolveSigningKeyBody = "{ if kid == \"\" { kid = issuer } if strings.HasPrefix(kid, \"did:jwk:\") && !strings.Contains(kid, \"#\") { kid += \"#0\" } return sv.keyResolver.ResolveKeyByID(kid, metadata, resolver.NutsSigningKeyType) }" ∧
    Facts.C17.vcJwtKidIssuerTest = "keyID != \"\" && strings.Split(keyID, \"#\")[0] != issuer" := by
  exact ⟨rfl, rfl⟩

/-- `strings.Split(kid, "#")[0] == issuer`, exactly: the kid is the issuer's DID itself or that DID followed by `#fragment`. A DID that
    extends, abbreviates or resembles the issuer's (`…alice2`, `…alice.attacker.net`, `…alice:sub`, `…alice%23x`) never passes -/
theorem kid_issuer_test_exact {kid issuer : List Char} (h : didPart kid = issuer) :
    kid = issuer ∨ ∃ rest, kid = issuer ++ '#' :: rest := by
  unfold didPart at h
  rcases takeWhile_eq_self_or_split (· ≠ '#') kid with h1 | ⟨c, rest, h1, h2⟩
  · exact Or.inl (by rw [← h, h1])
  · have : c = '#' := by simpa using h2
    subst this
    exact Or.inr ⟨rest, by rw [← h]; exact h1⟩

/-- and conversely every such kid passes (non-vacuity), when the issuer holds no `#` -/
theorem kid_issuer_test_complete (issuer rest : List Char) (hi : '#' ∉ issuer) :
    didPart issuer = issuer ∧ didPart (issuer ++ '#' :: rest) = issuer :=
  ⟨didPart_no_hash issuer hi, didPart_append_hash issuer rest hi⟩

/-- the kid handed to the resolver names the ISSUER's DID whenever the kid ↔ issuer test passes (absent kid; did:jwk `#0` completion) -/
theorem resolved_kid_is_issuers (kid issuer : List Char) (hi : '#' ∉ issuer) (h : kid = [] ∨ didPart kid = issuer) :
    didPart (normKid kid issuer) = issuer := by
  unfold normKid
  have hk : didPart (if kid = [] then issuer else kid) = issuer := by
    split
    · exact didPart_no_hash issuer hi
    · next hne => exact h.resolve_left hne
  generalize (if kid = [] then issuer else kid) = k at hk ⊢
  simp only
  split
  · next hc =>
    have hnh : '#' ∉ k := by simpa using ((Bool.and_eq_true _ _).mp hc).2
    rw [didPart_no_hash k hnh] at hk
    subst hk
    exact didPart_append_hash k _ hnh
  · exact hk

example : normKidS "" "did:jwk:abc" = "did:jwk:abc#0" ∧ normKidS "did:jwk:abc" "did:jwk:abc" = "did:jwk:abc#0" ∧
    normKidS "did:jwk:abc#1" "did:jwk:abc" = "did:jwk:abc#1" ∧ normKidS "" "did:web:x" = "did:web:x" ∧
    normKidS "did:web:x#k" "did:web:x" = "did:web:x#k" ∧ normKidS "did:jwk" "x" = "did:jwk" := by decide +kernel
example : didPartS "did:web:x2#k" ≠ "did:web:x" ∧ didPartS "did:web:x#k#l" = "did:web:x" ∧ didPartS "#k" = "" := by decide +kernel

/-- without did:jwk the refined function IS the abstract one (TokenPolicy.vcJwtSignature with `didOf` = Split(·, "#")[0]) -/
theorem vcJwtSignatureK_refines (sup : List String) (E : Env) (issuer : String) (j : Jws)
    (hnojwk : ∀ kid, normKidS kid issuer = (if kid = "" then issuer else kid)) :
    vcJwtSignatureK sup E issuer j = vcJwtSignature sup E issuer didPartS j := by
  unfold vcJwtSignatureK vcJwtSignature
  simp only [hnojwk]
  generalize parseJWT sup _ j = o
  cases o with
  | reject => rfl
  | accept vs => rcases j.sigs with _ | ⟨s, _ | ⟨s2, r⟩⟩ <;> rfl

/-- VC / VP in JWT format, on the characters: ParseJWT's discipline with the key the resolver returns for `normKid kid issuer`, and the
    kid is absent, the issuer's DID, or that DID plus a fragment -/
theorem accept_vcJwtK (E : Env) (issuer : String) (j : Jws) (vs : List Verified)
    (h : vcJwtSignatureK Facts.C17.supportedAlgs E issuer j = .accept vs) :
    Disciplined Facts.C17.supportedAlgs j vs (fun s v =>
      E.resolve (normKidS s.kid issuer) = some v.key ∧ E.verifies v.key s.alg 0 = true ∧ E.fits v.key s.alg = true ∧
      (s.kid = "" ∨ didPartS s.kid = issuer)) := by
  revert h
  fun_cases vcJwtSignatureK Facts.C17.supportedAlgs E issuer j with
  | case3 E' a hp s hs hk =>
    intro h
    injection h with h
    subst h
    refine (accept_parseJWT _ j _ hp).imp fun s' _ hs' _ ⟨_, hres, hver, hfit⟩ => ⟨hres, hver, hfit, ?_⟩
    cases hs.symm.trans hs'
    by_cases hkid : s.kid = ""
    · exact .inl hkid
    · exact .inr (by simpa [hkid] using hk)
  | _ => nofun

/-- ExtractProtectedHeaders never hands out the headers of one signature among several -/
theorem xph_single_signature (e : Bool) (j : Jws) (s : Sig) (h : extractProtectedHeaders e j = .headers (some s)) :
    e = false ∧ j.parses = true ∧ j.sigs = [s] := by
  revert h
  fun_cases extractProtectedHeaders e j with
  | case3 he hp s' hs => intro h; injection h with h; injection h with h; subst h; exact ⟨by simpa using he, of_not_bnot hp, hs⟩
  | _ => nofun

/-- what ExtractProtectedHeaders hands out for a token ParseJWT accepts are the protected headers of the very signature that is
    verified (did:x509: the `x5c` the resolver reads is covered by that signature) -/
theorem xph_agrees_with_parseJWT (E : Env) (j : Jws) (vs : List Verified) (h : parseJWT Facts.C17.supportedAlgs E j = .accept vs) :
    ∃ s, j.sigs = [s] ∧ extractProtectedHeaders false j = .headers (some s) := by
  obtain ⟨s, _, hs, _, _, _, _, _, hp⟩ := parseJWT_accept h
  exact ⟨s, hs, by simp [extractProtectedHeaders, hp, hs]⟩

example : extractProtectedHeaders false { parses := true, sigs := [], splitOK := true } = .err ∧
    extractProtectedHeaders false { parses := false, sigs := [], splitOK := false } = .headers none := by decide

/-- ExtractProtectedHeaders as regenerated: parse errors ignored, `!= 1` signatures an error, the headers of signature 0 -/
theorem fact_extractProtectedHeaders :
    Facts.C17.extractProtectedHeadersBody = "{ headers := make(map[string]interface{}) if jwt != \"\" { message, _ := jws.ParseString(jwt) if message != nil { if len(message.Signatures()) != 1 { return nil, ErrorInvalidNumberOfSignatures } var err error headers, err = message.Signatures()[0].ProtectedHeaders().AsMap(context.Background()) if err != nil { return nil, err } } } return headers, nil }" := by
  rfl

def exEnvJwk : Env where
  resolve := fun k => if k = "did:jwk:abc#0" then some "K" else none
  embeddedKey := fun _ => none
  verifies := fun _ _ _ => true
  verifiesSplit := fun _ _ _ => false

example : (vcJwtSignatureK ["ES256"] exEnvJwk "did:jwk:abc"
    { parses := true, sigs := [{ alg := "ES256", kid := "", jwk := .absent, hdrs := [], typ := "" }], splitOK := true }).accepted = true := by decide +kernel

end Nuts.C17.Props
