/-
  Composition C09 ∘ C10 — the did:nuts pipeline end to end.
  Maps: NutsModel/Compose/Did.lean.

  What the single properties leave open and this file closes:
    * C09's theorems speak about ONE delivery into a given store; C10's theorems take "the arrived events" as an
      unconstrained list.  Here the node receives a whole history through C09's `step` (`run`), and the list C10 is
      instantiated with is exactly what C09 accepted on the way (`accepted`): `run c {} l` IS `addAll c.store {} (accepted c {} l)`.
    * the only hypothesis at the seam: a transaction ref names the delivery (`RefNames`: the ref is the hash of the signed
      transaction, which carries the payload hash).  C09's `Tx.ref` is an unconstrained `Nat` and `deliver` answers ok for a
      second transaction with a known ref and other content while C10's `add` silently keeps the first one
      (`ref_collision_accepted_but_not_stored`): without the contract "accepted" and "stored" differ — by exactly that
      (`store_vs_accepted_without_contract`).
  Theorems: (1) `store_holds_exactly_the_accepted`; (2) `chain_of_custody` (+ `_reachable`), thumbprints collision-free;
  (3) `same_accepted_set_same_answers`; (4) `acceptance_depends_on_delivery_order` / `acceptance_order_independent_false`
  (acceptance is NOT independent of the delivery order among causally consistent orders: the two fallbacks of
  `handleUpdateDIDDocument` — latest version, controllers by signing time — read what the node happens to hold) and the
  positive half `future_depends_only_on_accepted_set`.
  C13: `pubLatest_is_resolve_latest`, `deactivation_commit_agrees_partial` and the seam where C13 and C09's `managerUpdate`
  model `Manager.Update`'s deactivation test differently (`deactivation_commit_disagrees_on_conflicted_store`).
-/
import NutsProofs.Lemmas.ComposeDid
import NutsProofs.Props.C09
import NutsProofs.Props.C10
import NutsModel.Facts.C09
import NutsModel.Facts.C10

namespace Nuts.Compose.Did.Props
open Nuts Nuts.C10 Nuts.C09 Nuts.Compose.Did

/-- **Contract at the seam**: within a history a transaction ref names the delivery -/
def RefNames (l : List Delivery) : Prop := ∀ p ∈ l, ∀ q ∈ l, p.1.ref = q.1.ref → p = q

/-- under the contract the accepted events satisfy C10's hypothesis `RefFun`: an output of C09 here, not an input -/
theorem refFun_accepted (c : C09.Cfg) (l : List Delivery) (hR : RefNames l) : RefFun (accepted c {} l) := by
  intro a ha b hb hab
  obtain ⟨pre, tx, d, post, _, hl, rfl, _⟩ := (mem_accepted c l {} a).mp ha
  obtain ⟨pre', tx', d', post', _, hl', rfl, _⟩ := (mem_accepted c l {} b).mp hb
  have h1 : (tx, some d) ∈ l := by rw [hl]; simp
  have h2 : (tx', some d') ∈ l := by rw [hl']; simp
  have := hR _ h1 _ h2 hab
  simp only [Prod.mk.injEq, Option.some.injEq] at this
  obtain ⟨rfl, rfl⟩ := this
  rfl

/-- **The store holds exactly the accepted (1).** For EVERY history of deliveries through C09's `deliver` from the
    empty store — valid, forged, replayed, unparsable, in any order — in which a ref names the delivery (`RefNames`):
    * the node's store IS C10's `addAll` over the events of the accepted deliveries (so every C10 theorem about `addAll cfg {} l`
      applies to it with `l := accepted c {} l`, an OUTPUT of C09 instead of an unconstrained input);
    * every DID's record satisfies C10's invariant (sorted, no duplicate refs, chain = the fold over the sorted list) and its
      event list holds exactly the events of the accepted deliveries of that DID — each the (transaction, document) of a
      delivery that C09 accepted in the state reached at that point;
    * a rejected delivery leaves no trace: removing it from the history changes neither the store nor the accepted list
      (`rejected_inert` lifted over histories). -/
theorem store_holds_exactly_the_accepted (c : C09.Cfg) (l : List Delivery) (hR : RefNames l) :
    addAll c.store {} (accepted c {} l) = .ok (run c {} l) ∧
    (∀ id, Inv c.store ((run c {} l).get id) ∧
      (∀ e, e ∈ ((run c {} l).get id).events ↔ (e ∈ accepted c {} l ∧ e.doc.id = id)) ∧
      (∀ e, e ∈ ((run c {} l).get id).events ↔
        ∃ pre tx d post s', l = pre ++ (tx, some d) :: post ∧ e = eventOf tx d ∧ d.id = id ∧
          deliver c (run c {} pre) tx (some d) = .ok s')) ∧
    (∀ pre p post, l = pre ++ p :: post → (step c (run c {} pre) p.1 p.2).2 ≠ "ok" →
      run c {} l = run c {} (pre ++ post) ∧ accepted c {} l = accepted c {} (pre ++ post)) := by
  have hrun := run_is_addAll c l {}
  refine ⟨hrun, fun id => ?_, ?_⟩
  · obtain ⟨hinv, hmem⟩ := C10.Props.store_is_fold c.store _ (refFun_accepted c l hR) _ hrun id
    refine ⟨hinv, hmem, fun e => ?_⟩
    rw [hmem e, mem_accepted]
    constructor
    · rintro ⟨⟨pre, tx, d, post, s', hl, he, hok⟩, hid⟩
      exact ⟨pre, tx, d, post, s', hl, he, by rw [← hid, he]; rfl, hok⟩
    · rintro ⟨pre, tx, d, post, s', hl, he, hid, hok⟩
      exact ⟨⟨pre, tx, d, post, s', hl, he, hok⟩, by rw [he, ← hid]; rfl⟩
  · intro pre p post hl hrej
    have hs := (C09.Props.rejected_inert c (run c {} pre) p.1 p.2 hrej).1
    subst hl
    rw [run_append, run_append, accepted_append, accepted_append]
    have hnone : acceptedEvent c (run c {} pre) p = none := by
      rcases step_cases c (run c {} pre) p with ⟨-, -, he⟩ | ⟨_, _, -, -, hst, -, -⟩
      · exact he
      · exact absurd (by rw [hst]) hrej
    simp only [run, accepted, hs, hnone, Option.toList, List.nil_append, and_self]

/-- **Same accepted set, same answers (3).** Two nodes — different delivery orders, different rejected traffic in
    between, replays, different Go map iteration orders — whose histories led to the same set of ACCEPTED events (refs name
    deliveries in the first: `RefNames`) hold the same record for every DID and answer identically: the store's `Resolve` under every metadata, the did:nuts `Resolver`
    (controller check, every depth), the ambassador's and the DAG verifier's key resolution, both counters, `Iterate()` and
    `Conflicted()`.  C10's `resolve_order_independent` / `stats_order_independent` / `observations_order_independent` with
    their hypotheses (`RefFun`, "the arrived events", `addAll … = ok`) discharged by C09 ∘ (1). -/
theorem same_accepted_set_same_answers (c₁ c₂ : C09.Cfg) (σ₁ σ₂ : Field → List Entry → List Entry)
    (h₁ : ∀ f l, (σ₁ f l).Perm l) (h₂ : ∀ f l, (σ₂ f l).Perm l)
    (hc₁ : c₁.store = cfgOf σ₁ Facts.C10.mergeSortedFields) (hc₂ : c₂.store = cfgOf σ₂ Facts.C10.mergeSortedFields)
    (l₁ l₂ : List Delivery) (hR : RefNames l₁)
    (hsame : ∀ e, e ∈ accepted c₁ {} l₁ ↔ e ∈ accepted c₂ {} l₂) :
    (∀ id, (run c₁ {} l₁).get id = (run c₂ {} l₂).get id) ∧
    (∀ id rm, resolve (run c₁ {} l₁) id rm = resolve (run c₂ {} l₂) id rm) ∧
    (∀ n rm id, resolverResolve n (run c₁ {} l₁) rm id = resolverResolve n (run c₂ {} l₂) rm id) ∧
    (∀ n kid refs, resolvePublicKey n (run c₁ {} l₁) kid refs = resolvePublicKey n (run c₂ {} l₂) kid refs) ∧
    (∀ kid refs, resolvePublicKeyStore (run c₁ {} l₁) kid refs = resolvePublicKeyStore (run c₂ {} l₂) kid refs) ∧
    (run c₁ {} l₁).documentCount = (run c₂ {} l₂).documentCount ∧
    (run c₁ {} l₁).conflictedCount = (run c₂ {} l₂).conflictedCount ∧
    iterate (run c₁ {} l₁) = iterate (run c₂ {} l₂) ∧
    (∀ id, conflictedOf (run c₁ {} l₁) id = conflictedOf (run c₂ {} l₂) id) := by
  have r₁ := run_is_addAll c₁ l₁ {}
  have r₂ := run_is_addAll c₂ l₂ {}
  rw [hc₁] at r₁
  rw [hc₂] at r₂
  have hU := refFun_accepted c₁ l₁ hR
  have hroi := C10.Props.resolve_order_independent σ₁ σ₂ h₁ h₂ _ _ hU hsame _ _ r₁ r₂
  have hst := C10.Props.stats_order_independent σ₁ σ₂ h₁ h₂ _ _ hU hsame _ _ r₁ r₂
  have hobs := C10.Props.observations_order_independent σ₁ σ₂ h₁ h₂ _ _ hU hsame _ _ r₁ r₂
  -- the records agree (C10); every answer that reads the store through `resolve` follows
  have hag : Agree (run c₁ {} l₁) (run c₂ {} l₂) := fun id => (hroi id).1
  exact ⟨hag, fun id rm => by rw [resolve_agree hag], fun n rm id => by rw [resolverResolve_agree hag],
    fun n kid refs => by rw [resolvePublicKey_agree hag], fun kid refs => by rw [resolvePublicKeyStore_agree hag],
    hst.1, hst.2, hobs.2.1, hobs.1⟩

/-! ### (2) chain of custody -/

/-- **Chain of custody — an invariant of ALL reachable stores.** For every history `l` of deliveries (any length, any mix of
    valid, forged, replayed deliveries, any order) and thumbprints being collision-free:
    (a) every stored event of every DID entered as an accepted delivery of `l` that was `Authorised` in the state reached at
        that point — a creation signed by the key the transaction embeds and the DID is derived from, or an update whose
        signing key is a capabilityInvocation key of a controller (the DID itself, or a controller DID active within the depth
        bound) of the version it succeeds and of EVERY other version its prevs name;
    (b) every DID that has any event has its accepted creation among them (an update is only ever accepted for a DID that
        already has a version; induction over the history);
    (c) whatever C10's `Resolve` answers — any DID, any metadata — is a stored version whose source transactions are a
        non-empty set of stored events of that DID, each authorised as in (a), and the DID has its creation as in (b).
    The theorem states (a)–(c).  That the history of every resolvable document is authorised back to its creation follows by
    an induction on the position in the history that is left to the reader: every authorisation refers to versions of a
    strictly shorter prefix, which (a)–(c) cover again. -/
theorem chain_of_custody (c : C09.Cfg) (hinj : ∀ a b, c.thumb a = c.thumb b → a = b) (l : List Delivery) :
    (∀ id e, e ∈ ((run c {} l).get id).events → e.doc.id = id ∧ EnteredAuthorised c l e) ∧
    (∀ id, ((run c {} l).get id).events ≠ [] → ∃ e ∈ ((run c {} l).get id).events, EnteredAsCreation c l e) ∧
    (∀ id rm d m, resolve (run c {} l) id rm = .ok (d, m) →
      (d, m) ∈ ((run c {} l).get id).chain ∧ m.sourceTx ≠ [] ∧
      (∀ r ∈ m.sourceTx, ∃ e ∈ ((run c {} l).get id).events, e.ref = r ∧ EnteredAuthorised c l e) ∧
      ∃ e₀ ∈ ((run c {} l).get id).events, EnteredAsCreation c l e₀) := by
  have hA := fun id e h => stored_events_authorised c hinj l id e h
  have hB := hasCreation_all c l
  refine ⟨hA, hB, fun id rm d m h => ?_⟩
  have hmem := resolve_ok_mem_chain _ id rm (d, m) h
  obtain ⟨hne, hsrc⟩ := inv_chain_sources c.store _ (run_inv c l id) (d, m) hmem
  refine ⟨hmem, hne, fun r hr => ?_, hB id (resolve_ok_events_ne c.store _ id (run_inv c l id) rm (d, m) h)⟩
  obtain ⟨e, he, her⟩ := hsrc r hr
  exact ⟨e, he, her, (hA id e he).2⟩

/-- part (c) without the membership in the chain, phrased over the inductively defined reachable stores -/
theorem chain_of_custody_reachable (c : C09.Cfg) (hinj : ∀ a b, c.thumb a = c.thumb b → a = b) (s : Store)
    (hs : Reachable c s) :
    ∃ l, s = run c {} l ∧ Inv c.store (s.get "") ∧
      ∀ id rm d m, resolve s id rm = .ok (d, m) → m.sourceTx ≠ [] ∧
        (∀ r ∈ m.sourceTx, ∃ e ∈ (s.get id).events, e.ref = r ∧ EnteredAuthorised c l e) ∧
        ∃ e₀ ∈ (s.get id).events, EnteredAsCreation c l e₀ := by
  obtain ⟨l, rfl⟩ := (reachable_iff_run c s).mp hs
  refine ⟨l, rfl, run_inv c l "", fun id rm d m h => ?_⟩
  obtain ⟨_, h2, h3, h4⟩ := (chain_of_custody c hinj l).2.2 id rm d m h
  exact ⟨h2, h3, h4⟩

/-! ### the concrete instance (today's regenerated facts) used by the non-vacuity examples and by (4) -/

def wCfg : C09.Cfg :=
  { thumb := fun k => k, didThumb := fun k => "D" ++ k, maxDepth := Facts.C09.maxControllerDepth,
    validators := Facts.C09.networkValidators, vmNilJwkErr := Facts.C09.verifyThumbprintGuardsNilJwk,
    findKeyNilJwkErr := Facts.C09.findKeyGuardsNilJwk, store := cfgOf (fun _ l => l) Facts.C10.mergeSortedFields }
/-- the same node with Go ranging over its maps in the opposite order -/
def wCfgRev : C09.Cfg := { wCfg with store := cfgOf (fun _ l => l.reverse) Facts.C10.mergeSortedFields }

def vmOf (did k : String) : NVM := { id := did ++ "#" ++ k, pfx := did, frag := k, key := .key k }
/-- a document of DID `D<k>` listing `keys` as verification methods and `ci` for capabilityInvocation -/
def docOf (k : String) (keys ci : List String) (ctrl : List String := []) : NDoc :=
  { id := "did:nuts:D" ++ k, idID := "D" ++ k, controllers := ctrl,
    vms := keys.map (vmOf ("did:nuts:D" ++ k)), capInv := ci.map (vmOf ("did:nuts:D" ++ k)) }
def createTx (ref : Nat) (k : String) (t : Nat := 10) : Tx :=
  { ref := ref, clock := 0, sigTime := t, prevs := [], payloadHash := s!"p{ref}", embedded := some k, signer := k }
def updateTx (ref : Nat) (prevs : List Nat) (did k : String) (t : Nat := 20) : Tx :=
  { ref := ref, clock := 1, sigTime := t, prevs := prevs, payloadHash := s!"p{ref}",
    kid := { holder := did, id := did ++ "#" ++ k }, signer := k }

/-- creation of the controller `Dc` -/
def c100 : Delivery := (createTx 100 "c", some (docOf "c" ["c"] ["c"]))
/-- creation of `Dd`, controlled by itself and by `Dc` -/
def d110 : Delivery := (createTx 110 "d", some (docOf "d" ["d"] ["d"] ["did:nuts:Dc", "did:nuts:Dd"]))
/-- `Dd` deactivates itself (prevs name its creation) -/
def d211 : Delivery := (updateTx 211 [110] "did:nuts:Dd" "d" 20, some (docOf "d" [] [] []))
/-- the controller `Dc` updates `Dd`; the prevs name only `Dc`'s creation (which resolves the kid) and no version of `Dd` -/
def u500 : Delivery := (updateTx 500 [100] "did:nuts:Dc" "c" 40, some (docOf "d" ["d"] ["d"] ["did:nuts:Dc"]))
/-- a stranger's key tries to take `Dd` over -/
def forged : Delivery := (updateTx 600 [110] "did:nuts:Dd" "zz" 50, some (docOf "d" ["zz"] ["zz"] []))
/-- a payload that does not parse -/
def garbage : Delivery := (createTx 700 "q", none)

/-- node 1: valid, forged (too early and again later), replayed, unparsable deliveries interleaved -/
def hist₁ : List Delivery := [c100, forged, d110, c100, forged, u500, garbage, d211, u500]
/-- node 2: the same accepted transactions in another order, other rejected traffic in between -/
def hist₂ : List Delivery := [d110, garbage, c100, u500, d211, forged]

theorem refNames_of_nodup {l : List Delivery} (hn : (l.map (·.1.ref)).Nodup) : RefNames l :=
  fun _ hp _ hq => pairwise_ne_inj (List.pairwise_map.mp hn) hp hq

theorem RefNames.sub {l l' : List Delivery} (h : RefNames l') (hsub : ∀ p ∈ l, p ∈ l') : RefNames l :=
  fun p hp q hq => h p (hsub p hp) q (hsub q hq)

theorem refNames_hist₁ : RefNames hist₁ :=
  (refNames_of_nodup (l := [c100, forged, d110, u500, garbage, d211]) (by decide)).sub (by simp [hist₁])

-- (1) is not vacuous: the history has accepted, forged, replayed and unparsable deliveries; the DID's event list holds
-- exactly the accepted ones (C10's order), the rejected ones left no trace
example : outcomes wCfg {} hist₁ =
    ["ok", "err:sig:key:not-found", "ok", "ok", "err:sig:key:key-not-found", "ok", "err:unmarshal", "ok", "ok"] := by decide +kernel
example : ((run wCfg {} hist₁).get "did:nuts:Dd").events.map (·.ref) = [110, 211, 500] ∧
    acceptedRefs wCfg {} hist₁ = [100, 110, 100, 500, 211, 500] := by decide +kernel
example : ((run wCfg {} hist₁).get "did:nuts:Dd").events.map (·.ref) =
    ((run wCfg {} [c100, d110, u500, d211]).get "did:nuts:Dd").events.map (·.ref) := by decide +kernel


/-- the event a delivery contributes when it is accepted -/
def evOf (p : Delivery) : Event := match p.2 with | some d => eventOf p.1 d | none => default

theorem accepted_hist₁ : accepted wCfg {} hist₁ = [evOf c100, evOf d110, evOf c100, evOf u500, evOf d211, evOf u500] := by rfl
theorem accepted_hist₂ : accepted wCfgRev {} hist₂ = [evOf d110, evOf c100, evOf u500, evOf d211] := by rfl

-- (1)/(3) are not vacuous: two nodes, different delivery orders, different rejected traffic, different map iteration
-- orders — same accepted set, hence (by the theorem) the same answers
example : RefNames hist₁ ∧ (∀ e, e ∈ accepted wCfg {} hist₁ ↔ e ∈ accepted wCfgRev {} hist₂) := by
  refine ⟨refNames_hist₁, fun e => ?_⟩
  rw [accepted_hist₁, accepted_hist₂]
  simp only [List.mem_cons, List.mem_nil_iff, or_false]
  constructor <;> intro h
  · rcases h with h | h | h | h | h | h <;> simp [h]
  · rcases h with h | h | h | h <;> simp [h]
example : (∀ f l, ((fun (_ : Field) (l : List Entry) => l) f l).Perm l) ∧
    (∀ f l, ((fun (_ : Field) (l : List Entry) => l.reverse) f l).Perm l) :=
  ⟨fun _ _ => List.Perm.refl _, fun _ l => List.reverse_perm l⟩

/-! ### the seam: what `RefNames` is needed for -/

/-- the same ref delivered with other content -/
def c100' : Delivery := (createTx 100 "c", some (docOf "c" ["c", "y"] ["c"]))

/-- **Finding about the models (seam C09/C10).** C09's `Tx.ref` is an unconstrained number and `deliver` answers ok for a
    second, different, validly signed transaction carrying a ref the DID already has — C10's `add` then keeps the first
    event and drops the second without a word (`contains` compares refs only, `fact_equal_by_ref`). So without the contract
    `RefNames` ("the ref is the hash of the signed transaction") an ACCEPTED delivery need not be STORED: here two
    deliveries are accepted, one event is stored, and `store_holds_exactly_the_accepted` fails for the second one. -/
theorem ref_collision_accepted_but_not_stored :
    outcomes wCfg {} [c100, c100'] = ["ok", "ok"] ∧ (accepted wCfg {} [c100, c100']).length = 2 ∧
    ((run wCfg {} [c100, c100']).get "did:nuts:Dc").events.length = 1 ∧ ¬ RefNames [c100, c100'] := by
  refine ⟨by decide, by decide, by decide, fun h => ?_⟩
  have := h c100 (by simp) c100' (by simp) rfl
  have h2 := congrArg (fun p : Delivery => (p.2.map (fun d => d.vms.length))) this
  revert h2
  decide

/-- **Without the contract** (`RefNames` dropped — refs may collide): still every stored event is an accepted one, and
    every accepted delivery's REF is stored for its DID — possibly with the content of the first delivery that carried it
    (`ref_collision_accepted_but_not_stored`); nothing else can differ between "accepted" and "stored". -/
theorem store_vs_accepted_without_contract (c : C09.Cfg) (l : List Delivery) :
    (∀ id e, e ∈ ((run c {} l).get id).events → e ∈ accepted c {} l ∧ e.doc.id = id) ∧
    (∀ e, e ∈ accepted c {} l → ∃ x ∈ ((run c {} l).get e.doc.id).events, x.ref = e.ref) := by
  refine ⟨mem_events_accepted c l, fun e he => ?_⟩
  obtain ⟨pre, tx, d, post, s', hl, rfl, hok⟩ := (mem_accepted c l {} e).mp he
  obtain ⟨d', hpd, hadd⟩ := callback_ok_add c _ s' tx (some d) (deliver_ok_inv c _ s' tx (some d) hok).2
  cases hpd
  have h1 : (step c (run c {} pre) tx (some d)).1 = s' := by unfold step; rw [hok]
  have hmono : ∀ x, x ∈ (s'.get (eventOf tx d).doc.id).events → x ∈ ((run c {} l).get (eventOf tx d).doc.id).events := by
    intro x hx
    rw [hl, run_append]
    simp only [run]
    rw [h1]
    exact run_mono c post s' _ x hx
  obtain ⟨_, hown⟩ := add_get c.store _ s' _ hadd
  rcases hown with ⟨hnone, rfl⟩ | hsome
  · have hc := C10.addDid_none hnone
    unfold contains at hc
    obtain ⟨y, hy, hyr⟩ := List.any_eq_true.mp hc
    exact ⟨y, hmono y hy, by simpa using hyr⟩
  · exact ⟨_, hmono _ (addDid_mono c.store _ _ _ hsome).1, rfl⟩

/-! ### (4) is acceptance independent of the delivery order among causally consistent orders?  No. -/

/-- the statement one would like: two causally consistent delivery orders of the same deliveries accept the same transactions -/
def AcceptanceOrderIndependentStmt : Prop :=
  ∀ (c : C09.Cfg) (l₁ l₂ : List Delivery), l₁.Perm l₂ → RefNames l₁ → causal l₁ = true → causal l₂ = true →
    ∀ r, r ∈ acceptedRefs c {} l₁ ↔ r ∈ acceptedRefs c {} l₂

/-- **Smallest witness found (4 deliveries; with 3 every update's versions, controllers and key are determined by its prevs).**
    `Dd` (controlled by itself and by `Dc`) deactivates itself (211, prevs = its creation) while its controller `Dc` updates it
    (500) naming only `Dc`'s own creation as prev: no prev of 500 names a version of `Dd`, so `handleUpdateDIDDocument` falls
    back to the LATEST version the node happens to hold (`currentVersion`, `fact_update_steps`/`updateFallsBackToLatest`).
    Delivered after the deactivation, 500 is refused (the latest version has no controller left); delivered before it, 500 is
    accepted and so is 211.  Both orders deliver every prev before its successor.  The two nodes end with different accepted
    sets and answer `Resolve` differently. -/
theorem acceptance_depends_on_delivery_order :
    [c100, d110, d211, u500].Perm [c100, d110, u500, d211] ∧ RefNames [c100, d110, d211, u500] ∧
    causal [c100, d110, d211, u500] = true ∧ causal [c100, d110, u500, d211] = true ∧
    outcomes wCfg {} [c100, d110, d211, u500] = ["ok", "ok", "ok", "err:update:not-signed-by-controller"] ∧
    outcomes wCfg {} [c100, d110, u500, d211] = ["ok", "ok", "ok", "ok"] ∧
    acceptedRefs wCfg {} [c100, d110, d211, u500] = [100, 110, 211] ∧
    acceptedRefs wCfg {} [c100, d110, u500, d211] = [100, 110, 500, 211] ∧
    (match resolve (run wCfg {} [c100, d110, d211, u500]) "did:nuts:Dd" (some { allowDeactivated := true }) with
      | .ok (d, m) => (m.sourceTx, controllersOf d) | _ => ([], [])) = ([211], []) ∧
    (match resolve (run wCfg {} [c100, d110, u500, d211]) "did:nuts:Dd" (some { allowDeactivated := true }) with
      | .ok (d, m) => (m.sourceTx, controllersOf d) | _ => ([], [])) = ([500, 211], ["did:nuts:Dc"]) := by
  refine ⟨((List.Perm.swap _ _ _).cons _).cons _, refNames_of_nodup (by decide), ?_⟩
  decide +kernel

theorem acceptance_order_independent_false : ¬ AcceptanceOrderIndependentStmt := by
  intro h
  obtain ⟨hp, hr, h1, h2, _, _, h7, h8, _⟩ := acceptance_depends_on_delivery_order
  have := (h wCfg _ _ hp hr h1 h2 500).mpr (by rw [h8]; decide)
  rw [h7] at this
  revert this
  decide

/-- creation of `De`, self-controlled, which also publishes `Dc`'s key `c` as one of its verification methods -/
def e120 : Delivery := (createTx 120 "e", some (docOf "e" ["e", "c"] ["e"]))
/-- `Dd'`: controlled by `Dc` only -/
def d130 : Delivery := (createTx 130 "f", some (docOf "f" ["f"] [] ["did:nuts:Dc"]))
/-- `Dc` rotates its key away from `c` / `Dc` is deactivated -/
def rot200 : Delivery := (updateTx 200 [100] "did:nuts:Dc" "c" 20, some (docOf "c" ["x"] ["x"]))
def deact300 : Delivery := (updateTx 300 [100] "did:nuts:Dc" "c" 30, some (docOf "c" [] []))
/-- update of `Df` signed with `c` under the alias kid `De#c`; the prevs name no transaction of `Dc`, so the controller is
    looked up by SIGNING TIME (the other fallback, `fact_ambassador_controller_resolution`) -/
def u410 : Delivery := (updateTx 410 [130, 120] "did:nuts:De" "c" 40, some (docOf "f" ["f"] ["f"] ["did:nuts:Dc"]))

-- the second source of order dependence: the signing-time controller fallback reads the controller's versions the node
-- happens to hold.  After the controller ROTATED the key away the update is refused, before it is accepted …
example : outcomes wCfg {} [c100, d130, e120, rot200, u410] = ["ok", "ok", "ok", "ok", "err:update:not-signed-by-controller"] ∧
    outcomes wCfg {} [c100, d130, e120, u410, rot200] = ["ok", "ok", "ok", "ok", "ok"] ∧
    causal [c100, d130, e120, rot200, u410] = true ∧ causal [c100, d130, e120, u410, rot200] = true := by decide +kernel
-- … whereas after the controller was DEACTIVATED the update is accepted in either order: by-time resolution skips the
-- deactivated latest version and answers the older active one — exactly the open finding
-- C09:accepted-update-by-key-of-deactivated-controller-after-its-deactivation (same fallback, same root)
example : outcomes wCfg {} [c100, d130, e120, deact300, u410] = ["ok", "ok", "ok", "ok", "ok"] ∧
    outcomes wCfg {} [c100, d130, e120, u410, deact300] = ["ok", "ok", "ok", "ok", "ok"] := by decide +kernel
-- … and a controller whose creation arrives late: refused, although every prev of 410 was delivered before it
example : outcomes wCfg {} [d130, e120, u410, c100] = ["ok", "ok", "err:update:not-signed-by-controller", "ok"] ∧
    outcomes wCfg {} [c100, d130, e120, u410] = ["ok", "ok", "ok", "ok"] ∧ causal [d130, e120, u410, c100] = true := by decide +kernel


/-- **What acceptance DOES depend on (the positive half of (4)).** The node's past matters for its future decisions only
    through the SET of accepted events: two nodes whose histories led to the same accepted set — whatever the orders, the
    replays and the rejected traffic were — treat every common future identically: the same outcome class for every further
    delivery (accepted, or refused with the same error), the same further accepted events, and agreeing stores (hence
    identical `Resolve` answers) after it.  So the order dependence of `acceptance_depends_on_delivery_order` comes from the
    accepted set a delivery MEETS, never from anything else a node remembers. -/
theorem future_depends_only_on_accepted_set (c : C09.Cfg) (σ : Field → List Entry → List Entry)
    (hσ : ∀ f l, (σ f l).Perm l) (hc : c.store = cfgOf σ Facts.C10.mergeSortedFields)
    (l₁ l₂ : List Delivery) (hR : RefNames l₁)
    (hsame : ∀ e, e ∈ accepted c {} l₁ ↔ e ∈ accepted c {} l₂) (future : List Delivery) :
    outcomes c (run c {} l₁) future = outcomes c (run c {} l₂) future ∧
    accepted c (run c {} l₁) future = accepted c (run c {} l₂) future ∧
    (∀ id rm, resolve (run c {} (l₁ ++ future)) id rm = resolve (run c {} (l₂ ++ future)) id rm) := by
  have hag : Agree (run c {} l₁) (run c {} l₂) :=
    (same_accepted_set_same_answers c c σ σ hσ hσ hc hc l₁ l₂ hR hsame).1
  obtain ⟨h1, h2, h3⟩ := run_agree c future _ _ hag
  refine ⟨h1, h2, fun id rm => ?_⟩
  rw [run_append, run_append, resolve_agree h3]

-- not vacuous: after the two histories of the example above (same accepted set) a common future — a replay, a forged
-- update, a further valid update — is treated identically
example : outcomes wCfg (run wCfg {} hist₁) [u500, forged, c100] = outcomes wCfg (run wCfg {} hist₂) [u500, forged, c100] ∧
    outcomes wCfg (run wCfg {} hist₁) [u500, forged, c100] = ["ok", "err:sig:key:key-not-found", "ok"] := by decide +kernel


/-! ### C13: the subject manager's view of the did:nuts store -/

/-- **C13's `pubLatest` is C10's `Resolve(id, AllowDeactivated)`** on the abstraction of any store -/
theorem pubLatest_is_resolve_latest (tok : String → Nat) (name : Nat → String) (s : Store) (n : Nat) :
    C13.pubLatest (pubOf tok name s) n =
      (match resolve s (name n) (some { allowDeactivated := true }) with
       | .ok (d, _) => some (absContent tok d) | _ => none) := by
  rw [resolve_allow_latest]
  unfold C13.pubLatest pubOf
  cases (s.get (name n)).chain.reverse with
  | nil => rfl
  | cons p ps => rfl

/-- C13's document-level deactivation test is C10's `isDeactivated` on documents without controller (the documents the
    subject manager generates) -/
theorem content_deactivated_eq (tok : String → Nat) (d : Doc) (hc : d.f .controller = []) :
    (absContent tok d).deactivated = isDeactivated d := by
  simp [absContent, C13.Content.deactivated, isDeactivated, hc]

/-- **Deactivation commit: C13 agrees with C09's `Manager.Update` when flag = content (`_partial`).**  C13's `commitNuts`
    refuses a deactivation iff the latest published CONTENT is deactivated (first conjunct); C09's `managerUpdate` (the same
    Go function: `onDeactivate → Deactivate → Manager.Update`) refuses with `deactivated` when C10's sticky metadata FLAG is
    set (second conjunct).  Under the extra hypothesis `hflag` — for the latest version of the DID the flag equals the
    document-level test, which holds without conflicts — a deactivation C13 refuses is refused by `Manager.Update` for that
    reason, and one `Manager.Update` lets through is published by C13. -/
theorem deactivation_commit_agrees_partial (c : C09.Cfg) (tok : String → Nat) (name : Nat → String) (s : Store) (n : Nat)
    (has : String → Bool) (svcOk : Bool) (next : NDoc) (d : Doc) (m : Meta)
    (hres : resolve s (name n) (some { allowDeactivated := true }) = .ok (d, m)) :
    (C13.commitNuts (pubOf tok name s) (deactivationOf n) =
      if (absContent tok d).deactivated then .err "deactivated"
      else .ok (C13.publish (pubOf tok name s) n C13.Content.empty)) ∧
    (m.deactivated = true → managerUpdate c s has svcOk (name n) next = .err "mgr:deactivated") ∧
    (m.deactivated = (absContent tok d).deactivated →
      (C13.commitNuts (pubOf tok name s) (deactivationOf n) = .err "deactivated" →
        managerUpdate c s has svcOk (name n) next = .err "mgr:deactivated") ∧
      (∀ p, managerUpdate c s has svcOk (name n) next = .ok p →
        C13.commitNuts (pubOf tok name s) (deactivationOf n) = .ok (C13.publish (pubOf tok name s) n C13.Content.empty))) := by
  have hp := pubLatest_is_resolve_latest tok name s n
  rw [hres] at hp
  simp only at hp
  have hA : C13.commitNuts (pubOf tok name s) (deactivationOf n) =
      if (absContent tok d).deactivated then .err "deactivated"
      else .ok (C13.publish (pubOf tok name s) n C13.Content.empty) := by
    unfold C13.commitNuts deactivationOf
    simp only [hp]
  have hB : m.deactivated = true → managerUpdate c s has svcOk (name n) next = .err "mgr:deactivated" := by
    intro hm
    unfold managerUpdate
    simp only [hres, hm, if_true]
  refine ⟨hA, hB, fun hflag => ⟨fun h => hB ?_, fun p hpk => ?_⟩⟩
  · rw [hA] at h
    cases hd : (absContent tok d).deactivated with
    | true => rw [hflag, hd]
    | false => rw [hd] at h; simp at h
  · rw [hA]
    cases hd : (absContent tok d).deactivated with
    | false => simp
    | true =>
      rw [hB (by rw [hflag, hd])] at hpk
      cases hpk

/-! #### where the two models part: a conflicted DID -/

/-- self-controlled `Dd` without controller field -/
def s110 : Delivery := (createTx 110 "d", some (docOf "d" ["d"] ["d"]))
/-- `Dd` is deactivated … -/
def s211 : Delivery := (updateTx 211 [110] "did:nuts:Dd" "d" 20, some (docOf "d" [] []))
/-- … while a concurrent update (another node holding the key, or a race) names the same previous version -/
def s212 : Delivery := (updateTx 212 [110] "did:nuts:Dd" "d" 30, some (docOf "d" ["d"] ["d"]))

/-- **Seam C13 / (C09 ∘ C10): the models disagree on a conflicted DID.**  After the reachable history
    create, deactivate, concurrent update (all three accepted by C09) C10's latest version of `Dd` is the MERGE of the
    deactivation and the update: its content has a capabilityInvocation key (not deactivated, `onUpdate`'s test), its
    metadata flag is deactivated (sticky; `Manager.Update`'s test).  C09's `managerUpdate` refuses the deactivation with
    `deactivated` — C13's `commitNuts`, which sees only contents (`pub`), publishes it.  C13's `pub : Nat → List Content`
    cannot express the flag: C13's theorems hold for the node's own linear publications, not for every C10-reachable store. -/
theorem deactivation_commit_disagrees_on_conflicted_store :
    outcomes wCfg {} [s110, s211, s212] = ["ok", "ok", "ok"] ∧
    (match resolve (run wCfg {} [s110, s211, s212]) "did:nuts:Dd" (some { allowDeactivated := true }) with
      | .ok (d, m) => (isDeactivated d, m.deactivated, m.sourceTx) | _ => (true, false, [])) = (false, true, [212, 211]) ∧
    (match managerUpdate wCfg (run wCfg {} [s110, s211, s212]) (fun _ => true) true "did:nuts:Dd" (docOf "d" [] []) with
      | .err e => e | _ => "") = "mgr:deactivated" ∧
    (match C13.commitNuts (pubOf (fun _ => 7) (fun _ => "did:nuts:Dd") (run wCfg {} [s110, s211, s212])) (deactivationOf 0) with
      | .ok pub => (pub 0).length | _ => 0) = 4 := by
  refine ⟨by decide, by decide, by decide, by decide⟩

-- `deactivation_commit_agrees_partial` is not vacuous: without a conflict flag and content agree (active / deactivated)
example : (match resolve (run wCfg {} [s110]) "did:nuts:Dd" (some { allowDeactivated := true }) with
    | .ok (d, m) => (m.deactivated, (absContent (fun _ => 7) d).deactivated) | _ => (true, false)) = (false, false) ∧
  (match resolve (run wCfg {} [s110, s211]) "did:nuts:Dd" (some { allowDeactivated := true }) with
    | .ok (d, m) => (m.deactivated, (absContent (fun _ => 7) d).deactivated) | _ => (true, false)) = (true, true) := by decide

end Nuts.Compose.Did.Props
