/-
  C01 — the S2S token endpoint's use of the presenter = subject rule and of the presentation dates
  (NutsModel/C01/Iam.lean), composed with the verifier model.
-/
import NutsModel.C01.Iam
import NutsModel.Facts.C01
import NutsProofs.Lemmas.C01
import NutsProofs.Props.C01
namespace Nuts.C01.Props
open Nuts.C01

/-- `PresenterIsCredentialSubject` returns a DID exactly when the signer resolves, the credentials share ONE subject (every credential,
    not some) and that subject is the signer -/
theorem presenterIsCredentialSubject_some_iff (E : Env) (vp : Pres) (s : String) :
    presenterIsCredentialSubject E vp = .ok (some s) ↔
      presentationSigner E vp = some s ∧ resolveSubjectDID vp.vcs "" = some s := by
  fun_cases presenterIsCredentialSubject E vp with
  | case1 hp => simp [hp]
  | case2 x hp hr => simp [hr]
  | case3 x hp d hr hd => simp [hp, hr]; rintro rfl rfl; simp at hd
  | case4 x hp d hr hd => simp [hp, hr, show d = x by simpa using hd]

/-- what one accepted presentation guarantees: the returned DID is the presentation's signer and the subject of EVERY credential it
    carries, and it is the expected subject when one was expected -/
theorem validated_signer_is_subject_of_every_credential (E : Env) (vp : Pres) (expected d : String)
    (h : validatePresentationSigner E vp expected = .ok d) :
    presentationSigner E vp = some d ∧ (∀ c ∈ vp.vcs, subjectDID c = some d) ∧ (expected ≠ "" → d = expected) := by
  revert h
  fun_cases validatePresentationSigner E vp expected with
  | case3 hl s hp he =>
    rintro ⟨⟩
    have hnil : vp.vcs = [] := List.length_eq_zero_iff.mp (by simpa using hl)
    exact ⟨hp, hnil ▸ (fun _ hc => nomatch hc), by simpa using he⟩
  | case8 hl s hq he =>
    rintro ⟨⟩
    obtain ⟨hs, hr⟩ := (presenterIsCredentialSubject_some_iff E vp d).mp hq
    exact ⟨hs, (resolveSubjectDID_eq_some_iff.mp hr).1, by simpa using he⟩
  | _ => nofun

/-- what the dates check guarantees: both dates are reported (non-nil, taken from the signed proof / token) and are at most
    `maxValidity` apart -/
theorem s2s_validity_is_bounded (mv : Time) (vp : Pres) (h : validateS2SMaxValidity mv vp = .ok ()) :
    ∃ c e, presentationIssuanceDate vp = .ok (some c) ∧ presentationExpirationDate vp = .ok (some e) ∧ e - c ≤ mv := by
  revert h
  fun_cases validateS2SMaxValidity mv vp with
  | case6 c e hle hi he => exact fun _ => ⟨c, e, hi, he, Int.not_lt.mp hle⟩
  | _ => nofun

/-- THE ENVELOPE (all lists of presentations, any length): when the first loop of the S2S token handler accepts, ONE DID is the signer
    of every presentation and the subject of every credential in every presentation, and every presentation's signed validity is
    bounded.  `hDid` is go-did's parser contract (a parsed signer DID is not the empty DID). -/
theorem s2s_envelope_is_by_one_subject (mv : Time) (E : Env) (hDid : ∀ vp s, presentationSigner E vp = some s → s ≠ "")
    (vps : List Pres) (acc d : String) (h : s2sPresentations mv E vps acc = .ok d) :
    (vps = [] → d = acc) ∧ (acc ≠ "" → d = acc) ∧
    ∀ vp ∈ vps, presentationSigner E vp = some d ∧ (∀ c ∈ vp.vcs, subjectDID c = some d) ∧
      ∃ c e, presentationIssuanceDate vp = .ok (some c) ∧ presentationExpirationDate vp = .ok (some e) ∧ e - c ≤ mv := by
  fun_induction s2sPresentations mv E vps acc with
  | case1 acc => cases h; exact ⟨fun _ => rfl, fun _ => rfl, fun _ hvp => nomatch hvp⟩
  | case6 vp rest acc _ hv d1 hs ih =>
    obtain ⟨hsig, hall, hexp⟩ := validated_signer_is_subject_of_every_credential E vp acc d1 hs
    obtain ⟨_, hkeep, hrest⟩ := ih h
    obtain rfl : d = d1 := hkeep (hDid vp d1 hsig)
    refine ⟨nofun, hexp, fun vp' hvp' => ?_⟩
    cases hvp' with
    | head => exact ⟨hsig, hall, s2s_validity_is_bounded mv vp hv⟩
    | tail _ hm => exact hrest vp' hm
  | _ => cases h

/-- a presentation that carries a credential about somebody else stops the S2S handler (composition of the loop with the ∀ of the
    subject rule) -/
theorem s2s_refuses_foreign_credential (mv : Time) (E : Env) (hDid : ∀ vp s, presentationSigner E vp = some s → s ≠ "")
    (vps : List Pres) (vp : Pres) (c : Cred) (hvp : vp ∈ vps) (hc : c ∈ vp.vcs) (d : String)
    (hother : subjectDID c ≠ presentationSigner E vp) : s2sPresentations mv E vps "" ≠ .ok d := by
  intro h
  obtain ⟨_, _, hall⟩ := s2s_envelope_is_by_one_subject mv E hDid vps "" d h
  obtain ⟨hs, hsub, _⟩ := hall vp hvp
  exact hother ((hsub c hc).trans hs.symm)

example : s2sPresentations 5000 exE2 [exVP] "" = .err "missing-date" := by decide
example : validatePresentationSigner exE2 exVP "" = .ok "did:x:i" := by decide
example : validatePresentationSigner exE2 exVP "did:x:other" = .err "not-same" := by decide +kernel
example : validatePresentationSigner exE2 { exVP with vcs := [exC, { exC with subjects := some [.did "did:x:victim"] }] } "" = .err "resolve" := by decide +kernel
example : validatePresentationSigner exE2 { exVP with vcs := [{ exC with subjects := some [.did "did:x:victim"] }] } "" = .err "not-subject" := by decide +kernel

def flowValidatePresentationSignerSrc : List String :=
  [ "if len(presentation.VerifiableCredential) == 0", "signerDID,err := credential.PresentationSigner(presentation)", "if err != nil",
    "return nil,err", "if !expectedCredentialSubjectDID.Empty() && !signerDID.Equals(expectedCredentialSubjectDID)",
    "return nil,errors.New(\"not all presentations have the same credential subject ID\")", "return signerDID,nil",
    "subjectDID,err := credential.PresenterIsCredentialSubject(presentation)", "if err != nil", "return nil,err", "if subjectDID == nil",
    "return nil,errors.New(\"presentation signer is not credential subject\")",
    "if !expectedCredentialSubjectDID.Empty() && !subjectDID.Equals(expectedCredentialSubjectDID)",
    "return nil,errors.New(\"not all presentations have the same credential subject ID\")", "return subjectDID,nil" ]
def flowMaxValiditySrc : List String :=
  [ "created := credential.PresentationIssuanceDate(presentation)", "expires := credential.PresentationExpirationDate(presentation)",
    "if created == nil || expires == nil", "return oauth.OAuth2Error{}", "if expires.Sub(*created) > s2sMaxPresentationValidity",
    "return oauth.OAuth2Error{}", "return nil" ]
def s2sFirstLoopSrc : List String :=
  [ "var credentialSubjectID did.DID values=0",
    "if err := validateS2SPresentationMaxValidity(presentation); err != nil", "err := validateS2SPresentationMaxValidity(presentation)",
    "return nil,err",
    "if subjectDID,err := validatePresentationSigner(presentation,credentialSubjectID); err != nil",
    "subjectDID,err := validatePresentationSigner(presentation,credentialSubjectID)",
    "return nil,oauthError(oauth.InvalidRequest,err.Error())", "credentialSubjectID = *subjectDID",
    "if err := r.validatePresentationAudience(presentation,subject); err != nil", "err := r.validatePresentationAudience(presentation,subject)",
    "return nil,err" ]
def flowPresenterIsCredentialSubjectSrc : List String :=
  [ "signerDID,err := PresentationSigner(vp)", "if err != nil", "return nil,err",
    "credentialSubjectID,err := ResolveSubjectDID(vp.VerifiableCredential)", "if err != nil", "return nil,err",
    "if !credentialSubjectID.Equals(*signerDID)", "return nil,nil", "return signerDID,nil" ]
def flowResolveSubjectDIDSrc : List String :=
  [ "range credentials", "sid,err := credential.SubjectDID()", "if err != nil", "return nil,err",
    "if !subjectID.Empty() && !subjectID.Equals(*sid)", "return nil,errors.New(\"not all VCs have the same credentialSubject.id\")",
    "subjectID = *sid", "return &subjectID,nil" ]

/-- regenerated from the source: the complete control flow of the two IAM validators and of the two util.go functions behind them, the
    order and subject threading of the handler's first loop (starting from the EMPTY DID), the 5 s constant, and that the handler's only
    VerifyVP call checks the credentials' signatures (verifyVCs = true) at the current time -/
theorem fact_s2s_presentation_checks :
    Nuts.Facts.C01.flow_validatePresentationSigner = flowValidatePresentationSignerSrc ∧
    Nuts.Facts.C01.flow_validateS2SPresentationMaxValidity = flowMaxValiditySrc ∧
    Nuts.Facts.C01.s2sFirstLoop = s2sFirstLoopSrc ∧
    Nuts.Facts.C01.flow_PresenterIsCredentialSubject = flowPresenterIsCredentialSubjectSrc ∧
    Nuts.Facts.C01.flow_ResolveSubjectDID = flowResolveSubjectDIDSrc ∧
    Nuts.Facts.C01.s2sMaxValidityMs = 5000 ∧
    Nuts.Facts.C01.s2sVerifyVPCalls = ["r.vcr.Verifier().VerifyVP(presentation,true,true,nil)"] := ⟨rfl, rfl, rfl, rfl, rfl, rfl, rfl⟩

end Nuts.C01.Props
