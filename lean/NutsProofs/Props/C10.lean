/-
  C10 — did:nuts resolution is independent of the order in which updates arrive.
  Model: NutsModel/C10/DidStore.lean (event.go, writer.go, merge.go, store.go, metadata.go), and below it Shelves.lean (the literal
  shelves of one DID), Backend.lean (committed reads only), DocShelves.lean (txRefV2 / documentsV2 / statsV2), ReadPath.lean (failing
  Gets), Cache.lean (the conflicted cache under a rolled-back transaction).
  Facts: NutsModel/Facts/C10.lean is REGENERATED from /repo on every run.
-/
import NutsModel.C10.DidStore
import NutsModel.Facts.C10
import NutsProofs.Lemmas.C10
import NutsProofs.Lemmas.C10Merge
import NutsProofs.Lemmas.C10Resolve
import NutsProofs.Lemmas.C10Obs
import NutsProofs.Lemmas.C10Shelves
import NutsProofs.Lemmas.C10Backend
import NutsProofs.Lemmas.C10Docs
import NutsProofs.Lemmas.C10Read
import NutsProofs.Lemmas.C10Cache

namespace Nuts.C10.Props
open Nuts.C10

/-! ### Obligations on the regenerated facts (a source change flips these) -/

/-- every list `mergeDocuments` builds by ranging over a Go map is sorted afterwards -/
theorem fact_map_built_fields_sorted :
    ∀ f ∈ Facts.C10.mergeMapBuiltFields, f ∈ Facts.C10.mergeSortedFields := by decide

/-- the model treats every field as map-built and sorted: that is what the source does -/
theorem fact_all_fields_sorted : ∀ f : Field, f ∈ Facts.C10.mergeSortedFields := by
  intro f; cases f <;> decide

/-- `applyFrom`/`applyEvent`/`applyDocument`/`writeEventList` do not iterate over a Go map
    (the model visits unconsumed source transactions in metadata order) -/
theorem fact_writer_has_no_map_range : Facts.C10.writerMapRanges = [] := rfl

/-- `applyFrom` reads the conflicted flag whether or not a base event exists (the model does) -/
theorem fact_conflicted_flag_read_unconditionally : Facts.C10.conflictedFlagReadUnconditional = true := rfl

/-- `event.before` compares the clock, then the signing time (at full precision, `time.Time.Before`), then the ref —
    exactly the model's `before` -/
theorem fact_before_order : Facts.C10.beforeSteps = ["e.Clock < other.Clock => true", "e.Clock > other.Clock => false", "e.SigningTime.Before(other.SigningTime) => true", "other.SigningTime.Before(e.SigningTime) => false", "return e.Ref.Compare(other.Ref) < 0"] := rfl

/-- two events are the same event iff their refs are equal (the model's `contains`) -/
theorem fact_equal_by_ref : Facts.C10.equalBody = "{ return e.Ref.Equals(other.Ref) }" := rfl

/-- everything the ordering and the re-application read from a stored event survives the JSON round trip of the event
    list: each of these fields is persisted under its own tag (only the in-memory `document` pointer is not) -/
theorem fact_event_fields_persisted :
    (∀ f ∈ ["SigningTime", "Clock", "Previous", "Ref", "PayloadHash", "MetaRef"],
      ∃ p ∈ Facts.C10.eventFields, p.1 = f ∧ p.2 ≠ "" ∧ p.2 ≠ "-") ∧
    (Facts.C10.eventFields.map (·.2)).Nodup ∧
    (∀ p ∈ Facts.C10.eventFields, p.2 = "" → p.1 = "document") := by decide +kernel

/-- every field of the stored metadata record is persisted under its own tag -/
theorem fact_metadata_fields_persisted :
    (∀ f ∈ ["Version", "Created", "Updated", "Hash", "PreviousHash", "PreviousTransaction", "SourceTransactions", "Deactivated"],
      ∃ p ∈ Facts.C10.metadataFields, p.1 = f ∧ p.2 ≠ "" ∧ p.2 ≠ "-") ∧
    (Facts.C10.metadataFields.map (·.2)).Nodup := by decide +kernel

/-- the store object's only in-memory state is the conflicted cache (`Store.cache` in the model; everything else is
    read from the database on every call, which is why a restart only needs `reload`) -/
theorem fact_store_in_memory_state : Facts.C10.storeFields = ["db", "storageProvider", "conflictedDocuments"] := rfl

/-- the cache is written by `applyFrom` (add / remove) and `loadConflictedDocuments` (called from `Configure`) and read
    by `Conflicted` only — the model's `add`, `reload`, `conflictedOf` -/
theorem fact_cache_touch : Facts.C10.cacheTouch = ["Configure calls loadConflictedDocuments", "Conflicted uses conflictedDocuments", "addCachedConflict uses conflictedDocuments", "applyFrom calls addCachedConflict", "applyFrom calls removeCachedConflict", "loadConflictedDocuments uses conflictedDocuments", "removeCachedConflict uses conflictedDocuments"] := rfl

/-- metadata records are keyed DID+version, event `i` of the list points at version `i`, `latest` points at
    DID+version and `Resolve` walks down by `version - 1`: the model's chain indexed by position -/
theorem fact_version_keys : Facts.C10.sprintfKeys = ["Resolve: \"%s%d\" <- id.String() <- metadata.Version - 1", "applyEvent: \"%s%d\" <- nextDocument.ID.String() <- nextMetadata.Version", "writeEventList: \"%s%d\" <- id.String() <- i", "writeLatest: \"%s%d\" <- id <- metadata.Version"] := rfl

/-- single conditions the model copies -/
theorem fact_copied_conditions :
    Facts.C10.docCountCondition = "if metadata.Version == 0" ∧
    Facts.C10.deactivatedAssign = "newMeta.Deactivated = newMeta.Deactivated || currentMeta.Deactivated" ∧
    Facts.C10.isDeactivatedBody = "return len(document.Controller) == 0 && len(document.CapabilityInvocation) == 0" ∧
    Facts.C10.isConflictedBody = "return len(md.SourceTransactions) > 1" ∧
    Facts.C10.updatedOnlyIfDifferent = "if !md.Created.Equal(md.Updated) ;; result.Updated = &md.Updated" ∧
    Facts.C10.historyCreated = "created := el.Events[0].SigningTime" ∧
    Facts.C10.containsCheck = "if currentEventList.contains(event(transaction))" ∧
    Facts.C10.configureLoadsCache = "err = tl.loadConflictedDocuments()" :=
  ⟨rfl, rfl, rfl, rfl, rfl, rfl, rfl, rfl⟩

/-- the functions the model mirrors are textually the ones it was written against (normalised body digests);
    an edit to any of them fails here and sends the check looking for a concrete counterexample -/
theorem fact_modelled_source_unchanged : Facts.C10.modelledSourceDigests = [("event.go:before", "44e604635a93"),
    ("event.go:equal", "81163d70626e"),
    ("event.go:insert", "780be3f5eb32"),
    ("event.go:contains", "00bf01dec6b7"),
    ("writer.go:writeEventList", "02f6c11d75c9"),
    ("writer.go:writeDocument", "8958ffca45fc"),
    ("writer.go:writeLatest", "2207627fe06c"),
    ("writer.go:applyFrom", "dd594f34f3ed"),
    ("writer.go:incrementDocumentCount", "020ddd19a1ab"),
    ("writer.go:applyEvent", "5b9a524d3cd2"),
    ("writer.go:applyDocument", "bbccdf46d835"),
    ("writer.go:isDeactivated", "16f5db687650"),
    ("store.go:Configure", "293639ec0083"),
    ("store.go:Add", "f210e605bb68"),
    ("store.go:Resolve", "c8dce706bfc5"),
    ("store.go:Iterate", "ecd063ae3999"),
    ("store.go:loadConflictedDocuments", "c4a69f8179e5"),
    ("store.go:addCachedConflict", "568d12f58f5a"),
    ("store.go:removeCachedConflict", "0f654d40bfc3"),
    ("store.go:Conflicted", "2daf2fa6b38a"),
    ("store.go:ConflictedCount", "ab64cad9e09b"),
    ("store.go:DocumentCount", "e93a38d17291"),
    ("store.go:matches", "4307695c3584"),
    ("store.go:latestNonDeactivatedRequested", "193ad311e17e"),
    ("store.go:HistorySinceVersion", "21543445d03f"),
    ("reader.go:readDocument", "2c56abc1cbf7"),
    ("reader.go:readDocumentFromEvent", "6a5e7201b731"),
    ("reader.go:readMetadata", "716a8c6d9c59"),
    ("reader.go:readEventList", "0ac85a79cbbf"),
    ("metadata.go:asVDRMetadata", "c8353707e29f"),
    ("metadata.go:isConflicted", "26646ea99411"),
    ("merge.go:mergeDocuments", "1c4a7dff6449"),
    ("merge.go:mergeBasics", "1df844d1a025"),
    ("merge.go:mergeKeys", "a33bf08e3b1a"),
    ("merge.go:mergeControllers", "789cf91fb91b"),
    ("merge.go:mergeServices", "2bbd8aef8775"),
    ("merge.go:verificationMethodSort", "dc460a455299"),
    ("merge.go:keyAgreementSort", "66afa15cd134"),
    ("merge.go:assertionSort", "ef0d7e37783b"),
    ("merge.go:authenticationSort", "ac5c817389d6"),
    ("merge.go:capabilityInvocationSort", "4def980e52a4"),
    ("merge.go:capabilityDelegationSort", "b57d2ee295a3"),
    ("merge.go:controllerSort", "18db2dc296c6"),
    ("merge.go:serviceSort", "a0ad392477a0"),
    ("merge.go:contextSort", "a4fe7d831316"),
    ("finder.go:Find", "21d9d4d04ce6")] := rfl

/-- wiring (`cmd/root.go`): there is ONE store object (one conflicted cache), it is what the network and the VDR are
    given, it is a `core.Configurable` engine, and it is registered after the storage engine (so `Configure` — which
    opens the database and loads the conflicted cache — runs on a configured storage) and before its users -/
theorem fact_store_wiring :
    Facts.C10.didStoreConstructions.length = 1 ∧
    Facts.C10.didStoreUsers = ["network.NewNetworkInstance", "vdr.NewVDR"] ∧
    Facts.C10.storeIsConfigurable = true ∧
    Facts.C10.engineOrder.count "didStore" = 1 ∧
    Facts.C10.engineOrder.idxOf "storageInstance" < Facts.C10.engineOrder.idxOf "didStore" ∧
    Facts.C10.engineOrder.idxOf "didStore" < Facts.C10.engineOrder.idxOf "vdrInstance" ∧
    Facts.C10.engineOrder.idxOf "didStore" < Facts.C10.engineOrder.idxOf "networkInstance" ∧
    "vdrInstance" ∈ Facts.C10.engineOrder ∧ "networkInstance" ∈ Facts.C10.engineOrder := by
  refine ⟨rfl, rfl, rfl, ?_⟩
  decide +kernel

/-- `store.Add` runs TWO write transactions: the first only writes the document and the transaction index entry
    (`writeDocument`) and is COMMITTED — Add returns on its error — before the second one reads the event list, applies
    the events (`applyFrom` → `applyDocument` reads the transaction index) and writes the event list. The model's
    `addTwoTx`; a backend need not show a write transaction its own uncommitted writes (go-stoabs redis7 does not). -/
theorem fact_add_commits_index_before_event_transaction :
    Facts.C10.addWriteTransactions =
      ["writeDocument stoabs.WithWriteLock()",
       "readEventList,contains,insert,applyFrom,writeEventList stoabs.WithWriteLock()"] ∧
    Facts.C10.addBetweenTransactions =
      ["if err != nil { return fmt.Errorf(\"database error on commit: %w\", err) }"] := ⟨rfl, rfl⟩

/-- `store.Add` has no read-only transaction, and every step that looks at or changes the event list
    (`readEventList`, `contains`, `insert`, `applyFrom`, `writeEventList`) runs inside the SAME `tl.db.Write` callback,
    taken with the write lock: a read-modify-write in one transaction. This is exactly what justifies `addDid` / `add`
    being ONE atomic step of the model: overlapping Adds are serialised at that transaction, so every concurrent
    schedule is an arrival sequence and the order-independence theorems cover it. -/
theorem fact_event_list_read_modify_write_in_one_transaction :
    Facts.C10.addReadTransactions = [] ∧ Facts.C10.addEventListStepsOutsideWriteTx = [] ∧
    Facts.C10.addWriteTransactions.getLast? =
      some "readEventList,contains,insert,applyFrom,writeEventList stoabs.WithWriteLock()" := ⟨rfl, rfl, rfl⟩

theorem before_strict_total :
    (∀ a : Event, before a a = false) ∧
    (∀ a b : Event, before a b = true → before b a = false) ∧
    (∀ a b c : Event, before a b = true → before b c = true → before a c = true) ∧
    (∀ a b : Event, a.ref ≠ b.ref → before a b = true ∨ before b a = true) :=
  ⟨before_irrefl, fun _ _ => before_asymm, fun _ _ _ => before_trans, fun _ _ => before_total⟩

/-- `eventList.insert` keeps the list sorted and adds exactly the new event -/
theorem insert_sorted_perm (n : Event) (l : List Event) (hs : Sorted l) (hn : ∀ y ∈ l, y.ref ≠ n.ref) :
    Sorted (insert n l).1 ∧ (insert n l).1.Perm (n :: l) :=
  ⟨insert_sorted n l hs hn, insert_perm n l⟩

/-- `mergeDocuments` does not depend on the order in which Go iterates its maps — for ANY two iteration
    orders — given that every field is sorted afterwards (regenerated fact, discharged above). -/
theorem merge_deterministic (σ₁ σ₂ : Field → List Entry → List Entry)
    (h₁ : ∀ f l, (σ₁ f l).Perm l) (h₂ : ∀ f l, (σ₂ f l).Perm l) (a b : Doc) :
    mergeDocuments σ₁ Facts.C10.mergeSortedFields a b = mergeDocuments σ₂ Facts.C10.mergeSortedFields a b := by
  unfold mergeDocuments
  congr 1
  funext x
  have hx : Facts.C10.mergeSortedFields.contains x = true := by
    simpa using fact_all_fields_sorted x
  simp only [hx]
  exact mergeField_sorted_indep (σ₁ x) (σ₂ x) (h₁ x) (h₂ x) _ _

/-- hence the whole model does not depend on map iteration order -/
theorem cfg_independent_of_map_order (σ₁ σ₂ : Field → List Entry → List Entry)
    (h₁ : ∀ f l, (σ₁ f l).Perm l) (h₂ : ∀ f l, (σ₂ f l).Perm l) :
    cfgOf σ₁ Facts.C10.mergeSortedFields = cfgOf σ₂ Facts.C10.mergeSortedFields := by
  unfold cfgOf
  congr 1
  funext a b
  exact merge_deterministic σ₁ σ₂ h₁ h₂ a b

/-- a merged field is sorted and holds exactly the entries of the map, whatever the iteration order was -/
theorem merge_field_canonical (σ : List Entry → List Entry) (h : ∀ l, (σ l).Perm l) (a b : List Entry) :
    (mergeField σ true a b).Pairwise (leOf entryLt) ∧ (mergeField σ true a b).Perm (buildMap (a ++ b)) := by
  unfold mergeField
  simp only [if_true]
  exact ⟨sortBy_pairwise entryLt entryLt_asymm entryLt_trans _, (sortBy_perm entryLt _).trans (h _)⟩

/-- After ANY arrival sequence (any order, duplicates anywhere) the DID's event list is sorted, has no
    duplicates, contains exactly the events that arrived, and the stored metadata chain / documents /
    conflicted flag are exactly what one derives from scratch from that sorted list. -/
theorem store_is_fold (cfg : Cfg) (l : List Event) (hU : RefFun l) (s : Store)
    (h : addAll cfg {} l = .ok s) (id : String) :
    Inv cfg (s.get id) ∧ ∀ e, e ∈ (s.get id).events ↔ (e ∈ l ∧ e.doc.id = id) := by
  have hget := addAll_get cfg l {} s h id
  have hU' : ∀ x ∈ l.filter (fun e => e.doc.id = id), x ∈ l := fun x hx => (List.mem_filter.mp hx).1
  have := addDidAll_inv cfg l hU (l.filter (fun e => e.doc.id = id)) (({} : Store).get id) (s.get id)
    (inv_empty cfg) (by intro x hx; cases hx) hU' hget
  refine ⟨this.1, fun e => ?_⟩
  rw [this.2 e]
  constructor
  · rintro (h | h)
    · cases h
    · have := List.mem_filter.mp h; exact ⟨this.1, by simpa using this.2⟩
  · rintro ⟨h1, h2⟩
    exact Or.inr (List.mem_filter.mpr ⟨h1, by simpa using h2⟩)

/-- **Order independence.** For every finite set of events, every two arrival sequences over it (any
    permutation, duplicates anywhere), on independent stores, and whatever iteration order Go picks for its
    maps on each store: every DID has the identical event list, metadata chain, documents and conflicted
    flag — hence `Resolve` gives identical answers for every DID and every resolve metadata
    (latest, by time, by hash, by source transaction, allow-deactivated). -/
theorem resolve_order_independent (σ₁ σ₂ : Field → List Entry → List Entry)
    (h₁ : ∀ f l, (σ₁ f l).Perm l) (h₂ : ∀ f l, (σ₂ f l).Perm l)
    (l₁ l₂ : List Event) (hU : RefFun l₁) (hsame : ∀ e, e ∈ l₁ ↔ e ∈ l₂) (s₁ s₂ : Store)
    (r₁ : addAll (cfgOf σ₁ Facts.C10.mergeSortedFields) {} l₁ = .ok s₁)
    (r₂ : addAll (cfgOf σ₂ Facts.C10.mergeSortedFields) {} l₂ = .ok s₂) :
    ∀ id, s₁.get id = s₂.get id ∧ ∀ rm, resolve s₁ id rm = resolve s₂ id rm := by
  intro id
  rw [cfg_independent_of_map_order σ₂ σ₁ h₂ h₁] at r₂
  have hU₂ : RefFun l₂ := fun a ha b hb => hU a ((hsame a).mpr ha) b ((hsame b).mpr hb)
  obtain ⟨i₁, m₁⟩ := store_is_fold _ l₁ hU s₁ r₁ id
  obtain ⟨i₂, m₂⟩ := store_is_fold _ l₂ hU₂ s₂ r₂ id
  have heq : s₁.get id = s₂.get id := by
    apply didstate_determined _ _ _ i₁ i₂
    intro x; rw [m₁ x, m₂ x, hsame x]
  exact ⟨heq, fun rm => by unfold resolve; rw [heq]⟩

/-- **Counters.** After ANY arrival sequence `DocumentCount` is the number of entries of the per-DID list `s.dids`,
    whose keys are exactly the DIDs with at least one event, and `ConflictedCount` the number of those entries whose
    conflicted flag is set (the flag of the latest version, by `store_is_fold`). That no DID is listed twice is
    `StoreInv.nodup`; this statement does not repeat it. -/
theorem stats_are_what_the_states_imply (cfg : Cfg) (l : List Event) (s : Store) (h : addAll cfg {} l = .ok s) :
    s.documentCount = s.dids.length ∧
    s.conflictedCount = (s.dids.filter (fun p => p.2.conflicted)).length ∧
    (∀ k, k ∈ keys s ↔ (s.get k).events ≠ []) := by
  have hs := addAll_storeInv cfg l {} s (storeInv_empty cfg) h
  exact ⟨hs.docs, hs.confl, mem_keys_iff cfg s hs⟩

/-- hence both counters are independent of the arrival order (and of Go's map iteration order) -/
theorem stats_order_independent (σ₁ σ₂ : Field → List Entry → List Entry)
    (h₁ : ∀ f l, (σ₁ f l).Perm l) (h₂ : ∀ f l, (σ₂ f l).Perm l)
    (l₁ l₂ : List Event) (hU : RefFun l₁) (hsame : ∀ e, e ∈ l₁ ↔ e ∈ l₂) (s₁ s₂ : Store)
    (r₁ : addAll (cfgOf σ₁ Facts.C10.mergeSortedFields) {} l₁ = .ok s₁)
    (r₂ : addAll (cfgOf σ₂ Facts.C10.mergeSortedFields) {} l₂ = .ok s₂) :
    s₁.documentCount = s₂.documentCount ∧ s₁.conflictedCount = s₂.conflictedCount := by
  have i₁ := addAll_storeInv _ l₁ {} s₁ (storeInv_empty _) r₁
  have i₂ := addAll_storeInv _ l₂ {} s₂ (storeInv_empty _) r₂
  exact counts_determined _ _ s₁ s₂ i₁ i₂
    (fun k => (resolve_order_independent σ₁ σ₂ h₁ h₂ l₁ l₂ hU hsame s₁ s₂ r₁ r₂ k).1)

/-- once a version of the derived chain is deactivated every later version is -/
theorem deactivated_monotone (cfg : Cfg) (evs : List Event) :
    ∀ (es : List Event) (c : Meta) (chain : List (Doc × Meta)), c.deactivated = true →
      applyAll cfg evs (some c) es = .ok chain → ∀ p ∈ chain, p.2.deactivated = true :=
  fun _ _ _ hc h => applyAll_deact hc h

/-- a deactivated latest version is never resolved as active: `Resolve(id, nil)` answers `deactivated` -/
theorem deactivated_latest_not_resolved (d : Doc) (m : Meta) (older : List (Doc × Meta))
    (hm : m.deactivated = true) : resolveChain none ((d, m) :: older) = .err "deactivated" :=
  resolveChain_head_deactivated hm rfl

/-- an update whose prevs cover all current source transactions yields a non-conflicted version that is
    exactly its own document, hash and source transaction -/
theorem conflict_resolved_by_covering_update (cfg : Cfg) (evs : List Event) (c : Meta) (e : Event)
    (hcover : ∀ st ∈ c.sourceTx, st ∈ e.prevs) :
    ∃ m, applyEvent cfg evs (some c) e = .ok (e.doc, m) ∧ m.isConflicted = false ∧
      m.sourceTx = [e.ref] ∧ m.hash = e.payloadHash ∧ m.version = c.version + 1 := by
  obtain ⟨m, hm, hs, hh, hv⟩ := applyEvent_of_covered (cfg := cfg) (evs := evs) (cur := some c) (e := e)
    fun _ h => Option.some.inj h ▸ hcover
  exact ⟨m, hm, by simp [Meta.isConflicted, hs], hs, hh, hv⟩

/-- everything `addAll` reaches from the empty store satisfies the observation invariant
    (event IDs, cache = flags, counters) -/
theorem reachable_obsInv (cfg : Cfg) (hk : MergeKeepsId cfg) (l : List Event) (s : Store)
    (h : addAll cfg {} l = .ok s) : ObsInv cfg s :=
  addAll_obsInv cfg hk l {} s (obsInv_empty cfg) h

/-- **Order independence of every other read path.** For two arrival sequences over the same event set (as in
    `resolve_order_independent`): the entry `Conflicted()` hands out for each DID, the whole `Iterate()` sequence,
    the `Finder` result and `HistorySinceVersion` for every version are identical. -/
theorem observations_order_independent (σ₁ σ₂ : Field → List Entry → List Entry)
    (h₁ : ∀ f l, (σ₁ f l).Perm l) (h₂ : ∀ f l, (σ₂ f l).Perm l)
    (l₁ l₂ : List Event) (hU : RefFun l₁) (hsame : ∀ e, e ∈ l₁ ↔ e ∈ l₂) (s₁ s₂ : Store)
    (r₁ : addAll (cfgOf σ₁ Facts.C10.mergeSortedFields) {} l₁ = .ok s₁)
    (r₂ : addAll (cfgOf σ₂ Facts.C10.mergeSortedFields) {} l₂ = .ok s₂) :
    (∀ id, conflictedOf s₁ id = conflictedOf s₂ id) ∧ iterate s₁ = iterate s₂ ∧ findActive s₁ = findActive s₂ ∧
    (∀ id v, historySince (s₁.get id) v = historySince (s₂.get id) v) := by
  have hget := fun k => (resolve_order_independent σ₁ σ₂ h₁ h₂ l₁ l₂ hU hsame s₁ s₂ r₁ r₂ k).1
  have i₁ := reachable_obsInv _ (cfgOf_keeps_id σ₁ _) l₁ s₁ r₁
  have i₂ := reachable_obsInv _ (cfgOf_keeps_id σ₂ _) l₂ s₂ r₂
  have hit := iterate_determined _ _ s₁ s₂ i₁.store i₂.store hget
  refine ⟨?_, hit, ?_, ?_⟩
  · intro id
    unfold conflictedOf
    rw [i₁.cache.look id, i₂.cache.look id, hget id]
  · unfold findActive; rw [hit]
  · intro id v; rw [hget id]

/-- **Restart.** Re-opening the store (`loadConflictedDocuments` on a new store object) rebuilds exactly the cache
    the running store had: same entry for every DID, same entries overall, nothing else changes. -/
theorem restart_changes_nothing (cfg : Cfg) (hk : MergeKeepsId cfg) (l : List Event) (s : Store)
    (h : addAll cfg {} l = .ok s) :
    (reload s).dids = s.dids ∧ (reload s).conflictedCount = s.conflictedCount ∧
    (reload s).documentCount = s.documentCount ∧
    (∀ id, conflictedOf (reload s) id = conflictedOf s id) ∧ (∀ p, p ∈ (reload s).cache ↔ p ∈ s.cache) := by
  have hs := reachable_obsInv cfg hk l s h
  refine ⟨rfl, rfl, rfl, ?_, ?_⟩
  · intro id; unfold conflictedOf; rw [reload_look cfg hk s hs id]
  · exact mem_of_alGet_iff _ _ (reload_nodup s) hs.cache.nodup (reload_look cfg hk s hs)

/-- **Iterators and counters tell one story.** After any arrival sequence `Conflicted()` calls back exactly
    `ConflictedCount()` times and `Iterate()` exactly `DocumentCount()` times; a DID has a `Conflicted()` entry iff
    its durable flag is set, and that entry is its latest version (what `Resolve` with `AllowDeactivated` answers),
    which has more than one source transaction. -/
theorem iterators_agree_with_counters (cfg : Cfg) (hk : MergeKeepsId cfg) (l : List Event) (s : Store)
    (h : addAll cfg {} l = .ok s) :
    s.cache.length = s.conflictedCount ∧ (iterate s).length = s.documentCount ∧
    ∀ id, ((conflictedOf s id).isSome = (s.get id).conflicted) ∧
      ∀ d vm, conflictedOf s id = some (d, vm) →
        ∃ m, resolve s id (some { allowDeactivated := true }) = .ok (d, m) ∧ m.asVDR = vm ∧ vm.sourceTx.length > 1 := by
  have hs := reachable_obsInv cfg hk l s h
  refine ⟨cache_length cfg s hs, iterate_length cfg s hs.store, fun id => ?_⟩
  have hlook := hs.cache.look id
  have hinv := get_inv cfg s hs.store id
  unfold conflictedOf
  by_cases hc : (s.get id).conflicted = true
  · simp only [hc, if_true] at hlook
    obtain ⟨p, hp, hpc⟩ := inv_conflicted hinv hc
    rw [hlook, hp, hc]
    refine ⟨rfl, ?_⟩
    intro d vm hdv
    simp only [Option.map_some, Option.some.injEq, Prod.mk.injEq] at hdv
    refine ⟨p.2, ?_, hdv.2, ?_⟩
    · rw [← hdv.1]; exact resolve_latest s id p hp
    · rw [← hdv.2]
      simpa [Meta.isConflicted, Meta.asVDR] using hpc
  · have hc' : (s.get id).conflicted = false := by simpa using hc
    simp only [hc', Bool.false_eq_true, if_false] at hlook
    rw [hlook, hc']
    refine ⟨rfl, ?_⟩
    intro d vm hdv
    simp at hdv

/-- **Resolve answers satisfy their filters** — for every metadata combination (hash, time, source transaction,
    allow-deactivated, any subset): the answer is a stored version, it passes every filter that was given, and it is
    the latest version that does. -/
theorem resolve_answers_satisfy_filters (s : Store) (id : String) (r : ResolveMeta) (d : Doc) (m : Meta)
    (h : resolve s id (some r) = .ok (d, m)) :
    (∃ newer older, (s.get id).chain.reverse = newer ++ (d, m) :: older ∧
      ∀ q ∈ newer, matchesMeta q.2 (some r) = false) ∧
    (m.deactivated = true → r.allowDeactivated = true) ∧
    (∀ x, r.hash = some x → m.hash = x) ∧
    (∀ t, r.time = some t → m.updated ≤ t ∧ m.created ≤ t) ∧
    (∀ tx, r.sourceTx = some tx → tx ∈ m.sourceTx) := by
  unfold resolve at h
  obtain ⟨newer, older, hc, hm, hall⟩ := resolveChain_sound (some r) _ (d, m) h
  exact ⟨⟨newer, older, hc, hall⟩, matchesMeta_some m r hm⟩

/-- … and `Resolve` is complete: it answers not-found only when NO stored version passes the filters, and its only
    other error on stored data is `deactivated` -/
theorem resolve_not_found_means_no_version_matches (s : Store) (id : String) (rm : Option ResolveMeta) :
    (resolve s id rm = .err "not-found" → ∀ q ∈ (s.get id).chain, matchesMeta q.2 rm = false) ∧
    (∀ x, resolve s id rm = .err x → x = "not-found" ∨ x = "deactivated") := by
  unfold resolve
  exact ⟨fun h q hq => resolveChain_not_found rm _ h q (List.mem_reverse.mpr hq), resolveChain_errors rm _⟩

/-- **Deactivation is permanent, end to end.** If the arrived set holds a deactivation of a DID then — for every
    arrival order — `Resolve(id, nil)` and `Resolve(id, {})` answer `deactivated`, and no query without
    `AllowDeactivated` is ever answered with a deactivated version. -/
theorem deactivation_is_permanent (cfg : Cfg) (l : List Event) (hU : RefFun l) (s : Store)
    (h : addAll cfg {} l = .ok s) (e : Event) (he : e ∈ l) (hd : isDeactivated e.doc = true) :
    resolve s e.doc.id none = .err "deactivated" ∧ resolve s e.doc.id (some {}) = .err "deactivated" ∧
    ∀ r d m, resolve s e.doc.id (some r) = .ok (d, m) → r.allowDeactivated = false → m.deactivated = false := by
  obtain ⟨hinv, hmem⟩ := store_is_fold cfg l hU s h e.doc.id
  have hin : e ∈ (s.get e.doc.id).events := (hmem e).mpr ⟨he, rfl⟩
  obtain ⟨h1, h2⟩ := inv_deactivated_resolve cfg (s.get e.doc.id) hinv e hin hd
  refine ⟨h1, h2, ?_⟩
  intro r d m hr hna
  have := (resolve_answers_satisfy_filters s e.doc.id r d m hr).2.1
  cases hmd : m.deactivated with
  | false => rfl
  | true => rw [this hmd] at hna; cases hna

/-- **A covering update resolves the conflict, end to end.** If one event of a DID is after all its other events
    and names all of them as previous transactions then — for every arrival order, duplicates included — the DID is
    not conflicted, has no `Conflicted()` entry, and its latest version is exactly that event's document, hash and
    source transaction. -/
theorem covering_update_resolves_any_order (cfg : Cfg) (hk : MergeKeepsId cfg) (l : List Event) (hU : RefFun l)
    (s : Store) (h : addAll cfg {} l = .ok s) (top : Event) (htop : top ∈ l)
    (hcov : ∀ e ∈ l, e.doc.id = top.doc.id → e ≠ top → before e top = true ∧ e.ref ∈ top.prevs) :
    (s.get top.doc.id).conflicted = false ∧ conflictedOf s top.doc.id = none ∧
    ∃ m, resolve s top.doc.id (some { allowDeactivated := true }) = .ok (top.doc, m) ∧
      m.sourceTx = [top.ref] ∧ m.hash = top.payloadHash := by
  obtain ⟨hinv, hmem⟩ := store_is_fold cfg l hU s h top.doc.id
  have hin : top ∈ (s.get top.doc.id).events := (hmem top).mpr ⟨htop, rfl⟩
  obtain ⟨m, hl, hs, hh, hc⟩ := inv_covering_last cfg (s.get top.doc.id) hinv top hin
    (fun e he hne => hcov e ((hmem e).mp he).1 ((hmem e).mp he).2 hne)
  have hobs := reachable_obsInv cfg hk l s h
  refine ⟨hc, ?_, m, resolve_latest s _ _ hl, hs, hh⟩
  unfold conflictedOf
  rw [hobs.cache.look, hc]
  rfl

/-- **History.** After any arrival sequence `HistorySinceVersion(id, 0)` lists exactly the arrived transactions of
    the DID, each once, in `before` order, numbered from 0, all with the first one's signing time as `Created`. -/
theorem history_is_the_sorted_event_list (cfg : Cfg) (l : List Event) (hU : RefFun l) (s : Store)
    (h : addAll cfg {} l = .ok s) (id : String) (hist : List HistDoc)
    (hh : historySince (s.get id) 0 = .ok hist) :
    Sorted (s.get id).events ∧ (∀ e, e ∈ (s.get id).events ↔ (e ∈ l ∧ e.doc.id = id)) ∧
    hist.map (·.raw) = (s.get id).events.map (·.payloadHash) ∧
    hist.map (·.version) = List.range' 0 (s.get id).events.length ∧
    ∀ x ∈ hist, some x.created = (s.get id).events.head?.map (·.sigTime) := by
  obtain ⟨hinv, hmem⟩ := store_is_fold cfg l hU s h id
  unfold historySince at hh
  cases hev : (s.get id).events with
  | nil => rw [hev] at hh; cases hh
  | cons e0 es =>
    rw [hev] at hh
    simp only [Nat.not_lt_zero, if_false, List.drop_zero, Res.ok.injEq] at hh
    obtain ⟨h1, h2, h3⟩ := histFrom_raw e0.sigTime (e0 :: es) 0
    have hsort := hinv.sorted
    rw [hev] at hsort hmem
    refine ⟨hsort, hmem, by rw [← hh]; exact h1, by rw [← hh]; exact h2, ?_⟩
    intro x hx
    rw [← hh] at hx
    simp [h3 x hx]

/-- **The shelves refine the chain.** For every arrival sequence of a DID's events (any order, duplicates anywhere) the
    literal second write transaction of `store.Add` — base metadata read through the base event's `MetaRef`, records
    Put under DID+`Version`, `latest` = last `Version`, all `MetaRef`s renumbered by `writeEventList` — succeeds whenever
    the chain model does and leaves: event `i` of the stored list pointing at record `i`, record `i` = version `i` of
    the chain, `latest` = the last version; and `store.Resolve`'s walk (start at `latest`, go on with `Version - 1`)
    answers exactly what the chain model answers, for every resolve metadata. -/
theorem shelves_refine_chain (cfg : Cfg) (l : List Event) (a : DidState) (h : addDidAll cfg {} l = .ok a) :
    ∃ st, sAddAll cfg {} l = .ok st ∧ SInv st a ∧ ∀ rm, sResolve st rm = resolveChain rm a.chain.reverse := by
  obtain ⟨st, h1, h2, h3⟩ := sAddAll_refines cfg l {} {} a (inv_empty cfg) sInv_empty h
  exact ⟨st, h1, h2, fun rm => sResolve_refines cfg st a h3 h2 rm⟩

/-- store-level form: what `Resolve` reads from the shelves of DID `id` after any arrival sequence on the store -/
theorem shelf_resolve_eq_resolve (cfg : Cfg) (l : List Event) (s : Store) (h : addAll cfg {} l = .ok s) (id : String) :
    ∃ st, sAddAll cfg {} (l.filter (fun e => e.doc.id = id)) = .ok st ∧ SInv st (s.get id) ∧
      ∀ rm, sResolve st rm = resolve s id rm := by
  have hget := addAll_get cfg l {} s h id
  rw [get_empty] at hget
  obtain ⟨st, h1, h2, h3⟩ := shelves_refine_chain cfg _ (s.get id) hget
  exact ⟨st, h1, h2, fun rm => by rw [h3 rm]; rfl⟩

/-- hence order independence holds for the literal shelf-level reads as well -/
theorem shelf_level_order_independent (σ₁ σ₂ : Field → List Entry → List Entry)
    (h₁ : ∀ f l, (σ₁ f l).Perm l) (h₂ : ∀ f l, (σ₂ f l).Perm l)
    (l₁ l₂ : List Event) (hU : RefFun l₁) (hsame : ∀ e, e ∈ l₁ ↔ e ∈ l₂) (s₁ s₂ : Store)
    (r₁ : addAll (cfgOf σ₁ Facts.C10.mergeSortedFields) {} l₁ = .ok s₁)
    (r₂ : addAll (cfgOf σ₂ Facts.C10.mergeSortedFields) {} l₂ = .ok s₂) (id : String) :
    ∃ st₁ st₂, sAddAll (cfgOf σ₁ Facts.C10.mergeSortedFields) {} (l₁.filter (fun e => e.doc.id = id)) = .ok st₁ ∧
      sAddAll (cfgOf σ₂ Facts.C10.mergeSortedFields) {} (l₂.filter (fun e => e.doc.id = id)) = .ok st₂ ∧
      (∀ rm, sResolve st₁ rm = sResolve st₂ rm) ∧ st₁.events = st₂.events ∧ st₁.latest = st₂.latest := by
  obtain ⟨st₁, a1, b1, c1⟩ := shelf_resolve_eq_resolve _ l₁ s₁ r₁ id
  obtain ⟨st₂, a2, b2, c2⟩ := shelf_resolve_eq_resolve _ l₂ s₂ r₂ id
  obtain ⟨hget, hres⟩ := resolve_order_independent σ₁ σ₂ h₁ h₂ l₁ l₂ hU hsame s₁ s₂ r₁ r₂ id
  refine ⟨st₁, st₂, a1, a2, fun rm => by rw [c1 rm, c2 rm, hres rm], ?_, ?_⟩
  · rw [b1.events, b2.events, hget]
  · rw [b1.latest, b2.latest, hget]

/-! ### non-vacuity: a concrete 2-way fork, two arrival orders, hypotheses met, conflict visible -/

private def docOf (svc : String) : Doc :=
  { id := "did:nuts:x", f := fun x => match x with
      | .controller => [⟨"did:nuts:x", "c"⟩] | .service => [⟨svc, "b"⟩] | _ => [] }
private def evCreate : Event := ⟨0, 10, 100, [], "p0", docOf "s0"⟩
private def evA : Event := ⟨1, 20, 200, [100], "pA", docOf "sA"⟩
private def evB : Event := ⟨1, 20, 150, [100], "pB", docOf "sB"⟩
private def cfg0 : Cfg := cfgOf (fun _ l => l) Facts.C10.mergeSortedFields

example : RefFun [evCreate, evA, evB] :=
  fun _ ha _ hb h => pairwise_ne_inj (f := Event.ref) (by decide) ha hb h

example : (match addAll cfg0 {} [evCreate, evA, evB], addAll cfg0 {} [evB, evA, evCreate, evA] with
    | .ok s₁, .ok s₂ =>
      (s₁.get "did:nuts:x").events.map (·.ref) == [100, 150, 200] &&
      (s₂.get "did:nuts:x").events.map (·.ref) == [100, 150, 200] &&
      (s₁.get "did:nuts:x").conflicted && (s₂.get "did:nuts:x").conflicted &&
      s₁.conflictedCount == 1 && s₂.conflictedCount == 1 && s₁.documentCount == 1 && s₂.documentCount == 1
    | _, _ => false) = true := by decide

/-- **The two-transaction Add works on a backend whose in-transaction reads see committed data only.** For every
    arrival sequence on the store and every DID: running the DID's arrivals through `addTwoTx` (transaction 1 commits the
    index entry, transaction 2 looks up only COMMITTED index entries) never fails where the chain model succeeds and
    ends in exactly the chain model's state — so everything proved above (order independence of Resolve, counters,
    iterators, history, …) holds on such a backend (go-stoabs redis7) without assuming that a write transaction reads
    its own writes. -/
theorem two_tx_add_needs_no_read_your_writes (cfg : Cfg) (l : List Event) (s : Store) (h : addAll cfg {} l = .ok s)
    (id : String) :
    ∃ c, twoTxAll cfg {} (l.filter (fun e => e.doc.id = id)) = .ok c ∧ c.st = s.get id ∧ CInv c := by
  have hget := addAll_get cfg l {} s h id
  rw [get_empty] at hget
  exact twoTxAll_refines cfg _ {} (s.get id) cInv_empty hget

/-- hence order independence on that backend, stated directly -/
theorem two_tx_add_order_independent_on_committed_reads (σ₁ σ₂ : Field → List Entry → List Entry)
    (h₁ : ∀ f l, (σ₁ f l).Perm l) (h₂ : ∀ f l, (σ₂ f l).Perm l)
    (l₁ l₂ : List Event) (hU : RefFun l₁) (hsame : ∀ e, e ∈ l₁ ↔ e ∈ l₂) (s₁ s₂ : Store)
    (r₁ : addAll (cfgOf σ₁ Facts.C10.mergeSortedFields) {} l₁ = .ok s₁)
    (r₂ : addAll (cfgOf σ₂ Facts.C10.mergeSortedFields) {} l₂ = .ok s₂) (id : String) :
    ∃ c₁ c₂, twoTxAll (cfgOf σ₁ Facts.C10.mergeSortedFields) {} (l₁.filter (fun e => e.doc.id = id)) = .ok c₁ ∧
      twoTxAll (cfgOf σ₂ Facts.C10.mergeSortedFields) {} (l₂.filter (fun e => e.doc.id = id)) = .ok c₂ ∧
      c₁.st = c₂.st := by
  obtain ⟨c₁, a1, b1, _⟩ := two_tx_add_needs_no_read_your_writes _ l₁ s₁ r₁ id
  obtain ⟨c₂, a2, b2, _⟩ := two_tx_add_needs_no_read_your_writes _ l₂ s₂ r₂ id
  exact ⟨c₁, c₂, a1, a2, by rw [b1, b2, (resolve_order_independent σ₁ σ₂ h₁ h₂ l₁ l₂ hU hsame s₁ s₂ r₁ r₂ id).1]⟩

/-- **… and the ONE-transaction Add does not.** Folding `writeDocument` into the event transaction makes the store
    arrival-order dependent on such a backend. Witness: a 2-way fork {create, A, B} where B sorts before A. Arrival
    create, B, A: every Add succeeds, three events, conflicted. Arrival create, A, B: B arrives late, is inserted before A,
    A is re-applied and does not consume B, `applyDocument` looks B's own index entry up — written in this very
    transaction, not committed — and Add(B) fails (and would fail on every re-delivery): two events, no conflict.
    The two-transaction Add gives the same three-event, conflicted state for both orders. -/
theorem one_tx_add_order_dependent_witness :
    (addSeq (addOneTx cfg0) {} [evCreate, evB, evA]).2 = 0 ∧
    (addSeq (addOneTx cfg0) {} [evCreate, evB, evA]).1.st.events.map (·.ref) = [100, 150, 200] ∧
    (addSeq (addOneTx cfg0) {} [evCreate, evB, evA]).1.st.conflicted = true ∧
    addOneTx cfg0 (addSeq (addOneTx cfg0) {} [evCreate, evA]).1 evB = .err "txref-not-found" ∧
    (addSeq (addOneTx cfg0) {} [evCreate, evA, evB, evB]).2 = 2 ∧
    (addSeq (addOneTx cfg0) {} [evCreate, evA, evB, evB]).1.st.events.map (·.ref) = [100, 200] ∧
    (addSeq (addOneTx cfg0) {} [evCreate, evA, evB, evB]).1.st.conflicted = false ∧
    (addSeq (addTwoTx cfg0) {} [evCreate, evA, evB]).2 = 0 ∧
    (addSeq (addTwoTx cfg0) {} [evCreate, evA, evB]).1.st.events.map (·.ref) = [100, 150, 200] ∧
    (addSeq (addTwoTx cfg0) {} [evCreate, evA, evB]).1.st.conflicted = true := by
  and_intros <;> rfl

/-- **Atomic Adds: every schedule is an arrival order.** `add` is one step because the event list is read, changed
    and written in one serialised write transaction (`fact_event_list_read_modify_write_in_one_transaction`). Two stores
    fed the same set by ANY two schedules of overlapping Adds therefore fall under `resolve_order_independent`; spelled
    out for a pair: adding `a` then `b`, or `b` then `a`, on any reachable state gives the same DID states. -/
theorem overlapping_atomic_adds_commute (σ : Field → List Entry → List Entry) (hσ : ∀ f l, (σ f l).Perm l)
    (l : List Event) (a b : Event) (hU : RefFun (l ++ [a, b])) (s₁ s₂ : Store)
    (r₁ : addAll (cfgOf σ Facts.C10.mergeSortedFields) {} (l ++ [a, b]) = .ok s₁)
    (r₂ : addAll (cfgOf σ Facts.C10.mergeSortedFields) {} (l ++ [b, a]) = .ok s₂) :
    ∀ id, s₁.get id = s₂.get id ∧ ∀ rm, resolve s₁ id rm = resolve s₂ id rm := by
  apply resolve_order_independent σ σ hσ hσ (l ++ [a, b]) (l ++ [b, a]) hU _ s₁ s₂ r₁ r₂
  intro e
  simp only [List.mem_append, List.mem_cons, List.mem_nil_iff, or_false]
  constructor <;> (rintro (h | h | h) <;> simp [h])

/-- **Check-then-act Adds lose an accepted transaction.** If the event list is captured before the write transaction,
    two overlapping Adds of the fork branches A and B both start from {create}; B's write overwrites A's: the history has
    two events instead of three, A is gone, and no conflict is recorded — while either sequential order gives the
    three-event conflicted state. -/
theorem stale_read_add_loses_update_witness :
    (match addDidAll cfg0 {} [evCreate] with
      | .ok st =>
        (match addStalePair cfg0 st evA evB with
          | .ok s => s.events.map (·.ref) == [100, 150] && !s.conflicted
          | _ => false) &&
        (match addDidAll cfg0 st [evA, evB], addDidAll cfg0 st [evB, evA] with
          | .ok s₁, .ok s₂ => s₁.events.map (·.ref) == [100, 150, 200] && s₁.conflicted &&
              s₂.events.map (·.ref) == [100, 150, 200] && s₂.conflicted
          | _, _ => false)
      | _ => false) = true := by decide

/-! ### the by-time form of the deactivation clause is FALSE of the code (open finding) -/

private def evDeact : Event := ⟨1, 20, 500, [100], "pX", { id := "did:nuts:x", f := fun _ => [] }⟩

/-- full-strength by-time form of "a deactivated DID never resolves as active again": once the arrived set holds a
    deactivation of a DID, a `Resolve` by a time at or after every signing time, without `AllowDeactivated`, is never
    answered with a version. -/
def DeactivatedNeverActiveByTimeStmt : Prop :=
  ∀ (cfg : Cfg) (l : List Event) (s : Store) (e : Event) (t : Nat) (r : ResolveMeta) (d : Doc) (m : Meta),
    addAll cfg {} l = .ok s → e ∈ l → isDeactivated e.doc = true → (∀ x ∈ l, x.sigTime ≤ t) →
    r.time = some t → r.allowDeactivated = false → resolve s e.doc.id (some r) ≠ .ok (d, m)

/-- … and it does NOT hold: `Resolve` skips deactivated versions when a resolve time is given
    (`latestNonDeactivatedRequested` = false, `matches` refuses the deactivated version) and goes on to the last ACTIVE
    version. Witness: create at 10, deactivation at 20, `Resolve(ResolveTime = 40)` answers the created document with
    `deactivated = false`. Replayed on the real store: harness/corpus/C10/deactivated-did-resolves-as-active-by-time.jsonl -/
theorem deactivated_resolves_active_by_time_witness : ¬ DeactivatedNeverActiveByTimeStmt := by
  intro h
  refine h cfg0 [evCreate, evDeact] _ evDeact 40 { time := some 40 } _ _ rfl (by simp) (by decide) ?_ rfl rfl rfl
  intro x hx
  simp only [List.mem_cons, List.mem_nil_iff, or_false] at hx
  rcases hx with rfl | rfl <;> decide

/-! non-vacuity: the hypotheses of the theorems on the other observation sites are met by the same concrete stores: the fork
    is cached and counted, survives a restart, `Iterate` lists the DID once, the history is the sorted event list, a
    covering update clears the conflict (in a late arrival order too) and a deactivation answers `deactivated` -/
private def evR : Event := ⟨2, 30, 300, [150, 200, 100], "pR", docOf "sR"⟩
private def evD : Event := ⟨3, 40, 400, [300], "pD", { id := "did:nuts:x", f := fun _ => [] }⟩

example : MergeKeepsId cfg0 := cfgOf_keeps_id _ _

example : (match addAll cfg0 {} [evB, evA, evCreate] with
    | .ok s =>
      s.cache.length == 1 && (reload s).cache.length == 1 && (iterate s).length == 1 &&
      (conflictedOf s "did:nuts:x").isSome && (conflictedOf (reload s) "did:nuts:x").isSome &&
      (match historySince (s.get "did:nuts:x") 0 with
        | .ok h => h.map (·.raw) == ["p0", "pB", "pA"] && h.map (·.version) == [0, 1, 2] && h.map (·.created) == [10, 10, 10]
        | _ => false)
    | _ => false) = true := by decide

example : (match addAll cfg0 {} [evR, evB, evA, evCreate] with
    | .ok s =>
      !(s.get "did:nuts:x").conflicted && s.cache.length == 0 && s.conflictedCount == 0 &&
      (match resolve s "did:nuts:x" (some { allowDeactivated := true }) with
        | .ok (_, m) => m.sourceTx == [300] && m.hash == "pR"
        | _ => false)
    | _ => false) = true := by decide

example : (match addAll cfg0 {} [evD, evR, evB, evA, evCreate] with
    | .ok s =>
      (match resolve s "did:nuts:x" none with | .err e => e == "deactivated" | _ => false) &&
      (match resolve s "did:nuts:x" (some {}) with | .err e => e == "deactivated" | _ => false) &&
      (match resolve s "did:nuts:x" (some { time := some 35 }) with | .ok (_, m) => !m.deactivated | _ => false) &&
      (match resolve s "did:nuts:x" (some { hash := some "pB", time := some 15, allowDeactivated := true }) with
        | .err e => e == "not-found" | _ => false)
    | _ => false) = true := by decide +kernel

example : (match sAddAll cfg0 {} [evB, evA, evCreate, evA] with
    | .ok st => st.events.map (·.metaRef) == [some 0, some 1, some 2] && st.events.map (·.ev.ref) == [100, 150, 200] &&
        st.latest == some 2 && st.conflicted && st.metas.length == 3 &&
        (match sResolve st (some { time := some 15 }) with | .ok (_, m) => m.version == 0 | _ => false)
    | _ => false) = true := by decide

/-- interpreter of the regenerated decision table of `latestNonDeactivatedRequested`: the steps are tried in source order;
    "nil" tests the pointer, any other key tests whether that field of the resolve metadata is set; `none` = the table
    would dereference a nil pointer or names a field the model does not know -/
def lndField (r : ResolveMeta) : String → Option Bool
  | "ResolveTime" => some r.time.isSome
  | "Hash" => some r.hash.isSome
  | "SourceTransaction" => some r.sourceTx.isSome
  | _ => none

def lndTable (final : ResolveMeta → Bool) : List (String × Bool) → Option ResolveMeta → Option Bool
  | [], none => none
  | [], some r => some (final r)
  | (k, v) :: rest, rm =>
    if k = "nil" then (match rm with | none => some v | some _ => lndTable final rest rm)
    else match rm with
      | none => none
      | some r =>
        match lndField r k with
        | none => none
        | some true => some v
        | some false => lndTable final rest rm

/-- **the hand-written `latestNonDeactivatedRequested` IS the regenerated decision table** (check order, tested fields,
    answers and the final `!AllowDeactivated`), for every resolve metadata -/
theorem fact_latest_non_deactivated_table :
    Facts.C10.lndFinal = "!resolveMetadata.AllowDeactivated" ∧
    ∀ rm, lndTable (fun r => !r.allowDeactivated) Facts.C10.lndSteps rm = some (latestNonDeactivatedRequested rm) := by
  refine ⟨rfl, ?_⟩
  intro rm
  cases rm with
  | none => rfl
  | some r =>
    obtain ⟨ad, h, t, s⟩ := r
    cases h <;> cases t <;> cases s <;> rfl

/-- the statements of `matches` in source order (deactivated, nil, hash, time: Updated then Created, source transaction) -/
theorem fact_matches_steps : Facts.C10.matchesSteps =
    ["metadata.Deactivated && (resolveMetadata == nil || !resolveMetadata.AllowDeactivated) => { return false }",
     "resolveMetadata == nil => { return true }",
     "resolveMetadata.Hash != nil && !metadata.Hash.Equals(*resolveMetadata.Hash) => { return false }",
     "resolveMetadata.ResolveTime != nil => { resolveTime := *resolveMetadata.ResolveTime if metadata.Updated.After(resolveTime) { return false } if metadata.Created.After(resolveTime) { return false } }",
     "resolveMetadata.SourceTransaction != nil => { for _, keyTx := range metadata.SourceTransactions { if keyTx.Equals(*resolveMetadata.SourceTransaction) { return true } } return false }",
     "return true"] := by rfl

/-- every shelf Put of the write path: `writeDocument` = txRefV2[ref] ← payload hash, documentsV2[payload hash] ← bytes;
    `applyEvent` = metadataV2[DID+version] and, ONLY when the version is conflicted, documentsV2[metadata.Hash] ← merged bytes;
    latestV2 / eventsV2 / conflictedV2 / the two statsV2 counters (DocShelves.lean `writeDocument`, `writeMergedStep`, `statsStep`) -/
theorem fact_shelf_puts : Facts.C10.shelfPuts =
    ["writeDocument: transactionIndexShelf[stoabs.HashKey(transaction.Ref)] = transaction.PayloadHash.Slice()",
     "writeDocument: documentShelf[stoabs.HashKey(transaction.PayloadHash)] = documentBytes",
     "applyEvent: metadataShelf[stoabs.BytesKey(fmt.Sprintf(\"%s%d\", nextDocument.ID.String(), nextMetadata.Version))] = metadataBytes",
     "applyEvent: if nextMetadata.isConflicted(): documentShelf[stoabs.HashKey(nextMetadata.Hash)] = docBytes",
     "writeLatest: latestShelf[stoabs.BytesKey(id.String())] = []byte(mdID)",
     "writeEventList: eventShelf[stoabs.BytesKey(id.String())] = nelBytes",
     "applyFrom: if metadata.isConflicted(): conflictedShelf[stoabs.BytesKey(document.ID.String())] = []byte{0}",
     "applyFrom: statsShelf[stoabs.BytesKey(conflictedCountKey)] = cBytes",
     "incrementDocumentCount: statsShelf[stoabs.BytesKey(documentCountKey)] = cBytes"] := by rfl

/-- every shelf Get of the read and write paths is followed by a check that returns any error other than
    `ErrKeyNotFound` (ReadPath.lean: a failing Get ends the call with the storage error) -/
theorem fact_get_errors_returned : Facts.C10.getGuards =
    ["Resolve: latestMetaRef, err := latestReader.Get(stoabs.BytesKey(id.String())) ; if err != nil && !errors.Is(err, stoabs.ErrKeyNotFound) { return err }",
     "loadConflictedDocuments: latestMetaRef, err := latestReader.Get(key) ; if err != nil && !errors.Is(err, stoabs.ErrKeyNotFound) { return err }",
     "ConflictedCount: cBytes, err := reader.Get(stoabs.BytesKey(conflictedCountKey)) ; if err != nil && !errors.Is(err, stoabs.ErrKeyNotFound) { return err }",
     "DocumentCount: cBytes, err := reader.Get(stoabs.BytesKey(documentCountKey)) ; if err != nil && !errors.Is(err, stoabs.ErrKeyNotFound) { return err }",
     "HistorySinceVersion: documentBytes, err := documentReader.Get(stoabs.NewHashKey(payloadHash)) ; if err != nil { if errors.Is(err, stoabs.ErrKeyNotFound) { return storage.ErrNotFound } return err }",
     "readDocument: documentBytes, err := documentReader.Get(stoabs.NewHashKey(documentHash)) ; if err != nil && !errors.Is(err, stoabs.ErrKeyNotFound) { return document, err }",
     "readMetadata: metadataBytes, err := metadataReader.Get(stoabs.BytesKey(ref)) ; if err != nil && !errors.Is(err, stoabs.ErrKeyNotFound) { return metadata, err }",
     "readEventList: eventListBytes, err := eventReader.Get(stoabs.BytesKey(id.String())) ; if err != nil && !errors.Is(err, stoabs.ErrKeyNotFound) { return el, err }",
     "applyFrom: cBytes, err := statsWriter.Get(stoabs.BytesKey(conflictedCountKey)) ; if err != nil && !errors.Is(err, stoabs.ErrKeyNotFound) { return err }",
     "applyFrom: b, err := conflictedWriter.Get(stoabs.BytesKey(id.String())) ; if err != nil && !errors.Is(err, stoabs.ErrKeyNotFound) { return err }",
     "incrementDocumentCount: cBytes, err := statsWriter.Get(stoabs.BytesKey(documentCountKey)) ; if err != nil && !errors.Is(err, stoabs.ErrKeyNotFound) { return err }",
     "applyDocument: payloadHashBytes, err := txRefReader.Get(stoabs.HashKey(st)) ; if err != nil && !errors.Is(err, stoabs.ErrKeyNotFound) { return did.Document{}, documentMetadata{}, fmt.Errorf(\"error on reading transactionIndexShelf: %w\", err) }"] := by rfl

/-- the counters are 4-byte big-endian on every read and every write (DocShelves.lean `encU32` / `decU32`) -/
theorem fact_stats_codec : Facts.C10.statsCodec =
    ["applyFrom: binary.BigEndian.Uint32",
     "applyFrom: make([]byte, 4)",
     "applyFrom: binary.BigEndian.PutUint32",
     "incrementDocumentCount: binary.BigEndian.Uint32",
     "incrementDocumentCount: make([]byte, 4)",
     "incrementDocumentCount: binary.BigEndian.PutUint32",
     "ConflictedCount: binary.BigEndian.Uint32",
     "DocumentCount: binary.BigEndian.Uint32"] := by rfl

theorem fact_store_constants : Facts.C10.storeConsts =
    ["didStoreName=\"didstore\"",
     "latestShelf=\"latestV2\"",
     "metadataShelf=\"metadataV2\"",
     "transactionIndexShelf=\"txRefV2\"",
     "documentShelf=\"documentsV2\"",
     "eventShelf=\"eventsV2\"",
     "conflictedShelf=\"conflictedV2\"",
     "statsShelf=\"statsV2\"",
     "conflictedCountKey=\"conflictedCount\"",
     "documentCountKey=\"documentCount\""] := by rfl

/-- `HistorySinceVersion` refuses a negative version before any read; `readDocumentFromEvent` takes the in-memory
    document of the new event and reads every other one from documentsV2 by payload hash -/
theorem fact_history_guard_and_event_document :
    Facts.C10.historyFirstStatement = "if version < 0 { return nil, errors.New(\"negative version\") }" ∧
    Facts.C10.readDocumentFromEventBody = "{ if e.document != nil { return *e.document, nil } return readDocument(tx, e.PayloadHash) }" := ⟨rfl, rfl⟩

theorem render_nonempty (d : Doc) : d.render.isEmpty = false := by
  have hne : d.render.toList ≠ [] := by
    unfold Doc.render
    simp [String.toList_append]
  cases h : d.render.isEmpty with
  | false => rfl
  | true =>
    exfalso
    apply hne
    rw [String.isEmpty_iff.mp h]; rfl

/-- **Every document the store refers to is on the document shelf, under its own hash, after ANY sequence of Adds** —
    including Adds whose first write transaction failed (mode 1: nothing written) or whose second one failed or was rolled
    back (mode 2: `writeDocument`'s two Puts stay behind), in any arrival order, for any number of DIDs sharing the two
    shelves. For the reached state `(b, s)`:
    * documentsV2 is content addressed: a value is only ever stored under the hash of its own bytes;
    * txRefV2 maps a ref only to the payload hash of the accepted transaction with that ref;
    * for every listed event, `applyDocument`'s lookup (txRefV2 Get, then `readDocument`) yields the published bytes — the
      "transaction reference not found" / "read document failed" errors of `applyDocument` are unreachable;
    * for every stored version (published or merged), `readDocument(metadata.Hash)` yields that version's bytes — so the
      document reads of `Resolve`, `Iterate`, `loadConflictedDocuments` and `applyFrom`'s base never fail. -/
theorem referenced_documents_are_stored (cfg : Cfg) (U : List Event) (hU : Accepted U) (l : List (Event × Nat))
    (hl : ∀ p ∈ l, p.1 ∈ U) (b : Blob) (s : Store) (h : dAddAll cfg ({}, {}) l = .ok (b, s)) :
    (∀ k bytes, alGet b.docs k = some bytes → k = "H:" ++ bytes) ∧
    (∀ r k, alGet b.txRef r = some k → ∃ e ∈ U, e.ref = r ∧ e.payloadHash = k) ∧
    (∀ id, ∀ e ∈ (s.get id).events, lookupTx b e.ref = .ok e.doc.render) ∧
    (∀ id, ∀ p ∈ (s.get id).chain, readDocument b p.2.hash = .ok p.1.render) := by
  have hd := dAddAll_dinv cfg U hU l ({}, {}) (b, s) hl (dinv_empty cfg U) h
  refine ⟨hd.ca, hd.tx, ?_, ?_⟩
  · intro id e he
    obtain ⟨a, c⟩ := hd.ev id e he
    simp only [lookupTx, a, readDocument, c, render_nonempty]
    rfl
  · intro id p hp
    simp only [readDocument, hd.ch id p hp, render_nonempty]
    rfl

/-- **Resolve hands out the bytes of the version it selected**: whenever the chain-level `Resolve` answers version
    `(d, m)`, the document read through documentsV2 succeeds and returns exactly `d`'s bytes (so order independence of
    `resolve` carries over to the bytes handed out). -/
theorem resolve_reads_the_selected_version (cfg : Cfg) (U : List Event) (hU : Accepted U) (l : List (Event × Nat))
    (hl : ∀ p ∈ l, p.1 ∈ U) (b : Blob) (s : Store) (h : dAddAll cfg ({}, {}) l = .ok (b, s))
    (id : String) (rm : Option ResolveMeta) (d : Doc) (m : Meta) (hr : resolve s id rm = .ok (d, m)) :
    resolveBytes b s id rm = .ok (d.render, m) := by
  obtain ⟨_, _, _, hch⟩ := referenced_documents_are_stored cfg U hU l hl b s h
  simp only [resolveBytes, hr, hch id (d, m) (resolve_ok_mem_chain s id rm _ hr)]

/-- the model's shelves after the second write transaction of a NON-failing Add are those of the
    chain-level model (the projection forgets the two shelves) -/
theorem doc_shelves_do_not_change_the_store (cfg : Cfg) (b : Blob) (s : Store) (e : Event) (b' : Blob) (s' : Store)
    (h : dAdd cfg b s e 0 = .ok (b', s')) : add cfg s e = .ok s' := by
  rcases dAdd_cases h with ⟨h1, _⟩ | ⟨h2, _⟩ | ⟨_, _, ha, _⟩
  · cases h1
  · cases h2
  · exact ha

/-- **a failed Add changes nothing but the content-addressed shelves** ("unchanged on fault") -/
theorem failed_add_leaves_the_store_unchanged (cfg : Cfg) (b : Blob) (s : Store) (e : Event) (mode : Nat)
    (hm : mode = 1 ∨ mode = 2) (b' : Blob) (s' : Store) (h : dAdd cfg b s e mode = .ok (b', s')) :
    s' = s ∧ (mode = 1 → b' = b) ∧ (mode = 2 → b' = writeDocument b e) := by
  rcases dAdd_cases h with ⟨rfl, hb, hs⟩ | ⟨rfl, hb, hs⟩ | ⟨h1, h2, _⟩
  · exact ⟨hs, fun _ => hb, nofun⟩
  · exact ⟨hs, nofun, fun _ => hb⟩
  · exact (hm.elim h1 h2).elim

/-- **statsV2 codec**: what `PutUint32` writes, `Uint32` reads back (for every value a uint32 can hold); a written
    counter never makes `binary.BigEndian.Uint32` panic -/
theorem stats_codec_roundtrip (n : Nat) (h : n < 4294967296) : decU32 (some (encU32 n)) = .ok n := dec_enc_u32 n h

/-- **the statistics part of `applyFrom` on the literal 4-byte values refines the counters of `add`**: as long as the
    decoded counters stay below 2³² and the count is positive when a DID that was flagged stops being conflicted (both hold
    in every reachable state: `stats_are_what_the_states_imply`), the uint32 arithmetic never wraps and the bytes written
    decode to exactly the numbers the chain-level model keeps -/
theorem stats_shelf_refines_counters (st : Stats) (c d : Nat) (was now : Bool) (lv : Nat)
    (hc : decU32 st.cc = .ok c) (hd : decU32 st.dc = .ok d) (hcb : c + 1 < 4294967296) (hdb : d + 1 < 4294967296)
    (hpos : was = true → now = false → 1 ≤ c) :
    ∃ st', statsStep st was now lv = .ok st' ∧
      decU32 st'.cc = .ok (if now then (if was then c else c + 1) else (if was then c - 1 else c)) ∧
      decU32 st'.dc = .ok (if lv = 0 then d + 1 else d) :=
  statsStep_refines st c d was now lv hc hd hcb hdb hpos

/-- **The statistics shelf tracks the counters, end to end.** For every sequence of Adds (any arrival order, any DIDs,
    failing first / second transactions, duplicates) of fewer than 2³² − 1 Adds: the statistics code of `applyFrom` never
    fails or panics on the bytes it wrote itself, its uint32 arithmetic never wraps, and the two 4-byte big-endian values on
    statsV2 decode to exactly `ConflictedCount` / `DocumentCount` of the chain-level model — to which
    `stats_are_what_the_states_imply` and `stats_order_independent` apply. -/
theorem stats_shelf_tracks_counters (cfg : Cfg) (l : List (Event × Nat)) (hl : l.length + 1 < 4294967296)
    (b : Blob) (s : Store) (h : dAddAll cfg ({}, {}) l = .ok (b, s)) :
    ∃ st, dAddSAll cfg ({}, {}, {}) l = .ok (b, s, st) ∧
      decU32 st.cc = .ok s.conflictedCount ∧ decU32 st.dc = .ok s.documentCount := by
  obtain ⟨st, h1, h2⟩ := dAddSAll_total cfg l {} {} {} 0 (b, s) (by omega)
    ⟨storeInv_empty cfg, rfl, rfl, Nat.le_refl _⟩ h
  exact ⟨st, h1, h2.cc, h2.dc⟩

/-! non-vacuity: an accepted fork {create, A, B}; B's second write transaction fails once, B is delivered again; the
    published and the merged documents are readable, the index knows the three refs -/
private def evC' : Event := { evCreate with payloadHash := "H:" ++ (docOf "s0").render }
private def evA' : Event := { evA with payloadHash := "H:" ++ (docOf "sA").render }
private def evB' : Event := { evB with payloadHash := "H:" ++ (docOf "sB").render }

example : Accepted [evC', evA', evB'] := by
  refine ⟨?_, ?_⟩
  · intro e he
    simp only [List.mem_cons, List.mem_nil_iff, or_false] at he
    rcases he with rfl | rfl | rfl <;> rfl
  · intro a ha b hb h
    rw [pairwise_ne_inj (f := Event.ref) (by decide) ha hb h]

set_option maxRecDepth 200000 in
example : (match dAddAll cfg0 ({}, {}) [(evB', 2), (evA', 0), (evC', 0), (evB', 1), (evB', 0)] with
    | .ok (b, s) =>
      b.txRef.length == 3 && b.docs.length == 4 && (s.get "did:nuts:x").conflicted &&
      (match resolveBytes b s "did:nuts:x" (some {}) with | .ok (bytes, m) => m.sourceTx.length == 2 && !bytes.isEmpty | _ => false) &&
      (match lookupTx b 150 with | .ok bytes => bytes == (docOf "sB").render | _ => false)
    | _ => false) = true := by decide +kernel

example : (match statsStep {} false true 0 with
    | .ok st => st.cc == some [0, 0, 0, 1] && st.dc == some [0, 0, 0, 1] &&
        (match statsStep st true false 3 with | .ok st2 => st2.cc == some [0, 0, 0, 0] && st2.dc == some [0, 0, 0, 1] | _ => false)
    | _ => false) = true := by decide

set_option maxRecDepth 200000 in
example : (match dAddSAll cfg0 ({}, {}, {}) [(evB', 2), (evA', 0), (evC', 0), (evB', 1), (evB', 0), (evA', 0)] with
    | .ok (_, s, st) => st.cc == some [0, 0, 0, 1] && st.dc == some [0, 0, 0, 1] && s.conflictedCount == 1 && s.documentCount == 1
    | _ => false) = true := by decide

/-- **`HistorySinceVersion` returns the published bytes of the sorted event list, and never fails on a listed DID**: for
    every sequence of Adds (failed transactions included) and every DID with at least one event, every version `v ≥ 0` up
    to the last one yields `.ok` with, per listed event from index `v` on, the bytes published by that event, `Created` =
    the first event's signing time, `Updated` = the event's, numbered from `v`; a negative version is refused before any
    read. (The chain-level `history_is_the_sorted_event_list` says which events these are, in every arrival order.) -/
theorem history_reads_published_bytes (cfg : Cfg) (U : List Event) (hU : Accepted U) (l : List (Event × Nat))
    (hl : ∀ p ∈ l, p.1 ∈ U) (b : Blob) (s : Store) (h : dAddAll cfg ({}, {}) l = .ok (b, s)) (id : String)
    (e0 : Event) (rest : List Event) (hev : (s.get id).events = e0 :: rest) :
    (∀ v : Nat, v ≤ rest.length →
      historySinceInt b (s.get id) (v : Int) = .ok (rawList e0.sigTime v ((e0 :: rest).drop v))) ∧
    (∀ z : Int, z < 0 → historySinceInt b (s.get id) z = .err "other:negative version") := by
  have hd := dAddAll_dinv cfg U hU l ({}, {}) (b, s) hl (dinv_empty cfg U) h
  refine ⟨?_, ?_⟩
  · intro v hv
    unfold historySinceInt
    have hneg : ¬ ((v : Int) < 0) := by omega
    simp only [hneg, if_false, hev, Int.toNat_natCast, List.length_cons]
    have hle : ¬ (v > rest.length + 1 - 1) := by omega
    simp only [hle, if_false]
    apply historyRawFrom_ok
    intro x hx
    have hx' : x ∈ (s.get id).events := by rw [hev]; exact List.mem_of_mem_drop hx
    exact (hd.ev id x hx').2
  · intro z hz
    unfold historySinceInt
    simp only [hz, if_true]

set_option maxRecDepth 200000 in
example : (match dAddAll cfg0 ({}, {}) [(evB', 2), (evA', 0), (evC', 0), (evB', 0)] with
    | .ok (b, s) =>
      (match historySinceInt b (s.get "did:nuts:x") 1 with
        | .ok h => h.map (·.1) == [(docOf "sB").render, (docOf "sA").render] && h.map (·.2.2.2) == [1, 2]
        | _ => false) &&
      (match historySinceInt b (s.get "did:nuts:x") (-1) with | .err x => x == "other:negative version" | _ => false)
    | _ => false) = true := by decide +kernel

/-- **The bytes `Resolve` hands out depend neither on the arrival order nor on which Adds failed.** Two stores receive
    arrival sequences in which any Add may fail in its first or in its second write transaction (and be re-delivered or
    not); if the sets of events whose Add ran completely are the same, then for every DID and every resolve metadata both
    stores answer the same error or the same metadata with the same document BYTES read from documentsV2 — whatever
    iteration order Go picks for its maps on either store. (Composition of `resolve_order_independent`,
    `referenced_documents_are_stored` and the projection `dAddAll_store`.) -/
theorem bytes_handed_out_are_order_and_failure_independent (σ₁ σ₂ : Field → List Entry → List Entry)
    (h₁ : ∀ f l, (σ₁ f l).Perm l) (h₂ : ∀ f l, (σ₂ f l).Perm l)
    (U : List Event) (hU : Accepted U) (l₁ l₂ : List (Event × Nat))
    (hl₁ : ∀ p ∈ l₁, p.1 ∈ U) (hl₂ : ∀ p ∈ l₂, p.1 ∈ U)
    (hR : RefFun (applied l₁)) (hsame : ∀ e, e ∈ applied l₁ ↔ e ∈ applied l₂)
    (b₁ b₂ : Blob) (s₁ s₂ : Store)
    (r₁ : dAddAll (cfgOf σ₁ Facts.C10.mergeSortedFields) ({}, {}) l₁ = .ok (b₁, s₁))
    (r₂ : dAddAll (cfgOf σ₂ Facts.C10.mergeSortedFields) ({}, {}) l₂ = .ok (b₂, s₂))
    (id : String) (rm : Option ResolveMeta) :
    resolveBytes b₁ s₁ id rm = resolveBytes b₂ s₂ id rm := by
  have a₁ := dAddAll_store _ l₁ ({}, {}) (b₁, s₁) r₁
  have a₂ := dAddAll_store _ l₂ ({}, {}) (b₂, s₂) r₂
  obtain ⟨_, hres⟩ := resolve_order_independent σ₁ σ₂ h₁ h₂ (applied l₁) (applied l₂) hR hsame s₁ s₂ a₁ a₂ id
  have hr := hres rm
  cases hx : resolve s₁ id rm with
  | ok p =>
    obtain ⟨d, m⟩ := p
    rw [resolve_reads_the_selected_version _ U hU l₁ hl₁ b₁ s₁ r₁ id rm d m hx,
        resolve_reads_the_selected_version _ U hU l₂ hl₂ b₂ s₂ r₂ id rm d m (by rw [← hr]; exact hx)]
  | err x =>
    have hy : resolve s₂ id rm = .err x := by rw [← hr]; exact hx
    simp only [resolveBytes, hx, hy]
  | panic x =>
    have hy : resolve s₂ id rm = .panic x := by rw [← hr]; exact hx
    simp only [resolveBytes, hx, hy]

/-! non-vacuity: the fork with a failed and re-delivered B against the plain order; the same bytes come out -/
example : applied [(evB', 2), (evA', 0), (evC', 0), (evB', 1), (evB', 0)] = [evA', evC', evB'] := rfl

set_option maxRecDepth 200000 in
example : (match dAddAll cfg0 ({}, {}) [(evB', 2), (evA', 0), (evC', 0), (evB', 1), (evB', 0)],
                 dAddAll cfg0 ({}, {}) [(evC', 0), (evB', 0), (evA', 0)] with
    | .ok (b₁, s₁), .ok (b₂, s₂) =>
      (match resolveBytes b₁ s₁ "did:nuts:x" (some {}), resolveBytes b₂ s₂ "did:nuts:x" (some {}) with
        | .ok (x, m), .ok (y, n) => x == y && m.hash == n.hash && m.sourceTx == n.sourceTx
        | _, _ => false)
    | _, _ => false) = true := by decide +kernel

/-- **A storage error inside `Resolve`'s read transaction cannot change an answer**, end to end: for every arrival
    sequence, every DID, every resolve metadata and every position `k` of the failing shelf Get, `Resolve` on the literal
    shelves either returns the storage error or answers exactly what the (order independent) chain-level `resolve`
    answers — never another version, never `not-found` / `deactivated` in place of an existing answer. A failure of the
    first Get (latestV2) is always reported; without a failure (`k = 0`) the answer is `resolve`'s. -/
theorem read_fault_never_changes_an_answer (cfg : Cfg) (l : List Event) (s : Store) (h : addAll cfg {} l = .ok s)
    (id : String) :
    ∃ st, sAddAll cfg {} (l.filter (fun e => e.doc.id = id)) = .ok st ∧
      ∀ rm, (∀ k, sResolveF st rm k = .err "db" ∨ sResolveF st rm k = resolve s id rm) ∧
        sResolveF st rm 0 = resolve s id rm ∧ sResolveF st rm 1 = .err "db" := by
  obtain ⟨st, h1, _, h3⟩ := shelf_resolve_eq_resolve cfg l s h id
  refine ⟨st, h1, fun rm => ⟨fun k => ?_, ?_, sResolveF_one st rm⟩⟩
  · rw [← h3 rm]; exact sResolveF_or st rm k
  · rw [← h3 rm]; exact sResolveF_zero st rm

/-- the classification the harness is compared with: a call performing `gets` Gets reports exactly the failures at
    positions 1..gets -/
theorem fault_class_db_iff (gets k : Nat) : faultClass gets k = "db" ↔ (1 ≤ k ∧ k ≤ gets) := by
  unfold faultClass
  by_cases h : 1 ≤ k ∧ k ≤ gets
  · simp [h]
  · simp only [h, if_false]
    constructor
    · intro x; exact absurd x (by decide)
    · intro x; exact x.elim

/-! non-vacuity: on the fork {create, B, A} resolving at a time before the fork walks 3 versions: Gets 1..5 (latest, three
    metadata records, one document) are reported, a failure armed at Get 6 never fires -/
example : (match sAddAll cfg0 {} [evB, evA, evCreate] with
    | .ok st =>
      (List.range 7).map (fun k => match sResolveF st (some { time := some 15 }) k with
        | .err e => e | .ok (_, m) => toString m.version | .panic e => e) ==
        ["0", "db", "db", "db", "db", "db", "0"]
    | _ => false) = true := by decide

/-! ### the in-memory conflicted cache under a rolled-back second write transaction (NutsModel/C10/Cache.lean)

`applyFrom` updates `store.conflictedDocuments` inside the closure of the write transaction. A transaction that is rolled
back after the closure ran leaves the shelves as they were, but not the map. -/

/-- regenerated from writer.go / store.go: the map is written unconditionally in BOTH branches of applyFrom's
    `if metadata.isConflicted()` (put in the conflicted branch, delete in the other — `add`'s `alPut` / `alDel`), between
    the counter arithmetic and the shelf Put / Delete, i.e. inside the closure of the write transaction (what
    `addRolledBack` models); keyed by `document.ID.String()`; `ConflictedCount` reads the statistics shelf, not the map -/
theorem fact_cache_update_inside_write_closure : Facts.C10.cacheBranches =
    ["then: if !conflicted { conflictedCount++ }", "then: tl.addCachedConflict(*document, *metadata)",
     "then: err = conflictedWriter.Put(stoabs.BytesKey(document.ID.String()), []byte{0})",
     "else: if conflicted { conflictedCount-- }", "else: tl.removeCachedConflict(*document)",
     "else: err = conflictedWriter.Delete(stoabs.BytesKey(document.ID.String()))",
     "addCachedConflict: { tl.conflictedDocuments[document.ID.String()] = conflictedDocument{ didDocument: document, metadata: metadata, } }",
     "removeCachedConflict: { delete(tl.conflictedDocuments, document.ID.String()) }",
     "Conflicted: { for _, conflicted := range tl.conflictedDocuments { if err := fn(conflicted.didDocument, conflicted.metadata.asVDRMetadata()); err != nil { return err } } return nil }",
     "ConflictedCount: var count uint32 ; 3 statements ; last: return uint(count), err"] := by rfl

/-- a rolled-back Add leaves every shelf and both statistics as they were -/
theorem rolled_back_add_keeps_the_shelves (cfg : Cfg) (s t : Store) (e : Event) (h : addRolledBack cfg s e = .ok t) :
    t.dids = s.dids ∧ t.conflictedCount = s.conflictedCount ∧ t.documentCount = s.documentCount ∧
      ∀ id rm, resolve t id rm = resolve s id rm := by
  obtain ⟨h1, h2, h3⟩ := rolled_back_keeps cfg s t e h
  refine ⟨h1, h2, h3, fun id rm => ?_⟩
  simp only [resolve, Store.get, h1]

/-- **the re-delivery of a rolled-back transaction is exactly the undisturbed Add**: whatever the rolled-back attempt left
    in the in-memory map, delivering the same transaction again ends in the very state (shelves, statistics AND cache)
    that a single undisturbed Add produces — for every store state, reachable or not -/
theorem redelivery_after_rollback_is_the_undisturbed_add (cfg : Cfg) (s t : Store) (e : Event)
    (h : addRolledBack cfg s e = .ok t) : add cfg t e = add cfg s e := redelivery cfg s t e h

/-- **Stale cache entries are confined and repaired, for every history.** Take ANY sequence of deliveries, each either
    committed or rolled back after `applyFrom` ran (any DIDs, any order, duplicates, the same transaction rolled back many
    times). The store it ends in has exactly the shelves and statistics of the run that only saw the committed deliveries,
    and `Conflicted()` answers the same for every key except those `dirtyAll` lists: keys touched by a rolled-back Add that
    no later committed Add touched again. Re-opening the store repairs those as well. -/
theorem stale_cache_entries_are_confined_and_repaired (cfg : Cfg) (l : List (Event × Bool)) (t : Store)
    (h : addAllRb cfg {} l = .ok t) :
    ∃ u, addAll cfg {} (committed l) = .ok u ∧ t.dids = u.dids ∧ t.conflictedCount = u.conflictedCount ∧
      t.documentCount = u.documentCount ∧
      (∀ k, k ∉ dirtyAll cfg {} [] l → alGet t.cache k = alGet u.cache k) ∧ reload t = reload u := by
  obtain ⟨u, h1, h2, h3, h4, h5⟩ := rb_run cfg l {} {} [] t rfl rfl rfl (fun _ _ => rfl) h
  refine ⟨u, h1, h2, h3, h4, h5, ?_⟩
  simp only [reload, h2, h3, h4]

/-- **Witness that the staleness is real** (why the theorem above needs `dirtyAll`): create, update A, then the parallel
    update B whose second write transaction is rolled back — `Conflicted()` lists the DID although its latest stored
    version is not conflicted and `ConflictedCount()` is 0; after the re-delivery of B cache, flag and counter agree. -/
theorem rolled_back_add_leaves_stale_cache_witness :
    (match addAllRb cfg0 {} [(evCreate, false), (evA, false), (evB, true)],
           addAllRb cfg0 {} [(evCreate, false), (evA, false), (evB, true), (evB, false)] with
     | .ok t, .ok t2 =>
       (conflictedOf t "did:nuts:x").isSome && !(t.get "did:nuts:x").conflicted && t.conflictedCount == 0 &&
       dirtyAll cfg0 {} [] [(evCreate, false), (evA, false), (evB, true)] == ["did:nuts:x"] &&
       (conflictedOf t2 "did:nuts:x").isSome && (t2.get "did:nuts:x").conflicted && t2.conflictedCount == 1 &&
       dirtyAll cfg0 {} [] [(evCreate, false), (evA, false), (evB, true), (evB, false)] == []
     | _, _ => false) = true := by decide

/-! non-vacuity of `redelivery_after_rollback_is_the_undisturbed_add` / `rolled_back_add_keeps_the_shelves` -/
example : (match addAll cfg0 {} [evCreate, evA] with
    | .ok s => (match addRolledBack cfg0 s evB with | .ok t => t.cache.length == 1 && s.cache.length == 0 | _ => false)
    | _ => false) = true := by decide

/-- **`Conflicted()` is right about a DID immediately after every committed Add of it, whatever was rolled back before**:
    after ANY history of committed / rolled-back deliveries, the key a committed Add touches holds exactly the entry of
    the run that only saw the committed deliveries (the entry `iterators_agree_with_counters` / `restart_changes_nothing`
    speak about) — the re-delivery the DAG performs after a failed Add therefore always ends the staleness of that DID -/
theorem conflicted_entry_is_right_after_every_committed_add (cfg : Cfg) (l : List (Event × Bool)) (e : Event) (t' t : Store) (k : String)
    (h1 : addAllRb cfg {} l = .ok t') (hk : touched cfg t' e = some k)
    (h2 : addAllRb cfg {} (l ++ [(e, false)]) = .ok t) :
    ∃ u, addAll cfg {} (committed (l ++ [(e, false)])) = .ok u ∧ alGet t.cache k = alGet u.cache k := by
  have ha : add cfg t' e = .ok t := by
    rw [addAllRb_append, h1] at h2
    replace h2 : addAllRb cfg t' [(e, false)] = .ok t := h2
    rw [addAllRb_cons] at h2
    obtain ⟨s1, hs1, hr⟩ := Res.bind_eq_ok.mp h2
    cases hr; exact hs1
  obtain ⟨u, hu, _, _, _, hc⟩ := rb_run cfg (l ++ [(e, false)]) {} {} [] t rfl rfl rfl (fun _ _ => rfl) h2
  exact ⟨u, hu, hc k (committed_cleans cfg l {} t' t [] e k h1 ha hk)⟩

example : (match addAllRb cfg0 {} [(evCreate, false), (evA, false), (evB, true)] with
    | .ok t' => touched cfg0 t' evB == some "did:nuts:x" &&
        (match addAllRb cfg0 {} ([(evCreate, false), (evA, false), (evB, true)] ++ [(evB, false)]) with | .ok _ => true | _ => false)
    | _ => false) = true := by decide

end Nuts.C10.Props
