/-
  C01 — the layers around the verifier model (NutsModel/C01/Subject.lean): the type-specific credentialSubject validators, the
  presentation dates read by auth/api/iam, the wallet's DID-method filter, AutoCorrectSelfAttestedCredential and
  StatusList2021Entry.Validate; and their compositions with `verify` / `verifyVP` / `issue`: the subject rule of presentations, a
  failing revocation store, what the node's own issuer refuses, the REST entry point for presentations.
-/
import NutsModel.C01.Subject
import NutsModel.Facts.C01
import NutsProofs.Lemmas.C01Subject
import NutsProofs.Props.C01
namespace Nuts.C01.Props
open Nuts.C01

/-! ## the validators' loops are universal statements -/

/-- validateResources accepts exactly when EVERY resource (not only the first, not only up to some position) has a non-blank
    path, at least one operation, and only operations of the allow-list (compared in lower case) -/
theorem validateResources_iff (valid : List String) (rs : List Resource) :
    validateResources valid rs = true ↔
      ∀ r ∈ rs, blank r.path = false ∧ r.operations ≠ [] ∧ ∀ o ∈ r.operations, validOperation valid o = true := by
  induction rs with
  | nil => simp [validateResources]
  | cons r rs ih =>
    rw [validateResources_cons]
    simp only [Bool.and_eq_true, Bool.not_eq_true', ih, operationsValid_iff, List.mem_cons, forall_eq_or_imp, beq_eq_false_iff_ne, ne_eq,
      List.length_eq_zero_iff]
    constructor
    · rintro ⟨⟨⟨a, b⟩, c⟩, d⟩; exact ⟨⟨a, b, c⟩, d⟩
    · rintro ⟨⟨a, b, c⟩, d⟩; exact ⟨⟨⟨a, b⟩, c⟩, d⟩

/-- resources are judged one by one: a list is accepted iff both halves are (no resource is skipped after an accepted one) -/
theorem validateResources_append (valid : List String) (a b : List Resource) :
    validateResources valid (a ++ b) = (validateResources valid a && validateResources valid b) := by
  induction a with
  | nil => simp [validateResources]
  | cons r rs ih =>
    simp only [List.cons_append, validateResources_cons, ih, Bool.and_assoc]

/-- a blank string has only white-space runes — in particular it is not a DID, a name or a purpose -/
theorem blank_iff (s : String) : blank s = true ↔ ∀ c ∈ s.toList, isGoSpace c = true := by
  unfold blank; simp

/-- what the authorization validator's subject guards establish, down to every operation of every resource -/
theorem authShape_well_formed {valid : List String} {E : Env} {s : SubjectView} (h : authShape valid E s = true) :
    s.n = 1 ∧ blank s.id = false ∧ (E.parseDID s.id).isSome = true ∧ blank s.purposeOfUse = false ∧
    ∀ r ∈ s.resources, blank r.path = false ∧ r.operations ≠ [] ∧ ∀ o ∈ r.operations, goLower o ∈ valid := by
  obtain ⟨h1, h2, h3, h4, h5⟩ := (authShape_iff _ _ _).mp h
  refine ⟨h1, h2, h3, h4, fun r hr => ?_⟩
  obtain ⟨a, b, c⟩ := (validateResources_iff _ _).mp h5 r hr
  exact ⟨a, b, fun o ho => List.contains_iff_mem.mp (c o ho)⟩

/-! ## what an accepted Nuts credential guarantees about its subject (composition with `verify`) -/

/-- END TO END (decoded subject → verdict): a NutsAuthorizationCredential that `Verify` reports valid — with or without signature check,
    trusted or not — names exactly one subject whose id is a DID, has a non-blank purposeOfUse, and EVERY one of its resources has a
    non-blank path, at least one operation, and only operations of `validOperationTypes()` as regenerated from the source. -/
theorem accepted_authorization_credential_is_well_formed (cfg : Cfg) (P : Crypto) (E : Env) (au cs : Bool) (at_ : Option Time)
    (c : Cred) (s : SubjectView)
    (h : verify cfg P E au cs at_ (c.withSubject Nuts.Facts.C01.validOperationTypes E s) = .ok ())
    (ht : findValidator c.types = .auth) :
    s.n = 1 ∧ blank s.id = false ∧ (E.parseDID s.id).isSome = true ∧ blank s.purposeOfUse = false ∧
    ∀ r ∈ s.resources, blank r.path = false ∧ r.operations ≠ [] ∧
      ∀ o ∈ r.operations, goLower o ∈ Nuts.Facts.C01.validOperationTypes := by
  have hv := (verify_ok_iff.mp h).1
  have hs : (c.withSubject Nuts.Facts.C01.validOperationTypes E s).shapeOK = true :=
    (validate_pass hv).2 (by show findValidator c.types ≠ .default; rw [ht]; decide)
  simp only [Cred.withSubject, shapeOf, ht] at hs
  exact authShape_well_formed hs

/-- a NutsOrganizationCredential reported valid names exactly one subject whose id is a DID and an organization with a non-blank
    name and city -/
theorem accepted_organization_credential_is_well_formed (cfg : Cfg) (P : Crypto) (E : Env) (au cs : Bool) (at_ : Option Time)
    (c : Cred) (s : SubjectView) (valid : List String)
    (h : verify cfg P E au cs at_ (c.withSubject valid E s) = .ok ())
    (ht : findValidator c.types = .org) :
    s.n = 1 ∧ s.orgNil = false ∧ s.id ≠ "" ∧ (E.parseDID s.id).isSome = true ∧
    (∃ n, s.orgName = some n ∧ blank n = false) ∧ (∃ n, s.orgCity = some n ∧ blank n = false) := by
  have hv := (verify_ok_iff.mp h).1
  have hs : (c.withSubject valid E s).shapeOK = true :=
    (validate_pass hv).2 (by show findValidator c.types ≠ .default; rw [ht]; decide)
  simp only [Cred.withSubject, shapeOf, ht] at hs
  exact (orgShape_iff _ _).mp hs

/-- the subject of other credential types is not inspected by the validator (the default validator never reads it) -/
theorem other_types_subject_is_not_validated (valid : List String) (E : Env) (c : Cred) (s s' : SubjectView)
    (ht : findValidator c.types = .default) :
    validate E (c.withSubject valid E s) = validate E (c.withSubject valid E s') := by
  unfold validate
  simp only [Cred.withSubject, ht]
  rfl

/-! ## presentation dates (util.go) agree with the window the verifier enforced -/

/-- the dates the IAM layer reads are SIGNED members: the `created` / `expires` options of the one proof that `jsonldProof`
    canonicalises, or the nbf/iat/exp claims of the token -/
theorem presentation_dates_are_signed_members (vp : Pres) (t : Time) :
    (presentationIssuanceDate vp = .ok (some t) →
      match vp.format with
      | .ld => ∃ p, vp.proof = .one p ∧ vp.nProofs = 1 ∧ p.created = t
      | .jwt => ∃ j, vp.jwt = some j ∧ (j.nbf = some t ∨ ((j.nbf = none ∨ j.nbf = some zeroTime) ∧ j.iat = some t))
      | .other => False) ∧
    (presentationExpirationDate vp = .ok (some t) →
      match vp.format with
      | .ld => ∃ p, vp.proof = .one p ∧ vp.nProofs = 1 ∧ p.expires = some t
      | .jwt => ∃ j, vp.jwt = some j ∧ j.exp = some t
      | .other => False) := by
  unfold presentationIssuanceDate presentationExpirationDate
  cases vp.format with
  | other => simp
  | ld =>
    cases hp : parseLDProof vp with
    | none => simp
    | some p =>
      obtain ⟨a, b⟩ := parseLDProof_some hp
      cases he : p.expires <;> simp +contextual [a, b, he, nonZero_some]
  | jwt =>
    cases vp.jwt with
    | none => simp
    | some j =>
      simp only [Res.ok.injEq, Option.some.injEq, exists_eq_left']
      refine ⟨fun h => ?_, fun h => (nonZero_claimTime.mp h).1⟩
      split at h
      · rename_i hz
        exact Or.inr ⟨claimTime_eq_zero.mp (by simpa using hz), (nonZero_claimTime.mp h).1⟩
      · exact Or.inl (nonZero_claimTime.mp h).1

/-- END TO END (presentation → verdict → dates): for a JSON-LD presentation that `VerifyVP` reports valid at time `t`, the issuance
    date util.go reports is not later than `t + maxSkew`, and a reported expiration date is not earlier than `t − maxSkew`: the window
    the IAM layer derives from the dates contains the validation time (± skew) the verifier enforced. -/
theorem verified_presentation_dates_contain_validation_time (cfg : Cfg) (P : Crypto) (E : Env) (vf au : Bool) (at_ : Option Time)
    (vp : Pres) (hf : vp.format = .ld) (h : verifyVP cfg P E vf au at_ vp = .ok ()) :
    (∀ t, presentationIssuanceDate vp = .ok (some t) → t ≤ atOf E at_ + cfg.maxSkew) ∧
    (∀ e, presentationExpirationDate vp = .ok (some e) → atOf E at_ ≤ e + cfg.maxSkew) := by
  obtain ⟨s, _, hsig⟩ := verifyVP_sig h
  unfold VpSigValid at hsig
  simp only [hf] at hsig
  obtain ⟨_, _, p, k, hp, _, _, _, _, _, hv⟩ := hsig
  simp only at hp
  have hw := (proofValidAt_iff cfg p _).mp hv
  constructor
  · intro t ht
    have := (presentation_dates_are_signed_members vp t).1 ht
    simp only [hf] at this
    obtain ⟨p', hp', _, hc⟩ := this
    rw [hp] at hp'; injection hp' with hp'; subst hp'
    rw [← hc]; exact hw.1
  · intro e he
    have := (presentation_dates_are_signed_members vp e).2 he
    simp only [hf] at this
    obtain ⟨p', hp', _, hc⟩ := this
    rw [hp] at hp'; injection hp' with hp'; subst hp'
    exact hw.2 e hc

/-- the filter only removes: the result is a sublist of the wallet's credentials, in order -/
theorem filterOnDIDMethod_sublist {α} (view : α → MethodView) (creds : List α) (methods : List String) :
    List.Sublist (filterOnDIDMethod view creds methods) creds := by
  unfold filterOnDIDMethod
  split
  · exact List.Sublist.refl _
  · exact List.filter_sublist

/-- with a non-empty method list, every credential the wallet offers has an issuer whose DID method is listed (when the issuer
    is a DID at all) and only subjects whose DID method is listed (for every subject id that is a DID); a credential whose
    subject does not decode is never offered; every credential meeting this is kept (nothing else is dropped) -/
theorem filterOnDIDMethod_spec {α} (view : α → MethodView) (creds : List α) (methods : List String) (hm : methods ≠ []) (c : α) :
    c ∈ filterOnDIDMethod view creds methods ↔
      c ∈ creds ∧ (∀ m, (view c).issuerMethod = some m → m ∈ methods) ∧
      ∃ l, (view c).subjects = some l ∧ ∀ x ∈ l, x.1 ≠ "" → ∀ m, x.2 = some m → m ∈ methods := by
  unfold filterOnDIDMethod
  have : (methods.length == 0) = false := by cases methods with | nil => exact absurd rfl hm | cons _ _ => rfl
  simp only [this, Bool.false_eq_true, if_false, List.mem_filter, keepOnMethod, Bool.and_eq_true]
  constructor
  · rintro ⟨hc, hi, hs⟩
    refine ⟨hc, ?_, ?_⟩
    · intro m hmm; rw [hmm] at hi; exact List.contains_iff_mem.mp hi
    · cases hl : (view c).subjects with
      | none => rw [hl] at hs; cases hs
      | some l => rw [hl] at hs; exact ⟨l, rfl, (subjectsMatch_iff methods l).mp hs⟩
  · rintro ⟨hc, hi, l, hl, hs⟩
    refine ⟨hc, ?_, ?_⟩
    · cases hmm : (view c).issuerMethod with
      | none => rfl
      | some m => exact List.contains_iff_mem.mpr (hi m hmm)
    · rw [hl]; exact (subjectsMatch_iff methods l).mpr hs

theorem filterOnDIDMethod_empty {α} (view : α → MethodView) (creds : List α) : filterOnDIDMethod view creds [] = creds := rfl

/-- a credential that carries a proof is never altered (auto-correction cannot invalidate or re-attribute a signed document) -/
theorem autoCorrect_leaves_signed_unchanged (c : SelfAttested) (r u : String) (now : Time) (h : c.nProofs > 0) :
    autoCorrect c r u now = c := by
  unfold autoCorrect; simp [h]

/-- members that are present are kept: only an absent id / empty issuer / zero date / absent subject id is filled in -/
theorem autoCorrect_only_fills_gaps (c : SelfAttested) (r u : String) (now : Time) :
    let c' := autoCorrect c r u now
    c'.nProofs = c.nProofs ∧ (c.id.isSome → c'.id = c.id) ∧ (c.issuer ≠ "" → c'.issuer = c.issuer) ∧
    (c.issued ≠ zeroTime → c'.issued = c.issued) ∧ (c.subject0HasId = true → c'.subject0Id = c.subject0Id) ∧ c'.nSubjects = c.nSubjects := by
  obtain ⟨h1, h2, h3, h4, h5, h6⟩ := autoCorrect_members c r u now
  simp only [h1, h2, h3, h4, h5, h6]
  simp +contextual [Option.isSome_iff_ne_none]

/-- an unsigned single-subject credential comes out attributed to the requester: issuer and subject id are set -/
theorem autoCorrect_attributes_to_requester (c : SelfAttested) (r u : String) (now : Time)
    (hp : c.nProofs = 0) (hi : c.issuer = "") (hs : c.nSubjects = some 1) (hh : c.subject0HasId = false) (hr : r ≠ "") :
    let c' := autoCorrect c r u now
    c'.issuer = r ∧ c'.subject0Id = some r ∧ c'.id.isSome = true := by
  obtain ⟨_, _, h3, h4, _, h6⟩ := autoCorrect_members c r u now
  simp only [h3, h4, h6]
  cases c.id <;> simp [hp, hi, hs, hh]

def exAuthSubj : SubjectView :=
  { n := 1, id := "did:x:s", purposeOfUse := "care", resources := [{ path := "/Patient", operations := ["READ", "vread"] }] }
def exAuthCred : Cred := { exC with types := [vcType, authType], ctx := [vcContextV1, nutsContextV1] }
def exE3 : Env := { exE with trusted := fun _ _ => true, parseDID := fun s => if s == "did:x:s" then some s else exE.parseDID s }

example : findValidator exAuthCred.types = .auth := by decide +kernel
example : (verify exCfg exP exE3 true false (some 2000) (exAuthCred.withSubject Nuts.Facts.C01.validOperationTypes exE3 exAuthSubj)) = .ok () := by decide +kernel
example : (verify exCfg exP exE3 true false (some 2000) (exAuthCred.withSubject Nuts.Facts.C01.validOperationTypes exE3
    { exAuthSubj with resources := exAuthSubj.resources ++ [{ path := "/x", operations := ["read", "write"] }] })) = .err "invalid" := by decide +kernel
example : validOperation Nuts.Facts.C01.validOperationTypes "Read" = true ∧ validOperation Nuts.Facts.C01.validOperationTypes "reads" = false ∧
    blank " \t " = true ∧ blank "​" = false := by decide +kernel
example : orgShape exE3 { n := 1, id := "did:x:s", orgNil := false, orgName := some "C", orgCity := some " " } = false ∧
    orgShape exE3 { n := 1, id := "did:x:s", orgNil := false, orgName := some "C", orgCity := some "U" } = true := by decide

example : presentationIssuanceDate exVP = .ok (some 1000) ∧ exVP.format = .ld := by decide
example : presentationIssuanceDate { format := .jwt, jwt := some { nbf := none, iat := some 5 } } = .ok (some 5) := by decide
example : presentationExpirationDate { format := .ld, nProofs := 2, proof := .one { expires := some 7 } } = .ok none := by decide
example : filterOnDIDMethod id [⟨some "web", some [("did:web:a", some "web")]⟩, ⟨some "nuts", some []⟩, ⟨none, none⟩] ["web"]
    = [⟨some "web", some [("did:web:a", some "web")]⟩] := by decide
example : (autoCorrect { nProofs := 0, id := none, issuer := "", issued := zeroTime, nSubjects := some 1, subject0HasId := false, subject0Id := none } "did:x:r" "u" 12345).issued = 12000 := by decide

def validOperationTypesSrc : List String := ["read", "vread", "update", "patch", "delete", "history", "create", "search", "document"]

/-- the allow-list the model uses IS the regenerated one, written out so that an edit of the list is visible (the theorems above
    hold for whatever the source lists); every entry is lower-case ASCII — the premise of `lowerRune` being a faithful stand-in for
    unicode.ToLower in `validOperation` -/
theorem fact_valid_operation_types : Nuts.Facts.C01.validOperationTypes = validOperationTypesSrc ∧
    Nuts.Facts.C01.validOperationTypes.all (fun s => s.toList.all (fun c => 'a'.toNat ≤ c.toNat && c.toNat ≤ 'z'.toNat)) = true :=
  ⟨rfl, by decide +kernel⟩

def validateResourcesReturnsSrc : List String :=
  ["range resources && len(strings.TrimSpace(r.Path)) == 0 => fmt.Errorf(\"%w: 'credentialSubject.Resources[].Path' is required'\",errValidation)", "range resources && len(r.Operations) == 0 => fmt.Errorf(\"%w: 'credentialSubject.Resources[].Operations[]' requires at least one value\",errValidation)", "range resources && range r.Operations && !validOperation(o) => fmt.Errorf(\"%w: 'credentialSubject.Resources[].Operations[]' contains an invalid operation '%s'\",errValidation,o)"]
def validOperationReturnsSrc : List String :=
  ["range validOperationTypes() && o == strings.ToLower(operation) => true", " => false"]
def parseLDProofReturnsSrc : List String :=
  ["err := presentation.UnmarshalProofValue(&proofs); err != nil => fmt.Errorf(\"invalid LD-proof for presentation: %w\",err)", "len(proofs) != 1 => fmt.Errorf(\"presentation should have exactly 1 proof, got %d\",len(proofs))"]
def guards_nutsOrganizationCredentialValidatorSrc : List String :=
  ["err != nil", "!credential.IsType(*NutsOrganizationCredentialTypeURI)", "!credential.ContainsContext(NutsV1ContextURI)", "len(target) != 1", "cs.Organization == nil", "cs.ID == \"\"", "_,err = did.ParseDID(cs.ID); err != nil", "n,ok := cs.Organization[\"name\"]; !ok || len(strings.TrimSpace(n)) == 0", "c,ok := cs.Organization[\"city\"]; !ok || len(strings.TrimSpace(c)) == 0"]
def guards_nutsAuthorizationCredentialValidatorSrc : List String :=
  ["err != nil", "!credential.IsType(*NutsAuthorizationCredentialTypeURI)", "!credential.ContainsContext(NutsV1ContextURI)", "len(target) != 1", "len(strings.TrimSpace(cs.ID)) == 0", "_,err = did.ParseDID(cs.ID); err != nil", "len(strings.TrimSpace(cs.PurposeOfUse)) == 0", "err != nil"]
def flow_PresentationIssuanceDateSrc : List String :=
  ["case vc.JWTPresentationProofFormat", "jwt := presentation.JWT()", "if result = jwt.NotBefore(); result.IsZero()", "result = jwt.NotBefore()", "result = jwt.IssuedAt()", "case vc.JSONLDPresentationProofFormat", "ldProof,err := ParseLDProof(presentation)", "if err != nil", "return nil", "result = ldProof.Created", "if result.IsZero()", "return nil", "return &result"]
def flow_PresentationExpirationDateSrc : List String :=
  ["case vc.JWTPresentationProofFormat", "result = presentation.JWT().Expiration()", "case vc.JSONLDPresentationProofFormat", "ldProof,err := ParseLDProof(presentation)", "if err != nil || ldProof.Expires == nil", "return nil", "result = *ldProof.Expires", "if result.IsZero()", "return nil", "return &result"]
def flow_FilterOnDIDMethodSrc : List String :=
  ["if len(didMethods) == 0", "return credentials", "range credentials", "issuerDID,err := did.ParseDID(credential.Issuer.String())", "if err == nil", "if !slices.Contains(didMethods,issuerDID.Method)", "continue", "bl := make(<*ast.ArrayType>,0)", "err = credential.UnmarshalCredentialSubject(&bl)", "if err != nil", "continue", "range bl", "if b.ID != \"\"", "subjectDID,err := did.ParseDID(b.ID)", "if err == nil", "if !slices.Contains(didMethods,subjectDID.Method)", "continue outer", "result = append(result,credential)", "return result"]
def flow_AutoCorrectSelfAttestedCredentialSrc : List String :=
  ["if len(credential.Proof) > 0", "return credential", "if credential.ID == nil", "credential.ID,_ = ssi.ParseURI(uuid.NewString())", "if credential.Issuer.String() == \"\"", "credential.Issuer = requester.URI()", "if credential.IssuanceDate.IsZero()", "credential.IssuanceDate = time.Now().Truncate(time.Second)", "_ = credential.UnmarshalCredentialSubject(&credentialSubject)", "if len(credentialSubject) == 1", "if credentialSubject[0] == nil", "credentialSubject[0] = make(<*ast.MapType>)", "if _,ok := credentialSubject[0][\"id\"]; !ok", "_,ok := credentialSubject[0][\"id\"]", "credentialSubject[0][\"id\"] = requester.String()", "credential.CredentialSubject[0] = credentialSubject[0]", "return credential"]

/-- the control flow the model of NutsModel/C01/Subject.lean mirrors, statement by statement: the subject validators' guards in
    source order (incl. the ignored Unmarshal error and the length check), validateResources / validOperation, ParseLDProof, and the
    four util.go functions; an edit of any of them fails here until the model is re-read against the source -/
theorem fact_subject_and_util_control_flow :
    Nuts.Facts.C01.validateResourcesReturns = validateResourcesReturnsSrc ∧
    Nuts.Facts.C01.validOperationReturns = validOperationReturnsSrc ∧
    Nuts.Facts.C01.parseLDProofReturns = parseLDProofReturnsSrc ∧
    Nuts.Facts.C01.guards_nutsOrganizationCredentialValidator = guards_nutsOrganizationCredentialValidatorSrc ∧
    Nuts.Facts.C01.guards_nutsAuthorizationCredentialValidator = guards_nutsAuthorizationCredentialValidatorSrc ∧
    Nuts.Facts.C01.flow_PresentationIssuanceDate = flow_PresentationIssuanceDateSrc ∧
    Nuts.Facts.C01.flow_PresentationExpirationDate = flow_PresentationExpirationDateSrc ∧
    Nuts.Facts.C01.flow_FilterOnDIDMethod = flow_FilterOnDIDMethodSrc ∧
    Nuts.Facts.C01.flow_AutoCorrectSelfAttestedCredential = flow_AutoCorrectSelfAttestedCredentialSrc := by
  and_intros <;> rfl

/-! ## the subject rule is ∀ (not ∃); a read fault of the revocation store is never "valid" -/

/-- a presentation that carries ONE credential whose subject is not the signer is rejected — wherever that credential stands, whatever
    else the presentation carries (credentials about the signer included), with or without verification of the credentials -/
theorem presentation_with_foreign_credential_is_rejected (cfg : Cfg) (P : Crypto) (E : Env) (vf au : Bool) (at_ : Option Time)
    (vp : Pres) (s : String) (c : Cred) (hs : presentationSigner E vp = some s) (hc : c ∈ vp.vcs) (hne : subjectDID c ≠ some s) :
    verifyVP cfg P E vf au at_ vp ≠ .ok () := by
  intro h
  obtain ⟨s', d, hs', hd, hsd, _, _, _⟩ := verifyVP_ok_iff.mp h
  cases hs.symm.trans hs'
  exact hne (signer_is_subject hd hsd c hc)

/-- when the revocation store cannot answer, no credential that has an id is reported valid — by `Verify` under any flags (so neither
    by the API, nor by Resolve / Search / wallet.List, which all call it) -/
theorem revocation_store_fault_is_never_valid (cfg : Cfg) (P : Crypto) (E : Env) (au cs : Bool) (at_ : Option Time) (c : Cred)
    (hf : E.storeFails = true) (hid : c.id.isSome = true) :
    verify cfg P E au cs at_ c ≠ .ok () := by
  obtain ⟨id, hid⟩ := Option.isSome_iff_exists.mp hid
  exact verify_ne_ok_of_revoked hid (.inl hf)

/-- … nor inside a presentation whose credentials are verified -/
theorem revocation_store_fault_is_never_valid_vp (cfg : Cfg) (P : Crypto) (E : Env) (au : Bool) (at_ : Option Time) (vp : Pres) (c : Cred)
    (hf : E.storeFails = true) (hc : c ∈ vp.vcs) (hid : c.id.isSome = true) :
    verifyVP cfg P E true au at_ vp ≠ .ok () :=
  verifyVP_ne_ok_of_vc hc fun _ => revocation_store_fault_is_never_valid cfg P E au _ at_ c hf hid

example : verifyVP exCfg exP exE2 true false (some 2000) { exVP with vcs := [exC, { exC with subjects := some [.did "did:x:victim"] }] } ≠ .ok () := by decide +kernel
example : verifyVP exCfg exP exE2 true false (some 2000) { exVP with vcs := [{ exC with subjects := some [.did "did:x:victim"] }, exC] } ≠ .ok () := by decide +kernel
example : verify exCfg exP { exE with storeFails := true } false true (some 2000) exC = .err "store-error" := by decide +kernel

def getRevocationsReturnsSrc : List String :=
  [ "results,err := s.revocationCollection().Find(context.Background(),query); err != nil => fmt.Errorf(\"error while getting revocation by id: %w\",err)",
    "len(results) == 0 => ErrNotFound",
    "range results && err := json.Unmarshal(result,revocation); err != nil => err" ]

/-- the real store's read keeps its two outcomes apart: a failing query is an error of its own, only an empty result is ErrNotFound
    (which IsRevoked — see fact_wiring — turns into "not revoked") -/
theorem fact_revocation_store_read_errors : Nuts.Facts.C01.getRevocationsReturns = getRevocationsReturnsSrc := by rfl

/-- the curve → algorithm switch of crypto/jwx.AlgorithmFitsKey, regenerated from the source, IS the model's `algorithmFitsKey`
    (for every algorithm and key kind); the switch's default lets other curves pass -/
theorem fact_algorithm_fits_key_table (alg kind : String) :
    algorithmFitsKey alg kind = algorithmFitsKeyT Nuts.Facts.C01.curveAlgTable alg kind ∧ Nuts.Facts.C01.curveAlgDefault = "true" := by
  refine ⟨?_, rfl⟩
  unfold algorithmFitsKey algorithmFitsKeyT Nuts.Facts.C01.curveAlgTable
  by_cases h1 : kind = "P-256"
  · subst h1; simp [List.find?]
  · by_cases h2 : kind = "P-384"
    · subst h2; simp [List.find?]
    · by_cases h3 : kind = "P-521"
      · subst h3; simp [List.find?]
      · have e1 : ("P-256" == kind) = false := by simp; exact fun h => h1 h.symm
        have e2 : ("P-384" == kind) = false := by simp; exact fun h => h2 h.symm
        have e3 : ("P-521" == kind) = false := by simp; exact fun h => h3 h.symm
        simp [List.find?, h1, h2, h3, e1, e2, e3]

/-- the status-list constants the default validator and the status check compare with are the source's -/
theorem fact_status_list_constants : Nuts.Facts.C01.c_StatusList2021EntryType = statusListEntryType ∧
    Nuts.Facts.C01.c_W3cStatusList2021Context = statusListContext ∧
    Nuts.Facts.C01.c_StatusList2021ContextURI_expr = "ssi.MustParseURI(jsonld.W3cStatusList2021Context)" := ⟨rfl, rfl, rfl⟩

/-! ## compositions across layers: issuer → validator → subject; REST → VerifyVP -/

theorem issued_credential_passes_its_validator (P : Crypto) (E : Env) (sign : Key → Bytes → Sig) (allDefined : Cred → Bool)
    (rawOf : Cred → String) (fmt : Format) (t : Template) (uuid : String) (now : Time) (c : Cred)
    (h : issue P E sign allDefined rawOf fmt t uuid now = .ok c) :
    validate E c = .pass ∧ c.shapeOK = t.shapeOK ∧ c.types = (if t.types.contains vcType then t.types else t.types ++ [vcType]) := by
  obtain ⟨_, _, _, _, _, _, hv, ⟨_, _, rfl⟩ | ⟨_, rfl⟩⟩ := issue_ok h <;> exact ⟨hv, rfl, rfl⟩

/-- END TO END (template → issuer → subject): the node's own issuer never signs-and-returns a NutsAuthorizationCredential whose subject is
    malformed: whatever `Issue` returns has one subject with a DID id, a non-blank purposeOfUse and only well-formed resources with
    operations of the regenerated allow-list -/
theorem issuer_refuses_malformed_authorization_credential (P : Crypto) (E : Env) (sign : Key → Bytes → Sig) (allDefined : Cred → Bool)
    (rawOf : Cred → String) (fmt : Format) (t : Template) (uuid : String) (now : Time) (c : Cred) (s : SubjectView)
    (hs : t.shapeOK = shapeOf Nuts.Facts.C01.validOperationTypes E t.types s) (ht : findValidator t.types = .auth)
    (h : issue P E sign allDefined rawOf fmt t uuid now = .ok c) :
    s.n = 1 ∧ blank s.id = false ∧ (E.parseDID s.id).isSome = true ∧ blank s.purposeOfUse = false ∧
    ∀ r ∈ s.resources, blank r.path = false ∧ r.operations ≠ [] ∧
      ∀ o ∈ r.operations, goLower o ∈ Nuts.Facts.C01.validOperationTypes := by
  obtain ⟨hv, hsh, hty⟩ := issued_credential_passes_its_validator P E sign allDefined rawOf fmt t uuid now c h
  have hfc : findValidator c.types = .auth := by
    rw [hty]; split
    · exact ht
    · rw [findValidator_append_vcType]; exact ht
  have h1 : c.shapeOK = true := (validate_pass hv).2 (by rw [hfc]; decide)
  rw [hsh, hs] at h1
  simp only [shapeOf, ht] at h1
  exact authShape_well_formed h1

/-- POST /internal/vcr/v2/verifier/vp: a presentation the API reports valid (credentials verified: the default) has a signer that is
    the subject of every credential it carries, and every carried credential is reported valid by `Verify` (the first, second and
    fifth conjunct of `vp_valid_only_if`), with trust in the credentials' issuers REQUIRED exactly when the signer is a did:nuts DID -/
theorem api_vp_valid_only_if (cfg : Cfg) (P : Crypto) (E : Env) (option : Option Bool) (at_ : Option Time) (vp : Pres)
    (ho : option ≠ some false) (h : apiVerifyVP cfg P E option at_ vp = .ok ()) :
    ∃ s, presentationSigner E vp = some s ∧
      (∀ c ∈ vp.vcs, subjectDID c = some s) ∧
      (∀ c ∈ vp.vcs, verify cfg P E (!("did:nuts:".toList.isPrefixOf s.toList)) (vcCheckSig vp c) at_ c = .ok ()) := by
  unfold apiVerifyVP at h
  cases hs : presentationSigner E vp with
  | none => rw [hs] at h; cases h
  | some s =>
    rw [hs] at h
    simp only at h
    have hopt : option.getD true = true := by
      cases option with
      | none => rfl
      | some b => cases b with
        | true => rfl
        | false => exact absurd rfl ho
    rw [hopt] at h
    obtain ⟨s', hs', hall, _, _, hv, _⟩ := vp_valid_only_if cfg P E _ at_ vp h
    rw [hs] at hs'; injection hs' with hs'; subst hs'
    exact ⟨s, rfl, hall, hv⟩

example : (issue exP exE3 exSign (fun _ => true) (fun _ => "hdr.claims") .ld
    { exT with types := [authType], ctx := [vcContextV1, nutsContextV1], shapeOK := shapeOf Nuts.Facts.C01.validOperationTypes exE3 [authType] exAuthSubj } "1" 1000).isOk = true := by decide +kernel
example : apiVerifyVP exCfg exP exE none (some 2000) exVP = .ok () := by decide +kernel

/-! ## StatusList2021Entry.Validate inside the model -/

theorem entryValidOf_iff (u ok : Bool) (s : Status) :
    entryValidOf u ok s = true ↔
      u = true ∧ s.id ≠ s.listCred ∧ s.typ = statusListEntryType ∧ s.purpose ≠ "" ∧ s.index.isSome = true ∧ ok = true := by
  simp [entryValidOf, Option.isSome_iff_ne_none]

/-- END TO END (status entry → validator → Verify): every StatusList2021Entry of a credential that `Verify` reports valid decodes, has an id
    that is not the list's URL, names a purpose, a non-negative index and a list credential that is a URL; and the credential lists the
    status-list context — so the status check that follows reads a well-formed entry -/
theorem accepted_credential_has_well_formed_status_entries (cfg : Cfg) (P : Crypto) (E : Env) (au cs : Bool) (at_ : Option Time) (c : Cred)
    (u ok : Status → Bool)
    (hc : ∀ l, c.statuses = some l → ∀ s ∈ l, s.typ = statusListEntryType → s.entryValid = entryValidOf (u s) (ok s) s)
    (h : verify cfg P E au cs at_ c = .ok ()) :
    ∃ l, c.statuses = some l ∧ ∀ s ∈ l, s.id ≠ "" ∧ s.typ ≠ "" ∧
      (s.typ = statusListEntryType → c.ctx.contains statusListContext = true ∧ u s = true ∧ s.id ≠ s.listCred ∧ s.purpose ≠ "" ∧
        s.index.isSome = true ∧ ok s = true) := by
  have hv := (verify_ok_iff.mp h).1
  obtain ⟨_, _, _, _, _, hs⟩ := validateDefault_pass_iff.mp (validate_pass hv).1
  revert hs
  fun_cases statusSyntaxOK c with
  | case1 => nofun
  | case2 l hl =>
    intro hs
    refine ⟨l, hl, fun s hsm => ?_⟩
    have := List.all_eq_true.mp hs s hsm
    simp only [Bool.and_eq_true, bne_iff_ne, ne_eq, Bool.or_eq_true] at this
    obtain ⟨⟨h1, h2⟩, h3⟩ := this
    refine ⟨h1, h2, fun ht => ?_⟩
    rcases h3 with h3 | ⟨h3, h4⟩
    · exact absurd ht (by simpa using h3)
    · rw [hc l hl s hsm ht] at h4
      obtain ⟨a, b, _, d, e, f⟩ := (entryValidOf_iff _ _ _).mp h4
      exact ⟨h3, a, b, d, e, f⟩

example : entryValidOf true true { id := "https://x/s#1", typ := statusListEntryType, purpose := "revocation", indexText := "1", listCred := "https://x/s" } = true ∧
    entryValidOf true true { id := "https://x/s", typ := statusListEntryType, purpose := "revocation", indexText := "1", listCred := "https://x/s" } = false ∧
    entryValidOf true true { id := "https://x/s#1", typ := statusListEntryType, purpose := "revocation", indexText := "1e0", listCred := "https://x/s" } = false := by decide +kernel

def statusEntryValidateReturnsSrc : List String :=
  ["e.ID == e.StatusListCredential => errors.New(\"StatusList2021Entry.id is the same as the StatusList2021Entry.statusListCredential\")", "e.Type != StatusList2021EntryType => errors.New(\"StatusList2021Entry.type must be StatusList2021Entry\")", "e.StatusPurpose == \"\" => errors.New(\"StatusList2021Entry.statusPurpose is required\")", "n,err := strconv.Atoi(e.StatusListIndex); err != nil || n < 0 => errors.New(\"invalid StatusList2021Entry.statusListIndex\")", "_,err := url.ParseRequestURI(e.StatusListCredential); err != nil => fmt.Errorf(\"parse StatusList2021Entry.statusListCredential URL: %w\",err)"]

theorem fact_status_entry_validate_sequence : Nuts.Facts.C01.statusEntryValidateReturns = statusEntryValidateReturnsSrc := by rfl

end Nuts.C01.Props
