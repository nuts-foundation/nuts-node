/-
  C09 — the change-log side of the node's own publishing path (`Manager.Commit`, `onUpdate`,
  `onCreate`, `Deactivate`, key naming of `NewDocument`) and its composition with the receiving ambassador.
  Model: NutsModel/C09/Commit.lean.
-/
import NutsModel.C09.Commit
import NutsModel.Facts.C09
import NutsModel.Facts.C10
import NutsProofs.Props.C09Manager
import NutsProofs.Lemmas.C09Validators

namespace Nuts.C09.Props
open Nuts Nuts.C10 Nuts.C09

/-! ### obligations on the regenerated facts -/

/-- `Commit` switches on `change.Type`: created -> onCreate, deactivated -> onDeactivate (= `m.Deactivate`), updated ->
    onUpdate, default -> error; the three constants are the strings the SQL layer writes -/
theorem fact_commit_dispatch :
    Facts.C09.commitSwitch =
      [("orm.DIDChangeCreated", "m.onCreate(ctx, change)"), ("orm.DIDChangeDeactivated", "m.onDeactivate(ctx, change)"),
       ("orm.DIDChangeUpdated", "m.onUpdate(ctx, change)"), ("default", "fmt.Errorf(\"unknown event type: %s\", change.Type)")] ∧
    Facts.C09.onDeactivateIs = "m.Deactivate(ctx, event.DID())" ∧
    Facts.C09.changeTypeConstants = [("DIDChangeCreated", "created"), ("DIDChangeUpdated", "updated"), ("DIDChangeDeactivated", "deactivated")] :=
  ⟨rfl, rfl, rfl⟩

/-- `onUpdate`: resolver lookup (AllowDeactivated), `IsDeactivated(document)` => `return nil`, THEN the proposal is parsed,
    validated by `ManagedDocumentValidator`, and the same tail as `Update` (key choice, controller metadata, template,
    network); no `withJSONLDContext`, no `m.store.Add` -/
theorem fact_on_update_steps :
    Facts.C09.onUpdateCalls =
      ["m.resolver.Resolve(id, resolverMetadata)", "resolver.IsDeactivated(*currentDIDDocument)",
       "event.DIDDocumentVersion.ToDIDDocument()", "ManagedDocumentValidator(serviceResolver)",
       "m.resolveControllerWithKey(ctx, *currentDIDDocument)", "m.resolver.Resolve(controller.ID, nil)",
       "network.TransactionTemplate(DIDDocumentType, payload, kid)", "m.networkClient.CreateTransaction(ctx, networkTransaction)"] ∧
    Facts.C09.onUpdateDeactivatedTest = "resolver.IsDeactivated(*currentDIDDocument) => return nil" ∧
    Facts.C09.onUpdatePrevs = Facts.C09.managerUpdatePrevs ∧
    Facts.C09.onUpdateTemplate = Facts.C09.managerUpdateTemplate :=
  ⟨rfl, rfl, rfl, rfl⟩

/-- `onCreate`: no validator call, no store call; kid and attached key come from `VerificationMethod[0]`, prevs are an
    empty slice -/
theorem fact_on_create_template :
    Facts.C09.onCreateCalls =
      ["event.DIDDocumentVersion.ToDIDDocument()", "didDocument.VerificationMethod[0].PublicKey()",
       "network.TransactionTemplate(DIDDocumentType, payload, didDocument.VerificationMethod[0].ID.String())",
       "m.networkClient.CreateTransaction(transactionContext, networkTx)"] ∧
    Facts.C09.onCreateTemplate =
      "network.TransactionTemplate(DIDDocumentType, payload, didDocument.VerificationMethod[0].ID.String()).WithAttachKey(publicKey).WithAdditionalPrevs(refs)" ∧
    Facts.C09.onCreateRefs = "make([]hash.SHA256Hash, 0)" :=
  ⟨rfl, rfl, rfl⟩

/-- `getKIDName`: method, id string from the naming function, fragment = the JWK's assigned key id; `DIDKIDNamingFunc`
    names with `nutsCrypto.Thumbprint` — the SAME function `handleCreateDIDDocument` compares the DID with;
    `NewDocument` asks the key store with `DIDKIDNamingFunc` and builds the method from the parsed kid -/
theorem fact_kid_naming :
    Facts.C09.kidAssembly = [("kid.Method", "MethodName"), ("kid.ID", "idString"), ("kid.Fragment", "jwKey.KeyID()")] ∧
    Facts.C09.didKIDNamingIdFunc = "nutsCrypto.Thumbprint" ∧
    Facts.C09.createThumbprintFunc = "nutsCrypto.Thumbprint" ∧
    Facts.C09.didSubKIDNamingId = "owningDID.ID" ∧
    Facts.C09.newDocumentNaming = "m.keyStore.New(ctx, DIDKIDNamingFunc)" ∧
    Facts.C09.newDocumentVM = "did.NewVerificationMethod(*keyID, ssi.JsonWebKey2020, keyID.DID, publicKey)" ∧
    Facts.C09.methodName = "nuts" :=
  ⟨rfl, rfl, rfl, rfl, rfl, rfl, rfl⟩

/-- **What `onUpdate` publishes.** An update template leaves `onUpdate` only if the latest version of the DID is not a
    deactivated DOCUMENT, the proposal parses and passes the network validator rules and the managed-service check, the
    kid is a capabilityInvocation entry of an ACTIVE controller of the latest version whose key this node holds, and
    the prevs are the latest version's source transactions followed by that controller's. -/
theorem managerOnUpdate_sound (c : Cfg) (s : Store) (has : String → Bool) (svcOk : Bool) (id : String) (next : Option NDoc) (p : Published)
    (h : managerOnUpdate c s has svcOk id next = .ok (.update p)) :
    ∃ cur curMeta d ctrls ctrl ctrlDoc ctrlMeta,
      resolve s id (some { allowDeactivated := true }) = .ok (cur, curMeta) ∧ isDeactivated cur = false ∧ next = some d ∧
      validate c.thumb c.vmNilJwkErr c.validators d = .ok () ∧ svcOk = true ∧
      managerControllers c.maxDepth s cur = .ok ctrls ∧ ctrl ∈ ctrls ∧ isDeactivated ctrl = false ∧
      (∃ e ∈ ctrl.f .capInv, e.id = p.kid) ∧ has p.kid = true ∧
      resolve s ctrl.id none = .ok (ctrlDoc, ctrlMeta) ∧
      p.prevs = curMeta.sourceTx ++ ctrlMeta.sourceTx ∧ p.doc = d := by
  revert h
  fun_cases managerOnUpdate c s has svcOk id next with
  | case5 cur curMeta hr hd d p' ht =>
    intro h
    cases h
    obtain ⟨ctrls, ctrl, ctrlDoc, ctrlMeta, hrest⟩ := publishTail_sound c s has svcOk cur curMeta d p ht
    exact ⟨cur, curMeta, d, ctrls, ctrl, ctrlDoc, ctrlMeta, hr, by simpa using hd, rfl, hrest⟩
  | _ => nofun

/-- **A deactivated document is never updated through the change log**: `onUpdate` publishes nothing and reports no
    error, whatever the proposal and the key store are -/
theorem managerOnUpdate_deactivated_publishes_nothing (c : Cfg) (s : Store) (has : String → Bool) (svcOk : Bool) (id : String)
    (next : Option NDoc) (cur : Doc) (m : Meta)
    (hr : resolve s id (some { allowDeactivated := true }) = .ok (cur, m)) (hd : isDeactivated cur = true) :
    managerOnUpdate c s has svcOk id next = .ok .nothing := by
  unfold managerOnUpdate
  rw [hr]
  simp [hd]

/-- **The two update paths agree.** Whenever the store's `Deactivated` flag of the latest version says what
    `IsDeactivated` says of the document (always so for unconflicted DIDs) and the document is active, the change-log
    path publishes EXACTLY the template `Manager.Update` publishes for the same proposal, and fails with the same error. -/
theorem onUpdate_agrees_with_update (c : Cfg) (s : Store) (has : String → Bool) (svcOk : Bool) (id : String) (d : NDoc)
    (cur : Doc) (m : Meta) (hr : resolve s id (some { allowDeactivated := true }) = .ok (cur, m))
    (hflag : m.deactivated = false) (hdoc : isDeactivated cur = false) :
    managerOnUpdate c s has svcOk id (some d) =
      (match managerUpdate c s has svcOk id d with
       | .ok p => .ok (.update p)
       | .err e => .err e
       | .panic x => .panic x) := by
  rw [managerUpdate_eq_tail]
  unfold managerOnUpdate
  rw [hr]
  simp only [hflag, hdoc, Bool.false_eq_true, if_false]
  cases publishTail c s has svcOk cur m d <;> rfl

/-- ... and where they differ, `Update`'s side: with the flag set `Update` refuses whatever the document looks like — also
    an active-looking one (a conflicted DID one of whose branches is deactivated), on which `onUpdate`, which tests the
    document and not the flag (`managerOnUpdate_deactivated_publishes_nothing`), goes on -/
theorem update_refuses_on_flag (c : Cfg) (s : Store) (has : String → Bool) (svcOk : Bool) (id : String) (d : NDoc)
    (cur : Doc) (m : Meta) (hr : resolve s id (some { allowDeactivated := true }) = .ok (cur, m)) (hflag : m.deactivated = true) :
    managerUpdate c s has svcOk id d = .err "mgr:deactivated" :=
  managerUpdate_deactivated_refused c s has svcOk id d cur m hr hflag

/-! ### `onCreate` and the receiving ambassador -/

theorem managerOnCreate_ok (next : Option NDoc) (tp : Template) (h : managerOnCreate next = .ok tp) :
    ∃ d v rest k, next = some d ∧ d.vmNull = false ∧ d.vms = v :: rest ∧ v.key = .key k ∧ v.pkUnsupported = false ∧
      tp = .create v.id k d := by
  revert h
  fun_cases managerOnCreate next with
  | case4 d hn v rest hv k hk =>
    intro h
    cases h
    revert hk
    fun_cases vmPublicKey v with
    | case2 hp k' hkey => exact fun hk => ⟨d, v, rest, k, rfl, by simpa using hn, hv, Res.ok.inj hk ▸ hkey, by simpa using hp, rfl⟩
    | _ => nofun
  | _ => nofun

/-- the creation template names `VerificationMethod[0]` and attaches ITS key; the payload is the proposal, unvalidated -/
theorem managerOnCreate_sound (next : Option NDoc) (kid : String) (k : Key) (d : NDoc)
    (h : managerOnCreate next = .ok (.create kid k d)) :
    next = some d ∧ d.vmNull = false ∧ ∃ v rest, d.vms = v :: rest ∧ v.id = kid ∧ v.key = .key k ∧ v.pkUnsupported = false := by
  obtain ⟨d', v, rest, k', hn, hnull, hv, hkey, hp, htp⟩ := managerOnCreate_ok next _ h
  cases htp
  exact ⟨hn, hnull, v, rest, hv, rfl, hkey, hp⟩

/-- `onCreate` never produces an update template, `onUpdate` never a creation -/
theorem commit_template_kind (c : Cfg) (s : Store) (has : String → Bool) (svcOk : Bool) (t : ChangeType) (id : String)
    (next : Option NDoc) (dnext : NDoc) (tp : Template) (h : managerCommit c s has svcOk t id next dnext = .ok tp) :
    (t = .created ∧ ∃ kid k d, tp = .create kid k d) ∨
    (t = .deactivated ∧ ∃ p, tp = .update p ∧ managerUpdate c s has svcOk id dnext = .ok p) ∨
    (t = .updated ∧ ((∃ p, tp = .update p) ∨ tp = .nothing)) := by
  cases t with
  | created =>
    obtain ⟨d, v, _, k, _, _, _, _, _, rfl⟩ := managerOnCreate_ok next tp h
    exact Or.inl ⟨rfl, _, _, _, rfl⟩
  | deactivated =>
    simp only [managerCommit] at h
    split at h
    · rename_i p hu
      cases h
      exact Or.inr (Or.inl ⟨rfl, p, rfl, hu⟩)
    · cases h
    · cases h
  | updated =>
    refine Or.inr (Or.inr ⟨rfl, ?_⟩)
    revert h
    simp only [managerCommit]
    fun_cases managerOnUpdate c s has svcOk id next with
    | case3 => exact fun h => .inr (Res.ok.inj h).symm
    | case5 _ _ _ _ _ p => exact fun h => .inl ⟨p, (Res.ok.inj h).symm⟩
    | _ => nofun
  | other => simp [managerCommit] at h

/-- **What this node creates, as the receiving ambassadors judge it.** The transaction made from `onCreate`'s template
    (attached key embedded, signed with it) passes the DAG verifier, and the ambassador accepts it IFF the document —
    which `onCreate` did not validate — passes the network validator and its DID is the thumbprint of the key of
    `VerificationMethod[0]` (and the store takes it). -/
theorem created_template_accepted_iff (c : Cfg) (s s' : Store) (next : Option NDoc) (kid : String) (k : Key) (d : NDoc)
    (ref clock sigTime : Nat) (prevs : List Nat) (ph : String)
    (h : managerOnCreate next = .ok (.create kid k d)) :
    deliver c s (createdTx k ref clock sigTime prevs ph) (some d) = .ok s' ↔
      (validate c.thumb c.vmNilJwkErr c.validators d = .ok () ∧ d.idID = c.didThumb k ∧
       storeAdd c s (createdTx k ref clock sigTime prevs ph) d = .ok s') := by
  unfold deliver verifySig callback checkTransactionIntegrity handleCreate
  simp only [createdTx, Bool.not_true, Bool.false_eq_true, if_false, if_true]
  cases hv : validate c.thumb c.vmNilJwkErr c.validators d with
  | err e => simp
  | panic x => simp
  | ok u =>
    cases u
    by_cases hid : d.idID = c.didThumb k
    · simp [hid]
    · simp [hid]

/-- the verification method named by `getKIDName` satisfies the Nuts verification-method rules of the document that
    owns the id string (used by `NewDocument` with the key's own thumbprint and by `didSubKIDNamingFunc` with the owning
    DID): fragment present, id prefixed by the owner, fragment = thumbprint of the key -/
theorem namedVM_passes_validator (thumb : Key → String) (nilErr : Bool) (on : Rule → Bool) (idString : String) (k : Key)
    (known : List String) (hne : thumb k ≠ "") (hnew : known.contains (getKIDName thumb idString k) = false) :
    validateVMs thumb nilErr on ("did:nuts:" ++ idString) [namedVM thumb idString k] known = .ok () := by
  have hn : ¬ getKIDName thumb idString k ∈ known := by simpa using hnew
  simp [validateVMs, namedVM, entryIdErr, hne, hn]

/-- **A DID created by this node is accepted by every ambassador.** For every key the key store generates (non-empty
    thumbprint), `NewDocument`'s document goes through `onCreate` unchanged with kid `did:nuts:<thumb>#<thumb>` and the
    key attached, and the resulting transaction is accepted by the DAG verifier and the ambassador of ANY node — the
    only thing that can still refuse it is that node's store. -/
theorem newDocument_accepted (c : Cfg) (s : Store) (k : Key) (ref clock sigTime : Nat) (prevs : List Nat) (ph : String)
    (hv : c.validators = Facts.C09.networkValidators) (hne : c.thumb k ≠ "") :
    managerOnCreate (some (newDocument c k)) = .ok (.create (didKIDName c k) k (newDocument c k)) ∧
    deliver c s (createdTx k ref clock sigTime prevs ph) (some (newDocument c k)) =
      storeAdd c s (createdTx k ref clock sigTime prevs ph) (newDocument c k) := by
  constructor
  · simp [managerOnCreate, newDocument, vmPublicKey, namedVM, didKIDName]
  · have hwf : WellFormedNuts c.thumb (newDocument c k) := by
      simp [WellFormedNuts, WellFormedCore, W3COk, vmW3COk, newDocument, namedVM, hne]
    have hval : validate c.thumb c.vmNilJwkErr c.validators (newDocument c k) = .ok () :=
      hv ▸ (validate_ok_iff _ _ _).mpr hwf
    unfold deliver verifySig callback checkTransactionIntegrity handleCreate
    simp only [createdTx, Bool.not_true, Bool.false_eq_true, if_false, if_true, hval]
    simp [newDocument]

/-- the document `Deactivate` proposes is a deactivated document: no controller, no capabilityInvocation -/
theorem deactivationDoc_is_deactivated (id idID : String) (ctxs : List String) :
    isDeactivated (deactivationDoc id idID ctxs).toDoc = true := by
  simp [isDeactivated, deactivationDoc, NDoc.toDoc]

/-! ### non-vacuity -/
private def cfgK : Cfg :=
  { thumb := fun k => k, didThumb := fun k => "D" ++ k, maxDepth := Facts.C09.maxControllerDepth,
    validators := Facts.C09.networkValidators, vmNilJwkErr := Facts.C09.verifyThumbprintGuardsNilJwk,
    findKeyNilJwkErr := Facts.C09.findKeyGuardsNilJwk, store := cfgOf (fun _ l => l) Facts.C10.mergeSortedFields }
private def vmK (k : String) : NVM := { id := "did:nuts:Da#" ++ k, pfx := "did:nuts:Da", frag := k, key := .key k }
private def docK (keys : List String) : NDoc :=
  { id := "did:nuts:Da", idID := "Da", vms := keys.map vmK, capInv := keys.map vmK }
private def sK : Store := (step cfgK {} (createdTx "a" 100 0 10 [] "p100") (some (newDocument cfgK "a"))).1
private def sK2 : Store :=
  (step cfgK sK { ref := 200, clock := 1, sigTime := 20, prevs := [100], payloadHash := "p200",
                  kid := { holder := "did:nuts:Da", id := "did:nuts:Da#a" }, signer := "a" } (some (deactivationDoc "did:nuts:Da" "Da" []))).1
private def showT (r : Res Template) : String :=
  match r with
  | .ok (.update p) => s!"update {p.kid} {p.prevs}"
  | .ok (.create kid k _) => s!"create {kid} {k}"
  | .ok .nothing => "nothing"
  | .err e => e | .panic x => x

/-- the node's own creation is stored by an (empty) receiving node: `newDocument_accepted` is not vacuous -/
example : (step cfgK {} (createdTx "a" 100 0 10 [] "p100") (some (newDocument cfgK "a"))).2 = "ok" := by decide
example : showT (managerCommit cfgK sK (fun _ => true) true .created "did:nuts:Da" (some (newDocument cfgK "a")) default)
    = "create did:nuts:Da#a a" := by decide
example : showT (managerCommit cfgK sK (fun _ => true) true .updated "did:nuts:Da" (some (docK ["a", "b"])) default)
    = "update did:nuts:Da#a [100, 100]" := by decide +kernel
example : showT (managerCommit cfgK sK (fun _ => true) true .deactivated "did:nuts:Da" none (deactivationDoc "did:nuts:Da" "Da" []))
    = "update did:nuts:Da#a [100, 100]" := by decide +kernel
example : showT (managerCommit cfgK sK (fun _ => true) true .other "did:nuts:Da" none default) = "mgr:unknown-event-type" := by decide
/-- after the deactivation was received: `onUpdate` is silent, `Update` (hence `Deactivate`) refuses -/
example : showT (managerCommit cfgK sK2 (fun _ => true) true .updated "did:nuts:Da" (some (docK ["a"])) default) = "nothing" := by decide +kernel
example : showT (managerCommit cfgK sK2 (fun _ => true) true .deactivated "did:nuts:Da" none (deactivationDoc "did:nuts:Da" "Da" []))
    = "mgr:deactivated" := by decide +kernel
example : showT (managerOnCreate (some (docK []))) = "onCreate:VerificationMethod[0]" := by decide
/-- a creation whose first method is not the DID's key is published by `onCreate` and refused by the ambassador -/
example : showT (managerOnCreate (some (docK ["b", "a"]))) = "create did:nuts:Da#b b" ∧
    (step cfgK {} (createdTx "b" 100 0 10 [] "p100") (some (docK ["b", "a"]))).2 = "err:create:thumbprint-mismatch" := by decide +kernel

end Nuts.C09.Props
