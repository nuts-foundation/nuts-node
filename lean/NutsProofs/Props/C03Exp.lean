/-
  C03 — property theorems about the key EXPORT command (crypto/cmd: fs2vault): which names can reach
  the target backend, under which path, with which key, and what the command prints. After them: the PEM codec every
  stored key passes through (crypto/util/pem.go) and the in-memory signer's kid guard (crypto/memory.go).
-/
import NutsModel.C03.Export
import NutsModel.C03.Pem
import NutsModel.C03.Jws
import NutsModel.Facts.C03
import NutsProofs.Props.C03
import NutsProofs.Props.C03Api

namespace Nuts.C03.Props
open Nuts Nuts.C03 Nuts.Facts

/-- the loop of `exportToOtherStorage`, statement by statement (what `exportLoop` mirrors): get, first error ends the run
    with the names so far; save; `ErrKeyAlreadyExists` is skipped; any other error ends the run; only then the name is appended -/
theorem fact_export_loop_shape :
    C03.exportLoopStmts =
      ["decl:var result []string", "assign:keys := source.ListPrivateKeys(ctx)", "range:_,keyNameVersion:keys",
       ">assign:keyName := keyNameVersion.KeyName", ">assign:version := keyNameVersion.Version",
       ">assign:privateKey, err := source.GetPrivateKey(ctx, keyName, version)", ">if:;err != nil",
       ">>return:return result, fmt.Errorf(\"unable to retrieve private key (kid=%s): %w\", keyName, err)",
       ">assign:err = target.SavePrivateKey(ctx, keyName, privateKey)", ">if:;err != nil",
       ">>if:;errors.Is(err, spi.ErrKeyAlreadyExists)", ">>>branch:continue",
       ">>return:return result, fmt.Errorf(\"unable to store private key in Vault (kid=%s): %w\", keyName, err)",
       ">assign:result = append(result, keyName)", "return:return result, nil"] := rfl

/-- the two error wordings carry the key NAME and the cause, nothing else (no `privateKey` argument) -/
theorem fact_export_error_wording :
    C03.exportErrCalls = ["unable to retrieve private key (kid=%s): %w|keyName|err", "unable to store private key in Vault (kid=%s): %w|keyName|err"] ∧
    C03.exportGetErr = ("unable to retrieve private key (kid=", "): ", "") ∧
    C03.exportSaveErr = ("unable to store private key in Vault (kid=", "): ", "") := ⟨rfl, rfl, rfl⟩

/-- `fs2vault` is the only registered command; it wraps the Vault backend in the validating wrapper (KidPattern) BEFORE it
    hands it to `fsToOtherStorage`, whose source is the bare fs backend of the given directory -/
theorem fact_fs2vault_target_wrapped :
    C03.cryptoServerCmds = ["fs2VaultCommand()"] ∧
    C03.fs2vaultTargetSteps =
      ["assign:target, err := vault.NewVaultKVStorage(config.Vault)",
       "assign:target = spi.NewValidatedKIDBackendWrapper(target, spi.KidPattern)",
       "assign:keys, err := fsToOtherStorage(cmd.Context(), directory, target)"] ∧
    C03.fsToOtherStmts =
      ["assign:source, err := fs.NewFileSystemBackend(sourceDir)", "if:;err != nil",
       ">return:return nil, fmt.Errorf(\"unable to initialize filesystem storage: %w\", err)",
       "return:return exportToOtherStorage(ctx, source, target)"] := ⟨rfl, rfl, rfl⟩

/-- the export command applies the SAME gate as the running node: the wrapper call and pattern of every setup function of
    `crypto.Configure` (regenerated `setupFns`) are the ones `fs2vault` puts around its target -/
theorem fact_export_uses_the_nodes_validation :
    C03.setupFns ≠ [] ∧
    ∀ r ∈ C03.setupFns, ("assign:target = " ++ r.2.2.2.1 ++ "(target, " ++ r.2.2.2.2.2 ++ ")") ∈ C03.fs2vaultTargetSteps := by decide +kernel

theorem wrappedSave_cases (valid : Bytes → Bool) (txt : Bytes → String) (fault : Bytes → Option String)
    (t t' : Tgt) (n : Bytes) (k : Nat) (o : SaveOut) (h : wrappedSave valid txt fault t n k = (t', o)) :
    (t' = t ∧ o ≠ .ok) ∨ (o = .ok ∧ t' = t ++ [(n, k)] ∧ valid n = true ∧ tgtHas t n = false) := by
  revert h
  fun_cases wrappedSave valid txt fault t n k with
  | case1 | case2 | case3 => rintro ⟨⟩; exact .inl ⟨rfl, nofun⟩
  | case4 hv _ hh => rintro ⟨⟩; exact .inr ⟨rfl, rfl, by simpa using hv, by simpa using hh⟩

theorem wrappedSave_gated (valid : Bytes → Bool) (txt : Bytes → String) (fault : Bytes → Option String) :
    GatedSave valid (wrappedSave valid txt fault) :=
  fun t n k t' o h => (wrappedSave_cases valid txt fault t t' n k o h).imp_right fun ⟨a, b, c, _⟩ => ⟨a, b, c⟩

theorem wrappedPut_gated (valid : Bytes → Bool) (txt : Bytes → String) (fault : Bytes → Option String) :
    GatedSave valid (wrappedPut valid txt fault) := by
  intro t n k t' o
  fun_cases wrappedPut valid txt fault t n k with
  | case1 | case2 => rintro ⟨⟩; exact .inl ⟨rfl, nofun⟩
  | case3 hv => rintro ⟨⟩; exact .inr ⟨rfl, rfl, by simpa using hv⟩

/-- **the command prints only listed names**: the exported names are, in order, a sub-list of what the source listed
    (no name is invented, none is printed twice unless listed twice) — for every source, target and starting state -/
theorem export_lists_only_listed_names {σ : Type} (ge se : String × String × String) (txt : Bytes → String)
    (get : Bytes → SrcGet) (save : σ → Bytes → Nat → σ × SaveOut) :
    ∀ (names : List Bytes) (t : σ) (acc : List Bytes),
      ∃ l, (exportLoop ge se txt get save names t acc).exported = acc ++ l ∧ l.Sublist names := by
  intro names t acc
  fun_induction exportLoop ge se txt get save names t acc with
  | case1 => exact ⟨[], by simp, .slnil⟩
  | case2 => exact ⟨[], by simp, List.nil_sublist _⟩
  | case3 _ _ _ _ _ _ _ _ ih => obtain ⟨l, h1, h2⟩ := ih; exact ⟨l, h1, h2.cons _⟩
  | case4 => exact ⟨[], by simp, List.nil_sublist _⟩
  | case5 n _ _ _ _ _ _ _ ih => obtain ⟨l, h1, h2⟩ := ih; exact ⟨n :: l, by simp [h1], h2.cons_cons _⟩

theorem gated_not_ok {valid : Bytes → Bool} {save : Tgt → Bytes → Nat → Tgt × SaveOut} (hsave : GatedSave valid save)
    {t t' : Tgt} {n : Bytes} {k : Nat} {o : SaveOut} (hs : save t n k = (t', o)) (ho : o ≠ .ok) : t' = t :=
  (hsave t n k t' o hs).elim (·.1) (absurd ·.1 ho)

theorem gated_ok {valid : Bytes → Bool} {save : Tgt → Bytes → Nat → Tgt × SaveOut} (hsave : GatedSave valid save)
    {t t' : Tgt} {n : Bytes} {k : Nat} (hs : save t n k = (t', .ok)) : t' = t ++ [(n, k)] ∧ valid n = true :=
  (hsave t n k t' _ hs).elim (absurd rfl ·.2) (·.2)

/-- **what can appear in the wrapped target**: after the run — complete or ended by an error — every entry of the target
    either was there before or carries a name that (1) passes `validateKID`, (2) was listed by the source, and
    (3) holds exactly the key the source returned FOR THAT NAME. For every source, fault pattern and starting target. -/
theorem export_target_entries_valid_and_faithful (ge se : String × String × String) (txt : Bytes → String)
    (valid : Bytes → Bool) (save : Tgt → Bytes → Nat → Tgt × SaveOut) (hsave : GatedSave valid save) (get : Bytes → SrcGet) :
    ∀ (names : List Bytes) (t : Tgt) (acc : List Bytes),
      ∀ e ∈ (exportLoop ge se txt get save names t acc).target,
        e ∈ t ∨ (valid e.1 = true ∧ e.1 ∈ names ∧ get e.1 = .key e.2) := by
  intro names t acc
  fun_induction exportLoop ge se txt get save names t acc with
  | case1 => exact fun e he => .inl he
  | case2 => exact fun e he => .inl he
  | case3 n rest t acc k hg t' hs ih =>
    cases gated_not_ok hsave hs nofun
    exact fun e he => (ih e he).imp_right fun ⟨a, b, c⟩ => ⟨a, List.mem_cons_of_mem _ b, c⟩
  | case4 n rest t acc k hg t' x hs =>
    cases gated_not_ok hsave hs nofun
    exact fun e he => .inl he
  | case5 n rest t acc k hg t' hs ih =>
    obtain ⟨rfl, hv⟩ := gated_ok hsave hs
    intro e he
    rcases ih e he with h | ⟨a, b, c⟩
    · rcases List.mem_append.mp h with h | h
      · exact .inl h
      · cases List.mem_singleton.mp h
        exact .inr ⟨hv, List.mem_cons_self, hg⟩
    · exact .inr ⟨a, List.mem_cons_of_mem _ b, c⟩

theorem tgtHas_append (t u : Tgt) (n : Bytes) : tgtHas (t ++ u) n = (tgtHas t n || tgtHas u n) := by
  simp only [tgtHas, List.map_append]
  by_cases h1 : n ∈ List.map (fun x => x.fst) t <;> by_cases h2 : n ∈ List.map (fun x => x.fst) u <;> simp [h1, h2]

/-- the target only grows: a name present before the run is present after it (any source, any gated target) -/
theorem export_target_keeps_names (ge se : String × String × String) (txt : Bytes → String)
    (valid : Bytes → Bool) (save : Tgt → Bytes → Nat → Tgt × SaveOut) (hsave : GatedSave valid save) (get : Bytes → SrcGet)
    (x : Bytes) :
    ∀ (names : List Bytes) (t : Tgt) (acc : List Bytes), tgtHas t x = true →
      tgtHas (exportLoop ge se txt get save names t acc).target x = true := by
  intro names t acc
  fun_induction exportLoop ge se txt get save names t acc with
  | case1 => exact id
  | case2 => exact id
  | case3 n rest t acc k hg t' hs ih => cases gated_not_ok hsave hs nofun; exact ih
  | case4 n rest t acc k hg t' e hs => cases gated_not_ok hsave hs nofun; exact id
  | case5 n rest t acc k hg t' hs ih =>
    intro h
    exact ih (by rw [(gated_ok hsave hs).1, tgtHas_append, h]; rfl)

/-- a target that answers "already exists" only for a name it holds -/
def DupMeansPresent (save : Tgt → Bytes → Nat → Tgt × SaveOut) : Prop :=
  ∀ t n k t', save t n k = (t', SaveOut.dup) → tgtHas t n = true

theorem wrappedSave_dup (valid : Bytes → Bool) (txt : Bytes → String) (fault : Bytes → Option String) :
    DupMeansPresent (wrappedSave valid txt fault) := by
  intro t n k t'
  fun_cases wrappedSave valid txt fault t n k with
  | case3 _ _ hh => exact fun _ => hh
  | _ => nofun

theorem wrappedPut_dup (valid : Bytes → Bool) (txt : Bytes → String) (fault : Bytes → Option String) :
    DupMeansPresent (wrappedPut valid txt fault) := by
  intro t n k t'
  fun_cases wrappedPut valid txt fault t n k with
  | case1 | case2 | case3 => nofun

/-- **a run that reports success moved every listed key**: if the command ends without an error, every name the source
    listed is in the target afterwards (stored now, or already there) — no key is skipped silently. Any source, any
    gated target that says "exists" only for names it holds (the wrapped recording backend, the wrapped Vault). -/
theorem export_success_means_all_listed_present (ge se : String × String × String) (txt : Bytes → String)
    (valid : Bytes → Bool) (save : Tgt → Bytes → Nat → Tgt × SaveOut) (hsave : GatedSave valid save)
    (hdup : DupMeansPresent save) (get : Bytes → SrcGet) :
    ∀ (names : List Bytes) (t : Tgt) (acc : List Bytes),
      (exportLoop ge se txt get save names t acc).error = none →
      ∀ x ∈ names, tgtHas (exportLoop ge se txt get save names t acc).target x = true := by
  intro names t acc
  fun_induction exportLoop ge se txt get save names t acc with
  | case1 => intro _ x hx; cases hx
  | case2 => intro h; cases h
  | case3 n rest t acc k hg t' hs ih =>
    intro herr x hx
    rcases List.mem_cons.mp hx with rfl | hx
    · exact export_target_keeps_names ge se txt valid save hsave get x rest t' acc
        (gated_not_ok hsave hs nofun ▸ hdup _ _ _ _ hs)
    · exact ih herr x hx
  | case4 => intro h; cases h
  | case5 n rest t acc k hg t' hs ih =>
    intro herr x hx
    rcases List.mem_cons.mp hx with rfl | hx
    · refine export_target_keeps_names ge se txt valid save hsave get x rest t' _ ?_
      rw [(gated_ok hsave hs).1, tgtHas_append]
      simp [tgtHas]
    · exact ih herr x hx

/-- key values do not matter for what a source answer looks like to the command -/
def getShape : SrcGet → Option String
  | .key _ => none
  | .err e => some e

/-- **noninterference of the command's output**: two runs over sources that differ ONLY in the key values (same listing,
    same failures) against targets holding the same names print the same exported names and the same error, and leave the
    same names in the target — no bit of any key can reach the command's output or decide where a key is stored. -/
theorem export_output_independent_of_key_material (ge se : String × String × String) (txt : Bytes → String)
    (valid : Bytes → Bool) (fault : Bytes → Option String) (get₁ get₂ : Bytes → SrcGet)
    (h : ∀ n, getShape (get₁ n) = getShape (get₂ n)) :
    ∀ (names : List Bytes) (t₁ t₂ : Tgt) (acc : List Bytes), t₁.map (·.1) = t₂.map (·.1) →
      (exportLoop ge se txt get₁ (wrappedSave valid txt fault) names t₁ acc).exported
        = (exportLoop ge se txt get₂ (wrappedSave valid txt fault) names t₂ acc).exported ∧
      (exportLoop ge se txt get₁ (wrappedSave valid txt fault) names t₁ acc).error
        = (exportLoop ge se txt get₂ (wrappedSave valid txt fault) names t₂ acc).error ∧
      (exportLoop ge se txt get₁ (wrappedSave valid txt fault) names t₁ acc).target.map (·.1)
        = (exportLoop ge se txt get₂ (wrappedSave valid txt fault) names t₂ acc).target.map (·.1) := by
  intro names
  induction names with
  | nil => intro t₁ t₂ acc ht; simp [exportLoop, ht]
  | cons n rest ih =>
    intro t₁ t₂ acc ht
    have hn := h n
    unfold exportLoop
    cases h1 : get₁ n with
    | err x =>
      cases h2 : get₂ n with
      | err y => rw [h1, h2] at hn; simp only [getShape, Option.some.injEq] at hn; subst hn; simp [ht]
      | key k => rw [h1, h2] at hn; simp [getShape] at hn
    | key k₁ =>
      cases h2 : get₂ n with
      | err y => rw [h1, h2] at hn; simp [getShape] at hn
      | key k₂ =>
        have hhas : tgtHas t₂ n = tgtHas t₁ n := by unfold tgtHas; rw [ht]
        simp only []
        fun_cases wrappedSave valid txt fault t₁ n k₁ with
        | case1 hv => simp [wrappedSave, hv, ht]
        | case2 hv e hf => simp [wrappedSave, hv, hf, ht]
        | case3 hv hf hh => simp only [wrappedSave, hv, hf, hhas, hh, if_true]; exact ih t₁ t₂ acc ht
        | case4 hv hf hh =>
          simp only [wrappedSave, hv, hf, hhas, hh]
          exact ih _ _ _ (by simp [ht])

/-- **fs2vault end to end** (composition of `fs_listed_name_shape`, the loop, the wrapper and `kid_confined_vault`):
    for EVERY directory tree, file content, wrapped backend (`GatedSave`: the validating wrapper around ANY backend —
    `wrappedSave_gated`, `wrappedPut_gated` = Vault), starting target and Vault path prefix, every entry the
    command adds to the target
    * has a name that is a single safe path entry, and its Vault path is exactly `<clean prefix>/nuts-private-keys/<name>`;
    * holds the key decoded from the top-level file `<name>_private.pem` of that directory (no other file's key);
    * was listed from a file whose base name is `<name>`, one byte, the entry type.
    A file named `.._private.pem`, `a%2Fb_private.pem` … cannot make the command write outside the key namespace. -/
theorem fs2vault_new_entries_confined (cls hex : Ranges) (hshape : kidClasses C03.kidPatternRx = some (cls, hex))
    (ge se : String × String × String) (txt : Bytes → String)
    (paths : List Bytes) (et : Bytes) (content : Bytes → SrcGet) (missing : Bytes → String)
    (save : Tgt → Bytes → Nat → Tgt × SaveOut) (hsave : GatedSave (validateKID cls hex C03.validateKIDRefusedNames) save)
    (t0 : Tgt) (pfx : Bytes) (hpfx : pfx ≠ []) :
    ∀ e ∈ (fs2target ge se txt paths et content missing save t0).target,
      e ∈ t0 ∨
        (IsEntryName e.1 ∧
         vaultKeyPath pfx C03.vaultKeyPathName e.1 = (((cleanP pfx).child C03.vaultKeyPathName).child e.1).render ∧
         fsEntryFileName e.1 et ∈ paths ∧ content e.1 = .key e.2 ∧
         ∃ f ∈ paths, ∃ c, base f = e.1 ++ c :: et) := by
  intro e he
  rcases export_target_entries_valid_and_faithful ge se txt _ save hsave _ _ t0 [] e he with h | ⟨hv, hl, hg⟩
  · exact .inl h
  · refine .inr ?_
    obtain ⟨hname, hpath⟩ := kid_confined_vault cls hex hshape pfx e.1 hpfx hv
    refine ⟨hname, hpath, ?_⟩
    unfold fsSourceGet at hg
    by_cases hc : paths.contains (fsEntryFileName e.1 et) = true
    · simp only [hc, if_true] at hg
      refine ⟨by simpa using hc, hg, ?_⟩
      unfold fsListNames at hl
      obtain ⟨f, hf, hfn⟩ := List.mem_filterMap.mp hl
      obtain ⟨_, c, hc⟩ := fs_listed_name_shape _ _ _ hfn
      exact ⟨f, hf, c, hc⟩
    · simp only [hc] at hg
      cases hg

/-! ## the PEM codec (crypto/util/pem.go) -/

/-- the block-type switches as the source has them: three private block types (PKCS#8 goes through the signer type
    switch), NO default clause in PemToPrivateKey, two public block types with `ErrWrongPublicKey` as default -/
theorem fact_pem_switch_tables :
    C03.pemPrivateCases = [("RSA PRIVATE KEY", "direct"), ("EC PRIVATE KEY", "direct"), ("PRIVATE KEY", "typeswitch")] ∧
    C03.pemPrivateDefault = "none" ∧
    C03.pemPublicCases = ["PUBLIC KEY", "RSA PUBLIC KEY"] ∧
    C03.pemPublicDefault = "return:return nil, ErrWrongPublicKey" ∧
    C03.pemNilBlockGuards = ["private:if block == nil -> assign:err = ErrWrongPrivateKey; return:return",
                             "public:if block == nil -> return:return nil, ErrWrongPublicKey"] :=
  ⟨rfl, rfl, rfl, rfl, rfl⟩

/-- **a signer comes only out of a private-key block**: for every PEM input and every parser answer, a non-nil result of
    `PemToPrivateKey` is the parser's value for a block of one of the three private types, and a PKCS#8 value is handed out
    only with one of the key store's signer types (`fact_store_key_types_are_signers`: the types the jwk-header rule refuses) -/
theorem pem_signer_only_from_private_block (block : Option String) (p : Parsed) (ty : String)
    (h : pemToPrivateKey C03.pemPrivateCases C03.pemPrivateKeyTypes block p = .key ty) :
    p = .ok ty ∧ ∃ t, block = some t ∧ t ∈ C03.pemPrivateCases.map (·.1) ∧
      (t = "PRIVATE KEY" → ty ∈ C03.pemPrivateKeyTypes) := by
  have row : ∀ {t a how}, C03.pemPrivateCases.find? (isCase t) = some (a, how) → t ∈ C03.pemPrivateCases.map (·.1) := by
    intro t a how hf
    have ht : a = t := by simpa [isCase] using List.find?_some hf
    exact List.mem_map.mpr ⟨_, List.mem_of_find?_eq_some hf, ht⟩
  revert h
  fun_cases pemToPrivateKey C03.pemPrivateCases C03.pemPrivateKeyTypes block p with
  | case4 t a how hf ty' hd =>
    rintro ⟨⟩
    refine ⟨rfl, t, rfl, row hf, ?_⟩
    rintro rfl
    cases hf.symm.trans (show C03.pemPrivateCases.find? (isCase "PRIVATE KEY") = some ("PRIVATE KEY", "typeswitch") by decide)
    exact absurd hd (by decide)
  | case5 t a how hf ty' _ hc =>
    rintro ⟨⟩
    exact ⟨rfl, t, rfl, row hf, fun _ => by simpa using hc⟩
  | _ => nofun

/-- the public decoder never parses a private-key block: `PemToPublicKey` answers ErrWrongPublicKey for each of them -/
theorem pem_public_decoder_refuses_private_blocks (t : String) (ht : t ∈ C03.pemPrivateCases.map (·.1)) (p : Parsed) :
    pemToPublicKey C03.pemPublicCases (some t) p = .wrongKey := by
  have hall : ∀ t ∈ C03.pemPrivateCases.map (·.1), C03.pemPublicCases.contains t = false := by decide
  unfold pemToPublicKey
  simp only [hall t ht]
  rfl

/-- limit of the code that exists (mirrored, not a key-material path): a block of any other type — a PUBLIC KEY, a
    certificate — makes `PemToPrivateKey` return (nil, nil): no signer and NO error; likewise a PKCS#8 key of a non-signer type -/
theorem pem_other_block_is_nil_without_error :
    (∀ t ∈ C03.pemPublicCases, ∀ p, pemToPrivateKey C03.pemPrivateCases C03.pemPrivateKeyTypes (some t) p = .nilNil) ∧
    pemToPrivateKey C03.pemPrivateCases C03.pemPrivateKeyTypes (some "PRIVATE KEY") (.ok "*ecdh.PrivateKey") = .nilNil := by
  refine ⟨?_, by decide⟩
  intro t ht p
  have hall : ∀ t ∈ C03.pemPublicCases, C03.pemPrivateCases.find? (isCase t) = none := by decide
  simp [pemToPrivateKey, hall t ht]

example : pemToPrivateKey C03.pemPrivateCases C03.pemPrivateKeyTypes (some "PRIVATE KEY") (.ok "*ecdsa.PrivateKey") = .key "*ecdsa.PrivateKey" := by decide
example : "PRIVATE KEY" ∈ C03.pemPrivateCases.map (·.1) := by decide

/-! ## the in-memory signer's kid guard (crypto/memory.go) -/

/-- both entry points compare the requested kid with the key's OWN id (`kid != m.Key.KeyID()` -> ErrPrivateKeyNotFound) before
    they set the `kid` header; the type has no other method that could decide it -/
theorem fact_memory_signer_kid_guards :
    C03.memoryKidStmts =
      ["SignJWT:if kid != m.Key.KeyID() -> return:return \"\", ErrPrivateKeyNotFound", "SignJWT:headersLocal[\"kid\"] = kid",
       "SignJWS:if kid != m.Key.KeyID() -> return:return \"\", ErrPrivateKeyNotFound", "SignJWS:headers[\"kid\"] = kid"] ∧
    C03.memorySignerMethods = ["SignDPoP", "SignJWS", "SignJWT"] := ⟨rfl, rfl⟩

/-- **the in-memory signer signs only for its own key id**: for every key id (also the empty one of an unnamed JWK), every
    requested kid and every header map, a JWS comes out only if the requested kid IS the key's id; without a `jwk` header
    the signed `kid` header is that id, whatever the caller put there. An unnamed key never signs for a non-empty kid. -/
theorem memory_signer_signs_only_for_own_key_id (keyId kid : String) (h out : Headers)
    (hok : memSignJWSHeaders keyId h kid = .ok out) :
    kid = keyId ∧ ((∀ rt id, hget (dedup h) "jwk" ≠ some (.jwk rt id)) → hget out "kid" = some (.str keyId)) := by
  unfold memSignJWSHeaders at hok
  obtain ⟨hf, _, hk⟩ := store_signjws_headers _ h out kid hok
  have : kid = keyId := by simpa [memHolds] using hf
  subst this
  exact ⟨rfl, hk⟩

/-- the same for `MemoryJWTSigner.SignJWT`: refused with key-not-found unless the requested kid is the key's own id -/
theorem memory_signer_jwt_refuses_foreign_kid (keyId kid : String) (h : Headers) (hne : kid ≠ keyId) :
    memSignJWTHeaders keyId h kid = .error .keyNotFound ∧ memSignJWSHeaders keyId h kid = .error .keyNotFound := by
  have : memHolds keyId kid = false := by simp [memHolds, hne]
  simp [memSignJWTHeaders, memSignJWSHeaders, storeSignJWTHeaders, storeSignJWSHeaders, this]

example : memSignJWSHeaders "mem#1" [] "mem#1" = .ok [("kid", .str "mem#1")] := by decide
example : memSignJWSHeaders "" [] "did:web:victim#0" = .error .keyNotFound := by decide

/-- a directory with `k_private.pem` (key 7), `.._private.pem` (key 9): `k` arrives, `..` is refused and ends the run -/
example :
    let r := fs2target C03.exportGetErr C03.exportSaveErr (fun b => String.ofList (b.map Char.ofNat))
      [[107, 95, 112], [46, 46, 95, 112]] [112] (fun n => if n = [107] then .key 7 else .key 9) (fun _ => "missing")
      (wrappedPut (fun n => (validName? C03.kidPatternRx C03.validateKIDRefusedNames n).getD false)
        (fun b => String.ofList (b.map Char.ofNat)) (fun _ => none)) []
    r.exported = [[107]] ∧ r.target = [([107], 7)] ∧
    r.error = some "unable to store private key in Vault (kid=..): invalid key ID: .." := by decide +kernel

/-- a run that ends without error exists (so `export_success_means_all_listed_present` is not vacuous) -/
example :
    (fs2target C03.exportGetErr C03.exportSaveErr (fun b => String.ofList (b.map Char.ofNat))
      [[107, 95, 112]] [112] (fun _ => .key 7) (fun _ => "missing")
      (wrappedSave (fun n => (validName? C03.kidPatternRx C03.validateKIDRefusedNames n).getD false)
        (fun b => String.ofList (b.map Char.ofNat)) (fun _ => none)) []).error = none := by decide

/-- the hypotheses of the noninterference theorem are satisfiable with different keys -/
example : ∀ n : Bytes, getShape ((fun (_ : Bytes) => SrcGet.key 1) n) = getShape ((fun (_ : Bytes) => SrcGet.key 2) n) := fun _ => rfl

end Nuts.C03.Props
