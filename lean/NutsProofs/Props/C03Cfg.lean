/-
  C03 — property theorems about the backend WIRING: whatever `Configure` installs as the engine's key
  store backend is behind the validating wrapper (so the confinement theorems of Props.C03 apply to the configured engine),
  for every storage string, strict flag and constructor behaviour.
-/
import NutsModel.C03.Configure
import NutsModel.C03.Kid
import NutsModel.Facts.C03
import NutsProofs.Props.C03

namespace Nuts.C03.Props
open Nuts Nuts.C03 Nuts.Facts

/-- Configure switches on `client.config.Storage`; before the switch only the SQL handle is taken; every step of every
    clause is one the interpreter has a rule for and every called setup function exists -/
theorem fact_configure_switch_shape :
    C03.configureTag = "client.config.Storage" ∧
    C03.configurePre = ["client.db = client.storage.GetSQLDatabase()"] ∧
    (∀ c ∈ C03.configureSwitch, ∀ st ∈ c.2.2,
      (st.1 = "strict-error" ∨ st.1 = "error" ∨ (st.1 = "call" ∧ (C03.setupFns.find? (isFn st.2)).isSome))) ∧
    (C03.configureSwitch.find? isDefault).isSome := by
  refine ⟨rfl, rfl, ?_, rfl⟩
  decide +kernel

/-- every setup function assigns `spi.NewValidatedKIDBackendWrapper(<the constructed backend>, spi.KidPattern)` -/
theorem fact_every_setup_wraps_ctor_result :
    C03.setupFns ≠ [] ∧
    ∀ r ∈ C03.setupFns, r.2.2.2.1 = "spi.NewValidatedKIDBackendWrapper" ∧ r.2.2.2.2.1 = "ctor-result" ∧ r.2.2.2.2.2 = "spi.KidPattern" := by
  decide +kernel

/-- the storage names the switch knows, in source order, and the fs backend's sub-directory -/
theorem fact_storage_types :
    (C03.configureSwitch.filter (fun c => !c.1)).map (·.2.1) = [["fs"], ["vaultkv"], ["azure-keyvault"], ["external"], [""]] ∧
    C03.fsBackendSubdir = "crypto" := ⟨rfl, rfl⟩

/-- the guards of azure.New / createCredential and vault.NewVaultKVStorage / checkConnection the model `azureNew` / `vaultNew` mirrors -/
theorem fact_backend_constructor_guards :
    C03.azureNewSteps = ["if config.URL == \"\" -> errors.New:missing Azure Key Vault URL", "call createCredential(config.Auth.Type)",
      "if err != nil -> return err", "call azkeys.NewClient(config.URL)",
      "if err != nil -> fmt.Errorf:unable to create Azure Key Vault client: %w", "return"] ∧
    C03.azureCredentialTypes = ["default", "managed_identity"] ∧
    C03.azureCredentialDefault = "fmt.Errorf:unsupported Azure Key Vault credential type: %s:credentialType" ∧
    C03.vaultCheckConnection = ["call v.client.ReadWithContext(\"auth/token/lookup-self\")",
      "if err != nil -> unable to connect to Vault: unable to retrieve token status: %w",
      "if secret == nil || len(secret.Data) == 0 -> could not read token information on auth/token/lookup-self", "return nil"] ∧
    C03.vaultNewSteps = ["configureVaultClient", "return nil, err", "vaultStorage.checkConnection", "return nil, err", "return vaultStorage, nil"] :=
  ⟨rfl, rfl, rfl, rfl, rfl⟩

theorem setup_ok (fns : List SetupFn) (ctorRes : String → Ctor) (fn : String) (b : Backend)
    (h : setup fns ctorRes fn = .ok b) :
    ctorRes b.ctor = .ok ∧ ∃ r, fns.find? (isFn fn) = some r ∧
      r.2.1 = b.ctor ∧ r.2.2.2.1 = b.wrapper ∧ r.2.2.2.2.1 = b.inner ∧ r.2.2.2.2.2 = b.pattern := by
  unfold setup at h
  split at h
  · cases h
  · rename_i ctor wrap wrapper inner pattern hf
    split at h
    · cases h
    · rename_i hc
      cases h
      exact ⟨hc, _, hf, rfl, rfl, rfl, rfl⟩

theorem setup_ctor (fns : List SetupFn) (ctorRes : String → Ctor) (fn : String) (b : Backend) (r : SetupFn)
    (hf : fns.find? (isFn fn) = some r) (h : setup fns ctorRes fn = .ok b) : b.ctor = r.2.1 := by
  obtain ⟨_, r', hf', hc, _⟩ := setup_ok fns ctorRes fn b h
  cases hf.symm.trans hf'
  exact hc.symm

theorem runSteps_ok (fns : List SetupFn) (ctorRes : String → Ctor) (strict : Bool) (steps : List (String × String)) (b : Backend)
    (h : runSteps fns ctorRes strict steps = .ok b) : ∃ fn, setup fns ctorRes fn = .ok b := by
  revert h
  fun_induction runSteps fns ctorRes strict steps with
  | case3 _ _ _ _ _ ih => exact ih
  | case4 _ a => exact fun h => ⟨a, h⟩
  | _ => nofun

/-- a backend is installed only by a setup function of the table, and only if its constructor succeeded -/
theorem configure_ok (sw : List CfgCase) (fns : List SetupFn) (storage : String) (strict : Bool) (ctorRes : String → Ctor) (b : Backend)
    (h : configure sw fns storage strict ctorRes = .ok b) :
    ctorRes b.ctor = .ok ∧ ∃ r ∈ fns, r.2.1 = b.ctor ∧ r.2.2.2.1 = b.wrapper ∧ r.2.2.2.2.1 = b.inner ∧ r.2.2.2.2.2 = b.pattern := by
  unfold configure at h
  split at h
  · cases h
  · obtain ⟨fn, hs⟩ := runSteps_ok _ _ _ _ _ h
    obtain ⟨hc, r, hf, hr⟩ := setup_ok _ _ _ _ hs
    exact ⟨hc, r, List.mem_of_find?_eq_some hf, hr⟩

/-- WIRING: for every storage string, strict flag and constructor behaviour — if Configure installs a backend at all, it is the
    validating wrapper (KidPattern) around the backend it constructed. -/
theorem configured_backend_validates (storage : String) (strict : Bool) (ctorRes : String → Ctor) (b : Backend)
    (h : configure C03.configureSwitch C03.setupFns storage strict ctorRes = .ok b) : backendValidates b = true := by
  obtain ⟨_, r, hr, _, hw, hi, hp⟩ := configure_ok _ _ _ _ _ _ h
  obtain ⟨h1, h2, h3⟩ := fact_every_setup_wraps_ctor_result.2 r hr
  unfold backendValidates
  rw [← hw, ← hi, ← hp, h1, h2, h3]
  simp only [beq_self_eq_true, Bool.and_self]

/-- so a call on the configured backend is forwarded to the real backend only for names `validateKID` accepts -/
theorem configured_backend_refuses_invalid_names {α} (valid : α → Bool) (storage : String) (strict : Bool) (ctorRes : String → Ctor)
    (b : Backend) (h : configure C03.configureSwitch C03.setupFns storage strict ctorRes = .ok b)
    (name : α) (hf : forwarded valid b name = true) : valid name = true := by
  have hv := configured_backend_validates storage strict ctorRes b h
  unfold forwarded at hf
  rw [hv] at hf
  simpa using hf

/-- END-TO-END (config text -> wiring -> path): every name the engine configured from ANY storage string lets through to the
    file-system backend denotes exactly the entry `<name>_<type>` of the key directory (composition with `kid_confined`). -/
theorem configured_fs_backend_confined (cls hex : Ranges) (hshape : kidClasses C03.kidPatternRx = some (cls, hex))
    (storage : String) (strict : Bool) (ctorRes : String → Ctor) (b : Backend)
    (h : configure C03.configureSwitch C03.setupFns storage strict ctorRes = .ok b)
    (dir kid et : Bytes) (hdir : dir ≠ []) (het : et ∈ C03.fsEntryTypes)
    (hf : forwarded (validateKID cls hex C03.validateKIDRefusedNames) b kid = true) :
    IsEntryName (fsEntryFileName kid et) ∧
    fsEntryPath dir kid et = ((cleanP dir).child (fsEntryFileName kid et)).render :=
  let hk := kid_confined cls hex hshape dir kid et hdir het
    (configured_backend_refuses_invalid_names _ storage strict ctorRes b h kid hf)
  ⟨hk.1, hk.2.1⟩

/-- strict mode: an empty storage setting never installs a backend, whatever the constructors would do -/
theorem configure_strict_needs_explicit_storage (ctorRes : String → Ctor) :
    configure C03.configureSwitch C03.setupFns "" true ctorRes = .error "backend must be explicitly set in strict mode" := by
  rfl

/-- non-strict: the empty storage setting is the fs backend; an explicit `fs` ignores the strict flag -/
theorem configure_default_is_fs (strict : Bool) (ctorRes : String → Ctor) :
    configure C03.configureSwitch C03.setupFns "" false ctorRes = configure C03.configureSwitch C03.setupFns "fs" strict ctorRes := by
  cases strict <;> rfl

private theorem contains_single (a s : String) : ([a] : List String).contains s = (s == a) := by
  cases h : s == a <;> simp [List.contains, List.elem, h]

/-- a storage string the switch does not list installs nothing (no case folding, no trimming, no prefix match) -/
theorem configure_unknown_storage (storage : String) (strict : Bool) (ctorRes : String → Ctor)
    (h : storage ∉ ["fs", "vaultkv", "azure-keyvault", "external", ""]) :
    configure C03.configureSwitch C03.setupFns storage strict ctorRes =
      .error "invalid config for crypto.storage. Available options are: vaultkv, fs, external(experimental)" := by
  simp only [List.mem_cons, List.mem_nil_iff, or_false, not_or] at h
  obtain ⟨h1, h2, h3, h4, h5⟩ := h
  simp [configure, selectCase, C03.configureSwitch, List.find?, isCaseOf, isDefault, h1, h2, h3, h4, h5, runSteps]

/-- which backend: the constructor that ran is determined by the storage string alone -/
theorem configure_backend_kind (storage : String) (strict : Bool) (ctorRes : String → Ctor) (b : Backend)
    (h : configure C03.configureSwitch C03.setupFns storage strict ctorRes = .ok b) :
    (storage = "fs" ∧ b.ctor = "fs.NewFileSystemBackend") ∨ (storage = "" ∧ strict = false ∧ b.ctor = "fs.NewFileSystemBackend") ∨
    (storage = "vaultkv" ∧ b.ctor = "vault.NewVaultKVStorage") ∨ (storage = "azure-keyvault" ∧ b.ctor = "azure.New") ∨
    (storage = "external" ∧ b.ctor = "external.NewAPIClient") := by
  by_cases hm : storage ∈ ["fs", "vaultkv", "azure-keyvault", "external", ""]
  · simp only [List.mem_cons, List.mem_nil_iff, or_false] at hm
    -- for a listed storage string the clause is one call, whatever `strict` is
    rcases hm with rfl | rfl | rfl | rfl | rfl
    · exact .inl ⟨rfl, setup_ctor C03.setupFns ctorRes "setupFSBackend" b _ rfl (by cases strict <;> exact h)⟩
    · exact .inr (.inr (.inl ⟨rfl, setup_ctor C03.setupFns ctorRes "setupVaultBackend" b _ rfl (by cases strict <;> exact h)⟩))
    · exact .inr (.inr (.inr (.inl
        ⟨rfl, setup_ctor C03.setupFns ctorRes "setupAzureKeyVaultBackend" b _ rfl (by cases strict <;> exact h)⟩)))
    · exact .inr (.inr (.inr (.inr
        ⟨rfl, setup_ctor C03.setupFns ctorRes "setupStorageAPIBackend" b _ rfl (by cases strict <;> exact h)⟩)))
    · cases strict
      · exact .inr (.inl ⟨rfl, rfl, setup_ctor C03.setupFns ctorRes "setupFSBackend" b _ rfl h⟩)
      · rw [configure_strict_needs_explicit_storage] at h; cases h
  · rw [configure_unknown_storage storage strict ctorRes hm] at h; cases h

/-- UNCHANGED ON ERROR: when every constructor fails, Configure leaves `client.backend` as it was, for every setting -/
theorem configure_failure_keeps_backend (prev : Option Backend) (storage : String) (strict : Bool) (ctorRes : String → Ctor)
    (hfail : ∀ c, ctorRes c ≠ .ok) :
    (configureSt C03.configureSwitch C03.setupFns prev storage strict ctorRes).1 = prev ∧
    (configureSt C03.configureSwitch C03.setupFns prev storage strict ctorRes).2.isSome = true := by
  unfold configureSt
  split
  · rename_i b hb
    exact absurd (configure_ok _ _ _ _ _ _ hb).1 (hfail _)
  · exact ⟨rfl, rfl⟩
  · exact ⟨rfl, rfl⟩

/-- azure.New succeeds only with a URL and one of the two credential types of the source -/
theorem azure_new_ok (url credType : String) (sdkCred sdkClient : Option String)
    (h : azureNew C03.azureCredentialTypes url credType sdkCred sdkClient = .ok) :
    url ≠ "" ∧ (credType = "default" ∨ credType = "managed_identity") ∧ sdkCred = none ∧ sdkClient = none := by
  revert h
  fun_cases azureNew C03.azureCredentialTypes url credType sdkCred sdkClient with
  | case5 hu hc =>
    refine fun _ => ⟨by simpa using hu, ?_, rfl, rfl⟩
    simpa [C03.azureCredentialTypes, Decidable.or_iff_not_imp_left] using hc
  | _ => nofun

/-- the Vault backend exists only after a token lookup that returned data -/
theorem vault_new_ok (clientErr : Option String) (lk : Lookup) (h : vaultNew clientErr lk = .ok) :
    clientErr = none ∧ lk = .data := by
  unfold vaultNew at h
  cases clientErr <;> cases lk <;> simp at h ⊢

example : configure C03.configureSwitch C03.setupFns "vaultkv" true (fun _ => .ok) =
    .ok { ctor := "vault.NewVaultKVStorage", wrapper := "spi.NewValidatedKIDBackendWrapper", inner := "ctor-result", pattern := "spi.KidPattern" } := by
  rfl
example : configure C03.configureSwitch C03.setupFns "" false (fun _ => .ok) =
    .ok { ctor := "fs.NewFileSystemBackend", wrapper := "spi.NewValidatedKIDBackendWrapper", inner := "ctor-result", pattern := "spi.KidPattern" } := by
  rfl
example : configure C03.configureSwitch C03.setupFns "external" false (fun _ => .err "parse \"x\": invalid URI for request") =
    .error "unable to set up external crypto API client: parse \"x\": invalid URI for request" := by decide +kernel
example : "FS" ∉ ["fs", "vaultkv", "azure-keyvault", "external", ""] := by decide
example : (configureSt C03.configureSwitch C03.setupFns none "vaultkv" false (fun _ => .err "x")).1 = none := by rfl
example : azureNew C03.azureCredentialTypes "https://v" "managed_identity" none none = .ok := by rfl
example : vaultNew none .data = .ok := rfl
/-- the wrapper matters: without it every name would be forwarded -/
example : forwarded (fun (_ : String) => false) { ctor := "c", wrapper := "", inner := "ctor-result", pattern := "spi.KidPattern" } "../x" = true := by rfl

end Nuts.C03.Props
