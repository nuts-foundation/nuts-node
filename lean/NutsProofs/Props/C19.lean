/-
  C19 — untrusted input never crashes or hangs the node.  PARTIAL BY NATURE: the statement is about ~20 entry points of
  the Go runtime; a theorem carries it only for the entry points whose code is inside a model.  For those it is
  carried at full strength: every partial Go operation of the modelled functions is a `Res.panic` site
  (`panic_sites_accounted` ties the list of sites to the source's AST), Lean functions are total, and the two unbounded Go
  loops are modelled with explicit fuel so that termination is a theorem, not a by-product of the encoding.
  Models: NutsModel/C19/*.lean.
  Facts: NutsModel/Facts/C19.lean is REGENERATED from /repo on every run.
-/
import NutsModel.C19.Sites
import NutsModel.C19.Murmur
import NutsProofs.Lemmas.C19Dpop
import NutsProofs.Lemmas.C19Resolver
import NutsProofs.Lemmas.C19StatusList
import NutsProofs.Lemmas.C19Iblt
import NutsProofs.Lemmas.C19Callback
import NutsProofs.Lemmas.C19DidKey
import NutsProofs.Lemmas.C19DidWeb
import NutsProofs.Lemmas.C19HttpCache
import NutsProofs.Lemmas.C19Cred

namespace Nuts.C19.Props
open Nuts Nuts.C19 Nuts.C19.Lemmas

/-- the partial operations (unchecked assertions, index/slice expressions, explicit dereferences, discarded errors,
    division by a non-literal, conversions to array pointers, loops, self-recursion, nil guards) of every modelled Go
    function are exactly the expected ones, and every expected panic site is in the `sites` list of a model -/
theorem panic_sites_accounted :
    Facts.C19.partialOps = Sites.expectedOps ∧
    (∀ s ∈ Sites.expectedSites, s ∈ (Dpop.sites ++ Resolver.sites ++ Bitstring.sites ++ Iblt.sites ++ Callback.sites ++ StatusList.sites ++ DidKey.sites ++ DidWeb.sites ++ Cred.sites ++ CredMore.sites ++ JsonLd.sites ++ Jwx.sites).map (·.2)) :=
  ⟨rfl, by decide +kernel⟩

/-- Every model configuration that `Sites` reads off the inventory, evaluated together: each `Sites.has` scans
    `Facts.C19.partialOps` comparing strings, and within one kernel evaluation the scans share their work.
    `fact_cfg_is_fixed` takes the first six by position; the later `fact_*` theorems take their conjunct out of it by rewriting
    (`simp only [cfg_of_source]`), so the order of the rest does not matter to them.
    `Sites.ambassadorCfg` is not here: it is one membership in `Facts.C19.didDocUnmarshals`, shown by position in `fact_doc_unmarshal_guarded`. -/
theorem cfg_of_source :
    Sites.dpopCfg = Dpop.Cfg.fixed ∧ Sites.resolverCfg = Resolver.Cfg.fixed ∧
    Sites.ibltCfg = { k := 6, chainBounded := true, maxChain := 64 } ∧
    Sites.callbackCfg = { assertChecked := false, envelopeGuard := true } ∧
    Sites.statusListCfg = StatusList.Cfg.fixed ∧ Sites.didKeyCfg = DidKey.Cfg.fixed ∧
    Sites.didWebCfg = DidWeb.Cfg.fixed ∧
    Sites.httpCacheCfg = HttpCache.Cfg.fixed ∧ Sites.credCfg = Cred.Cfg.fixed ∧ Sites.credMoreCfg = CredMore.Cfg.fixed ∧
    Sites.jsonldCfg = JsonLd.Cfg.fixed ∧ Sites.jwxCfg = Jwx.Cfg.fixed := by decide +kernel

/-- the source today is the repaired source: checked assertions in dpop.go and key.go, nil guards on verification
    methods, a bounded hash chain in bucketIndices with k capped at the number of buckets.  `withCallbackURI` still
    asserts unchecked (unreachable at its call sites: `callback_total_in_handler`); handleAuthorizeResponseSubmission rejects
    an envelope without presentations before validatePresentationNonce indexes `nonces[0]`. -/
theorem fact_cfg_is_fixed :
    Sites.dpopCfg = Dpop.Cfg.fixed ∧ Sites.resolverCfg = Resolver.Cfg.fixed ∧
    Sites.ibltCfg = { k := 6, chainBounded := true, maxChain := 64 } ∧ Facts.C19.bucketIndicesCapsK = true ∧
    Sites.callbackCfg = { assertChecked := false, envelopeGuard := true } ∧
    Sites.statusListCfg = StatusList.Cfg.fixed ∧ Sites.didKeyCfg = DidKey.Cfg.fixed :=
  have ⟨dpop, resolver, iblt, callback, statusList, didKey, _⟩ := cfg_of_source
  ⟨dpop, resolver, iblt, rfl, callback, statusList, didKey⟩

/-- constants the models use -/
theorem fact_constants :
    Facts.C19.bucketBytes = Iblt.bucketBytes ∧ Facts.C19.maxJtiLength = Dpop.maxJtiLength ∧
    Facts.C19.ibltK ≤ Facts.C19.ibltNumBuckets ∧ Facts.C19.ibltK < 256 ∧ 10 ≤ Facts.C19.ibltMaxChain ∧
    Facts.C19.defaultMaxServiceReferenceDepth = 5 := by decide

/-- every `http.Client` literal in http/client/client.go sets a Timeout (and `WithRedirectCheck` copies an existing client instead of building
    one: its inventory has `deref:*s.client` and no literal): an outbound fetch on an untrusted URL cannot wait for ever on a stalling server -/
theorem fact_http_clients_have_timeout :
    Facts.C19.httpClientLiterals ≠ [] ∧ ∀ l ∈ Facts.C19.httpClientLiterals, "Timeout" ∈ l := by decide

/-! ### crypto/dpop: Parse, HTU, HTM, Match, strip -/

/-- No DPoP proof (whatever jwx reports about it, whatever JSON values the htu/htm claims hold) and no Match arguments
    (whatever net/url.Parse does with them) make Parse, HTU, HTM, strip or Match panic.  Parse has no state; a rejected
    proof yields no token. -/
theorem dpop_total (up : Dpop.UrlParse) (i : Dpop.ParseIn) (tpEq : Bool) (method url : String) (t : Dpop.Token) (raw : String) :
    (∀ c s, Dpop.parse c i ≠ .panic s) ∧
    (∀ s, Dpop.htu Sites.dpopCfg t ≠ .panic s) ∧ (∀ s, Dpop.htm Sites.dpopCfg t ≠ .panic s) ∧
    (∀ s, Dpop.strip Sites.dpopCfg up raw ≠ .panic s) ∧
    (∀ s, Dpop.matchDpop Sites.dpopCfg up t tpEq method url ≠ .panic s) ∧
    (∀ s, Dpop.validate Sites.dpopCfg up i tpEq method url ≠ .panic s) := by
  rw [fact_cfg_is_fixed.1]
  exact ⟨fun c => (dpop_parse_panicsIn c i).total, (claimString_panicsIn _ nofun).total, (claimString_panicsIn _ nofun).total,
    (dpop_strip_panicsIn up raw nofun).total, (matchDpop_panicsIn up t tpEq method url nofun nofun nofun).total,
    (dpop_validate_panicsIn up i tpEq method url nofun nofun nofun).total⟩

/-- the repaired Parse only returns tokens whose htu and htm are non-empty strings -/
theorem dpop_parse_ok_claims_are_strings (i : Dpop.ParseIn) (t : Dpop.Token) (h : Dpop.parse Dpop.Cfg.fixed i = .ok t) :
    (∃ s, t.htu = some (.str s) ∧ s ≠ "") ∧ (∃ s, t.htm = some (.str s) ∧ s ≠ "") := by
  revert h
  -- the only exit of Parse that returns a token lies behind both claim checks
  fun_cases Dpop.parse Dpop.Cfg.fixed i with
  | case3 =>
    fun_cases Dpop.parseClaims Dpop.Cfg.fixed i with
    | case8 _ hu hm => intro h; cases h; exact ⟨claimCheck_ok_str rfl hu, claimCheck_ok_str rfl hm⟩
    | _ => nofun
  | _ => nofun

def goodIn : Dpop.ParseIn :=
  { jwsOk := true, nSigs := 1, algSupported := true, typ := "dpop+jwt", hasJwk := true, jwkPrivate := false, algFitsKey := true, jwtOk := true,
    iatZero := false, htu := some (.str "https://a/t"), htm := some (.str "POST"), jtiLen := 5 }
def upOk : Dpop.UrlParse := fun s => if s == "://x" then none else some s

/-- non-vacuity: a valid proof is accepted and matches; the three witnesses of the unrepaired source are now errors -/
example : Dpop.validate Dpop.Cfg.fixed upOk goodIn true "POST" "https://a/t" = .ok true := by decide
example : Dpop.validate Dpop.Cfg.fixed upOk { goodIn with htu := some (.num "5") } true "POST" "https://a/t" = .err "parse:invalid htu" := by decide
example : Dpop.validate Dpop.Cfg.fixed upOk { goodIn with htu := some (.str "://x") } true "POST" "https://a/t" = .err "invalid htu" := by decide
example : Dpop.validate Dpop.Cfg.fixed upOk goodIn true "POST" "://x" = .err "invalid url" := by decide

/-- NEGATION for the source before the repair (candidate #8), by concrete witnesses replayed on the real code
    (harness/corpus/C19/01_dpop.jsonl): `htu: 5` and `htm: 5` pass Parse and panic in HTU()/HTM(); an htu or an API url
    that url.Parse rejects makes strip dereference nil. -/
theorem dpop_unfixed_witnesses :
    Dpop.validate Dpop.Cfg.unfixed upOk { goodIn with htu := some (.num "5") } true "POST" "https://a/t" = .panic "HTU:v.(string)" ∧
    Dpop.validate Dpop.Cfg.unfixed upOk { goodIn with htm := some (.num "5") } true "POST" "https://a/t" = .panic "HTM:v.(string)" ∧
    Dpop.validate Dpop.Cfg.unfixed upOk { goodIn with htu := some (.str "://x") } true "POST" "https://a/t" = .panic "strip:url.Scheme(nil *url.URL)" ∧
    Dpop.validate Dpop.Cfg.unfixed upOk goodIn true "POST" "://x" = .panic "strip:url.Scheme(nil *url.URL)" := by decide +kernel

/-! ### vdr/resolver/key.go: baseUrl, ResolveKeyByID, ResolveKey -/

/-- `@base` of ANY JSON type, in any position of any `@context`, never makes baseUrl panic -/
theorem keyresolver_baseurl_total (ctx : List J) : ∀ s, Resolver.baseUrl Sites.resolverCfg ctx ≠ .panic s := by
  rw [fact_cfg_is_fixed.2.1]; exact (baseUrl_panicsIn _ nofun ctx).total

/-- ResolveKeyByID / ResolveKey never panic on any resolved document (any context values, null relationships, any key id,
    any relation type) PROVIDED go-did's PublicKey() does not panic on the document's verification methods (`KeysTotal`,
    a contract of the third-party library — breached by go-did v0.15.0 for a JsonWebKey2020 method without publicKeyJwk:
    open finding). -/
theorem keyresolver_total (keyID : String) (didOk : Bool) (doc : Option Resolver.KeyDoc) (rt : Nat)
    (hlib : ∀ d, doc = some d → ∀ i, KeysTotal (d.rels i)) :
    (∀ s, Resolver.resolveKeyByID Sites.resolverCfg keyID didOk doc rt ≠ .panic s) ∧
    (∀ s, Resolver.resolveKey Sites.resolverCfg doc rt ≠ .panic s) := by
  rw [fact_cfg_is_fixed.2.1]
  have hk fn d (hd : doc = some d) r (hr : r ∈ d.rels rt) : Res.PanicsIn (Resolver.publicKey fn r) fun _ => False :=
    publicKey_panicsIn fn r (hlib d hd rt r hr)
  exact ⟨(resolveKeyByID_panicsIn _ keyID didOk doc rt nofun nofun (hk _)).total, (resolveKey_panicsIn _ doc rt nofun (hk _)).total⟩

def keyDoc (ctx : List J) (rels : List Resolver.Rel) : Resolver.KeyDoc := { context := ctx, rels := fun _ => rels }
/-- non-vacuity + the repaired behaviour on the old witnesses -/
example : Resolver.resolveKeyByID Resolver.Cfg.fixed "did:web:x#k" true
    (some (keyDoc [.str "https://www.w3.org/ns/did/v1", .obj [("@base", .num "1")], .obj [("@base", .str "did:web:x")]]
      [{ vmNil := true, id := "", key := .ok }, { id := "#k", key := .ok }])) 1 = .ok "#k" := by decide

/-- NEGATION for the source before the repairs (candidate #9 and the null-relationship defect), by concrete witnesses
    replayed on the real code (harness/corpus/C19/02_resolver.jsonl) -/
theorem keyresolver_unfixed_witnesses :
    Resolver.resolveKeyByID Resolver.Cfg.unfixed "did:web:x#k" true (some (keyDoc [.obj [("@base", .num "1")]] [])) 1
      = .panic "baseUrl:val.(string)" ∧
    Resolver.resolveKeyByID Resolver.Cfg.unfixed "did:web:x#k" true (some (keyDoc [] [{ vmNil := true, id := "", key := .ok }])) 1
      = .panic "ResolveKeyByID:rel.ID(nil *VerificationMethod)" ∧
    Resolver.resolveKey Resolver.Cfg.unfixed (some (keyDoc [] [{ vmNil := true, id := "", key := .ok }])) 1
      = .panic "ResolveKey:keys[0].PublicKey()(nil *VerificationMethod)" := by decide +kernel

/-! ### vdr/resolver/service.go: Resolve / ResolveEx -/

/-- Service reference resolution terminates for every document graph (cycles, self references, dangling references):
    `Resolve(query, maxDepth)` runs at most `max(0, maxDepth) + 1` iterations of ResolveEx, whatever the resolver, the URI
    parsers and the documents return, and never panics (the cache map it passes is not nil). -/
theorem service_resolve_terminates (env : Resolver.Env) (query : String) (maxDepth : Int) :
    (Resolver.resolve env query maxDepth).2 ≤ maxDepth.toNat + 1 ∧
    ∀ s, (Resolver.resolve env query maxDepth).1 ≠ .panic s := by
  unfold Resolver.resolve
  have := resolveEx_spec (P := fun _ => False) env query 0 maxDepth
  exact ⟨by simpa using this.1, this.2.total⟩

def loopEnv : Resolver.Env :=
  { didOf := fun _ => some "did:web:a", resolve := fun _ => some [{ typ := "x", endpoint := .null, endpointStr := some "did:web:a/serviceEndpoint?type=x" }],
    queryType := fun _ => "x", uriOk := fun _ => true, refOk := fun _ => true }
/-- non-vacuity: a self-referencing service hits the depth limit after exactly maxDepth+1 iterations -/
example : Resolver.resolve loopEnv "did:web:a/serviceEndpoint?type=x" 5 = (.err "ErrServiceReferenceToDeep", 6) := by
  simp [Resolver.resolve, Resolver.resolveEx, loopEnv, Resolver.findSvc, Resolver.isServiceReference, hasPrefix]
/-- a caller of the exported ResolveEx that passes a nil cache map panics on the first cache write (no caller in /repo does) -/
example : (Resolver.resolveEx loopEnv true "did:web:a/serviceEndpoint?type=x" 0 5).1 = .panic "ResolveEx:documentCache[k]=v(nil map)" := by
  simp [Resolver.resolveEx, loopEnv]

/-! ### vcr/revocation/bitstring.go: bit, setBit -/

/-- For ANY integer index and ANY bitstring length, bit and setBit never index out of range; bit returns an error exactly
    when the index is negative or ≥ 8·len, and setBit keeps the length. -/
theorem bitstring_total (bs : List Nat) (idx : Int) (v : Bool) :
    (∀ s, Bitstring.bit bs idx ≠ .panic s) ∧ (∀ s, Bitstring.setBit bs idx v ≠ .panic s) ∧
    ((∃ e, Bitstring.bit bs idx = .err e) ↔ (idx < 0 ∨ idx ≥ 8 * (bs.length : Int))) ∧
    (∀ r, Bitstring.setBit bs idx v = .ok r → r.length = bs.length) :=
  ⟨(bit_spec bs idx).1.total, (setBit_spec bs idx v).1.total, (bit_spec (P := fun _ => False) bs idx).2, (setBit_spec (P := fun _ => False) bs idx v).2⟩

example : Bitstring.bit [0x80, 0x01] 0 = .ok true ∧ Bitstring.bit [0x80, 0x01] 15 = .ok true ∧ Bitstring.bit [0x80, 0x01] 16 = .err "ErrIndexNotInBitstring"
    ∧ Bitstring.bit [0x80, 0x01] (-1) = .err "ErrIndexNotInBitstring" ∧ Bitstring.setBit [0, 0] 9 true = .ok [0, 0x40] := by decide

/-! ### network/dag/tree/iblt.go -/

/-- UnmarshalBinary is total on every byte string: an error exactly when the length is not a multiple of 44 (the check
    precedes every assignment, so the receiver is unchanged), otherwise len/44 buckets; the per-bucket length error and the
    array-pointer conversion are unreachable. -/
theorem iblt_unmarshal_total (data : List Nat) :
    (∀ s, Iblt.unmarshal data ≠ .panic s) ∧
    (data.length % Iblt.bucketBytes = 0 → ∃ bs, Iblt.unmarshal data = .ok bs ∧ bs.size = data.length / Iblt.bucketBytes) ∧
    (data.length % Iblt.bucketBytes ≠ 0 → Iblt.unmarshal data = .err "invalid data length") := by
  obtain ⟨h1, h2⟩ := iblt_unmarshal_spec data
  refine ⟨?_, h1, h2⟩
  intro s
  by_cases h : data.length % Iblt.bucketBytes = 0
  · obtain ⟨bs, hb, _⟩ := h1 h; rw [hb]; simp
  · rw [h2 h]; simp

/-- Subtract with a different number of buckets is an error, never an index panic; Subtract never panics at all and keeps
    the number of buckets.  (The model returns a new table: on error the receiver is unchanged by construction; the Go
    code checks before it writes — the harness digests the receiver.) -/
theorem subtract_mismatch_is_error (i o : Iblt.Table) :
    (i.buckets.size ≠ o.buckets.size → Iblt.subtract i o = .err "number of buckets do not match") ∧
    (∀ s, Iblt.subtract i o ≠ .panic s) ∧
    (∀ r, Iblt.subtract i o = .ok r → r.buckets.size = i.buckets.size) := by
  obtain ⟨hv1, hv2, hv3⟩ := iblt_validate_spec i o
  unfold Iblt.subtract
  cases hv : Iblt.validate i o with
  | panic p => exact absurd hv (hv1 p)
  | err e => exact ⟨fun h => by cases hv.symm.trans (hv3 h); rfl, nofun, nofun⟩
  | ok u =>
    obtain ⟨r, hr, hrs⟩ := subtractLoop_ok o.buckets i.buckets.size 0 i.buckets (by simp) (hv2 hv)
    simp only [hr]
    exact ⟨fun h => absurd (hv2 hv) h, nofun, fun r' h => by cases h; exact hrs⟩

theorem ibltCfg_bounded : Sites.ibltCfg.chainBounded = true ∧ Sites.ibltCfg.k < Iblt.two32 := by
  rw [fact_cfg_is_fixed.2.2.1]; decide

/-- bucketIndices (repaired) is total for EVERY hash function, every key hash and every table size — 0 buckets and fewer
    than k buckets included — and every index it returns is a valid bucket index. -/
theorem iblt_bucket_indices_total (H : Iblt.Hash) (numBuckets : Nat) (hash : BitVec 64) :
    ∃ ind, Iblt.bucketIndices Sites.ibltCfg H numBuckets hash = .ok ind ∧ ∀ i ∈ ind, i < numBuckets := by
  unfold Iblt.bucketIndices
  simp only [ibltCfg_bounded.1, ↓reduceIte]
  exact bucketIndicesNew_spec _ ibltCfg_bounded.2 H numBuckets hash

/-- … and for a table of at most 2^31 buckets it returns EXACTLY min(k, numBuckets) DISTINCT indices (what Insert/Delete rely on:
    a key is added to / removed from k different buckets), also when the hash chain is stuck on a short cycle and linear probing takes over -/
theorem iblt_bucket_indices_exact (H : Iblt.Hash) (numBuckets : Nat) (hnb : numBuckets ≤ 2147483648) (hash : BitVec 64) (ind : List Nat)
    (h : Iblt.bucketIndices Sites.ibltCfg H numBuckets hash = .ok ind) :
    ind.Nodup ∧ ind.length = min 6 numBuckets := by
  unfold Iblt.bucketIndices at h
  simp only [ibltCfg_bounded.1, ↓reduceIte] at h
  have := bucketIndicesNew_card Sites.ibltCfg ibltCfg_bounded.2 (by decide) H numBuckets hnb hash ind h
  simpa [fact_cfg_is_fixed.2.2.1] using this

/-- Insert and Delete of ANY key into ANY table succeed (no index panic, no hang) and keep the number of buckets -/
theorem iblt_insert_delete_total (H : Iblt.Hash) (bs : Array Iblt.Bucket) (key : Iblt.Key) :
    (∃ r, Iblt.insert Sites.ibltCfg H bs key = .ok r ∧ r.size = bs.size) ∧
    (∃ r, Iblt.delete Sites.ibltCfg H bs key = .ok r ∧ r.size = bs.size) :=
  ⟨insDel_spec _ ibltCfg_bounded.1 ibltCfg_bounded.2 H bs 1 key, insDel_spec _ ibltCfg_bounded.1 ibltCfg_bounded.2 H bs (-1) key⟩

/-- **Decode terminates** on EVERY table (a peer controls it in handleTransactionSet), for every hash function: the outer
    `for {` loop returns after at most 2^256 + 1 passes.  Measure: every pass that does not return adds a key to `pures` that
    was not in it (the ErrDecodeLoop guard), and there are 2^256 keys.  This bound is finite but astronomically large; see
    `iblt_decode_pass_bound` for the bound in terms of the output and `HonestDecodeStmt` for what is NOT proved. -/
theorem iblt_decode_terminates (H : Iblt.Hash) (bs : Array Iblt.Bucket) :
    ∃ r, Iblt.decodeLoop Sites.ibltCfg H (Iblt.keySpace + 1) (Iblt.DState.init bs) = some r :=
  let ⟨r, h, _⟩ := iblt_decode_spec _ ibltCfg_bounded.1 ibltCfg_bounded.2 H bs
  ⟨r, h⟩

/-- the fuel is irrelevant once it suffices: what Decode returns is a function of the table alone -/
theorem iblt_decode_fuel_irrelevant (c : Iblt.Cfg) (H : Iblt.Hash) (s : Iblt.DState) (f g : Nat) (r : Res Iblt.DState)
    (h : Iblt.decodeLoop c H f s = some r) (hfg : f ≤ g) : Iblt.decodeLoop c H g s = some r := by
  induction f generalizing s g with
  | zero => simp [Iblt.decodeLoop] at h
  | succ f ih =>
    obtain ⟨g', rfl⟩ : ∃ g', g = g' + 1 := ⟨g - 1, by omega⟩
    unfold Iblt.decodeLoop at h ⊢
    split at h
    · exact ih _ _ h (by omega)
    · exact h
    · exact h
    · exact h

/-- Decode never panics (its bucket indexing, and the indexing inside the Insert/Delete it calls, stay in range) -/
theorem iblt_decode_total (H : Iblt.Hash) (bs : Array Iblt.Bucket) :
    ∃ r, Iblt.decode Sites.ibltCfg H bs = some r ∧ ∀ p, r ≠ .panic p :=
  let ⟨r, h, hp, _⟩ := iblt_decode_spec _ ibltCfg_bounded.1 ibltCfg_bounded.2 H bs
  ⟨r, h, hp⟩

/-- when Decode succeeds, the number of passes it made is at most the number of keys it returns, plus one -/
theorem iblt_decode_pass_bound (H : Iblt.Hash) (bs : Array Iblt.Bucket) (r : Iblt.DState)
    (h : Iblt.decode Sites.ibltCfg H bs = some (.ok r)) : r.passes ≤ r.remaining.length + r.missing.length + 1 :=
  let ⟨_, h0, _, hbd⟩ := iblt_decode_spec _ ibltCfg_bounded.1 ibltCfg_bounded.2 H bs
  hbd r (Option.some.inj (h0.symm.trans h))

/-- NOT PROVED (conjecture, stated for the record): for the difference of two honest tables (keys of A inserted, keys of B
    deleted, A and B disjoint, no two subsets of A ∪ B looking like one key to the 64-bit hash) Decode peels only keys of A ∪ B,
    hence makes at most |A| + |B| + 1 passes.  For adversarial tables only the bounds above are known: a peer that can build
    XOR-consistent chains in murmur3 (not a cryptographic hash) might make Decode run long; the harness measures passes on
    hostile tables (evidence: iblt_decode_passes_histogram). -/
def HonestDecodeStmt : Prop :=
  ∀ (H : Iblt.Hash) (n : Nat) (A B : List Iblt.Key), (∀ a ∈ A, a ∉ B) →
    ∀ t, (A.foldlM (fun bs k => Iblt.insert Sites.ibltCfg H bs k) (Array.replicate n Iblt.Bucket.zero) >>=
          fun bs => B.foldlM (fun bs k => Iblt.delete Sites.ibltCfg H bs k) bs) = .ok t →
    ∀ r, Iblt.decode Sites.ibltCfg H t = some (.ok r) → r.passes ≤ A.length + B.length + 1

/-- the peer-facing sequence of handleTransactionSet — UnmarshalBinary(msg.IBLT), Subtract from the node's own table,
    Decode — returns (never hangs) and never panics, for every byte string, every own table and every hash function -/
theorem iblt_handle_set_total (H : Iblt.Hash) (own : Iblt.Table) (data : List Nat) :
    ∃ r, Iblt.handleSet Sites.ibltCfg H own data = some r ∧ ∀ p, r ≠ .panic p := by
  fun_cases Iblt.handleSet Sites.ibltCfg H own data with
  | case2 _ hu => exact absurd hu ((iblt_unmarshal_total data).1 _)
  | case4 _ _ _ hs => exact absurd hs ((subtract_mismatch_is_error _ _).2.1 _)
  | case5 => exact iblt_decode_total H _
  | _ => exact ⟨_, rfl, fun _ h => nomatch h⟩

/-- a table with 0 buckets (UnmarshalBinary of 0 bytes) decodes to "empty" in one pass without ever reaching
    `% numBuckets` — for the unrepaired source as well (any Cfg) -/
theorem iblt_zero_buckets_never_divide (c : Iblt.Cfg) (H : Iblt.Hash) :
    Iblt.unmarshal [] = .ok #[] ∧ Iblt.decode c H #[] = some (.ok { buckets := #[], pures := [], remaining := [], missing := [], passes := 1 }) := by
  constructor
  · decide
  · unfold Iblt.decode Iblt.decodeLoop
    simp [Iblt.pass, Iblt.allEmpty, Iblt.DState.init]

/-- KERNEL-CHECKED FACT ABOUT murmur3: the chain next ↦ murmur3_32(seed 1, LE32(next)) that bucketIndices walks has a
    fixed point, a 2-cycle and a 3-cycle (exhaustive search over 2^32 in the harness: these six values are all). -/
theorem murmur_chain_short_cycles :
    Murmur.hash.next 4101757383 = 4101757383 ∧
    Murmur.hash.next 2381736504 = 3264639879 ∧ Murmur.hash.next 3264639879 = 2381736504 ∧
    Murmur.hash.next 1532747441 = 4107318918 ∧ Murmur.hash.next 4107318918 = 2685067771 ∧
    Murmur.hash.next 2685067771 = 1532747441 := by decide

/-- NEGATION for the source before the repair: with the real murmur3 and the production table size (1024 buckets, k = 6),
    a key whose chain starts at the fixed point makes the loop of bucketIndices run forever — for EVERY amount of fuel the
    loop has not returned.  Replayed on the real code with the key 0c00…e641e2… whose chain enters the 3-cycle
    (harness/corpus/C19/03_iblt.jsonl: Insert and handleTransactionSet's Decode time out). -/
theorem iblt_unbounded_chain_hangs :
    ∀ fuel, Iblt.chainOld Murmur.hash 1024 6 fuel 4101757383 [] = none := fun fuel =>
  chainOld_fixed_point_hangs Murmur.hash 1024 6 (by decide) (by decide) 4101757383 murmur_chain_short_cycles.1 fuel [] (.inl rfl)

/-- for the source before the repair, ANY hash function: a table with 1 ≤ n < k buckets hangs the first Insert/Delete
    (and so Decode on a pure bucket), and a table with 0 buckets divides by zero.  Not reachable from a peer (Subtract
    refuses a table whose size differs from the node's own, `fact_constants`: ibltK ≤ IbltNumBuckets), repaired anyway. -/
theorem iblt_small_table_hangs_unfixed (H : Iblt.Hash) (n k : Nat) (hn : n ≠ 0) (hk : n < k) (hash : BitVec 64) :
    (∀ fuel, Iblt.chainOld H n k fuel (H.first hash) [] = none) ∧
    (∀ fuel, Iblt.chainOld H 0 k (fuel + 1) (H.first hash) [] = some (.panic "bucketIndices:next % numBuckets")) :=
  ⟨fun fuel => chainOld_small_table_hangs H n k hn hk fuel _ [] (by simp) (by simp),
   fun fuel => chainOld_zero_buckets_panics H k (by omega) fuel _⟩

/-- non-vacuity: with the real murmur3 the repaired bucketIndices gives 6 distinct buckets for an ordinary hash and for the
    fixed point's chain (the chain phase, here cut to 4 steps, stays at bucket 455; linear probing from there finds the rest) -/
example : Iblt.chainPhase Murmur.hash 1024 6 4 4101757383 0 [] = .ok ([455], 455) := by decide
example : Iblt.probePhase 1024 6 455 1023 1 [455] = .ok [455, 456, 457, 458, 459, 460] := by decide

/-! ### auth/api/iam/openid4vp.go: withCallbackURI -/

/-- stand-alone, `withCallbackURI` is partial: any error that is not an `oauth.OAuth2Error` value panics (candidate #21) -/
theorem callback_standalone_partial (m : String) :
    Callback.withCallbackURI Sites.callbackCfg (.raw m) = .panic "withCallbackURI:err.(oauth.OAuth2Error)" := by
  rw [fact_cfg_is_fixed.2.2.2.2.1]; rfl

/-- … but in handleAuthorizeResponseSubmission it is never reached with such an error, for ANY list of presentations:
    `validatePresentationAudience` returns the raw ParseLDProof error only for a JSON-LD presentation whose proof does not
    parse, and `validatePresentationNonce` — which runs first and calls the same (deterministic) ParseLDProof through
    extractChallenge — has then already returned an OAuth2Error.  So candidate #21 is NOT a reachable defect (holds with the
    unchecked assertion).  The handler's other partial operation, `nonces[0]` in validatePresentationNonce, is in range
    because an envelope without presentations is rejected first (`envelopeGuard`, a regenerated fact). -/
theorem callback_total_in_handler (ps : List (Callback.Pres × Bool)) (storeOk : Bool) :
    (∀ c : Callback.Cfg, c.envelopeGuard = true → ∀ s, Callback.handleSubmission c ps storeOk ≠ .panic s) ∧
    (∀ s, Callback.handleSubmission Sites.callbackCfg ps storeOk ≠ .panic s) :=
  ⟨fun c hg => (handleSubmission_panicsIn c hg ps storeOk).total,
   (handleSubmission_panicsIn _ (by rw [fact_cfg_is_fixed.2.2.2.2.1]) ps storeOk).total⟩

/-- WITHOUT that guard the empty envelope (`vp_token=[]`, which pe.ParseEnvelope accepts) panics: the loop over zero
    presentations collects no error and `nonces[0]` indexes an empty slice -/
theorem callback_empty_envelope_needs_guard (c : Callback.Cfg) (hg : c.envelopeGuard = false) (storeOk : Bool) :
    Callback.handleSubmission c [] storeOk = .panic "validatePresentationNonce:nonces[0]" := by
  simp [Callback.handleSubmission, hg, Callback.validatePresentationNonce, Callback.noncesOf]

/-- non-vacuity: the malformed-proof presentation is answered with an OAuth2 error by the nonce check -/
example : Callback.handleSubmission { assertChecked := false }
    [({ format := .jsonld, ldProofOk := false, nonce := "", audOk := false }, true)] true = .ok (some (.oauth2 "invalid_request")) := by decide
example : Callback.handleSubmission { assertChecked := false } [] true = .ok (some (.oauth2 "invalid_request")) := by decide
example : Callback.handleSubmission { assertChecked := false }
    [({ format := .jwt, ldProofOk := true, nonce := "n", audOk := true }, true)] true = .ok none := by decide
/-- and the audience check alone WOULD hand withCallbackURI a raw error -/
example : Callback.audienceLoop { assertChecked := false }
    [({ format := .jsonld, ldProofOk := false, nonce := "n", audOk := false }, true)] = .panic "withCallbackURI:err.(oauth.OAuth2Error)" := by decide

/-! ### vcr/revocation/statuslist2021_verifier.go: validate, update, Verify's loop; vdr/didkey/resolver.go: Resolve -/

/-- For EVERY downloaded credential (whatever go-did's accessors report: any number of subjects incl. none, any member
    missing, nil or zero expirationDate), any expand/signature result and any list of credentialStatus entries with any index:
    validate, update and the per-entry loop of Verify never panic; update returns a record only after download, validate,
    expand, signature and subject id all succeeded (so a rejected status list credential leaves the SQL store unchanged). -/
theorem statuslist_total (url : String) (d : Option StatusList.Cred) (ex : String → Option (List Nat)) (sig : Bool) (es : List StatusList.Entry) :
    (∀ cr s, StatusList.validate Sites.statusListCfg cr ≠ .panic s) ∧
    (∀ s, StatusList.update Sites.statusListCfg url d ex sig ≠ .panic s) ∧
    (∀ s, StatusList.verifyEntries es ≠ .panic s) ∧
    (∀ r, StatusList.update Sites.statusListCfg url d ex sig = .ok r →
      ∃ cr subj bits, d = some cr ∧ StatusList.validate Sites.statusListCfg cr = .ok subj ∧ ex subj.encodedList = some bits ∧ sig = true ∧ url = subj.id) := by
  rw [fact_cfg_is_fixed.2.2.2.2.2.1]
  exact ⟨fun cr => (sl_validate_panicsIn _ nofun cr).total, (sl_update_panicsIn _ nofun nofun url d ex sig).total,
    (sl_verifyEntries_panicsIn es).total, fun r h => sl_update_ok_checked _ url d ex sig r h⟩

def goodCred : StatusList.Cred :=
  { hasVCContext := true, hasSLContext := true, isVCType := true, isSLCType := true, nTypes := 2, idNil := false, issuanceZero := false,
    jsonldWithoutProof := false, hasStatus := false, subjects := some [⟨"u", "StatusList2021", "revocation", "L"⟩], expiration := some false }
/-- without the two guards the witnesses panic: no credentialSubject at all → `target[0]`; no expirationDate → nil `IsZero()` -/
theorem statuslist_guards_needed :
    StatusList.validate ⟨false, true⟩ { goodCred with subjects := some [] } = .panic "validate:target[0]" ∧
    StatusList.update ⟨true, false⟩ "u" (some { goodCred with expiration := none }) (fun _ => some [0]) true = .panic "update:cred.ExpirationDate.IsZero()(nil)" ∧
    StatusList.update StatusList.Cfg.fixed "u" (some { goodCred with expiration := none }) (fun _ => some [0]) true = .ok ⟨"u", "revocation", [0], false⟩ ∧
    StatusList.update StatusList.Cfg.fixed "u" (some goodCred) (fun _ => some [0]) true = .ok ⟨"u", "revocation", [0], true⟩ := by decide +kernel

/-- did:key Resolve never panics, for every DID string / decoding result / codec / key length (the library calls are data) -/
theorem didkey_total (i : DidKey.In) : ∀ s, DidKey.resolve Sites.didKeyCfg i ≠ .panic s := by
  rw [fact_cfg_is_fixed.2.2.2.2.2.2]; exact (didkey_panicsIn _ nofun i).total

example : DidKey.resolve DidKey.Cfg.fixed { method := "key", encodedKey := ['z', '6'], b58Ok := true, keyType := some 0xed, keyLength := 32, rsaSize := none, vmOk := true } = .ok () := by decide
example : DidKey.resolve ⟨false⟩ { method := "key", encodedKey := [], b58Ok := false, keyType := none, keyLength := 0, rsaSize := none, vmOk := true } = .panic "Resolve:encodedKey[0]" := by decide

/-! ### Dpop.validate, key.go's three functions, bit/setBit and withCallbackURI panic only at listed sites (ties the `sites` lists of
these four models to their functions, any Cfg) -/

theorem model_panics_only_at_listed_sites :
    (∀ c up i tp m u s, Dpop.validate c up i tp m u = .panic s → s ∈ Dpop.sites.map (·.2)) ∧
    (∀ c ctx s, Resolver.baseUrl c ctx = .panic s → s ∈ Resolver.sites.map (·.2)) ∧
    (∀ c keyID didOk doc rt s, Resolver.resolveKeyByID c keyID didOk doc rt = .panic s → s ∈ Resolver.sites.map (·.2)) ∧
    (∀ c doc rt s, Resolver.resolveKey c doc rt = .panic s → s ∈ Resolver.sites.map (·.2)) ∧
    (∀ bs idx v s, Bitstring.bit bs idx ≠ .panic s ∧ Bitstring.setBit bs idx v ≠ .panic s) ∧
    (∀ c e s, Callback.withCallbackURI c e = .panic s → s ∈ Callback.sites.map (·.2)) :=
  -- go-did's PublicKey() is the fourth (ResolveKeyByID) and the fifth (ResolveKey) of the resolver's sites
  ⟨fun _ up i tp m u => dpop_validate_panicsIn up i tp m u (fun _ => .tail _ (.tail _ (.head _)))
      (fun _ => .tail _ (.head _)) fun _ => .tail _ (.tail _ (.tail _ (.head _))),
    fun c => baseUrl_panicsIn c fun _ => .head _,
    fun c keyID didOk doc rt => resolveKeyByID_panicsIn c keyID didOk doc rt (fun _ => .head _) (fun _ => .tail _ (.head _))
      fun _ _ r _ => publicKey_panicsIn _ r fun _ => ofList_append_eq rfl ▸ .tail _ (.tail _ (.tail _ (.head _))),
    fun c doc rt => resolveKey_panicsIn c doc rt (fun _ => .tail _ (.tail _ (.head _)))
      fun _ _ r _ => publicKey_panicsIn _ r fun _ => ofList_append_eq rfl ▸ .tail _ (.tail _ (.tail _ (.tail _ (.head _)))),
    fun bs idx v s => ⟨(bit_spec bs idx).1.total s, (setBit_spec bs idx v).1.total s⟩,
    fun c e => withCallbackURI_panicsIn c e fun _ => .head _⟩

/-! ### did:web: vdr/didweb/util.go DIDToURL, percentDecodeString, percentDecodeChar and web.go Resolve -/

/-- the did:web source today: slice guard `i+2 < len(s)`, length guard in percentDecodeChar, null-entry guard before the DID
    library; the characters percentDecodeChar decodes are EXACTLY the ones shouldPercentEncode encodes (both `switch` case lists
    are regenerated), neither `/` nor `%` nor `.` nor `?` nor `#` is among them; the content types and the status test of Resolve -/
theorem fact_didweb :
    Sites.didWebCfg = DidWeb.Cfg.fixed ∧ Facts.C19.didwebEncodeSet = Facts.C19.didwebDecodeSet ∧
    (∀ x ∈ [47, 37, 46, 63, 35, 92], x ∉ Facts.C19.didwebDecodeSet) ∧
    Facts.C19.didwebSliceGuards = ["s[i] == '%' && i + 2 < len(s)", "ok"] ∧
    Facts.C19.didwebStatusTests = ["!(httpResponse.StatusCode >= 200 && httpResponse.StatusCode < 300)"] :=
  ⟨by simp only [cfg_of_source], rfl, by decide, rfl, rfl⟩

/-- percentDecodeString returns a string — no panic, no error — for EVERY byte string -/
theorem didweb_percent_decode_total (s : DidWeb.Bytes) : ∃ out, DidWeb.percentDecode Sites.didWebCfg s = .ok out := by
  rw [fact_didweb.1]; exact dw_decode_from_ok DidWeb.Cfg.fixed 2 rfl (Nat.le_refl 2) s 0

/-- the guard must demand TWO more bytes: with `i+1 < len(s)` the input "%2", without a guard the input "a%", panics at the slice;
    without its length guard percentDecodeChar indexes past the end of "%2" -/
theorem didweb_percent_decode_guard_needed :
    DidWeb.percentDecode { DidWeb.Cfg.fixed with sliceGuard := some 1 } [37, 50] = .panic "percentDecodeString:s[i:i+3]" ∧
    DidWeb.percentDecode { DidWeb.Cfg.fixed with sliceGuard := none } [97, 37] = .panic "percentDecodeString:s[i:i+3]" ∧
    DidWeb.percentDecodeChar { DidWeb.Cfg.fixed with charLenGuard := false } [37, 50] = .panic "percentDecodeChar:encoded[2]" := by
  decide +kernel

/-- the loop consumes at least one byte per output byte (termination with a bound), for every configuration of the guards -/
theorem didweb_percent_decode_length (c : DidWeb.Cfg) (s out : DidWeb.Bytes) (h : DidWeb.percentDecode c s = .ok out) :
    out.length ≤ s.length := dw_decode_from_length c s 0 out h

/-- percent-decoding never INTRODUCES a byte outside the decode set: in particular no `/`, `%`, `.`, `?`, `#`, `\` appears in the
    URL path that was not literally in the DID (no path traversal through `%2F`, `%2E`) -/
theorem didweb_percent_decode_only_allowed (s out : DidWeb.Bytes) (h : DidWeb.percentDecode Sites.didWebCfg s = .ok out) :
    (∀ y ∈ out, y ∈ s ∨ y ∈ Facts.C19.didwebDecodeSet) ∧
    (∀ x ∈ [47, 37, 46, 63, 35, 92], x ∉ s → x ∉ out) := by
  have h1 := dw_decode_from_only_allowed Sites.didWebCfg s 0 out h
  refine ⟨h1, ?_⟩
  intro x hx hns ho
  rcases h1 x ho with h2 | h2
  · exact hns h2
  · exact fact_didweb.2.2.1 x hx h2

example : DidWeb.percentDecode DidWeb.Cfg.fixed [47, 97, 37, 50, 66, 98, 37, 50, 70, 37] = .ok [47, 97, 43, 98, 37, 50, 70, 37] := by decide

/-- url.PathUnescape (re-implemented, compared with the real one on every run) is the identity on strings without `%` -/
theorem didweb_path_unescape_plain (s : DidWeb.Bytes) (h : 37 ∉ s) : DidWeb.pathUnescape s = some s :=
  dw_unescape_no_percent s h

/-- DIDToURL never panics: every DID value (any method, any ID bytes), every behaviour of url.Parse / net.ParseIP -/
theorem didweb_did_to_url_total (up : DidWeb.UrlParse) (method : String) (id : DidWeb.Bytes) :
    ∀ site, DidWeb.didToURL Sites.didWebCfg up method id ≠ .panic site := by
  exact (dw_didToURL_panicsIn _ didweb_percent_decode_total up method id).total

/-- what an accepted DID guarantees: method web, the host url.Parse found IS the unescaped first segment of the id, and it is
    not an IP address -/
theorem didweb_did_to_url_ok (up : DidWeb.UrlParse) (method : String) (id : DidWeb.Bytes) (p : DidWeb.Parsed)
    (h : DidWeb.didToURL Sites.didWebCfg up method id = .ok p) :
    method = "web" ∧ DidWeb.pathUnescape (DidWeb.splitColon id).1 = some p.host ∧ p.isIP = false ∧
    ∃ t, DidWeb.didTarget Sites.didWebCfg method id = .ok t ∧ up (DidWeb.targetURL t) = some p := by
  revert h
  fun_cases DidWeb.didToURL Sites.didWebCfg up method id with
  | case6 t ht p' hp hhost hip =>
    intro h; cases h
    obtain ⟨hm, hu⟩ := dw_target_ok _ _ _ _ ht
    have hhost' : p.host = t.1 := by simpa using hhost
    exact ⟨hm, hhost' ▸ hu, by simpa using hip, t, ht, hp⟩
  | _ => nofun

/-- did:web Resolve never panics — every DID value, every url.Parse behaviour, every HTTP exchange — PROVIDED go-did's
    Document.UnmarshalJSON panics only on bodies that RejectNullKeyEntries rejects (the third-party contract; see the open finding) -/
theorem didweb_resolve_total (up : DidWeb.UrlParse) (method : String) (id : DidWeb.Bytes) (h : DidWeb.Http)
    (contract : h.unmarshal = .panic → h.nullEntries = true) :
    ∀ site, DidWeb.resolve Sites.didWebCfg up method id h ≠ .panic site := by
  refine Res.PanicsIn.total ?_
  fun_cases DidWeb.resolve Sites.didWebCfg up method id h with
  | case3 _ _ hd => exact .pass (dw_didToURL_panicsIn _ didweb_percent_decode_total up method id) hd
  | case11 _ _ _ _ _ _ _ _ _ _ hn hu =>   -- the null-entry guard answers first
    rw [fact_didweb.1, contract hu] at hn; exact absurd rfl hn
  | case14 => exact .ok
  | _ => exact .err

/-- END TO END (DID value + HTTP exchange → decision): a document is returned only if the method is web, DIDToURL accepted the id,
    the status is 2xx, the content type is one of the source's `case` list, the body passed the null-entry guard, go-did parsed
    it and its id equals the DID; the URL fetched is the parsed path (or /.well-known) + /did.json -/
theorem didweb_resolve_ok (up : DidWeb.UrlParse) (method : String) (id : DidWeb.Bytes) (h : DidWeb.Http) (path : DidWeb.Bytes)
    (hr : DidWeb.resolve Sites.didWebCfg up method id h = .ok path) :
    method = "web" ∧ (∃ p, DidWeb.didToURL Sites.didWebCfg up method id = .ok p ∧ path = DidWeb.requestPath p) ∧
    h.reqOk = true ∧ h.doOk = true ∧ 200 ≤ h.status ∧ h.status < 300 ∧ (∃ ct, h.ct = some ct ∧ ct ∈ Facts.C19.didwebContentTypes) ∧
    h.readOk = true ∧ h.nullEntries = false ∧ h.unmarshal = .ok ∧ h.idEquals = true := by
  revert hr
  -- every exit but the last is an error; the last lies behind every guard
  fun_cases DidWeb.resolve Sites.didWebCfg up method id h with
  | case14 hm p hd hreq hdo hst ct hct hmem hread hnull hu hid =>
    intro hr; cases hr
    have hg : Sites.didWebCfg.nullGuard = true := by rw [fact_didweb.1]; rfl
    have hc : Sites.didWebCfg.contentTypes = Facts.C19.didwebContentTypes := rfl
    simp [hg, hc] at hm hreq hdo hst hmem hread hnull hid
    exact ⟨hm, ⟨p, hd, rfl⟩, hreq, hdo, hst.1, hst.2, ⟨ct, hct, hmem⟩, hread, hnull, hu, hid⟩
  | _ => nofun

/-- without the null-entry guard a body go-did panics on takes the node down (the state of the code before 9dd29f8) -/
theorem didweb_null_guard_needed :
    DidWeb.resolve { DidWeb.Cfg.fixed with nullGuard := false } (fun _ => some ⟨[120], [], false⟩) "web" [120]
      ⟨true, true, 200, some "application/json", true, true, .panic, false⟩ = .panic "Resolve>did.Document.UnmarshalJSON" ∧
    DidWeb.resolve DidWeb.Cfg.fixed (fun _ => some ⟨[120], [], false⟩) "web" [120]
      ⟨true, true, 200, some "application/json", true, true, .panic, false⟩ = .err "unmarshal" := by
  decide +kernel

example : DidWeb.resolve DidWeb.Cfg.fixed (fun _ => some ⟨[120], [], false⟩) "web" [120]
    ⟨true, true, 200, some "application/did+json", true, false, .ok, true⟩ = .ok (DidWeb.wellKnown ++ DidWeb.didJson) := by decide
example : DidWeb.didToURL DidWeb.Cfg.fixed (fun _ => some ⟨[120], [47, 97], false⟩) "web" [120, 58, 97] = .ok ⟨[120], [47, 97], false⟩ := by decide
example : DidWeb.didToURL DidWeb.Cfg.fixed (fun _ => none) "web" [120, 58, 97, 58] = .err "empty-path" := by decide


/-! ### DID documents from the network: ambassador.handleNetworkEvent → callback -/

/-- EVERY place in vdr / network / discovery / auth / vcr / didman / storage that unmarshals bytes into a did.Document is known,
    and the two that run on bytes from a peer or a remote server (ambassador.callback, did:web Resolve) call
    resolver.RejectNullKeyEntries FIRST (go-did dereferences null key entries while it resolves relationship references) -/
theorem fact_doc_unmarshal_guarded :
    Facts.C19.didDocUnmarshals = Sites.expectedDocUnmarshals ∧ Sites.ambassadorCfg = Ambassador.Cfg.fixed :=
  -- each expected entry is a site with its suffix appended; the callback's entry is the fifth of the list
  ⟨congr (congrArg _ (ofList_append_eq rfl)) <| congr (congrArg _ (ofList_append_eq rfl)) <|
    congr (congrArg _ (ofList_append_eq rfl)) <| congr (congrArg _ (ofList_append_eq rfl)) <|
    congr (congrArg _ (ofList_append_eq rfl)) <| congr (congrArg _ (ofList_append_eq rfl)) <|
    congr (congrArg _ (ofList_append_eq rfl)) rfl,
   congrArg Ambassador.Cfg.mk (List.contains_iff_mem.2 (.tail _ <| .tail _ <| .tail _ <| .tail _ <| .head _))⟩

/-- the DAG subscriber for DID documents never panics, whatever the transaction and the payload bytes — PROVIDED go-did's
    Document.UnmarshalJSON panics only on payloads that RejectNullKeyEntries rejects (third-party contract) -/
theorem ambassador_callback_total (i : Ambassador.In) (contract : i.unmarshal = .panic → i.nullEntries = true) :
    ∀ site, Ambassador.handleNetworkEvent Sites.ambassadorCfg i ≠ .panic site ∧ Ambassador.callback Sites.ambassadorCfg i ≠ .panic site := by
  rw [fact_doc_unmarshal_guarded.2]
  have hcb : Res.PanicsIn (Ambassador.callback Ambassador.Cfg.fixed i) fun _ => False := by
    fun_cases Ambassador.callback Ambassador.Cfg.fixed i with
    | case5 _ _ _ hn hu => rw [contract hu] at hn; exact absurd rfl hn   -- the null-entry guard answers first
    | case8 => exact .ok
    | _ => exact .err
  refine fun site => ⟨Res.PanicsIn.total ?_ site, hcb.total site⟩
  fun_cases Ambassador.handleNetworkEvent Ambassador.Cfg.fixed i with
  | case4 _ hc => exact .pass hcb hc
  | _ => exact .ok

/-- a rejected payload never reaches the create/update handler (stored state unchanged on error), and a payload with null key
    entries is always rejected as a non-retried fatal event -/
theorem ambassador_callback_rejects (i : Ambassador.In) :
    (∀ e, Ambassador.callback Sites.ambassadorCfg i = .err e → e ≠ "database" → e ≠ "handle" →
        (i.payloadTypeOk && i.payloadHashSet && i.signingTimeSet && !i.nullEntries && (i.unmarshal == .ok) && i.validateOk) = false) ∧
    (i.nullEntries = true → Ambassador.handleNetworkEvent Sites.ambassadorCfg i = .ok .fatal) := by
  rw [fact_doc_unmarshal_guarded.2]
  constructor
  · intro e h hdb hh
    -- had all six checks passed, only the handler's own outcome would be left
    refine Bool.eq_false_iff.2 fun hall => ?_
    simp only [Bool.and_eq_true, Bool.not_eq_true', beq_iff_eq] at hall
    obtain ⟨⟨⟨⟨⟨h1, h2⟩, h3⟩, h4⟩, h5⟩, h6⟩ := hall
    simp only [Ambassador.callback, h1, h2, h3, h4, h5, h6, Bool.not_true, Bool.and_false, Bool.false_eq_true, if_false] at h
    cases hh' : i.handled <;> rw [hh'] at h <;> cases h <;> contradiction
  · intro hne
    unfold Ambassador.handleNetworkEvent Ambassador.callback
    cases hpt : i.payloadTypeOk <;> cases hph : i.payloadHashSet <;> cases hst : i.signingTimeSet <;> simp [Ambassador.Cfg.fixed, hne]

/-- without the pre-check (seeded mutation w8m1) the payload `"verificationMethod":[null]` + a key reference kills the subscriber -/
theorem ambassador_null_guard_needed :
    Ambassador.handleNetworkEvent ⟨false⟩ ⟨true, true, true, true, .panic, false, .ok⟩ = .panic "callback>did.Document.UnmarshalJSON" ∧
    Ambassador.handleNetworkEvent ⟨true⟩ ⟨true, true, true, true, .panic, false, .ok⟩ = .ok .fatal := by
  decide +kernel

example : Ambassador.handleNetworkEvent Ambassador.Cfg.fixed ⟨true, true, true, false, .ok, true, .ok⟩ = .ok .done := by decide
example : Ambassador.handleNetworkEvent Ambassador.Cfg.fixed ⟨true, true, true, false, .ok, true, .dbErr⟩ = .ok .retry := by decide


/-! ### HTTP response cache (http/client/caching.go): the make-room loop that hung before b991549 -/

theorem fact_httpcache : Sites.httpCacheCfg = HttpCache.Cfg.fixed := by simp only [cfg_of_source]

/-- TERMINATION of `for h.head != nil && size+len > max { _ = h.pop() }` WITHOUT fuel: every iteration strictly shortens the
    expiry list, so from ANY cache state and for ANY body length the loop exits within (length of the list)+1 iterations;
    the closed form `makeRoom` never reports a hang and ends in a state in which the loop condition is false -/
theorem httpcache_make_room_terminates (len : Int) (s : HttpCache.St) :
    (∀ s', HttpCache.step Sites.httpCacheCfg len s = some s' → s'.list.length < s.list.length) ∧
    HttpCache.iter Sites.httpCacheCfg len (s.list.length + 1) s = none ∧
    HttpCache.makeRoom Sites.httpCacheCfg len s ≠ .hang ∧
    (∀ s', HttpCache.makeRoom Sites.httpCacheCfg len s = .done s' → HttpCache.step Sites.httpCacheCfg len s' = none) := by
  rw [fact_httpcache]
  refine ⟨fun s' h => hc_step_decreases _ rfl len s s' h, hc_iter_exits _ rfl len _ s (Nat.le_refl _),
    hc_make_room_no_hang _ rfl len s.max s.list s.index s.cur, fun s' h => (hc_make_room_done _ len s.max s.list s.index s.cur s' h).1⟩

/-- RoundTrip of a GET never hangs in the cache, whatever the cache state, the clock, the URL and the response -/
theorem httpcache_roundtrip_total (now : Int) (url : String) (fresh : Option HttpCache.Entry) (s : HttpCache.St) :
    (HttpCache.roundTrip Sites.httpCacheCfg now url fresh s).1 ≠ .hang := by
  rw [fact_httpcache]
  fun_cases HttpCache.roundTrip HttpCache.Cfg.fixed now url fresh s with
  | case3 => exact hc_insert_no_hang .fixed rfl _ _
  | _ => nofun

/-- the loop as it was before the repair: on the EMPTY cache a cacheable body of exactly maxBytes makes the loop body a no-op
    while its condition holds — the state after n iterations is the state before, for every n (it spins for ever, mutex held);
    so does an over-full cache once its list has been emptied -/
theorem httpcache_unguarded_loop_spins :
    (∀ n, HttpCache.iter HttpCache.Cfg.before 5 n (HttpCache.St.empty 5) = some (HttpCache.St.empty 5)) ∧
    HttpCache.insert HttpCache.Cfg.before ⟨1, "u", 5, 60⟩ (HttpCache.St.empty 5) = .hang ∧
    HttpCache.insert HttpCache.Cfg.before ⟨2, "v", 10, 60⟩ ⟨[⟨1, "u", 3, 30⟩], [⟨1, "u", 3, 30⟩], 3, 10⟩ = .hang ∧
    HttpCache.insert HttpCache.Cfg.fixed ⟨1, "u", 5, 60⟩ (HttpCache.St.empty 5) = .done ⟨[⟨1, "u", 5, 60⟩], [⟨1, "u", 5, 60⟩], 5, 5⟩ := by
  refine ⟨?_, by decide, by decide, by decide⟩
  intro n
  induction n with
  | zero => rfl
  | succ k ih => unfold HttpCache.iter; exact ih

/-- INVARIANT kept by every GET round trip (any clock, any response; the empty cache has it when maxBytes ≥ 0): currentSizeBytes is exactly the
    sum of the body sizes on the expiry list and never exceeds maxBytes -/
theorem httpcache_size_invariant (now : Int) (url : String) (fresh : Option HttpCache.Entry) (s s' : HttpCache.St)
    (h : Inv s) (hr : (HttpCache.roundTrip Sites.httpCacheCfg now url fresh s).1 = .done s') : Inv s' ∧ s'.max = s.max := by
  revert hr
  have hg := hc_removeExpired_inv now s.list s h
  fun_cases HttpCache.roundTrip Sites.httpCacheCfg now url fresh s with
  | case3 _ _ e => exact fun hr => have := hc_insert_inv _ e _ s' hg.1 hr; ⟨this.1, this.2.trans hg.2⟩
  | _ => intro hr; cases hr; exact hg

example : Inv (HttpCache.St.empty 100) := ⟨rfl, by decide⟩
example : (HttpCache.roundTrip HttpCache.Cfg.fixed 0 "u" (some ⟨2, "u", 60, 90⟩) ⟨[⟨1, "t", 50, 30⟩], [⟨1, "t", 50, 30⟩], 50, 100⟩).1
    = .done ⟨[⟨2, "u", 60, 90⟩], [⟨2, "u", 60, 90⟩], 60, 100⟩ := by decide


/-! ### vcr/credential helpers run on a presentation before its signature is verified -/

theorem fact_cred : Sites.credCfg = Cred.Cfg.fixed := by simp only [cfg_of_source]

/-- ResolveSubjectDID, ParseLDProof, PresentationSigner, PresenterIsCredentialSubject never panic: any number of credentials,
    any SubjectDID() results, any format, any kid / verification method, any number of proofs -/
theorem cred_total (vp : Cred.VP) :
    ∀ s, Cred.resolveSubjectDID Sites.credCfg vp.subjects ≠ .panic s ∧ Cred.parseLDProof Sites.credCfg vp ≠ .panic s ∧
      Cred.presentationSigner Sites.credCfg vp ≠ .panic s ∧ Cred.presenterIsCredentialSubject Sites.credCfg vp ≠ .panic s := by
  intro s
  rw [fact_cred]
  have h1 : Res.PanicsIn (Cred.resolveSubjectDID Cred.Cfg.fixed vp.subjects) fun _ => False := cred_loop_panicsIn _ nofun _ _
  have h2 : Res.PanicsIn (Cred.parseLDProof Cred.Cfg.fixed vp) fun _ => False := parseLDProof_panicsIn _ nofun vp
  have h3 : Res.PanicsIn (Cred.presentationSigner Cred.Cfg.fixed vp) fun _ => False := by
    fun_cases Cred.presentationSigner Cred.Cfg.fixed vp with
    | case4 | case9 => exact .ok
    | case6 _ _ hp => exact .pass h2 hp
    | _ => exact .err
  refine ⟨h1.total s, h2.total s, h3.total s, Res.PanicsIn.total ?_ s⟩
  fun_cases Cred.presenterIsCredentialSubject Cred.Cfg.fixed vp with
  | case2 _ hs => exact .pass h3 hs
  | case4 _ _ _ hs => exact .pass h1 hs
  | case5 | case6 => exact .ok
  | _ => exact .err

/-- what a non-nil answer of PresenterIsCredentialSubject guarantees (go-did's SubjectDID never returns an empty DID): the DID is
    the signer's, and EVERY credential in the presentation has exactly that subject -/
theorem cred_presenter_sound (vp : Cred.VP) (d : String) (hne : ∀ x ∈ vp.subjects, x ≠ some "")
    (h : Cred.presenterIsCredentialSubject Sites.credCfg vp = .ok (some d)) :
    Cred.presentationSigner Sites.credCfg vp = .ok d ∧ ∀ x ∈ vp.subjects, x = some d := by
  revert h
  fun_cases Cred.presenterIsCredentialSubject Sites.credCfg vp with
  | case6 signer hs subj hsub hq =>
    intro h; cases h
    obtain rfl : subj = d := by simpa using hq
    exact ⟨hs, (cred_loop_sound _ vp.subjects hne "" subj hsub).1⟩
  | _ => nofun

/-- both guards are needed: dropping the SubjectDID error dereferences nil, `len(proofs) > 1` lets proofs[0] run on no proof -/
theorem cred_guards_needed :
    Cred.resolveSubjectDID ⟨false, true⟩ [some "did:x:a", none] = .panic "ResolveSubjectDID:*sid" ∧
    Cred.presentationSigner ⟨true, false⟩ ⟨.ldp, none, true, 0, none, []⟩ = .panic "ParseLDProof:proofs[0]" ∧
    Cred.presenterIsCredentialSubject Cred.Cfg.fixed ⟨.ldp, none, true, 0, none, []⟩ = .err "proof-count" := by decide +kernel

example : Cred.presenterIsCredentialSubject Cred.Cfg.fixed ⟨.jwt, some "did:x:a#k", false, 0, some "did:x:a", [some "did:x:a", some "did:x:a"]⟩ = .ok (some "did:x:a") := by decide
example : Cred.presenterIsCredentialSubject Cred.Cfg.fixed ⟨.jwt, some "did:x:a#k", false, 0, some "did:x:a", [some "did:x:a", some "did:x:b"]⟩ = .err "not-same-subject" := by decide
example : Cred.presenterIsCredentialSubject Cred.Cfg.fixed ⟨.ldp, none, true, 1, some "did:x:b", [some "did:x:a"]⟩ = .ok none := by decide


/-! ### the remaining vcr/credential/util.go helpers: PresentationIssuanceDate / ExpirationDate, AutoCorrectSelfAttestedCredential, FilterOnDIDMethod -/

theorem fact_credmore : Sites.credMoreCfg = CredMore.Cfg.fixed ∧ Sites.credCfg = Cred.Cfg.fixed :=
  ⟨by simp only [cfg_of_source], fact_cred⟩

/-- No presentation (any format, any number of proofs incl. none, proof without `expires`, JWT without nbf/iat/exp) makes
    PresentationIssuanceDate or PresentationExpirationDate panic. -/
theorem cred_dates_total (vp : Cred.VP) (d : CredMore.Dates) :
    ∀ s, CredMore.issuanceDate Sites.credCfg vp d ≠ .panic s ∧ CredMore.expirationDate Sites.credMoreCfg Sites.credCfg vp d ≠ .panic s := by
  intro s
  rw [fact_credmore.1, fact_credmore.2]
  unfold CredMore.issuanceDate CredMore.expirationDate
  cases vp.format with
  | jwt => exact ⟨by cases d.nbf <;> nofun, nofun⟩
  | other => exact ⟨nofun, nofun⟩
  | ldp =>
    cases h : Cred.parseLDProof Cred.Cfg.fixed vp with
    | panic p => exact absurd h ((parseLDProof_panicsIn _ nofun vp).total p)
    | err e => exact ⟨nofun, nofun⟩
    | ok u => exact ⟨nofun, by cases d.expires <;> nofun⟩

/-- where a non-nil date comes from: a JWT's nbf, else its iat; a JSON-LD presentation's date only when it has EXACTLY one proof
    (which go-did could unmarshal), and then that proof's `created` / `expires`; never a zero time, never another format -/
theorem cred_dates_source (c : CredMore.Cfg) (cc : Cred.Cfg) (vp : Cred.VP) (d : CredMore.Dates) (t : String) :
    (CredMore.issuanceDate cc vp d = .ok (some t) →
      (vp.format = .jwt ∧ (d.nbf = some t ∨ (d.nbf = none ∧ d.iat = some t))) ∨
      (vp.format = .ldp ∧ Cred.parseLDProof cc vp = .ok () ∧ d.created = some t)) ∧
    (CredMore.expirationDate c cc vp d = .ok (some t) →
      (vp.format = .jwt ∧ d.exp = some t) ∨
      (vp.format = .ldp ∧ Cred.parseLDProof cc vp = .ok () ∧ d.expires = some (some t))) := by
  constructor
  -- the exits that return a date: nbf, else iat, the proof's `created`; exp, the proof's `expires`
  · fun_cases CredMore.issuanceDate cc vp d with
    | case1 hf _ hn => intro h; cases h; exact .inl ⟨hf, .inl hn⟩
    | case2 hf hn => exact fun h => .inl ⟨hf, .inr ⟨hn, Res.ok.inj h⟩⟩
    | case5 hf _ hp => exact fun h => .inr ⟨hf, hp, Res.ok.inj h⟩
    | _ => nofun
  · fun_cases CredMore.expirationDate c cc vp d with
    | case1 hf => exact fun h => .inl ⟨hf, Res.ok.inj h⟩
    | case6 hf _ hp _ he => intro h; cases h; exact .inr ⟨hf, hp, he⟩
    | _ => nofun

/-- No credential makes AutoCorrectSelfAttestedCredential panic: any number of proofs, any member missing, any credentialSubject
    (absent, scalar = nil map after the discarded unmarshal error, several) — under encoding/json's contract that a slice
    re-read from its own JSON has the length of the original (`len(credentialSubject) == 1 → len(credential.CredentialSubject) ≥ 1`). -/
theorem cred_autocorrect_total (i : CredMore.ACIn) (hlen : i.subj.length = 1 → 0 < i.nCS) :
    ∀ s, CredMore.autoCorrect Sites.credMoreCfg i ≠ .panic s := by
  rw [fact_credmore.1]
  fun_cases CredMore.autoCorrect CredMore.Cfg.fixed i with
  | case2 _ _ _ s hs => exact (acSubject_panicsIn _ s nofun fun h0 => by have := hlen (by rw [hs]; rfl); omega).total
  | case4 _ hx | case5 _ _ hx => exact absurd rfl hx   -- `credentialSubject[0]` is read under `len == 1` only
  | _ => nofun

/-- what AutoCorrectSelfAttestedCredential may change: nothing on a credential that carries a proof; otherwise only members that
    are MISSING (id, issuer, issuanceDate), and the subject id only when there is exactly one subject and it has no id —
    it never overwrites a value the client supplied -/
theorem cred_autocorrect_only_fills_missing (c : CredMore.Cfg) (i : CredMore.ACIn) (o : CredMore.ACOut)
    (h : CredMore.autoCorrect c i = .ok o) :
    (0 < i.nProof → o = CredMore.ACOut.untouched) ∧
    (o.setId = true → i.idNil = true) ∧ (o.setIssuer = true → i.issuerEmpty = true) ∧ (o.setDate = true → i.issuanceZero = true) ∧
    (o.setSubjectId = true → i.nProof = 0 ∧ ∃ s rest, i.subj = s :: rest ∧ s ≠ some true ∧ (c.subjLenExact = true → rest = [])) := by
  -- whichever guard stands in front of it, the subject block, if it ran, ran on the head of `subj`
  have hcase : i.nProof > 0 ∧ o = .untouched ∨ ¬ i.nProof > 0 ∧ (o = ⟨i.idNil, i.issuerEmpty, i.issuanceZero, false⟩ ∨
      ∃ s rest, i.subj = s :: rest ∧ (c.subjLenExact = true → rest = []) ∧
        CredMore.acSubject c i ⟨i.idNil, i.issuerEmpty, i.issuanceZero, false⟩ s = .ok o) := by
    revert h
    fun_cases CredMore.autoCorrect c i with
    | case1 hp => exact fun h => .inl ⟨hp, (Res.ok.inj h).symm⟩
    | case2 hp _ _ s hs => exact fun h => .inr ⟨hp, .inr ⟨s, [], hs, fun _ => rfl, h⟩⟩
    | case3 hp => exact fun h => .inr ⟨hp, .inl (Res.ok.inj h).symm⟩
    | case4 => nofun
    | case5 hp _ hx s rest hs => exact fun h => .inr ⟨hp, .inr ⟨s, rest, hs, fun hc => absurd hc hx, h⟩⟩
  obtain ⟨hp, rfl⟩ | ⟨hp, rfl | ⟨s, rest, hs, hrest, h⟩⟩ := hcase
  · exact ⟨fun _ => rfl, nofun, nofun, nofun, nofun⟩
  · exact ⟨fun h => absurd h hp, id, id, id, nofun⟩
  · obtain rfl | ⟨rfl, hne⟩ := acSubject_ok h
    · exact ⟨fun h => absurd h hp, id, id, id, nofun⟩
    · exact ⟨fun h => absurd h hp, id, id, id, fun _ => ⟨by omega, s, rest, hs, hne, hrest⟩⟩

/-- all three guards are needed (the witnesses panic without them, and are handled with them) -/
theorem cred_more_guards_needed :
    CredMore.expirationDate ⟨false, true, true, true⟩ Cred.Cfg.fixed ⟨.ldp, none, true, 1, some "did:x:a", []⟩ ⟨none, none, none, some "t", none⟩
      = .panic "PresentationExpirationDate:*ldProof.Expires" ∧
    CredMore.expirationDate CredMore.Cfg.fixed Cred.Cfg.fixed ⟨.ldp, none, true, 1, some "did:x:a", []⟩ ⟨none, none, none, some "t", none⟩ = .ok none ∧
    CredMore.autoCorrect ⟨true, false, true, true⟩ ⟨0, true, true, true, [none], 1⟩ = .panic "AutoCorrectSelfAttestedCredential:credentialSubject[0][id]=nil-map" ∧
    CredMore.autoCorrect CredMore.Cfg.fixed ⟨0, true, true, true, [none], 1⟩ = .ok ⟨true, true, true, true⟩ ∧
    CredMore.autoCorrect ⟨true, true, false, true⟩ ⟨0, false, false, false, [], 0⟩ = .panic "AutoCorrectSelfAttestedCredential:credentialSubject[0]" ∧
    CredMore.autoCorrect CredMore.Cfg.fixed ⟨0, false, false, false, [], 0⟩ = .ok CredMore.ACOut.untouched := by decide +kernel

example : CredMore.issuanceDate Cred.Cfg.fixed ⟨.jwt, none, false, 0, none, []⟩ ⟨none, some "iat", none, none, none⟩ = .ok (some "iat") := by decide
example : CredMore.expirationDate CredMore.Cfg.fixed Cred.Cfg.fixed ⟨.ldp, none, true, 1, none, []⟩ ⟨none, none, none, none, some (some "e")⟩ = .ok (some "e") := by decide
example : CredMore.autoCorrect CredMore.Cfg.fixed ⟨0, false, true, false, [some false], 1⟩ = .ok ⟨false, true, false, true⟩ := by decide
example : CredMore.autoCorrect CredMore.Cfg.fixed ⟨1, true, true, true, [some false], 1⟩ = .ok CredMore.ACOut.untouched := by decide

/-- FilterOnDIDMethod, for ANY list of credentials and ANY list of methods: (1) the result is a subsequence of the input (positions
    strictly increasing, all in range) — nothing is invented or duplicated; (2) SOUND and COMPLETE: a credential is kept exactly when its
    subject could be unmarshalled, its issuer — if it is a DID — has an allowed method, and so has every non-empty subject id that is a
    DID; (3) no methods = the input unchanged. -/
theorem cred_filter_correct (ms : List String) (creds : List CredMore.FCred) :
    (CredMore.filterOnDIDMethod Sites.credMoreCfg ms creds).Pairwise (· < ·) ∧
    (∀ k, k ∈ CredMore.filterOnDIDMethod Sites.credMoreCfg ms creds ↔
      ∃ cr, creds[k]? = some cr ∧ (ms = [] ∨
        (cr.subjOk = true ∧ (∀ m, cr.issuer = some m → m ∈ ms) ∧ ∀ b ∈ cr.subjects, ∀ m, b.idEmpty = false → b.method = some m → m ∈ ms))) := by
  rw [fact_credmore.1]
  unfold CredMore.filterOnDIDMethod
  simp only [CredMore.Cfg.fixed, Bool.true_and]
  cases ms with
  | nil =>
    simp only [List.isEmpty_nil, if_true]
    refine ⟨List.pairwise_lt_range, ?_⟩
    intro k
    rw [List.mem_range]
    constructor
    · intro h; exact ⟨creds[k], by simp [h], by simp⟩
    · intro ⟨cr, h, _⟩
      exact (List.getElem?_eq_some_iff.1 h).1
  | cons m0 mr =>
    simp only [List.isEmpty_cons, Bool.false_eq_true, if_false]
    rw [filterFrom_eq]
    -- the positions are a sublist of 0 … length-1
    refine ⟨.sublist (List.filter_sublist.map _) (List.zipIdx_map_snd 0 creds ▸ List.pairwise_lt_range'), fun k => ?_⟩
    rw [List.mem_map]
    constructor
    · rintro ⟨⟨cr, j⟩, hp, rfl⟩
      rw [List.mem_filter, List.mem_zipIdx_iff_getElem?] at hp
      exact ⟨cr, hp.1, .inr ((keep_iff _ cr).1 hp.2)⟩
    · rintro ⟨cr, hj, h | h⟩
      · cases h
      · exact ⟨(cr, k), List.mem_filter.2 ⟨List.mem_zipIdx_iff_getElem?.2 hj, (keep_iff _ cr).2 h⟩, rfl⟩

example : CredMore.filterOnDIDMethod CredMore.Cfg.fixed ["web"]
    [⟨some "web", true, [⟨false, some "web"⟩]⟩, ⟨some "nuts", true, []⟩, ⟨none, true, [⟨true, none⟩, ⟨false, some "nuts"⟩]⟩, ⟨none, false, []⟩, ⟨none, true, [⟨false, none⟩]⟩] = [0, 4] := by decide
example : CredMore.filterOnDIDMethod CredMore.Cfg.fixed [] [⟨some "nuts", false, []⟩, ⟨none, false, []⟩] = [0, 1] := by decide


/-! ### jsonld: the recover guard around the third-party JSON-LD processor -/

/-- every function of package jsonld that runs json-gold has a deferred call that recovers IN ITS OWN FRAME, and there are exactly three -/
theorem fact_jsonld : Sites.jsonldCfg = JsonLd.Cfg.fixed := by simp only [cfg_of_source]

/-- No document — whatever json-gold does with it, panics included — makes Canonicalize, ReadBytes or AllFieldsDefined panic; a
    processor panic is an ERROR (no result is returned). -/
theorem jsonld_total (i : JsonLd.In) :
    (∀ s, JsonLd.canonicalize Sites.jsonldCfg i ≠ .panic s ∧ JsonLd.readBytes Sites.jsonldCfg i ≠ .panic s ∧ JsonLd.allFieldsDefined Sites.jsonldCfg i ≠ .panic s) ∧
    (i.proc = .panic → ∃ e, JsonLd.canonicalize Sites.jsonldCfg i = .err e) ∧
    (JsonLd.canonicalize Sites.jsonldCfg i = .ok () → i.jsonOk = true ∧ i.proc = .ok) := by
  rw [fact_jsonld]
  have h : ∀ site s, JsonLd.guarded .direct site i ≠ .panic s := by
    intro site s; unfold JsonLd.guarded
    split
    · nofun
    · split <;> nofun
  refine ⟨fun s => ⟨h _ s, h _ s, h _ s⟩, ?_, ?_⟩
  · intro hp
    unfold JsonLd.canonicalize JsonLd.guarded
    simp only [JsonLd.Cfg.fixed]
    split
    · exact ⟨_, rfl⟩
    · rw [hp]; exact ⟨_, rfl⟩
  · intro hk
    unfold JsonLd.canonicalize JsonLd.guarded at hk
    simp only [JsonLd.Cfg.fixed] at hk
    split at hk
    · cases hk
    · rename_i hj
      split at hk
      · rename_i hp; exact ⟨by simpa using hj, hp⟩
      · cases hk
      · cases hk

/-- the guard must recover in the deferred function's own frame: with the SAME helper called from a deferred closure (seeded mutation
    w8m2: `defer func() { if recoverProcessorPanic(&err); err != nil { result = nil } }()`) a processor panic crashes the caller; so
    does a helper that no longer calls recover() itself; a closure that calls recover() itself is fine -/
theorem jsonld_guard_must_be_direct :
    JsonLd.guardOf ["recoverProcessorPanic"] [("ident", ["recoverProcessorPanic"])] = .direct ∧
    JsonLd.guardOf ["recoverProcessorPanic"] [("closure:calls", ["recoverProcessorPanic"])] = .nested ∧
    JsonLd.guardOf [] [("ident", ["recoverProcessorPanic"])] = .absent ∧
    JsonLd.guardOf ["recoverProcessorPanic"] [("closure:self", [])] = .direct ∧
    JsonLd.guardOf ["recoverProcessorPanic"] [] = .absent ∧
    JsonLd.guarded .nested "Canonicalize>ld" ⟨true, .panic⟩ = .panic "Canonicalize>ld" ∧
    JsonLd.guarded .absent "Canonicalize>ld" ⟨true, .panic⟩ = .panic "Canonicalize>ld" ∧
    JsonLd.guarded .direct "Canonicalize>ld" ⟨true, .panic⟩ = .err "invalid-document" := by decide +kernel

example : JsonLd.canonicalize JsonLd.Cfg.fixed ⟨true, .ok⟩ = .ok () := by decide
example : JsonLd.canonicalize JsonLd.Cfg.fixed ⟨true, .panic⟩ = .err "invalid-document" := by decide


/-! ### crypto/jwx.go JWTKidAlg, ParseJWT, ParseJWS -/

theorem fact_jwx : Sites.jwxCfg = Jwx.Cfg.fixed := by simp only [cfg_of_source]

/-- no token makes JWTKidAlg / ParseJWT / ParseJWS panic: any parse result, any number of signatures (0 included), any key
    function, any algorithm -/
theorem jwx_total (i : Jwx.In) :
    ∀ s, Jwx.jwtKidAlg Sites.jwxCfg i ≠ .panic s ∧ Jwx.parseJWT Sites.jwxCfg i ≠ .panic s ∧ Jwx.parseJWS Sites.jwxCfg i ≠ .panic s := by
  rw [fact_jwx]
  have hs site : Res.PanicsIn (Jwx.sigCheck true site i.nSigs) fun _ => False :=
    .byCases (fun _ => .ite .err .ok) fun h => absurd rfl h
  have h1 : Res.PanicsIn (Jwx.jwtKidAlg Jwx.Cfg.fixed i) fun _ => False := .ite .err (hs _)
  refine fun s => ⟨h1.total s, Res.PanicsIn.total ?_ s, Res.PanicsIn.total ?_ s⟩
  · fun_cases Jwx.parseJWT Jwx.Cfg.fixed i with
    | case2 _ hp => exact .pass h1 hp
    | case7 => exact .ok
    | _ => exact .err
  · fun_cases Jwx.parseJWS Jwx.Cfg.fixed i with
    | case3 _ _ hp => exact .pass (hs _) hp
    | case8 => exact .ok
    | _ => exact .err

/-- a token is accepted ONLY IF the library parsed it, it carries exactly one signature, the key function knows the kid, the
    algorithm is on the node's allow-list AND fits the key, and the library verified the signature with that key -/
theorem jwx_accepts_only_verified (i : Jwx.In) :
    (Jwx.parseJWT Sites.jwxCfg i = .ok () ∨ Jwx.parseJWS Sites.jwxCfg i = .ok ()) →
    i.parseOk = true ∧ i.nSigs = 1 ∧ i.keyOk = true ∧ i.algSupported = true ∧ i.algFitsKey = true ∧ i.verifyOk = true := by
  rw [fact_jwx]
  intro h
  cases hp : i.parseOk <;> cases hk : i.keyOk <;> cases ha : i.algSupported <;> cases hf : i.algFitsKey <;> cases hv : i.verifyOk <;>
    simp [Jwx.parseJWT, Jwx.parseJWS, Jwx.jwtKidAlg, Jwx.sigCheck, Jwx.Cfg.fixed, hp, hk, ha, hf, hv] at h ⊢ <;>
    (by_cases hn : i.nSigs = 1 <;> simp_all)

theorem jwx_guards_needed :
    Jwx.parseJWT ⟨false, true⟩ ⟨true, 0, true, true, true, true⟩ = .panic "JWTKidAlg:j.Signatures()[0]" ∧
    Jwx.parseJWS ⟨true, false⟩ ⟨true, 0, true, true, true, true⟩ = .panic "ParseJWS:signatures[0]" ∧
    Jwx.parseJWS Jwx.Cfg.fixed ⟨true, 2, true, true, true, true⟩ = .err "signatures" := by decide +kernel

example : Jwx.parseJWT Jwx.Cfg.fixed ⟨true, 1, true, true, true, true⟩ = .ok () := by decide
example : Jwx.parseJWS Jwx.Cfg.fixed ⟨true, 1, true, true, true, true⟩ = .ok () := by decide

end Nuts.C19.Props
