/-
  C07 — connected nodes converge to the union of their DAGs despite loss and reordering.
  Model: NutsModel/C07 {Types, Dag, Handlers, Net, Round} (transport/v2 handlers.go, transactionlist_handler.go, senders.go,
  conversation.go, protocol.go, gossip/manager.go, gossip/queue.go; the decisions of dag/state.go), Iblt (dag/tree/iblt.go),
  Dispatch (`protocol.Handle` / `handle`), Addr (`sendGossip`, grpc/predicate.go, connection_list.go), ConvLock (the mutex of
  conversation.go).
  Facts: NutsModel/Facts/C07.lean is REGENERATED from /repo on every run.
-/
import NutsModel.C07.Net
import NutsModel.Facts.C07
import NutsProofs.Lemmas.C07Safety
import NutsProofs.Lemmas.C07LiveN
import NutsProofs.Lemmas.C07Example
import NutsProofs.Lemmas.C07LiveSched
import NutsProofs.Lemmas.C07Decode
import NutsProofs.Lemmas.C07Disp
import NutsProofs.Lemmas.C07Addr
import NutsProofs.Lemmas.C07ConvLock
open Nuts.Proto Nuts Nuts.Proto.L Nuts.Proto.Live Nuts.C07.Ex

namespace Nuts.C07.Props

/-- the constants the liveness argument needs: pages are non-empty, a range reply spans at least the page asked
    for, the gossip queue and the message size are positive -/
theorem fact_constants :
    0 < Facts.C07.pageSize ∧ 0 < Facts.C07.maxQueueSize ∧ 1 ≤ Facts.C07.rangeLimitPages ∧
    Facts.C07.transactionListMessageOverhead < Facts.C07.defaultMaxMessageSizeInBytes ∧ 0 < Facts.C07.maxValidity := by decide

/-- list and range queries block further queries to the same peer, `State` does not; all three are checked -/
theorem fact_blockable :
    Facts.C07.blockable = ["Envelope_TransactionListQuery", "Envelope_TransactionRangeQuery"] ∧
    Facts.C07.checkable = ["Envelope_TransactionListQuery", "Envelope_TransactionRangeQuery", "Envelope_State"] := ⟨rfl, rfl⟩

/-- `handleTransactionSet` asks for the page after the requested one (one page when reconciling history, two when
    behind), the first page when the first page does not decode, and checks the conversation before it marks it
    done and decodes; a range reply is limited to `rangeLimitPages` pages, which covers both requests -/
theorem fact_transaction_set_shape :
    Facts.C07.nextPageOffsets = [1, 2, 1, 3] ∧ Facts.C07.firstPageQueryEnd = "dag.PageSize" ∧
    Facts.C07.setCheckThenDoneThenDecode = true ∧ Facts.C07.rangeLimitPages = 2 := by and_intros <;> rfl

/-- `handleTransactionList` checks the conversation before the first `Add` and ends the conversation only with the
    last chunk (or in the missing-prevs branch) -/
theorem fact_transaction_list_shape :
    Facts.C07.listCheckBeforeAdd = true ∧ Facts.C07.listDoneGuard = "msg.MessageNumber >= msg.TotalMessages" := ⟨rfl, rfl⟩

/-- `handleGossip` sends a list query iff the gossiped refs explain the XOR difference or the peer is behind -/
theorem fact_gossip_condition :
    Facts.C07.gossipListQueryCond = "tempXor.Equals(peerXor) || (msg.LC < clock && len(refs) > 0)" := rfl

/-- every envelope type the model handles is dispatched by `protocol.handle`, and no other -/
theorem fact_handled_envelopes :
    Facts.C07.handledEnvelopes = ["Envelope_Gossip", "Envelope_TransactionList", "Envelope_TransactionListQuery",
      "Envelope_TransactionPayloadQuery", "Envelope_TransactionPayload", "Envelope_TransactionRangeQuery", "Envelope_State",
      "Envelope_TransactionSet", "Envelope_DiagnosticsBroadcast"] := rfl

/-- `protocol.handle` dispatches every envelope type to the handler the model (and the harness, which calls the handlers
    directly) uses for it; TransactionLists are queued for in-order processing by `handleTransactionList`; `Configure`
    registers `sendGossip` as the gossip sender and `gossipTransaction` as the "gossip" notifier -/
theorem fact_dispatch_and_wiring :
    Facts.C07.dispatch = ["Envelope_Gossip->p.handleGossip", "Envelope_TransactionList->channel:p.listHandler.ch",
      "Envelope_TransactionListQuery->p.handleTransactionListQuery", "Envelope_TransactionPayloadQuery->p.handleTransactionPayloadQuery",
      "Envelope_TransactionPayload->p.handleTransactionPayload", "Envelope_TransactionRangeQuery->p.handleTransactionRangeQuery",
      "Envelope_State->p.handleState", "Envelope_TransactionSet->p.handleTransactionSet",
      "Envelope_DiagnosticsBroadcast->p.handleDiagnostics"] ∧
    Facts.C07.listHandlerFunc = "p.handleTransactionList" ∧
    Facts.C07.configureWiring = ["RegisterSender:p.sendGossip", "Notifier:\"private\":<*ast.FuncLit>", "Notifier:\"gossip\":p.gossipTransaction"] := by and_intros <;> rfl

/-- **Safety for ANY schedule** (deliveries in any order, any number of times or never; forged messages of any type
    with any content; gossip ticks; clock advances; evictions; local creation; connection changes; restarts) and ANY
    behaviour of the IBLT decode and the ECIES oracles (for (a) and (b) also of the sort). Starting from valid DAGs:
    (a) every node's DAG only grows — the old DAG is a suffix of the new one, nothing is removed or reordered;
    (b) every DAG stays a valid DAG (`DagOK`: good signature verdict, no duplicates, prevs present before, right clock,
        one root) — in particular no transaction with a bad verdict, a wrong clock or missing prevs is ever admitted;
    (c) if every good-verdict transaction the adversary ever shows is in `U` (it cannot forge signatures; take
        `U = dagA₀ ∪ dagB₀ ∪ created`) and the sort returns only elements of its input (`StepIn`), every DAG stays
        inside `U`. -/
theorem safety_any_schedule (cfg : Cfg) (sched : List Step) : ∀ (w : World), (∀ n ∈ w.nodes, DagOK n.dag) →
    (∀ n ∈ (w.run cfg sched).nodes, DagOK n.dag) ∧
    (∀ j, ∃ added, World.dag (w.run cfg sched) j = added ++ World.dag w j ∧ ∀ t ∈ added, t.sigOK = true) ∧
    (∀ U : Tx → Prop, InvU U w → (∀ s ∈ sched, StepIn U s) → InvU U (w.run cfg sched)) := by
  induction sched with
  | nil => intro w hok; exact ⟨hok, fun _ => Grew.refl _ _, fun U hi _ => hi⟩
  | cons s rest ih =>
    intro w hok
    obtain ⟨hok1, hd1⟩ := step_dag cfg w s hok
    obtain ⟨hok2, hd2, hu2⟩ := ih (w.step cfg s) hok1
    exact ⟨hok2, fun j => ((hd1 j).mono fun _ h => h.1).trans (hd2 j), fun U hi hs =>
      hu2 U (step_invU cfg U w s hok hi (hs s List.mem_cons_self)) (fun x hx => hs x (List.mem_cons_of_mem _ hx))⟩

/-- **Stale, duplicated, unsolicited or conversation-mismatching responses change no DAG** — they change nothing at
    all: a `TransactionList` or `TransactionSet` whose conversation check fails (unknown/expired/evicted conversation,
    wrong envelope type for the request, non-requested ref, clock outside the requested range, unparsable
    transaction, wrong `LCReq`) leaves the node exactly as it was and sends nothing. And conversely a DAG changes only
    through a `TransactionList` whose conversation check passed, by transactions contained in that message. -/
theorem unsolicited_responses_change_no_dag (cfg : Cfg) (env : Env) (n : Node) (peer : Peer) :
    (∀ cid num total txs, convCheck n cid (.txList cid num total txs) ≠ none →
        (handle cfg env n peer (.txList cid num total txs)).node = n ∧ (handle cfg env n peer (.txList cid num total txs)).out = []) ∧
    (∀ cid lcReq lc iblt, convCheck n cid (.txSet cid lcReq lc iblt) ≠ none →
        (handle cfg env n peer (.txSet cid lcReq lc iblt)).node = n ∧ (handle cfg env n peer (.txSet cid lcReq lc iblt)).out = []) ∧
    (∀ m, DagOK n.dag → (handle cfg env n peer m).node.dag ≠ n.dag →
        ∃ cid num total txs, m = .txList cid num total txs ∧ convCheck n cid m = none ∧
          ∀ t ∈ (handle cfg env n peer m).node.dag, t ∈ n.dag ∨ (t.sigOK = true ∧ t ∈ txs.filterMap (·.tx))) := by
  refine ⟨fun cid => (rejected_response_noop cfg env n peer cid).1, fun cid => (rejected_response_noop cfg env n peer cid).2, ?_⟩
  intro m hok hne
  obtain ⟨_, ⟨added, hd, hm⟩, hc⟩ := handle_dag cfg env n peer m hok
  obtain ⟨cid, num, total, txs, rfl, hcheck⟩ := hc hne
  refine ⟨cid, num, total, txs, rfl, hcheck, fun t ht => ?_⟩
  rw [hd] at ht
  rcases List.mem_append.mp ht with h | h
  · exact Or.inr (hm t h)
  · exact Or.inl h

/-- `chunkTransactionList` loses nothing, duplicates nothing and keeps the order; every chunk fits the message size
    limit unless it is a single oversize transaction (or the empty chunk the code emits before a first oversize one) -/
theorem chunks_lossless (cfg : Cfg) (l : List NetTx) :
    (chunkTransactionList cfg l).flatten = l ∧
    ∀ c ∈ chunkTransactionList cfg l, csize cfg c ≤ cfg.maxMsg - cfg.msgOverhead ∨ c.length ≤ 1 :=
  ⟨chunks_flatten cfg l, chunks_bounded cfg l⟩

/-- **every TransactionList message fits**: counting `txOverhead` bytes of framing for EVERY transaction (as the source
    does), each chunk stays within `maxMsg − msgOverhead` whenever each transaction fits on its own. (That the real
    protobuf framing needs at most `txOverhead` per transaction and `msgOverhead` per message is measured by the harness
    on the real marshalled size of every message the senders produce.) -/
theorem chunks_fit_message_limit (cfg : Cfg) (l : List NetTx) (hfit : ∀ t ∈ l, netSize cfg t ≤ cfg.maxMsg - cfg.msgOverhead) :
    ∀ c ∈ chunkTransactionList cfg l, csize cfg c ≤ cfg.maxMsg - cfg.msgOverhead := chunks_fit cfg l hfit

/-- the release of `addMutex` as the source has it (state.go Add): locked once, then `unlock := func() { unlockOnce.Do(s.addMutex.Unlock) }`,
    `defer unlock()` at the top level, the same `unlock` as AfterCommit hook, no other reference to `addMutex.Unlock` -/
theorem fact_add_mutex_release :
    Facts.C07.addTopLevelDefers = ["unlock()"] ∧
    Facts.C07.addUnlockDef = "func() { unlockOnce.Do(s.addMutex.Unlock) }" ∧
    Facts.C07.addAfterLock = ["s.addMutex.Lock()", "var unlockOnce sync.Once", "unlock := func() { unlockOnce.Do(s.addMu", "defer unlock()",
                               "return s.db.Write(ctx, func(tx stoabs.Wr"] ∧
    Facts.C07.addWriteHooks = ["stoabs.OnRollback(func)", "stoabs.AfterCommit(unlock)", "stoabs.AfterCommit(func)", "stoabs.AfterCommit(func)", "stoabs.WithWriteLock"] ∧
    Facts.C07.addDirectUnlockRefs = 1 := by and_intros <;> rfl

/-- the source's construction, read off the facts -/
def srcAddUnlock : AddUnlock :=
  { deferred := Facts.C07.addTopLevelDefers.contains "unlock()",
    afterCommit := Facts.C07.addWriteHooks.contains "stoabs.AfterCommit(unlock)",
    onRollback := false,
    once := Facts.C07.addUnlockDef == "func() { unlockOnce.Do(s.addMutex.Unlock) }" }

/-- a top-level deferred release through a `sync.Once` is exactly one release on every exit, whatever hooks exist -/
theorem deferred_once_releases_exactly_once (u : AddUnlock) (hd : u.deferred = true) (ho : u.once = true) (e : WriteExit) :
    unlockCalls u e = 1 := by
  simp only [unlockCalls, requestedUnlocks, ho, hd, if_true]
  exact Nat.min_eq_right (by omega)

/-- **`State.Add` releases its mutex exactly once on EVERY exit** — commit, error of the function, failed commit, and a `Write`
    that fails before a transaction exists (database busy / closed): a failed Add never blocks the Adds that follow, so for the
    protocol it is a lost TransactionList and nothing more. -/
theorem add_mutex_released_on_every_exit (e : WriteExit) : unlockCalls srcAddUnlock e = 1 :=
  deferred_once_releases_exactly_once srcAddUnlock (by decide +kernel) (by decide +kernel) e

/-- … whereas the commit / rollback hooks alone leave the mutex locked when no transaction came into being -/
theorem hooks_alone_leave_mutex_locked :
    unlockCalls { deferred := false, afterCommit := true, onRollback := true, once := false } .noTransaction = 0 := by decide

/-- the gossip manager's peer table is keyed by the same expression wherever it is read, written or deleted from -/
theorem fact_gossip_peer_table_keys :
    Facts.C07.gossipPeerTableKeys =
      ["GossipReceived:index:transportPeer.Key()", "PeerConnected:index:transportPeer.Key()", "PeerConnected:index:transportPeer.Key()",
       "PeerDisconnected:index:transportPeer.Key()", "PeerDisconnected:delete:transportPeer.Key()"] := rfl

/-- `PeerDisconnected` removes the peer's gossip queue … -/
theorem disconnect_removes_queue (n : Node) (key : Nat) :
    (connChange n key .disconnect).queues.any (fun q => q.peer == key) = false := by
  simp only [connChange]
  rw [List.any_eq_false]
  intro q hq
  have := (List.mem_filter.mp hq).2
  simpa using this

theorem connect_of_no_queue (m : Node) (key : Nat) (h : m.queues.any (fun q => q.peer == key) = false) :
    (connChange m key .connect).queues = m.queues ++ [{ peer := key, xor := xorOf m.dag, clock := lcOf m.dag }] := by
  have hq : (setConnected m key true).queues = m.queues := rfl
  have hd : (setConnected m key true).dag = m.dag := rfl
  simp only [connChange, hq, hd, h, Bool.false_eq_true, if_false]

/-- … so **a peer that reconnects gets a fresh gossip queue** (current XOR and clock, nothing queued): gossip to it resumes -/
theorem reconnect_gets_fresh_queue (n : Node) (key : Nat) :
    ({ peer := key, xor := xorOf n.dag, clock := lcOf n.dag } : PeerQueue) ∈
      (connChange (connChange n key .disconnect) key .connect).queues := by
  rw [connect_of_no_queue _ key (disconnect_removes_queue n key)]
  exact List.mem_append_right _ (List.mem_singleton.mpr rfl)

/-- connecting a peer that has no gossip queue and then disconnecting it restores the queues: a connection that comes and
    goes leaves no entry behind -/
theorem connect_then_disconnect_leaves_no_entry (n : Node) (key : Nat)
    (hnew : n.queues.any (fun q => q.peer == key) = false) :
    (connChange (connChange n key .connect) key .disconnect).queues = n.queues := by
  have hc := connect_of_no_queue n key hnew
  rw [List.any_eq_false] at hnew
  have hkeep : n.queues.filter (fun q => q.peer != key) = n.queues := by
    apply List.filter_eq_self.mpr
    intro q hq'
    have := hnew q hq'
    simpa using this
  show List.filter (fun q => q.peer != key) (connChange n key .connect).queues = n.queues
  rw [hc, List.filter_append, hkeep]
  simp

/-- the chunk size accounting of the source: room = message limit − message overhead; every transaction counts its payload,
    its data and the per-transaction overhead; the same limit is what the gRPC client and server enforce -/
theorem fact_chunk_accounting :
    Facts.C07.chunkMaxExpr = "grpc.MaxMessageSizeInBytes - transactionListMessageOverhead" ∧
    Facts.C07.chunkTxSizeExpr = "len(tx.Payload) + len(tx.Data) + transactionListTXOverhead" ∧
    Facts.C07.grpcLimitOptions = ["grpc.MaxCallRecvMsgSize", "grpc.MaxCallSendMsgSize", "grpc.MaxRecvMsgSize", "grpc.MaxSendMsgSize"] := by and_intros <;> rfl

/-- **what a range reply is collected from (`findBetween`) is sorted by clock and is exactly the node's transactions in
    the range**, so a receiver that has everything below the range can add it in order -/
theorem range_reply_sorted_prefixclosed (d : List Tx) (s e : Nat) :
    (findBetween d s e).Pairwise (fun x y => x.clock ≤ y.clock) ∧ ∀ t, t ∈ findBetween d s e ↔ (t ∈ d ∧ s ≤ t.clock ∧ t.clock < e) :=
  ⟨findBetween_sorted d s e, fun _ => findBetween_iff⟩

/-- **Once the XORs are equal the handlers send nothing but gossip**: a gossip or a state message carrying the
    node's own XOR leaves the node unchanged and produces no message (so two equal nodes exchange gossip only). -/
theorem stable_when_equal (cfg : Cfg) (env : Env) (n : Node) (peer : Peer) (lc : Nat) (refs : List Ref) (cid : Cid) :
    (handle cfg env n peer (.gossip (xorOf n.dag) lc refs)).node = n ∧
    (handle cfg env n peer (.gossip (xorOf n.dag) lc refs)).out = [] ∧
    (handle cfg env n peer (.state cid (xorOf n.dag) lc)).node = n ∧
    (handle cfg env n peer (.state cid (xorOf n.dag) lc)).out = [] := by
  simp [handle, handleGossip, handleState]

/-! ### Liveness, relative to the decode contract `DC`, the sort contract, XOR faithfulness and fairness

  A *pull round* `pullRound` is: the gossip tick of `b`, then every reconciliation message of the resulting exchange
  delivered, batch by batch in the order sent (Round.lean). A *fair round pair* `roundPair` is: conversations that
  lost a message expire, `a` pulls from `b`, `b` pulls from `a`. These are compositions of the handlers of the model —
  particular schedules of the adversarial network — and the hypotheses below are explicit, never axioms. -/

/-- the constants of the source meet what the liveness argument needs (pages non-empty, `State` requests never
    blocked, a range reply covers the page asked for, next-page offsets 1..2 / 1..3) for any oracles meeting their
    contracts -/
theorem fact_liveness_constants (maxMsg validity : Nat) (env : Env) (hdc : DC env) (hord : OrderOK env) :
    Hyp (factCfg maxMsg validity) env := fact_hyp maxMsg validity env hdc hord

/-- **One pull round.** From a state where the puller `a` has no open conversation, a loss-free round started by
    `b`'s gossip tick, with `fuel` for pages of `b` + 3 exchanges or more, leaves `b`'s DAG untouched and `a` with a valid DAG
    between its own and the union, and EITHER `a` gained a transaction OR `a` learned `StuckAt`: for some page
    `k`, everything `b` has up to page `k` is already in `a`, and on every page from `k` up to the page of the smaller
    clock the decode failed (so the two differ there). Proof: cases on the handler branches, with the page pointer of
    the State/TransactionSet fallback chain as inner measure (`chain`). -/
theorem pull_round_result {cfg : Cfg} {env : Env} (H : Hyp cfg env) (a b : Node) (pA pB : Peer)
    (ha : DagOK a.dag) (hB : DagOK b.dag) (hf : RefFun a.dag b.dag) (hroot : RootIn a.dag b.dag) (hpb : PayloadsOK b)
    (hq : QueueOK b pA.key) (hc : a.convs = [])
    (hxf : ∀ d : List Tx, DagOK d → (∀ t ∈ a.dag, t ∈ d) → (∀ t ∈ d, t ∈ a.dag ∨ t ∈ b.dag) → xorOf b.dag = xorOf d → ∀ t ∈ b.dag, t ∈ d)
    (fuel : Nat) (hfuel : pageOf cfg (lcOf b.dag) + 3 ≤ fuel) :
    ∃ a', pullRound cfg env pA pB fuel a b = (a', (gossipTick b pA.key).node) ∧ (gossipTick b pA.key).node.dag = b.dag ∧
      DagOK a'.dag ∧ (∀ t ∈ a.dag, t ∈ a'.dag) ∧ (∀ t ∈ a'.dag, t ∈ a.dag ∨ t ∈ b.dag) ∧
      ((∃ t ∈ a'.dag, t ∉ a.dag) ∨ StuckAt cfg a.dag b.dag (pageOf cfg (Nat.min (lcOf b.dag) (lcOf a.dag)))) :=
  let ⟨a', h1, h2, g, h3⟩ := pull_result H a b pA pB ⟨ha, hf, hroot⟩ hB hpb hq hc hxf fuel hfuel
  ⟨a', h1, h2, g.ok, g.sub, g.src, h3⟩

/-- **A pull round is a schedule of the adversarial network** (node 0 = puller, node 1 = server): some schedule takes the
    two nodes to the round's result, so everything proved for ALL schedules holds along rounds and the convergence theorem
    speaks about executions of the network model. (The schedule found is one gossip tick followed by `inject` steps that
    carry the messages the partner's handlers returned; the statement does not say which steps it consists of, and speaks
    of the nodes only, not of the message log.) -/
theorem rounds_are_schedules (cfg : Cfg) (env : Env) (pA pB : Peer) (fuel : Nat) (a b : Node)
    (w : World) (hw : w.nodes = [a, b]) (hpa : peerOf a pB.key = some pB) (hpb : peerOf b pA.key = some pA) :
    ∃ sched, (w.run cfg sched).nodes = [(pullRound cfg env pA pB fuel a b).1, (pullRound cfg env pA pB fuel a b).2] :=
  pullRound_is_run cfg env pA pB fuel a b hpa hpb w hw

/-- **Two stuck pulls mean equality** (why one direction alone is not enough, and why a pair is): if `a` learned
    `StuckAt` about `b` and `b` learned `StuckAt` about `a`, the two DAGs hold the same transactions. -/
theorem stuck_both_ways_same (cfg : Cfg) (hps : 0 < cfg.pageSize) (A B : List Tx) (hA : DagOK A) (hB : DagOK B)
    (h1 : StuckAt cfg A B (pageOf cfg (Nat.min (lcOf B) (lcOf A)))) (h2 : StuckAt cfg B A (pageOf cfg (Nat.min (lcOf A) (lcOf B)))) :
    (∀ t ∈ B, t ∈ A) ∧ (∀ t ∈ A, t ∈ B) := pair_stuck_same cfg hps A B hA hB h1 h2

/-- **Progress of a fair round pair.** In any state satisfying the pair invariant (valid DAGs inside a universe `U`
    in which refs identify transactions and whose root both nodes hold; sound payload stores; gossip queues in sync;
    the two connected), a fair round pair keeps the invariant, loses nothing, stays inside the union, and ends with
    EITHER identical transaction sets OR strictly more transactions in the two DAGs together. -/
theorem round_progress {cfg : Cfg} {env : Env} (H : Hyp cfg env) (U : List Tx)
    (hU : ∀ t ∈ U, ∀ t' ∈ U, t.ref = t'.ref → t = t')
    (hxf : ∀ d d' : List Tx, DagOK d → DagOK d' → (∀ t ∈ d, t ∈ U) → (∀ t ∈ d', t ∈ U) → xorOf d' = xorOf d → ∀ t ∈ d', t ∈ d)
    (pA pB : Peer) (fuel : Nat) (hfuel : pageOf cfg (lcOf U) + 3 ≤ fuel) (a b : Node) (hI : PairInv U a b pA.key pB.key) :
    PairInv U (roundPair cfg env pA pB fuel (a, b)).1 (roundPair cfg env pA pB fuel (a, b)).2 pA.key pB.key ∧
    (∀ t ∈ a.dag, t ∈ (roundPair cfg env pA pB fuel (a, b)).1.dag) ∧ (∀ t ∈ b.dag, t ∈ (roundPair cfg env pA pB fuel (a, b)).2.dag) ∧
    (∀ t ∈ (roundPair cfg env pA pB fuel (a, b)).1.dag, t ∈ a.dag ∨ t ∈ b.dag) ∧
    (∀ t ∈ (roundPair cfg env pA pB fuel (a, b)).2.dag, t ∈ a.dag ∨ t ∈ b.dag) ∧
    (SameSet (roundPair cfg env pA pB fuel (a, b)).1.dag (roundPair cfg env pA pB fuel (a, b)).2.dag ∨
      a.dag.length + b.dag.length < (roundPair cfg env pA pB fuel (a, b)).1.dag.length + (roundPair cfg env pA pB fuel (a, b)).2.dag.length) :=
  let ⟨h, ⟨ka, kb, sa, sb⟩, hc⟩ := roundPair_step H U hU hxf pA pB fuel hfuel a b hI
  ⟨h, ka, kb, sa, sb, hc⟩

/-- **Convergence.** After any number `k` of fair round pairs with `|a| + |b| + k > 2·|U|` — for `U` the union that
    is at most `|a △ b|` productive pairs — both nodes hold exactly the union `a ∪ b`; and they keep it for every
    later pair (`k` is arbitrary above the bound). The state `(a, b)` is any state satisfying the pair invariant. Of its
    parts, an arbitrary adversarial prefix keeps the DAGs valid and inside `U` (`safety_any_schedule`), and expiry clears
    whatever conversations the prefix left behind; sound payload stores, gossip queues in sync and the two nodes still
    connected to each other are assumed of the state the rounds start in (a `conn … .disconnect` step ends the last). -/
theorem converges {cfg : Cfg} {env : Env} (H : Hyp cfg env) (U : List Tx)
    (hU : ∀ t ∈ U, ∀ t' ∈ U, t.ref = t'.ref → t = t')
    (hxf : ∀ d d' : List Tx, DagOK d → DagOK d' → (∀ t ∈ d, t ∈ U) → (∀ t ∈ d', t ∈ U) → xorOf d' = xorOf d → ∀ t ∈ d', t ∈ d)
    (pA pB : Peer) (fuel : Nat) (hfuel : pageOf cfg (lcOf U) + 3 ≤ fuel) (a b : Node) (hI : PairInv U a b pA.key pB.key)
    (k : Nat) (hk : 2 * U.length < a.dag.length + b.dag.length + k) :
    (∀ t, t ∈ (roundPairs cfg env pA pB fuel k (a, b)).1.dag ↔ (t ∈ a.dag ∨ t ∈ b.dag)) ∧
    (∀ t, t ∈ (roundPairs cfg env pA pB fuel k (a, b)).2.dag ↔ (t ∈ a.dag ∨ t ∈ b.dag)) ∧
    DagOK (roundPairs cfg env pA pB fuel k (a, b)).1.dag ∧ DagOK (roundPairs cfg env pA pB fuel k (a, b)).2.dag := by
  obtain ⟨hIk, ⟨sa, sb, ua, ub⟩, hcase⟩ := converge_aux H U hU hxf pA pB fuel hfuel k a b hI
  have hsame : SameSet (roundPairs cfg env pA pB fuel k (a, b)).1.dag (roundPairs cfg env pA pB fuel k (a, b)).2.dag := by
    rcases hcase with h | h
    · exact h
    · exfalso
      have h1 := length_le_of_sub hIk.oka hIk.ua
      have h2 := length_le_of_sub hIk.okb hIk.ub
      omega
  refine ⟨fun t => ⟨ua t, fun h => ?_⟩, fun t => ⟨ub t, fun h => ?_⟩, hIk.oka, hIk.okb⟩
  · rcases h with h | h
    · exact sa t h
    · exact hsame.1 t (sb t h)
  · rcases h with h | h
    · exact hsame.2 t (sa t h)
    · exact sb t h

/-- **Stability**: once the two hold the same set, every further fair round pair leaves it so -/
theorem stable_after_convergence {cfg : Cfg} {env : Env} (H : Hyp cfg env) (U : List Tx)
    (hU : ∀ t ∈ U, ∀ t' ∈ U, t.ref = t'.ref → t = t')
    (hxf : ∀ d d' : List Tx, DagOK d → DagOK d' → (∀ t ∈ d, t ∈ U) → (∀ t ∈ d', t ∈ U) → xorOf d' = xorOf d → ∀ t ∈ d', t ∈ d)
    (pA pB : Peer) (fuel : Nat) (hfuel : pageOf cfg (lcOf U) + 3 ≤ fuel) (a b : Node) (hI : PairInv U a b pA.key pB.key)
    (hs : SameSet a.dag b.dag) (k : Nat) :
    SameSet (roundPairs cfg env pA pB fuel k (a, b)).1.dag (roundPairs cfg env pA pB fuel k (a, b)).2.dag :=
  (converge_aux H U hU hxf pA pB fuel hfuel k a b hI).2.1.sameSet hs

/-! ### non-vacuity: the hypotheses are satisfiable together, and the conclusion is reached on a concrete instance -/

example : DC idealEnv ∧ OrderOK idealEnv := ⟨idealEnv_DC, idealEnv_OrderOK⟩
example : PairInv exU exA exB 0 1 := exPairInv
example : ∀ t ∈ exU, ∀ t' ∈ exU, t.ref = t'.ref → t = t' := by decide
/-- `b` is one transaction ahead: after one fair round pair of the model (constants of the source, ideal oracles) `a` has it -/
example : ((roundPairs exCfg idealEnv { key := 0 } { key := 1 } 4 1 (exA, exB)).1.dag.map (·.ref),
           (roundPairs exCfg idealEnv { key := 0 } { key := 1 } 4 1 (exA, exB)).2.dag.map (·.ref)) = ([2, 1], [2, 1]) := by decide +kernel
/-- the theorem applied to the instance -/
example : ∀ t, t ∈ (roundPairs exCfg idealEnv { key := 0 } { key := 1 } 4 2 (exA, exB)).1.dag ↔ (t ∈ exA.dag ∨ t ∈ exB.dag) :=
  (converges (fact_hyp 524288 30 idealEnv idealEnv_DC idealEnv_OrderOK) exU (by decide) exXF { key := 0 } { key := 1 } 4
    (by decide) exA exB exPairInv 2 (by decide)).1
/-- safety: a forged TransactionList without a conversation changes nothing -/
example : (handle exCfg idealEnv exA { key := 1 } (.txList (7, 7) 1 1 [⟨some exX, some ⟨"p-x", 3, 20⟩⟩])).node.dag = exA.dag := by decide

/-! ### `tree.Iblt` inside the model (NutsModel/C07/Iblt.lean) -/

section IbltProps
open Nuts.Proto.Iblt

/-- `bucketIndices` yields pairwise distinct buckets inside the table, for every hash function, key hash and table size ≥ 1:
    Insert followed by Delete of a key cancels exactly and no index is out of range -/
theorem iblt_bucket_indices_distinct_in_range (H : Hash) (P : Par) {n : Nat} (hn : 0 < n) (hash : Nat) :
    (bucketIndices H P n hash).Nodup ∧ ∀ i ∈ bucketIndices H P n hash, i < n :=
  bucketIndices_good H P hn hash

/-- `Subtract` of the encodings of two duplicate-free key lists is the table of their two-sided difference: the common keys
    cancel bucket by bucket (whatever the order the keys were inserted in) -/
theorem iblt_subtract_represents_difference (H : Hash) (P : Par) {n : Nat} (hn : 0 < n) {loc peer : List Ref}
    (hl : loc.Nodup) (hp : peer.Nodup) :
    ∃ t, subtract (encode H P n loc) (encode H P n peer) = some t ∧
      Rep H P n t (loc.filter (fun x => !peer.contains x)) (peer.filter (fun x => !loc.contains x)) :=
  subtract_rep H P n hn hl hp

/-- **The decode contract of the liveness theorems (`DC`), proved for the modelled `Subtract` + `Decode`** relative to ONE
    property of the hash (`Faithful`: no ≥2 distinct keys of `U` look like a single key; no non-empty set of distinct keys of
    `U` cancels to the zero bucket — of EVERY such set, which a hash with 64-bit values meets only for a small `U`, see
    `Faithful`): for duplicate-free key lists inside `U`
    (a) a successful decode returns exactly the keys the peer has and we lack, (b) equal sets decode (to nothing),
    (c) the result is never an error: no ErrDecodeLoop, and the peeling loop ends within |loc|+|peer|+1 sweeps. -/
theorem iblt_decode_contract (H : Hash) (P : Par) {n : Nat} (U : Ref → Prop) (hn : 0 < n) (hk : 0 < P.k) (hm : 0 < P.maxChain)
    (hF : Faithful H U) (loc peer : List Ref) (hl : loc.Nodup) (hp : peer.Nodup)
    (hUl : ∀ x ∈ loc, U x) (hUp : ∀ x ∈ peer, U x) :
    (∀ m, envDecode H P n loc (.ofSet peer) = .ok m → ∀ r, r ∈ m ↔ (r ∈ peer ∧ r ∉ loc)) ∧
    ((∀ r, r ∈ loc ↔ r ∈ peer) → ∃ m, envDecode H P n loc (.ofSet peer) = .ok m) ∧
    envDecode H P n loc (.ofSet peer) ≠ .err := by
  obtain ⟨t, hsub, hspec⟩ := decode_subtract_spec H P n U hn hk hm hF loc peer hl hp hUl hUp
  have hdef : envDecode H P n loc (.ofSet peer) =
      (match decodeLoop H P (loc.length + peer.length + 1) t [] [] [] with
       | .ok _ mis => .ok mis | .notPossible _ _ => .fail | .loop => .err | .fuel => .err) := by
    simp only [envDecode, decodeAgainst, hsub, decode]
    generalize decodeLoop H P (loc.length + peer.length + 1) t [] [] [] = d
    cases d <;> rfl
  rcases hspec with ⟨r, m, hd, _, hB⟩ | ⟨r, m, hd, hne, _, _⟩
  · rw [hdef, hd]
    exact ⟨fun m' hm' => DecodeRes.ok.inj hm' ▸ hB, fun _ => ⟨m, rfl⟩, by simp⟩
  · rw [hdef, hd]
    exact ⟨nofun, fun hsame => (hne hsame).elim, by simp⟩

/-- what `Decode` itself returns on the table left by `Subtract` (both result lists): on success `remaining` = loc∖peer and
    `missing` = peer∖loc exactly; on ErrDecodeNotPossible the partial lists lie inside those differences (the basis of the
    recovery promise in the doc comment of `Decode`); ErrDecodeLoop and running out of sweeps do not occur -/
theorem iblt_decode_both_sides (H : Hash) (P : Par) {n : Nat} (U : Ref → Prop) (hn : 0 < n) (hk : 0 < P.k) (hm : 0 < P.maxChain)
    (hF : Faithful H U) (loc peer : List Ref) (hl : loc.Nodup) (hp : peer.Nodup)
    (hUl : ∀ x ∈ loc, U x) (hUp : ∀ x ∈ peer, U x) :
    ∃ t, subtract (encode H P n loc) (encode H P n peer) = some t ∧
      ((∃ r m, decode H P (loc.length + peer.length + 1) t = .ok r m ∧
          (∀ x, x ∈ r ↔ (x ∈ loc ∧ x ∉ peer)) ∧ (∀ x, x ∈ m ↔ (x ∈ peer ∧ x ∉ loc))) ∨
       (∃ r m, decode H P (loc.length + peer.length + 1) t = .notPossible r m ∧
          (∀ x ∈ r, x ∈ loc ∧ x ∉ peer) ∧ (∀ x ∈ m, x ∈ peer ∧ x ∉ loc))) := by
  obtain ⟨t, hsub, hspec⟩ := decode_subtract_spec H P n U hn hk hm hF loc peer hl hp hUl hUp
  exact ⟨t, hsub, hspec.imp id fun ⟨r, m, hd, _, h⟩ => ⟨r, m, hd, h⟩⟩

/-- garbage bytes and a table of another size are errors, as in `UnmarshalBinary` / `validate` -/
theorem iblt_garbage_and_size_mismatch_err (H : Hash) (P : Par) (n fuel : Nat) (loc : List Ref) (peer : Table) (h : peer.length ≠ n) :
    envDecode H P n loc .garbage = .err ∧ decodeAgainst H P n fuel loc peer = .err := by
  refine ⟨rfl, ?_⟩
  have : (encode H P n loc).length ≠ peer.length := by rw [encode_length]; exact fun e => h e.symm
  simp [decodeAgainst, subtract, this]

/-- non-vacuity of `Faithful`: the keys {1, 2} with hashKey x = x + 10 -/
def exIbltHash : Hash := { hashKey := fun x => x + 10, chain0 := fun h => h * 7 + 3, chain := fun x => x * 5 + 1 }

theorem exIbltHash_faithful : Faithful exIbltHash (fun x => x = 1 ∨ x = 2) := by
  -- a duplicate-free list of keys among {1, 2} has at most two elements
  have short : ∀ S : List Ref, S.Nodup → (∀ x ∈ S, x = 1 ∨ x = 2) → S.length ≤ 2 := fun S hnd hU =>
    hnd.length_le_of_subset (l₂ := [1, 2]) (fun x hx => by simpa using hU x hx)
  constructor
  · intro S hnd hU hlen
    match S, hnd, hU, hlen, short S hnd hU with
    | [a, b], hnd, hU, _, _ =>
      have ha := hU a (by simp)
      have hb := hU b (by simp)
      have hne : a ≠ b := by
        intro h; subst h; simp at hnd
      rcases ha with rfl | rfl <;> rcases hb with rfl | rfl <;> first | exact absurd rfl hne | decide
    | _ :: _ :: _ :: _, _, _, _, h => simp only [List.length_cons] at h; omega
  · intro S hnd hU hne
    match S, hnd, hU, hne, short S hnd hU with
    | [a], _, hU, _, _ =>
      rcases hU a (by simp) with rfl | rfl <;> decide
    | [a, b], hnd, hU, _, _ =>
      have ha := hU a (by simp)
      have hb := hU b (by simp)
      rcases ha with rfl | rfl <;> rcases hb with rfl | rfl <;> first | decide | (simp at hnd)
    | _ :: _ :: _ :: _, _, _, _, h => simp only [List.length_cons] at h; omega

example : envDecode exIbltHash ⟨6, 64⟩ 16 [1] (.ofSet [2, 1]) = .ok [2] := by decide +kernel
example : decode exIbltHash ⟨6, 64⟩ 5 ((subtract (encode exIbltHash ⟨6, 64⟩ 16 [1]) (encode exIbltHash ⟨6, 64⟩ 16 [2])).getD []) = .ok [1] [2] := by decide +kernel

/-- the oracle record with the MODELLED IBLT in place of the decode oracle (sort and ECIES stay oracles) -/
def ibltEnv (H : Hash) (P : Par) (n : Nat) (order : List Tx → List Tx) (dec : String → Nat → DecRes) : Env :=
  { decode := envDecode H P n, order := order, dec := dec }

/-- **the decode hypothesis of the liveness theorems is discharged by the modelled algorithm**: with a hash that is faithful on
    the keys in play, `Subtract` + `Decode` of NutsModel/C07/Iblt.lean satisfy `DC` -/
theorem modelled_iblt_satisfies_DC (H : Hash) (P : Par) {n : Nat} (hn : 0 < n) (hk : 0 < P.k) (hm : 0 < P.maxChain)
    (hF : Faithful H (fun _ => True)) (order : List Tx → List Tx) (dec : String → Nat → DecRes) :
    DC (ibltEnv H P n order dec) := by
  have h := fun loc peer hl hp =>
    iblt_decode_contract H P (fun _ => True) hn hk hm hF loc peer hl hp (fun _ _ => trivial) (fun _ _ => trivial)
  exact ⟨fun loc peer m hl hp => (h loc peer hl hp).1 m, fun loc peer hl hp => (h loc peer hl hp).2.1,
    fun loc peer hl hp => (h loc peer hl hp).2.2⟩

/-- the liveness hypotheses `Hyp` for the constants of the source with the modelled IBLT run at the regenerated parameters
    (k = ibltK, chain bound = ibltMaxChain, IbltNumBuckets buckets): what is left as a hypothesis of `pull_round_result`,
    `round_progress` and `converges` about the IBLT is the faithfulness of the hash alone — on ALL keys, which no hash with
    64-bit values has (see `Faithful`); `exPowHash_faithful` shows the hypothesis consistent, not that murmur3 meets it -/
theorem liveness_hypotheses_with_modelled_iblt (maxMsg validity : Nat) (H : Hash) (hF : Faithful H (fun _ => True))
    (order : List Tx → List Tx) (dec : String → Nat → DecRes)
    (hord : OrderOK (ibltEnv H ⟨Facts.C07.ibltK, Facts.C07.ibltMaxChain⟩ Facts.C07.ibltNumBuckets order dec)) :
    Hyp (factCfg maxMsg validity) (ibltEnv H ⟨Facts.C07.ibltK, Facts.C07.ibltMaxChain⟩ Facts.C07.ibltNumBuckets order dec) :=
  fact_hyp maxMsg validity _
    (modelled_iblt_satisfies_DC H ⟨Facts.C07.ibltK, Facts.C07.ibltMaxChain⟩ (by decide) (by decide) (by decide) hF order dec) hord

/-- non-vacuity of faithfulness on ALL keys (the model's key type is unbounded): hashKey x = 2^(x+1) -/
def exPowHash : Hash := { hashKey := fun x => 2 ^ (x + 1), chain0 := fun h => h, chain := fun x => x + 1 }

theorem exPowHash_faithful : Faithful exPowHash (fun _ => True) := by
  constructor
  · intro S hnd _ hlen heq
    match S, hnd, hlen, heq with
    | a :: b :: rest, hnd, _, heq =>
      have hab : a ≠ b := by
        intro h; subst h
        exact (List.nodup_cons.mp hnd).1 (by simp)
      have hbits := pow_hash_bits (a :: b :: rest) hnd
      have e : xorL ((a :: b :: rest).map exPowHash.hashKey) = 2 ^ (xorL (a :: b :: rest) + 1) := heq.symm
      have ha := hbits (a + 1)
      have hb := hbits (b + 1)
      rw [show (fun x => 2 ^ (x + 1)) = exPowHash.hashKey from rfl, e, Nat.testBit_two_pow] at ha hb
      have ha' : xorL (a :: b :: rest) + 1 = a + 1 := by
        have : decide (∃ x ∈ a :: b :: rest, x + 1 = a + 1) = true := by simp
        rw [this] at ha; simpa using ha
      have hb' : xorL (a :: b :: rest) + 1 = b + 1 := by
        have : decide (∃ x ∈ a :: b :: rest, x + 1 = b + 1) = true := by simp
        rw [this] at hb; simpa using hb
      exact hab (Nat.succ.inj (ha'.symm.trans hb'))
  · intro S hnd _ hne ⟨_, h0⟩
    match S, hnd, hne, h0 with
    | a :: rest, hnd, _, h0 =>
      have hbits := pow_hash_bits (a :: rest) hnd (a + 1)
      rw [show (fun x => 2 ^ (x + 1)) = exPowHash.hashKey from rfl, h0] at hbits
      simp at hbits

example : DC (ibltEnv exPowHash ⟨6, 64⟩ 1024 idealEnv.order idealEnv.dec) :=
  modelled_iblt_satisfies_DC exPowHash ⟨6, 64⟩ (by decide) (by decide) (by decide) exPowHash_faithful _ _
example : Hyp (factCfg 524288 30) (ibltEnv exPowHash ⟨Facts.C07.ibltK, Facts.C07.ibltMaxChain⟩ Facts.C07.ibltNumBuckets idealEnv.order idealEnv.dec) :=
  liveness_hypotheses_with_modelled_iblt 524288 30 exPowHash exPowHash_faithful _ _ ⟨idealEnv_OrderOK.perm, idealEnv_OrderOK.sorted⟩

/-- regenerated constants of iblt.go the model is run with (`Driver.Proto.ibltPar`), and the side conditions of the contract -/
theorem fact_iblt_constants :
    Facts.C07.ibltK = 6 ∧ Facts.C07.ibltMaxChain = 64 ∧ Facts.C07.ibltHk = 1 ∧ Facts.C07.ibltHc = 0 ∧ Facts.C07.bucketBytes = 44 ∧
    0 < Facts.C07.ibltK ∧ 0 < Facts.C07.ibltMaxChain ∧ Facts.C07.ibltK ≤ Facts.C07.ibltNumBuckets := by decide

/-- regenerated: `bucketIndices` reduces every bucket number modulo the bucket count (chain value and linear probe), clamps k to
    the bucket count, bounds the chain by `ibltMaxChain` and probes offsets 1 .. numBuckets-1 -/
theorem fact_iblt_bucket_indices_shape :
    Facts.C07.ibltIndexAssigns = ["numBuckets := uint32(i.numBuckets())", "k := int(i.k)", "k = int(numBuckets)", "next := murmur3.SeedSum32(i.hk, hashKeyBytes)", "bucketID = next % numBuckets", "next = murmur3.SeedSum32(i.hk, nextBytes)", "probe := (bucketID + off) % numBuckets"] ∧
    Facts.C07.ibltIndexLoops = ["step := 0; len(indices) < k && step < ibltMaxChain; step++", "off := uint32(1); len(indices) < k && off < numBuckets; off++"] ∧
    Facts.C07.ibltIndexIfs = ["uint32(k) > numBuckets", "!bucketUsed[bucketID]", "!bucketUsed[probe]"] := by and_intros <;> rfl

/-- regenerated: the control flow of `Decode` (endless outer loop, sweep over the buckets, the purity test, the `pures` guard with
    ErrDecodeLoop, Delete for +1 / Insert otherwise, ErrDecodeNotPossible when nothing was peeled and the table is not empty) -/
theorem fact_iblt_decode_shape :
    Facts.C07.ibltDecodeShape = ["for{}", "updated := false", "range i.buckets", "(i.buckets[idx].count == 1 || i.buckets[idx].count == -1) && i.hashKey(i.buckets[idx].keySum) == i.buckets[idx].hashSum", "txRef := i.buckets[idx].keySum", "pures[txRef]", "err = ErrDecodeLoop", "i.buckets[idx].count == 1", "updated = true", "!updated", "!i.Empty()", "err = ErrDecodeNotPossible"] ∧
    Facts.C07.ibltDecodeCalls = ["hashKey", "Delete", "Insert", "Empty"] := ⟨rfl, rfl⟩

/-- regenerated: the bucket operations and the Iblt methods built on them -/
theorem fact_iblt_bucket_ops :
    Facts.C07.ibltOps = ["bucket.insert: b.count++; b.update(key, hash);", "bucket.delete: b.count--; b.update(key, hash);", "bucket.subtract: b.count -= o.count; b.update(o.keySum, o.hashSum);", "bucket.update: b.keySum = b.keySum.Xor(key); b.hashSum ^= hash;", "bucket.isEmpty: return b.equals(new(bucket));", "Iblt.Insert: keyHash := i.hashKey(ref); for _, h := range i.bucketIndices(keyHash) { i.buckets[h].insert(ref, keyHash) };", "Iblt.Delete: keyHash := i.hashKey(key); for _, h := range i.bucketIndices(keyHash) { i.buckets[h].delete(key, keyHash) };", "Iblt.Subtract: o, err := i.validate(other); if err != nil { return err }; for idx := range i.buckets { i.buckets[idx].subtract(&o.buckets[idx]) }; return nil;", "Iblt.Empty: for idx := range i.buckets { if !i.buckets[idx].isEmpty() { return false } }; return true;", "Iblt.hashKey: return murmur3.SeedSum64(i.hc, key.Slice());"] := rfl

end IbltProps

/-! ### the dispatcher (`Handle` / `handle` / `handleASync` / the TransactionList channel) inside the model -/

namespace DispProps
open Nuts.Proto.Disp

/-- the routing of the real code: the model's lookup in the REGENERATED switch table -/
def factRoute : Msg → Route := routeOf Facts.C07.dispatchTable

/-- the parameters of the real code -/
def factParams (cfg : Cfg) (env : Env) : Params :=
  { cfg := cfg, env := env, rt := factRoute, cap := Facts.C07.outboxHardLimit, allowed := Facts.C07.allowedErrors }

/-- regenerated switch of `protocol.handle` = the routing the abstract layer assumes: TransactionLists go through the
    channel, an envelope of no known type is refused, every other type gets its own goroutine -/
theorem fact_dispatch_table_routes (m : Msg) :
    factRoute m = (match m with | .txList .. => Route.listChan | .unsupported => Route.unsupported | _ => Route.async) := by
  cases m <;> simp only [factRoute, routeOf, envName] <;> decide

/-- regenerated: the statements the dispatcher model mirrors — `Handle`'s error classification, the non-blocking send of the
    TransactionList clause, the fall-through of the switch, `handleASync` (goroutine, returns nil), the capacity of the list
    channel and the loop of `transactionListHandler.start` -/
theorem fact_dispatcher_shape :
    Facts.C07.allowedErrors = ["errInternalError", "errMessageNotSupported"] ∧
    Facts.C07.handleErrShape = ["if:err != nil && err != context.Canceled", "range:allowedErrors", "if:err == allowedError",
      "return:err", "return:errInternalError", "return:nil"] ∧
    Facts.C07.listChanClause = ["select", "comm:p.listHandler.ch <- pe", "default", "return:nil"] ∧
    Facts.C07.handleFallthrough = "return errMessageNotSupported" ∧
    Facts.C07.handleASyncShape = ["go", "funclit", "if:err != nil", "return:nil"] ∧
    Facts.C07.listChanMake = "chan connectionEnvelope,grpc.OutboxHardLimit" ∧ 0 < Facts.C07.outboxHardLimit ∧
    Facts.C07.listHandlerStartShape = ["for", "select", "comm:<-tlh.ctx.Done()", "return:", "comm:pe := <-tlh.ch", "if:err != nil"] := ⟨rfl, rfl, rfl, rfl, rfl, rfl, by decide, rfl⟩

/-- **The dispatcher refines the atomic-handler layer.** For EVERY schedule of arrivals, list-handler iterations and
    goroutine runs (any interleaving, any order of the handleASync goroutines): the node state is the result of running the
    atomic handlers one after the other over the invocation trace; the TransactionLists handled so far followed by the ones
    still on the channel form a SUBLIST of the ones that were waiting plus the ones that arrived — in-order, at most once,
    none invented — and the channel never exceeds its capacity. -/
theorem dispatcher_refines_handler_sequence (P : Params) (evs : List Ev) (d : DNode)
    (hw : WaitOK P.rt d) (hc : d.chan.length ≤ P.cap) :
    (run P d evs).1.node = foldHandle P.cfg P.env d.node (run P d evs).2 ∧
    List.Sublist (((run P d evs).2.filter (isList P.rt)) ++ (run P d evs).1.chan) (d.chan ++ (arrivals evs).filter (isList P.rt)) ∧
    (run P d evs).1.chan.length ≤ P.cap :=
  ⟨run_node P evs d, run_lists_fifo P evs d hw, run_chan_le P evs d hc⟩

/-- **Safety under any goroutine schedule inside a node**: the DAG only grows (old DAG = suffix), stays valid, and every
    added transaction has a good verdict and was carried by a message whose handler ran. `safety_any_schedule` calls the
    handlers directly; this covers the scheduling inside a node that lies between an arrival and the handler. -/
theorem dispatcher_safety_any_goroutine_schedule (P : Params) (evs : List Ev) (d : DNode) (h : DagOK d.node.dag) :
    DagOK (run P d evs).1.node.dag ∧
    ∃ added, (run P d evs).1.node.dag = added ++ d.node.dag ∧
      ∀ t ∈ added, t.sigOK = true ∧ ∃ x ∈ (run P d evs).2, t ∈ msgTxs x.2 := by
  rw [run_node]
  exact foldHandle_dag P.cfg P.env _ d.node h

/-- **A full channel is message loss and nothing else**: a TransactionList arriving at a full channel leaves the node, the
    channel and the goroutines untouched and `Handle` returns nil — the rest of the schedule runs as if it never arrived
    (the abstract network's loss step). -/
theorem full_channel_drop_is_loss (P : Params) (d : DNode) (p : Peer) (m : Msg) (evs : List Ev)
    (hr : P.rt m = .listChan) (hfull : P.cap ≤ d.chan.length) :
    run P d (.arrive p m :: evs) = run P d evs ∧ (Handle P.allowed P.rt P.cap d p m).2 = none := by
  have hn : ¬ d.chan.length < P.cap := by omega
  constructor
  · simp [run, stepEv, Handle, dispatchMsg, hr, hn]
  · simp [Handle, dispatchMsg, hr, hn, handleRet]

/-- **`Handle` with the regenerated `allowedErrors`**: whatever error `handle` returns, the peer sees nil, errInternalError
    or errMessageNotSupported; for the real `handle` the result is errMessageNotSupported exactly for an envelope of no
    known type, and such an envelope changes nothing. -/
theorem handle_error_classification (rt : Msg → Route) (cap : Nat) :
    (∀ e, handleRet Facts.C07.allowedErrors e = none ∨ handleRet Facts.C07.allowedErrors e = some .internal ∨
      handleRet Facts.C07.allowedErrors e = some .notSupported) ∧
    (∀ d p m, (Handle Facts.C07.allowedErrors rt cap d p m).2 = (if rt m = .unsupported then some .notSupported else none)) ∧
    (∀ d p m, rt m = .unsupported → (Handle Facts.C07.allowedErrors rt cap d p m).1 = d) := by
  have hns : handleRet Facts.C07.allowedErrors (some .notSupported) = some .notSupported := by decide
  refine ⟨?_, ?_, ?_⟩
  · intro e
    cases e with
    | none => left; rfl
    | some e =>
      cases e with
      | canceled => left; rfl
      | internal => right; left; decide
      | notSupported => right; right; exact hns
      | other w => right; left; simp [handleRet, HErr.allowedBy]
  · intro d p m
    simp only [Handle, dispatchMsg]
    split <;> rename_i hr
    · simp [hr, hns]
    · simp only [hr]; split <;> simp [handleRet]
    · simp [hr, handleRet]
  · intro d p m hr
    simp [Handle, dispatchMsg, hr]

/-- once the arrivals stop, `length chan` iterations of the list handler handle exactly the waiting lists, in channel order,
    and leave the channel empty (no list waits forever while the handler goroutine runs) -/
theorem list_handler_drains_in_order (P : Params) : ∀ (c : List (Peer × Msg)) (d : DNode), d.chan = c →
    (run P d (List.replicate c.length .listRun)).2 = c ∧ (run P d (List.replicate c.length .listRun)).1.chan = [] := by
  intro c
  induction c with
  | nil => intro d h; simp [run, h]
  | cons x r ih =>
    intro d h
    simp only [List.length_cons, List.replicate_succ, run, stepEv, h]
    obtain ⟨h1, h2⟩ := ih { d with node := (handle P.cfg P.env d.node x.1 x.2).node, chan := r } rfl
    exact ⟨by simp [h1], h2⟩

/-- non-vacuity: capacity 2, three TransactionLists arrive before the handler runs — the third is dropped; the hypotheses of
    the refinement theorem hold for a fresh dispatcher; the DAG hypothesis holds for the example node -/
example : (run { factParams exCfg idealEnv with cap := 2 } { node := exA }
    [.arrive { key := 1 } (.txList (0, 0) 1 1 []), .arrive { key := 1 } (.txList (0, 1) 1 1 []),
     .arrive { key := 1 } (.txList (0, 2) 1 1 []), .arrive { key := 1 } .unsupported]).1.chan.length = 2 := by decide +kernel
example : WaitOK factRoute { node := exA } ∧ ({ node := exA } : DNode).chan.length ≤ Facts.C07.outboxHardLimit :=
  ⟨⟨by simp, by simp⟩, by simp⟩
example : DagOK ({ node := exA } : DNode).node.dag := exA_ok
example : factRoute (.txList (0, 0) 1 1 []) = .listChan ∧ factRoute .unsupported = .unsupported := by
  constructor <;> rw [fact_dispatch_table_routes]

end DispProps

/-! ### how the periodic Gossip message finds its connection (`sendGossip`, grpc predicates, `connectionList.get`) -/

namespace AddrProps
open Nuts.Proto.Addr

/-- regenerated: `sendGossip` asks the connection list for a CONNECTED connection of exactly the queue's peer (peer key =
    ID + node DID + address, the key the gossip manager files the queue under: `fact_gossip_peer_table_keys`), reports
    `false` without a connection or when the send fails, `true` otherwise -/
theorem fact_send_gossip_addressing :
    Facts.C07.sendGossipQuery = ["grpc.ByConnected()", "grpc.ByPeer(transportPeer)"] ∧
    Facts.C07.sendGossipFlow = ["assign:conn := p.connectionList.Get(grpc.ByConnected(), grpc.ByPeer(transportPeer))",
      "if:conn == nil", "assign:err = grpc.ErrNoConnection", "assign:err = p.sendGossipMsg(conn, refs, xor, clock)",
      "if:err != nil", "return:false", "return:true"] := ⟨rfl, rfl⟩

/-- the regenerated query, read by the model's interpreter, is the query the theorems below are about -/
theorem fact_send_gossip_query_interpreted (p : TPeer) :
    queryOfSrc p Facts.C07.sendGossipQuery = some (gossipQuery p) := by
  simp [Facts.C07.sendGossipQuery, queryOfSrc, predOfSrc, gossipQuery]

/-- regenerated: the predicates of grpc/predicate.go, the first-match loop of `connectionList.get` (an empty query selects
    nothing; `continue outer` on the first predicate that does not match; the first survivor is returned) and the format of
    `transport.Peer.Key()` -/
theorem fact_connection_lookup_shape :
    Facts.C07.predicateMatches = ["addressPredicate:return:predicate.address == conn.Peer().Address",
      "authenticatedPredicated:return:conn.IsAuthenticated()", "connectedPredicate:return:conn.IsConnected() == predicate.connected",
      "nodeDIDPredicate:return:conn.Peer().NodeDID.Equals(predicate.nodeDID)", "peerIDPredicate:return:conn.Peer().ID == predicate.peerID",
      "peerPredicate:return:conn.Peer().Key() == predicate.peer.Key()"] ∧
    Facts.C07.predicateCtors = ["ByAddress:return:&addressPredicate{address: address}", "ByAuthenticated:return:authenticatedPredicated{}",
      "ByConnected:return:connectedPredicate{connected: true}", "ByNodeDID:return:nodeDIDPredicate{nodeDID: nodeDID}",
      "ByNotConnected:return:connectedPredicate{connected: false}", "ByPeer:return:peerPredicate{peer: peer}",
      "ByPeerID:return:peerIDPredicate{peerID: peerID}"] ∧
    Facts.C07.connListGetFlow = ["if:len(query) == 0", "return:nil", "range:c.list", "range:query", "if:!predicate.Match(curr)",
      "branch:continue outer", "return:curr", "return:nil"] ∧
    Facts.C07.connListGetWrapper = ["return:c.get(query...)"] ∧
    Facts.C07.peerKeyFlow = ["return:fmt.Sprintf(\"%s(%s)@%s\", p.ID, p.NodeDID.String(), p.Address)"] := by and_intros <;> rfl

/-- **The gossip of a peer's queue goes to that peer and to nobody else.** For EVERY connection list (any number of
    connections, duplicates of a node DID, unauthenticated peers with the empty DID, disconnected entries, any order) and
    every queue owner `p`: if `sendGossip` hands the message to connection `i`, that connection is connected and its peer
    key is `p`'s key; and the queue is reported as sent (cleared) only if that connection accepted the message. -/
theorem gossip_addressed_to_queue_owner (l : List Conn) (p : TPeer) :
    (∀ i, (sendGossip l p).target = some i → ∃ c, l[i]? = some c ∧ c.connected = true ∧ c.peer.key = p.key ∧
        (sendGossip l p).cleared = c.sendOK) ∧
    ((sendGossip l p).target = none → (sendGossip l p).cleared = false) := by
  unfold sendGossip sendGossipWith
  cases hg : get l (gossipQuery p) with
  | none => simp
  | some k =>
    obtain ⟨_, c, hc, hm, _⟩ := get_some hg
    have := (matchesAll_gossip p c).mp hm
    simp [hc, this.1, this.2]

/-- **No spurious "no connection".** If the connection list holds a connected connection of the queue's peer, `sendGossip`
    finds one (the first such entry of the list): a connected peer is never starved of gossip by the lookup. Conversely
    ErrNoConnection means that no connected connection with the peer's key exists. -/
theorem gossip_reaches_connected_owner (l : List Conn) (p : TPeer) :
    ((∃ c ∈ l, c.connected = true ∧ c.peer.key = p.key) ↔ ∃ i, (sendGossip l p).target = some i) ∧
    (∀ i, (sendGossip l p).target = some i → ∀ j c, j < i → l[j]? = some c → ¬ (c.connected = true ∧ c.peer.key = p.key)) := by
  unfold sendGossip sendGossipWith
  cases hg : get l (gossipQuery p) with
  | none =>
    have hn := get_none_of_nonempty (q := gossipQuery p) (by simp [gossipQuery]) hg
    refine ⟨⟨?_, by simp⟩, by simp⟩
    rintro ⟨c, hc, h1, h2⟩
    have := hn c hc
    rw [(matchesAll_gossip p c).mpr ⟨h1, h2⟩] at this
    cases this
  | some k =>
    obtain ⟨_, c, hc, hm, hmin⟩ := get_some hg
    have hcm := (matchesAll_gossip p c).mp hm
    simp only [hc]
    refine ⟨⟨fun _ => ⟨k, rfl⟩, fun _ => ⟨c, List.mem_of_getElem? hc, hcm.1, hcm.2⟩⟩, ?_⟩
    intro i hi j c' hj hg' hh
    simp at hi; subst hi
    have := hmin j c' hj hg'
    rw [(matchesAll_gossip p c').mpr hh] at this
    cases this

/-- **Addressing by node DID is NOT enough** (why the regenerated query must stay `ByPeer`): with two connected,
    unauthenticated peers (both carry the empty node DID) the query `ByConnected, ByNodeDID` for the SECOND peer's queue
    selects the FIRST peer's connection — the second peer never hears gossip. -/
theorem did_addressing_starves_a_peer :
    ∃ (l : List Conn) (p : TPeer), (∃ c ∈ l, c.connected = true ∧ c.peer.key = p.key) ∧
      ∃ i c, (sendGossipWith [.byConnected true, .byNodeDID p.did] l).target = some i ∧ l[i]? = some c ∧ c.peer.key ≠ p.key :=
  ⟨[{ peer := ⟨"a", "", "a:1"⟩, connected := true, authenticated := false },
    { peer := ⟨"b", "", "b:1"⟩, connected := true, authenticated := false }], ⟨"b", "", "b:1"⟩,
   ⟨_, List.mem_cons_of_mem _ (List.mem_cons_self ..), rfl, rfl⟩, 0, _, by decide, rfl, by decide⟩

/-- the connection list as the abstract layer sees it: peers named by (an injective encoding of) their key -/
def absPeers (enc : String → Nat) (l : List Conn) : List Peer :=
  l.map (fun c => { key := enc c.peer.key, authenticated := c.authenticated, did := c.peer.did, connected := c.connected })

/-- **The lookup refines the guard of the abstract gossip tick.** The step relation's `gossipTick` sends "if the peer table
    holds a connected peer with that key", to that key. Reading the REAL connection list through any injective naming of
    peer keys, that guard is exactly "sendGossip's lookup finds a connection", and the connection found carries the key
    the abstract message is addressed to. -/
theorem addressing_refines_gossip_tick_guard (enc : String → Nat) (hinj : ∀ a b, enc a = enc b → a = b)
    (l : List Conn) (p : TPeer) :
    ((absPeers enc l).any (fun q => q.key == enc p.key && q.connected) = (sendGossip l p).target.isSome) ∧
    (∀ i, (sendGossip l p).target = some i → ∃ c, l[i]? = some c ∧ enc c.peer.key = enc p.key) := by
  constructor
  · have h := (gossip_reaches_connected_owner l p).1
    cases ht : (sendGossip l p).target with
    | none =>
      simp only [Option.isSome_none]
      rw [Bool.eq_false_iff]
      intro hany
      simp only [absPeers, List.any_map, List.any_eq_true, Function.comp, Bool.and_eq_true, beq_iff_eq] at hany
      obtain ⟨c, hc, hk, hcon⟩ := hany
      have := h.mp ⟨c, hc, hcon, hinj _ _ hk⟩
      rw [ht] at this
      obtain ⟨i, hi⟩ := this
      cases hi
    | some i =>
      simp only [Option.isSome_some]
      obtain ⟨c, hc, h1, h2⟩ := h.mpr ⟨i, ht⟩
      simp only [absPeers, List.any_map, List.any_eq_true, Function.comp, Bool.and_eq_true, beq_iff_eq]
      exact ⟨c, hc, by rw [h2], h1⟩
  · intro i hi
    obtain ⟨c, hc, _, hk, _⟩ := (gossip_addressed_to_queue_owner l p).1 i hi
    exact ⟨c, hc, by rw [hk]⟩

/-- … hence the abstract tick of a peer's queue emits its Gossip message exactly when `sendGossip` finds a connection
    (end-to-end: connection list -> lookup -> step of the protocol model, to which safety_any_schedule / converges apply) -/
theorem gossip_tick_uses_the_lookup (enc : String → Nat) (hinj : ∀ a b, enc a = enc b → a = b)
    (l : List Conn) (p : TPeer) (n : Node) (q : PeerQueue) (hp : n.peers = absPeers enc l)
    (hq : n.queues.find? (fun x => x.peer == enc p.key) = some q) :
    (gossipTick n (enc p.key)).out =
      (if (sendGossip l p).target.isSome then [(enc p.key, Msg.gossip q.xor q.clock q.queue)] else []) := by
  unfold gossipTick
  rw [hq]
  simp only [hp, (addressing_refines_gossip_tick_guard enc hinj l p).1]
  split <;> simp_all

/-- non-vacuity of the refinement: a naming exists (keys of a two-entry list), the peer table is its image -/
example : (absPeers (fun s => if s = "a()@h" then 1 else if s = "b()@h" then 2 else 0)
    [{ peer := ⟨"a", "", "h"⟩, connected := true, authenticated := false }]).any (fun q => q.key == 1 && q.connected) = true := by decide

/-- an empty query selects nothing (`get`: "make sure we're not returning the first random connection by accident") -/
theorem empty_query_selects_nothing (l : List Conn) : get l [] = none := rfl

/-- non-vacuity: three connections, the queue of the third; the first has the same DID, the second is a stale disconnected
    entry with the same key -/
example : sendGossip [{ peer := ⟨"a", "did:nuts:x", "a:1"⟩, connected := true, authenticated := true },
      { peer := ⟨"b", "did:nuts:x", "b:1"⟩, connected := false, authenticated := true },
      { peer := ⟨"b", "did:nuts:x", "b:1"⟩, connected := true, authenticated := true, sendOK := false }] ⟨"b", "did:nuts:x", "b:1"⟩
    = { target := some 2, cleared := false } := by decide

end AddrProps

/-! ### every method of the conversation manager releases `cMan.mutex` on every exit -/

namespace ConvLockProps
open Nuts.Proto.ConvLock

/-- regenerated (conversation.go, every method of `conversationManager`): the methods, and for each the executable lock check —
    mutex calls only as statements of the method body, `Lock` paired with a deferred `Unlock` (`RLock` / `RUnlock` in `check`),
    nothing held at any `return` nor at the end of the body -/
theorem fact_conversation_lock_discipline :
    Facts.C07.convLockEvents.all (fun m => methodOK m.2) = true ∧
    Facts.C07.convLockEvents.map (·.1) = ["check", "done", "evict", "hasActiveConversation", "resetTimeout", "start", "startConversation"] ∧
    (Facts.C07.convLockEvents.filter (fun m => m.2.any (fun e => isMutexEv (evOf e.2)))).map (·.1) =
      ["check", "done", "evict", "resetTimeout", "startConversation"] := ⟨by decide, rfl, rfl⟩

/-- regenerated: the statements of the conversation manager that the model's conversation functions (Dag.lean `startConversation`,
    `hasActive`, `evict`, `convDone`, `resetTimeout`, `findConv`; Handlers.lean `convCheck`) mirror — the id is stamped and the conversation built
    BEFORE the lock; only a `blockable` request asks `hasActiveConversation` and is refused (nil, nothing stored) or recorded as
    the peer's last conversation under `peer.Key()`; active = the peer's last conversation is still stored and not expired;
    evict deletes the expired ones; done deletes by id; resetTimeout only touches a stored conversation; check refuses an
    unknown id and otherwise delegates to the request's `checkResponse` -/
theorem fact_conversation_manager_flows :
    Facts.C07.convFlow_startConversation = ["assign:cid := newConversationID()", "call:msg.setConversationID(cid)",
      "assign:newConversation := &conversation{conversationID: cid, expiry: time.Now().Add(cMan.validity), conversationData: msg}",
      "call:cMan.mutex.Lock()", "defer:cMan.mutex.Unlock()", "if:_, ok := msg.(blockable); ok", "if:cMan.hasActiveConversation(peer)",
      "return:nil", "assign:cMan.lastPeerConversationID[peer.Key()] = cid", "assign:cMan.conversations[cid.String()] = newConversation",
      "return:newConversation"] ∧
    Facts.C07.convFlow_hasActiveConversation = ["if:lastPeerConv, ok := cMan.lastPeerConversationID[peer.Key()]; ok",
      "if:conversation, ok := cMan.conversations[lastPeerConv.String()]; ok", "if:conversation.expiry.After(time.Now())", "return:true", "return:false"] ∧
    Facts.C07.convFlow_evict = ["call:cMan.mutex.Lock()", "defer:cMan.mutex.Unlock()", "range:cMan.conversations",
      "if:v.expiry.Before(time.Now())", "call:delete(cMan.conversations, k)"] ∧
    Facts.C07.convFlow_done = ["call:cMan.mutex.Lock()", "defer:cMan.mutex.Unlock()", "call:delete(cMan.conversations, cid.String())"] ∧
    Facts.C07.convFlow_resetTimeout = ["call:cMan.mutex.Lock()", "defer:cMan.mutex.Unlock()",
      "if:conversation, exists := cMan.conversations[cid.String()]; exists", "assign:conversation.expiry = time.Now().Add(cMan.validity)"] ∧
    Facts.C07.convFlow_check = ["assign:cidBytes := envelope.conversationID()", "assign:cid := conversationID(cidBytes)",
      "call:cMan.mutex.RLock()", "defer:cMan.mutex.RUnlock()", "if:req, ok := cMan.conversations[cid.String()]; !ok",
      "return:nil,fmt.Errorf(\"unknown or expired conversation (id=%s)\", cid)", "else",
      "return:req,req.conversationData.checkResponse(envelope, data)"] := by and_intros <;> rfl

/-- **A refused request, an unknown conversation, a failed response check … never leave the conversation manager locked.**
    For every method of the real `conversationManager` (regenerated event list) and EVERY exit point of it — each `return`,
    however deeply nested, and the end of the body — the mutex counters (writer, reader) are zero once the deferred calls
    ran, given all mutex events before that point were executed; and all mutex events are unconditional statements of the
    method body, so they ARE executed on every path reaching that point. -/
theorem conversation_manager_releases_lock_on_every_exit :
    ∀ m ∈ Facts.C07.convLockEvents, ∀ pre post, m.2.map (fun x => (x.1, evOf x.2)) = pre ++ post →
      (post = [] ∨ ∃ d rest, post = (d, LEv.ret) :: rest) →
      heldAtExit (stateAfter {} pre) = (0, 0) ∧ ∀ x ∈ pre, isMutexEv x.2 = true → x.1 = 0 := by
  intro m hm pre post hsplit hexit
  have hall := fact_conversation_lock_discipline.1
  have hok : methodOK m.2 = true := (List.all_eq_true.mp hall) m hm
  obtain ⟨hb, hd⟩ := ok_every_exit _ _ hok pre post hsplit hexit
  exact ⟨by simpa [balanced] using hb, hd⟩

/-- **Why the deferred unlock matters**: a `startConversation` that locks, returns nil on the refusal path and unlocks only
    at the end of the accepting path (lock; if … return; unlock; return) fails the check, and its refusal exit holds the
    writer lock — the next `startConversation` / `check` / `done` of the node blocks forever. -/
theorem refusal_without_unlock_keeps_manager_locked :
    methodOK [(0, "Lock"), (2, "return"), (0, "Unlock"), (0, "return")] = false ∧
    heldAtExit (stateAfter {} [(0, LEv.lock false)]) = (1, 0) := by decide

/-- non-vacuity: `startConversation` is among the regenerated methods and has a nested refusal exit after Lock + defer -/
example : ("startConversation", [(0, "Lock"), (0, "defer Unlock"), (2, "return"), (0, "return")]) ∈ Facts.C07.convLockEvents := by decide +kernel
example : ([(0, "Lock"), (0, "defer Unlock"), (2, "return"), (0, "return")] : List (Nat × String)).map (fun x => (x.1, evOf x.2)) =
    [(0, LEv.lock false), (0, LEv.deferUnlock false)] ++ [(2, LEv.ret), (0, LEv.ret)] := by decide

end ConvLockProps

/-! ### refusals of the conversation manager end (the model functions are tied to the source by `fact_conversation_manager_flows`) -/

namespace ConvProps

/-- **A request is refused only for a reason that ends.** `startConversation` refuses (nil, nothing sent, nothing stored)
    only a `blockable` request, and only while the peer's last blocking conversation is still stored and not expired -/
theorem refusal_needs_live_blocking_conversation (cfg : Cfg) (n : Node) (peer : Nat) (data : ConvData)
    (h : startConversation cfg n peer data = none) :
    data.blockable cfg = true ∧ ∃ cid c, Nuts.alGet n.lastConv peer = some cid ∧ findConv n cid = some c ∧ c.expiry > n.now := by
  unfold startConversation at h
  split at h
  · rename_i hc
    simp only [Bool.and_eq_true] at hc
    refine ⟨hc.1, ?_⟩
    have ha := hc.2
    revert ha
    fun_cases hasActive n peer with
    | case3 cid hcid c hcv => exact fun ha => ⟨cid, c, hcid, hcv, by simpa using ha⟩
    | _ => exact nofun
  · simp at h

/-- `done` of the peer's last blocking conversation ends the refusals for that peer -/
theorem done_unblocks_peer (n : Node) (peer : Nat) (cid : Cid) (h : Nuts.alGet n.lastConv peer = some cid) :
    hasActive (convDone n cid) peer = false := by
  unfold hasActive
  have : Nuts.alGet (convDone n cid).lastConv peer = some cid := by simpa [convDone] using h
  rw [this]
  have hf : findConv (convDone n cid) cid = none := by
    simp [findConv, convDone, List.find?_eq_none]
  simp [hf]

/-- … the next request to that peer (blocking or not) is accepted -/
theorem after_done_request_is_accepted (cfg : Cfg) (n : Node) (peer : Nat) (cid : Cid) (data : ConvData)
    (h : Nuts.alGet n.lastConv peer = some cid) : (startConversation cfg (convDone n cid) peer data).isSome = true := by
  unfold startConversation
  simp [done_unblocks_peer n peer cid h]

/-- … and so does time: once the clock passed every stored expiry, no peer is blocked (with `maxValidity` > 0 from
    `fact_constants` this is a finite wait, after which expiry leaves the `n.convs = []` that `sendRequest_empty` asks for) -/
theorem expiry_unblocks_peer (n : Node) (peer : Nat) (t : Nat) (h : ∀ c ∈ n.convs, c.expiry ≤ t) :
    hasActive { n with now := t } peer = false := by
  unfold hasActive
  split
  · rfl
  · split
    · rfl
    · rename_i c hc
      have hm : c ∈ n.convs := List.mem_of_find?_eq_some hc
      have := h c hm
      simp only [decide_eq_false_iff_not]
      omega

/-- non-vacuity: a live blocking conversation with peer 1 refuses the next range query to peer 1 -/
example : startConversation exCfg
    { id := 0, convs := [{ cid := (0, 0), expiry := 5, data := .rangeQuery 0 1 }], lastConv := [(1, (0, 0))] } 1 (.rangeQuery 2 3) = none := by decide +kernel

end ConvProps

end Nuts.C07.Props
