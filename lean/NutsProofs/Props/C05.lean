/-
  C05 — one-time secrets are honoured at most once under every interleaving of session-store operations.
  Model: NutsModel/C05/OneTime.lean, instantiated with today's source in NutsModel/C05/Today.lean.
-/
import NutsModel.C05.OneTime
import NutsModel.C05.Today
import NutsModel.Facts.C05
import NutsProofs.Lemmas.C05Once
import NutsProofs.Lemmas.C05Dead
import NutsProofs.Lemmas.C05Keys

namespace Nuts.C05.Props
open Nuts.C05

/-! ### Obligations on the regenerated facts -/

/-- every consumer makes exactly the session-store calls its thread program is written for -/
theorem fact_consumer_calls :
    Facts.C05.callsCode = (Kind.burn .code).apiCalls ∧
    Facts.C05.callsReqObjGet = (Kind.burn .reqObj).apiCalls ∧
    Facts.C05.callsReqObjPost = (Kind.burn .reqObj).apiCalls ∧
    Facts.C05.callsVpNonce = (Kind.burn .vpNonce).apiCalls ∧
    Facts.C05.callsRedirect.take 1 = (Kind.burn .redirect).apiCalls ∧
    Facts.C05.callsS2S = (Kind.mark .s2s).apiCalls ∧
    Facts.C05.callsJti = (Kind.mark .jti).apiCalls ∧
    -- OpenID4VCI: the token request takes the flow through FindAndDeleteReference, which is GetAndDelete on the
    -- reference store (then a plain Get of the flow under another key)
    Facts.C05.vciTokenCalls.take 1 = ["store.FindAndDeleteReference"] ∧
    Facts.C05.vciFindAndDeleteCalls.take 1 = (Kind.burn .preAuth).apiCalls ∧
    Facts.C05.vciFindAndDeleteCalls.drop 1 = ["flowStore.Get"] := by decide +kernel

/-- every consumer looks its secret up / registers it under the secret itself — no request parameter that the
    requester can vary (client_id, scope, …) takes part in the key, so the model's key (namespace, secret) is the
    code's key.  The s2s nonce comes out of the signed presentation. -/
theorem fact_store_keys :
    Facts.C05.keysCode = ["oauthCodeStore.Delete(*request.Code)", "oauthCodeStore.GetAndDelete(*request.Code)"] ∧
    Facts.C05.keysReqObjGet = ["authzRequestObjectStore.GetAndDelete(request.Id)"] ∧
    Facts.C05.keysReqObjPost = ["authzRequestObjectStore.GetAndDelete(request.Id)"] ∧
    Facts.C05.keysVpNonce = ["oauthNonceStore.Delete(nonce)", "oauthNonceStore.GetAndDelete(nonces[0])"] ∧
    Facts.C05.keysRedirect.take 1 = ["userRedirectStore.GetAndDelete(token)"] ∧
    Facts.C05.keysS2S = ["s2sNonceStore.PutIfAbsent(nonce)"] ∧
    Facts.C05.s2sNonceSource = "extractNonce(presentation)" ∧
    Facts.C05.keysJti = ["useNonceOnceStore.PutIfAbsent(dpopToken.Token.JwtID())"] := by and_intros <;> rfl

/-- where the consumers are called from and with what: the token endpoint dispatches the authorization_code grant to
    `handleAccessTokenRequest` and the vp_token-bearer grant to `handleS2SAccessTokenRequest`; the latter checks the
    nonce of EVERY presentation of the envelope (no `break`/`continue`, only the error return leaves the loop); the
    OpenID4VP response endpoint passes ALL presentations and the request's state to `validatePresentationNonce` -/
theorem fact_call_sites :
    Facts.C05.sitesCode = ["HandleTokenRequest: r.handleAccessTokenRequest(ctx, *request.Body)"] ∧
    Facts.C05.sitesS2S = ["HandleTokenRequest: r.handleS2SAccessTokenRequest(ctx, *request.Body.ClientId, request.SubjectID, *request.Body.Scope, *request.Body.PresentationSubmission, *request.Body.Assertion)"] ∧
    Facts.C05.sitesVpNonce = ["handleAuthorizeResponseSubmission: r.validatePresentationNonce(pexEnvelope.Presentations, state)"] ∧
    Facts.C05.sitesS2SNonce = ["handleS2SAccessTokenRequest: r.validateS2SPresentationNonce(presentation) [in range pexEnvelope.Presentations]"] ∧
    Facts.C05.s2sNonceLoopExits = ["return nil, err"] ∧
    Facts.C05.sitesExtractNonce = ["validatePresentationNonce: extractNonce(presentation) [in range presentations]",
      "validateS2SPresentationNonce: extractNonce(presentation)"] ∧
    Facts.C05.sitesExtractChallenge = ["validatePresentationNonce: extractChallenge(presentation) [in range presentations]"] := by and_intros <;> rfl

/-- a request's store calls are made by the request itself, before it is answered: no `go` statement in auth/api/iam,
    vcr/issuer or the session-store code (the only one in package storage is the bbolt backup loop), the code burn is a
    plain `defer …Delete(…)` (`fact_consumer_calls`: no `:go` marker); and no request waits for, or shares the result
    of, another one: no package-level synchronisation / coalescing / cache state in those packages.  This is what
    lets a thread of the model be a sequential program whose result is its own. -/
theorem fact_requests_are_self_contained :
    Facts.C05.goStatements = ["storage.bboltDatabase.startBackup"] ∧ Facts.C05.syncGlobals = [] := ⟨rfl, rfl⟩

/-- one session database per engine: built once in `Configure`, handed out as it is by `GetSessionDatabase`
    (a database built per call would have its own mutex — and its own in-memory store) -/
theorem fact_engine_wiring :
    Facts.C05.engineGetSessionDatabase = "e.sessionDatabase" ∧
    Facts.C05.sessionDbConstructions = ["NewTestInMemorySessionDatabase:NewInMemorySessionDatabase",
      "engine.Configure:NewInMemorySessionDatabase", "engine.Configure:NewMemcachedSessionDatabase",
      "engine.Configure:NewRedisSessionDatabase"] := ⟨rfl, rfl⟩

/-- every back-end builds a full key with `strings.Join(append(prefixes, key), sep)` — a plain join that neither
    normalises (`..`, `//`) nor escapes the key — and `Put` stores nothing silently only when the TTL is ≤ 0 (no key
    is too long, too odd, …); the mark consumers call `PutIfAbsent(key, value)` without options, so the TTL is the
    store's (positive: `fact_ttls_positive`) -/
theorem fact_key_construction :
    Facts.C05.joinExprMem = "strings.Join(append(prefixes, key), \"/\")" ∧
    Facts.C05.joinExprMemcached = "strings.Join(append(prefixes, key), \"/\")" ∧
    Facts.C05.joinExprRedis = "strings.Join(append(prefixes, key), \".\")" ∧
    Facts.C05.memKeySepChar = '/' ∧ Facts.C05.redisKeySepChar = '.' ∧
    Facts.C05.putSilentSkips = ["opts.ttl <= 0"] ∧
    Facts.C05.pifCallArity = ["validateS2SPresentationNonce:2", "ValidateDPoPProof:2"] := by and_intros <;> rfl

/-- key-space disjointness: over EVERY session store of auth/api/iam and vcr/issuer (regenerated prefix segments), the
    store paths "seg/seg/" are pairwise not a prefix of one another, for the "/" join of the in-memory / memcached
    flavour and the "." join of the redis flavour; the model's stores are among them. -/
theorem fact_keyspace_disjoint :
    pairwiseNonPrefix (Facts.C05.allStorePrefixChars.map (storePath Facts.C05.memKeySepChar)) = true ∧
    pairwiseNonPrefix (Facts.C05.allStorePrefixChars.map (storePath Facts.C05.redisKeySepChar)) = true ∧
    (Facts.C05.allStorePrefixChars.map (storePath Facts.C05.memKeySepChar)).Nodup ∧
    (Facts.C05.allStorePrefixChars.map (storePath Facts.C05.redisKeySepChar)).Nodup ∧
    Facts.C05.allStorePrefixChars.length = Facts.C05.allStorePrefixes.length ∧
    Facts.C05.allStorePrefixChars.map (storePath Facts.C05.memKeySepChar) = Facts.C05.storePathsMem ∧
    (∀ k ∈ Kind.all, todayPrefix k ∈ Facts.C05.allStorePrefixes) := by decide +kernel

/-- … hence, with `getFullKey` modelled literally (`joinKey` = strings.Join, no normalisation), two different stores never
    share a full key, WHATEVER the keys are — separators, `..` segments, any length: no store whose keys the requester
    chooses (the code burned by the token endpoint, the challenges burned by `validatePresentationNonce`, request-object
    ids, redirect tokens) can reach an entry of another store.  This is what lets the model's keys be pairs (namespace, id). -/
theorem keyspace_disjoint (p q : List (List Char)) (hp : p ∈ Facts.C05.allStorePrefixChars) (hq : q ∈ Facts.C05.allStorePrefixChars)
    (hne : storePath Facts.C05.memKeySepChar p ≠ storePath Facts.C05.memKeySepChar q) (k1 k2 : List Char) :
    joinKey Facts.C05.memKeySepChar p k1 ≠ joinKey Facts.C05.memKeySepChar q k2 :=
  joinKey_disjoint _ _ fact_keyspace_disjoint.1 p q hp hq hne k1 k2

theorem keyspace_disjoint_redis (p q : List (List Char)) (hp : p ∈ Facts.C05.allStorePrefixChars) (hq : q ∈ Facts.C05.allStorePrefixChars)
    (hne : storePath Facts.C05.redisKeySepChar p ≠ storePath Facts.C05.redisKeySepChar q) (k1 k2 : List Char) :
    joinKey Facts.C05.redisKeySepChar p k1 ≠ joinKey Facts.C05.redisKeySepChar q k2 :=
  joinKey_disjoint _ _ fact_keyspace_disjoint.2.1 p q hp hq hne k1 k2

/-- the join really is literal: a `..` segment in a key stays in the full key -/
example : joinKey '/' ["oauth".toList, "code".toList] "../../nonceonce/J".toList = "oauth/code/../../nonceonce/J".toList := by decide +kernel

/-- `Put` is total on keys (any length, any characters): the entry is visible right after it -/
theorem put_total_on_keys (incl : Bool) (st : Store) (now ttl : Nat) (k : Key) (v : String) (h : 0 < ttl) :
    stGet incl (stPut st k ⟨v, now + ttl⟩) now k = some v :=
  stGet_put_self incl st now k ⟨v, now + ttl⟩ (Nat.lt_add_of_pos_right h)

/-- the one-time stores are used by exactly these functions: the four issuing functions `Put` (fresh random keys),
    every other access is one of the modelled consumers -/
theorem fact_store_users :
    Facts.C05.storeUsers =
      ["RequestJWTByGet:authzRequestObjectStore.GetAndDelete", "RequestJWTByPost:authzRequestObjectStore.GetAndDelete",
       "RequestUserAccessToken:userRedirectStore.Put",
       "ValidateDPoPProof:useNonceOnceStore.PutIfAbsent",
       "createAuthorizationRequest:authzRequestObjectStore.Put",
       "handleAccessTokenRequest:oauthCodeStore.Delete", "handleAccessTokenRequest:oauthCodeStore.GetAndDelete",
       "handleAuthorizeResponseSubmission:oauthCodeStore.Put",
       "handleUserLanding:userRedirectStore.GetAndDelete",
       "nextOpenID4VPFlow:oauthNonceStore.Put",
       "validatePresentationNonce:oauthNonceStore.Delete", "validatePresentationNonce:oauthNonceStore.GetAndDelete",
       "validateS2SPresentationNonce:s2sNonceStore.PutIfAbsent"] := rfl

/-- each consumer kind has its own namespace (store prefix): the model's keys carry the kind -/
theorem fact_prefixes_distinct : (Kind.all.map todayPrefix).Nodup := by decide

/-- today's GetAndDelete holds the database mutex, on every back-end (regenerated fact `gadShape`) -/
theorem today_gad_locked (strict incl : Bool) : (today strict incl).gad = .locked := rfl

/-- so do today's s2s-nonce and DPoP-jti consumers (`PutIfAbsent`, read off the regenerated call lists) -/
theorem today_mark_locked (strict incl : Bool) (m : MarkKind) : (today strict incl).mark m = .locked := by
  have h : todayMarkS2S = .locked ∧ todayMarkJti = .locked := by decide +kernel
  cases m <;> simp only [today, h]

/-- today's `GetAndDelete` consumes atomically on every back-end (in-process): the model may use `AtomicBurn` -/
theorem fact_gad_atomic_today : AtomicBurn todayMem ∧ AtomicBurn todayRedis ∧ AtomicBurn todayMemcached :=
  ⟨.inr (.inl rfl), .inr (.inl rfl), .inr (.inl rfl)⟩

/-- today's s2s-nonce and DPoP-jti consumers check and register in one atomic section (`PutIfAbsent` under the mutex) -/
theorem fact_mark_atomic_today : AtomicMark todayMem ∧ AtomicMark todayRedis ∧ AtomicMark todayMemcached := by
  have h : ∀ strict incl, AtomicMark (today strict incl) := fun _ _ m => by rw [today_mark_locked]; nofun
  exact ⟨h _ _, h _ _, h _ _⟩

/-- `GetAndDelete` and `PutIfAbsent` are built as the model assumes: Lock, deferred Unlock, then the two calls -/
theorem fact_session_store_shapes :
    Facts.C05.gadCalls = ["Lock", "Unlock", "Get", "Delete"] ∧ Facts.C05.pifCalls = ["Lock", "Unlock", "Get", "Put"] ∧
    Facts.C05.memKeySep = "/" ∧ Facts.C05.redisKeySep = "." ∧
    -- GetAndDelete returns the error of the underlying Delete as it is (what makes memcached's miss visible)
    Facts.C05.gadRawDelete = true := by and_intros <;> rfl

/-- every one-time store has a positive TTL (`SessionStoreImpl.Put` silently stores nothing when the TTL is ≤ 0;
    the model's `stPut` always stores) -/
theorem fact_ttls_positive : ∀ k ∈ Kind.all, 0 < todayTTL k := by decide

/-- the thread programs make exactly the underlying calls the extracted API calls consist of, path by path
    (`apiCalls` is tied to the source by `fact_consumer_calls`; deferred calls run last) -/
theorem program_matches_api_calls :
    let code : Key := ⟨.burn .code, "s"⟩
    let ex := fun (k : Kind) (calls : List ApiCall) => calls.flatMap (expandCall todayMem k)
    let st := fun (k : Kind) => ([(⟨k, "s"⟩, ⟨"c", 60⟩)] : Store)
    -- authorization code: GetAndDelete, then the deferred Delete; missing parameter: only the deferred Delete
    soloOps todayMem 9 (init (st code.ns) [.burn { kind := .code, id := "s", want := "c" }])
      = ex code.ns ((Kind.burn .code).api.reverse) ∧
    soloOps todayMem 9 (init (st code.ns) [.burn { kind := .code, id := "s", want := "c", pre := false }])
      = ex code.ns ((Kind.burn .code).api.take 1) ∧
    -- OpenID4VP nonce: GetAndDelete; presentations disagree: only the Delete
    soloOps todayMem 9 (init (st (.burn .vpNonce)) [.burn { kind := .vpNonce, id := "s", want := "c" }])
      = ex (.burn .vpNonce) ((Kind.burn .vpNonce).api.drop 1) ∧
    soloOps todayMem 9 (init (st (.burn .vpNonce)) [.burn { kind := .vpNonce, id := "s", want := "c", pre := false }])
      = ex (.burn .vpNonce) ((Kind.burn .vpNonce).api.take 1) ∧
    -- request object, user redirect token: GetAndDelete
    soloOps todayMem 9 (init (st (.burn .reqObj)) [.burn { kind := .reqObj, id := "s", want := "c" }])
      = ex (.burn .reqObj) (Kind.burn .reqObj).api ∧
    soloOps todayMem 9 (init (st (.burn .redirect)) [.burn { kind := .redirect, id := "s" }])
      = ex (.burn .redirect) (Kind.burn .redirect).api ∧
    soloOps todayMem 9 (init (st (.burn .preAuth)) [.burn { kind := .preAuth, id := "s", want := "c" }])
      = ex (.burn .preAuth) (Kind.burn .preAuth).api ∧
    -- s2s nonce, DPoP jti: PutIfAbsent (Get, and Set when it missed)
    soloOps todayMem 9 (init [] [.mark { kind := .s2s, id := "s" }]) = ex (.mark .s2s) (Kind.mark .s2s).api ∧
    soloOps todayMem 9 (init [] [.mark { kind := .jti, id := "s" }]) = ex (.mark .jti) (Kind.mark .jti).api ∧
    soloOps todayMem 9 (init (st (.mark .s2s)) [.mark { kind := .s2s, id := "s" }]) = ["get"] := by
  decide +kernel

/-! ### at most once when the consume step is atomic -/

/-- Burn-on-use secrets (authorization code, request object, OpenID4VP nonce, user redirect token):
    whatever the initial store, for ANY number of concurrent or sequential requests of any mix, and EVERY schedule
    (interleaving at the granularity of single underlying store calls, clock ticks anywhere), at most one request
    obtains the stored value — provided the consume step is atomic (`AtomicBurn`). -/
theorem at_most_once_atomic (cfg : Cfg) (ha : AtomicBurn cfg) (st : Store) (reqs : List Req) (sched : List Ev)
    (i j : Nat) (ti tj : Thread)
    (hi : (run cfg sched (init st reqs)).ths[i]? = some ti) (hj : (run cfg sched (init st reqs)).ths[j]? = some tj)
    (hk : ti.key = tj.key) (hti : ti.took = true) (htj : tj.took = true) : i = j :=
  took_unique cfg _ (burnP_run cfg sched _ (.inl ha) (Proto.Inv.of_init (burnP_laws cfg) st reqs)) i j ti tj hi hj hk hti htj

/-- … hence at most one request per secret is honoured -/
theorem at_most_one_success_atomic (cfg : Cfg) (ha : AtomicBurn cfg) (st : Store) (reqs : List Req) (sched : List Ev)
    (k : Key) (b : BurnKind) (hk : k.ns = .burn b) :
    successes (run cfg sched (init st reqs)) k ≤ 1 := by
  unfold successes winners
  apply filter_length_le_one
  intro i j ta tb hi hj ha' hb'
  simp only [Bool.and_eq_true, decide_eq_true_eq] at ha' hb'
  exact at_most_once_atomic cfg ha st reqs sched i j ta tb hi hj (by rw [ha'.1, hb'.1])
    (won_took ta b (by rw [ha'.1]; exact hk) ha'.2) (won_took tb b (by rw [hb'.1]; exact hk) hb'.2)

/-- today's code, in-memory back-end -/
theorem at_most_one_success_today (st : Store) (reqs : List Req) (sched : List Ev) (k : Key) (b : BurnKind)
    (hk : k.ns = .burn b) : successes (run todayMem sched (init st reqs)) k ≤ 1 :=
  at_most_one_success_atomic todayMem fact_gad_atomic_today.1 st reqs sched k b hk

/-! ### mark-as-used secrets (s2s presentation nonce, DPoP proof id) -/

/-- For ANY number of requests and EVERY schedule: two requests that were both accepted with the same nonce / jti
    finished at least a TTL apart — provided check-and-register is atomic (`AtomicMark`). -/
theorem mark_successes_separated (cfg : Cfg) (ha : AtomicMark cfg) (st : Store) (reqs : List Req) (sched : List Ev)
    (i j : Nat) (ri rj : MarkReq) (fi fj : Nat) (hij : i ≠ j)
    (hi : (run cfg sched (init st reqs)).ths[i]? = some (Thread.mark ri (.done .ok) fi))
    (hj : (run cfg sched (init st reqs)).ths[j]? = some (Thread.mark rj (.done .ok) fj))
    (hk : ri.key = rj.key) :
    fi + cfg.ttl (.mark ri.kind) ≤ fj ∨ fj + cfg.ttl (.mark ri.kind) ≤ fi :=
  accepted_apart cfg _ (markP_run cfg sched _ (.inl ha) (Proto.Inv.of_init (markP_laws cfg) st reqs)) i j ri rj fi fj hij hi hj hk

/-- … hence within one TTL at most one request per nonce / jti is accepted -/
theorem mark_at_most_once_within_ttl (cfg : Cfg) (ha : AtomicMark cfg) (st : Store) (reqs : List Req) (sched : List Ev)
    (k : Key) (m : MarkKind) (hk : k.ns = .mark m) (hnow : (run cfg sched (init st reqs)).now < cfg.ttl (.mark m)) :
    successes (run cfg sched (init st reqs)) k ≤ 1 := by
  have inv := markP_run cfg sched _ (.inl ha) (Proto.Inv.of_init (markP_laws cfg) st reqs)
  unfold successes winners
  apply filter_length_le_one
  intro i j ta tb hi hj ha' hb'
  simp only [Bool.and_eq_true, decide_eq_true_eq] at ha' hb'
  have shape : ∀ (t : Thread), t.key = k → t.won = true → ∃ r f, t = Thread.mark r (.done .ok) f ∧ r.kind = m := by
    intro t htk htw
    rw [← htk] at hk
    cases t with
    | burn r pc f => cases hk
    | mark r pc f =>
      cases pc with
      | done o =>
        obtain rfl : o = .ok := by simpa [Thread.won, Thread.outcome] using htw
        exact ⟨r, f, rfl, by injection hk with hk⟩
      | _ => cases htw
  obtain ⟨ra, fa, hta, hka⟩ := shape ta ha'.1 ha'.2
  obtain ⟨rb, fb, htb, hkb⟩ := shape tb hb'.1 hb'.2
  subst hta; subst htb
  by_cases hij : i = j
  · exact hij
  · have h1 := accepted_past cfg _ inv i ra fa hi
    have h2 := accepted_past cfg _ inv j rb fb hj
    have := accepted_apart cfg _ inv i j ra rb fa fb hij hi hj (ha'.1.trans hb'.1.symm)
    rw [hka] at this
    omega

theorem mark_at_most_once_within_ttl_today (st : Store) (reqs : List Req) (sched : List Ev) (k : Key) (m : MarkKind)
    (hk : k.ns = .mark m) (hnow : (run todayMem sched (init st reqs)).now < todayTTL (.mark m)) :
    successes (run todayMem sched (init st reqs)) k ≤ 1 :=
  mark_at_most_once_within_ttl todayMem fact_mark_atomic_today.1 st reqs sched k m hk hnow

/-! ### dead secrets -/

/-- A burn-on-use secret that is not visible (absent or expired) is never handed to a request that has not yet passed
    its Get — in EVERY continuation, for every shape of GetAndDelete (no atomicity needed). -/
theorem dead_never_honoured (cfg : Cfg) (w : World) (k : Key) (b : BurnKind) (hk : k.ns = .burn b)
    (hdead : stGet cfg.expInclusive w.store w.now k = none)
    (i : Nat) (t : Thread) (hi : w.ths[i]? = some t) (hkey : t.key = k) (hidle : t.idle = true)
    (s : List Ev) (t' : Thread) (ht' : (run cfg s w).ths[i]? = some t') : t'.took = false := by
  -- the key stays unreadable (the clock and every step of anybody keep that), so thread i stays before its Get (`BurnStep.idle`)
  have := run_threads cfg (fun j st now u => stGet cfg.expInclusive st now k = none ∧ (j = i → u.key = k ∧ u.idle = true))
    (fun st now dt j u h => ⟨stGet_none_later _ _ _ dt _ h.1, h.2⟩)
    (fun st now lock j u _ _ h => ⟨stGet_none_of_find_eq _ _ _ _ _ (stepThread_burnKey cfg st now lock j u k b hk) h.1, h.2⟩)
    (fun st now lock j u h => ⟨stGet_none_of_find_eq _ _ _ _ _ (stepThread_burnKey cfg st now lock j u k b hk) h.1, fun e => by
      obtain ⟨h1, h2⟩ := h.2 e
      refine ⟨by rw [stepThread_key]; exact h1, ?_⟩
      cases u with
      | burn r pc f =>
        rw [Thread.idle_burn] at h2
        simp only [stepThread, Thread.idle_burn]
        exact (stepBurn_path cfg st now lock j r pc).idle (.inr (by rw [← h1] at h; exact h.1)) h2
      | mark r pc f => rw [← h1] at hk; cases hk⟩)
    s w (fun j u hu => ⟨hdead, fun e => by rw [e, hi] at hu; injection hu with hu; exact hu ▸ ⟨hkey, hidle⟩⟩) i t' ht'
  exact idle_not_took _ (this.2 rfl).2

/-- after the TTL the secret is gone: a request that starts then is refused, whatever happens concurrently -/
theorem dead_after_ttl (cfg : Cfg) (w : World) (k : Key) (b : BurnKind) (hk : k.ns = .burn b)
    (e : Entry) (he : stFind w.store k = some e) (hexp : alive cfg.expInclusive w.now e.exp = false)
    (i : Nat) (t : Thread) (hi : w.ths[i]? = some t) (hkey : t.key = k) (hidle : t.idle = true)
    (s : List Ev) (t' : Thread) (ht' : (run cfg s w).ths[i]? = some t') : t'.took = false :=
  dead_never_honoured cfg w k b hk (by simp [stGet, he, hexp]) i t hi hkey hidle s t' ht'

/-- An authorization code is dead after ANY finished redemption attempt (successful or failed on any branch after the
    presence check of `code`; `hdel`: its Deletes reached the store): in every schedule `s1` after which some attempt `j` on the code has finished, the code
    is absent from the store, and every request `i` that had not yet passed its Get at that moment is refused in
    every continuation `s2`.  Holds for every shape of GetAndDelete. -/
theorem code_dead_after_failed_attempt (cfg : Cfg) (st : Store) (reqs : List Req) (s1 s2 : List Ev)
    (j : Nat) (r : BurnReq) (o : Outcome) (f : Nat)
    (hj : (run cfg s1 (init st reqs)).ths[j]? = some (Thread.burn r (.done o) f)) (hc : r.kind = .code)
    (hdel : r.failDel = false)
    (i : Nat) (t : Thread) (hi : (run cfg s1 (init st reqs)).ths[i]? = some t) (hkey : t.key = r.key) (hidle : t.idle = true)
    (t' : Thread) (ht' : (run cfg s2 (run cfg s1 (init st reqs))).ths[i]? = some t') :
    stFind (run cfg s1 (init st reqs)).store r.key = none ∧ t'.took = false := by
  have hgone := wiped_gone cfg st reqs s1 j r o f hj (.inl hc) hdel
  exact ⟨hgone, dead_never_honoured cfg _ r.key r.kind rfl (stGet_none_of_find_none _ _ _ _ hgone) i t hi hkey hidle s2 t' ht'⟩

/-! ### nonce memory vs. the acceptance window of a service-to-service presentation -/

/-- a JSON-LD presentation is accepted from `created − skew` to `expires + skew` and may be valid for at most
    `s2sMaxPresentationValidity`: the window in which a copy of it is still acceptable -/
def s2sWindow : Nat := Facts.C05.s2sMaxPresentationValidity + 2 * Facts.C05.verifierMaxSkew

/-- the nonce of a presentation is remembered for at least as long as the presentation can be accepted -/
def NonceCoversWindow : Prop := s2sWindow ≤ todayTTL (.mark .s2s)

theorem nonce_covers_window : NonceCoversWindow := by unfold NonceCoversWindow s2sWindow; decide

/-- window offsets (first use, replay) at which a copy is still acceptable while its nonce is already forgotten -/
def replayWindow (ttl window : Nat) : List (Nat × Nat) :=
  (List.range (window + 1)).flatMap fun a => ((List.range (window + 1)).filter fun b => decide (a + ttl ≤ b ∧ b < a + window)).map fun b => (a, b)

/-- today there is no such pair; with the nonce TTL of `validity + skew` (10 s, as before 375d6d0) there were -/
theorem replay_window_empty_today : replayWindow (todayTTL (.mark .s2s)) s2sWindow = [] ∧ replayWindow 10 15 ≠ [] := by decide

/-- composition with `mark_successes_separated`: whenever the TTL covers a window, two accepted requests with the
    same s2s nonce are at least that window apart — for every schedule -/
theorem s2s_no_replay_inside_window (cfg : Cfg) (ha : AtomicMark cfg) (window : Nat) (hcov : window ≤ cfg.ttl (.mark .s2s))
    (st : Store) (reqs : List Req) (sched : List Ev) (i j : Nat) (ri rj : MarkReq) (fi fj : Nat) (hij : i ≠ j)
    (hi : (run cfg sched (init st reqs)).ths[i]? = some (Thread.mark ri (.done .ok) fi))
    (hj : (run cfg sched (init st reqs)).ths[j]? = some (Thread.mark rj (.done .ok) fj))
    (hk : ri.key = rj.key) (hs : ri.kind = .s2s) : fi + window ≤ fj ∨ fj + window ≤ fi := by
  have := mark_successes_separated cfg ha st reqs sched i j ri rj fi fj hij hi hj hk
  rw [hs] at this
  omega

/-- The at-most-once theorems above hold with handler-level overlap too: `Cfg.ext` makes an accepted request stay in
    flight (`atExt`: parked before a collaborator call — the signer, the access-token store) while other requests enter,
    and the theorems quantify over every `cfg`.  Concretely: a second request that enters while the first one is in
    flight after its GetAndDelete is refused. -/
example : ((run { todayMem with ext := fun _ => true } [.step 0, .step 0, .step 0, .step 1, .step 1, .step 0, .step 0]
    (init [(⟨.burn .reqObj, "s"⟩, ⟨"c", 60⟩)] [.burn { kind := .reqObj, id := "s", want := "c" }, .burn { kind := .reqObj, id := "s", want := "c" }])).ths.map Thread.outcome)
    = [some .ok, some .notFound] := by decide

/-- A request whose underlying Get fails (any consumer), or whose Set fails (mark consumers), is never honoured and
    never obtains the value — for every configuration and EVERY schedule.  (A slip that treats "store error" like
    "not found" would let a replay through while the store is unreachable.) -/
theorem store_fault_fails_closed (cfg : Cfg) (st : Store) (reqs : List Req) (sched : List Ev) (i : Nat)
    (r : Req) (hr : reqs[i]? = some r) (hf : r.thread.faulty = true)
    (t : Thread) (ht : (run cfg sched (init st reqs)).ths[i]? = some t) : t.won = false ∧ t.took = false := by
  have h0 : ∀ t0, (init st reqs).ths[i]? = some t0 → t0.faulty = true ∧ t0.safe = true := by
    intro t0 h
    simp only [init, List.getElem?_map, hr, Option.map_some] at h
    injection h with h; subst h
    refine ⟨hf, ?_⟩
    cases r <;> simp [Req.thread, Thread.safe, Thread.idle, Thread.took]
  exact safe_not_won t ((faulty_safe_run cfg i sched _ h0) t ht).2

/-- with all store faults switched on, the at-most-once invariants still hold (they are proved for every request,
    faulty or not); a concrete run: Get fails for the first request, the second one is honoured, the third refused -/
example : ((run todayMem [.step 0, .step 0, .step 1, .step 1, .step 1, .step 2, .step 2]
    (init [] [.mark ⟨.s2s, "n", true, false⟩, .mark ⟨.s2s, "n", false, false⟩, .mark ⟨.s2s, "n", false, false⟩])).ths.map Thread.outcome)
    = [some .storeErr, some .ok, some .used] := by decide

/-! ### the two-call shapes without a lock are not atomic: negation witnesses
    (the code before 8cb8dd5 / 97727dc; still the situation of several nodes sharing one Redis, whose mutexes are
    per process) -/

theorem two_success_witness :
    successes (run cfgTwoCalls witnessSched (init witnessStore [witnessCodeReq, witnessCodeReq])) ⟨.burn .code, "s1"⟩ = 2 := by
  decide

theorem two_success_witness_mark :
    successes (run cfgTwoCalls witnessMarkSched (init [] (witnessMarkReqs .s2s))) ⟨.mark .s2s, "n1"⟩ = 2 ∧
    successes (run cfgTwoCalls witnessMarkSched (init [] (witnessMarkReqs .jti))) ⟨.mark .jti, "n1"⟩ = 2 := by
  decide

/-- the same schedules break today's code when every request is served by another node of a cluster that shares
    one Redis (the mutex is per process): open finding, see known_findings.json -/
theorem two_success_witness_multinode :
    successes (run todayRedisMultiNode witnessSched (init witnessStore [witnessCodeReq, witnessCodeReq])) ⟨.burn .code, "s1"⟩ = 2 ∧
    successes (run todayRedisMultiNode witnessMarkSched (init [] (witnessMarkReqs .s2s))) ⟨.mark .s2s, "n1"⟩ = 2 := by
  decide +kernel

/-- the full-strength statement for an arbitrary configuration (false for `cfgTwoCalls`, see above) -/
def AtMostOnceStmt (cfg : Cfg) : Prop :=
  ∀ (st : Store) (reqs : List Req) (sched : List Ev) (k : Key) (b : BurnKind), k.ns = .burn b →
    successes (run cfg sched (init st reqs)) k ≤ 1

theorem at_most_once_fails_without_atomicity : ¬ AtMostOnceStmt cfgTwoCalls := by
  intro h
  have := h witnessStore [witnessCodeReq, witnessCodeReq] witnessSched ⟨.burn .code, "s1"⟩ .code rfl
  rw [two_success_witness] at this
  omega

/-- what remains true for ANY configuration: in schedules that never separate the Get and the Delete of one
    GetAndDelete (sequential use, or any interleaving of the other steps) at most one request obtains the secret.
    Missing for the full statement: the schedules in which another step falls between those two calls. -/
theorem at_most_once_partial (cfg : Cfg) (st : Store) (reqs : List Req) (sched : List Ev)
    (hs : NoSplit cfg (init st reqs) sched) (i j : Nat) (ti tj : Thread)
    (hi : (run cfg sched (init st reqs)).ths[i]? = some ti) (hj : (run cfg sched (init st reqs)).ths[j]? = some tj)
    (hk : ti.key = tj.key) (hti : ti.took = true) (htj : tj.took = true) : i = j :=
  took_unique cfg _ (burnP_run cfg sched _ (.inr hs) (Proto.Inv.of_init (burnP_laws cfg) st reqs)) i j ti tj hi hj hk hti htj

/-- the same for the mark consumers: schedules that never separate the Get that missed from its Put -/
theorem mark_separated_partial (cfg : Cfg) (st : Store) (reqs : List Req) (sched : List Ev)
    (hs : NoSplitMark cfg (init st reqs) sched)
    (i j : Nat) (ri rj : MarkReq) (fi fj : Nat) (hij : i ≠ j)
    (hi : (run cfg sched (init st reqs)).ths[i]? = some (Thread.mark ri (.done .ok) fi))
    (hj : (run cfg sched (init st reqs)).ths[j]? = some (Thread.mark rj (.done .ok) fj))
    (hk : ri.key = rj.key) :
    fi + cfg.ttl (.mark ri.kind) ≤ fj ∨ fj + cfg.ttl (.mark ri.kind) ≤ fi :=
  accepted_apart cfg _ (markP_run cfg sched _ (.inr hs) (Proto.Inv.of_init (markP_laws cfg) st reqs)) i j ri rj fi fj hij hi hj hk

/-! ### non-vacuity -/

/-- under the lock the witness schedule honours exactly one request (hypotheses of `at_most_once_atomic` are met
    by a configuration in which something happens) -/
example : successes (run { cfgTwoCalls with gad := .locked } witnessSched (init witnessStore [witnessCodeReq, witnessCodeReq]))
    ⟨.burn .code, "s1"⟩ = 1 := by decide
example : AtomicBurn { cfgTwoCalls with gad := .locked } := Or.inr (Or.inl rfl)
/-- memcached: the unlocked two-call shape is atomic because the second Delete reports the missing key -/
example : successes (run { cfgTwoCalls with strictDelete := true } witnessSched (init witnessStore [witnessCodeReq, witnessCodeReq]))
    ⟨.burn .code, "s1"⟩ = 1 := by decide
/-- a sequential schedule satisfies `NoSplit` and honours one of two requests -/
example : NoSplit cfgTwoCalls (init witnessStore [witnessCodeReq, witnessCodeReq])
    [.step 0, .step 0, .step 0, .step 0, .step 1, .step 1, .step 1, .step 1] := (noSplitB_iff _ _ _).mp (by decide)
/-- the witness schedule does separate the two calls -/
example : ¬ NoSplit cfgTwoCalls (init witnessStore [witnessCodeReq, witnessCodeReq]) witnessSched :=
  fun h => absurd ((noSplitB_iff _ _ _).mpr h) (by decide)
/-- mark consumers under the lock: first accepted, concurrent second refused, a third after the TTL accepted again -/
example : ((run { cfgTwoCalls with mark := fun _ => .locked } [.step 0, .step 1, .step 0, .step 1, .step 0, .step 1, .step 1, .tick 61, .step 2, .step 2, .step 2]
    (init [] [.mark { kind := .s2s, id := "n1" }, .mark { kind := .s2s, id := "n1" }, .mark { kind := .s2s, id := "n1" }])).ths.map Thread.outcome) = [some .ok, some .used, some .ok] := by decide
/-- a failed attempt (wrong client_id) burns the code: the honest request that comes next is refused -/
example : ((run todayMem [.step 0, .step 0, .step 0, .step 0, .step 1, .step 1, .step 1]
    (init witnessStore [.burn { kind := .code, id := "s1", want := "clientB" }, witnessCodeReq])).ths.map Thread.outcome)
    = [some .mismatch, some .notFound] := by decide
/-- an expired code is refused -/
example : ((run todayMem [.tick 61, .step 0, .step 0, .step 0]
    (init witnessStore [witnessCodeReq])).ths.map Thread.outcome) = [some .notFound] := by decide

end Nuts.C05.Props
