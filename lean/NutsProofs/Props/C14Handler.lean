/-
  C14 — the private-payload job is removed only after the payload (event) of the transaction is stored.
-/
import NutsModel.C14.Handler
import NutsModel.Facts.C14
import NutsProofs.Props.C14
namespace Nuts.C14.Props
open Nuts.C14

theorem finishedExt_evented (σ : St) (s r : Nat) (f : Bool) : (finishedExt σ s r f).evented = σ.evented := by
  rcases finishedExt_spec σ s r f with e | ⟨_, _, e⟩ <;> rw [e]; rfl

/-- **private_job_removed_only_after_payload_stored**: with the call order of the source (WritePayload, then Finished), for every
    fault at either step (WritePayload's transaction fails / the node stops before its commit; Finished's write fails; unknown
    transaction; wrong hash): if the handler removed the "private" job of the transaction, the payload event of that transaction
    has been saved (payload, marker and the subscribers' jobs are written in that one transaction) -/
theorem private_job_removed_only_after_payload_stored (c : Cfg) (priv : Nat) (σ : St) (ref : Nat) (mm wf ff : Bool) (j : Job)
    (hj : σ.shelf priv ref = some j) (hgone : (handlePayload c priv false σ ref mm wf ff).1.shelf priv ref = none) :
    ref ∈ (handlePayload c priv false σ ref mm wf ff).1.evented := by
  unfold handlePayload at *
  split at hgone; · rw [hj] at hgone; cases hgone
  split at hgone; · rw [hj] at hgone; cases hgone
  simp only [Bool.false_eq_true, if_false] at hgone ⊢
  rename_i hd hm
  rw [if_neg hd, if_neg hm]
  rcases writePayload_spec c σ ref wf with ⟨e, h1, h2, he, _⟩ | ⟨hev, p, he, _⟩ | ⟨he, _⟩ <;> rw [he] at hgone ⊢
  · -- refused: the handler returns before `Finished`, the job is still there
    split at hgone
    · next heq => cases heq; exact absurd rfl h1
    · next heq => cases heq; exact absurd rfl h2
    · next heq => cases heq; rw [hj] at hgone; cases hgone
  · show ref ∈ (finishedExt _ priv ref ff).evented
    rw [finishedExt_evented]; exact hev
  · show ref ∈ (finishedExt _ priv ref ff).evented
    rw [finishedExt_evented, payloadCommit_evented]; exact List.mem_cons_self

/-- the private receiver keeps failing (payload not yet there): its job stays on the shelf -/
def privFails : Nat → Nat → Nat → Outcome := fun s _ _ => if s = 1 then .fail else .done

/-- swapped order (Finished before WritePayload): a failing WritePayload leaves the transaction without job AND without payload -/
theorem finished_before_write_loses_the_job :
    let c := wCfg true privFails
    let σ := run c init [.add { ref := 1 }, .afterCommit [0, 1, 2, 3, 4]]
    σ.shelf 1 1 ≠ none ∧
    (handlePayload c 1 true σ 1 false true false).1.shelf 1 1 = none ∧ 1 ∉ (handlePayload c 1 true σ 1 false true false).1.evented ∧
    (handlePayload c 1 false σ 1 false true false).1.shelf 1 1 ≠ none := by decide

-- non-vacuity of the theorem: without faults the job is removed and the event saved
example : let c := wCfg true privFails
    let σ := run c init [.add { ref := 1 }, .afterCommit [0, 1, 2, 3, 4]]
    (handlePayload c 1 false σ 1 false false false).1.shelf 1 1 = none ∧ 1 ∈ (handlePayload c 1 false σ 1 false false false).1.evented := by decide +kernel

/-- the order the model relies on, regenerated from handlers.go -/
theorem fact_finished_only_after_write_payload :
    Facts.C14.payloadHandlerCalls = ["p.state.GetTransaction", "p.state.WritePayload", "p.privatePayloadReceiver.Finished"] := rfl

end Nuts.C14.Props
