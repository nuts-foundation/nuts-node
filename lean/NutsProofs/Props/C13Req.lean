/-
  C13 — the REQUEST layer: `Create` with an option list, `AddVerificationMethod` with a key usage, the order of `ListDIDs`.
  Model: NutsModel/C13/Request.lean, instantiated by NutsModel/C13/RequestNow.lean with the regenerated facts.
-/
import NutsModel.C13.RequestNow
import NutsProofs.Lemmas.C13Req
import NutsProofs.Props.C13

namespace Nuts.C13.Props
open Nuts.C13 Nuts

/-- `subjectPattern` is `^[a-zA-Z0-9._-]+$`; the class the model validates names with is the one parsed from that text -/
theorem fact_subject_pattern :
    Facts.C13.subjectPatternSource = "^[a-zA-Z0-9._-]+$" ∧
    Now.cls = [(97, 122), (65, 90), (48, 57), (46, 46), (95, 95), (45, 45)] := ⟨rfl, rfl⟩

/-- the arms of `Create`'s option switch: a name is validated before it is taken, the encryption-key option ORs
    `EncryptionKeyUsage()` (= `KeyAgreementUsage`) into the key flags, v1 naming sets its flag, anything else is refused -/
theorem fact_create_option_arms :
    Facts.C13.createOptionArms =
      ["SubjectCreationOption -> if !subjectPattern.MatchString(opt.Subject) return:errors.Join(ErrSubjectValidation); subject = opt.Subject",
       "EncryptionKeyCreationOption -> keyFlags = keyFlags | orm.EncryptionKeyUsage()",
       "NutsLegacyNamingOption -> nutsLegacy = true",
       "default -> return:errors.Join(ErrSubjectValidation, fmt.Errorf(\"unknown option: %T\", option))"] ∧
    Facts.C13.encryptionKeyUsage = "KeyAgreementUsage" := ⟨rfl, rfl⟩

/-- inside `Create`'s transaction: the existence check (on the name known at that moment: the provisional one) comes
    first, then the generation loop over the method map (where v1 naming replaces the name), then the storing loop -/
theorem fact_create_checks_provisional_name_first :
    Facts.C13.createTransactionLandmarks =
      ["FindBySubject(subject)", "range:r.MethodManagers", "subject = sqlDoc.DID.ID", "range:sqlDocs"] := rfl

/-- both refusals of key agreement on did:web are in the source, inside the first transaction -/
theorem fact_key_agreement_refused_on_web : Now.createRefusesWeb = true ∧ Now.addKeyRefusesWeb = true :=
  -- each `==` compares a generated constant with the literal it unfolds to
  ⟨Bool.and_eq_true_iff.mpr ⟨beq_self_eq_true _, beq_self_eq_true _⟩, beq_self_eq_true _⟩

/-- `sortDIDsByMethod`: unlisted methods rank −1, the last match in the preferred order wins, three returns -/
theorem fact_sort_comparator :
    Now.absent = -1 ∧
    Facts.C13.sortComparatorReturns =
      ["[list[i] == list[j]] list[i].String() < list[j].String()",
       "[iOrder == -1 && jOrder == -1] list[i].Method < list[j].Method",
       " iOrder < jOrder"] ∧
    Facts.C13.sortRankAssignments =
      ["[range k,v methodOrder][v == list[i].Method] iOrder = k",
       "[range k,v methodOrder][v == list[j].Method] jOrder = k"] := ⟨rfl, rfl, rfl⟩

theorem applyOpts_verdict (cls : CharClass) (opts : List CreateOpt) (p : CreateParams) :
    (∃ p', applyOpts cls opts p = .ok p') ∨ applyOpts cls opts p = .err "validation" := by
  rw [applyOpts_eq]
  split
  · exact .inl ⟨_, rfl⟩
  · exact .inr rfl

theorem genLoop_verdict (rw ka : Bool) (ms : List Method) (n : Nat) :
    genLoop rw ka ms n = .ok (n + ms.length) ∨ genLoop rw ka ms n = .err "keyagreement" := by
  rw [genLoop_eq]
  split
  · exact .inr rfl
  · exact .inl rfl

/-- **`Create` with ANY option list** either refuses — validation, name taken, key agreement on did:web — and leaves
    the world exactly as it was (also when did:nuts had already generated its document and key inside the transaction), or
    is exactly one `create` operation of the operation model, for some name (the proof gives the final one) -/
theorem create_request_refines (cls : CharClass) (rw : Bool) (cfg : Cfg) (w : World) (opts : List CreateOpt)
    (uuid nd : String) (gen order : List Method) (f : Fault) :
    (∃ e ∈ ["validation", "exists", "keyagreement"], createRequest cls rw cfg w opts uuid nd gen order f = (w, "err:" ++ e)) ∨
    ∃ s, createRequest cls rw cfg w opts uuid nd gen order f = stepOp cfg w (.create s) order f := by
  unfold createRequest
  rcases applyOpts_verdict cls opts { subject := uuid } with ⟨p, hp⟩ | hp
  · rw [hp]
    simp only
    split
    · exact .inl ⟨"exists", by simp, rfl⟩
    · rcases genLoop_verdict rw p.keyAgreement gen 0 with hg | hg
      · rw [hg]; exact .inr ⟨_, rfl⟩
      · rw [hg]; exact .inl ⟨"keyagreement", by simp, rfl⟩
  · rw [hp]; exact .inl ⟨"validation", by simp, rfl⟩

/-- **`AddVerificationMethod` with ANY key usage** either refuses and leaves the world as it was — in particular the
    DIDs of the subject that were visited before the did:web one get no key — or is exactly one `addKey` operation -/
theorem add_key_request_refines (rw : Bool) (cfg : Cfg) (w : World) (s : String) (ka : Bool) (order : List Method) (f : Fault) :
    (addKeyRequest rw cfg w s ka order f).1 = w ∨
    addKeyRequest rw cfg w s ka order f = stepOp cfg w (.addKey s) order f := by
  unfold addKeyRequest
  simp only
  split
  · exact .inl rfl
  · split
    · exact .inl rfl
    · exact .inl rfl
    · exact .inr rfl

section
variable {cfg : Cfg}

/-- **request-level histories stay inside `Reach`**: whatever option list `Create` is called with — so every theorem
    over `Reach` (uniform versions, consecutive versions, subject uniqueness, all-or-nothing after the sweep, …) holds
    for histories of REQUESTS. No premise on the name: a name that is taken is refused, a free one has no change records. -/
theorem create_request_reach {w : World} (h : Reach cfg w) (cls : CharClass) (rw : Bool) (opts : List CreateOpt)
    (uuid nd : String) (gen order : List Method) (f : Fault) :
    Reach cfg (createRequest cls rw cfg w opts uuid nd gen order f).1 := by
  rcases create_request_refines cls rw cfg w opts uuid nd gen order f with ⟨e, _, he⟩ | ⟨s, hs⟩
  · rw [he]; exact h
  · rw [hs]
    by_cases hex : subjectExists w s = true
    · rw [stepOp_create_taken cfg w s order f hex]; exact h
    · refine Reach.op (.create s) order f h ?_
      intro r hr hrs
      exact absurd (List.any_eq_true.mpr ⟨r, hr, by simpa [Op.subject] using hrs⟩) hex

/-- the same for `AddVerificationMethod`, under the premise every operation has (no change records on the subject) -/
theorem add_key_request_reach {w : World} (h : Reach cfg w) (rw : Bool) (s : String) (ka : Bool) (order : List Method)
    (f : Fault) (hc : Clean w.dids s) : Reach cfg (addKeyRequest rw cfg w s ka order f).1 := by
  rcases add_key_request_refines rw cfg w s ka order f with he | hs
  · rw [he]; exact h
  · rw [hs]; exact Reach.op (.addKey s) order f h hc

/-- **key agreement × did:web is all-or-nothing** (`AddVerificationMethod`): in every reachable world, for a subject that
    has a did:web DID, the request is refused and NO DID of the subject — also not the did:nuts one, whose turn came first —
    gets a key, a version or a change record: the world is the same -/
theorem key_agreement_on_web_changes_no_did (hfix : Fixed cfg) (hms : cfg.methods.Nodup) {w : World} (h : Reach cfg w)
    (s : String) (order : List Method) (f : Fault) (hweb : ∃ r ∈ w.dids, r.subject = s ∧ r.method = .web) :
    addKeyRequest true cfg w s true order f = (w, "err:keyagreement") := by
  have inv := reach_inv hfix hms h
  obtain ⟨r, hr, hrs, hrm⟩ := hweb
  have hmem : r ∈ w.dids.filter (fun r => r.subject = s) := List.mem_filter.mpr ⟨hr, by simpa using hrs⟩
  unfold addKeyRequest
  simp only
  rw [if_neg (by
    intro he
    rw [List.isEmpty_iff] at he
    rw [he] at hmem
    cases hmem)]
  rw [addKeyCheck_err_of_web _ (fun x hx => by
        have := inv.noOrphan x (List.mem_filter.mp hx).1
        cases hv : x.vers with
        | nil => exact absurd hv this
        | cons _ _ => rfl) ⟨r, hmem, hrm⟩]
  show ((w, "err:" ++ "keyagreement") : World × String) = (w, "err:keyagreement")
  exact Prod.ext rfl (show "err:" ++ "keyagreement" = "err:keyagreement" by decide)

/-- **a database error in the clean-up transaction is covered by the stop theorems**: `transactionHelper` hands the
    error to the caller and leaves versions + change records behind — the world is the one a process stop at some point of
    the Commit loop leaves (`cleanup_failure_is_a_stop`), hence reachable, hence `stopped_operation_resolved` /
    `all_or_nothing` say what the sweep makes of it. Also when the did:nuts Commit had failed before (`nf`). -/
theorem cleanup_failure_reach {w : World} (h : Reach cfg w) (o : Op) (order : List Method) (nf : Bool)
    (hc : Clean w.dids o.subject) : Reach cfg (stepOpCleanupFails cfg w o order nf).1 := by
  obtain ⟨f, hf⟩ := cleanup_failure_is_a_stop cfg w o order nf
  rw [hf]
  exact Reach.op o order f h hc

/-- **a failed clean-up is resolved by the sweep, for all DIDs together** (end to end: DB error in the second
    transaction → sweep): in a reachable world without change records, an operation whose clean-up transaction fails —
    whether or not the did:nuts Commit had failed before —, followed by more than `threshold` seconds and the sweep:
    EITHER the rows are exactly those from before the operation, OR every DID keeps the new version, no change record is
    left and the did:nuts network shows exactly that version. -/
theorem cleanup_failure_resolved (hfix : Fixed cfg) (hms : cfg.methods.Nodup) {w0 w1 : World} (h : Reach cfg w0)
    (hnone : ∀ r ∈ w0.dids, ∀ v ∈ r.vers, v.pending = none) {o : Op} {chs : List Change}
    (ht : tx1 cfg w0 o = .ok (w1, chs)) (hne : chs.isEmpty = false) (order : List Method) (nf : Bool)
    (d : Nat) (hd : cfg.threshold < d) (ord : List Nat → List Nat) (hord : ∀ l, (ord l).Perm l) :
    let wF := (stepOpCleanupFails cfg w0 o order nf).1
    let w2 := (sweep cfg ord (tick d wF)).1
    (w2.dids = w0.dids ∨
     (w2.dids = wF.dids.map (clearRow w0.next) ∧
      ∀ r ∈ wF.dids, ∀ v vs p, r.vers = v :: vs → v.pending = some p → r.method = .nuts →
        pubLatest w2.pub r.id = some v.c)) ∧
    w2.pub = wF.pub := by
  obtain ⟨k, hk, hph⟩ := cleanup_failure_stop_point order nf ht hne
  intro wF w2
  have := stopped_operation_resolved hfix hms h hnone ht order k hph d hd ord hord
  simp only [w2, wF, hk]
  exact this

/-- **`FindServices` shows a service on every DID of the subject or on none**: in every reachable world (any requests,
    faults, stops, sweeps before), if the answer names one DID of the subject as owner of a service of the requested
    type, it names every DID of the subject -/
theorem find_services_all_dids_or_none (hfix : Fixed cfg) (hms : cfg.methods.Nodup) {w : World} (h : Reach cfg w)
    (s : String) (typ : Option String) {found : List (Nat × String)} (hf : findServices w s typ = .ok found)
    (l : String) {d : Nat} (hd : (d, l) ∈ found) : ∀ r ∈ listDIDs w s, (r.id, l) ∈ found := by
  cases (Res.ite_err_eq_ok.1 (Res.ite_err_eq_ok.1 hf).2).2
  intro r hr
  obtain ⟨r0, hr0, hm⟩ := List.mem_flatMap.mp hd
  refine List.mem_flatMap.mpr ⟨r, hr, ?_⟩
  have hs : r0.subject = r.subject := by
    have a := (List.mem_filter.mp hr0).2
    have b := (List.mem_filter.mp hr).2
    simp only [decide_eq_true_eq] at a b
    rw [a, b]
  have hu := (uniform_versions hfix hms h r0 (List.mem_filter.mp hr0).1 r (List.mem_filter.mp hr).1 hs).2.1
  unfold servicesOfRow at hm ⊢
  cases hv0 : r0.vers with
  | nil => rw [hv0] at hm; cases hm
  | cons v0 vs0 =>
    cases hv : r.vers with
    | nil => rw [hv0, hv] at hu; cases hu
    | cons v vs =>
      rw [hv0] at hm
      rw [hv0, hv] at hu
      simp only [List.map_cons, List.cons.injEq] at hu
      simp only [loadContent, List.mem_map, List.mem_filter] at hm ⊢
      obtain ⟨l', ⟨hl1, hl2⟩, hl3⟩ := hm
      have : l' = l := (Prod.mk.injEq .. ▸ hl3).2
      subst this
      exact ⟨l', ⟨by rw [← hu.1]; exact hl1, hl2⟩, rfl⟩

/-- as coded, a request WITHOUT a service type finds nothing, whatever the documents hold -/
theorem find_services_without_type_finds_nothing (w : World) (s : String) {found : List (Nat × String)}
    (hf : findServices w s none = .ok found) : found = [] := by
  cases (Res.ite_err_eq_ok.1 (Res.ite_err_eq_ok.1 hf).2).2
  apply List.eq_nil_iff_forall_not_mem.mpr
  intro x hx
  obtain ⟨r, _, hm⟩ := List.mem_flatMap.mp hx
  unfold servicesOfRow at hm
  split at hm
  · simp at hm
  · cases hm

end

example :
    let cfg := cfgNow [.nuts, .web]
    let w0 := (stepOp cfg {} (.create "s") [.nuts, .web] .none).1
    let w1 := (stepOp cfg w0 (.addSvc "s" "A") [.nuts, .web] .none).1
    findServices w1 "s" (some "A") = .ok [(0, "A"), (1, "A")] ∧ findServices w1 "s" (some "B") = .ok [] ∧
    findServices w1 "s" none = .ok [] ∧ findServices w1 "t" (some "A") = .err "nosubject" := by decide

/-- the caller of an operation whose clean-up failed is told so, and the change records are still there: the sweep has
    something to find (non-vacuity of `cleanup_failure_reach`; both flavours; after the threshold the sweep keeps the
    published change and drops the unpublished one on BOTH DIDs) -/
example :
    let cfg := cfgNow [.nuts, .web]
    let w0 := (stepOp cfg {} (.create "s") [.nuts, .web] .none).1
    let a := stepOpCleanupFails cfg w0 (.addSvc "s" "A") [.web, .nuts] false
    let b := stepOpCleanupFails cfg w0 (.addSvc "s" "A") [.web, .nuts] true
    a.2 = "err:db" ∧ b.2 = "err:db" ∧ logCount a.1 = 2 ∧ logCount b.1 = 2 ∧
    ((sweep cfg id (tick 61 a.1)).1.dids.map (fun r => r.vers.map (·.c.svcs))) = [[["A"], []], [["A"], []]] ∧
    ((sweep cfg id (tick 61 b.1)).1.dids.map (fun r => r.vers.map (·.c.svcs))) = [[[]], [[]]] ∧
    logCount (sweep cfg id (tick 61 a.1)).1 = 0 ∧ logCount (sweep cfg id (tick 61 b.1)).1 = 0 := by decide

/-- **key agreement × did:web is all-or-nothing** (`Create`): with the encryption-key option on a node that has did:web
    enabled nothing is created, for NO method, in whatever order the method map is visited -/
theorem create_with_encryption_key_on_web_creates_nothing (cls : CharClass) (cfg : Cfg) (w : World) (opts : List CreateOpt)
    (uuid nd : String) (gen order : List Method) (f : Fault) (hweb : Method.web ∈ gen) (henc : CreateOpt.encryptionKey ∈ opts) :
    ∃ e ∈ ["validation", "exists", "keyagreement"], createRequest cls true cfg w opts uuid nd gen order f = (w, "err:" ++ e) := by
  unfold createRequest
  rcases applyOpts_verdict cls opts { subject := uuid } with ⟨p, hp⟩ | hp
  · have hka : p.keyAgreement = true := by
      rw [applyOpts_eq] at hp
      rcases ite_eq_cases hp with ⟨_, hp⟩ | ⟨_, hp⟩ <;> cases hp
      exact foldl_set_keyAgreement opts _ (.inr henc)
    rw [hp]
    simp only
    split
    · exact ⟨"exists", by simp, rfl⟩
    · rw [genLoop_eq, hka, List.contains_iff_mem.2 hweb]
      exact ⟨"keyagreement", by simp, rfl⟩
  · rw [hp]; exact ⟨"validation", by simp, rfl⟩

/-- the answer of `Create` does not depend on the order in which the generation loop visits the method map -/
theorem create_request_order_independent (cls : CharClass) (rw : Bool) (cfg : Cfg) (w : World) (opts : List CreateOpt)
    (uuid nd : String) (g1 g2 order : List Method) (f : Fault) (hp : g1.Perm g2) :
    createRequest cls rw cfg w opts uuid nd g1 order f = createRequest cls rw cfg w opts uuid nd g2 order f := by
  -- the generation loop and the final name ask only which methods are in the list
  have hc : ∀ m, g1.contains m = g2.contains m := fun m => by
    rw [Bool.eq_iff_iff, List.contains_iff_mem, List.contains_iff_mem, hp.mem_iff]
  unfold createRequest
  simp only [genLoop_eq, finalSubject, hc, hp.length_eq]

/-- one unknown option, or one name that does not match the pattern, ANYWHERE in the list refuses the whole request
    before anything is read or written -/
theorem ill_formed_option_refuses (cls : CharClass) (rw : Bool) (cfg : Cfg) (w : World) (opts : List CreateOpt)
    (uuid nd : String) (gen order : List Method) (f : Fault) (o : CreateOpt) (ho : o ∈ opts)
    (hbad : o = .unknown ∨ ∃ s, o = .subject s ∧ matchesPlus cls s = false) :
    createRequest cls rw cfg w opts uuid nd gen order f = (w, "err:validation") := by
  have : o.ok cls = false := by
    rcases hbad with rfl | ⟨s, rfl, hs⟩
    · rfl
    · exact hs
  unfold createRequest
  rw [applyOpts_eq, if_neg fun h => by rw [List.all_eq_true.1 h o ho] at this; cases this]
  show ((w, "err:" ++ "validation") : World × String) = (w, "err:validation")
  exact Prod.ext rfl (show "err:" ++ "validation" = "err:validation" by decide)

/-- **a name handed in can never be a v1 name**: a name that passes today's `subjectPattern` contains no colon, so
    `SubjectCreationOption` cannot claim `did:nuts:…` — the name space of `NutsLegacyNamingOption` subjects -/
theorem option_names_are_not_dids (s : String) (h : matchesPlus Now.cls s = true) : ':' ∉ s.toList := by
  intro hc
  unfold matchesPlus at h
  have hall : s.toList.all Now.cls.has = true := by
    cases h1 : s.toList.all Now.cls.has
    · rw [h1] at h; simp at h
    · rfl
  have := List.all_eq_true.mp hall ':' hc
  revert this
  decide

/-- `ListDIDs` / `List` lose and invent no DID, and answer in an order no two neighbours of which are the wrong way round -/
theorem list_dids_sorted_permutation (absent : Int) (order : List String) (l : List DidId) :
    (sortDIDsByMethod absent order l).Perm l ∧
    (sortDIDsByMethod absent order l).Pairwise (fun a b => lessDID absent order b a = false) :=
  ⟨sortBy_perm _ l, sortBy_pairwise _ (lessDID_asymm absent order) (lessDID_le_trans absent order) l⟩

/-- **the order of `ListDIDs` is determined**: for DIDs of pairwise different methods (one DID per method: theorem
    `subject_unique`) ANY permutation that the comparator accepts as sorted is the list the model computes — so Go's
    unspecified, unstable `sort.Slice` and the order in which SQL returns the rows cannot show -/
theorem list_dids_order_unique (absent : Int) (habs : absent < 0) (order : List String) (l l' : List DidId)
    (hn : (l.map (·.method)).Nodup) (hp : l'.Perm l)
    (hs : l'.Pairwise (fun a b => lessDID absent order b a = false)) :
    l' = sortDIDsByMethod absent order l := by
  have ⟨p, s⟩ := list_dids_sorted_permutation absent order l
  refine List.Perm.eq_of_pairwise (le := fun a b => lessDID absent order b a = false) ?_ hs s (hp.trans p.symm)
  intro a b ha hb hab hba
  have ha' := hp.subset ha
  have hb' := p.subset hb
  by_cases hm : a.method = b.method
  · exact pairwise_ne_inj (List.pairwise_map.mp hn) ha' hb' hm
  · exact (lessDID_total_of_method_ne absent habs order a b hm hba hab).elim

/-- **`Create` hands back every document it made, once** (`sortDIDDocumentsByMethod`): for documents with pairwise
    different IDs the answer is a permutation of them, and its IDs are the sorted IDs (= the order of `ListDIDs`) -/
theorem sorted_documents_are_a_permutation (absent : Int) (order : List String) (docs : List (DidId × Nat))
    (hn : (docs.map (·.1)).Nodup) :
    (sortDocsByMethod absent order docs).Perm docs ∧
    (sortDocsByMethod absent order docs).map (·.1) = sortDIDsByMethod absent order (docs.map (·.1)) := by
  have hfind : ∀ d ∈ docs, docs.find? (fun x => x.1 = d.1) = some d := fun d hd => by
    have := find_of_map_nodup (·.1) docs hn d hd
    simpa using this
  have hp : (sortDIDsByMethod absent order (docs.map (·.1))).Perm (docs.map (·.1)) := sortBy_perm _ _
  constructor
  · unfold sortDocsByMethod
    refine (hp.filterMap _).trans ?_
    rw [List.filterMap_map]
    rw [filterMap_eq_self _ docs (fun d hd => by simpa using hfind d hd)]
  · unfold sortDocsByMethod
    generalize hs : sortDIDsByMethod absent order (docs.map (·.1)) = sorted at hp
    have hsub : ∀ id ∈ sorted, id ∈ docs.map (·.1) := fun id h => hp.subset h
    clear hs hp
    induction sorted with
    | nil => rfl
    | cons id rest ih =>
      obtain ⟨d, hd, hdi⟩ := List.mem_map.mp (hsub id (List.mem_cons_self ..))
      have := hfind d hd
      rw [hdi] at this
      rw [List.filterMap_cons, this]
      simp only [List.map_cons]
      rw [ih (fun x hx => hsub x (List.mem_cons_of_mem _ hx)), hdi]

/-- with two documents of ONE ID the second is lost and the first comes back twice (not reachable from `Create`: one
    document per method, IDs differ) -/
example : sortDocsByMethod (-1) ["nuts", "web"] [(⟨"web", "did:web:x"⟩, 0), (⟨"web", "did:web:x"⟩, 1)] =
    [(⟨"web", "did:web:x"⟩, 0), (⟨"web", "did:web:x"⟩, 0)] := by decide +kernel

example : matchesPlus Now.cls "A.b_c-9" = true ∧ matchesPlus Now.cls "" = false ∧ matchesPlus Now.cls "a:b" = false ∧
    matchesPlus Now.cls "a\n" = false ∧ matchesPlus Now.cls "did:nuts:x" = false ∧ matchesPlus Now.cls "é" = false := by decide +kernel

/-- every way out of `create_request_refines` is taken: created under the last name given; the name is taken; refused
    for key agreement (did:nuts visited first, nothing stays); an unknown option; with v1 naming the taken PROVISIONAL
    name refuses although the final name would be free; v1 naming after a free name creates under the did:nuts DID -/
example :
    let cfg := cfgNow [.nuts, .web]
    let w1 := (createRequest Now.cls Now.createRefusesWeb cfg {} [.subject "a", .subject "b"] "u1" "n1" [.nuts, .web] [.nuts, .web] .none)
    let w2 := (createRequest Now.cls Now.createRefusesWeb cfg w1.1 [.subject "b"] "u2" "n2" [.nuts, .web] [.nuts, .web] .none)
    let w3 := (createRequest Now.cls Now.createRefusesWeb cfg w1.1 [.encryptionKey] "u3" "n3" [.nuts, .web] [.nuts, .web] .none)
    let w4 := (createRequest Now.cls Now.createRefusesWeb cfg w1.1 [.subject "c", .unknown] "u4" "n4" [.nuts, .web] [.nuts, .web] .none)
    let w5 := (createRequest Now.cls Now.createRefusesWeb cfg w1.1 [.subject "b", .nutsLegacy] "u5" "n5" [.web, .nuts] [.nuts, .web] .none)
    let w6 := (createRequest Now.cls Now.createRefusesWeb cfg w1.1 [.nutsLegacy, .subject "c"] "u6" "n6" [.web, .nuts] [.nuts, .web] .none)
    w1.2 = "ok" ∧ w1.1.dids.map (·.subject) = ["b", "b"] ∧
    w2.2 = "err:exists" ∧ w3.2 = "err:keyagreement" ∧ w3.1.dids.length = 2 ∧ w3.1.keys = w1.1.keys ∧
    w4.2 = "err:validation" ∧ w5.2 = "err:exists" ∧
    w6.2 = "ok" ∧ w6.1.dids.map (·.subject) = ["b", "b", "n6", "n6"] := by
  -- with the guard already read off the source, the evaluation does not compare the source texts again
  rw [fact_key_agreement_refused_on_web.1]
  decide +kernel

/-- `key_agreement_on_web_changes_no_did`: hypotheses satisfiable, and on a did:nuts-only node the same request IS an
    operation (one more key) -/
example :
    let cfg := cfgNow [.nuts, .web]
    let w := (stepOp cfg {} (.create "s") [.nuts, .web] .none).1
    (∃ r ∈ w.dids, r.subject = "s" ∧ r.method = .web) ∧
    (addKeyRequest Now.addKeyRefusesWeb cfg w "s" true [.nuts, .web] .none).2 = "err:keyagreement" ∧
    (addKeyRequest Now.addKeyRefusesWeb cfg w "s" false [.nuts, .web] .none).2 = "ok" := by
  rw [fact_key_agreement_refused_on_web.2]
  decide

example :
    let cfg := cfgNow [.nuts]
    let w := (stepOp cfg {} (.create "s") [.nuts] .none).1
    let w' := addKeyRequest Now.addKeyRefusesWeb cfg w "s" true [.nuts] .none
    w'.2 = "ok" ∧ w'.1.dids.map (fun r => r.vers.map (·.c.vms.length)) = [[2, 1]] := by
  rw [fact_key_agreement_refused_on_web.2]
  decide

/-- the order of `ListDIDs`: an unlisted method comes BEFORE the listed ones (rank −1), among unlisted ones the method
    name decides, the LAST occurrence in the preferred order counts -/
example :
    let ds : List DidId := [⟨"web", "did:web:x"⟩, ⟨"nuts", "did:nuts:y"⟩, ⟨"key", "did:key:z"⟩, ⟨"jwk", "did:jwk:q"⟩]
    (sortDIDsByMethod Now.absent ["nuts", "web"] ds).map (·.method) = ["jwk", "key", "nuts", "web"] ∧
    (sortDIDsByMethod Now.absent ["nuts", "web", "nuts"] ds).map (·.method) = ["jwk", "key", "web", "nuts"] ∧
    (sortDIDsByMethod Now.absent [] ds).map (·.method) = ["jwk", "key", "nuts", "web"] ∧
    (ds.map (·.method)).Nodup := by decide +kernel

end Nuts.C13.Props
