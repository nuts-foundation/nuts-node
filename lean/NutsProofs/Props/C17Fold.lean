/-
  C17 — JSON-LD documents, "verified over the exact bytes received / altering any protected byte": a member that
  encoding/json would read as another member (names equal under Unicode simple case folding) while the JSON-LD canonicalisation
  drops it as an undefined — hence unsigned — term is refused, at every nesting level.
-/
import NutsModel.C17.Fold
import NutsModel.Facts.C17
import NutsProofs.Lemmas.C17Fold
import NutsProofs.Props.C17

namespace Nuts.C17.Props
open Nuts.C17 Nuts.C17.Fold

/-- the guard as it stands in vcr/verifier/signature_verifier.go: names are folded with strings.Map(foldRune, ·), foldRune is the
    smallest rune of the unicode.SimpleFold orbit (encoding/json's and strings.EqualFold's folding — NOT strings.ToLower), the walk
    visits every object and array, and jsonldProof refuses before it unmarshals the proof -/
theorem fact_fold_guard :
    Facts.C17.ambiguousMemberFoldExpr = "strings.Map(foldRune, name)" ∧
    Facts.C17.foldRuneBody = "{ result := r for folded := unicode.SimpleFold(r); folded != r; folded = unicode.SimpleFold(folded) { if folded < result { result = folded } } return result }" ∧
    Facts.C17.ambiguousMemberBody = "{ switch v := value.(type) { case map[string]interface{}: names := make(map[string]struct{}, len(v)) for name, child := range v { folded := strings.Map(foldRune, name) if _, exists := names[folded]; exists { return name } names[folded] = struct{}{} if member := ambiguousMember(child); member != \"\" { return member } } case []interface{}: for _, child := range v { if member := ambiguousMember(child); member != \"\" { return member } } } return \"\" }" ∧
    Facts.C17.vcJsonLdErrConds.take 3 = ["err != nil", "member := caseVariantMember(signedDocument, documentToVerify); member != \"\"",
      "err = signedDocument.UnmarshalProofValue(&ldProof); err != nil"] := by
  and_intros <;> rfl

/-- caseVariantMember ends in the walk over the whole document -/
theorem fact_caseVariantMember :
    Facts.C17.caseVariantMemberBody = "{ structType := reflect.TypeOf(decodedInto) for structType != nil && structType.Kind() == reflect.Pointer { structType = structType.Elem() } if structType != nil && structType.Kind() == reflect.Struct { for i := 0; i < structType.NumField(); i++ { name, _, _ := strings.Cut(structType.Field(i).Tag.Get(\"json\"), \",\") if name == \"\" || name == \"-\" { continue } for member := range document { if member != name && strings.EqualFold(member, name) { return member } } } } return ambiguousMember(map[string]interface{}(document)) }" :=
  rfl

/-- the model's SimpleFold on ASCII + LONG S + KELVIN SIGN (other runes untouched: the harness generates names over exactly these) -/
abbrev sf : Nat → Nat := simpleFold id

/-- the three members of the `s` orbit and of the `k` orbit fold to ONE rune, whatever SimpleFold does elsewhere -/
theorem fold_s_k_orbits (other : Nat → Nat) :
    foldRune (simpleFold other) 0x17F = foldRune (simpleFold other) 115 ∧ foldRune (simpleFold other) 115 = foldRune (simpleFold other) 83 ∧
    foldRune (simpleFold other) 0x212A = foldRune (simpleFold other) 107 ∧ foldRune (simpleFold other) 107 = foldRune (simpleFold other) 75 := by
  simp [foldRune, foldRuneLoop, simpleFold]

/-- ASCII: the fold of a rune below 128 is its upper-case letter (the smaller member of the orbit): it identifies exactly what
    lower-casing identifies, and nothing else below 128 -/
theorem fold_ascii : ∀ a, a < 128 → foldRune sf a = (if 97 ≤ a ∧ a ≤ 122 then a - 32 else a) := by decide +kernel

/-- strings.ToLower does NOT identify LONG S with s: a guard that folds with it misses the pair -/
theorem toLower_misses_long_s : toLowerRune 0x17F ≠ toLowerRune 115 ∧ foldRune sf 0x17F = foldRune sf 115 := by decide

example : foldName sf "encodedLiſt" = foldName sf "encodedList" ∧ foldName sf "Kind" = foldName sf "kind" ∧
    foldName sf "encodedList" ≠ foldName sf "encodedLisd" := by decide +kernel

/-- THE statement: for EVERY folding function and every document, if ANY object at ANY depth holds two members (at different
    positions) whose names fold to the same string, ambiguousMember reports a member — whatever the iteration order -/
theorem ambiguousMember_refuses_every_conflated_pair (fold : String → String) (v : JVal) (ns pre mid post : List String) (a b : String)
    (hobj : ns ∈ objsVal v) (hns : ns = pre ++ a :: mid ++ b :: post) (hfold : fold a = fold b) :
    ambVal fold v ≠ none := by
  intro hnone
  have hfree := (ambVal_none fold v hnone ns hobj).2
  rw [hns] at hfree
  have h1 : (a :: (mid ++ b :: post)).Pairwise (fun x y => fold x ≠ fold y) := by
    have := List.pairwise_append.mp (by simpa [List.append_assoc] using hfree : (pre ++ (a :: (mid ++ b :: post))).Pairwise _)
    exact this.2.1
  exact (List.pairwise_cons.mp h1).1 b (by simp) hfold

/-- jsonldProof lets a document through to the proof only if no object of it holds a conflatable pair: what encoding/json reads as
    member X is then the one member spelt (up to folding) X, which is either signed or absent from what the node reads -/
theorem accept_vcJsonLdDoc (fold : String → String) (docOK sv : Bool) (doc : JVal) (rest : Outcome) (vs : List Verified)
    (h : vcJsonLdDoc fold docOK sv doc rest = .accept vs) :
    docOK = true ∧ sv = false ∧ rest = .accept vs ∧ ∀ ns ∈ objsVal doc, ns.Pairwise (fun a b => fold a ≠ fold b) := by
  revert h
  fun_cases vcJsonLdDoc fold docOK sv doc rest with
  | case4 h1 h2 hn => exact fun h => ⟨of_not_bnot h1, by simpa using h2, h, fun ns hns => (ambVal_none fold doc hn ns hns).2⟩
  | _ => nofun

/-- negation witness for the rule "fold with strings.ToLower": a credentialSubject with `encodedList` and `encodedLiſt` passes it -/
theorem toLower_guard_accepts_conflated_pair :
    let doc := JVal.obj (.cons "credentialSubject" (.obj (.cons "encodedList" .leaf (.cons "encodedLiſt" .leaf .nil))) .nil)
    let lower := fun (s : String) => String.ofList (s.toList.map (fun c => Char.ofNat (toLowerRune c.toNat)))
    ambVal lower doc = none ∧ ambVal (foldName sf) doc = some "encodedLiſt" := by decide +kernel

example : ∃ vs, vcJsonLdDoc (foldName sf) true false (.obj (.cons "title" .leaf (.cons "issuer" .leaf .nil))) (.accept []) = .accept vs := ⟨_, rfl⟩

end Nuts.C17.Props
