/-
  C20 — loadFromFlagSet over ANY flag set (server, CLI client, a command's own flags) with the
  regenerated secret suffixes; the CLI client's token; storage.initSQLDatabase on the connection STRING (adapter switch
  regenerated) with the data directory's content not an input; the dummy means' own strict-mode guards
  (NutsModel/C20/{FlagsSql,Dummy}.lean).
-/
import NutsModel.C20.FlagsSql
import NutsModel.C20.Dummy
import NutsModel.Facts.C20
import NutsProofs.Lemmas.C20
import NutsProofs.Props.C20

namespace Nuts.C20.Props
open Nuts Nuts.C18 Nuts.C20

abbrev suffixes := Facts.C20.secretSuffixes
abbrev adapters := Facts.C20.sqlAdapters

/-- the suffixes of the secret rule, resolved from the source expression (literals, constants, `+`): exactly `token`
    and `password` — not `.token` / `.password`, which would let the CLI client's `--token` through -/
theorem fact_secret_suffixes : Facts.C20.secretSuffixes = [sToken, sPassword] := rfl

/-- statement shape of `loadFromFlagSet`: one visitor over ALL flags, the error checked before anything is loaded -/
theorem fact_load_from_flagset_shape : Facts.C20.loadFromFlagSetShape =
    ["var err error // error out if flag name ends with .token or .password (which indicates a secret) and is set on the command line",
     "flags.VisitAll(func(flag *pflag.Flag) { if strings.HasSuffix(flag.Name, \"token\") || strings.HasSuffix(flag.Name, \"password\") { if flag.Changed { err = fmt.Errorf(\"flag %s is a secret, please set it in the config file or environment variable to avoid leaking it\", flag.Name) return } } })",
     "if err != nil {", "return err", "}",
     "return configMap.Load(posflag.Provider(flags, defaultDelimiter, configMap), nil)"] := rfl

/-- the CLI client: its flags (address, timeout, verbosity, token, token-file) and its loader (environment, then the
    SAME loadFromFlagSet, a refusal panics) -/
theorem fact_client_loader :
    Facts.C20.clientFlags = [[97, 100, 100, 114, 101, 115, 115], [116, 105, 109, 101, 111, 117, 116], [118, 101, 114, 98, 111, 115, 105, 116, 121],
      sToken, [116, 111, 107, 101, 110, 45, 102, 105, 108, 101]] ∧
    Facts.C20.clientLoaderShape = ["configMap := koanf.New(defaultDelimiter)", "if err := loadFromEnv(configMap); err != nil {", "panic(err)", "}",
      "if err := loadFromFlagSet(configMap, cmd.Flags()); err != nil {", "panic(err)", "}", "cfg := ClientConfig{}",
      "if err := loadConfigIntoStruct(&cfg, configMap); err != nil {", "panic(err)", "}", "return cfg"] := ⟨rfl, rfl⟩

/-- `initSQLDatabase` up to the adapter choice: strict + no connection string returns at once — nothing (no file in the
    data directory) is consulted; the adapter switch and the default SQLite string -/
theorem fact_sql_init :
    Facts.C20.sqlInitHead = ["connectionString := e.config.SQL.ConnectionString", "if len(connectionString) == 0 {", "if strictmode {",
      "return errors.New(\"no database configured: storage.sql.connection must be set in strictmode\")", "}",
      "connectionString = sqliteConnectionString(e.datadir)", "}", "dbType := strings.Split(connectionString, \":\")[0]"] ∧
    Facts.C20.sqlAdapters = [[115, 113, 108, 105, 116, 101], [109, 121, 115, 113, 108], [112, 111, 115, 116, 103, 114, 101, 115],
      [97, 122, 117, 114, 101, 115, 113, 108], [115, 113, 108, 115, 101, 114, 118, 101, 114]] ∧
    Facts.C20.sqliteDefaultPrefix = [115, 113, 108, 105, 116, 101, 58, 102, 105, 108, 101, 58] := ⟨rfl, rfl, rfl⟩

/-! ### loadFromFlagSet over any flag set -/

/-- the regenerated rule IS the rule of the abstract `load` -/
theorem secret_rule_regenerated (name : Bytes) : isSecretBy suffixes name = isSecretFlag name := by
  show isSecretBy Facts.C20.secretSuffixes name = _
  rw [fact_secret_suffixes]
  simp [isSecretBy, isSecretFlag]

theorem visit_eq (s : List Bytes) : ∀ (flags : List Flag) (acc : Option Bytes),
    flags.foldl (visitStep s) acc = (((flags.filter fun f => isSecretBy s f.name && f.changed).getLast?).map (·.name)).or acc
  | [], acc => by simp
  | f :: fs, acc => by
    rw [List.foldl_cons, visit_eq s fs, visitStep, List.filter_cons]
    cases hs : isSecretBy s f.name <;> cases hc : f.changed <;> simp [List.getLast?_cons]

theorem visit_isSome (s : List Bytes) (flags : List Flag) (acc : Option Bytes) :
    (flags.foldl (visitStep s) acc).isSome = (acc.isSome || flags.any fun f => isSecretBy s f.name && f.changed) := by
  rw [visit_eq, Option.isSome_or, Option.isSome_map, Bool.or_comm]
  congr 1
  rw [Bool.eq_iff_iff, List.getLast?_isSome, List.any_eq_true, Ne, List.filter_eq_nil_iff, Classical.not_forall]
  exact exists_congr fun f => by rw [Classical.not_imp, Classical.not_not]

/-- **flagset_refused_iff.** Whatever the flag set (the node's, the CLI client's, a sub-command's own flags), in whatever
    order it is visited: the load is refused exactly when SOME flag under the secret rule was set on the command line —
    no position, neighbour or number of other flags hides it -/
theorem flagset_refused_iff (s : List Bytes) (flags : List Flag) :
    (loadFromFlagSet s flags).isSome = true ↔ ∃ f ∈ flags, f.changed = true ∧ isSecretBy s f.name = true := by
  simp [loadFromFlagSet, visit_isSome, and_comm]

/-- the flag named in the refusal is a secret flag that was set -/
theorem flagset_reports_a_set_secret (s : List Bytes) (flags : List Flag) (n : Bytes) (h : loadFromFlagSet s flags = some n) :
    ∃ f ∈ flags, f.name = n ∧ f.changed = true ∧ isSecretBy s f.name = true := by
  rw [loadFromFlagSet, visit_eq, Option.or_none, Option.map_eq_some_iff] at h
  obtain ⟨f, hf, hn⟩ := h
  have hm := List.mem_filter.1 (List.mem_of_getLast? hf)
  exact ⟨f, hm.1, hn, by simpa [and_comm] using hm.2⟩

/-- **flagset_verdict_order_independent.** The verdict does not depend on the order in which pflag visits the flags (only
    the NAME reported in the error does): the sorted-order contract of `VisitAll` is not needed for the refusal -/
theorem flagset_verdict_order_independent (s : List Bytes) (a b : List Flag) (h : a.Perm b) :
    (loadFromFlagSet s a).isSome = (loadFromFlagSet s b).isSome := by
  apply Bool.eq_iff_iff.mpr
  rw [flagset_refused_iff, flagset_refused_iff]
  constructor
  · rintro ⟨f, hf, hr⟩; exact ⟨f, h.mem_iff.mp hf, hr⟩
  · rintro ⟨f, hf, hr⟩; exact ⟨f, h.mem_iff.mpr hf, hr⟩

/-- adding flags to a command (its own options, persistent flags of a parent) never un-refuses a secret -/
theorem flagset_refusal_monotone (s : List Bytes) (a extra : List Flag) (h : (loadFromFlagSet s a).isSome = true) :
    (loadFromFlagSet s (a ++ extra)).isSome = true ∧ (loadFromFlagSet s (extra ++ a)).isSome = true := by
  obtain ⟨f, hf, hr⟩ := (flagset_refused_iff s a).mp h
  exact ⟨(flagset_refused_iff s _).mpr ⟨f, List.mem_append_left _ hf, hr⟩, (flagset_refused_iff s _).mpr ⟨f, List.mem_append_right _ hf, hr⟩⟩

example : (loadFromFlagSet suffixes [{ name := sToken, changed := true }, { name := [97], changed := true }]).isSome = true ∧
    loadFromFlagSet suffixes [{ name := [97], changed := true }, { name := sToken, changed := false }] = none := by
  decide

/-- the abstract `load` (names of the flags given on the command line) is this loader on the flags marked changed -/
theorem load_refines_flagset (c : Config) :
    (load c = some ("load", "cli-secret")) ↔
      (loadFromFlagSet suffixes (c.cliFlags.map fun n => { name := n, changed := true })).isSome = true := by
  rw [load_eq_cli_secret, flagset_refused_iff, List.any_eq_true]
  constructor
  · rintro ⟨n, hn, hs⟩
    exact ⟨{ name := n, changed := true }, List.mem_map.mpr ⟨n, hn, rfl⟩, rfl, by rw [secret_rule_regenerated]; exact hs⟩
  · rintro ⟨f, hf, _, hs⟩
    obtain ⟨n, hn, rfl⟩ := List.mem_map.mp hf
    exact ⟨n, hn, by rw [← secret_rule_regenerated]; exact hs⟩

theorem clientToken_secret (s : List Bytes) (flags : List Flag) (env : Option Bytes) (f : Flag) (hf : f ∈ flags)
    (hc : f.changed = true) (hs : isSecretBy s f.name = true) :
    clientToken s flags env = .panic "NewClientConfigForCommand:secret-flag" := by
  obtain ⟨n, hn⟩ := Option.isSome_iff_exists.mp ((flagset_refused_iff s flags).mpr ⟨f, hf, hc, hs⟩)
  simp [clientToken, hn]

/-- **client_token_cli_refused.** The CLI client: `--token=…` on the command line stops the command (any other flags,
    any environment) -/
theorem client_token_cli_refused (flags : List Flag) (env : Option Bytes) (f : Flag) (hf : f ∈ flags) (hn : f.name = sToken)
    (hc : f.changed = true) : clientToken suffixes flags env = .panic "NewClientConfigForCommand:secret-flag" :=
  clientToken_secret suffixes flags env f hf hc (by rw [secret_rule_regenerated, hn]; decide)

/-- **client_token_never_from_cli.** When the CLI client does get a configuration, no flag named `token` (or ending in
    token / password) was set on the command line -/
theorem client_token_never_from_cli (flags : List Flag) (env : Option Bytes) (t : Bytes)
    (h : clientToken suffixes flags env = .ok t) : ∀ f ∈ flags, isSecretFlag f.name = true → f.changed = false := by
  intro f hf hs
  cases hc : f.changed with
  | false => rfl
  | true =>
    rw [clientToken_secret suffixes flags env f hf hc (by rw [secret_rule_regenerated]; exact hs)] at h
    cases h

/-- non-vacuity on the real client flag set: `--token` alone is refused, with `.token`-style suffixes it would not be
    (the reason `fact_secret_suffixes` matters); the environment's token is used when no secret is on the command line -/
example : clientToken suffixes (Facts.C20.clientFlags.map fun n => { name := n, changed := n == sToken, value := [120] }) none
      = .panic "NewClientConfigForCommand:secret-flag" ∧
    clientToken [cDot :: sToken, cDot :: sPassword] (Facts.C20.clientFlags.map fun n => { name := n, changed := n == sToken, value := [120] }) none
      = .ok [120] ∧
    clientToken suffixes (Facts.C20.clientFlags.map fun n => { name := n, changed := false }) (some [121]) = .ok [121] := by
  decide +kernel

/-! ### storage.initSQLDatabase on the connection string -/

theorem sqlDbType_ok (conn : Bytes) : ∃ t, sqlDbType conn = .ok t := by
  unfold sqlDbType
  cases h : splitOn cColon conn with
  | nil => exact absurd h (splitOn_ne_nil _ _)
  | cons t _ => exact ⟨t, rfl⟩

/-- **implicit_sql_refused_any_datadir.** Strict mode, no connection string: refused — for EVERY data directory (the
    default string computed from it is arbitrary, its content is not an input at all) -/
theorem implicit_sql_refused_any_datadir (dflt : Bytes) : initSQL adapters [] true dflt = .err "sql-implicit" := by
  simp [initSQL]

/-- **strict_sql_opened_is_configured.** In strict mode the adapter that gets opened is the one the operator's own
    connection string names; the SQLite default is never substituted -/
theorem strict_sql_opened_is_configured (conn dflt t : Bytes) (h : initSQL adapters conn true dflt = .ok t) :
    conn ≠ [] ∧ sqlDbType conn = .ok t ∧ t ∈ adapters := by
  unfold initSQL at h
  by_cases hc : conn.length = 0
  · simp [hc] at h
  · simp only [hc, if_false] at h
    obtain ⟨t', ht'⟩ := sqlDbType_ok conn
    rw [ht'] at h
    simp only at h
    by_cases ha : t' ∈ adapters
    · simp [ha] at h
      subst h
      exact ⟨fun e => hc (by simp [e]), ht', ha⟩
    · simp [ha] at h

/-- `initSQLDatabase` never panics, and these are its only refusal reasons -/
theorem init_sql_outcomes (conn dflt : Bytes) (strict : Bool) :
    (∃ t ∈ adapters, initSQL adapters conn strict dflt = .ok t) ∨
    (initSQL adapters conn strict dflt = .err "sql-implicit" ∧ conn = [] ∧ strict = true) ∨
    initSQL adapters conn strict dflt = .err "sql-unsupported" := by
  unfold initSQL
  by_cases hc : conn.length = 0
  · cases strict
    · obtain ⟨t, ht⟩ := sqlDbType_ok dflt
      by_cases ha : t ∈ adapters
      · left; exact ⟨t, ha, by simp [hc, ht, ha]⟩
      · right; right; simp [hc, ht, ha]
    · right; left; simp [List.length_eq_zero_iff.mp hc]
  · obtain ⟨t, ht⟩ := sqlDbType_ok conn
    by_cases ha : t ∈ adapters
    · left; exact ⟨t, ha, by simp [hc, ht, ha]⟩
    · right; right; simp [hc, ht, ha]

/-- lenient mode, no connection string: the default (`sqlite:file:` ++ anything) opens the sqlite adapter -/
theorem lenient_default_sqlite (rest : Bytes) :
    initSQL adapters [] false (Facts.C20.sqliteDefaultPrefix ++ rest) = .ok [115, 113, 108, 105, 116, 101] := by
  have hsplit : sqlDbType (Facts.C20.sqliteDefaultPrefix ++ rest) = .ok [115, 113, 108, 105, 116, 101] := by
    rw [fact_sql_init.2.2]
    show sqlDbType ([115, 113, 108, 105, 116, 101] ++ cColon :: ([102, 105, 108, 101, 58] ++ rest)) = _
    unfold sqlDbType
    rw [splitOn_append cColon _ _ (by decide)]
  simp only [initSQL, List.length_nil, if_true, Bool.false_eq_true, if_false, hsplit]
  decide

/-- **start_conn_refines.** Start-up on the connection string is the abstract `start` with `sqlExplicit := conn ≠ ""`,
    for every string whose adapter the switch knows (and for the empty string in strict mode) -/
theorem start_conn_refines (c : Config) (conn dflt : Bytes)
    (h : initSQL adapters conn c.strict dflt ≠ .err "sql-unsupported") :
    startConn adapters tlds l2s c conn dflt = start tlds l2s { c with sqlExplicit := conn.length ≠ 0 } := by
  unfold startConn
  simp only
  generalize hc' : ({ c with sqlExplicit := decide (conn.length ≠ 0) } : Config) = c'
  have hst : c'.strict = c.strict := by subst hc'; rfl
  have hsq : c'.sqlExplicit = decide (conn.length ≠ 0) := by subst hc'; rfl
  cases hl : load c' with
  | some p => rw [start_of_load hl]
  | none =>
    rcases init_sql_outcomes conn dflt c.strict with ⟨t, _, ht⟩ | ⟨he, hc, hs⟩ | hu
    · simp [ht]
    · simp only [he]
      subst hc
      simp [start_steps, hl, step, storageConfigure, hsq, hst, hs]
    · exact absurd hu h

/-- **strict_conn_refuses_implicit.** config text -> decision: strict, no connection string, clean command line, no
    moved key: refused by the storage engine whatever the other options and whatever the data directory -/
theorem strict_conn_refuses_implicit (c : Config) (dflt : Bytes) (hs : c.strict = true)
    (hl : load { c with sqlExplicit := false } = none) :
    startConn adapters tlds l2s c [] dflt = .refuse "storage" "sql-implicit" := by
  have h0 : initSQL adapters [] c.strict dflt = .err "sql-implicit" := by rw [hs]; exact implicit_sql_refused_any_datadir dflt
  have hc : ({ c with sqlExplicit := decide (([] : Bytes).length ≠ 0) } : Config) = { c with sqlExplicit := false } := rfl
  unfold startConn
  simp only [h0]
  rw [hc, hl]

/-- non-vacuity: the secure configuration with its connection string removed, on a data directory whose default string
    is anything; and an unknown adapter is refused in either mode -/
example : startConn adapters tlds l2s secureCfg [] [1, 2, 3] = .refuse "storage" "sql-implicit" ∧
    startConn adapters tlds l2s sloppyCfg [98, 111, 103, 117, 115, 58, 120] [] = .refuse "storage" "sql-unsupported" ∧
    initSQL adapters [115, 113, 108, 105, 116, 101, 58, 120] true [] = .ok [115, 113, 108, 105, 116, 101] := by
  decide

/-! ### the dummy (test-only) means behind its registration check -/
/-- the guards as the source has them: each of the three entry points tests `d.InStrictMode` first -/
def dummyGuards : DummyGuards :=
  { verify := Facts.C20.strictCondsDummy.contains "VerifyVP: d.InStrictMode",
    status := Facts.C20.strictCondsDummy.contains "SigningSessionStatus: d.InStrictMode",
    start := Facts.C20.strictCondsDummy.contains "StartSigningSession: d.InStrictMode" }

theorem fact_dummy_guards : dummyGuards = { verify := true, status := true, start := true } := by
  simp [dummyGuards, Facts.C20.strictCondsDummy]

/-- **dummy_strict_inert.** A dummy means in strict mode — however it got registered — refuses EVERY call of EVERY
    history and its session state never changes (defence in depth behind `strict_running`) -/
theorem dummy_strict_inert (d : DummyMeans) (hs : d.strict = true) :
    ∀ acts : List DummyAct, dummyRun dummyGuards d acts = (d, acts.map fun _ => "not-enabled")
  | [] => rfl
  | a :: r => by
    have hstep : dummyStep dummyGuards d a = (d, "not-enabled") := by
      rw [fact_dummy_guards]; cases a <;> simp [dummyStep, hs]
    simp only [dummyRun, hstep, dummy_strict_inert d hs r, List.map_cons]

/-- lenient: the means works (session life cycle); were one guard missing, the strict means would act -/
example : (dummyRun dummyGuards { strict := false } [.start, .status 0, .status 0, .status 0, .status 0, .verify]).2
      = ["started", "created", "in-progress", "completed", "not-found", "verifier-reached"] ∧
    (dummyRun { dummyGuards with start := false } { strict := true } [.start]).2 = ["started"] := by
  decide +kernel

end Nuts.C20.Props
