/-
  C08 — the repair loop when its own write transactions fail (NutsModel/C08/RepairFault.lean): the in-memory digests are
  repaired all the same, the store is untouched; what is lost is durability (witness).
-/
import NutsProofs.Props.C08
import NutsModel.C08.RepairFault

namespace Nuts.C08.Props
open Nuts Nuts.C08

variable {n : Nat}

/-- the regenerated order inside `writeWithoutLock`: `Updates()`, then `ResetUpdates()`, then the writer — the dirty set
    is forgotten before any Put can fail; and `checkPage` only logs the error of its write transaction -/
theorem fact_repair_fault :
    Facts.C08.writeWithoutLockHead = ["dirties, orphaned := store.tree.Updates()", "store.tree.ResetUpdates()",
      "writer := tx.GetShelfWriter(store.bucketName)"] ∧
    Facts.C08.checkPageWriteOptions = [] ∧
    Facts.C08.checkPageAfterWrite = ["if err != nil { log.Logger().WithError(err).Warnf(\"Failed to run xorTreeRepair check.\") }",
      "if lcEnd > currentLC { f.currentPage = 0 } else { f.currentPage++ }"] := ⟨rfl, rfl, rfl⟩

theorem checkPageFailWith_eq (cfg : Cfg) (lc : Nat) (s : State n) :
    checkPageFailWith cfg lc s =
      if s.mem.circuit < 2 then s else
      match pageFix cfg s with
      | none => { s with mem := { s.mem with
          repairPage := if s.mem.repairPage * cfg.pageSize + cfg.pageSize > lc then 0 else s.mem.repairPage + 1 } }
      | some c =>
        { disk := s.disk,
          mem := { s.mem with
            xorTree := (s.mem.xorTree.replace xorOps (s.mem.repairPage * cfg.pageSize) c).resetUpdates,
            repairPage := if s.mem.repairPage * cfg.pageSize + cfg.pageSize > lc then 0 else s.mem.repairPage + 1 } } := by
  unfold checkPageFailWith pageFix
  by_cases hc : s.mem.circuit < 2
  · simp only [hc, if_true]
  · simp only [hc, if_false]
    cases s.disk.findBetweenLC (s.mem.repairPage * cfg.pageSize) (s.mem.repairPage * cfg.pageSize + cfg.pageSize) with
    | ok txs => simp only []; split <;> rfl
    | err e => rfl
    | panic e => rfl

/-- **Unchanged on fault + same memory.** A `checkPage` whose write transaction fails leaves the store exactly as it was
    and leaves the SAME in-memory state (trees, clock, page counter, circuit) as the `checkPage` that committed. -/
theorem failed_repair_keeps_disk_same_memory (c : Cfg) (lcSeen : Nat) (s : State n) :
    (checkPageFailWith c lcSeen s).disk = s.disk ∧ (checkPageFailWith c lcSeen s).mem = (checkPageWith c lcSeen s).mem := by
  rw [checkPageFailWith_eq, checkPageWith_eq]; split
  · exact ⟨rfl, rfl⟩
  · cases pageFix c s <;> exact ⟨rfl, rfl⟩

/-- the in-memory effect of `checkPage` depends on the store only through the transactions and clock shelves -/
theorem checkPageWith_mem_congr (c : Cfg) (lcSeen : Nat) (a b : State n) (hm : a.mem = b.mem)
    (ht : a.disk.txs = b.disk.txs) (hc : a.disk.clocks = b.disk.clocks) :
    (checkPageWith c lcSeen a).mem = (checkPageWith c lcSeen b).mem := by
  have hf : pageFix c a = pageFix c b := by
    unfold pageFix Disk.findBetweenLC Disk.getTx; rw [hm, ht, hc]
  rw [checkPageWith_eq, checkPageWith_eq, hf, hm]; split
  · exact hm
  · split <;> rfl

def checkFailN : Nat → State NB → State NB
  | 0, s => s
  | k + 1, s => checkFailN k (checkPageFail cfg s)

theorem checkFailN_tracks (k : Nat) : ∀ (a b : State NB), a.mem = b.mem → a.disk.txs = b.disk.txs → a.disk.clocks = b.disk.clocks →
    (checkFailN k a).mem = (checkN k b).mem ∧ (checkFailN k a).disk = a.disk := by
  induction k with
  | zero => intro a b hm _ _; exact ⟨hm, rfl⟩
  | succ k ih =>
    intro a b hm ht hc
    have f := failed_repair_keeps_disk_same_memory cfg a.mem.lcHigh a
    have m : (checkPageFail cfg a).mem = (checkPage cfg b).mem := by
      unfold checkPageFail checkPage
      rw [f.2, ← hm]
      exact checkPageWith_mem_congr cfg a.mem.lcHigh a b hm ht hc
    have d : (checkPageFail cfg a).disk = a.disk := f.1
    have r := ih (checkPageFail cfg a) (checkPage cfg b) m
      (by rw [d, ht]; exact (checkPageWith_txs cfg _ b).symm)
      (by rw [d, hc]; exact (checkPageWith_clocks cfg _ b).symm)
    exact ⟨r.1, by rw [show checkFailN (k + 1) a = checkFailN k (checkPageFail cfg a) from rfl, r.2, d]⟩

/-- **The repair restores the digests even when none of its write transactions commits.** Corrupt the persisted XOR
    leaf of any existing page, restart, signal twice, let the loop check pages `0 … p` with EVERY write transaction
    failing: `XOR(c)` and `IBLT(c)` for every requested clock are the folds over the stored set again; the store still
    holds what it held (the corrupted leaf included — see the witness below). -/
theorem repair_restores_memory_even_if_commits_fail {s : State NB} (r : Reachable s) (hne : s.disk.txs ≠ []) (p : Nat)
    (hp : p ≤ maxClock s.disk.txs / cfg.pageSize) (v : BitVec 256) :
    let s1 := signalIncorrect (signalIncorrect (restart cfg (corruptDisk s (keyOf cfg.pageSize p) v)))
    (∀ req, xorAt (checkFailN (p + 1) s1) req =
      (specUpTo xorOps cfg.pageSize (refClocks s.disk.txs) req, specClock cfg.pageSize s.disk.txs req)) ∧
    (∀ req, ibltAt (checkFailN (p + 1) s1) req =
      (specUpTo (ibltOps NB) cfg.pageSize (keyClocks s.disk.txs) req, specClock cfg.pageSize s.disk.txs req)) ∧
    (checkFailN (p + 1) s1).disk = s1.disk := by
  intro s1
  have g := repair_restores r hne p hp v
  have t := checkFailN_tracks (p + 1) s1 s1 rfl rfl rfl
  refine ⟨fun req => ?_, fun req => ?_, t.2⟩
  · have := g.2.2.xor req
    unfold xorAt at this ⊢
    rw [t.1]; exact this
  · have := g.2.2.iblt req
    unfold ibltAt at this ⊢
    rw [t.1]; exact this

/-- a failing repair on a healthy state is the same as a committing one (there is nothing to write) -/
theorem failed_repair_idle_on_healthy_state {s : State NB} (r : Reachable s) (lcSeen : Nat) :
    checkPageFailWith cfg lcSeen s = checkPageWith cfg lcSeen s := by
  have f := failed_repair_keeps_disk_same_memory cfg lcSeen s
  have c := (reachable_inv r).checkPageWith cfg_good lcSeen
  cases hA : checkPageFailWith cfg lcSeen s with
  | mk dA mA =>
    cases hB : checkPageWith cfg lcSeen s with
    | mk dB mB =>
      rw [hA] at f; rw [hB] at f c
      simp only at f c
      rw [f.1, f.2, c.2.1]

def exS1 : State NB := (add cfg (State.init cfg) exRoot {}).1
def exBroken : State NB := signalIncorrect (signalIncorrect (restart cfg (corruptDisk exS1 (keyOf cfg.pageSize 0) 5#256)))

/-- the hypotheses are met; the corrupted state answers wrongly; one failing check repairs the answer -/
example : exS1.disk.txs ≠ [] ∧ (xorAt exBroken 0).1 ≠ (xorAt exS1 0).1 ∧
    (xorAt (checkFailN 1 exBroken) 0).1 = (xorAt exS1 0).1 := by decide

/-- **What a failing repair loses: durability.** After the failing check the in-memory page is right and its dirty mark
    is gone, so later checks find nothing to write; the corrupted leaf is still in the store and is back after the next
    restart (until the loop is triggered again or an `Add` on that page rewrites the leaf). The committing check heals
    the store. -/
theorem failed_repair_is_not_durable_witness :
    (xorAt (restart cfg (checkFailN 1 exBroken)) 0).1 ≠ (xorAt exS1 0).1 ∧
    (xorAt (restart cfg (checkFailN 3 exBroken)) 0).1 ≠ (xorAt exS1 0).1 ∧
    (xorAt (restart cfg (checkN 1 exBroken)) 0).1 = (xorAt exS1 0).1 := by decide

/-- an `Add` on the page after the failing check writes the (repaired in memory) leaf: the store is healed without
    another repair — after a restart `XOR(c)` is the fold over the two stored transactions -/
theorem add_after_failed_repair_heals_store_witness :
    let s2 := (add cfg (checkFailN 1 exBroken) exChild {}).1
    s2.disk.txs = [exRoot, exChild] ∧
    (xorAt (restart cfg s2) 1).1 = exRoot.ref ^^^ exChild.ref ∧ (xorAt s2 1).1 = exRoot.ref ^^^ exChild.ref ∧
    -- while a rolled-back Add reloads the damaged leaf into memory
    (xorAt (add cfg (checkFailN 1 exBroken) exChild { commitFails := true }).1 0).1 ≠ exRoot.ref := by decide

end Nuts.C08.Props
