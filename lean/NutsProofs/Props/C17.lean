/-
  C17 — Signed tokens need exactly one allowed asymmetric signature by the right key.
  Model: NutsModel/C17/TokenPolicy.lean (+ NutsModel/C04/Token.lean for the bearer token).
  Facts: NutsModel/Facts/C17.lean is REGENERATED from /repo on every run.
-/
import NutsModel.C17.TokenPolicy
import NutsModel.C17.Jwk
import NutsModel.Facts.C17
import NutsProofs.Lemmas.C17

namespace Nuts.C17.Props
open Nuts.C17 Nuts.C04

def symmetricOrNone : List String := ["none", "", "HS256", "HS384", "HS512"]

/-- **allowed_lists_asymmetric**: no allow-list of any consumer contains `none` or a MAC algorithm -/
theorem allowed_lists_asymmetric :
    (∀ a ∈ Facts.C17.supportedAlgs, a ∉ symmetricOrNone) ∧
    (∀ a ∈ Facts.C17.dagAllowedAlgs, a ∉ symmetricOrNone) ∧
    (∀ a ∈ Facts.C17.apiPolicy.acceptableAlgs, a ∉ symmetricOrNone) ∧
    (∀ a ∈ Facts.C17.keyDerivedAlgs, a ∉ symmetricOrNone) := by decide

/-- JWTKidAlg / ParseJWT: parse error, `!= 1` signatures, key callback error, unsupported algorithm, algorithm not fitting
    the key are the error exits; verification is jwt.ParseString with jwt.WithKey and jwt.WithVerify -/
theorem fact_parseJWT :
    Facts.C17.jwtKidAlgErrConds = ["err != nil", "len(j.Signatures()) != 1"] ∧
    Facts.C17.parseJWTErrConds = ["err != nil", "err != nil", "!jwx.IsAlgorithmSupported(alg)", "!jwx.AlgorithmFitsKey(alg, key)"] ∧
    Facts.C17.parseJWTCalls = ["JWTKidAlg", "f", "jwx.IsAlgorithmSupported", "fmt.Errorf", "jwx.AlgorithmFitsKey", "append", "jwt.WithKey", "jwt.WithVerify", "jwt.ParseString"] :=
  ⟨rfl, rfl, rfl⟩

/-- ParseJWS: exactly one signature is demanded and the library verifies over the parsed message -/
theorem fact_parseJWS :
    Facts.C17.parseJWSCountRule = .exactlyOne ∧ Facts.C17.parseJWSVerifyMode = .library ∧
    Facts.C17.parseJWSErrConds =
      ["err != nil", "len(signatures) != 1", "!jwx.IsAlgorithmSupported(alg)", "err != nil", "!jwx.AlgorithmFitsKey(alg, key)"] :=
  ⟨rfl, rfl, rfl⟩

/-- dpop.Parse: its first eight error exits, in order, are the signature discipline (parse, one signature, alg on the
    shared allow-list, typ, jwk present, jwk not private, alg fits the jwk's curve, jwt.ParseString WithKey(alg, jwk)); what follows are claim
    checks (C19's concern, summarised by the harness as one verdict) -/
theorem fact_dpopParse :
    Facts.C17.dpopParseErrConds.take 8 =
      ["err != nil", "len(message.Signatures()) != 1", "!slices.Contains(jwx.SupportedAlgorithms, headers.Algorithm())",
       "headers.Type() != \"dpop+jwt\"", "headers.JWK() == nil", "jwkIsPrivateKey(headers.JWK())",
       "!jwx.AlgorithmFitsKey(headers.Algorithm(), headers.JWK())", "err != nil"] ∧
    Facts.C17.dpopChecksAlgFit = true ∧
    Facts.C17.dpopTyp = "dpop+jwt" ∧ "jwt.WithKey" ∈ Facts.C17.dpopParseCalls ∧
    Facts.C17.dpopVerifyCall = "jwt.ParseString(s, jwt.WithKey(headers.Algorithm(), headers.JWK()))" := by
  exact ⟨rfl, rfl, rfl, by simp [Facts.C17.dpopParseCalls], rfl⟩

/-- dag.ParseTransaction: 0 and > 1 signatures rejected, the steps in order, alg allow-list; the verifier
    takes the embedded key or asks the resolver by kid and calls jws.Verify -/
theorem fact_dagTx :
    Facts.C17.parseTransactionErrConds =
      ["err != nil", "!isJWSSerialization(input)", "len(message.Signatures()) == 0", "len(message.Signatures()) > 1",
       "err := step(result, headers, message); err != nil"] ∧
    Facts.C17.dagStrictFraming = true ∧
    Facts.C17.parseTransactionSteps =
      ["parseSigningAlgorithm", "parsePayload", "parseContentType", "parseSignatureParams", "parseSigningTime", "parseVersion",
       "parsePrevious", "parsePAL", "parseLamportClock"] ∧
    Facts.C17.parseSigningAlgorithmErrConds = ["!isAlgoAllowed(headers.Algorithm())"] ∧
    "jws.Verify" ∈ Facts.C17.dagSignatureVerifierCalls ∧ "jwx.AlgorithmFitsKey" ∈ Facts.C17.dagSignatureVerifierCalls ∧
    Facts.C17.dagChecksAlgFit = true ∧ "resolver.ResolvePublicKey" ∈ Facts.C17.dagSignatureVerifierCalls ∧
    "transaction.SigningKey().Raw" ∈ Facts.C17.dagSignatureVerifierCalls := by
  refine ⟨rfl, rfl, rfl, rfl, ?_, ?_, rfl, ?_, ?_⟩ <;> simp [Facts.C17.dagSignatureVerifierCalls]

/-- the framing test of the transaction parser, verbatim (the harness re-states exactly this to produce the verdict) -/
theorem fact_dag_framing_body :
    Facts.C17.isJWSSerializationBody =
      "{ if trimmed := bytes.TrimLeftFunc(input, unicode.IsSpace); len(trimmed) > 0 && trimmed[0] == '{' { return true } segments := bytes.Split(input, []byte{'.'}) if len(segments) != 3 { return false } for _, segment := range segments { decoded, err := base64.RawURLEncoding.DecodeString(string(segment)) if err != nil || base64.RawURLEncoding.EncodeToString(decoded) != string(segment) { return false } } return true }" := by rfl

/-- parseSignatureParams: exactly one of `kid` header / embedded `jwk`, with no exception (in particular not "the kid header
    equals the embedded key's own kid member", which is attacker-chosen text) -/
theorem fact_dag_kid_xor_jwk :
    Facts.C17.parseSignatureParamsErrConds =
      ["(transaction.signingKey != nil && transaction.signingKeyID != \"\") || (transaction.signingKey == nil && transaction.signingKeyID == \"\")"] := by
  rfl

/-- tokenV2 credentialIsSecure: exactly one signature, allow-listed algorithm, none of jwk / jku / x5c / x5u -/
theorem fact_apiToken :
    Facts.C17.apiPolicy.sigRule = .exactlyOne ∧
    Facts.C17.apiPolicy.acceptableAlgs = ["ES256", "ES384", "ES512", "RS512", "PS512", "EdDSA"] ∧
    Facts.C17.apiPolicy.forbiddenHdrs = ["jwk", "jku", "x5c", "x5u"] :=
  ⟨rfl, rfl, rfl⟩

/-- jar.validate, LDProof.Verify and jwtSignature: their error exits and calls, verbatim -/
theorem fact_jar_ldproof :
    Facts.C17.jarValidateErrConds =
      ["err != nil", "err != nil", "clientId != params.get(oauth.ClientIDParam)", "err != nil", "!exists",
       "err := compareThumbprint(key, publicKey); err != nil"] ∧
    "cryptoNuts.ParseJWT" ∈ Facts.C17.jarValidateCalls ∧ "configuration.JWKs.LookupKeyID" ∈ Facts.C17.jarValidateCalls ∧
    Facts.C17.ldProofVerifyErrConds =
      ["err != nil", "err != nil", "err != nil", "err != nil", "!jwx.AlgorithmFitsKey(alg, key)", "len(splittedJws) != 2", "err != nil",
       "err = jswVerifier.Verify([]byte(challenge), sig, key); err != nil"] ∧
    "nutsCrypto.SignatureAlgorithm" ∈ Facts.C17.ldProofVerifyCalls ∧
    Facts.C17.vcJwtSignatureErrConds = ["err != nil", "at == nil", "err != nil", "keyID != \"\" && strings.Split(keyID, \"#\")[0] != issuer"] ∧
    "crypto.ParseJWT" ∈ Facts.C17.vcJwtSignatureCalls := by
  refine ⟨rfl, ?_, ?_, rfl, ?_, rfl, ?_⟩ <;>
    simp [Facts.C17.jarValidateCalls, Facts.C17.ldProofVerifyCalls, Facts.C17.vcJwtSignatureCalls]

/-- v1 authz server: validateIssuer binds the kid to `iss`; both ParseJWT call sites use the DID key resolver (introspection
    additionally requires the key to be one of this node's own: an ERROR of the key store lookup and "not present" are both
    error exits of the key callback, in that order, before the resolver is asked) -/
theorem fact_authzV1 :
    Facts.C17.authzV1ChecksKidIssuer = true ∧
    "kidDID, err := did.ParseDIDURL(vContext.kid); err != nil || kidDID.DID.String() != vContext.requester.String()" ∈ Facts.C17.validateIssuerErrConds ∧
    "nutsCrypto.ParseJWT" ∈ Facts.C17.parseBearerTokenCalls ∧ "s.keyResolver.ResolveKeyByID" ∈ Facts.C17.parseBearerTokenCalls ∧
    "nutsCrypto.ParseJWT" ∈ Facts.C17.introspectCalls ∧ "s.privateKeyStore.Exists" ∈ Facts.C17.introspectCalls ∧
    Facts.C17.introspectErrConds.take 2 = ["err != nil", "!exists"] := by
  refine ⟨rfl, ?_, ?_, ?_, ?_, ?_, rfl⟩ <;>
    simp [Facts.C17.validateIssuerErrConds, Facts.C17.parseBearerTokenCalls, Facts.C17.introspectCalls]

/-- the process-global allow-list is extended in exactly one place (the ES256K build tag), and the DAG signature verifier is
    installed by the network engine -/
theorem fact_wiring :
    Facts.C17.addSupportedAlgorithmCallers = ["crypto/jwx/jwx_es256k.go"] ∧
    Facts.C17.dagSignatureVerifierInstalledIn = ["network/network.go"] :=
  ⟨rfl, rfl⟩

/-- crypto/jwx.AlgorithmFitsKey, verbatim (P-256 ↔ ES256, P-384 ↔ ES384, P-521 ↔ ES512; Ed25519 keys: EdDSA and 32 bytes; the harness's `fits` verdict is its own
    re-statement of RFC 7518 3.4); the bearer-token key loop counts a jwx-verified credential whose header algorithm does not fit
    the authorised key as NOT verified by that key (the harness's `verifies` verdict includes the fit) -/
theorem fact_alg_fits_key :
    Facts.C17.algorithmFitsKeyBody =
      "{ var curve string switch k := key.(type) { case ed25519.PublicKey: return alg == jwa.EdDSA && len(k) == ed25519.PublicKeySize case *ed25519.PublicKey: return k != nil && alg == jwa.EdDSA && len(*k) == ed25519.PublicKeySize case jwk.OKPPublicKey: if k.Crv() == jwa.Ed25519 { return alg == jwa.EdDSA && len(k.X()) == ed25519.PublicKeySize } return true case *ecdsa.PublicKey: curve = k.Params().Name case ecdsa.PublicKey: curve = k.Params().Name case *ecdsa.PrivateKey: curve = k.Params().Name case jwk.ECDSAPublicKey: curve = k.Crv().String() case jwk.ECDSAPrivateKey: curve = k.Crv().String() default: return true } switch curve { case \"P-256\": return alg == jwa.ES256 case \"P-384\": return alg == jwa.ES384 case \"P-521\": return alg == jwa.ES512 default: return true } }" ∧
    Facts.C17.apiTokenKeyLoopFitTest =
      "err == nil && !credentialAlgorithmFitsKey(credential, authorizedKey) => { err = errors.New(\"signing algorithm does not fit the authorized key\") }" ∧
    "nutsJwx.AlgorithmFitsKey" ∈ Facts.C17.credentialAlgorithmFitsKeyCalls ∧ "cryptoPublicKey" ∈ Facts.C17.credentialAlgorithmFitsKeyCalls := by
  refine ⟨rfl, rfl, ?_, ?_⟩ <;> simp [Facts.C17.credentialAlgorithmFitsKeyCalls]

/-- **fits_is_the_algorithm_of_the_curve**: for a key on P-256 / P-384 / P-521 the helper says "fits" for exactly one algorithm,
    the one RFC 7518 3.4 gives that curve (in particular a P-521 key does not fit ES256 or ES384); an Ed25519 key fits EdDSA
    only, and only when it is 32 bytes long -/
theorem fits_is_the_algorithm_of_the_curve (alg : String) :
    (∀ c a, algOfCurve c = some a → (algorithmFitsKey alg (.ecdsa c) = true ↔ alg = a)) ∧
    (algOfCurve "P-256" = some "ES256" ∧ algOfCurve "P-384" = some "ES384" ∧ algOfCurve "P-521" = some "ES512") ∧
    (∀ n, algorithmFitsKey alg (.ed25519 n) = true ↔ alg = "EdDSA" ∧ n = 32) := by
  refine ⟨?_, ⟨rfl, rfl, rfl⟩, ?_⟩
  · intro c a h
    simp [algorithmFitsKey, h]
  · intro n
    simp [algorithmFitsKey]

example : algorithmFitsKey "ES256" (.ecdsa "P-521") = false ∧ algorithmFitsKey "ES512" (.ecdsa "P-521") = true ∧
    algorithmFitsKey "ES512" (.ecdsa "P-256") = false ∧ algorithmFitsKey "EdDSA" (.ed25519 31) = false := by decide

/-- the long-lived objects that verify tokens hold services and constants only — no map, cache or captured variable that could
    remember a key resolved for an earlier request: the verification key is a function of the CURRENT resolution. (The bearer-token
    middleware's fields: C04's fact_middleware_stateless.) -/
theorem fact_verifiers_hold_no_key_state :
    Facts.C17.dagVerifierClosureState = [] ∧
    Facts.C17.jarFields = ["auth auth.AuthenticationServices", "jwtSigner cryptoNuts.JWTSigner", "keyResolver resolver.KeyResolver"] ∧
    Facts.C17.signatureVerifierFields = ["keyResolver resolver.KeyResolver", "jsonldManager jsonld.JSONLD"] ∧
    Facts.C17.authzServerFields =
      ["vcFinder vcr.Finder", "vcVerifier verifier.Verifier", "keyResolver resolver.KeyResolver", "privateKeyStore nutsCrypto.KeyStore",
       "contractNotary services.ContractNotary", "serviceResolver didman.CompoundServiceResolver", "jsonldManager jsonld.JSONLD",
       "secureMode bool", "clockSkew time.Duration", "accessTokenLifeSpan time.Duration"] := by
  and_intros <;> rfl

/-- **key_is_current_resolution**: on the model, what ParseJWT accepts after any earlier requests is decided by the key source
    as it is NOW — two environments that agree on the current lookup of the token's kid (and on jwx's verdicts) give the same
    outcome, whatever they answered for other kids or earlier -/
theorem key_is_current_resolution (E E' : Env) (j : Jws) (s : Sig) (hs : j.sigs = [s])
    (hres : E.resolve s.kid = E'.resolve s.kid) (hver : E.verifies = E'.verifies) (hfit : E.fits = E'.fits) :
    parseJWT Facts.C17.supportedAlgs E j = parseJWT Facts.C17.supportedAlgs E' j := by
  unfold parseJWT
  simp only [hs, hres, hver, hfit]

/-- the discipline of an accepted token: exactly one signature `s`, exactly one verification `v`, of that signature,
    with the algorithm its protected header names, on the allow-list, over the signature's own signing input, and a
    consumer-specific condition on where the key came from -/
def Disciplined (allowed : List String) (j : Jws) (vs : List Verified) (keyOK : Sig → Verified → Prop) : Prop :=
  ∃ s v, j.sigs = [s] ∧ vs = [v] ∧ v.idx = 0 ∧ v.alg = s.alg ∧ s.alg ∈ allowed ∧ s.alg ∉ symmetricOrNone ∧
    v.overSigningInput = true ∧ keyOK s v

theorem Disciplined.single {allowed : List String} (hasym : ∀ a ∈ allowed, a ∉ symmetricOrNone) {j : Jws} {vs : List Verified}
    {s : Sig} {k : Key} {src : KeySrc} {keyOK : Sig → Verified → Prop} (hs : j.sigs = [s])
    (hv : vs = [{ key := k, src := src, alg := s.alg, idx := 0, overSigningInput := true }]) (hal : s.alg ∈ allowed)
    (hk : keyOK s { key := k, src := src, alg := s.alg, idx := 0, overSigningInput := true }) : Disciplined allowed j vs keyOK :=
  ⟨s, _, hs, hv, rfl, rfl, hal, hasym _ hal, rfl, hk⟩

theorem Disciplined.imp {allowed : List String} {j : Jws} {vs : List Verified} {P Q : Sig → Verified → Prop}
    (h : Disciplined allowed j vs P) (hPQ : ∀ s v, j.sigs = [s] → vs = [v] → P s v → Q s v) : Disciplined allowed j vs Q := by
  obtain ⟨s, v, hs, hv, hidx, halg, hal, hasym, hov, hP⟩ := h
  exact ⟨s, v, hs, hv, hidx, halg, hal, hasym, hov, hPQ s v hs hv hP⟩

/-- crypto.ParseJWT: the key is the one the protocol's source returns for the token's kid, jwx verified with it, and the
    algorithm fits that key (an ECDSA key only with the algorithm of its curve) -/
theorem accept_parseJWT (E : Env) (j : Jws) (vs : List Verified)
    (h : parseJWT Facts.C17.supportedAlgs E j = .accept vs) :
    Disciplined Facts.C17.supportedAlgs j vs (fun s v =>
      v.src = .resolver s.kid ∧ E.resolve s.kid = some v.key ∧ E.verifies v.key s.alg 0 = true ∧ E.fits v.key s.alg = true) := by
  obtain ⟨s, k, hs, hv, hr, hal, hver, hfit, _⟩ := parseJWT_accept h
  exact .single allowed_lists_asymmetric.1 hs hv hal ⟨rfl, hr, hver, hfit⟩

/-- crypto.ParseJWS with the regenerated count rule and verify mode: one signature, library verification -/
theorem accept_parseJWS (E : Env) (j : Jws) (vs : List Verified)
    (h : parseJWS Facts.C17.supportedAlgs Facts.C17.parseJWSCountRule Facts.C17.parseJWSVerifyMode E j = .accept vs) :
    Disciplined Facts.C17.supportedAlgs j vs (fun s v =>
      v.src = .resolver s.kid ∧ E.resolve s.kid = some v.key ∧ E.verifies v.key s.alg 0 = true ∧ E.fits v.key s.alg = true) := by
  rw [fact_parseJWS.1, fact_parseJWS.2.1, parseJWS_eq_parseJWT] at h
  exact accept_parseJWT E j vs h

/-- the hand-rolled verification the source had before the repair does NOT have the property: two signatures are
    accepted and what was verified is not the signing input (the payload is not covered). Replayed on the real
    ParseJWS by the harness (variants json-split-confusion-*). -/
theorem parseJWS_splitCompact_mode_accepts_two_uncovered :
    ∃ E j vs, parseJWS Facts.C17.supportedAlgs .none .splitCompact E j = .accept vs ∧ j.sigs.length = 2 ∧
      ∀ v ∈ vs, v.overSigningInput = false := by
  refine ⟨{ resolve := fun _ => some "K", embeddedKey := fun _ => none, verifies := fun _ _ _ => false, verifiesSplit := fun _ _ _ => true },
    { parses := true, splitOK := true,
      sigs := [{ alg := "ES256", kid := "k", jwk := .absent, hdrs := [], typ := "" }, { alg := "ES256", kid := "k", jwk := .absent, hdrs := [], typ := "" }] },
    [{ key := "K", src := .resolver "k", alg := "ES256", idx := 0, overSigningInput := false },
     { key := "K", src := .resolver "k", alg := "ES256", idx := 1, overSigningInput := false }], ?_, rfl, ?_⟩
  · decide
  · decide

/-- dpop.Parse: the key is the embedded jwk (mandated by RFC 9449), it is present and not a private key; with the jwx
    contract "an asymmetric algorithm never verifies with an octet key" it is a public key -/
theorem accept_dpop (E : Env) (claimsOK : Bool) (j : Jws) (vs : List Verified)
    (h : dpopParse Facts.C17.supportedAlgs Facts.C17.dpopTyp E claimsOK j = .accept vs) :
    Disciplined Facts.C17.supportedAlgs j vs (fun s v =>
      v.src = .embedded 0 ∧ E.embeddedKey 0 = some v.key ∧ E.verifies v.key s.alg 0 = true ∧ E.fits v.key s.alg = true ∧
      s.typ = "dpop+jwt" ∧ s.jwk ≠ .absent ∧ s.jwk ≠ .priv ∧
      ((∀ k a, s.jwk = .sym → E.verifies k a 0 = false) → s.jwk = .pub)) := by
  obtain ⟨s, k, hs, hv, hal, htyp, hj1, hj2, hek, hver, hfit⟩ := dpop_accept h
  refine .single allowed_lists_asymmetric.1 hs hv hal ⟨rfl, hek, hver, hfit, htyp.trans fact_dpopParse.2.2.1, hj1, hj2, fun hc => ?_⟩
  cases hk : s.jwk with
  | absent => exact absurd hk hj1
  | priv => exact absurd hk hj2
  | pub => rfl
  | sym => rw [hc k s.alg hk] at hver; cases hver

def dagTxStmt : Prop :=
  ∀ (E : Env) (otherOK framingOK : Bool) (j : Jws) (vs : List Verified),
    dagTx Facts.C17.dagAllowedAlgs Facts.C17.dagRejectsPrivateJwk Facts.C17.dagStrictFraming E otherOK framingOK j = .accept vs →
    framingOK = true ∧
    Disciplined Facts.C17.dagAllowedAlgs j vs (fun s v =>
      E.verifies v.key s.alg 0 = true ∧ E.fits v.key s.alg = true ∧
      ((v.src = .embedded 0 ∧ E.embeddedKey 0 = some v.key ∧ s.jwk ≠ .absent ∧ s.kid = "") ∨
       (v.src = .resolver s.kid ∧ E.resolve s.kid = some v.key ∧ s.jwk = .absent ∧ s.kid ≠ "")) ∧
      s.jwk ≠ .priv)

/-- everything but "an embedded private key is refused", whatever the parser does about private keys -/
theorem accept_dagTx_partial (rej strict : Bool) (E : Env) (otherOK framingOK : Bool) (j : Jws) (vs : List Verified)
    (h : dagTx Facts.C17.dagAllowedAlgs rej strict E otherOK framingOK j = .accept vs) :
    Disciplined Facts.C17.dagAllowedAlgs j vs (fun s v =>
      E.verifies v.key s.alg 0 = true ∧ E.fits v.key s.alg = true ∧
      ((v.src = .embedded 0 ∧ E.embeddedKey 0 = some v.key ∧ s.jwk ≠ .absent ∧ s.kid = "") ∨
       (v.src = .resolver s.kid ∧ E.resolve s.kid = some v.key ∧ s.jwk = .absent ∧ s.kid ≠ "")) ∧
      (rej = true → s.jwk ≠ .priv)) := by
  obtain ⟨_, s, k, src, hs, hv, hal, hver, hfit, hsrc, hpriv⟩ := dagTx_accept h
  exact .single allowed_lists_asymmetric.2.1 hs hv hal ⟨hver, hfit, hsrc, hpriv⟩

/-- the full statement holds as soon as the parser refuses embedded private keys (regenerated fact) -/
theorem accept_dagTx_of_fact (hf : Facts.C17.dagRejectsPrivateJwk = true) : dagTxStmt := by
  intro E otherOK framingOK j vs h
  exact ⟨(dagTx_accept h).1 fact_dagTx.2.1, (accept_dagTx_partial _ _ E otherOK framingOK j vs h).imp
    fun _ _ _ _ ⟨hver, hfit, hsrc, hpriv⟩ => ⟨hver, hfit, hsrc, hpriv hf⟩⟩

/-- the parser refuses a `jwk` header holding an ECDSA / RSA / OKP private key (type switch in parseSignatureParams) -/
theorem fact_dag_rejects_private_jwk :
    Facts.C17.dagRejectsPrivateJwk = true ∧
    (∀ t ∈ ["jwk.ECDSAPrivateKey", "jwk.RSAPrivateKey", "jwk.OKPPrivateKey"], t ∈ Facts.C17.parseSignatureParamsRejectedKeyTypes) := by decide

/-- DAG transactions, full statement: the bytes are a JWS serialisation in canonical framing (JSON, or three unpadded
    canonical base64url segments: the compact bytes verified are exactly the bytes received), one signature, allow-listed asymmetric algorithm, verified over its signing
    input with the embedded key (jwk form, no kid) or the key the resolver returns for the kid (kid form, no jwk), and
    an embedded private key is refused -/
theorem accept_dagTx : dagTxStmt := accept_dagTx_of_fact fact_dag_rejects_private_jwk.1

/-- a parser that does not look at the key kind accepts a transaction carrying a PRIVATE jwk (witness replayed on the
    real ParseTransaction + signature verifier: variants embed-jwk-priv-*) -/
theorem dagTx_without_private_check_accepts_private_jwk :
    ∃ E j vs s, dagTx Facts.C17.dagAllowedAlgs false true E true true j = .accept vs ∧ j.sigs = [s] ∧ s.jwk = .priv := by
  refine ⟨{ resolve := fun _ => none, embeddedKey := fun _ => some "E", verifies := fun _ _ _ => true, verifiesSplit := fun _ _ _ => false },
    { parses := true, splitOK := true, sigs := [{ alg := "ES256", kid := "", jwk := .priv, hdrs := ["jwk"], typ := "" }] },
    [{ key := "E", src := .embedded 0, alg := "ES256", idx := 0, overSigningInput := true }],
    { alg := "ES256", kid := "", jwk := .priv, hdrs := ["jwk"], typ := "" }, ?_, rfl, rfl⟩
  decide

/-- internal-API bearer token: exactly one signature, allow-listed algorithm, no key-carrying header, verified with a
    line of the authorized_keys file whose comment is the issuer -/
theorem accept_apiToken (aud : String) (keys : List AuthKey) (now : Int) (hdr : Str) (a : Analysis) (vs : List Verified)
    (h : apiToken Facts.C17.apiPolicy aud keys now hdr a = .accept vs) :
    ∃ s v i, a.sigs = [s] ∧ vs = [v] ∧ v.idx = 0 ∧ v.alg = s.alg ∧ s.alg ∈ Facts.C17.apiPolicy.acceptableAlgs ∧
      s.alg ∉ symmetricOrNone ∧ (∀ x ∈ ["jwk", "jku", "x5c", "x5u"], x ∉ s.hdrs) ∧
      v.src = .authorizedKeys i ∧ a.verifies[i]? = some true ∧
      (∃ k u, (k, true) ∈ keys.zip a.verifies ∧ k.comment = u ∧ a.claims.iss = some u) := by
  obtain ⟨s, i, u, hs, hv, hal, hforb, hi, k, hk, hc, hiss⟩ := apiToken_accept fact_apiToken.1 fact_apiToken.2.2 h
  exact ⟨s, _, i, hs, hv, rfl, by simp [hs], hal, allowed_lists_asymmetric.2.2.1 _ hal, hforb, rfl, hi, k, u, hk, hc, hiss⟩

/-- the rule the source had before the repair (`secureSignatureCount > 0`) accepts two signatures
    (witness replayed on the real middleware: variants json-two-sigs-valid-*) -/
theorem apiToken_atLeastOne_rule_accepts_two_signatures :
    ∃ a vs, apiToken { Facts.C17.apiPolicy with sigRule := .atLeastOne } "aud" [{ comment := "alice" }] 1000 ("Bearer x".toList) a = .accept vs ∧
      a.sigs.length = 2 := by
  refine ⟨{ parses := true, sigs := [{ alg := "EdDSA", hdrs := [] }, { alg := "ES256", hdrs := [] }], verifies := [true],
            claims := { jti := some true, iat := some 900, nbf := some 900, exp := some 2000, aud := some ["aud"],
                        iss := some "alice", sub := some "operator" } },
          [{ key := "authorized-key", src := .authorizedKeys 0, alg := "EdDSA", idx := 0, overSigningInput := true }], ?_, rfl⟩
  decide +kernel

/-- jar.validate: ParseJWT's discipline, and the signer key is one the client publishes under that kid -/
theorem accept_jar (E : Env) (J : JarEnv) (j : Jws) (vs : List Verified)
    (h : jarValidate Facts.C17.supportedAlgs E J j = .accept vs) :
    Disciplined Facts.C17.supportedAlgs j vs (fun s v =>
      v.src = .resolver s.kid ∧ E.resolve s.kid = some v.key ∧ E.verifies v.key s.alg 0 = true ∧ E.fits v.key s.alg = true ∧
      J.clientKey s.kid = some v.key ∧ J.clientIdMatches = true) := by
  obtain ⟨hp, hcid, hck⟩ := jar_accept h
  exact (accept_parseJWT E j vs hp).imp fun s v hs hv ⟨hsrc, hres, hver, hfit⟩ =>
    ⟨hsrc, hres, hver, hfit, hck s v hs hv hsrc, hcid⟩

/-- VC / VP in JWT format (signature_verifier.jwtSignature): ParseJWT's discipline with the DID key resolver (an absent
    kid resolves the issuer's key), and a present kid belongs to the issuer -/
theorem accept_vcJwt (E : Env) (issuer : String) (didOf : String → String) (j : Jws) (vs : List Verified)
    (h : vcJwtSignature Facts.C17.supportedAlgs E issuer didOf j = .accept vs) :
    Disciplined Facts.C17.supportedAlgs j vs (fun s v =>
      E.resolve (if s.kid = "" then issuer else s.kid) = some v.key ∧ E.verifies v.key s.alg 0 = true ∧ E.fits v.key s.alg = true ∧
      (s.kid ≠ "" → didOf s.kid = issuer)) := by
  obtain ⟨hp, hiss⟩ := vcJwt_accept h
  exact (accept_parseJWT _ j vs hp).imp fun s _ hs _ ⟨_, hres, hver, hfit⟩ => ⟨hres, hver, hfit, hiss s hs⟩

/-- v1 authorization server, JWT bearer grant (parseAndValidateJwtBearerToken + validateIssuer): ParseJWT's discipline
    with the DID key resolver, `iss` is a DID, and the kid is a DID URL of exactly that DID — the verifying key is one the
    ISSUER's DID document lists, not merely some resolvable key -/
theorem accept_authzV1 (E : Env) (issuer : String) (ip : Bool) (didOf : String → String) (j : Jws) (vs : List Verified)
    (h : authzV1 Facts.C17.supportedAlgs Facts.C17.authzV1ChecksKidIssuer E issuer ip didOf j = .accept vs) :
    Disciplined Facts.C17.supportedAlgs j vs (fun s v =>
      v.src = .resolver s.kid ∧ E.resolve s.kid = some v.key ∧ E.verifies v.key s.alg 0 = true ∧ E.fits v.key s.alg = true ∧ didOf s.kid = issuer) := by
  rw [fact_authzV1.1] at h
  obtain ⟨hp, _, hk⟩ := authzV1_accept h
  exact (accept_parseJWT E j vs hp).imp fun s _ hs _ ⟨hsrc, hres, hver, hfit⟩ => ⟨hsrc, hres, hver, hfit, hk s hs⟩

/-- without the kid/issuer test any resolvable party signs in the name of any requester (witness replayed on the real
    parseAndValidateJwtBearerToken + validateIssuer: variants signed-by-attacker-own-kid, lookalike(...)) -/
theorem authzV1_without_kid_check_accepts_foreign_key :
    ∃ E j vs s, authzV1 Facts.C17.supportedAlgs false E "did:nuts:victim" true (fun k => (k.splitOn "#").headD "") j = .accept vs ∧
      j.sigs = [s] ∧ s.kid = "did:nuts:mallory#k" := by
  refine ⟨{ resolve := fun _ => some "Km", embeddedKey := fun _ => none, verifies := fun _ _ _ => true, verifiesSplit := fun _ _ _ => false },
    { parses := true, splitOK := true, sigs := [{ alg := "ES256", kid := "did:nuts:mallory#k", jwk := .absent, hdrs := [], typ := "JWT" }] },
    [{ key := "Km", src := .resolver "did:nuts:mallory#k", alg := "ES256", idx := 0, overSigningInput := true }],
    { alg := "ES256", kid := "did:nuts:mallory#k", jwk := .absent, hdrs := [], typ := "JWT" }, ?_, rfl, rfl⟩
  decide

/-- LDProof.Verify: one verification with the caller's key; the algorithm is the one derived from that key (so it
    fits the key and, by the regenerated list of constants `SignatureAlgorithm` can return, is asymmetric); the
    detached JWS header of the proof is never read -/
theorem accept_ldProof (L : LdEnv) (key : Key) (canon : Bool) (parts : Nat) (dec : Bool) (vs : List Verified)
    (hderive : ∀ k a, L.keyAlg k = some a → a ∈ Facts.C17.keyDerivedAlgs)
    (h : ldProofVerify L key canon parts dec = .accept vs) :
    ∃ v, vs = [v] ∧ v.key = key ∧ v.src = .caller ∧ L.keyAlg key = some v.alg ∧ v.alg ∉ symmetricOrNone ∧
      L.verifiesDetached key v.alg = true ∧ parts = 2 ∧ L.fits key v.alg = true := by
  obtain ⟨alg, hv, hka, hver, hparts, hfit, _⟩ := ldProof_accept h
  exact ⟨_, hv, rfl, rfl, hka, allowed_lists_asymmetric.2.2.2 _ (hderive _ _ hka), hver, hparts, hfit⟩

/-- VC / VP with a JSON-LD proof (signature_verifier.jsonldProof): `proof` is a single object (a proof SET — an array, of any
    length — is refused: exactly one signature), the one verification is made with the key the resolver
    returns for the proof's verificationMethod, and that verificationMethod is a DID URL of exactly the issuer's DID -/
theorem accept_vcJsonLd (E : Env) (L : LdEnv) (po : Bool) (issuer vm : String) (didOf : String → String) (va canon : Bool) (parts : Nat)
    (dec : Bool) (vs : List Verified)
    (hderive : ∀ k a, L.keyAlg k = some a → a ∈ Facts.C17.keyDerivedAlgs)
    (h : vcJsonLdProof E L po issuer vm didOf va canon parts dec = .accept vs) :
    po = true ∧ didOf vm = issuer ∧ ∃ k v, E.resolve vm = some k ∧ vs = [v] ∧ v.key = k ∧ L.keyAlg k = some v.alg ∧
      v.alg ∉ symmetricOrNone ∧ L.verifiesDetached k v.alg = true := by
  revert h
  fun_cases vcJsonLdProof E L po issuer vm didOf va canon parts dec with
  | case6 hpo _ hiss _ k hk =>
    intro h
    obtain ⟨v, hv, hkey, _, hka, hasym, hver, _⟩ := accept_ldProof L k canon parts dec vs hderive h
    simp only [Bool.or_eq_true, decide_eq_true_eq, not_or, Decidable.not_not] at hiss
    exact ⟨of_not_bnot hpo, hiss.2, k, v, hk, hv, hkey, hka, hasym, hver⟩
  | _ => nofun

/-- jsonldProof's error exits, verbatim -/
theorem fact_vcJsonLd :
    "err = signedDocument.UnmarshalProofValue(&ldProof); err != nil" ∈ Facts.C17.vcJsonLdErrConds ∧
    Facts.C17.vcJsonLdProofAssignments = [] ∧
    "verificationMethod == \"\"" ∈ Facts.C17.vcJsonLdErrConds ∧
    "verificationMethodIssuer == \"\" || verificationMethodIssuer != issuer" ∈ Facts.C17.vcJsonLdErrConds ∧
    "!ldProof.ValidAt(validAt, maxSkew)" ∈ Facts.C17.vcJsonLdErrConds ∧
    "sv.keyResolver.ResolveKeyByID" ∈ Facts.C17.vcJsonLdCalls ∧ "ldProof.Verify" ∈ Facts.C17.vcJsonLdCalls := by
  refine ⟨?_, rfl, ?_, ?_, ?_, ?_, ?_⟩ <;> simp [Facts.C17.vcJsonLdErrConds, Facts.C17.vcJsonLdCalls]

def withHeaders (f : Sig → JwkKind) (g : Sig → List String) (j : Jws) : Jws :=
  { j with sigs := j.sigs.map (fun s => { s with jwk := f s, hdrs := g s }) }

/- ParseJWT, DPoP and the DAG parser look at the signature list only when it is a singleton, and there at no header
   that `withHeaders` changes: the equation holds by unfolding, shape by shape. -/

theorem parseJWT_headers_irrelevant {sup : List String} {E : Env} {j : Jws} {f : Sig → JwkKind} {g : Sig → List String} :
    parseJWT sup E (withHeaders f g j) = parseJWT sup E j := by
  rcases j with ⟨_, _ | ⟨_, _ | _⟩, _⟩ <;> rfl

theorem dpop_hdrs_irrelevant {sup : List String} {typ : String} {E : Env} {c : Bool} {j : Jws} {g : Sig → List String} :
    dpopParse sup typ E c (withHeaders (·.jwk) g j) = dpopParse sup typ E c j := by
  rcases j with ⟨_, _ | ⟨_, _ | _⟩, _⟩ <;> rfl

theorem dagTx_hdrs_irrelevant {allowed : List String} {rej strict : Bool} {E : Env} {o fr : Bool} {j : Jws} {g : Sig → List String} :
    dagTx allowed rej strict E o fr (withHeaders (·.jwk) g j) = dagTx allowed rej strict E o fr j := by
  rcases j with ⟨_, _ | ⟨_, _ | _⟩, _⟩ <;> rfl

theorem jwsLoop_headers_irrelevant (sup : List String) (mode : VerifyMode) (E : Env) (f : Sig → JwkKind) (g : Sig → List String)
    (i : Nat) (l : List Sig) :
    jwsLoop sup mode E i (l.map (fun s => { s with jwk := f s, hdrs := g s })) = jwsLoop sup mode E i l := by
  induction l generalizing i with
  | nil => rfl
  | cons s r ih => simp only [List.map, jwsLoop, ih]

theorem parseJWS_headers_irrelevant {sup : List String} {rule : CountRule} {mode : VerifyMode} {E : Env} {j : Jws}
    {f : Sig → JwkKind} {g : Sig → List String} :
    parseJWS sup rule mode E (withHeaders f g j) = parseJWS sup rule mode E j := by
  unfold parseJWS withHeaders
  simp only [jwsLoop_headers_irrelevant, List.length_map]

theorem jar_headers_irrelevant {sup : List String} {E : Env} {J : JarEnv} {j : Jws} {f : Sig → JwkKind} {g : Sig → List String} :
    jarValidate sup E J (withHeaders f g j) = jarValidate sup E J j := by
  unfold jarValidate
  rw [parseJWT_headers_irrelevant]

/-- **header_keys_ignored**: where no embedded key is mandated (ParseJWT, ParseJWS, jar) the decision and the key
    used do not depend on jwk / jku / x5c / x5u at all; for DPoP and DAG transactions (embedded jwk mandated /
    allowed) they do not depend on jku / x5c / x5u; for the bearer token any such header can only cause rejection
    (`apiToken_key_header_rejected`) -/
theorem header_keys_ignored (E : Env) (j : Jws) (f : Sig → JwkKind) (g : Sig → List String) :
    parseJWT Facts.C17.supportedAlgs E (withHeaders f g j) = parseJWT Facts.C17.supportedAlgs E j ∧
    parseJWS Facts.C17.supportedAlgs Facts.C17.parseJWSCountRule Facts.C17.parseJWSVerifyMode E (withHeaders f g j)
      = parseJWS Facts.C17.supportedAlgs Facts.C17.parseJWSCountRule Facts.C17.parseJWSVerifyMode E j ∧
    (∀ J, jarValidate Facts.C17.supportedAlgs E J (withHeaders f g j) = jarValidate Facts.C17.supportedAlgs E J j) ∧
    (∀ c, dpopParse Facts.C17.supportedAlgs Facts.C17.dpopTyp E c (withHeaders (·.jwk) g j)
      = dpopParse Facts.C17.supportedAlgs Facts.C17.dpopTyp E c j) ∧
    (∀ o fr, dagTx Facts.C17.dagAllowedAlgs Facts.C17.dagRejectsPrivateJwk Facts.C17.dagStrictFraming E o fr (withHeaders (·.jwk) g j)
      = dagTx Facts.C17.dagAllowedAlgs Facts.C17.dagRejectsPrivateJwk Facts.C17.dagStrictFraming E o fr j) :=
  ⟨parseJWT_headers_irrelevant, parseJWS_headers_irrelevant, fun _ => jar_headers_irrelevant, fun _ => dpop_hdrs_irrelevant,
   fun _ _ => dagTx_hdrs_irrelevant⟩

theorem apiToken_key_header_rejected (aud : String) (keys : List AuthKey) (now : Int) (hdr : Str) (a : Analysis)
    (s : SigHdr) (x : String) (hs : s ∈ a.sigs) (hx : x ∈ s.hdrs) (hf : x ∈ ["jwk", "jku", "x5c", "x5u"]) :
    apiToken Facts.C17.apiPolicy aud keys now hdr a = .reject :=
  apiToken_forbidden_header fact_apiToken.2.2 hs hx hf

example : parseJWT Facts.C17.supportedAlgs
    { resolve := fun kid => if kid = "did:nuts:a#k" then some "Ka" else none, embeddedKey := fun _ => none,
      verifies := fun k a i => k = "Ka" && a = "ES256" && i = 0, verifiesSplit := fun _ _ _ => false }
    { parses := true, splitOK := true, sigs := [{ alg := "ES256", kid := "did:nuts:a#k", jwk := .absent, hdrs := [], typ := "JWT" }] }
    = .accept [{ key := "Ka", src := .resolver "did:nuts:a#k", alg := "ES256", idx := 0, overSigningInput := true }] := by decide

example : dpopParse Facts.C17.supportedAlgs Facts.C17.dpopTyp
    { resolve := fun _ => none, embeddedKey := fun _ => some "E", verifies := fun _ _ _ => true, verifiesSplit := fun _ _ _ => false } true
    { parses := true, splitOK := true, sigs := [{ alg := "EdDSA", kid := "", jwk := .pub, hdrs := ["jwk"], typ := "dpop+jwt" }] }
    = .accept [{ key := "E", src := .embedded 0, alg := "EdDSA", idx := 0, overSigningInput := true }] := by decide

example : dagTx Facts.C17.dagAllowedAlgs true true
    { resolve := fun _ => some "K", embeddedKey := fun _ => none, verifies := fun _ _ _ => true, verifiesSplit := fun _ _ _ => false } true true
    { parses := true, splitOK := true, sigs := [{ alg := "ES256", kid := "did:nuts:a#k", jwk := .absent, hdrs := [], typ := "" }] }
    = .accept [{ key := "K", src := .resolver "did:nuts:a#k", alg := "ES256", idx := 0, overSigningInput := true }] := by decide

/-! Clause (e) inside the embedded jwk header (NutsModel/C17/Jwk.lean): dpop.jwkIsPrivateKey over the
    regenerated probe sequence, the type switch of dag.parseSignatureParams over the regenerated interface list -/
section JwkObject
open Nuts.C17.Jwk

theorem fact_dpop_private_probes :
    Facts.C17.dpopPrivateProbes = ["rsa.PrivateKey", "ecdsa.PrivateKey", "ed25519.PrivateKey"] ∧
    Facts.C17.dpopPrivateProbeDefault = false ∧
    Facts.C17.parseSignatureParamsRejectedKeyTypes = ["jwk.ECDSAPrivateKey", "jwk.RSAPrivateKey", "jwk.OKPPrivateKey", "jwk.SymmetricKey"] :=
  ⟨rfl, rfl, rfl⟩

theorem dag_refuses_exactly_the_secret_jwks (t : JwkType) :
    dagRefusesJwk Facts.C17.parseSignatureParamsRejectedKeyTypes t = holdsSecret t := by
  cases t <;> decide

theorem dpop_private_test_exact (t : JwkType) (crv : String) :
    jwkIsPrivateKey Facts.C17.dpopPrivateProbes Facts.C17.dpopPrivateProbeDefault t crv = true ↔
      (t = .rsaPriv ∨ t = .ecPriv ∨ t = .sym ∨ (t = .okpPriv ∧ crv = "Ed25519")) := by
  cases t <;> simp [jwkIsPrivateKey, Facts.C17.dpopPrivateProbes, Facts.C17.dpopPrivateProbeDefault, rawInto, List.any]

theorem dpop_private_test_misses_other_okp_curves :
    jwkIsPrivateKey Facts.C17.dpopPrivateProbes Facts.C17.dpopPrivateProbeDefault .okpPriv "X25519" = false ∧
    holdsSecret .okpPriv = true := by decide

theorem kindOf_not_priv {p : JwkType → String → Bool} {o : Option JwkObj} {kd : JwkKind} (h : kindOf p o = some kd)
    (hp : kd ≠ .priv) : (o = none ∧ kd = .absent) ∨ ∃ ob t, o = some ob ∧ typeOf ob = some t ∧ p t ob.crv = false := by
  cases o with
  | none => injection h with h; exact .inl ⟨rfl, h.symm⟩
  | some ob =>
    simp only [kindOf] at h
    cases ht : typeOf ob with
    | none => rw [ht] at h; cases h
    | some t =>
      rw [ht] at h
      injection h with h
      refine .inr ⟨ob, t, rfl, ht, ?_⟩
      cases hpt : p t ob.crv with
      | false => rfl
      | true => rw [hpt] at h; exact absurd h.symm hp

theorem accept_dpopJ (E : Env) (claimsOK : Bool) (j : Jws) (o : Option JwkObj) (vs : List Verified)
    (h : dpopParseJ Facts.C17.supportedAlgs Facts.C17.dpopTyp Facts.C17.dpopPrivateProbes Facts.C17.dpopPrivateProbeDefault E claimsOK j o = .accept vs) :
    ∃ ob t s k, o = some ob ∧ typeOf ob = some t ∧ j.sigs = [s] ∧ E.verifies k s.alg 0 = true ∧
      t ≠ .rsaPriv ∧ t ≠ .ecPriv ∧ t ≠ .sym ∧ ¬ (t = .okpPriv ∧ ob.crv = "Ed25519") ∧
      ((∀ k a, t = .okpPriv → E.verifies k a 0 = false) → holdsSecret t = false) := by
  unfold dpopParseJ at h
  split at h; · cases h
  next kd hk =>
  obtain ⟨s', k, hs, _, _, _, hj1, hj2, _, hver, _⟩ := dpop_accept h
  obtain ⟨s, hs0, rfl⟩ := List.map_eq_singleton_iff.mp hs
  obtain ⟨_, hkd⟩ | ⟨ob, t, rfl, ht, hp⟩ := kindOf_not_priv hk hj2
  · exact absurd hkd hj1
  have hne := mt (dpop_private_test_exact t ob.crv).2 (by rw [hp]; exact Bool.false_ne_true)
  simp only [not_or] at hne
  obtain ⟨h1, h2, h3, h4⟩ := hne
  refine ⟨ob, t, s, k, rfl, ht, hs0, hver, h1, h2, h3, h4, fun hc => ?_⟩
  cases t with
  | ecPub | rsaPub | okpPub => rfl
  | ecPriv => exact absurd rfl h2
  | rsaPriv => exact absurd rfl h1
  | sym => exact absurd rfl h3
  | okpPriv => rw [hc k s.alg rfl] at hver; cases hver

theorem accept_dagTxJ (E : Env) (otherOK framingOK : Bool) (j : Jws) (o : Option JwkObj) (vs : List Verified)
    (h : dagTxJ Facts.C17.dagAllowedAlgs Facts.C17.parseSignatureParamsRejectedKeyTypes Facts.C17.dagStrictFraming E otherOK framingOK j o = .accept vs) :
    o = none ∨ ∃ ob t, o = some ob ∧ typeOf ob = some t ∧ holdsSecret t = false := by
  unfold dagTxJ at h
  split at h; · cases h
  next kd hk =>
  obtain ⟨_, s', _, _, hs, _, _, _, _, _, hpriv⟩ := dagTx_accept h
  obtain ⟨s, _, rfl⟩ := List.map_eq_singleton_iff.mp hs
  obtain ⟨rfl, _⟩ | ⟨ob, t, rfl, ht, hp⟩ := kindOf_not_priv hk (hpriv rfl)
  · exact .inl rfl
  · exact .inr ⟨ob, t, rfl, ht, by rw [← dag_refuses_exactly_the_secret_jwks]; exact hp⟩

/-- non-vacuity: a DPoP proof with a public EC jwk is accepted, a DAG transaction with a public EC jwk is accepted -/
example : ∃ vs, dpopParseJ Facts.C17.supportedAlgs Facts.C17.dpopTyp Facts.C17.dpopPrivateProbes Facts.C17.dpopPrivateProbeDefault
    { resolve := fun _ => none, embeddedKey := fun _ => some "E", verifies := fun _ _ _ => true, verifiesSplit := fun _ _ _ => false } true
    { parses := true, splitOK := true, sigs := [{ alg := "ES256", kid := "", jwk := .absent, hdrs := ["jwk"], typ := "dpop+jwt" }] }
    (some { kty := "EC", crv := "P-256", hasD := false }) = .accept vs :=
  ⟨[{ key := "E", src := .embedded 0, alg := "ES256", idx := 0, overSigningInput := true }], by decide +kernel⟩
example : ∃ vs, dagTxJ Facts.C17.dagAllowedAlgs Facts.C17.parseSignatureParamsRejectedKeyTypes Facts.C17.dagStrictFraming
    { resolve := fun _ => none, embeddedKey := fun _ => some "E", verifies := fun _ _ _ => true, verifiesSplit := fun _ _ _ => false } true true
    { parses := true, splitOK := true, sigs := [{ alg := "ES256", kid := "", jwk := .absent, hdrs := ["jwk"], typ := "" }] }
    (some { kty := "EC", crv := "P-256", hasD := false }) = .accept vs :=
  ⟨[{ key := "E", src := .embedded 0, alg := "ES256", idx := 0, overSigningInput := true }], by decide +kernel⟩
/-- … and the same DPoP proof with an octet key is rejected -/
example : dpopParseJ Facts.C17.supportedAlgs Facts.C17.dpopTyp Facts.C17.dpopPrivateProbes Facts.C17.dpopPrivateProbeDefault
    { resolve := fun _ => none, embeddedKey := fun _ => some "E", verifies := fun _ _ _ => true, verifiesSplit := fun _ _ _ => false } true
    { parses := true, splitOK := true, sigs := [{ alg := "ES256", kid := "", jwk := .absent, hdrs := ["jwk"], typ := "dpop+jwt" }] }
    (some { kty := "oct", crv := "", hasD := false }) = .reject := by decide +kernel
end JwkObject

end Nuts.C17.Props
