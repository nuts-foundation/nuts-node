/-
  C05, request-level layer (NutsModel/C05/Forms.lean): the token endpoint, the OpenID4VP response endpoint and the other
  consumers as sequences of requests, with the source text and tables that layer mirrors.
-/
import NutsModel.C05.Forms
import NutsModel.C05.Today
import NutsModel.Facts.C05
import NutsProofs.Lemmas.C05Forms
import NutsProofs.Lemmas.C05Solo
import NutsProofs.Props.C05

namespace Nuts.C05.Props
open Nuts.C05

/-! ### Obligations on the regenerated facts -/

/-- the statements of every function Forms.lean mirrors are the ones it was written against (normalised source text) -/
theorem fact_form_sources :
    Facts.C05.src_HandleTokenRequest =
  ["{",
   "err := r.subjectExists(ctx, request.SubjectID)",
   "if err != nil {",
   "return nil, err",
   "}",
   "switch request.Body.GrantType {",
   "case oauth.AuthorizationCodeGrantType:",
   "return r.handleAccessTokenRequest(ctx, *request.Body)",
   "case oauth.PreAuthorizedCodeGrantType:",
   "return nil, oauth.OAuth2Error{",
   "Code: oauth.UnsupportedGrantType,",
   "Description: \"not implemented yet\",",
   "}",
   "case oauth.VpTokenGrantType:",
   "if request.Body.PresentationSubmission == nil || request.Body.Scope == nil || request.Body.Assertion == nil || request.Body.ClientId == nil {",
   "return nil, oauth.OAuth2Error{",
   "Code: oauth.InvalidRequest,",
   "Description: \"missing required parameters\",",
   "}",
   "}",
   "return r.handleS2SAccessTokenRequest(ctx, *request.Body.ClientId, request.SubjectID, *request.Body.Scope, *request.Body.PresentationSubmission, *request.Body.Assertion)",
   "default:",
   "return nil, oauth.OAuth2Error{",
   "Code: oauth.UnsupportedGrantType,",
   "Description: fmt.Sprintf(\"grant_type '%s' is not supported\", request.Body.GrantType),",
   "}",
   "}",
   "}"] ∧
    Facts.C05.src_RequestJWTByGet =
  ["{",
   "ro := new(jarRequest)",
   "err := r.authzRequestObjectStore().GetAndDelete(request.Id, ro)",
   "if err != nil {",
   "return nil, oauth.OAuth2Error{",
   "Code: oauth.InvalidRequest,",
   "Description: \"request object not found\",",
   "}",
   "}",
   "expected := r.subjectToBaseURL(request.SubjectID)",
   "if ro.Client != expected.String() {",
   "return nil, oauth.OAuth2Error{",
   "Code: oauth.InvalidRequest,",
   "Description: \"client_id does not match request\",",
   "}",
   "}",
   "if ro.RequestURIMethod != \"get\" {",
   "return nil, oauth.OAuth2Error{",
   "Code: oauth.InvalidRequest,",
   "Description: \"used request_uri_method 'get' on a 'post' request_uri\",",
   "InternalError: errors.New(\"wrong 'request_uri_method' authorization server or wallet probably does not support 'request_uri_method'\"),",
   "}",
   "}",
   "token, err := r.jar.Sign(ctx, ro.Claims)",
   "if err != nil {",
   "return nil, oauth.OAuth2Error{",
   "Code: oauth.ServerError,",
   "Description: \"unable to create Request Object\",",
   "InternalError: fmt.Errorf(\"failed to sign authorization Request Object: %w\", err),",
   "}",
   "}",
   "return RequestJWTByGet200ApplicationoauthAuthzReqJwtResponse{",
   "Body: bytes.NewReader([]byte(token)),",
   "ContentLength: int64(len(token)),",
   "}, nil",
   "}"] ∧
    Facts.C05.src_RequestJWTByPost =
  ["{",
   "ro := new(jarRequest)",
   "err := r.authzRequestObjectStore().GetAndDelete(request.Id, ro)",
   "if err != nil {",
   "return nil, oauth.OAuth2Error{",
   "Code: oauth.InvalidRequest,",
   "Description: \"request object not found\",",
   "}",
   "}",
   "expected := r.subjectToBaseURL(request.SubjectID)",
   "if ro.Client != expected.String() {",
   "return nil, oauth.OAuth2Error{",
   "Code: oauth.InvalidRequest,",
   "Description: \"client_id does not match request\",",
   "}",
   "}",
   "if ro.RequestURIMethod != \"post\" {",
   "return nil, oauth.OAuth2Error{",
   "Code: oauth.InvalidRequest,",
   "Description: \"used request_uri_method 'post' on a 'get' request_uri\",",
   "}",
   "}",
   "walletMetadata := staticAuthorizationServerMetadata()",
   "if request.Body != nil {",
   "if request.Body.WalletMetadata != nil {",
   "walletMetadata = *request.Body.WalletMetadata",
   "}",
   "if request.Body.WalletNonce != nil {",
   "ro.Claims[oauth.WalletNonceParam] = *request.Body.WalletNonce",
   "}",
   "}",
   "if walletMetadata.Issuer != \"https://self-issued.me/v2\" {",
   "ro.Claims[jwt.AudienceKey] = walletMetadata.Issuer",
   "}",
   "token, err := r.jar.Sign(ctx, ro.Claims)",
   "if err != nil {",
   "return nil, oauth.OAuth2Error{",
   "Code: oauth.ServerError,",
   "Description: \"unable to create Request Object\",",
   "InternalError: fmt.Errorf(\"failed to sign authorization Request Object: %w\", err),",
   "}",
   "}",
   "return RequestJWTByPost200ApplicationoauthAuthzReqJwtResponse{",
   "Body: bytes.NewReader([]byte(token)),",
   "ContentLength: int64(len(token)),",
   "}, nil",
   "}"] ∧
    Facts.C05.src_ValidateDPoPProof =
  ["{",
   "dpopToken, err := dpop.Parse(request.Body.DpopProof)",
   "if err != nil {",
   "reason := fmt.Sprintf(\"failed to parse DPoP header: %s\", err.Error())",
   "return ValidateDPoPProof200JSONResponse{Reason: &reason}, nil",
   "}",
   "if ok, err := dpopToken.Match(request.Body.Thumbprint, request.Body.Method, request.Body.Url); !ok {",
   "reason := err.Error()",
   "return ValidateDPoPProof200JSONResponse{Reason: &reason}, nil",
   "}",
   "ath, ok := dpopToken.Token.Get(dpop.ATHKey)",
   "if !ok {",
   "reason := \"missing ath claim\"",
   "return ValidateDPoPProof200JSONResponse{Reason: &reason}, nil",
   "}",
   "hash := nutsHash.SHA256Sum([]byte(request.Body.Token))",
   "if ath != base64.RawURLEncoding.EncodeToString(hash.Slice()) {",
   "reason := \"ath/token claim mismatch\"",
   "return ValidateDPoPProof200JSONResponse{Reason: &reason}, nil",
   "}",
   "fresh, err := r.useNonceOnceStore().PutIfAbsent(dpopToken.Token.JwtID(), struct{}{})",
   "if err != nil {",
   "log.Logger().WithError(err).Error(\"ValidateDPoPProof: failed to store jti usage state\")",
   "return nil, err",
   "}",
   "if !fresh {",
   "reason := \"jti already used\"",
   "return ValidateDPoPProof200JSONResponse{Reason: &reason}, nil",
   "}",
   "return ValidateDPoPProof200JSONResponse{Valid: true}, nil",
   "}"] ∧
    Facts.C05.src_dpopFromRequest =
  ["{",
   "dpopHeader := httpRequest.Header.Get(\"DPoP\")",
   "if dpopHeader == \"\" {",
   "return nil, nil",
   "}",
   "dpopProof, err := dpop.Parse(dpopHeader)",
   "if err != nil {",
   "return nil, oauth.OAuth2Error{",
   "Code: oauth.InvalidDPopProof,",
   "Description: \"DPoP header is invalid\",",
   "InternalError: err,",
   "}",
   "}",
   "return dpopProof, nil",
   "}"] ∧
    Facts.C05.src_extractChallenge =
  ["{",
   "var nonce string",
   "switch presentation.Format() {",
   "case vc.JWTPresentationProofFormat:",
   "nonceRaw, _ := presentation.JWT().Get(\"nonce\")",
   "nonce, _ = nonceRaw.(string)",
   "case vc.JSONLDPresentationProofFormat:",
   "proof, err := credential.ParseLDProof(presentation)",
   "if err != nil {",
   "return \"\", err",
   "}",
   "if proof.Challenge != nil && *proof.Challenge != \"\" {",
   "nonce = *proof.Challenge",
   "}",
   "}",
   "return nonce, nil",
   "}"] ∧
    Facts.C05.src_extractNonce =
  ["{",
   "var nonce string",
   "switch presentation.Format() {",
   "case vc.JWTPresentationProofFormat:",
   "nonceRaw, _ := presentation.JWT().Get(\"nonce\")",
   "nonce, _ = nonceRaw.(string)",
   "case vc.JSONLDPresentationProofFormat:",
   "proof, err := credential.ParseLDProof(presentation)",
   "if err != nil {",
   "return \"\", err",
   "}",
   "if proof.Nonce != nil && *proof.Nonce != \"\" {",
   "nonce = *proof.Nonce",
   "}",
   "}",
   "return nonce, nil",
   "}"] ∧
    Facts.C05.src_handleAccessTokenRequest =
  ["{",
   "if request.Code == nil {",
   "return nil, oauthError(oauth.InvalidRequest, \"missing code parameter\")",
   "}",
   "defer func() {",
   "_ = r.oauthCodeStore().Delete(*request.Code)",
   "}()",
   "if request.CodeVerifier == nil {",
   "return nil, oauthError(oauth.InvalidRequest, \"missing code_verifier parameter\")",
   "}",
   "if request.ClientId == nil {",
   "return nil, oauthError(oauth.InvalidRequest, \"missing client_id parameter\")",
   "}",
   "var oauthSession OAuthSession",
   "err := r.oauthCodeStore().GetAndDelete(*request.Code, &oauthSession)",
   "if err != nil {",
   "return nil, oauthError(oauth.InvalidGrant, \"invalid authorization code\", err)",
   "}",
   "if oauthSession.ClientID != *request.ClientId {",
   "return nil, oauthError(oauth.InvalidRequest, fmt.Sprintf(\"client_id does not match: %s vs %s\", oauthSession.ClientID, *request.ClientId))",
   "}",
   "oauthSession.PKCEParams.Verifier = *request.CodeVerifier",
   "if !validatePKCEParams(oauthSession.PKCEParams) {",
   "return nil, oauthError(oauth.InvalidGrant, \"invalid code_verifier\")",
   "}",
   "httpRequest := ctx.Value(httpRequestContextKey{}).(*http.Request)",
   "dpopProof, err := dpopFromRequest(*httpRequest)",
   "if err != nil {",
   "return nil, err",
   "}",
   "issuerURL := r.subjectToBaseURL(*oauthSession.OwnSubject)",
   "response, err := r.createAccessToken(issuerURL.String(), oauthSession.ClientID, time.Now(), oauthSession.Scope, *oauthSession.OpenID4VPVerifier, dpopProof)",
   "if err != nil {",
   "return nil, oauthError(oauth.ServerError, fmt.Sprintf(\"failed to create access token: %s\", err.Error()))",
   "}",
   "return HandleTokenRequest200JSONResponse(*response), nil",
   "}"] ∧
    Facts.C05.src_handleUserLanding =
  ["{",
   "token := echoCtx.QueryParam(\"token\")",
   "if token == \"\" {",
   "log.Logger().Debug(\"missing token\")",
   "return echoCtx.NoContent(http.StatusForbidden)",
   "}",
   "redirectSession := RedirectSession{}",
   "err := r.userRedirectStore().GetAndDelete(token, &redirectSession)",
   "if err != nil {",
   "log.Logger().Debug(\"token not found in store\")",
   "return echoCtx.NoContent(http.StatusForbidden)",
   "}"] ∧
    Facts.C05.src_responsePrefix =
  ["{",
   "if request.Body.State == nil {",
   "return nil, oauthError(oauth.InvalidRequest, \"missing state\")",
   "}",
   "if request.Body.VpToken == nil {",
   "return nil, oauthError(oauth.InvalidRequest, \"missing vp_token\")",
   "}",
   "pexEnvelope, err := pe.ParseEnvelope([]byte(*request.Body.VpToken))",
   "if err != nil || len(pexEnvelope.Presentations) == 0 {",
   "return nil, oauthError(oauth.InvalidRequest, \"invalid vp_token\", err)",
   "}",
   "var session OAuthSession",
   "state := *request.Body.State",
   "if err = r.oauthClientStateStore().Get(state, &session); err != nil {",
   "return nil, oauthError(oauth.InvalidRequest, \"invalid or expired session\", err)",
   "}",
   "if request.SubjectID != *session.OwnSubject {",
   "return nil, oauthError(oauth.InvalidRequest, \"incorrect tenant\", fmt.Errorf(\"expected: %s, was: %s\", *session.OwnSubject, request.SubjectID))",
   "}",
   "callbackURI := session.redirectURI()",
   "if err = r.validatePresentationNonce(pexEnvelope.Presentations, state); err != nil {"] ∧
    Facts.C05.src_s2sAfterNonce =
  ["return nil, err",
   "dpopProof, err := dpopFromRequest(*httpRequest)",
   "return nil, err",
   "_, err = r.vcr.Verifier().VerifyVP(presentation, true, true, nil)",
   "return nil, oauth.OAuth2Error{",
   "response, err := r.createAccessToken(issuerURL.String(), clientID, time.Now(), scope, *pexConsumer, dpopProof)",
   "return nil, err",
   "return HandleTokenRequest200JSONResponse(*response), nil"] ∧
    Facts.C05.src_s2sNonceLoop =
  ["for _, presentation := range pexEnvelope.Presentations {",
   "if err := r.validateS2SPresentationNonce(presentation); err != nil {",
   "return nil, err",
   "}",
   "}"] ∧
    Facts.C05.src_validatePKCEParams =
  ["{",
   "switch params.ChallengeMethod {",
   "case \"S256\":",
   "sha := sha256.Sum256([]byte(params.Verifier))",
   "challenge := base64.RawURLEncoding.EncodeToString(sha[:])",
   "return challenge == params.Challenge",
   "default:",
   "return false",
   "}",
   "}"] ∧
    Facts.C05.src_validatePresentationNonce =
  ["{",
   "allPresent := true",
   "nonces := make([]string, 0, 1)",
   "var errs []error",
   "for _, presentation := range presentations {",
   "nonce, err := extractChallenge(presentation)",
   "if err != nil {",
   "errs = append(errs, err)",
   "}",
   "if nonce == \"\" {",
   "nonce, err = extractNonce(presentation)",
   "if err != nil {",
   "errs = append(errs, err)",
   "}",
   "}",
   "if nonce == \"\" {",
   "allPresent = false",
   "}",
   "if nonce != \"\" && !slices.Contains(nonces, nonce) {",
   "nonces = append(nonces, nonce)",
   "}",
   "}",
   "if len(nonces) > 1 {",
   "errs = append(errs, errors.New(\"not all presentations have the same nonce\"))",
   "}",
   "if !allPresent {",
   "errs = append(errs, errors.New(\"presentation is missing nonce\"))",
   "}",
   "if len(errs) > 0 {",
   "for _, nonce := range nonces {",
   "_ = r.oauthNonceStore().Delete(nonce)",
   "}",
   "return oauth.OAuth2Error{",
   "Code: oauth.InvalidRequest,",
   "Description: \"invalid or missing nonce/challenge in presentation\",",
   "InternalError: errors.Join(errs...),",
   "}",
   "}",
   "var stateFromNonce string",
   "err := r.oauthNonceStore().GetAndDelete(nonces[0], &stateFromNonce)",
   "if err != nil {",
   "return oauthError(oauth.InvalidRequest, \"invalid or expired session\", err)",
   "}",
   "if state != stateFromNonce {",
   "return oauthError(oauth.InvalidRequest, \"invalid nonce/state\")",
   "}",
   "return nil",
   "}"] ∧
    Facts.C05.src_validateS2SPresentationNonce =
  ["{",
   "nonce, err := extractNonce(presentation)",
   "if nonce == \"\" {",
   "return oauth.OAuth2Error{",
   "Code: oauth.InvalidRequest,",
   "InternalError: err,",
   "Description: \"presentation has invalid/missing nonce\",",
   "}",
   "}",
   "fresh, err := r.s2sNonceStore().PutIfAbsent(nonce, true)",
   "if err != nil {",
   "return fmt.Errorf(\"unable to store nonce: %w\", err)",
   "}",
   "if !fresh {",
   "return oauth.OAuth2Error{",
   "Code: oauth.InvalidRequest,",
   "Description: \"presentation nonce has already been used\",",
   "}",
   "}",
   "return nil",
   "}"] := by
  refine ⟨rfl, rfl, rfl, rfl, rfl, rfl, rfl, rfl, rfl, rfl, rfl, rfl, rfl, rfl, rfl⟩

/-- the data the model consumes: grant-type switch, required vp_token parameters, PKCE methods, error codes and the
    (code, description) pairs of every handler's error returns in source order -/
theorem fact_form_tables :
    Facts.C05.tokenGrantSwitchTag = "request.Body.GrantType" ∧
    Facts.C05.tokenGrantSwitch = [("authorization_code", "handleAccessTokenRequest"), ("urn:ietf:params:oauth:grant-type:pre-authorized_code", "error:UnsupportedGrantType"), ("vp_token-bearer", "handleS2SAccessTokenRequest"), ("*", "error:UnsupportedGrantType")] ∧
    Facts.C05.vpTokenRequired = ["PresentationSubmission", "Scope", "Assertion", "ClientId"] ∧
    Facts.C05.pkceMethods = ["S256"] ∧
    Facts.C05.errs_HandleTokenRequest = [("UnsupportedGrantType", "not implemented yet"), ("InvalidRequest", "missing required parameters"), ("UnsupportedGrantType", "grant_type '%s' is not supported")] ∧
    Facts.C05.errs_handleAccessTokenRequest = [("InvalidRequest", "missing code parameter"), ("InvalidRequest", "missing code_verifier parameter"), ("InvalidRequest", "missing client_id parameter"), ("InvalidGrant", "invalid authorization code"), ("InvalidRequest", "client_id does not match: %s vs %s"), ("InvalidGrant", "invalid code_verifier"), ("ServerError", "failed to create access token: %s")] ∧
    Facts.C05.errs_dpopFromRequest = [("InvalidDPopProof", "DPoP header is invalid")] ∧
    Facts.C05.errs_validatePresentationNonce = [("InvalidRequest", "invalid or missing nonce/challenge in presentation"), ("InvalidRequest", "invalid or expired session"), ("InvalidRequest", "invalid nonce/state")] ∧
    Facts.C05.errs_validateS2SPresentationNonce = [("InvalidRequest", "presentation has invalid/missing nonce"), ("InvalidRequest", "presentation nonce has already been used")] ∧
    Facts.C05.errs_RequestJWTByGet = [("InvalidRequest", "request object not found"), ("InvalidRequest", "client_id does not match request"), ("InvalidRequest", "used request_uri_method 'get' on a 'post' request_uri"), ("ServerError", "unable to create Request Object")] ∧
    Facts.C05.errs_RequestJWTByPost = [("InvalidRequest", "request object not found"), ("InvalidRequest", "client_id does not match request"), ("InvalidRequest", "used request_uri_method 'post' on a 'get' request_uri"), ("ServerError", "unable to create Request Object")] ∧
    Facts.C05.errs_handleAuthorizeResponseSubmission.take 5 = [("InvalidRequest", "missing state"), ("InvalidRequest", "missing vp_token"), ("InvalidRequest", "invalid vp_token"), ("InvalidRequest", "invalid or expired session"), ("InvalidRequest", "incorrect tenant")] ∧
    (∀ c ∈ ["InvalidRequest", "InvalidGrant", "UnsupportedGrantType", "InvalidDPopProof"], (alGet Facts.C05.oauthErrorCodes c).isSome) := by
  refine ⟨rfl, rfl, rfl, rfl, rfl, rfl, rfl, rfl, rfl, rfl, rfl, rfl, ?_⟩
  decide +kernel

/-! ### Property theorems: sequences of requests at the real endpoints' level (all request contents, all histories, any
    amount of time between requests, both back-end expiry conventions) -/

/-- **An authorization code is dead after ANY attempt at the token endpoint** — honoured, wrong client_id, wrong or missing
    code_verifier, missing client_id, unparsable DPoP header, unknown code: once `HandleTokenRequest` has dispatched a request
    naming `code` to the authorization-code handler, no later request naming it is honoured, whatever requests (token
    requests of any grant, authorization responses) are served in between and however much time passes. -/
theorem code_dead_after_any_attempt (incl : Bool) (ttl : Kind → Nat) (pk : Pkce) (now : Nat) (st : Store)
    (f : TokenForm) (code : String) (hf : f.code = some code) (hr : grantAction f.grantType = "handleAccessTokenRequest")
    (later : List (Nat × Form)) (dt : Nat) (g : TokenForm) (hg : g.code = some code) :
    (handleCode ⟨incl, (runForms incl ttl pk now (handleToken ⟨incl, now, ttl⟩ pk st f).2 later).2.2 + dt, ttl⟩ pk
        (runForms incl ttl pk now (handleToken ⟨incl, now, ttl⟩ pk st f).2 later).2.1 g).1 ≠ .ok := by
  have h1 : stGet incl (handleToken ⟨incl, now, ttl⟩ pk st f).2 now (codeKey code) = none := by
    unfold handleToken
    simp only [hr, if_true]
    exact handleCode_kills ⟨incl, now, ttl⟩ pk st f code hf
  have h2 := runForms_keeps_dead incl ttl pk (codeKey code) .code rfl later now _ h1
  exact handleCode_not_ok_of_dead ⟨incl, _, ttl⟩ pk _ g code hg (stGet_none_later incl _ _ dt _ h2)

/-- non-vacuity: a first attempt with the wrong client_id kills a live code; the honest request that follows is refused -/
example :
    let pk : Pkce := ⟨"S256", fun v => v == "v"⟩
    let st : Store := [(codeKey "c1", ⟨"clientA", 60⟩)]
    let wrong : TokenForm := { grantType := "authorization_code", code := some "c1", codeVerifier := some "v", clientId := some "clientB" }
    let good : TokenForm := { wrong with clientId := some "clientA" }
    (handleToken ⟨true, 0, todayTTL⟩ pk st good).1 = .ok ∧
    (runForms true todayTTL pk 0 st [(0, .token wrong), (1, .token good)]).1 =
      [.err "invalid_request" "client_id does not match: %s vs %s", .err "invalid_grant" "invalid authorization code"] := by
  decide +kernel

/-- **Burn them all**: whatever the response endpoint answers once it reached the nonce check, every nonce that ANY of its
    presentations named (JWT claim, LD challenge, LD nonce fallback) is dead: no later authorization response naming it —
    alone or among others — passes the nonce check. -/
theorem vp_nonce_dead_after_any_response (incl : Bool) (ttl : Kind → Nat) (pk : Pkce) (now : Nat) (st : Store)
    (ps : List Pres) (state : String) (n : String) (hn : n ∈ (collect ps).nonces)
    (later : List (Nat × Form)) (dt : Nat) (ps2 : List Pres) (state2 : String) (hn2 : n ∈ (collect ps2).nonces) :
    (validateNonce ⟨incl, (runForms incl ttl pk now (validateNonce ⟨incl, now, ttl⟩ st ps state).2 later).2.2 + dt, ttl⟩
        (runForms incl ttl pk now (validateNonce ⟨incl, now, ttl⟩ st ps state).2 later).2.1 ps2 state2).1 ≠ .ok := by
  have h1 := validateNonce_kills ⟨incl, now, ttl⟩ st ps state n hn
  have h2 := runForms_keeps_dead incl ttl pk (vpKey n) .vpNonce rfl later now _ h1
  exact validateNonce_not_ok_of_dead ⟨incl, _, ttl⟩ _ ps2 state2 n hn2 (stGet_none_later incl _ _ dt _ h2)

/-- non-vacuity: a response whose presentations disagree burns both live nonces -/
example :
    let st : Store := [(vpKey "n1", ⟨"s", 60⟩), (vpKey "n2", ⟨"s", 60⟩)]
    let p1 : Pres := { fmt := .ld, challenge := "n1" }
    let p2 : Pres := { fmt := .jwt, jwtNonce := "n2" }
    (collect [p1, p2]).nonces = ["n1", "n2"] ∧
    (validateNonce ⟨true, 0, todayTTL⟩ st [p1] "s").1 = .ok ∧
    (validateNonce ⟨true, 0, todayTTL⟩ st [p1, p2] "s").2 = [] := by
  decide

/-- **The nonce check passes only for a common nonce**: every presentation of the response carries one and the same non-empty
    nonce (JWT claim, LD challenge, or LD nonce as fallback), that nonce is stored and alive, and it is stored for the state the
    response names — for every list of presentations, every store. -/
theorem vp_nonce_accepted_only_if_common (c : Sq) (st : Store) (ps : List Pres) (state : String)
    (h : (validateNonce c st ps state).1 = .ok) :
    ∃ n, n ≠ "" ∧ (∀ p ∈ ps, presNonce p = n) ∧ stGet c.incl st c.now (vpKey n) = some state := by
  rcases validateNonce_cases c st ps state with ⟨_, e⟩ | ⟨he, ⟨_, e⟩ | ⟨n, hc, e⟩⟩ <;> simp only [e] at h
  · exact absurd h (errAt_ne_ok _ _)
  · cases h
  · cases hg : stGet c.incl st c.now (vpKey n) with
    | none => rw [hg] at h; exact absurd h (errAt_ne_ok _ _)
    | some s =>
      rw [hg] at h
      by_cases hs : state = s
      · subst hs
        have hall : (collect ps).allPresent = true := by
          unfold nonceErrs at he
          cases hp : (collect ps).allPresent with
          | true => rfl
          | false => simp [hp] at he
        have hpres := (foldl_nonceStep_allPresent ps ⟨true, [], 0⟩ hall).2
        have hmem : ∀ p ∈ ps, presNonce p = n := by
          intro p hp
          have := foldl_nonceStep_collects ps ⟨true, [], 0⟩ p hp (hpres p hp)
          unfold collect at hc
          rw [hc] at this
          simpa using this
        refine ⟨n, ?_, hmem, hg⟩
        cases ps with
        | nil => simp [collect] at hc
        | cons p0 _ => rw [← hmem p0 (List.mem_cons_self ..)]; exact hpres p0 (List.mem_cons_self ..)
      · simp only [ne_eq, hs, not_false_eq_true, if_true] at h; exact absurd h (errAt_ne_ok _ _)

example : (validateNonce ⟨true, 0, todayTTL⟩ [(vpKey "n1", ⟨"s", 60⟩)]
    [{ fmt := .ld, challenge := "n1" }, { fmt := .ld, nonce := "n1" }, { fmt := .jwt, jwtNonce := "n1" }] "s").1 = .ok := by decide

/-- a request the token endpoint does not dispatch to a handler (unknown, differently-cased or not-implemented grant type;
    vp_token grant with a required parameter missing) leaves the session store untouched -/
theorem refused_grant_touches_nothing (c : Sq) (pk : Pkce) (st : Store) (f : TokenForm)
    (h1 : grantAction f.grantType ≠ "handleAccessTokenRequest")
    (h2 : grantAction f.grantType ≠ "handleS2SAccessTokenRequest" ∨ f.assertion = none ∨ f.submission = false ∨ f.scope = false ∨ f.clientId = none) :
    (handleToken c pk st f).2 = st ∧ (handleToken c pk st f).1 ≠ .ok := by
  fun_cases handleToken c pk st f with
  | case1 _ ha => exact absurd ha h1
  | case3 _ _ hs _ hn hc =>
    -- the one return that reaches the nonce loop needs every parameter
    rcases h2 with h | h | h | h | h
    · exact absurd hs h
    · rw [hn] at h; cases h
    all_goals simp [h] at hc
  | _ => exact ⟨rfl, by dsimp only; exact errAt_ne_ok _ _⟩

example : grantAction "Authorization_Code" ≠ "handleAccessTokenRequest" ∧ grantAction "authorization_code" = "handleAccessTokenRequest" ∧
    grantAction "vp_token-bearer" = "handleS2SAccessTokenRequest" ∧ grantAction "*" = "error:UnsupportedGrantType" := by decide +kernel

/-! ### Refinement of the request level to the thread level, and the end-to-end corollary -/

/-- **Refinement**: `handleAccessTokenRequest`, mirrored statement by statement (parameter checks, deferred Delete, GetAndDelete,
    client_id comparison, PKCE, DPoP header), answers and leaves the store exactly as the thread `TokenForm.toBurn` of the
    abstract layer does when it runs alone (lock, Get, Delete, unlock, deferred Delete) under today's configuration on any
    back-end — for every request, every store and every instant.  The thread model's `pre / want / post` are thereby the
    handler's own checks, and the theorems over ALL schedules of the thread model speak about this handler. -/
theorem handleCode_refines_thread (strict incl : Bool) (ttl : Kind → Nat) (pk : Pkce) (now : Nat) (st : Store) (f : TokenForm) (r : BurnReq)
    (hr : f.toBurn pk = some r) :
    ((run (today strict incl) soloSched { store := st, now := now, lock := none, ths := [.burn r .start 0] }).ths[0]?.bind Thread.outcome)
        = codeOutcome (handleCode ⟨incl, now, ttl⟩ pk st f).1 ∧
    (run (today strict incl) soloSched { store := st, now := now, lock := none, ths := [.burn r .start 0] }).store
        = (handleCode ⟨incl, now, ttl⟩ pk st f).2 := by
  have hprops := toBurn_props pk f r hr
  have h1 := solo_burn_run (today strict incl) (today_gad_locked strict incl) r rfl hprops.2.1 hprops.2.2 st now
  have h2 : codeOutcome (handleCode ⟨incl, now, ttl⟩ pk st f).1 = some (soloBurn (today strict incl) st now r).1 ∧
      (handleCode ⟨incl, now, ttl⟩ pk st f).2 = (soloBurn (today strict incl) st now r).2 :=
    handleCode_eq_solo (today strict incl) ttl pk now st f r hr
  exact ⟨by rw [h1.1, h2.1], by rw [h1.2.1, h2.2]⟩

/-- non-vacuity: an honest request against a live code; both sides answer `ok` and erase the code -/
example :
    let pk : Pkce := ⟨"S256", fun v => v == "v"⟩
    let f : TokenForm := { grantType := "authorization_code", code := some "c1", codeVerifier := some "v", clientId := some "clientA" }
    let st : Store := [(codeKey "c1", ⟨"clientA", 60⟩)]
    f.toBurn pk = some { kind := .code, id := "c1", want := "clientA" } ∧ handleCode ⟨true, 0, todayTTL⟩ pk st f = (.ok, []) := by
  decide

/-- the threads a list of token requests stands for (requests without `code` never reach the store) -/
def compileForms (pk : Pkce) (fs : List TokenForm) : List Req := fs.filterMap (fun f => (f.toBurn pk).map Req.burn)

/-- **End to end** (request contents → decision, all interleavings): any number of authorization-code token requests with any
    contents, started in any order and interleaved in EVERY way at the granularity of single store calls, with clock ticks
    anywhere, on any back-end: at most one of them is honoured per code.  This is `at_most_one_success_atomic` with today's
    facts, for the threads `compileForms` gives; what ties each thread to its handler is `handleCode_refines_thread`. -/
theorem token_endpoint_at_most_once_all_schedules (strict incl : Bool) (pk : Pkce) (st : Store) (fs : List TokenForm)
    (sched : List Ev) (code : String) :
    successes (run (today strict incl) sched (init st (compileForms pk fs))) (codeKey code) ≤ 1 :=
  at_most_one_success_atomic (today strict incl) (Or.inr (Or.inl (today_gad_locked strict incl))) st _ sched (codeKey code) .code rfl

/-! ### the vp_token-bearer grant: the nonce loop over ALL presentations of the envelope -/

/-- an envelope is accepted by the nonce loop only if its nonces are pairwise different, none is missing and none was
    registered before — and then every one of them is registered -/
theorem s2s_envelope_accepted_only_if_all_fresh (c : Sq) (httl : 0 < c.ttl (.mark .s2s)) (st : Store) (ns : List String)
    (h : (s2sLoop c st ns).1 = .ok) :
    ns.Nodup ∧ (∀ n ∈ ns, n ≠ "" ∧ stGet c.incl st c.now (s2sKey n) = none) ∧
    (∀ n ∈ ns, stGet c.incl (s2sLoop c st ns).2 c.now (s2sKey n) ≠ none) :=
  have ⟨h1, h2, h3⟩ := s2sLoop_ok c httl ns st h
  ⟨h1, h2, fun n hn => by
    rw [stGet_of_find_live _ _ _ _ _ (h3 n hn) (by show c.now < c.now + c.ttl (.mark .s2s); omega)]; nofun⟩

/-- **No replay inside the nonce TTL, at envelope level, through any history**: once an envelope was accepted, any envelope
    that contains ANY of its nonces (at any position, among any other nonces) is refused as long as less than the TTL has
    passed — whatever token requests and authorization responses were served in between. -/
theorem s2s_nonce_no_replay_within_ttl (incl : Bool) (ttl : Kind → Nat) (pk : Pkce) (now : Nat) (st : Store)
    (ns : List String) (n : String) (hn : n ∈ ns) (httl : 0 < ttl (.mark .s2s))
    (hok : (s2sLoop ⟨incl, now, ttl⟩ st ns).1 = .ok)
    (later : List (Nat × Form)) (dt : Nat) (ns2 : List String) (hn2 : n ∈ ns2)
    (hwin : (runForms incl ttl pk now (s2sLoop ⟨incl, now, ttl⟩ st ns).2 later).2.2 + dt < now + ttl (.mark .s2s)) :
    (s2sLoop ⟨incl, (runForms incl ttl pk now (s2sLoop ⟨incl, now, ttl⟩ st ns).2 later).2.2 + dt, ttl⟩
        (runForms incl ttl pk now (s2sLoop ⟨incl, now, ttl⟩ st ns).2 later).2.1 ns2).1 ≠ .ok := by
  have hfind := (s2sLoop_ok ⟨incl, now, ttl⟩ httl ns st hok).2.2 n hn
  have hkeep := runForms_keeps_live incl ttl pk (s2sKey n) .s2s rfl _ later now _ hfind (by show _ < now + ttl (.mark .s2s); omega)
  intro hok2
  have := ((s2sLoop_ok _ httl ns2 _ hok2).2.1 n hn2).2
  rw [stGet_of_find_live incl _ _ _ _ hkeep (by show _ + dt < now + ttl (.mark .s2s); omega)] at this
  cases this

/-- non-vacuity: [x1, x2] is accepted; 14 s later [x3, x2] is refused, and so is [x1, x1] on an empty store -/
example :
    let pk : Pkce := ⟨"S256", fun _ => false⟩
    (s2sLoop ⟨false, 0, todayTTL⟩ [] ["x1", "x2"]).1 = .ok ∧
    (runForms false todayTTL pk 0 [] [(0, .token { grantType := "vp_token-bearer", assertion := some ["x1", "x2"], submission := true, scope := true, clientId := some "c" }),
                                     (14, .token { grantType := "vp_token-bearer", assertion := some ["x3", "x2"], submission := true, scope := true, clientId := some "c" })]).1
      = [.ok, .err "invalid_request" "presentation nonce has already been used"] ∧
    (s2sLoop ⟨false, 0, todayTTL⟩ [] ["x1", "x1"]).1 ≠ .ok := by
  decide +kernel

/-! ### request objects, landing-page tokens, DPoP proof ids at request level -/

/-- **A request object is dead after any fetch** that named it — by GET or POST, by the right or a wrong subject, with the
    right or the wrong request_uri_method — through any later history and waiting time. -/
theorem request_object_dead_after_any_fetch (incl : Bool) (ttl : Kind → Nat) (pk : Pkce) (now : Nat) (st : Store) (r : ReqObjFetch)
    (later : List (Nat × Form)) (dt : Nat) (r2 : ReqObjFetch) (hid : r2.id = r.id) :
    (handleReqObj ⟨incl, (runForms incl ttl pk now (handleReqObj ⟨incl, now, ttl⟩ st r).2 later).2.2 + dt, ttl⟩
        (runForms incl ttl pk now (handleReqObj ⟨incl, now, ttl⟩ st r).2 later).2.1 r2).1 ≠ .ok := by
  have h1 := handleReqObj_kills ⟨incl, now, ttl⟩ st r
  have h2 := runForms_keeps_dead incl ttl pk (reqObjKey r.id) .reqObj rfl later now _ h1
  apply handleReqObj_not_ok_of_dead
  rw [hid]
  exact stGet_none_later incl _ _ dt _ h2

/-- **A landing-page token is dead after its first use**, through any later history and waiting time. -/
theorem landing_token_dead_after_use (incl : Bool) (ttl : Kind → Nat) (pk : Pkce) (now : Nat) (st : Store) (t : String) (ht : t ≠ "")
    (later : List (Nat × Form)) (dt : Nat) :
    (handleLanding ⟨incl, (runForms incl ttl pk now (handleLanding ⟨incl, now, ttl⟩ st t).2 later).2.2 + dt, ttl⟩
        (runForms incl ttl pk now (handleLanding ⟨incl, now, ttl⟩ st t).2 later).2.1 t).1 ≠ .ok := by
  have h1 := handleLanding_kills ⟨incl, now, ttl⟩ st t ht
  have h2 := runForms_keeps_dead incl ttl pk (redirectKey t) .redirect rfl later now _ h1
  exact handleLanding_not_ok_of_dead _ _ t (stGet_none_later incl _ _ dt _ h2)

/-- ValidateDPoPProof: a proof that is not accepted (unparsable, not matching the request, ath missing or wrong, jti used)
    leaves the store as it was — a jti is registered only by a proof that passed every other check -/
theorem dpop_refusal_registers_nothing (c : Sq) (st : Store) (r : DpopReq) (h : (handleDpop c st r).1 ≠ .ok) :
    (handleDpop c st r).2 = st := by
  rcases handleDpop_cases c st r with ⟨_, h1⟩ | ⟨h1, _⟩
  · exact h1
  · exact absurd h1 h

/-- … and once a proof was accepted, any proof with the same jti presented less than the TTL later is refused -/
theorem dpop_jti_replay_refused (c : Sq) (st : Store) (r r2 : DpopReq) (hj : r2.jti = r.jti) (hok : (handleDpop c st r).1 = .ok)
    (dt : Nat) (hdt : dt < c.ttl (.mark .jti)) :
    (handleDpop { c with now := c.now + dt } (handleDpop c st r).2 r2).1 ≠ .ok := by
  apply handleDpop_refuses_used
  rw [hj, stGet_of_find_live _ _ _ _ _ (handleDpop_ok_find c st r hok) (by show c.now + dt < c.now + c.ttl (.mark .jti); omega)]
  nofun

/-- **No replay of a DPoP proof id inside its TTL, through any history**: once a proof was accepted, every proof with the
    same jti is refused as long as less than the TTL has passed, whatever requests of any endpoint were served in between. -/
theorem dpop_jti_no_replay_within_ttl (incl : Bool) (ttl : Kind → Nat) (pk : Pkce) (now : Nat) (st : Store) (r : DpopReq)
    (hok : (handleDpop ⟨incl, now, ttl⟩ st r).1 = .ok)
    (later : List (Nat × Form)) (dt : Nat) (r2 : DpopReq) (hj : r2.jti = r.jti)
    (hwin : (runForms incl ttl pk now (handleDpop ⟨incl, now, ttl⟩ st r).2 later).2.2 + dt < now + ttl (.mark .jti)) :
    (handleDpop ⟨incl, (runForms incl ttl pk now (handleDpop ⟨incl, now, ttl⟩ st r).2 later).2.2 + dt, ttl⟩
        (runForms incl ttl pk now (handleDpop ⟨incl, now, ttl⟩ st r).2 later).2.1 r2).1 ≠ .ok := by
  have hfind := handleDpop_ok_find ⟨incl, now, ttl⟩ st r hok
  have hkeep := runForms_keeps_live incl ttl pk (jtiKey r.jti) .jti rfl _ later now _ hfind (by show _ < now + ttl (.mark .jti); omega)
  apply handleDpop_refuses_used
  rw [hj, stGet_of_find_live incl _ _ _ _ hkeep (by show _ + dt < now + ttl (.mark .jti); omega)]
  simp

example :
    (handleReqObj ⟨true, 0, todayTTL⟩ [] ⟨"r1", "holderA", false⟩) = (.err "invalid_request" "request object not found", []) ∧
    (gadSeq ⟨true, 0, todayTTL⟩ [(reqObjKey "r1", ⟨"holderA|get", 60⟩)] (reqObjKey "r1")) = (some "holderA|get", []) ∧
    (handleLanding ⟨true, 0, todayTTL⟩ [(redirectKey "t1", ⟨"", 60⟩)] "t1") = (.ok, []) ∧
    (handleDpop ⟨true, 0, todayTTL⟩ [] { jti := "j1" }).1 = .ok ∧
    (handleDpop ⟨true, 0, todayTTL⟩ [] { jti := "j1", athOk := false }) = (.err "invalid" "ath/token claim mismatch", []) := by
  decide +kernel

end Nuts.C05.Props
