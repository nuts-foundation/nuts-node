/-
  C12 — theorems about the envelope routing layer (vcr/pe/util.go: Envelope.UnmarshalJSON / ParseEnvelope /
  tryParseJSONArray / parseJSONArrayEnvelope / parseJSONObjectOrStringEnvelope / Envelope.MarshalJSON).
-/
import NutsModel.C12.EnvelopeJSON
import NutsModel.Facts.C12

namespace Nuts.C12.Props
open Nuts Nuts.C12

/-- the byte literals `Envelope.MarshalJSON` compares `e.raw[0]` with -/
theorem fact_envelope_as_is_bytes : Facts.C12.envelopeAsIsFirstBytes = asIsBytes := rfl

theorem fact_envelope_unmarshal_source : Facts.C12.envelopeUnmarshalShape =
    ["var raw interface{}", "if err := json.Unmarshal(bytes, &raw); err != nil { return err }",
     "if asString, isJSONString := raw.(string); isJSONString { bytes = []byte(asString) }",
     "envelope, err := ParseEnvelope(bytes)", "if err != nil { return err }", "*e = *envelope", "return nil"] := rfl

theorem fact_envelope_marshal_source : Facts.C12.envelopeMarshalShape =
    ["if e.raw[0] == '[' || e.raw[0] == '{' { return e.raw, nil }", "return json.Marshal(string(e.raw))"] := rfl

theorem fact_try_parse_json_array_source : Facts.C12.tryParseJSONArrayShape =
    ["var asInterface interface{}", "if err := json.Unmarshal(bytes, &asInterface); err != nil { return nil }",
     "arr, _ := asInterface.([]interface{})", "return arr"] := rfl

/-- `ParseEnvelope`: array test first (`jsonArray != nil`), the single-presentation branch only afterwards -/
theorem fact_parse_envelope_source : Facts.C12.parseEnvelopeShape.take 2 =
    ["jsonArray := tryParseJSONArray(envelopeBytes)",
     "if jsonArray != nil { asInterface, presentations, err := parseJSONArrayEnvelope(jsonArray) if err != nil { return nil, err } return &Envelope{ asInterface: asInterface, Presentations: presentations, raw: envelopeBytes, }, nil }"] := rfl

theorem parseArrayEntries_eq : ∀ (es : List ArrEntry),
    parseArrayEntries es = if es.all (fun e => parseSingleOK e.bytes) then .ok es.length else .err "entry"
  | [] => rfl
  | e :: rest => by
    unfold parseArrayEntries
    rw [parseArrayEntries_eq rest, List.all_cons]
    cases parseSingleOK e.bytes with
    | false => rfl
    | true => cases rest.all (fun e => parseSingleOK e.bytes) <;> rfl

theorem parseEnvelopeShape_no_panic (b : EnvBytes) (site : String) : parseEnvelopeShape b ≠ .panic site := by
  unfold parseEnvelopeShape
  cases tryParseJSONArray b with
  | some es => dsimp only; rw [parseArrayEntries_eq]; cases es.all (fun e => parseSingleOK e.bytes) <;> nofun
  | none => dsimp only; split <;> nofun

theorem keepParsed_ok_iff (b raw : EnvBytes) (sh : Shape) :
    keepParsed b = .ok (raw, sh) ↔ b = raw ∧ parseEnvelopeShape raw = .ok sh := by
  unfold keepParsed
  generalize hq : parseEnvelopeShape b = q
  cases q with
  | ok k =>
    constructor
    · intro h
      simp at h
      obtain ⟨rfl, rfl⟩ := h
      exact ⟨rfl, hq⟩
    · rintro ⟨rfl, h⟩
      rw [hq] at h
      simp at h
      simp [h]
  | err x =>
    constructor
    · intro h; simp at h
    · rintro ⟨rfl, h⟩; rw [hq] at h; simp at h
  | panic s =>
    constructor
    · intro h; simp at h
    · rintro ⟨rfl, h⟩; rw [hq] at h; simp at h

theorem keepParsed_no_panic (b : EnvBytes) (site : String) : keepParsed b ≠ .panic site := by
  unfold keepParsed
  generalize hq : parseEnvelopeShape b = q
  cases q with
  | ok k => simp
  | err x => simp
  | panic s => exact absurd hq (parseEnvelopeShape_no_panic b s)

/-- `Envelope.UnmarshalJSON` never panics, whatever text it is given and whatever the libraries say about it -/
theorem envelope_unmarshal_total (o : Outer) (site : String) : unmarshalEnvelope o ≠ .panic site := by
  cases o with
  | invalid => simp [unmarshalEnvelope]
  | str b => exact keepParsed_no_panic b site
  | other b => exact keepParsed_no_panic b site

/-- what `UnmarshalJSON` keeps: the bytes of the text itself, or the content of the JSON string -/
def _root_.Nuts.C12.Outer.bytes : Outer → Option EnvBytes
  | .invalid => none
  | .str b => some b
  | .other b => some b

theorem unmarshal_ok_iff (o : Outer) (raw : EnvBytes) (sh : Shape) :
    unmarshalEnvelope o = .ok (raw, sh) ↔ o.bytes = some raw ∧ parseEnvelopeShape raw = .ok sh := by
  cases o with
  | invalid => simp [unmarshalEnvelope, Outer.bytes]
  | str b => simp only [unmarshalEnvelope, Outer.bytes, keepParsed_ok_iff, Option.some.injEq]
  | other b => simp only [unmarshalEnvelope, Outer.bytes, keepParsed_ok_iff, Option.some.injEq]

/-- ARRAY ENVELOPES: accepted with n presentations exactly when the kept bytes are a JSON array of n entries and
    EVERY entry — the content of a string entry, the re-marshalled value of any other entry — parses as a
    presentation: no entry is skipped, none is added, a junk entry rejects the envelope. -/
theorem envelope_array_iff (o : Outer) (raw : EnvBytes) (n : Nat) :
    unmarshalEnvelope o = .ok (raw, .array n) ↔
      o.bytes = some raw ∧ ∃ es, raw.top = .array es ∧ es.length = n ∧ ∀ e ∈ es, parseSingleOK e.bytes = true := by
  rw [unmarshal_ok_iff]
  refine and_congr_right fun _ => ?_
  unfold parseEnvelopeShape tryParseJSONArray
  cases raw.top with
  | array es =>
    dsimp only
    rw [parseArrayEntries_eq]
    by_cases hall : es.all (fun e => parseSingleOK e.bytes) = true
    · rw [if_pos hall]
      exact ⟨fun h => ⟨es, rfl, by cases h; rfl, List.all_eq_true.1 hall⟩, fun ⟨_, he, hn, _⟩ => by cases he; rw [hn]⟩
    · rw [if_neg hall]
      exact ⟨nofun, fun ⟨_, he, _, h⟩ => by cases he; exact absurd (List.all_eq_true.2 h) hall⟩
  | invalid => dsimp only; exact ⟨fun h => (by split at h <;> cases h), fun ⟨_, he, _⟩ => nomatch he⟩
  | other => dsimp only; exact ⟨fun h => (by split at h <;> cases h), fun ⟨_, he, _⟩ => nomatch he⟩

/-- SINGLE ENVELOPES: accepted as one presentation exactly when the kept bytes are NOT a JSON array and go-did parses
    them — as a JWT that jwx can parse, or as another format whose text is valid JSON. A JSON array is never read as
    one presentation. -/
theorem envelope_single_iff (o : Outer) (raw : EnvBytes) :
    unmarshalEnvelope o = .ok (raw, .single) ↔
      o.bytes = some raw ∧ (∀ es, raw.top ≠ .array es) ∧
        (raw.vp = .jwt true ∨ (raw.vp = .ld ∧ raw.top.valid = true)) := by
  rw [unmarshal_ok_iff]
  have key : parseEnvelopeShape raw = .ok .single ↔
      (∀ es, raw.top ≠ .array es) ∧ (raw.vp = .jwt true ∨ (raw.vp = .ld ∧ raw.top.valid = true)) := by
    unfold parseEnvelopeShape tryParseJSONArray
    cases ht : raw.top with
    | array es =>
      dsimp only
      rw [parseArrayEntries_eq]
      exact ⟨fun h => (by split at h <;> cases h), fun ⟨h, _⟩ => absurd rfl (h es)⟩
    | invalid =>
      simp only [parseSingleOK, EnvBytes.single, ht, JTop.valid]
      cases hv : raw.vp with
      | bad => simp
      | jwt b => cases b <;> simp
      | ld => simp
    | other =>
      simp only [parseSingleOK, EnvBytes.single, ht, JTop.valid]
      cases hv : raw.vp with
      | bad => simp
      | jwt b => cases b <;> simp
      | ld => simp
  rw [key]

/-- STRING WRAPPING IS TRANSPARENT: a JSON string whose content is an envelope text (a JWT, but also an array or an
    object) is read exactly as that text itself. -/
theorem envelope_string_wrapping_transparent (b : EnvBytes) : unmarshalEnvelope (.str b) = unmarshalEnvelope (.other b) := rfl

/-- ROUND TRIP through the session store: an envelope that `UnmarshalJSON` accepted is marshalled without panic
    (`raw[0]` exists), and reading the marshalled text back yields the same bytes and the same parse.
    Library contracts used, both checked by the harness on every generated text: `hempty` — the empty byte string is
    neither valid JSON nor a presentation; `hjwt` — a text go-did takes for a JWT does not begin with `[` or `{`. -/
theorem envelope_json_round_trip (o : Outer) (raw : EnvBytes) (sh : Shape)
    (h : unmarshalEnvelope o = .ok (raw, sh))
    (hempty : raw.first = none → raw.vp = .bad ∧ raw.top = .invalid)
    (hjwt : raw.vp = .jwt true → ∀ c, raw.first = some c → asIsBytes.contains c = false) :
    ∃ m, marshalEnvelope asIsBytes raw = .ok m ∧ unmarshalEnvelope (reread raw m) = .ok (raw, sh) := by
  obtain ⟨_, hp⟩ := (unmarshal_ok_iff o raw sh).mp h
  cases hf : raw.first with
  | none =>
    obtain ⟨hv, ht⟩ := hempty hf
    unfold parseEnvelopeShape tryParseJSONArray at hp
    rw [ht] at hp
    simp [parseSingleOK, EnvBytes.single, hv] at hp
  | some c =>
    unfold marshalEnvelope
    rw [hf]; simp only
    by_cases hc : asIsBytes.contains c = true
    · rw [if_pos hc]
      refine ⟨.asIs, rfl, ?_⟩
      cases ht : raw.top with
      | invalid =>
        -- accepted with invalid JSON: only as a JWT; excluded by `hjwt`
        unfold parseEnvelopeShape tryParseJSONArray at hp
        rw [ht] at hp
        simp only [parseSingleOK, EnvBytes.single, ht, JTop.valid] at hp
        cases hv : raw.vp with
        | bad => rw [hv] at hp; simp at hp
        | ld => rw [hv] at hp; simp at hp
        | jwt b =>
          cases b with
          | false => rw [hv] at hp; simp at hp
          | true => have := hjwt hv c hf; rw [this] at hc; exact absurd hc (by simp)
      | array es => simp only [reread, ht]; exact (unmarshal_ok_iff (.other raw) raw sh).mpr ⟨rfl, hp⟩
      | other => simp only [reread, ht]; exact (unmarshal_ok_iff (.other raw) raw sh).mpr ⟨rfl, hp⟩
    · rw [if_neg hc]
      exact ⟨.quoted, rfl, (unmarshal_ok_iff (.str raw) raw sh).mpr ⟨rfl, hp⟩⟩

/-- the form on the wire: JSON-LD presentations and arrays go out as JSON values, everything else (JWT) as a string -/
theorem envelope_marshal_form (raw : EnvBytes) (m : Marshalled) (h : marshalEnvelope asIsBytes raw = .ok m) :
    (m = .asIs ↔ (raw.first = some '[' ∨ raw.first = some '{')) := by
  unfold marshalEnvelope at h
  cases hf : raw.first with
  | none => rw [hf] at h; simp at h
  | some c =>
    rw [hf] at h; simp only at h
    by_cases hc : asIsBytes.contains c = true
    · rw [if_pos hc] at h; simp at h; subst h
      simp [asIsBytes] at hc
      simp [hc]
    · rw [if_neg hc] at h; simp at h; subst h
      simp [asIsBytes] at hc
      simp [hc]

/-! ### non-vacuity -/

def xJwt : EnvBytes := { first := some 'e', top := .invalid, vp := .jwt true }
def xLd : EnvBytes := { first := some '{', top := .other, vp := .ld }
def xArr : EnvBytes :=
  { first := some '[', vp := .bad,
    top := .array [{ isString := true, asString := { vp := .jwt true } }, { isString := false, asMarshalled := { vp := .ld, validJSON := true } }] }

example : unmarshalEnvelope (.str xJwt) = .ok (xJwt, .single) := rfl
example : unmarshalEnvelope (.other xLd) = .ok (xLd, .single) := rfl
example : unmarshalEnvelope (.other xArr) = .ok (xArr, .array 2) := rfl
example : unmarshalEnvelope (.str xArr) = .ok (xArr, .array 2) := rfl
example : marshalEnvelope asIsBytes xJwt = .ok .quoted ∧ marshalEnvelope asIsBytes xArr = .ok .asIs := by decide
-- a junk entry rejects the array; the zero value of `Envelope` cannot be marshalled
example : unmarshalEnvelope (.other { xArr with top := .array [{ isString := true, asString := { vp := .jwt true } }, { isString := false }] }) = .err "entry" := rfl
example : marshalEnvelope asIsBytes { first := none, top := .invalid, vp := .bad } = .panic "raw[0]" := by decide
-- the hypotheses of the round trip are satisfiable together with acceptance
example : ∃ m, marshalEnvelope asIsBytes xJwt = .ok m ∧ unmarshalEnvelope (reread xJwt m) = .ok (xJwt, .single) :=
  envelope_json_round_trip (.str xJwt) xJwt .single rfl (by intro h; cases h) (by intro _ c hc; cases hc; decide)

end Nuts.C12.Props
