/-
  C01 — `statusListIndex` text → slot (strconv.Atoi, NutsModel/C01/Atoi.lean) and its
  composition with the validator and the status-list check (document text → validator verdict → bit that is read → decision).
-/
import NutsProofs.Lemmas.C01Atoi
import NutsModel.Facts.C01
import NutsProofs.Props.C01Subject
namespace Nuts.C01.Props
open Nuts.C01

/-- the shape Go's Atoi accepts as a non-negative int: a non-empty run of ASCII digits, optionally after ONE '+',
    or after one '-' when the digits denote zero; the magnitude fits an int64 -/
def DenotesSlot (cs : List Char) (n : Nat) : Prop :=
  ∃ body, body ≠ [] ∧ (∀ c ∈ body, isAsciiDigit c = true) ∧ decVal body 0 = n ∧
    ((cs = body ∧ n ≤ maxInt64) ∨ (cs = '+' :: body ∧ n ≤ maxInt64) ∨ (cs = '-' :: body ∧ n = 0))

/-- FULL CHARACTERISATION of the index parser (all strings): the model of `strconv.Atoi` + `n < 0` yields slot `n` exactly for the
    texts of the documented shape.  In particular no '_' separators, no 0x/0b prefixes, no blanks, no exponent, no non-ASCII digits,
    no second sign, nothing ≥ 2^63, and a '-' only in front of zero. -/
theorem indexOfText_some_iff (s : String) (n : Nat) : indexOfText s = some n ↔ DenotesSlot s.toList n := by
  rw [indexOfText_iff_split]
  unfold DenotesSlot
  generalize s.toList = cs
  simp only [List.all_eq_true]
  constructor
  · rintro ⟨hne, hdig, hv, hr⟩
    refine ⟨_, hne, hdig, hv, ?_⟩
    rcases splitSign_cases cs with ⟨e, hs⟩ | ⟨e, hs⟩ | ⟨e, hs⟩ <;> rw [hs] at hr
    · exact .inl ⟨e, hr⟩
    · exact .inr (.inl ⟨e, hr⟩)
    · exact .inr (.inr ⟨e, hr⟩)
  · rintro ⟨body, hne, hdig, hv, ⟨rfl, hr⟩ | ⟨rfl, hr⟩ | ⟨rfl, hr⟩⟩
    · rw [splitSign_digits hdig]; exact ⟨hne, hdig, hv, hr⟩
    · exact ⟨hne, hdig, hv, hr⟩
    · exact ⟨hne, hdig, hv, hr⟩

/-- a minus sign never selects a slot other than 0 (so "-1", "-7" are refused; "-0" is slot 0) -/
theorem negative_index_text_is_refused (r : List Char) (n : Nat) (h : indexOfText (String.ofList ('-' :: r)) = some n) : n = 0 := by
  simpa [splitSign] using ((indexOfText_iff_split _ _).mp h).2.2.2

example : indexOfText "7" = some 7 ∧ indexOfText "+7" = some 7 ∧ indexOfText "007" = some 7 ∧ indexOfText "-0" = some 0 ∧
    indexOfText "-1" = none ∧ indexOfText "" = none ∧ indexOfText "+" = none ∧ indexOfText "1_0" = none ∧ indexOfText "0x10" = none ∧
    indexOfText " 1" = none ∧ indexOfText "1e3" = none ∧ indexOfText "++1" = none ∧ indexOfText "１" = none ∧
    indexOfText "9223372036854775807" = some 9223372036854775807 ∧ indexOfText "9223372036854775808" = none ∧
    goAtoi "-9223372036854775808" = some (-9223372036854775808) ∧ goAtoi "-9223372036854775809" = none := by decide +kernel

/-! ## composition: document text → validator → the bit that decides -/

/-- END TO END (wire text → validator → Verify): every StatusList2021Entry of a credential that `Verify` reports valid carries an index TEXT
    of the documented decimal shape, and the slot the status check reads (`Status.index`) is the number that text denotes -/
theorem accepted_status_index_text_denotes_the_slot (cfg : Cfg) (P : Crypto) (E : Env) (au cs : Bool) (at_ : Option Time) (c : Cred)
    (u ok : Status → Bool)
    (hc : ∀ l, c.statuses = some l → ∀ s ∈ l, s.typ = statusListEntryType → s.entryValid = entryValidOf (u s) (ok s) s)
    (h : verify cfg P E au cs at_ c = .ok ()) :
    ∃ l, c.statuses = some l ∧ ∀ s ∈ l, s.typ = statusListEntryType →
      ∃ n, s.index = some n ∧ DenotesSlot s.indexText.toList n := by
  obtain ⟨l, hl, hall⟩ := accepted_credential_has_well_formed_status_entries cfg P E au cs at_ c u ok hc h
  refine ⟨l, hl, fun s hs ht => ?_⟩
  have hi := ((hall s hs).2.2 ht).2.2.2.2.1
  cases hx : s.index with
  | none => rw [hx] at hi; cases hi
  | some n => exact ⟨n, rfl, (indexOfText_some_iff _ _).mp (by simpa [Status.index] using hx)⟩

/-- WIRE TEXT → DECISION: for a validated revocation entry whose list the node can obtain with the same purpose, the status verdict
    of that entry is decided by exactly the bit at the slot the index text denotes: revoked iff that bit is set;
    an index beyond the list is an error (soft), never "not revoked" -/
theorem status_decision_reads_the_denoted_bit (E : Env) (s : Status) (rest : List Status) (sl : StatusList) (n : Nat)
    (ht : s.typ = statusListEntryType) (hv : s.entryValid = true) (hp : s.purpose = "revocation")
    (hl : E.statusList s.listCred = some sl) (hsp : sl.purpose = "revocation")
    (hn : DenotesSlot s.indexText.toList n) :
    statusVerdictL E (s :: rest) =
      match sl.bit n with
      | none => .softErr
      | some true => .revoked
      | some false => statusVerdictL E rest :=
  statusVerdictL_cons_revocation E rest ht hv hp hl (hsp.trans hp.symm) ((indexOfText_some_iff _ _).mpr hn)

/-- hence: a credential whose first status entry is a revocation entry that denotes a set bit is never reported valid, whatever
    sign / leading-zero spelling of the index the document uses and whatever entries follow -/
theorem set_bit_at_denoted_slot_is_never_valid (cfg : Cfg) (P : Crypto) (E : Env) (au cs : Bool) (at_ : Option Time) (c : Cred)
    (s : Status) (rest : List Status) (sl : StatusList) (n : Nat)
    (hc : c.statuses = some (s :: rest))
    (ht : s.typ = statusListEntryType) (hv : s.entryValid = true) (hp : s.purpose = "revocation")
    (hl : E.statusList s.listCred = some sl) (hsp : sl.purpose = "revocation")
    (hn : DenotesSlot s.indexText.toList n) (hb : sl.bit n = some true) :
    verify cfg P E au cs at_ c ≠ .ok () := by
  apply verify_ne_ok_of_status
  rw [statusVerdict_some hc]
  exact (status_decision_reads_the_denoted_bit E s rest sl n ht hv hp hl hsp hn).trans (by rw [hb])

/-! ## tie: the default validator and its credentialStatus loop, as the source has them -/

def validate_defaultCredentialValidatorSrc : List String :=
  ["!credential.IsType(vc.VerifiableCredentialTypeV1URI()) => fmt.Errorf(\"%w: type 'VerifiableCredential' is required\",errValidation)", "!credential.ContainsContext(vc.VCContextV1URI()) => fmt.Errorf(\"%w: default context is required\",errValidation)", "credential.Issuer.String() == \"\" => fmt.Errorf(\"%w: 'issuer' is required\",errValidation)", "credential.ID == nil => fmt.Errorf(\"%w: 'ID' is required\",errValidation)", "credential.IssuanceDate.IsZero() => fmt.Errorf(\"%w: 'issuanceDate' is required\",errValidation)", "err := validateCredentialStatus(credential); err != nil => fmt.Errorf(\"%w: invalid credentialStatus: %w\",errValidation,err)"]

def validateCredentialStatusReturnsSrc : List String :=
  ["statuses,err := credential.CredentialStatuses(); err != nil => err", "range statuses && credentialStatus.ID.String() == \"\" => errors.New(\"credentialStatus.id is required\")", "range statuses && credentialStatus.Type == \"\" => errors.New(\"credentialStatus.type is required\")", "range statuses && switch credentialStatus.Type case revocation.StatusList2021EntryType && !credential.ContainsContext(revocation.StatusList2021ContextURI) => errors.New(\"StatusList2021 context is required\")", "range statuses && switch credentialStatus.Type case revocation.StatusList2021EntryType && err = json.Unmarshal(credentialStatus.Raw(),&cs); err != nil => err", "range statuses && switch credentialStatus.Type case revocation.StatusList2021EntryType && err = cs.Validate(); err != nil => err"]

/-- the guard sequence of `defaultCredentialValidator.Validate` (= the conjuncts of `validateDefault`) and of `validateCredentialStatus`
    (= `statusSyntaxOK`: per entry id, type, then for StatusList2021Entry context → unmarshal → `Validate`, whose own sequence incl.
    `strconv.Atoi(e.StatusListIndex); err != nil || n < 0` is fact_status_entry_validate_sequence; the status check's
    `strconv.Atoi(slEntry.StatusListIndex)` → `Bitstring.bit(index)` by fact_wiring/statusListVerifyReturns) -/
theorem fact_default_validator_sequence :
    Nuts.Facts.C01.validate_defaultCredentialValidator = validate_defaultCredentialValidatorSrc ∧
    Nuts.Facts.C01.validateCredentialStatusReturns = validateCredentialStatusReturnsSrc ∧
    Nuts.Facts.C01.guards_defaultCredentialValidator.length = 6 := by
  refine ⟨rfl, rfl, rfl⟩

end Nuts.C01.Props
