/-
  C18 — DID resolution binds the document to the identifier and to the right origin.
  Model: NutsModel/C18/*.lean.
  Facts: NutsModel/Facts/C18.lean is REGENERATED from /repo on every run.
-/
import NutsModel.C18.Policy
import NutsModel.C18.RCacheOld
import NutsProofs.Lemmas.C18RoundTrip
import NutsProofs.Lemmas.C18Chain
import NutsProofs.Lemmas.C18CacheKey
import NutsProofs.Lemmas.C18Sql
import NutsProofs.Lemmas.C18RCache
import NutsProofs.Lemmas.C18DidKey
import NutsProofs.Lemmas.C18Jwk
import NutsProofs.Lemmas.C18X

namespace Nuts.C18.Props
open Nuts Nuts.C18

/-- `shouldPercentEncode` and `percentDecodeChar` use the same 14 characters `~!$&'()*+,;=:@` -/
theorem fact_sets : Facts.C18.encodeSet = [126, 33, 36, 38, 39, 40, 41, 42, 43, 44, 59, 61, 58, 64] ∧
    Facts.C18.decodeSet = Facts.C18.encodeSet := ⟨rfl, rfl⟩

/-- the media types `Resolve` accepts -/
theorem fact_content_types : Facts.C18.contentTypes =
    [[97, 112, 112, 108, 105, 99, 97, 116, 105, 111, 110, 47, 100, 105, 100, 43, 108, 100, 43, 106, 115, 111, 110],      -- application/did+ld+json
     [97, 112, 112, 108, 105, 99, 97, 116, 105, 111, 110, 47, 100, 105, 100, 43, 106, 115, 111, 110],                    -- application/did+json
     [97, 112, 112, 108, 105, 99, 97, 116, 105, 111, 110, 47, 106, 115, 111, 110]] := rfl      -- application/json

/-- `Resolve` compares the id of the PARSED document — the very value it returns (`document`, `&document`) — with the
    requested DID, and nothing else decides about the id -/
theorem fact_resolve_checks_document_id : Facts.C18.resolveChecksDocumentID = true ∧
    Facts.C18.resolveEqualsChecks = ["!document.ID.Equals(id)"] ∧ Facts.C18.resolveReturnsDocument = ["&document"] := ⟨rfl, rfl, rfl⟩

/-- the shared response cache is indexed by the full request URL (`URL.String()`), at every access -/
theorem fact_cache_index : Facts.C18.cacheIndexExprs = ["httpRequest.URL.String()", "entry.requestURL.String()", "entry.requestURL.String()"] ∧
    Facts.C18.cachePopKey = ["h.head.requestURL.String()"] := ⟨rfl, rfl⟩

/-- every `http.Client` of http/client refuses, in strict mode, a redirect to a non-https URL and keeps Go's limit of
    10 redirects; did:web's client additionally refuses to leave the origin of the first request -/
theorem fact_redirect_policy :
    factPolicy = { strictHttpsRedirect := true, sameOriginRedirect := true, maxRedirects := 10 } ∧
    (Facts.C18.checkRedirectConds ≠ [] → Facts.C18.checkRedirectConds.contains condMaxRedirects = true) ∧
    wrapperKeepsPolicy = true := by decide +kernel

/-- `StrictHTTPClient.Do` refuses a first request that is not https in strict mode -/
theorem fact_strict_do : Facts.C18.strictDoConds.contains condStrictHttps = true := by decide +kernel

/-- did:web: own store first, then the web; did:jwk / did:key / did:x509 always registered, did:nuts / did:web when configured -/
theorem fact_router : factLocalFirst = true ∧
    Facts.C18.routerRegistrations = ["didjwk.MethodName if true", "didkey.MethodName if true", "didx509.MethodName if true",
      "didnuts.MethodName if slices.Contains(r.supportedDIDMethods, didnuts.MethodName)",
      "didweb.MethodName if slices.Contains(r.supportedDIDMethods, didweb.MethodName)"] := ⟨by decide, rfl⟩

/-- `didsubject.Resolver`: deactivated ⇒ error unless `AllowDeactivated` -/
theorem fact_deactivation : Facts.C18.deactivationConds =
    ["resolver.IsDeactivated(document)", "metadata == nil || !metadata.AllowDeactivated"] := rfl

/-- `didsubject.Resolver`: a failed lookup is `ErrNotFound` only for "record not found"; any other store error is
    returned as it is (so the did:web chain stops instead of going to the network) -/
theorem fact_local_resolver_errors : Facts.C18.localResolverErrorReturns = ["resolver.ErrNotFound", "err"] := rfl

/-- the local lookup is bounded by the caller's resolve time only when one is given; otherwise `Resolve` passes nil and
    `Latest` bounds by now + 1 h — so a version written by an instance whose clock runs a little ahead (deactivations
    included) is still "the latest" (the model's `sqlState`: the last version decides) -/
theorem fact_local_time_bound : Facts.C18.localLatestArgs = ["id", "notAfter"] ∧
    Facts.C18.localNotAfterAssignments = ["notAfter *time.Time = <zero value>", "notAfter = metadata.ResolveTime"] ∧
    Facts.C18.latestDefaultBound = ["time.Now().Add(time.Hour).Unix()"] := ⟨rfl, rfl, rfl⟩

/-! ### did:web identifier <-> URL round trip -/

/-- **Round trip.** For every identifier of the decidable grammar `wfDID` — method web; a domain name that is not an
    IPv4 address, optionally `%3A` + decimal port; then any number of non-empty path segments made of `[A-Za-z0-9._-]` and
    upper-case escapes of the 14 reserved characters, the last segment not being `did.json` — `DIDToURL` succeeds and
    `URLToDID` of the resulting URL is exactly the identifier. Unbounded: all lengths, all numbers of segments. -/
theorem did_url_roundtrip (d : DID) (h : wfDID Facts.C18.encodeSet d = true) :
    ∃ u, didToURL Facts.C18.decodeSet d = .ok u ∧ urlToDID Facts.C18.encodeSet u = .ok d := by
  rw [fact_sets.2, fact_sets.1] at *
  change wfDID set14 d = true at h
  unfold wfDID at h
  simp only [Bool.and_eq_true, decide_eq_true_eq] at h
  obtain ⟨hm, hrest⟩ := h
  have hjoin := join_splitOn cColon d.id
  cases hsp : splitOn cColon d.id with
  | nil => rw [hsp] at hrest; simp at hrest
  | cons hd segs =>
    rw [hsp] at hrest hjoin
    simp only [Bool.and_eq_true, List.all_eq_true, decide_eq_true_eq, ne_eq] at hrest
    obtain ⟨⟨hh, hsegs⟩, hl⟩ := hrest
    obtain ⟨name, port, ok, rfl⟩ := wfHost_decomp hh
    obtain ⟨ds, hds, rfl⟩ := segs_enc segs fun s hs => by simpa using hsegs s hs
    have hd : d = { method := sWeb, id := joinWith cColon ((hDec name port :: ds).map enc) } := by
      cases d; simp only [DID.mk.injEq]; exact ⟨hm, hjoin.symm⟩
    exact ⟨_, by rw [hd]; exact didToURL_parts name port ds ok hds, by rw [hd]; exact urlToDID_parts name port ds ok hds hl⟩

/-- … and hence `DIDToURL (URLToDID u) = u` for every URL in the image of the grammar -/
theorem url_did_roundtrip_image (d : DID) (h : wfDID Facts.C18.encodeSet d = true) (u : URL)
    (hu : didToURL Facts.C18.decodeSet d = .ok u) :
    (urlToDID Facts.C18.encodeSet u).bind (didToURL Facts.C18.decodeSet) = .ok u := by
  obtain ⟨u', h1, h2⟩ := did_url_roundtrip d h
  rw [hu] at h1; cases h1
  rw [h2]; exact hu

/-- the grammar is inhabited by the documented examples: did:web:localhost, did:web:localhost%3A3000:alice,
    did:web:localhost:alice%2Band%2Bbob:path -/
example : wfDID Facts.C18.encodeSet ⟨sWeb, [108, 111, 99, 97, 108, 104, 111, 115, 116]⟩ = true ∧
    wfDID Facts.C18.encodeSet
      ⟨sWeb, [108, 111, 99, 97, 108, 104, 111, 115, 116, 37, 51, 65, 51, 48, 48, 48, 58, 97, 108, 105, 99, 101]⟩ = true ∧
    wfDID Facts.C18.encodeSet
      ⟨sWeb, [108, 111, 99, 97, 108, 104, 111, 115, 116, 58, 97, 108, 105, 99, 101, 37, 50, 66, 97, 110, 100, 37, 50, 66,
              98, 111, 98, 58, 112, 97, 116, 104]⟩ = true := by decide

/-- outside the grammar the law fails — `did.json` as last segment, a lower-case escape, an escaped non-ASCII rune
    (`URLToDID` truncates the rune `š` U+0161 to its low byte `a`): concrete identifiers that do not come back -/
theorem roundtrip_fails_outside_grammar :
    (∃ u, didToURL Facts.C18.decodeSet { method := sWeb, id := [104, 58, 100, 105, 100, 46, 106, 115, 111, 110] } = .ok u ∧   -- h:did.json
      urlToDID Facts.C18.encodeSet u = .ok { method := sWeb, id := [104] }) ∧
    (∃ u, didToURL Facts.C18.decodeSet { method := sWeb, id := [104, 37, 51, 97, 56, 48] } = .ok u ∧                          -- h%3a80
      urlToDID Facts.C18.encodeSet u = .ok { method := sWeb, id := [104, 37, 51, 65, 56, 48] }) ∧
    (∃ u, didToURL Facts.C18.decodeSet { method := sWeb, id := [104, 58, 37, 67, 53, 37, 65, 49] } = .ok u ∧                  -- h:%C5%A1
      urlToDID Facts.C18.encodeSet u = .ok { method := sWeb, id := [104, 58, 97] }) := by
  refine ⟨⟨_, rfl, ?_⟩, ⟨_, rfl, ?_⟩, ⟨_, rfl, ?_⟩⟩ <;> decide

/-! ### redirects cannot leave the origin -/

/-- Whatever the servers answer (any function of hop number and request), every request made while resolving a did:web
    DID goes to the scheme and host of the first request, when the client's redirect check pins the origin. -/
theorem redirects_stay_on_origin (dec : List Nat) (cts : List Bytes) (pol : Policy) (strict : Bool) (d : DID)
    (srv : Nat → Req → Option Resp) (hp : pol.sameOriginRedirect = true) (u : URL) (hu : didToURL dec d = .ok u)
    (hs : u.scheme = sHttps) :
    ∀ r ∈ (resolveWeb dec cts pol strict d srv).1, r.scheme = sHttps ∧ r.host = (firstReq u).host := by
  obtain ⟨res, hres, _⟩ := resolveWeb_spec dec cts pol strict d srv
  rw [hres, hu]
  exact strictDo_reqs pol strict srv (firstReq u) _ ⟨hs, rfl⟩ fun nxt n h =>
    have := checkRedirect_sameOrigin hp h
    ⟨this.1.trans hs, this.2⟩

/-- **Origin binding.** Resolving did:web:X through a client whose redirect check keeps the origin
    (`sameOriginRedirect`) — for EVERY `did.DID` value, every server behaviour, strict or not — either makes no request
    at all, or `DIDToURL` succeeded and: the host `H` is exactly the percent-decoded first component of the identifier;
    `H`'s host name is not an IP address; the first request is https, carries no user-info and goes to `H` (an empty
    port dropped); and EVERY request (redirect hops included) is https to that same host. -/
theorem fetch_origin_bound (dec : List Nat) (cts : List Bytes) (pol : Policy) (strict : Bool) (d : DID)
    (srv : Nat → Req → Option Resp) (hp : pol.sameOriginRedirect = true) :
    (resolveWeb dec cts pol strict d srv).1 = [] ∨
    ∃ u H, didToURL dec d = .ok u ∧ pathUnescape (cut cColon d.id).1 = .ok H ∧ isIP (hostname H) = false ∧
      (firstReq u).scheme = sHttps ∧ (firstReq u).user = false ∧ (firstReq u).host = removeEmptyPort H ∧
      ∀ r ∈ (resolveWeb dec cts pol strict d srv).1, r.scheme = sHttps ∧ r.host = removeEmptyPort H := by
  obtain ⟨res, hres, _⟩ := resolveWeb_spec dec cts pol strict d srv
  cases hu : didToURL dec d with
  | err e => exact .inl (by rw [hres, hu])
  | panic e => exact .inl (by rw [hres, hu])
  | ok u =>
    obtain ⟨_, hs, huser, _, hH, hip⟩ := didToURL_origin dec d u hu
    exact .inr ⟨u, u.host, rfl, hH, hip, hs, huser, rfl, redirects_stay_on_origin dec cts pol strict d srv hp u hu hs⟩

/-- non-vacuity: did:web:a%3A8443:x resolves to https://a:8443/x and is fetched from host "a:8443" -/
example : ∃ u, didToURL Facts.C18.decodeSet { method := sWeb, id := [97, 37, 51, 65, 56, 52, 52, 51, 58, 120] } = .ok u ∧
    (firstReq u).host = [97, 58, 56, 52, 52, 51] ∧ (firstReq u).path = [47, 120] ++ sDidJson := by
  refine ⟨_, rfl, ?_, ?_⟩ <;> decide

/-- hostile shapes are refused before any request: user-info, IPv4, bracketed IPv6, encoded slash in the host -/
example : didToURL Facts.C18.decodeSet { method := sWeb, id := [117, 37, 52, 48, 97] } = .err "host" ∧             -- u%40a
    didToURL Facts.C18.decodeSet { method := sWeb, id := [49, 46, 50, 46, 51, 46, 52] } = .err "ip" ∧               -- 1.2.3.4
    didToURL Facts.C18.decodeSet { method := sWeb, id := [37, 53, 66, 37, 51, 65, 37, 51, 65, 49, 37, 53, 68] } = .err "ip" ∧  -- %5B%3A%3A1%5D
    didToURL Facts.C18.decodeSet { method := sWeb, id := [97, 37, 50, 70, 98] } = .err "host" := by                  -- a%2Fb
  decide +kernel

/-- In strict mode, when the client's redirect check refuses non-https targets (`strictHttpsRedirect`), no request of the
    strict client — first or redirected — uses a scheme other than https. -/
theorem strict_client_https_only (pol : Policy) (srv : Nat → Req → Option Resp) (first : Req)
    (hp : pol.strictHttpsRedirect = true) :
    ∀ r ∈ (strictDo pol true srv first).1, r.scheme = sHttps := by
  by_cases hf : first.scheme = sHttps
  · exact strictDo_reqs pol true srv first _ hf (fun nxt n h => checkRedirect_strictHttps hp h)
  · intro r hr
    simp [strictDo, hf] at hr

/-- the policy the source has today satisfies both hypotheses -/
example : factPolicy.sameOriginRedirect = true ∧ factPolicy.strictHttpsRedirect = true :=
  fact_redirect_policy.1 ▸ ⟨rfl, rfl⟩

/-- Without a redirect check (the code before the repair: `http.Client` values without `CheckRedirect`) a did:web server
    can send the strict-mode client to plain http on another host: concrete witness. -/
theorem redirect_witness :
    let pol : Policy := { strictHttpsRedirect := false, sameOriginRedirect := false }
    let d : DID := { method := sWeb, id := [97] }                                  -- did:web:a
    let evil : Bytes := [104, 116, 116, 112, 58, 47, 47, 49, 46, 50, 46, 51, 46, 52, 47, 120]   -- http://1.2.3.4/x
    let srv : Nat → Req → Option Resp := fun hop _ =>
      if hop = 0 then some { status := 302, loc := evil } else some { status := 200 }
    ∃ r ∈ (resolveWeb Facts.C18.decodeSet Facts.C18.contentTypes pol true d srv).1,
      r.scheme = sHttp ∧ r.host = [49, 46, 50, 46, 51, 46, 52] := by
  refine ⟨{ scheme := sHttp, host := [49, 46, 50, 46, 51, 46, 52], path := [47, 120] }, ?_, rfl, rfl⟩
  decide

/-! ### the node-wide HTTP cache cannot stand in for the HTTPS fetch -/

/-- **The cache index is injective**: two request URLs share cache entries only if scheme, user-info, host (with port),
    path, query and fragment are all equal (URLs of the stated shape) -/
theorem cache_key_injective (u v : CUrl) (hu : u.wf = true) (hv : v.wf = true) (h : cacheKey u = cacheKey v) : u = v :=
  cacheKey_inj u v hu hv h

/-- Whatever other components of the node fetched before (any list of look-alike URLs: other scheme, port, user-info,
    query, fragment, case, path), a did:web URL that is not itself among them is NOT served from the cache: the request
    goes to the network, i.e. through the https / origin checks of `fetch_origin_bound`. -/
theorem cache_no_foreign_entry (cacheable : Bool) (us : List CUrl) (u : CUrl) (hus : ∀ v ∈ us, v.wf = true) (hu : u.wf = true)
    (hne : u ∉ us) : (cacheGet cacheable (us.map cacheKey) u).2 = some (cacheKey u) := by
  unfold cacheGet
  have : (us.map cacheKey).contains (cacheKey u) = false := by
    cases hc : (us.map cacheKey).contains (cacheKey u) with
    | false => rfl
    | true =>
      obtain ⟨v, hv, hk⟩ := List.mem_map.mp (List.contains_iff_mem.mp hc)
      exact absurd (cacheKey_inj v u (hus v hv) hu hk ▸ hv) hne
  rw [if_neg (by rw [this]; exact Bool.false_ne_true)]

/-- non-vacuity / why the index matters: `http://h/p` and `https://h/p`, and `https://h/p?x` have different keys, while an
    index on host + path alone would identify them -/
example : cacheKey { scheme := sHttp, host := [104], path := [47, 112] } ≠ cacheKey { scheme := sHttps, host := [104], path := [47, 112] } ∧
    cacheKey { scheme := sHttps, host := [104], path := [47, 112], query := [120] } ≠ cacheKey { scheme := sHttps, host := [104], path := [47, 112] } ∧
    (({ scheme := sHttps, host := [104], path := [47, 112] } : CUrl).wf = true) := by decide

/-! ### the returned document is the requested one -/

/-- did:web: a returned document has exactly the requested DID as id -/
theorem id_bound_web (dec : List Nat) (cts : List Bytes) (pol : Policy) (strict : Bool) (d : DID)
    (srv : Nat → Req → Option Resp) (reqs : List Req) (id : Bytes)
    (h : resolveWeb dec cts pol strict d srv = (reqs, .ok id)) : id = d.str := by
  obtain ⟨res, hres, hid⟩ := resolveWeb_spec dec cts pol strict d srv
  exact hid id (Prod.mk.inj (hres.symm.trans h)).2

/-- router level (did:web local or remote, did:jwk, did:key, did:nuts): a returned document has the requested DID as id -/
theorem id_bound (dec : List Nat) (cts : List Bytes) (pol : Policy) (lf strict : Bool) (n : Node) (allow : Bool) (d : DID)
    (srv : Nat → Req → Option Resp) (reqs : List Req) (r : ResolveResult)
    (h : resolve dec cts pol lf strict n allow d srv = (reqs, .ok r)) : r.docID = d.str := by
  have h2 : (resolve dec cts pol lf strict n allow d srv).2 = .ok r := congrArg Prod.snd h
  by_cases hw : d.method = sWeb
  · rw [resolve_web hw] at h2
    split at h2
    · split at h2
      · split at h2
        · exact webOut_docID h2
        · exact resolveLocal_docID h2
      · exact webOut_docID h2
    · cases h2
  by_cases hk : d.method = sJwk ∨ d.method = sKey
  · rw [resolve_key hk] at h2
    split at h2 <;> cases h2
    rfl
  by_cases hn : d.method = sNuts
  · rw [resolve_nuts hn] at h2
    split at h2
    · exact resolveLocal_docID h2
    · cases h2
  · exact absurd h (resolve_other hw hk hn reqs r)

/-- did:jwk and did:key: no request is made, and the result depends on nothing but the identifier (and the key
    library's verdict on it): any two nodes, servers, strictness and flags give the same result. -/
theorem jwk_key_pure (dec : List Nat) (cts : List Bytes) (pol pol' : Policy) (lf lf' strict strict' : Bool) (n n' : Node)
    (allow allow' : Bool) (d : DID) (srv srv' : Nat → Req → Option Resp)
    (hm : d.method = sJwk ∨ d.method = sKey) (hk : n.keyDecodes d = n'.keyDecodes d) :
    (resolve dec cts pol lf strict n allow d srv).1 = [] ∧
    resolve dec cts pol lf strict n allow d srv = resolve dec cts pol' lf' strict' n' allow' d srv' := by
  rw [resolve_key hm, resolve_key hm, hk]
  exact ⟨rfl, rfl⟩

/-- A did:web DID that this node manages (present in its own store, active or deactivated) resolves without any
    outbound request, whatever the servers would answer. -/
theorem local_first_no_network (dec : List Nat) (cts : List Bytes) (pol : Policy) (strict : Bool) (n : Node) (allow : Bool)
    (d : DID) (srv : Nat → Req → Option Resp) (hm : d.method = sWeb) (hl : n.localState d ≠ .absent) :
    (resolve dec cts pol true strict n allow d srv).1 = [] := by
  rw [resolve_web hm]
  by_cases hs : n.didMethods.contains sWeb = true
  · rw [if_pos hs, if_pos rfl]
    cases hst : n.localState d
    · exact absurd hst hl
    all_goals rfl
  · rw [if_neg hs]

/-- A storage fault while looking up a did:web DID (any store error other than "no such record") stops the resolution
    with that error: no outbound request — the node never answers for a possibly managed, possibly deactivated DID with
    whatever the web serves. -/
theorem local_store_fault_no_network (dec : List Nat) (cts : List Bytes) (pol : Policy) (strict : Bool) (n : Node) (allow : Bool)
    (d : DID) (srv : Nat → Req → Option Resp) (hm : d.method = sWeb) (hc : n.didMethods.contains sWeb = true)
    (hf : n.localState d = .dbError) :
    resolve dec cts pol true strict n allow d srv = ([], .err "db") := by
  rw [resolve_web hm, if_pos hc, if_pos rfl, hf]
  rfl

/-- A deactivated DID (did:web in the node's store, or did:nuts) does not resolve unless the caller allows it, and
    with the flag it resolves marked as deactivated — without touching the network. -/
theorem deactivated_needs_flag (dec : List Nat) (cts : List Bytes) (pol : Policy) (strict : Bool) (n : Node)
    (d : DID) (srv : Nat → Req → Option Resp)
    (hd : (d.method = sWeb ∧ n.didMethods.contains sWeb = true ∧ n.localState d = .deactivated) ∨
          (d.method = sNuts ∧ n.didMethods.contains sNuts = true ∧ n.nutsState d = .deactivated)) :
    resolve dec cts pol true strict n false d srv = ([], .err "deactivated") ∧
    resolve dec cts pol true strict n true d srv = ([], .ok { docID := d.str, deactivated := true }) := by
  have h : ∀ allow, resolve dec cts pol true strict n allow d srv = ([], resolveLocal .deactivated allow d) := by
    intro allow
    rcases hd with ⟨hm, hc, hs⟩ | ⟨hm, hc, hs⟩
    · rw [resolve_web hm, if_pos hc, if_pos rfl, hs]
    · rw [resolve_nuts hm, if_pos hc, hs]
  exact ⟨h false, h true⟩

/-- non-vacuity: `.deactivated` is the state of a history — SQL: the last version decides; did:nuts: for good -/
example : sqlState [true, false] = .deactivated ∧ sqlState [true, false, true] = .active ∧
    nutsStateOf [true, false, true] = .deactivated := by decide

/-! ### the SQL lookup of the local-first resolver -/

/-- `Latest` selects with `did = ?` on the exact DID string, newest version first, first row -/
theorem fact_local_lookup_query : Facts.C18.latestQuery = latestQueryModelled := rfl

/-- **The local lookup is exact.** Whatever the table holds (other tenants, DIDs that differ only in letter case, any
    histories), the row `Latest` returns carries exactly the requested DID string, is a row of the table, and respects
    the time bound. -/
theorem local_lookup_exact (rows : List DocRow) (d : Bytes) (t : Int) (r : DocRow)
    (h : sqlLatest rows d t = some r) : r.did = d ∧ r ∈ rows ∧ r.updatedAt ≤ t :=
  sqlLatest_exact rows d t r h

/-- rows of OTHER DIDs never influence a lookup: histories of case variants do not merge -/
theorem local_lookup_ignores_other_dids (rows : List DocRow) (d : Bytes) (t : Int) :
    sqlLatest rows d t = sqlLatest (rows.filter (fun r => r.did = d)) d t :=
  sqlLatest_filter rows d t

/-- refinement: the resolver on the SQL table (document built from the ROW) is the abstract `resolveLocal` on the
    state the exact lookup yields; in particular the returned id is the requested DID -/
theorem local_sql_refines (rows : List DocRow) (t : Int) (allow : Bool) (d : DID) :
    sqlResolveLocal rows t allow d = resolveLocal (sqlLocalState rows t d) allow d := by
  unfold sqlResolveLocal sqlLocalState
  cases h : sqlLatest rows d.str t with
  | none => simp [rowState, resolveLocal]
  | some r =>
    have := (sqlLatest_exact _ _ _ _ h).1
    by_cases ha : r.active <;> simp [rowState, ha, resolveLocal, this]

/-- end to end: resolution of `d` on a node with table `rows` (router, local-first chain, did:web fetch) is the
    resolution on the node that holds ONLY `d`'s own versions — a DID that is not managed itself is looked up at its
    own origin even when a case variant is managed, and a deactivated DID stays deactivated whatever its siblings do. -/
theorem local_resolution_independent_of_other_dids (dec : List Nat) (cts : List Bytes) (pol : Policy) (lf strict : Bool)
    (methods : List Bytes) (kd : DID → Bool) (ns : DID → LocalState) (rows : List DocRow) (t : Int) (allow : Bool) (d : DID)
    (srv : Nat → Req → Option Resp) :
    resolve dec cts pol lf strict { didMethods := methods, localState := sqlLocalState rows t, keyDecodes := kd, nutsState := ns } allow d srv =
    resolve dec cts pol lf strict { didMethods := methods, localState := sqlLocalState (rows.filter (fun r => r.did = d.str)) t, keyDecodes := kd, nutsState := ns } allow d srv := by
  have h : sqlLocalState rows t d = sqlLocalState (rows.filter (fun r => r.did = d.str)) t d := by
    unfold sqlLocalState; rw [sqlLatest_filter]
  unfold resolve
  simp only [h]

/-- non-vacuity: `…:iam:tenant` (3 versions, active) and `…:iam:Tenant` (2 versions, deactivated) in one table: each
    lookup sees its own history; a third variant is absent -/
example :
    let lo : Bytes := [116]; let up : Bytes := [84]; let other : Bytes := [116, 84]
    let rows := rowsOf lo [true, true, true] ++ rowsOf up [true, false]
    rowState (sqlLatest rows lo 0) = .active ∧ rowState (sqlLatest rows up 0) = .deactivated ∧
    rowState (sqlLatest rows other 0) = .absent ∧ (sqlLatest rows up 0).map (·.version) = some 1 := by decide

/-! ### the stateful HTTP response cache did:web resolution goes through (http/client/caching.go) -/

/-- the control flow of get / insert / removeExpiredEntries / pop / RoundTrip / cacheResponse that
    `NutsModel/C18/RCache.lean` mirrors, statement by statement (regenerated; an edit of caching.go flips this) -/
theorem fact_cache_flow :
    Facts.C18.cacheFlow_get = ["call h.mux.Lock()", "call h.removeExpiredEntries()", "entries := h.entriesByURL[httpRequest.URL.String()]", "range entries",
      "if entry.requestMethod == httpRequest.Method && entry.requestRawQuery == httpRequest.URL.RawQuery", "return &<*ast.CompositeLit>", "return nil"] ∧
    Facts.C18.cacheFlow_insert = ["if len(entry.responseData) > h.maxBytes", "return ", "call h.mux.Lock()",
      "for h.head != nil && h.currentSizeBytes + len(entry.responseData) > h.maxBytes", "_ = h.pop()",
      "if h.head == nil || entry.expirationTime.Before(h.head.expirationTime)", "entry.next = h.head", "h.head = entry",
      "for current.next != nil && current.next.expirationTime.Before(entry.expirationTime)", "current = current.next",
      "entry.next = current.next", "current.next = entry",
      "h.entriesByURL[entry.requestURL.String()] = append(h.entriesByURL[entry.requestURL.String()], entry)",
      "h.currentSizeBytes += len(entry.responseData)"] ∧
    Facts.C18.cacheFlow_removeExpiredEntries = ["for current != nil", "if current.expirationTime.Before(time.Now())", "current = h.pop()", "break"] ∧
    Facts.C18.cacheFlow_pop = ["if h.head == nil", "return nil", "requestURL := h.head.requestURL.String()", "entries := h.entriesByURL[requestURL]",
      "range entries", "if entry == h.head", "h.entriesByURL[requestURL] = append(entries[:i], entries[i + 1:])",
      "if len(h.entriesByURL[requestURL]) == 0", "call delete(h.entriesByURL, requestURL)", "break",
      "h.currentSizeBytes -= len(h.head.responseData)", "h.head = h.head.next", "return h.head"] ∧
    Facts.C18.cacheFlow_RoundTrip = ["if httpRequest.Method == http.MethodGet", "if response != nil", "response := r.cache.get(httpRequest)",
      "return response, nil", "httpResponse, err := r.wrappedTransport.RoundTrip(httpRequest)", "if err != nil", "return nil, err",
      "err = r.cacheResponse(httpRequest, httpResponse)", "if err != nil", "return nil, err", "return httpResponse, nil"] ∧
    Facts.C18.cacheFlow_cacheResponse = ["if httpRequest.Method != http.MethodGet", "return nil",
      "reasons, expirationTime, err := cachecontrol.CachableResponse(httpRequest, httpResponse, <*ast.CompositeLit>)", "if err != nil", "return nil",
      "maxExpirationTime := time.Now().Add(maxCacheTime)", "if expirationTime.After(maxExpirationTime)", "expirationTime = maxExpirationTime",
      "if len(reasons) > 0 || expirationTime.IsZero()", "return nil", "responseBytes, err := io.ReadAll(httpResponse.Body)", "if err != nil",
      "return fmt.Errorf(\"error while reading response body for caching: %w\", err)", "call r.cache.insert(&<*ast.CompositeLit>)",
      "httpResponse.Body = io.NopCloser(bytes.NewReader(responseBytes))", "return nil"] ∧
    maxCacheMinutes Facts.C18.maxCacheTimeExpr = some 60 := ⟨rfl, rfl, rfl, rfl, rfl, rfl, by decide⟩

/-- **Invariant of every reachable cache state** (any capacity, any sequence of lookups, inserts, pops and round
    trips — every call returns, the model's loops are structural recursions): the expiry list and the URL index hold
    exactly the same entries (no entry can be answered that expiry and eviction cannot reach); the list is ordered by
    expiry; pointer identities are distinct; `currentSizeBytes` is exactly the number of body bytes held (by the index
    and by the list); and a non-empty cache never exceeds its byte limit. -/
theorem rcache_invariant (maxBytes : Int) (ops : List COp) :
    let c := (RCache.new maxBytes).run ops
    (∀ e, e ∈ c.list ↔ e ∈ c.all) ∧ c.list.Pairwise (fun a b => a.exp ≤ b.exp) ∧ (c.all.map (·.id)).Nodup ∧
    c.size = sumSizes c.all ∧ c.size = sumSizes c.list ∧ (c.list = [] ∨ c.size ≤ c.maxBytes) ∧ c.maxBytes = maxBytes := by
  obtain ⟨i, m⟩ := run_inv ops _ (new_inv maxBytes)
  exact ⟨i.t.same, i.t.sorted, i.t.nodupAll, i.t.acct, i.t.acctL, i.cap, m⟩

/-- **A cache hit is the entry of exactly this request**: same URL string, same method, same raw query — in every state. -/
theorem rcache_hit_sound (c : RCache) (now : Int) (k m q : Bytes) (e : CEntry) (h : (c.get now k m q).2 = some e) :
    e.key = k ∧ e.method = m ∧ e.query = q ∧ e ∈ (c.get now k m q).1.all :=
  get_hit c now k m q e h

/-- composed with the injectivity of the index: an entry stored for URL `v` is never the answer for another URL `u`
    (other scheme, user-info, host, port, path, query or fragment), through any history of the cache -/
theorem rcache_hit_same_url (c : RCache) (now : Int) (u v : CUrl) (hu : u.wf = true) (hv : v.wf = true) (m q : Bytes) (e : CEntry)
    (hstored : e.key = cacheKey v) (h : (c.get now (cacheKey u) m q).2 = some e) : u = v :=
  cache_key_injective u v hu hv ((get_hit c now _ m q e h).1.symm.trans hstored)

/-- **Expired entries are never served**: in every reachable state, whatever the lookup, a hit has not expired. -/
theorem rcache_hit_not_expired (maxBytes : Int) (ops : List COp) (now : Int) (k m q : Bytes) (e : CEntry)
    (h : (((RCache.new maxBytes).run ops).get now k m q).2 = some e) : ¬ e.exp < now := by
  obtain ⟨i, _⟩ := run_inv ops _ (new_inv maxBytes)
  exact removeExpired_fresh _ i now e (get_hit _ now k m q e h).2.2.2

/-- **What a round trip can add** (any state, any answer of the wrapped transport and of the cache-control library):
    every entry present afterwards was present before, or it is the answer to THIS request — a GET, declared cacheable
    by the library, stored under exactly this URL string / method / raw query, and expiring no later than the
    library's expiry and no later than `now + maxCacheTime`.  Hence a transport error, a non-GET request and a
    non-cacheable answer add nothing (the cache is unchanged but for pruning). -/
theorem rcache_round_trip_adds_only_this_cacheable_get (c : RCache) (now mc : Int) (k m q : Bytes) (i : Inner) :
    ∀ x ∈ (c.roundTrip now mc k m q i).1.all, x ∈ c.all ∨
      (m = sGET ∧ x.key = k ∧ x.method = m ∧ x.query = q ∧ x.exp ≤ now + mc ∧ ∃ size t, i = .resp size (some t) ∧ x.size = size ∧ x.exp ≤ t) := by
  intro x hx
  obtain ⟨c1, hc1, hr⟩ := roundTrip_cases c now mc k m q i
  have sub : ∀ x ∈ c1.all, x ∈ c.all := by
    rcases hc1 with rfl | rfl
    · exact fun _ h => h
    · exact get_allSub c now k m q
  rcases hr with h | h <;> rw [h] at hx
  · exact .inl (sub x hx)
  · exact (rtMiss_all c1 now mc k m q i x hx).imp_left (sub x)

/-- non-vacuity: max-age of 2 h is capped at 1 h (60000 units); a POST and a `no-store` answer leave the cache empty -/
example :
    ((RCache.new 100).roundTrip 5 60000 [97] sGET [] (.resp 8 (some 120005))).1.all.map (·.exp) = [60005] ∧
    ((RCache.new 100).roundTrip 5 60000 [97] [80, 79, 83, 84] [] (.resp 8 (some 120005))).1.all = [] ∧
    ((RCache.new 100).roundTrip 5 60000 [97] sGET [] (.resp 8 none)).1.all = [] ∧
    ((RCache.new 100).roundTrip 5 60000 [97] sGET [] .fail).1.all = [] := by decide

/-- non-vacuity: three inserts out of order (one already expired), a lookup at time 3: ordered list, the expired entry
    is gone from list AND index, the fresh one is a hit -/
example :
    let k1 : Bytes := [97]; let k2 : Bytes := [98]; let k3 : Bytes := [99]
    let c := (RCache.new 100).run [.insert k1 sGET [] 8 90000, .insert k2 sGET [] 8 (-30000), .insert k3 sGET [] 8 30000]
    c.list.map (·.id) = [1, 2, 0] ∧ ((c.get 3 k2 sGET []).2 = none) ∧ ((c.get 3 k2 sGET []).1.all.map (·.id) = [0, 2]) ∧
    ((c.get 3 k1 sGET []).2.map (·.id) = some 0) ∧ c.size = 24 := by decide

/-- a body of exactly the cache's size fits an empty cache; one byte more is refused (state unchanged but for the id) -/
example : ((RCache.new 24).insert [97] sGET [] 24 90000).size = 24 ∧ ((RCache.new 24).insert [97] sGET [] 25 90000).all = [] ∧
    (((RCache.new 24).insert [97] sGET [] 20 5).insert [98] sGET [] 10 7).list.map (·.id) = [1] := by decide

/-- **The defect that was repaired (commit b991549), on the code as it was** (`NutsModel/C18/RCacheOld.lean`; both
    witnesses were replayed on the real pre-fix cache by the harness and by the new Go test): (1) an entry displaced
    from the expiry list by a later insert is still answered 30 minutes after its expiry; (2) inserting a body of
    exactly the cache's size does not return (`hang`: the make-room loop pops an empty list for ever). -/
theorem old_cache_defect_witness :
    (∃ c c2, (Old.RCache.new 100).run [.insert [97] sGET [] 8 (-30000)] = some c ∧ c.insert [98] sGET [] 8 90000 = .ok c2 ∧
      ((c2.get 3 [97] sGET []).2.map (·.exp)) = some (-30000) ∧ c2.list.map (·.id) = [1]) ∧
    (Old.RCache.new 24).insert [97] sGET [] 24 90000 = .err "hang" := by
  refine ⟨⟨_, _, rfl, rfl, ?_, ?_⟩, ?_⟩ <;> decide

/-! ### did:key as a function of the identifier (vdr/didkey/resolver.go) -/

/-- the multicodec switch of `didkey.Resolver.Resolve` (case order, constant values from the go-multicodec version of
    go.mod, what each case does with the key bytes), its refusing `default`, and the checks before it -/
theorem fact_did_key_table :
    Facts.C18.didKeyTable = [(235, "Bls12_381G2Pub", .unsupported), (236, "X25519Pub", .fixedLen 32), (237, "Ed25519Pub", .fixedLen 32),
      (231, "Secp256k1Pub", .unsupported), (4608, "P256Pub", .ec (some 33)), (4609, "P384Pub", .ec (some 49)), (4610, "P521Pub", .ec none),
      (4613, "RsaPub", .rsa)] ∧ Facts.C18.didKeyDefaultRefuses = true ∧
    Facts.C18.didKeyPrelude = ["id.Method != MethodName", "len(encodedKey) == 0 || encodedKey[0] != 'z'", "err != nil", "err != nil", "err != nil"] := ⟨rfl, rfl, rfl⟩

/-- **did:key acceptance is sound**: for EVERY identifier, base58 verdict and library verdicts, if the resolver's
    decision procedure accepts, the identifier starts with `z`, its bytes start with a varint naming one of the six
    supported public-key codecs, and the key bytes have that codec's length (32 / 33 / 49) resp. passed the curve /
    PKCS#1 + 2048-bit checks.  (Together with `id_bound` / `jwk_key_pure`: the document is a function of the identifier.) -/
theorem did_key_accept_sound (id : Bytes) (decoded : Option Bytes) (lib : KeyLib)
    (h : resolveKeyClass Facts.C18.didKeyTable id decoded lib = .ok) :
    id.head? = some cZ ∧ ∃ mc code key, decoded = some mc ∧ readUvarint mc = .ok (code, key) ∧
      (((code = 236 ∨ code = 237) ∧ key.length = 32) ∨ (code = 4608 ∧ key.length = 33 ∧ lib.ecOK = true) ∨
       (code = 4609 ∧ key.length = 49 ∧ lib.ecOK = true) ∨ (code = 4610 ∧ lib.ecOK = true) ∨
       (code = 4613 ∧ lib.rsa ≠ "parse" ∧ lib.rsa ≠ "small")) := by
  obtain ⟨hz, mc, code, key, row, hd, hr, hf, hact⟩ := resolveKeyClass_ok _ id decoded lib h
  refine ⟨hz, mc, code, key, hd, hr, ?_⟩
  have hc : row.1 = code := by simpa using List.find?_some hf
  have hmem := List.mem_of_find?_eq_some hf
  simp only [Facts.C18.didKeyTable, List.mem_cons, List.mem_nil_iff, or_false] at hmem
  rcases hmem with rfl | rfl | rfl | rfl | rfl | rfl | rfl | rfl <;> simp_all

/-- **Round trip of the multicodec prefix** (`binary.AppendUvarint` / `binary.ReadUvarint` as modelled): every 64-bit
    codec value, canonically encoded and followed by any key bytes, reads back as that value with the key bytes intact -/
theorem multicodec_prefix_roundtrip (n : Nat) (hn : n < 2 ^ 64) (rest : Bytes) :
    readUvarint (appendUvarint n ++ rest) = .ok (n, rest) := by
  rw [readUvarint, readUvarintAux_append 9 n 0 0 0 rest rfl hn, Nat.zero_add, Nat.pow_zero, Nat.mul_one]

/-- non-vacuity: an Ed25519 identifier (0xed 0x01 + 32 bytes) is accepted; 31 bytes, secp256k1 (0xe7 0x01), an
    11-byte varint and a truncated varint are refused at the modelled sites -/
example :
    let k32 : Bytes := List.replicate 32 7
    resolveKeyClass Facts.C18.didKeyTable [122, 54] (some ([237, 1] ++ k32)) {} = .ok ∧
    resolveKeyClass Facts.C18.didKeyTable [122, 54] (some ([237, 1] ++ k32.tail)) {} = .len ∧
    resolveKeyClass Facts.C18.didKeyTable [122, 54] (some ([231, 1] ++ k32)) {} = .unsupported "Secp256k1Pub" ∧
    resolveKeyClass Facts.C18.didKeyTable [122, 54] (some (List.replicate 10 255 ++ [1])) {} = .multicodec ∧
    resolveKeyClass Facts.C18.didKeyTable [122, 54] (some [237]) {} = .multicodec ∧
    resolveKeyClass Facts.C18.didKeyTable [54] (some ([237, 1] ++ k32)) {} = .noz ∧
    readUvarint [128, 36, 9] = .ok (4608, [9]) := by decide +kernel

example : readUvarint (appendUvarint 4613 ++ [48, 130]) = .ok (4613, [48, 130]) :=
  multicodec_prefix_roundtrip 4613 (by decide) [48, 130]

/-! ### did:jwk (vdr/didjwk/resolver.go) — the document is a function of the identifier's base64 text -/

/-- the statement sequence of `didjwk.Resolver.Resolve` and `rawPrivateKeyOf` as regenerated from the source (method guard,
    `base64.RawStdEncoding.DecodeString`, parser, private-key refusal `rawPrivateKey != nil`, EC point condition, the
    returned document gets `document.ID = id`), and the refusal order the model runs with is the regenerated one -/
theorem fact_did_jwk_flow :
    Facts.C18.jwkFlow_Resolve =
      ["if id.Method != \"jwk\"", "return nil, nil, fmt.Errorf(\"unsupported DID method: %s\", id.Method)", "b64EncodedJWK := id.ID",
       "encodedJWK, err := base64.RawStdEncoding.DecodeString(b64EncodedJWK)", "if err != nil",
       "return nil, nil, fmt.Errorf(\"failed to decode base64 (%v): %w\", b64EncodedJWK, err)", "key, err := jwk.ParseKey(encodedJWK)",
       "if err != nil", "return nil, nil, fmt.Errorf(\"failed to parse JWK: %w\", err)", "rawPrivateKey, err := rawPrivateKeyOf(key)",
       "if err != nil", "return nil, nil, fmt.Errorf(\"rawPrivateKeyOf() failed: %w\", err)", "if rawPrivateKey != nil",
       "return nil, nil, fmt.Errorf(\"private keys are forbidden in DID JWK: %T\", rawPrivateKey)",
       "publicRawKey, err := jwk.PublicRawKeyOf(key)", "if err != nil",
       "return nil, nil, fmt.Errorf(\"failed to get PublicRawKeyOf(key): %w\", err)", "if-init ecKey, ok := <*ast.TypeAssertExpr>", "if ok",
       "p := ecKey.Curve.Params().P",
       "if ecKey.X == nil || ecKey.Y == nil || ecKey.X.Sign() < 0 || ecKey.Y.Sign() < 0 || ecKey.X.Cmp(p) >= 0 || ecKey.Y.Cmp(p) >= 0 || !ecKey.Curve.IsOnCurve(ecKey.X, ecKey.Y)",
       "return nil, nil, errors.New(\"invalid JWK: EC public key is not a point on its curve\")", "keyID := <*ast.CompositeLit>",
       "keyID.Fragment = \"0\"", "verificationMethod, err := did.NewVerificationMethod(keyID, godid.JsonWebKey2020, id, publicRawKey)",
       "if err != nil", "return nil, nil, fmt.Errorf(\"failed to create verification method: %w\", err)", "document.ID = id",
       "call document.AddAssertionMethod(verificationMethod)", "return &document, &<*ast.CompositeLit>, nil"] ∧
    Facts.C18.jwkFlow_rawPrivateKeyOf =
      ["if-init err := key.Raw(&rawUnspecifiedKey)", "if err != nil", "return nil, fmt.Errorf(\"failed to get raw key: %w\", err)",
       "publicKey, err := jwk.PublicKeyOf(key)", "if err != nil", "return nil, fmt.Errorf(\"failed to get public key: %w\", err)",
       "if-init err := publicKey.Raw(&rawPublicKey)", "if err != nil", "return nil, fmt.Errorf(\"failed to get raw public key: %w\", err)",
       "if reflect.DeepEqual(rawUnspecifiedKey, rawPublicKey)", "return nil, nil", "return rawUnspecifiedKey, nil"] ∧
    Facts.C18.jwkRefusals.take 2 = ["unsupported DID method: %s", "failed to decode base64 (%v): %w"] ∧
    jwkOrderOf Facts.C18.jwkRefusals = jwkOrder := ⟨rfl, rfl, rfl, by decide +kernel⟩

/-- **did:jwk acceptance is sound**: whatever the library says about the decoded bytes — when `Resolve` (refusal order
    regenerated from the source) accepts `did:<method>:<id>`, the method is `jwk`, the identifier IS unpadded standard
    base64 of some bytes `raw`, the JWK parser accepted exactly those bytes, they carry NO private key, and an EC key is a
    point of its curve.  (The document then is `document.ID = id` with that key: `id_bound`, `jwk_key_pure`.) -/
theorem did_jwk_accept_sound (method id : Bytes) (lib : Bytes → JwkLib)
    (h : resolveJwkClass (jwkOrderOf Facts.C18.jwkRefusals) method id lib = .ok) :
    method = sJwk ∧ ∃ raw, b64Decode id = .ok raw ∧ (lib raw).parseOK = true ∧ (lib raw).rawErr = false ∧
      (lib raw).isPrivate = false ∧ (lib raw).pubRawErr = false ∧ ((lib raw).isEC = true → (lib raw).onCurve = true) ∧
      (lib raw).vmErr = false := by
  rw [fact_did_jwk_flow.2.2.2] at h
  revert h
  fun_cases resolveJwkClass jwkOrder method id lib with
  | case4 hm raw hd => exact fun h => ⟨Decidable.not_not.mp hm, raw, hd, jwkOrder_ok (lib raw) h⟩
  | _ => nofun

/-- **The identifier determines the key bytes** (`base64.RawStdEncoding` as modelled, unbounded): the unpadded standard
    encoding of ANY byte string decodes back to exactly that byte string — so a did:jwk identifier built from a JWK text
    resolves against that very text, whatever its length -/
theorem b64_decode_encode (bs : Bytes) (h : ∀ x ∈ bs, x < 256) : b64Decode (b64Enc bs) = .ok bs := by
  unfold b64Decode
  induction bs using b64Enc.induct with
  | case1 => rfl
  | case2 a =>
    have h0 : a / 4 < 64 := Nat.div_lt_of_lt_mul (h a (.head _))
    have h1 : a % 4 * 16 < 64 := digits_lt (y := 0) (Nat.mod_lt a (by decide)) (by decide : 0 < 16)
    rw [b64Enc, b64Dec_step _ _ _ h0, b64Dec_step _ _ _ h1]
    simp only [List.nil_append, List.cons_append, b64DecAux]
    rw [Nat.mul_div_cancel _ (by decide), Nat.div_add_mod']
    all_goals simp
  | case3 a b =>
    have h0 : a / 4 < 64 := Nat.div_lt_of_lt_mul (h a (.head _))
    have hb : b / 16 < 16 := Nat.div_lt_of_lt_mul (h b (.tail _ (.head _)))
    have h1 : a % 4 * 16 + b / 16 < 64 := digits_lt (Nat.mod_lt a (by decide)) hb
    have h2 : b % 16 * 4 < 64 := digits_lt (y := 0) (Nat.mod_lt b (by decide)) (by decide : 0 < 4)
    rw [b64Enc, b64Dec_step _ _ _ h0, b64Dec_step _ _ _ h1, b64Dec_step _ _ _ h2]
    simp only [List.nil_append, List.cons_append, b64DecAux]
    rw [(digits _ hb).1, (digits _ hb).2, Nat.mul_div_cancel _ (by decide), Nat.div_add_mod', Nat.div_add_mod']
    all_goals simp
  | case4 a b c rest ih =>
    have h0 : a / 4 < 64 := Nat.div_lt_of_lt_mul (h a (.head _))
    have hb : b / 16 < 16 := Nat.div_lt_of_lt_mul (h b (.tail _ (.head _)))
    have hc : c / 64 < 4 := Nat.div_lt_of_lt_mul (h c (.tail _ (.tail _ (.head _))))
    have h1 : a % 4 * 16 + b / 16 < 64 := digits_lt (Nat.mod_lt a (by decide)) hb
    have h2 : b % 16 * 4 + c / 64 < 64 := digits_lt (Nat.mod_lt b (by decide)) hc
    rw [b64Enc, b64Dec_step _ _ _ h0, b64Dec_step _ _ _ h1, b64Dec_step _ _ _ h2]
    simp only [List.nil_append, List.cons_append]
    rw [b64Dec_step3 _ _ _ _ _ (Nat.mod_lt c (by decide)) rest (ih fun x hx => h x (.tail _ (.tail _ (.tail _ hx)))),
      (digits _ hb).1, (digits _ hb).2, (digits _ hc).1, (digits _ hc).2,
      Nat.div_add_mod', Nat.div_add_mod', Nat.div_add_mod']
    all_goals simp

/-- did:jwk resolution of an encoded JWK text sees exactly that text: end to end through the decoder and the refusal order -/
theorem did_jwk_of_encoded_text (order : List String) (bs : Bytes) (h : ∀ x ∈ bs, x < 256) (lib : Bytes → JwkLib) :
    resolveJwkClass order sJwk (b64Enc bs) lib = jwkSteps (lib bs) order := by
  unfold resolveJwkClass
  rw [if_neg (by simp), b64_decode_encode bs h]

/-- non-vacuity: `{}` (`e30`) decodes and is refused by the parser verdict; a private key is refused AFTER parsing and BEFORE
    the curve check; `=` padding, `-` / `_` (URL alphabet) and a single left-over character are not base64 for Go's raw
    standard decoder, CR / LF are skipped, non-zero trailing bits are accepted (`e31` = `e30`-quantum + other low bits) -/
example :
    b64Decode [101, 51, 48] = .ok [123, 125] ∧ b64Enc [123, 125] = [101, 51, 48] ∧
    b64Decode [101, 51, 49] = .ok [123, 125] ∧
    b64Decode [101, 10, 51, 13, 48] = .ok [123, 125] ∧
    b64Decode [101, 51, 48, 61] = .err "corrupt" ∧ b64Decode [101, 45, 48] = .err "corrupt" ∧ b64Decode [101] = .err "corrupt" ∧
    b64Decode [101, 51, 48, 101, 101] = .err "corrupt" ∧
    resolveJwkClass jwkOrder sJwk [101, 51, 48] (fun _ => { parseOK := false }) = .parse ∧
    resolveJwkClass jwkOrder sJwk [101, 51, 48] (fun _ => { isPrivate := true, isEC := true, onCurve := false }) = .priv ∧
    resolveJwkClass jwkOrder sJwk [101, 51, 48] (fun _ => { isEC := true, onCurve := false }) = .curve ∧
    resolveJwkClass jwkOrder sJwk [101, 51, 48] (fun _ => {}) = .ok ∧
    resolveJwkClass jwkOrder sKey [101, 51, 48] (fun _ => {}) = .method := by decide +kernel

example : b64Decode (b64Enc [123, 34, 107, 116, 121, 34, 58, 49, 125]) = .ok [123, 34, 107, 116, 121, 34, 58, 49, 125] :=
  b64_decode_encode _ (by decide)

/-! ### vdr/resolver/did.go as general code — chains of any length, router registrations -/

/-- the loop of `ChainedDIDResolver.Resolve` and the lookup of `DIDResolverRouter.Resolve` as regenerated from the source -/
theorem fact_chain_router_flow :
    Facts.C18.chainFlow_Resolve =
      ["range c.Resolvers", "document, metadata, err := resolver.Resolve(id, metadata)", "if err == nil", "return document, metadata, nil",
       "else", "if errors.Is(err, ErrNotFound)", "continue", "else", "return nil, nil, err", "return nil, nil, ErrNotFound"] ∧
    Facts.C18.routerFlow_Resolve =
      ["method := id.Method", "didResolver, registered := r.resolvers.Load(method)", "if !registered",
       "return nil, nil, ErrDIDMethodNotSupported", "return <*ast.TypeAssertExpr>.Resolve(id, metadata)"] ∧
    Facts.C18.routerFlow_Register = ["call r.resolvers.Store(method, resolver)"] ∧
    Facts.C18.deactivatedIsFlow = ["_, result := <*ast.TypeAssertExpr>", "return result"] := ⟨rfl, rfl, rfl, rfl⟩

/-- **The first answer of a chain wins, for chains of ANY length**: every resolver asked before the last one said
    NotFound; a result other than NotFound is the answer of the last resolver asked; NotFound means every resolver was
    asked and said NotFound -/
theorem chain_first_answer_wins (l : List ROut) :
    (chainResolve l).2 ≤ l.length ∧
    (∀ i, i + 1 < (chainResolve l).2 → l[i]? = some .notFound) ∧
    ((chainResolve l).1 ≠ .notFound → 0 < (chainResolve l).2 ∧ l[(chainResolve l).2 - 1]? = some (chainResolve l).1) ∧
    ((chainResolve l).1 = .notFound → (chainResolve l).2 = l.length ∧ ∀ x ∈ l, x = .notFound) := by
  fun_induction chainResolve l with
  | case1 => simp
  | case2 rest ih =>
    obtain ⟨h1, h2, h3, h4⟩ := ih
    refine ⟨by simp; omega, ?_, ?_, ?_⟩
    · intro i hi
      cases i with
      | zero => simp
      | succ k => simp only [List.getElem?_cons_succ]; exact h2 k (by omega)
    · intro hne
      obtain ⟨hp, hl⟩ := h3 hne
      refine ⟨by omega, ?_⟩
      have : (chainResolve rest).2 + 1 - 1 = ((chainResolve rest).2 - 1) + 1 := by omega
      rw [this, List.getElem?_cons_succ]; exact hl
    · intro he
      obtain ⟨hl, ha⟩ := h4 he
      refine ⟨by simp [hl], ?_⟩
      intro x hx
      cases hx with
      | head => rfl
      | tail _ hm => exact ha x hm
  | case3 o rest ho => simp; exact fun h => (ho h).elim

/-- **Nothing after the first answer is asked or matters** — in particular an error of the node's own store
    (deactivated, no active controller, storage fault) ends the chain: no later (network) resolver can overrule it -/
theorem chain_stops_at_first_answer (pre post : List ROut) (a : ROut) (hpre : ∀ x ∈ pre, x = .notFound) (ha : a ≠ .notFound) :
    chainResolve (pre ++ a :: post) = (a, pre.length + 1) := by
  induction pre with
  | nil => cases a <;> simp_all [chainResolve]
  | cons p rest ih =>
    have hp : p = .notFound := hpre p (by simp)
    subst hp
    have := ih (fun x hx => hpre x (by simp [hx]))
    simp only [List.cons_append, chainResolve, this, List.length_cons]

/-- the router hands a DID only to a resolver registered under EXACTLY its method (byte-wise) … -/
theorem router_exact_method {β} (regs : List (Bytes × β)) (method : Bytes) (r : β) (h : routerLookup regs method = some r) :
    (method, r) ∈ regs := by
  unfold routerLookup at h
  split at h
  · rename_i x hx
    have hm := List.mem_of_find?_eq_some hx
    have hp := List.find?_some hx
    simp at hp h
    subst h
    have : x = (method, x.2) := by rw [← hp]
    rw [this] at hm
    simpa using hm
  · cases h

/-- … and a later registration of a method replaces the earlier one -/
theorem router_last_registration_wins {β} (regs : List (Bytes × β)) (method : Bytes) (r : β) :
    routerLookup (regs ++ [(method, r)]) method = some r := by
  simp [routerLookup]

/-- **Refinement**: the node's did:web resolution (`resolve`, the abstract layer of `local_first_no_network`,
    `deactivated_needs_flag`, …) IS the general chain over [own SQL store, web]: same result class, and requests are made
    exactly when the chain reached its second member -/
theorem resolve_web_is_chain (dec : List Nat) (cts : List Bytes) (pol : Policy) (strict : Bool) (n : Node) (allow : Bool) (d : DID)
    (srv : Nat → Req → Option Resp) (hm : d.method = sWeb) (hs : n.didMethods.contains sWeb = true) :
    let c := chainResolve [toROut (resolveLocal (n.localState d) allow d), toROut (webOut dec cts pol strict d srv).2]
    toROut (resolve dec cts pol true strict n allow d srv).2 = c.1 ∧
    (resolve dec cts pol true strict n allow d srv).1 = (if c.2 = 2 then (webOut dec cts pol strict d srv).1 else []) := by
  rw [resolve_web hm, if_pos hs, if_pos rfl]
  cases n.localState d with
  | absent =>
    cases toROut (webOut dec cts pol strict d srv).2 <;> exact ⟨rfl, rfl⟩
  | deactivated => cases allow <;> exact ⟨rfl, rfl⟩
  | noActiveController => cases allow <;> exact ⟨rfl, rfl⟩
  | active => exact ⟨rfl, rfl⟩
  | dbError => exact ⟨rfl, rfl⟩

/-- non-vacuity: three resolvers; a deactivated answer of the second one ends the chain although the third would resolve -/
example : chainResolve [.notFound, .fail "deactivated", .ok 7] = (.fail "deactivated", 2) ∧
    chainResolve [.notFound, .notFound, .ok 7] = (.ok 7, 3) ∧ chainResolve [.notFound, .notFound] = (.notFound, 2) ∧
    chainResolve [] = (.notFound, 0) ∧
    routerLookup [([119], 1), ([106], 2), ([119], 3)] [119] = some 3 ∧ routerLookup [([119], 1)] [87] = (none : Option Nat) := by decide

example : chainResolve ([.notFound] ++ .fail "db" :: [.ok 1]) = (.fail "db", 2) :=
  chain_stops_at_first_answer [.notFound] [.ok 1] (.fail "db") (by simp) (by simp)

/-! ### resolution at a point in time (`ResolveMetadata.ResolveTime` -> `Latest(did, resolveTime)`) -/

/-- `didsubject.Resolver.Resolve` hands `metadata.ResolveTime` (when given) to `Latest` as the time bound -/
theorem fact_local_resolve_time : Facts.C18.localResolveTimeFlow =
    ["if metadata != nil && metadata.ResolveTime != nil", "notAfter = metadata.ResolveTime", "doc, err := didDocumentMananager.Latest(id, notAfter)"] := rfl

/-- **The lookup returns the NEWEST version that existed at the resolve time** — for every table and every time: no row of
    this DID with `updated_at <= t` has a higher version than the one returned … -/
theorem local_lookup_newest_at_time (rows : List DocRow) (d : Bytes) (t : Int) (r : DocRow) (h : sqlLatest rows d t = some r) :
    ∀ r' ∈ rows, r'.did = d → r'.updatedAt ≤ t → r'.version ≤ r.version :=
  sqlLatest_newest rows d t r h

/-- … and "not found" means exactly that NO version of this DID existed at that time -/
theorem local_lookup_not_found_iff (rows : List DocRow) (d : Bytes) (t : Int) :
    sqlLatest rows d t = none ↔ ∀ r' ∈ rows, r'.did = d → ¬ r'.updatedAt ≤ t :=
  sqlLatest_none_iff rows d t

/-- **Deactivation holds from its moment on** (all histories, all tables, all later resolve times): when the highest
    version of a DID is a deactivation written at `r.updatedAt`, every resolution at a time `t` at or after it — with or
    without `ResolveTime`, whatever earlier active versions and whatever other DIDs the table holds — is refused without
    `AllowDeactivated`, and with it returns this DID's document marked deactivated -/
theorem deactivated_from_then_on (rows : List DocRow) (d : DID) (r : DocRow) (t : Int)
    (hr : r ∈ rows) (hd : r.did = d.str) (hi : r.active = false)
    (hmax : ∀ r' ∈ rows, r'.did = d.str → r'.version ≤ r.version)
    (huniq : ∀ r' ∈ rows, r'.did = d.str → r'.version = r.version → r' = r)
    (ht : r.updatedAt ≤ t) :
    sqlResolveLocal rows t false d = .err "deactivated" ∧
    sqlResolveLocal rows t true d = .ok { docID := d.str, deactivated := true } := by
  cases h : sqlLatest rows d.str t with
  | none => exact absurd ht ((sqlLatest_none_iff rows d.str t).mp h r hr hd)
  | some r2 =>
    obtain ⟨e1, e2, _⟩ := sqlLatest_exact _ _ _ _ h
    have hge := sqlLatest_newest _ _ _ _ h r hr hd ht
    have hle := hmax r2 e2 e1
    have : r2 = r := huniq r2 e2 e1 (by omega)
    subst this
    have hs : sqlLocalState rows t d = .deactivated := by rw [sqlLocalState, h, rowState, hi]; rfl
    rw [local_sql_refines, local_sql_refines, hs]
    exact ⟨rfl, rfl⟩

/-- non-vacuity: active at 10, deactivated at 20, (case variant re-activated at 30): at 15 the active version answers, at 20
    and 1000 the DID is deactivated, at 5 it is not found -/
example :
    let d : DID := { method := sWeb, id := [97] }
    let rows : List DocRow := [{ did := d.str, version := 0, updatedAt := 10, active := true }, { did := d.str, version := 1, updatedAt := 20, active := false },
                               { did := [65], version := 2, updatedAt := 30, active := true }]
    sqlResolveLocal rows 15 false d = .ok { docID := d.str } ∧ sqlResolveLocal rows 20 false d = .err "deactivated" ∧
    sqlResolveLocal rows 1000 false d = .err "deactivated" ∧ sqlResolveLocal rows 5 false d = .err "not-found" ∧
    sqlResolveLocal rows 1000 true d = .ok { docID := d.str, deactivated := true } := by decide

/-! ### did:x509 (vdr/didx509) — the document is bound to the identifier AND to the presented chain -/

/-- the did:x509 tables and orders the model relies on, as regenerated from vdr/didx509: the validatorMap rows (policy, key,
    how the function literal compares `value` with which certificate attribute) ARE the model's table; the policy names
    that reach `validate` and the refusing default; the hash switch (after `strings.ToLower`); the thumbprint headers with
    their algorithms; the order of the calls of `Resolve` -/
theorem fact_x509_tables :
    tableOfFacts Facts.C18.x509ValidatorRows = some xValidatorTable ∧ Facts.C18.x509PolicyKeyCount = 12 ∧
    Facts.C18.x509PolicyNames = ["subject", "san"] ∧ Facts.C18.x509PolicyDefault = "err=ErrUnkPolicyType;" ∧
    Facts.C18.x509HashAlgsB = hashAlgs ∧ Facts.C18.x509HashLowered = true ∧
    Facts.C18.x509ThumbprintHeaders = [("x5t", "hashHeader", "sha1"), ("x5t#S256", "hash256Header", "sha256")] ∧
    Facts.C18.x509ResolveOrder = ["parseX509Did(id)", "metadata.GetProtectedHeaderChain(X509CertChainHeader)", "parseChain(chainHeader)",
      "findCertificateByHash(chain,ref.RootCertRef,ref.Method)", "findValidationCertificate(metadata,chain)",
      "validatePolicy(ref,validationCert)", "r.pkiValidator.CheckCRLStrict(chain)", "createDidDocument(id,validationCert)"] :=
  ⟨by decide +kernel, rfl, rfl, rfl, rfl, rfl, rfl, rfl⟩

/-- **The parsed reference is the identifier** (`parseX509Did`, every text): an accepted identifier is exactly
    `0:<alg>:<root>` followed by `::<name>:<value>` per policy — nothing of the text is dropped or reordered —
    hence two identifiers with the same reference are the same identifier. -/
theorem x509_reference_is_the_identifier (id : Bytes) (r : XRef) (h : parseX509Did id = .ok r) :
    id = refText r ∧ ∀ id', parseX509Did id' = .ok r → id' = id := by
  refine ⟨parseX509Did_shape id r h, fun id' h' => ?_⟩
  rw [parseX509Did_shape id r h, parseX509Did_shape id' r h']

/-- `strings.Split` / `strings.Join` on `"::"` as modelled are inverse on every text -/
theorem x509_split_join (s : Bytes) : joinDC (splitDC s) = s := joinDC_splitDC s

/-- **Every policy of the identifier is enforced** (`validatePolicy`, all policy lists, all certificates): a list is accepted
    iff each of its parts is; and an accepted list means: every policy is `subject`/`san`, every key of it is in
    `validatorMap` and the certificate carries the (query-unescaped) value. Appending a policy can only refuse more. -/
theorem x509_policies_all_enforced (tbl : XTbl) (c : XCert) (ps qs : List XPolicy) :
    (validatePolicy tbl c (ps ++ qs) = .ok () ↔ (validatePolicy tbl c ps = .ok () ∧ validatePolicy tbl c qs = .ok ())) ∧
    (validatePolicy tbl c ps = .ok () → ∀ p ∈ ps, policyHolds tbl c p) :=
  ⟨validatePolicy_append tbl c ps qs, validatePolicy_sound tbl c ps⟩

/-- **The validation certificate is the one every present thumbprint header names** (`findValidationCertificate`): it is in
    the chain, `x5t` (SHA-1) and `x5t#S256` (SHA-256) — each if present — are its hash, and at least one is present. -/
theorem x509_validation_cert_named_by_every_thumbprint (ids : List Nat) (x5t x5s : Option XTarget) (c : Nat)
    (h : findValidationCert ids x5t x5s = .ok c) :
    c ∈ ids ∧ (x5t = none ∨ x5t = some (.hashOf c sSha1)) ∧ (x5s = none ∨ x5s = some (.hashOf c sSha256)) ∧
      (x5t ≠ none ∨ x5s ≠ none) :=
  findValidationCert_sound ids x5t x5s c h

/-- **did:x509 binding** (`Resolver.Resolve`, every identifier, every header set, every certificate universe): a returned
    document has exactly the resolved DID as id; the identifier is `0:<alg>:<root>::…` read without loss; a chain was
    presented, the root reference is the hash (under the identifier's algorithm, lower-cased) of a certificate OF THAT CHAIN;
    the policies were checked against the chain certificate named by every present thumbprint header; every policy of the
    identifier holds for that certificate; the CRL check passed.  No step performs I/O (the function has no server argument). -/
theorem x509_accept_sound (tbl : XTbl) (method id : Bytes) (inp : XInput) (doc : Bytes)
    (h : resolveX509 tbl method id inp = .ok doc) : X509Accepted tbl method id inp doc := by
  revert h
  fun_cases resolveX509 tbl method id inp with
  | case15 hm ref hp ids hc root hr v hv hpol hcrl _ =>
    intro h
    cases h
    have sr := findByHash_sound _ _ _ _ hr
    have sv := findValidationCert_sound _ _ _ _ hv
    exact ⟨rfl, Decidable.not_not.mp hm, ref, ids, root, v, hp, parseX509Did_shape id ref hp, hc, sr.1, sr.2, sv.1, sv.2.1, sv.2.2.1, sv.2.2.2,
      validatePolicy_sound tbl _ _ hpol, by simpa using hcrl⟩
  | _ => nofun

/-- a nil `*ResolveMetadata` is dereferenced by `GetProtectedHeaderChain` (after the identifier parsed): panic, not an error -/
theorem x509_nil_metadata_panics :
    resolveX509 xValidatorTable sX509 [48, 58, 97, 58, 98] { chain := .nilMeta, x5t := none, x5tS256 := none, certs := fun _ => {}, crlOK := true, vmOK := true }
      = .panic "nil-metadata" := by decide

/-- non-vacuity: `0:sha256:H0sha256::subject:CN:a%2Bb::san:dns:x` over chain [0,1], x5t#S256 naming certificate 1 whose CN is
    `a+b` and which has DNS name `x`, resolves; with certificate 0 named (no such attributes) it is a mismatch; with the
    `san` policy first and an unknown key it is refused before the subject is looked at; ":::" splits as Go does -/
example :
    let id : Bytes := [48,58,115,104,97,50,53,54,58,72,48,115,104,97,50,53,54,58,58,115,117,98,106,101,99,116,58,67,78,58,97,37,50,66,98,58,58,115,97,110,58,100,110,115,58,120]
    let certs : Nat → XCert := fun k => if k = 1 then { cn := [97, 43, 98], dns := [[120]] } else {}
    let inp (k : Nat) : XInput := { chain := .chain [0, 1], x5t := none, x5tS256 := some (.hashOf k sSha256), certs := certs, crlOK := true, vmOK := true }
    resolveX509 xValidatorTable sX509 id (inp 1) = .ok (sDid ++ sX509 ++ 58 :: id) ∧
    resolveX509 xValidatorTable sX509 id (inp 0) = .err "mismatch" ∧
    resolveX509 xValidatorTable sX509 id { inp 1 with crlOK := false } = .err "crl" ∧
    resolveX509 xValidatorTable sX509 id { inp 1 with chain := .chain [1] } = .err "cert-not-found" ∧
    splitDC [97, 58, 58, 58, 98] = [[97], [58, 98]] ∧
    (parseX509Did id).isOk = true := by decide +kernel

example : findValidationCert [0, 1, 2] (some (.hashOf 2 sSha1)) (some (.hashOf 2 sSha256)) = .ok 2 ∧
    findValidationCert [0, 1, 2] (some (.hashOf 1 sSha1)) (some (.hashOf 2 sSha256)) = .err "thumbprints-differ" ∧
    findValidationCert [0, 1, 2] none none = .err "no-thumbprint" := by decide

end Nuts.C18.Props
