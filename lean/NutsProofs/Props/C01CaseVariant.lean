/-
  C01 — the case-variant guard of jsonldProof (NutsModel/C01/CaseVariant.lean)
-/
import NutsModel.C01.CaseVariant
namespace Nuts.C01.Props
open Nuts.C01

theorem ambItems_iff (xs : List JTree) : ambItems xs = true ↔ ∃ c ∈ xs, c.amb = true := by
  induction xs with
  | nil => simp [ambItems]
  | cons c rest ih =>
    rw [ambItems]
    cases h : c.amb <;> simp [h, ih]

theorem ambObj_seen_iff (seen : List String) (ms : List (String × JTree)) :
    ambObj seen ms = true ↔
      (∃ m ∈ ms, m.1 ∈ seen) ∨ ¬ (ms.map (·.1)).Nodup ∨ ∃ m ∈ ms, m.2.amb = true := by
  induction ms generalizing seen with
  | nil => simp [ambObj]
  | cons m rest ih =>
    obtain ⟨n, c⟩ := m
    rw [ambObj]
    -- a later member clashes with `n :: seen` iff it repeats `n` (the names are then not distinct) or clashes with `seen`
    simp only [Bool.if_true_left, Bool.or_eq_true, List.contains_eq_mem, decide_eq_true_eq, ih, List.mem_cons, List.mem_map,
      or_and_right, and_or_left, exists_or, exists_eq_left, List.map_cons, List.nodup_cons, Decidable.not_and_iff_not_or_not,
      Decidable.not_not]
    -- both sides are now the same six disjuncts
    exact iff_of_eq (by ac_rfl)

/-- an object is ambiguous iff two of its members have the same folded name or a member's value is ambiguous — a statement about
    the SET of members: the verdict is the same for every iteration order of Go's map -/
theorem ambObj_iff (ms : List (String × JTree)) :
    (JTree.obj ms).amb = true ↔ ¬ (ms.map (·.1)).Nodup ∨ ∃ m ∈ ms, m.2.amb = true := by
  rw [JTree.amb, ambObj_seen_iff]
  simp

theorem amb_order_irrelevant (ms ms' : List (String × JTree)) (h : ms.Perm ms') :
    (JTree.obj ms).amb = (JTree.obj ms').amb := by
  rw [Bool.eq_iff_iff, ambObj_iff, ambObj_iff, (h.map (·.1)).nodup_iff]
  simp only [h.mem_iff]

theorem topVariant_iff (top : List (String × List String)) :
    topVariant top = true ↔ ∃ p ∈ top, ∃ f ∈ p.2, f ≠ p.1 := by
  induction top with
  | nil => simp [topVariant]
  | cons p rest ih => simp [topVariant, ← ih]

/-- what `jsonldProof` guarantees about a document it goes on to verify: no top-level member is a case variant of a member go-did
    reads, no object at the top or inside any member's value has two member names that fold together -/
theorem caseVariantMember_false_iff (top : List (String × List String)) (ms : List (String × JTree)) :
    caseVariantMember top (.obj ms) = false ↔
      (∀ p ∈ top, ∀ f ∈ p.2, f = p.1) ∧ (ms.map (·.1)).Nodup ∧ ∀ m ∈ ms, m.2.amb = false := by
  have ht := not_congr (topVariant_iff top)
  have ha := not_congr (ambObj_iff ms)
  simp only [Bool.not_eq_true, not_exists, not_and, not_or, Decidable.not_not] at ht ha
  rw [← ht, ← ha, caseVariantMember]
  cases topVariant top <;> simp

example : caseVariantMember [("issuer", ["issuer"])] (.obj [("ISSUER", .leaf), ("A", .arr [.obj [("X", .leaf), ("Y", .leaf)]])]) = false := by decide
example : caseVariantMember [("Issuer", ["issuer"])] (.obj [("ISSUER", .leaf)]) = true := by decide
example : caseVariantMember [] (.obj [("A", .arr [.leaf, .obj [("X", .leaf), ("Y", .obj [("N", .leaf), ("N", .leaf)])]])]) = true := by decide
end Nuts.C01.Props
