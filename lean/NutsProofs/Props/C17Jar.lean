/-
  C17 — jar.validate's key-set tail (auth/api/iam/jar.go). Model: NutsModel/C17/JarSet.lean. The client's published key set
  is a LIST; LookupKeyID and compareThumbprint are executable definitions (where TokenPolicy.`jarValidate` has one opaque
  `clientKey` verdict computed by the harness).
-/
import NutsModel.C17.JarSet
import NutsModel.Facts.C17
import NutsProofs.Lemmas.C17Jar
import NutsProofs.Props.C17

namespace Nuts.C17.Props
open Nuts.C17 Nuts.C17.JarSet

/-- the regenerated tail of jar.validate: what the key callback records, how the client's key is looked up, the two exits after
    it in order with their OAuth2 error descriptions, compareThumbprint's exits and comparison -/
theorem fact_jar_keyset :
    Facts.C17.jarSignerKidAssign = ["signerKid = kid"] ∧
    Facts.C17.jarLookupStmt = "key, exists := configuration.JWKs.LookupKeyID(signerKid)" ∧
    Facts.C17.jarTailExits =
      [("err != nil", Exit.sigInvalid.show), ("err != nil", "invalid request parameter"),
       ("clientId != params.get(oauth.ClientIDParam)", Exit.clientIdClaim.show), ("err != nil", Exit.configUnavailable.show),
       ("!exists", Exit.notOwner.show), ("err := compareThumbprint(key, publicKey); err != nil", Exit.keyMismatch.show)] ∧
    Facts.C17.jarStmtKinds = ["decl", "decl", "assign:cryptoNuts.ParseJWT", "if", "assign:token.AsMap", "if", "assign:parseJWTClaims", "if",
       "assign:j.auth.IAMClient().OpenIDConfiguration", "if", "assign:configuration.JWKs.LookupKeyID", "if", "if", "return"] ∧
    Facts.C17.compareThumbprintErrConds = ["err != nil", "err != nil", "err != nil", "!bytes.Equal(thumbprintLeft, thumbprintRight)"] ∧
    Facts.C17.compareThumbprintCalls = ["configurationKey.Thumbprint", "jwk.FromRaw", "signerKey.Thumbprint", "bytes.Equal", "errors.New"] ∧
    Facts.C17.jarFinalReturn = "return params, nil" := by
  and_intros <;> rfl

/-- **accept_jarSet**: for ALL key sets (any length, duplicate kids, entries without thumbprint), environments and tokens: an
    accepted request object obeys ParseJWT's discipline, and the verification key — the one the DID resolver returned for the
    token's kid — is PUBLISHED by the client: the first entry of the client's key set carrying that kid has the key's thumbprint. -/
theorem accept_jarSet (E : Env) (J : SetEnv) (j : Jws) (vs : List Verified)
    (h : validate Facts.C17.supportedAlgs E J j = .accept vs) :
    Disciplined Facts.C17.supportedAlgs j vs (fun s v =>
      v.src = .resolver s.kid ∧ E.resolve s.kid = some v.key ∧ E.verifies v.key s.alg 0 = true ∧ E.fits v.key s.alg = true ∧
      J.clientIdMatches = true ∧
      ∃ pre e post t, J.keys = pre ++ e :: post ∧ (∀ x ∈ pre, x.kid ≠ s.kid) ∧ e.kid = s.kid ∧ e.tp = some t ∧ J.tpOf v.key = some t) := by
  obtain ⟨s, k, e, hs, hv, hres, hal, hver, hfit, hcid, _, hlk, hcmp⟩ := validate_accept h
  obtain ⟨pre, post, hl, hek, hpre⟩ := lookup_some hlk
  obtain ⟨t, het, htp⟩ := compare_true hcmp
  exact .single allowed_lists_asymmetric.1 hs hv hal ⟨rfl, hres, hver, hfit, hcid, pre, e, post, t, hl, hpre, hek, het, htp⟩

/-- **jarSet_unpublished_kid_rejected** (the clause seeded mutation C17-w8m2 removes): when NO entry of the client's key set carries
    the token's kid, the request object is refused — whatever the resolver, the signature verdicts and the rest of the set say -/
theorem jarSet_unpublished_kid_rejected (sup : List String) (E : Env) (J : SetEnv) (j : Jws) (s : Sig)
    (hs : j.sigs = [s]) (hno : ∀ e ∈ J.keys, e.kid ≠ s.kid) : validate sup E J j = .reject := by
  cases hv : validate sup E J j with
  | reject => rfl
  | accept vs =>
    exfalso
    obtain ⟨s', _, e, hs', _, _, _, _, _, _, _, hlk, _⟩ := validate_accept hv
    obtain rfl : s' = s := List.singleton_inj.mp (hs'.symm.trans hs)
    obtain ⟨pre, post, hl, hek, _⟩ := lookup_some hlk
    exact hno e (by rw [hl]; simp) hek

/-- **jarSet_first_entry_decides**: of several entries with the signer's kid only the FIRST counts (LookupKeyID) — entries behind it,
    and entries with other kids before it, never change the decision -/
theorem jarSet_first_entry_decides (sup : List String) (E : Env) (J : SetEnv) (j : Jws) (s : Sig) (pre post : List Entry) (e : Entry)
    (hs : j.sigs = [s]) (hk : J.keys = pre ++ e :: post) (hpre : ∀ x ∈ pre, x.kid ≠ s.kid) (he : e.kid = s.kid) :
    validate sup E J j = validate sup E { J with keys := [e] } j := by
  unfold validate
  cases hp : parseJWT sup E j with
  | reject => rw [validateExit_of_reject hp, validateExit_of_reject hp]
  | accept us =>
    obtain ⟨s', k, hs', rfl, _⟩ := parseJWT_accept hp
    obtain rfl : s' = s := List.singleton_inj.mp (hs'.symm.trans hs)
    rw [validateExit_of_accept hp rfl, validateExit_of_accept hp rfl]
    simp only [exitOf, hk, lookup_append_of_not_mem pre _ hpre, lookupKeyID, he, if_true]

/-- **jarValidateSet_refines**: with a key identified by its thumbprint the list model IS TokenPolicy.`jarValidate` with
    `clientKey kid` := thumbprint of the first entry carrying the kid — accept_jar and header_keys_ignored carry over -/
theorem jarValidateSet_refines (sup : List String) (E : Env) (c g : Bool) (keys : List Entry) (j : Jws) :
    validate sup E { clientIdMatches := c, configOK := g, keys := keys, tpOf := some } j =
      jarValidate sup E (SetEnv.abstract { clientIdMatches := c, configOK := g, keys := keys, tpOf := some }) j := by
  unfold validate jarValidate
  cases hp : parseJWT sup E j with
  | reject => rw [validateExit_of_reject hp]
  | accept us =>
    obtain ⟨s, k, hs, rfl, _⟩ := parseJWT_accept hp
    rw [validateExit_of_accept hp rfl]
    simp only [exitOf, SetEnv.abstract]
    cases c <;> cases g <;> try rfl
    cases lookupKeyID s.kid keys with
    | none => rfl
    | some e =>
      obtain ⟨ekid, etp⟩ := e
      cases etp with
      | none => rfl
      | some t => by_cases hq : t = k <;> simp [compareThumbprint, hq]

/-- the exit taken classifies the outcome: `.ok` exactly on accept -/
theorem jarSet_exit_ok_iff (sup : List String) (E : Env) (J : SetEnv) (j : Jws) :
    (validateExit sup E J j).1 = .ok ↔ (validate sup E J j).accepted = true := by
  unfold validate
  cases hp : parseJWT sup E j with
  | reject => rw [validateExit_of_reject hp]; decide
  | accept us =>
    obtain ⟨s, k, hs, rfl, _⟩ := parseJWT_accept hp
    rw [validateExit_of_accept hp rfl]
    by_cases hx : exitOf J s.kid k = .ok <;> simp [hx, Outcome.accepted]

/-- negation for the rule of seeded mutation C17-w8m2 (scan all entries with the kid, remember the last mismatch, no "found"
    case): EVERY key set that does not list the signer's kid at all lets the signer through -/
theorem loopNoFound_accepts_every_unpublished_kid (kid : String) (tp : Option String) :
    ∀ keys : List Entry, (∀ e ∈ keys, e.kid ≠ kid) → loopNoFound kid tp keys false = true
  | [], _ => rfl
  | e :: r, h => by
    unfold loopNoFound
    rw [if_pos (h e (List.mem_cons_self ..))]
    exact loopNoFound_accepts_every_unpublished_kid kid tp r (fun x hx => h x (List.mem_cons_of_mem _ hx))

private def resolveOk (k : String) : Option Key := if k = "did:web:c#1" then some "TP-C" else if k = "did:web:m#1" then some "TP-M" else none
private def Eok : Env := { resolve := resolveOk, embeddedKey := fun _ => none, verifies := fun _ _ _ => true, verifiesSplit := fun _ _ _ => false }
private def tok (kid : String) : Jws := { parses := true, splitOK := true, sigs := [{ alg := "ES256", kid := kid, jwk := .absent, hdrs := [], typ := "" }] }
private def setC : List Entry := [⟨"other", some "TP-X"⟩, ⟨"did:web:c#1", some "TP-C"⟩, ⟨"did:web:c#1", some "TP-M"⟩]

/-- accepted: the client's own key, listed second; a duplicate kid behind it does not matter -/
example : ∃ vs, validate Facts.C17.supportedAlgs Eok ⟨true, true, setC, some⟩ (tok "did:web:c#1") = .accept vs :=
  ⟨[{ key := "TP-C", src := .resolver "did:web:c#1", alg := "ES256", idx := 0, overSigningInput := true }], by decide⟩
/-- refused with "client_id does not own signer key": mallory's kid is not in the set (hypotheses of jarSet_unpublished_kid_rejected hold) -/
example : validateExit Facts.C17.supportedAlgs Eok ⟨true, true, setC, some⟩ (tok "did:web:m#1") = (.notOwner, .reject) := by decide
example : ∀ e ∈ setC, e.kid ≠ "did:web:m#1" := by decide
/-- refused with "key mismatch": first entry with the kid holds another key, the right key only comes second -/
example : validateExit Facts.C17.supportedAlgs Eok ⟨true, true, [⟨"did:web:c#1", some "TP-M"⟩, ⟨"did:web:c#1", some "TP-C"⟩], some⟩ (tok "did:web:c#1")
    = (.keyMismatch, .reject) := by decide
/-- … where the mutated loop says yes -/
example : loopNoFound "did:web:c#1" (some "TP-C") [⟨"did:web:c#1", some "TP-M"⟩, ⟨"did:web:c#1", some "TP-C"⟩] false = true := by decide

end Nuts.C17.Props
