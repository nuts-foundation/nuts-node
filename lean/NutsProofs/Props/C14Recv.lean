/-
  C14 — the real receivers' error classification (NutsModel.C14.Receivers) and its composition with
  the notifier: which errors are retried, which end delivery after one call, and that the ending ones stay visible.
-/
import NutsModel.C14.Receivers
import NutsProofs.Props.C14

namespace Nuts.C14.Props
open Nuts.C14

/-! ### vcr ambassador.handleError -/

/-- handleError answers in exactly one of three ways: retry with the SAME error, done, or the same error under EventFatal -/
theorem vcr_outcome_trichotomy (e : Err) :
    vcrHandleError e = ⟨false, some e⟩ ∨ vcrHandleError e = ⟨true, none⟩ ∨ vcrHandleError e = ⟨false, some (.fatal :: e)⟩ := by
  fun_cases vcrHandleError e with
  | case1 | case3 => exact .inl rfl
  | case2 => exact .inr (.inl rfl)
  | case4 | case5 => exact .inr (.inr rfl)

/-- the third conjunct `!errors.Is(err, ContextURLNotAllowedErr)` of the JSON-LD test never decides: the
    context-not-allowed case has returned before.  handleError is the four-way decision below. -/
theorem vcr_handleError_decision (e : Err) :
    vcrHandleError e =
      if errIs e .canceled || errIs e .deadline then ⟨false, some e⟩
      else if errIs e .ctxNotAllowed then ⟨true, none⟩
      else if firstJsonld e == some .loadingRemoteContextFailed then ⟨false, some e⟩
      else ⟨false, some (.fatal :: e)⟩ := by
  unfold vcrHandleError
  by_cases h1 : (errIs e .canceled || errIs e .deadline) = true
  · simp [h1]
  · by_cases h2 : errIs e .ctxNotAllowed = true
    · simp [h1, h2]
    · simp only [h1, h2, if_false, Bool.false_eq_true, Bool.not_false, Bool.and_true]
      cases h3 : firstJsonld e with
      | none => simp
      | some c => cases c <;> simp

/-- a context time-out / cancellation anywhere in the chain is retried with the error unchanged, whatever else is in it -/
theorem vcr_transient_is_retried (e : Err) (h : errIs e .canceled = true ∨ errIs e .deadline = true) :
    vcrHandleError e = ⟨false, some e⟩ := by
  rw [vcr_handleError_decision, if_pos]; rw [Bool.or_eq_true]; exact h

theorem hasFatal_cons_fatal (e : Err) : hasFatal (.fatal :: e) = true := by simp [hasFatal]

theorem hasFatal_cons_msg (e : Err) : hasFatal (.msg :: e) = hasFatal e := by simp [hasFatal]

/-- for an error that does not already carry an EventFatal: the notifier ends delivery (fatal) exactly when the error is
    neither a context time-out/cancellation, nor context-not-allowed, nor a failed remote-context load -/
theorem vcr_fatal_iff (e : Err) (hnf : hasFatal e = false) :
    classify (vcrHandleError e) = .fatal ↔
      (errIs e .canceled = false ∧ errIs e .deadline = false ∧ errIs e .ctxNotAllowed = false ∧
        firstJsonld e ≠ some .loadingRemoteContextFailed) := by
  rw [vcr_handleError_decision]
  by_cases h1 : errIs e .canceled = true
  · simp [h1, classify, hnf]; split <;> simp
  · by_cases h2 : errIs e .deadline = true
    · simp [h2, classify, hnf]; split <;> simp
    · by_cases h3 : errIs e .ctxNotAllowed = true
      · simp [h1, h2, h3, classify]
      · by_cases h4 : firstJsonld e = some .loadingRemoteContextFailed
        · simp [h1, h2, h3, h4, classify, hnf]; split <;> simp
        · simp [h1, h2, h3, h4, classify, hasFatal]

/-- handleError never answers "(false, nil)": a vcr job is never counted as `incomplete` -/
theorem vcr_never_incomplete (e : Err) : classify (vcrHandleError e) ≠ .notDone := by
  rcases vcr_outcome_trichotomy e with h | h | h <;> rw [h] <;> simp [classify] <;> (repeat' split) <;> simp

/-- the context-not-allowed error (not cancelled) completes the event: no retry, no failed entry -/
theorem vcr_context_not_allowed_is_done (e : Err) (h : errIs e .ctxNotAllowed = true)
    (hc : errIs e .canceled = false) (hd : errIs e .deadline = false) : classify (vcrHandleError e) = .done := by
  rw [vcr_handleError_decision]; simp [hc, hd, h, classify]

/-! ### vdr ambassador.handleNetworkEvent, v2 handlePrivateTxRetry, network.emitEvents -/

/-- vdr: a callback error is retried exactly when its chain holds a stoabs.ErrDatabase; everything else is fatal -/
theorem vdr_fatal_iff_not_db (e : Err) (hnf : hasFatal e = false) :
    classify (vdrHandle (some e)) = .fatal ↔ hasDb e = false := by
  unfold vdrHandle
  by_cases h : hasDb e = true
  · simp [h, classify, hnf]; split <;> simp
  · simp [h, classify, hasFatal]

theorem vdr_ok_is_done : classify (vdrHandle none) = .done := by simp [vdrHandle, classify, RecvRes.ok]

/-- private: wrapping with `fmt.Errorf("…: %w", EventFatal{err})` keeps the fatality visible to the notifier's errors.As -/
theorem private_wrap_fatal_iff_not_db (e : Err) (hnf : hasFatal e = false) :
    classify (privWrap e) = .fatal ↔ hasDb e = false := by
  unfold privWrap
  by_cases h : hasDb e = true
  · simp [h, classify, hasFatal_cons_msg, hnf]; split <;> simp
  · simp [h, classify, hasFatal]

/-- private: without an error from the store / the PAL decryption the job is never ended as failed: it completes
    (payload there, not for us) or is retried (query sent: incomplete; nobody connected: plain error) -/
theorem private_no_error_never_fatal (present palNil : Bool) (sends : List (Bool × Bool)) :
    classify (privateRetry none present none palNil sends) ≠ .fatal := by
  unfold privateRetry
  cases present <;> cases palNil <;> cases (sends.any fun p => p.1 && !p.2) <;>
    simp [classify, RecvRes.ok, hasFatal]

/-- private: the first failing step decides; a payload that is present ends the job as done before the PAL is looked at -/
theorem private_present_is_done (decryptErr : Option Err) (palNil : Bool) (sends : List (Bool × Bool)) :
    classify (privateRetry none true decryptErr palNil sends) = .done := by
  simp [privateRetry, classify, RecvRes.ok]

/-- nats: emitEvents never produces an EventFatal of its own - an event that cannot be published is retried until the budget is spent -/
theorem nats_never_fatal (a m p : Option Err) (ha : ∀ e, a = some e → hasFatal e = false) (hm : ∀ e, m = some e → hasFatal e = false)
    (hp : ∀ e, p = some e → hasFatal e = false) :
    classify (natsEmit a m p) ≠ .fatal ∧ classify (natsEmit a m p) ≠ .notDone := by
  unfold natsEmit
  cases a with
  | some e => simp [classify, hasFatal_cons_msg, ha e rfl]; constructor <;> (split <;> simp)
  | none => cases m with
    | some e => simp [classify, hasFatal_cons_msg, hm e rfl]; constructor <;> (split <;> simp)
    | none => cases p with
      | some e => simp [classify, hasFatal_cons_msg, hp e rfl]; constructor <;> (split <;> simp)
      | none => simp [classify, RecvRes.ok]

/-! ### composition with the notifier (Notifier.lean `notifyNow`, `failedEvents`) -/

/-- a receiver answer the notifier reads as fatal: ONE call, the job stays on the shelf over the budget, marked fatal,
    the notifier reports `fatal` (no retry loop is started: notify_reschedules_unless_fatal) and the event is listed as failed -/
theorem fatal_answer_ends_delivery_visibly (c : Cfg) (hthr : c.failedThreshold ≤ c.maxRetries) (σ : St) (s r : Nat) (j : Job)
    (res : RecvRes) (hr : r < c.nRefs) (hj : σ.shelf s r = some j)
    (hbeh : c.beh s r (attemptNo σ s r) = classify res) (hf : classify res = .fatal) :
    (notifyNow c σ s r).2 = .fatal ∧
    (notifyNow c σ s r).1.shelf s r = some { j with retries := c.maxRetries + 1, err := .fatal } ∧
    r ∈ failedEvents c (notifyNow c σ s r).1 s ∧
    attemptNo (notifyNow c σ s r).1 s r = attemptNo σ s r + 1 := by
  rw [notifyNow_some hj, hbeh, hf]
  refine ⟨rfl, if_pos ⟨rfl, rfl⟩, ?_, ?_⟩
  · exact failed_visible c hthr _ s r _ hr (if_pos ⟨rfl, rfl⟩) (Nat.le_succ _)
  · simp [attemptNo, entriesAfter, Entry.isCallOf]

/-- a receiver answer the notifier reads as a plain error: the job stays with one more recorded failure and the notifier
    reports a recoverable error (the retry loop goes on) -/
theorem plain_error_keeps_job (c : Cfg) (σ : St) (s r : Nat) (j : Job) (res : RecvRes) (hj : σ.shelf s r = some j)
    (hbeh : c.beh s r (attemptNo σ s r) = classify res) (hf : classify res = .fail) :
    (notifyNow c σ s r).2 = .err ∧
    (notifyNow c σ s r).1.shelf s r = some { j with retries := j.retries + 1, err := .generic } := by
  rw [notifyNow_some hj, hbeh, hf]
  exact ⟨rfl, if_pos ⟨rfl, rfl⟩⟩

/-- end to end for the vdr subscriber: a DID-document callback error that is not a database error is delivered once,
    never again by a retry loop, and stays listed as failed -/
theorem vdr_non_db_error_visible_after_one_call (c : Cfg) (hthr : c.failedThreshold ≤ c.maxRetries) (σ : St) (s r : Nat) (j : Job)
    (e : Err) (hr : r < c.nRefs) (hj : σ.shelf s r = some j) (hnf : hasFatal e = false) (hdb : hasDb e = false)
    (hbeh : c.beh s r (attemptNo σ s r) = classify (vdrHandle (some e))) :
    (notifyNow c σ s r).2 = .fatal ∧ r ∈ failedEvents c (notifyNow c σ s r).1 s := by
  have hf := (vdr_fatal_iff_not_db e hnf).mpr hdb
  have h := fatal_answer_ends_delivery_visibly c hthr σ s r j _ hr hj hbeh hf
  exact ⟨h.1, h.2.2.1⟩

/-- … and a database error keeps the vdr job for the retry loop -/
theorem vdr_db_error_is_retried (c : Cfg) (σ : St) (s r : Nat) (j : Job) (e : Err) (hj : σ.shelf s r = some j)
    (hnf : hasFatal e = false) (hdb : hasDb e = true) (hctx : e.getLast? ≠ some .ctxNotAllowed)
    (hbeh : c.beh s r (attemptNo σ s r) = classify (vdrHandle (some e))) :
    (notifyNow c σ s r).2 = .err ∧ (notifyNow c σ s r).1.shelf s r = some { j with retries := j.retries + 1, err := .generic } := by
  have hf : classify (vdrHandle (some e)) = .fail := by
    simp [vdrHandle, hdb, classify, hnf, hctx]
  exact plain_error_keeps_job c σ s r j _ hj hbeh hf

/-! ### non-vacuity -/

example : vcrHandleError [.msg, .jsonld .loadingDocumentFailed, .ctxNotAllowed] = ⟨true, none⟩ := by decide
example : vcrHandleError [.msg, .jsonld .loadingRemoteContextFailed, .msg] = ⟨false, some [.msg, .jsonld .loadingRemoteContextFailed, .msg]⟩ := by decide
example : classify (vcrHandleError [.msg, .jsonld .other, .jsonld .loadingRemoteContextFailed, .msg]) = .fatal := by decide
example : classify (vcrHandleError [.msg, .canceled]) = .fail := by decide
example : classify (vdrHandle (some [.msg, .db, .msg])) = .fail ∧ classify (vdrHandle (some [.msg])) = .fatal := by decide
example : classify (privateRetry (some [.msg]) false none false []) = .fatal := by decide
example : classify (privateRetry none false (some [.db, .msg]) false []) = .fail := by decide
example : classify (privateRetry none false none false [(true, true), (false, false)]) = .fail
    ∧ classify (privateRetry none false none false [(true, true), (true, false)]) = .notDone := by decide
example : classify (natsEmit none none (some [.msg])) = .fail := by decide
/-- the hypotheses of fatal_answer_ends_delivery_visibly are satisfiable -/
example : ∃ (c : Cfg) (σ : St) (j : Job), σ.shelf 0 0 = some j ∧ c.beh 0 0 (attemptNo σ 0 0) = classify (vdrHandle (some [.msg])) ∧
    classify (vdrHandle (some [.msg])) = .fatal :=
  ⟨{ nSubs := 1, nRefs := 1, sel := fun _ _ _ => true, phash := fun _ => 0, root := fun _ => true, beh := fun _ _ _ => .fatal,
     maxRetries := 20, failedThreshold := 10, skipPresent := true, writeBackSkipsGone := true, storageFaultEndsLoop := false },
   setJob init 0 0 (some ⟨.tx, 0, .none⟩), ⟨.tx, 0, .none⟩, by simp [setJob], by decide, by decide⟩

end Nuts.C14.Props
