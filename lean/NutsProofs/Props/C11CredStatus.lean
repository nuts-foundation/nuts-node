/-
  C11 — the credentialStatus syntax check in front of the revocation logic.
  Wire entries → validator → re-parsed abstract entries → verdict; every list length, every string.
-/
import NutsModel.C11.CredStatus
import NutsProofs.Props.C11Wire
import NutsModel.Facts.C11
namespace Nuts.C11.Props
open Nuts.C11.Wire

/-- `validated_credential_entries_wellformed`: a credential that passed `validateCredentialStatus` has, for EVERY entry, an id and
    a type, and every StatusList2021Entry among them passed `Validate` (and the credential lists the StatusList2021 context). -/
theorem validated_credential_entries_wellformed (hasCtx : Bool) (urlOk : String → Bool) (sts : List WireEntry)
    (h : validateCredentialStatus hasCtx urlOk sts = .ok ()) :
    ∀ e ∈ sts, e.id ≠ "" ∧ e.type ≠ "" ∧ (e.type = "StatusList2021Entry" → hasCtx = true ∧ validateEntry urlOk e = .ok ()) := by
  revert h
  fun_induction validateCredentialStatus hasCtx urlOk sts with
  | case1 => exact fun _ _ he => nomatch he
  | case5 a rest h1 h2 h3 h4 _ hv ih =>
    intro h e he
    rcases List.mem_cons.mp he with rfl | he'
    · exact ⟨by simpa using h1, by simpa using h2, fun _ => ⟨by simpa using h4, hv⟩⟩
    · exact ih h e he'
  | case8 a rest h1 h2 h3 ih =>
    intro h e he
    rcases List.mem_cons.mp he with rfl | he'
    · exact ⟨by simpa using h1, by simpa using h2, fun ht => absurd (by simp [ht]) h3⟩
    · exact ih h e he'
  | _ => intro h; cases h

/-- every status entry the revocation logic looks at (type StatusList2021Entry, purpose revocation) of a credential that
    passed the validator carries a parsed, non-negative index -/
theorem verify_wire_relevant_entries_have_index (hasCtx : Bool) (urlOk : String → Bool) (parse : String → Url) (sts : List WireEntry)
    (h : validateCredentialStatus hasCtx urlOk sts = .ok ()) :
    ∀ st ∈ sts.map (·.toStatus parse), st.relevant = true → ∃ i : Int, st.idx = some i ∧ 0 ≤ i ∧ i < (intLimit : Int) := by
  intro st hst hrel
  obtain ⟨e, he, rfl⟩ := List.mem_map.mp hst
  have hw := validated_credential_entries_wellformed hasCtx urlOk sts h e he
  have ht : e.type = "StatusList2021Entry" := by
    simp only [StatusEntry.relevant, WireEntry.toStatus, Bool.and_eq_true, beq_iff_eq] at hrel
    exact hrel.1
  obtain ⟨_, _, _, _, i, hi, h0, h1⟩ := validated_entry_fields urlOk e (hw.2.2 ht).2
  exact ⟨i, by simp [WireEntry.toStatus, hi], h0, h1⟩

/-- a credential whose credentialStatus is malformed never reaches the revocation logic: refused, world untouched (no download) -/
theorem malformed_status_refused_before_revocation_logic (E : Env) (i : Bool) (w : World) (cid : Option String) (issuer : String)
    (hasCtx : Bool) (urlOk : String → Bool) (parse : String → Url) (sts : List WireEntry) (nutsType rf : Bool)
    (validAt : Option Int) (now : Int) (period : Int → Bool) (x : String)
    (h : validateCredentialStatus hasCtx urlOk sts = .err x) :
    ∃ e, verifyWire E i w cid issuer hasCtx urlOk parse (some sts) nutsType rf validAt now period = (.err e, w) := by
  unfold verifyWire
  simp only [Option.getD_some, h]
  split
  · exact ⟨_, rfl⟩
  · exact ⟨_, rfl⟩

def exWireOk : WireEntry := { id := "https://l/1#3-0", type := "StatusList2021Entry", purpose := "revocation", index := "3", list := "https://l/1" }

example : validateCredentialStatus true (fun _ => true) [exWireOk, { exWireOk with type := "OtherStatus", index := "x" }] = .ok () := by decide +kernel
example : validateCredentialStatus true (fun _ => true) [exWireOk, { exWireOk with index := "-1" }] = .err "index" := by decide +kernel
example : validateCredentialStatus false (fun _ => true) [exWireOk] = .err "status-context" := by decide
example : validateCredentialStatus true (fun _ => true) [{ exWireOk with id := "" }] = .err "status-id" := by decide
example : (verifyWire exEnv false exWorld (some "did:a#1") "did:a" true (fun _ => true) Url.raw (some [{ exWireOk with index := "abc" }]) false false
    none 0 (fun _ => true)).1 = .err "validation:status" := by decide +kernel

/-! ### regenerated facts -/

/-- the default validator checks `credential.ID == nil` before, and `validateCredentialStatus` as the last of, its checks -/
theorem fact_default_validator_chain :
    Nuts.Facts.C11.defaultValidatorChain =
      ["!credential.IsType(vc.VerifiableCredentialTypeV1URI())", "!credential.ContainsContext(vc.VCContextV1URI())",
       "credential.Issuer.String() == \"\"", "credential.ID == nil", "credential.IssuanceDate.IsZero()",
       "err := validateCredentialStatus(credential); err != nil", "return nil"] := rfl

/-- the statements of `validateCredentialStatus`: nil status → ok; per entry: id, type, and for StatusList2021Entry the
    context, the unmarshalling and `cs.Validate()` — the model's `validateCredentialStatus` in the same order -/
theorem fact_validate_credential_status_chain :
    Nuts.Facts.C11.validateCredentialStatusChain =
      ["credential.CredentialStatus == nil", "stmt:statuses,err := credential.CredentialStatuses()", "err != nil", "range statuses {",
       "credentialStatus.ID.String() == \"\"", "credentialStatus.Type == \"\"", "switch credentialStatus.Type {",
       "case revocation.StatusList2021EntryType:", "!credential.ContainsContext(revocation.StatusList2021ContextURI)", "decl",
       "err = json.Unmarshal(credentialStatus.Raw(),&cs); err != nil", "err = cs.Validate(); err != nil", "}", "}", "return nil"] := rfl

end Nuts.C11.Props
