/-
  C11 — REPROCESS of revocation transactions: same effect as the network delivery.
-/
import NutsModel.C11.Reprocess
import NutsProofs.Props.C11
import NutsModel.Facts.C11
namespace Nuts.C11.Props

/-- `reprocess_same_as_delivery`: for every node, revocation document and store outcome, re-processing a revocation
    transaction leaves the node in exactly the state the network delivery of the same document would have. -/
theorem reprocess_same_as_delivery (K : KeyEnv) (n : Node) (r : Revocation) (fault : StoreFault) :
    (reprocess K n r fault .revocation true).2 = (handleRevocationEvent K n r fault).2 := by
  unfold reprocess handleRevocationEvent
  simp only [Bool.not_true, Bool.false_eq_true, if_false]
  cases h : registerRevocationF K n r fault with
  | ok n' => rfl
  | err e => simp only []; split <;> rfl
  | panic x => rfl

/-- `reprocessed_revocation_effective`: a reprocessed revocation that passes RegisterRevocation's checks and is stored makes
    every later verification of the credential (after any history, any validAt-independent check) answer revoked. -/
theorem reprocessed_revocation_effective (E : Env) (K : KeyEnv) (hE : EnvOK E) (w0 : World) (h0 : WInv E w0) (i : Bool) (r : Revocation)
    (c : Cred) (n' : Node) (hacc : registerRevocation K (w0.get i) r = .ok n') (hc : c.id = some r.subject) (acts : List Act) :
    (reprocess K (w0.get i) r .none .revocation true).2 = n' ∧
    (verify E i (run E K (w0.set i n') acts) c).1 = .revoked := by
  constructor
  · rw [reprocess_same_as_delivery, handleRevocationEvent_of_ok hacc]
  · exact RevokedAt.run hE ((WPrim.node w0 i n' (register_step hacc)).nodes h0).1 (.of_register hacc hc) acts

/-- anything that is not a revocation document type leaves the revocation store alone, with or without a payload -/
theorem reprocess_other_content_is_inert (K : KeyEnv) (n : Node) (r : Revocation) (fault : StoreFault) (vcT revT ct : String)
    (h : ct ≠ revT) (hasPayload : Bool) : (reprocess K n r fault (callbackRoute vcT revT ct) hasPayload).2 = n := by
  have hr : callbackRoute vcT revT ct ≠ .revocation := by
    unfold callbackRoute
    split
    · simp
    · rw [if_neg (by simpa using h)]; simp
  unfold reprocess
  split
  · rfl
  · split
    · rename_i hroute; exact absurd hroute hr
    · rfl

example : callbackRoute "application/vc+json" "application/ld+json;type=revocation" "application/ld+json;type=revocation" = .revocation := by decide +kernel
example : (reprocess exKeys (exNode "https://n0") exRevByB .none .revocation true).2.isRevoked exRevByB.subject = true := by decide +kernel
example : reprocess exKeys (exNode "https://n0") exRevByB (.transient 1) .revocation true = (true, exNode "https://n0") := by decide +kernel

/-- the content-type switch of `getCallbackFn` and the two constants it compares with -/
theorem fact_reprocess_callback_switch :
    Nuts.Facts.C11.ambassadorCallbackSwitch =
      ["switch contentType {", "case types.VcDocumentType:", "return n.vcCallback", "case types.RevocationLDDocumentType:",
       "return n.jsonLDRevocationCallback", "}", "return <*ast.FuncLit>"] ∧
    Nuts.Facts.C11.const_VcDocumentType = "application/vc+json" ∧
    Nuts.Facts.C11.const_RevocationLDDocumentType = "application/ld+json;type=revocation" ∧
    Nuts.Facts.C11.ambassadorReprocessChain =
      ["stmt:jsonBytes := msg.Data", "stmt:twp := events.TransactionWithPayload{}", "err := msg.Ack(); err != nil",
       "err := json.Unmarshal(jsonBytes,&twp); err != nil", "len(twp.Payload) != 0"] := by and_intros <;> rfl

end Nuts.C11.Props
