/-
  C15 — private transaction payloads go only to authenticated listed participants.
  Model: NutsModel/C07 (handlers.go, senders.go, protocol.go decryptPAL/handlePrivateTxRetry, dag/pal.go Decrypt),
  NutsModel/C15/Authn.lean (grpc/authenticator.go), Streams.lean and Outbound.lean (grpc/connection_manager.go inbound and
  outbound stream set-up). NutsModel/Facts/C15.lean is regenerated from /repo on every run.
  ECIES, x509 host name verification, URL parsing, SHA-256 are parameters (Env.dec, AuthEnv, Payload.sha).
-/
import NutsModel.C07.Net
import NutsModel.C15.Authn
import NutsModel.C15.Streams
import NutsModel.C15.Outbound
import NutsModel.Facts.C15
import NutsProofs.Lemmas.Base
import NutsProofs.Lemmas.C15
open Nuts.Proto Nuts Nuts.Proto.L Nuts.C15.L

namespace Nuts.C15.Props

/-- `handleTransactionPayloadQuery` guards the release of a PAL-bearing transaction's payload by exactly the four
    refusals the model has, in this order, each answering with the empty response, before the payload is read -/
theorem fact_payload_query_checks :
    Facts.C15.payloadQueryPalGuard = "len(tx.PAL()) > 0" ∧
    Facts.C15.payloadQueryRefusals = ["!peer.Authenticated", "err != nil", "pal == nil", "!pal.Contains(peer.NodeDID)"] ∧
    Facts.C15.payloadQueryRefusalsSendEmpty = true ∧ Facts.C15.payloadReadAfterPalChecks = true := ⟨rfl, rfl, rfl, rfl⟩

/-- `collectTransactionList` reads a payload only for transactions without PAL -/
theorem fact_collect_guard : Facts.C15.collectPayloadGuard = "len(transaction.PAL()) == 0" := rfl

/-- `handleTransactionPayload` writes only after: ref present, data present, transaction found, hash equal -/
theorem fact_payload_store_checks :
    Facts.C15.payloadStoreChecks = ["ref.Empty()", "len(msg.Data) == 0", "err != nil", "!tx.PayloadHash().Equals(payloadHash)"] := rfl

/-- a node without node DID has no private payload receiver; the handler checks for that instead of dereferencing
    nil (the model has no panic outcome there) -/
theorem fact_payload_finished_nil_guard : Facts.C15.payloadFinishedNilGuard = true := rfl

/-- the only functions of the protocol package that put payload bytes into an outgoing message -/
theorem fact_payload_writers :
    Facts.C15.payloadBytesWriters = ["handleTransactionPayloadQuery", "collectTransactionList"] := rfl

/-- `tlsAuthenticator.Authenticate`: three failure exits (no certificate, endpoint not resolvable/parsable, host name
    not covered) before the flag is set -/
theorem fact_authenticate_steps :
    Facts.C15.authenticateSteps = ["peer.Certificate == nil", "err != nil", "err != nil", "SET-AUTHENTICATED"] ∧
    Facts.C15.authenticateSetsFlag = true := ⟨rfl, rfl⟩

/-- **C15, part 1.** For every node state whose payload store is keyed by hash (`StoreOK`) and in which no public
    transaction has the payload hash of a private one (`PrivSeparate`), an ordering oracle that invents no transactions
    (`hord`), every peer and every incoming message of every type: an outgoing envelope contains the payload bytes of a
    PAL-bearing transaction of the node only if the incoming message is a TransactionPayloadQuery and the envelope is
    the TransactionPayload reply to it — never a TransactionList (list or range reply), gossip, state or transaction
    set. -/
theorem payload_only_in_payload_msg (cfg : Cfg) (env : Env) (n : Node) (peer : Peer) (m : Msg)
    (hs : StoreOK n) (hsep : PrivSeparate n) (hord : ∀ l t, t ∈ env.order l → t ∈ l)
    (o : Nat × Msg) (ho : o ∈ allOut env (handle cfg env n peer m))
    (p : Payload) (hp : p ∈ payloadBytes o.2) (hpriv : PrivateBytes n p) :
    ∃ ref, m = .payloadQuery ref ∧ o = (peer.key, .payload ref (some p)) := by
  rcases handle_out cfg env n peer m o ho with h | ⟨cid, l, r, hc, hsend, hl⟩ | ⟨ref, rfl, rfl | ⟨tx, p', _, _, rfl, _⟩⟩
  · rw [request_no_bytes h] at hp; cases hp
  · exact absurd hpriv (list_reply_clean cfg n hs hsep l (hl hord) r hc peer.key cid o hsend p hp)
  · cases hp
  · obtain rfl := List.mem_singleton.mp hp
    exact ⟨ref, rfl, rfl⟩

/-- the same for the other two places where a node sends: the gossip tick and the payload-query broadcast after
    a transaction was added locally -/
theorem tick_and_create_send_no_payload (cfg : Cfg) (env : Env) (n : Node) (peer : Nat) (tx : Tx) (pl : Option Payload)
    (o : Nat × Msg) (ho : o ∈ (gossipTick n peer).out ∨ o ∈ (addTx cfg env n tx pl).2.1) : payloadBytes o.2 = [] := by
  rcases ho with ho | ho
  · revert ho
    fun_cases gossipTick n peer with
    | case2 => exact fun ho => List.mem_singleton.mp ho ▸ rfl
    | _ => exact nofun
  · rw [addTx_out cfg env n tx pl o ho]; rfl

/-- **C15, part 2.** A TransactionPayload reply with data is sent only to the peer that asked, for a transaction
    the node has; if the transaction has a PAL then the connection is authenticated, this node could decrypt the
    PAL, and the peer's verified node DID is on the decrypted list. -/
theorem private_payload_release_sound (cfg : Cfg) (env : Env) (n : Node) (peer : Peer) (m : Msg)
    (o : Nat × Msg) (ho : o ∈ allOut env (handle cfg env n peer m)) (ref : Ref) (p : Payload)
    (hpl : o.2 = .payload ref (some p)) :
    m = .payloadQuery ref ∧ o.1 = peer.key ∧
    ∃ tx, getTx n.dag ref = some tx ∧ readPayload n tx.payloadHash = some p ∧
      (tx.pal ≠ [] → peer.authenticated = true ∧ ∃ dids, decryptPAL env n tx.pal = .pal dids ∧ peer.did ∈ dids) := by
  rcases handle_out cfg env n peer m o ho with h | ⟨cid, l, r, _, hsend, _⟩ | ⟨ref', rfl, rfl | ⟨tx, p', htx, hrd, rfl, hyp⟩⟩
  · rw [hpl] at h; cases h
  · obtain ⟨_, k, total, c, heq, _⟩ := sendTransactionList_mem cfg _ _ _ o hsend
    rw [heq] at hpl; cases hpl
  · cases hpl
  · cases hpl
    exact ⟨rfl, rfl, tx, htx, hrd, hyp⟩

/-- the same for a handler run with the identity `pr` of a connection: whatever else (`Q`) an authenticated identity
    guarantees holds of every release of a private payload -/
theorem release_on_identity (cfg : Cfg) (env : Env) (n : Node) (pr : Peer) (key : Nat) (m : Msg) (o : Nat × Msg)
    (ho : o ∈ allOut env (handle cfg env n { pr with key := key } m)) (ref : Ref) (p : Payload)
    (hpl : o.2 = .payload ref (some p)) {Q : Prop} (hQ : pr.authenticated = true → Q) :
    ∃ tx, getTx n.dag ref = some tx ∧ readPayload n tx.payloadHash = some p ∧
      (tx.pal ≠ [] → (∃ dids, decryptPAL env n tx.pal = .pal dids ∧ pr.did ∈ dids) ∧ Q) := by
  obtain ⟨_, _, tx, h1, h2, h3⟩ := private_payload_release_sound cfg env n _ m o ho ref p hpl
  exact ⟨tx, h1, h2, fun hpal => ⟨(h3 hpal).2, hQ (h3 hpal).1⟩⟩

/-! ### "the payload of X goes only to X's list": FALSE of the code when two PAL-bearing transactions share a payload hash
  (known finding C15:payload-of-other-transaction-released-via-shared-payload-hash; replayed on the real handlers) -/

/-- no two PAL-bearing transactions of the node have the same payload hash -/
def PrivUnique (n : Node) : Prop :=
  ∀ t ∈ n.dag, ∀ t' ∈ n.dag, t.pal ≠ [] → t'.pal ≠ [] → t.payloadHash = t'.payloadHash → t = t'

/-- the full-strength statement: whenever a handler releases bytes that are the payload of a PAL-bearing transaction `X`
    of the node, the peer is authenticated and its verified DID is on `X`'s decrypted list -/
def ReleaseOnlyToListedStmt : Prop :=
  ∀ (cfg : Cfg) (env : Env) (n : Node) (peer : Peer) (m : Msg), StoreOK n → PrivSeparate n →
    ∀ o ∈ allOut env (handle cfg env n peer m), ∀ ref p, o.2 = .payload ref (some p) →
      ∀ X ∈ n.dag, X.pal ≠ [] → X.payloadHash = p.sha →
        peer.authenticated = true ∧ ∃ dids, decryptPAL env n X.pal = .pal dids ∧ peer.did ∈ dids

private def wEnv : Env :=
  { decode := fun _ _ => .fail, order := id,
    dec := fun kid c =>
      if kid == "B#k" && c == 1 then .ok [some "A", some "B"]        -- Y, for [A, B]
      else if kid == "B#k" && c == 2 then .ok [some "B", some "C"]   -- X, for [B, C]
      else .fail }
private def wRoot : Tx := { ref := 1, clock := 0, prevs := [], pal := [], payloadHash := 10, sigOK := true, size := 10 }
private def wX : Tx := { ref := 7, clock := 1, prevs := [1], pal := [2, 3], payloadHash := 70, sigOK := true, size := 10 }
private def wY : Tx := { ref := 9, clock := 1, prevs := [1], pal := [0, 1], payloadHash := 70, sigOK := true, size := 10 }
private def wB : Node :=
  { id := 0, did := "B", kaks := [⟨"B#k", true⟩], dag := [wY, wX, wRoot],
    payloads := [(70, ⟨"secret-of-X", 11, 70⟩), (10, ⟨"public", 6, 10⟩)] }
private def wCfg : Cfg :=
  { pageSize := 512, maxQueue := 100, rangePages := 2, msgOverhead := 512, txOverhead := 9, maxMsg := 524288, validity := 30,
    blockState := false, blockList := true, blockRange := true, nextOne := (1, 2), nextTwo := (1, 3) }

/-- **witness**: `B` holds `X` (list [B, C]) and the crafted `Y` (list [A, B], same payload hash); the authenticated peer
    `A` asks for `Y` and receives the payload of `X`, although `A` is not on `X`'s list -/
theorem release_only_to_listed_false : ¬ ReleaseOnlyToListedStmt := by
  intro h
  have hs : StoreOK wB := storeOK_of_all wB (by decide)
  have hsep : PrivSeparate wB := by unfold PrivSeparate; decide
  have := h wCfg wEnv wB { key := 5, authenticated := true, did := "A" } (.payloadQuery 9) hs hsep
    (5, .payload 9 (some ⟨"secret-of-X", 11, 70⟩)) (by decide) 9 ⟨"secret-of-X", 11, 70⟩ rfl wX (by decide) (by decide) rfl
  obtain ⟨_, dids, hd, hm⟩ := this
  have hdec : decryptPAL wEnv wB wX.pal = .pal ["B", "C"] := by decide
  rw [hdec] at hd
  cases hd
  simp at hm

/-- **the proved part**: under the extra hypothesis that no two PAL-bearing transactions of the node share a payload
    hash (`PrivUnique`), the full statement holds -/
theorem release_only_to_listed_partial (cfg : Cfg) (env : Env) (n : Node) (peer : Peer) (m : Msg)
    (hs : StoreOK n) (hsep : PrivSeparate n) (huniq : PrivUnique n)
    (o : Nat × Msg) (ho : o ∈ allOut env (handle cfg env n peer m)) (ref : Ref) (p : Payload) (hpl : o.2 = .payload ref (some p))
    (X : Tx) (hX : X ∈ n.dag) (hpal : X.pal ≠ []) (hh : X.payloadHash = p.sha) :
    peer.authenticated = true ∧ ∃ dids, decryptPAL env n X.pal = .pal dids ∧ peer.did ∈ dids := by
  obtain ⟨_, _, tx, htx, hrd, hyp⟩ := private_payload_release_sound cfg env n peer m o ho ref p hpl
  have htm : tx ∈ n.dag := getTx_mem htx
  have hsha : p.sha = tx.payloadHash := hs _ _ hrd
  have htpal : tx.pal ≠ [] := by
    intro he
    exact hsep X hX tx htm hpal he (by rw [hh, hsha])
  have : X = tx := huniq X hX tx htm hpal htpal (by rw [hh, hsha])
  subst this
  exact hyp hpal

/-- For a participant list encrypted by `PAL.Encrypt` (one ciphertext per participant, ECIES contract), a node
    that holds exactly its own key agreement key decrypts the PAL iff its DID is on the list. The gap: a PAL header
    NOT produced by `Encrypt` (the author adds a ciphertext for a non-member) is decryptable by that non-member. -/
theorem decrypt_iff_member (env : Env) (keyOf : String → String) (cipherFor : String → Nat) (pal : List String)
    (hh : HonestPal env keyOf cipherFor pal) (hinj : ∀ a b, keyOf a = keyOf b → a = b)
    (n : Node) (hdid : n.did ≠ "") (hres : n.resolvable = true) (hk : n.kaks = [⟨keyOf n.did, true⟩]) :
    decryptPAL env n (encryptPAL cipherFor pal) = if n.did ∈ pal then .pal pal else .notForUs := by
  unfold decryptPAL encryptPAL
  have h := tryCiphers_honest env keyOf cipherFor pal hh hinj n.did pal (fun _ h => h)
  simp only [hk, hres]
  rw [h]
  have : (n.did == "") = false := by simpa using hdid
  simp only [this]
  by_cases hm : n.did ∈ pal
  · simp only [hm, if_true]
    cases pal with
    | nil => cases hm
    | cons a as => simp [parseDids_some, parseDids]
  · simp [hm]

/-- the stated gap, by witness: a header with an extra ciphertext for a non-member is decrypted by that non-member -/
theorem nonmember_cipher_gap :
    ∃ (env : Env) (n : Node) (epal : List Nat) (dids : List String),
      decryptPAL env n epal = .pal dids ∧ n.did ∉ dids := by
  refine ⟨{ decode := fun _ _ => .fail, order := id, dec := fun kid c => if kid == "C#k" && c == 2 then .ok [some "A", some "B"] else .fail },
          { id := 0, did := "C", kaks := [⟨"C#k", true⟩] }, [0, 1, 2], ["A", "B"], by decide, by decide⟩

/-- **C15, part 3.** `handleTransactionPayload` changes the payload store iff the transaction exists in the DAG and
    the data hashes to its payload hash (unsolicited but matching payloads are stored; mismatching, unknown, empty
    ones leave the store unchanged); nothing else of the node changes. -/
theorem payload_stored_only_if_hash_matches (n : Node) (ref : Ref) (data : Option Payload) :
    (∃ p tx, data = some p ∧ ref ≠ 0 ∧ p.len ≠ 0 ∧ getTx n.dag ref = some tx ∧ p.sha = tx.payloadHash ∧
        (handleTransactionPayload n ref data).node = { n with payloads := Nuts.alPut n.payloads p.sha p }) ∨
    (handleTransactionPayload n ref data).node = n ∧
      ¬ (∃ p tx, data = some p ∧ ref ≠ 0 ∧ p.len ≠ 0 ∧ getTx n.dag ref = some tx ∧ p.sha = tx.payloadHash) := by
  fun_cases handleTransactionPayload n ref data with
  | case1 data href => exact .inr ⟨rfl, fun ⟨_, _, _, h, _⟩ => h (beq_iff_eq.mp href)⟩
  | case2 => exact .inr ⟨rfl, fun ⟨_, _, h, _⟩ => nomatch h⟩
  | case3 _ p hlen => exact .inr ⟨rfl, fun ⟨_, _, h, _, hl, _⟩ => hl (Option.some.inj h ▸ beq_iff_eq.mp hlen)⟩
  | case4 _ p _ hg => exact .inr ⟨rfl, fun ⟨_, _, _, _, _, hg', _⟩ => nomatch hg.symm.trans hg'⟩
  | case5 _ p _ tx hg hsha =>
    exact .inr ⟨rfl, fun ⟨_, _, h, _, _, hg', hs⟩ =>
      bne_iff_ne.mp hsha (Option.some.inj h ▸ Option.some.inj (hg.symm.trans hg') ▸ hs)⟩
  | case6 href p hlen tx hg hsha =>
    exact .inl ⟨p, tx, rfl, mt beq_iff_eq.mpr href, mt beq_iff_eq.mpr hlen, hg, Decidable.of_not_not (mt bne_iff_ne.mpr hsha), rfl⟩

/-- the only other way a payload enters the store — together with its transaction in a TransactionList or a local
    `Add` — also requires the hash to match: `state.Add` admits `(tx, payload)` only if `sha payload = tx.payloadHash` -/
theorem payload_with_transaction_only_if_hash_matches (cfg : Cfg) (env : Env) (n : Node) (tx : Tx) (p : Payload)
    (h : (addTx cfg env n tx (some p)).2.2 = .added) : p.sha = tx.payloadHash := by
  rcases addTx_cases cfg env n tx (some p) with ⟨_, hc, _⟩ | ⟨hne, _, _⟩
  · exact (addCheck_added hc).2.2.2.2.2 p rfl
  · exact absurd h hne

/-- **a transaction that is already on the DAG is a no-op for `state.Add`, whatever bytes come with it**: the node — in
    particular its payload store — is unchanged and nothing is sent. A peer cannot fill in (or replace) the payload of a
    known private transaction by repeating the transaction in a TransactionList / range answer with bytes of its choosing;
    the only writer left is `handleTransactionPayload` (`payload_stored_only_if_hash_matches`). -/
theorem known_transaction_writes_no_payload (cfg : Cfg) (env : Env) (n : Node) (tx : Tx) (pl : Option Payload)
    (h : present n.dag tx.ref = true) :
    (addTx cfg env n tx pl).1 = n ∧ (addTx cfg env n tx pl).2.1 = [] ∧ (addTx cfg env n tx pl).2.2 = .present := by
  have hc : addCheck n.dag tx pl = .present := by simp [addCheck, h]
  simp [addTx, hc]

theorem known_transaction_keeps_payload_store (cfg : Cfg) (env : Env) (n : Node) (tx : Tx) (pl : Option Payload)
    (h : present n.dag tx.ref = true) (hash : Ref) : readPayload (addTx cfg env n tx pl).1 hash = readPayload n hash := by
  rw [(known_transaction_writes_no_payload cfg env n tx pl h).1]

/-- regenerated: the early-return branch of `State.Add` for a present transaction is `return nil` and nothing else; the only
    payload write in `Add` is the hash-checked one under `payload != nil` on the new-transaction path -/
theorem fact_state_add_present_branch_writes_nothing :
    Facts.C15.stateAddPresentBranch = ["return nil"] ∧
    Facts.C15.stateAddPayloadWrites = ["s.payloadStore.writePayload if payload != nil"] := ⟨rfl, rfl⟩

/-- the two cooperating guards as the source has them: a public transaction in a list needs a payload of non-zero LENGTH
    (a present-but-empty `optional bytes` field does not count), and `state.Add` hash-checks and stores every non-nil payload -/
theorem fact_payload_presence_guards :
    Facts.C15.listPayloadGuard = "len(tx.PAL()) == 0 && len(msg.Transactions[i].Payload) == 0" ∧
    Facts.C15.stateAddPayloadGuard = "payload != nil" := ⟨rfl, rfl⟩

/-- **a public transaction enters the DAG through a TransactionList only together with a non-empty payload that hashes
    to its payload hash** — so nobody can plant a public transaction carrying the payload hash of a private one without
    knowing that payload (which is what keeps `PrivSeparate` true of DAGs built by the protocol) -/
theorem public_tx_admitted_only_with_payload (cfg : Cfg) (env : Env) (n : Node) (tx : Tx) (pl : Option Payload)
    (hp : tx.pal = []) (h : (addLoop cfg env n [(tx, pl)]).node.dag ≠ n.dag) :
    ∃ p, pl = some p ∧ p.len ≠ 0 ∧ p.sha = tx.payloadHash := by
  unfold addLoop at h
  by_cases hnp : (tx.pal.isEmpty && payloadEmpty pl) = true
  · simp [hnp] at h
  · simp only [hnp, Bool.false_eq_true, if_false] at h
    cases pl with
    | none => simp [hp, payloadEmpty] at hnp
    | some p =>
      have hlen : p.len ≠ 0 := by
        intro h0; apply hnp; simp [hp, payloadEmpty, h0]
      rcases addTx_cases cfg env n tx (some p) with ⟨hr, hc, hnode⟩ | ⟨hr, hnode, hres⟩
      · exact ⟨p, rfl, hlen, (addCheck_added hc).2.2.2.2.2 p rfl⟩
      · exfalso
        apply h
        generalize hq : addTx cfg env n tx (some p) = q at hr hnode h ⊢
        obtain ⟨n1, out1, r⟩ := q
        simp only at hr hnode
        subst hnode
        cases r <;> simp [addLoop] at hr ⊢

/-- `Network.Configure` assigns the authenticator in exactly two places: the TLS authenticator under `tlsEnabled`,
    the dummy authenticator under its negation, where strict mode returns an error first -/
theorem fact_authenticator_selection :
    Facts.C15.authenticatorAssignments = [["tlsEnabled", "grpc.NewTLSAuthenticator"], ["!(tlsEnabled)", "grpc.NewDummyAuthenticator"]] ∧
    Facts.C15.strictTLSErrorGuard = ["!(tlsEnabled)", "config.Strictmode"] ∧ Facts.C15.strictErrorBeforeDummy = true := ⟨rfl, rfl, rfl⟩

/-- the connection manager's TLS server requires AND verifies client certificates against the trust store, with the
    minimum TLS version of the core package (TLS 1.2) -/
theorem fact_server_tls_config :
    Facts.C15.serverTLSConfig = ["ClientCAs=config.trustStore", "ClientAuth=tls.RequireAndVerifyClientCert"] ∧
    Facts.C15.baseTLSConfig = ["MinVersion=core.MinTLSVersion"] ∧ Facts.C15.minTLSVersion = "tls.VersionTLS12" := ⟨rfl, rfl, rfl⟩

/-- hence the certificate `tlsAuthenticator` matches against the NutsComm host (`AuthIn.cert`) is one that chains to the
    trust store: with the configured mode the server hands over a client certificate only if it was presented and verified -/
theorem authenticated_certificate_is_verified (presented chains : Bool)
    (h : serverAcceptsClient (ClientAuthMode.ofSource "tls.RequireAndVerifyClientCert") presented chains = true) :
    presented = true ∧ chains = true := by
  cases presented <;> cases chains <;> simp [serverAcceptsClient, ClientAuthMode.ofSource] at h ⊢

/-- **the dummy authenticator is reachable only without TLS**: with TLS configured the TLS authenticator is
    installed in strict AND non-strict mode; in strict mode the dummy authenticator is never installed -/
theorem dummy_authenticator_only_without_tls (tlsEnabled strict : Bool) (k : AuthKind)
    (h : configureAuthenticator tlsEnabled strict = .ok k) :
    (tlsEnabled = true → k = .tls) ∧ (k = .dummy → tlsEnabled = false ∧ strict = false) := by
  cases tlsEnabled <;> cases strict <;> simp [configureAuthenticator] at h <;> subst h <;> simp

/-- **C15, part 4.** `Authenticate` marks the peer authenticated with the claimed DID iff the peer presented a
    certificate, a NutsComm endpoint was resolved for the claimed DID, it parses, and the certificate is valid for
    its host name; in every other case the peer is returned unchanged. -/
theorem authn_sound (e : AuthEnv) (claimed : String) (peer : Peer) (i : AuthIn) :
    ((authenticate e claimed peer i).2 = "ok" ↔
      ∃ dns ep host, i.cert = some dns ∧ i.endpoint = some ep ∧ e.parseHost ep = some host ∧ e.verifyHostname dns host = true) ∧
    ((authenticate e claimed peer i).2 = "ok" →
      (authenticate e claimed peer i).1 = { peer with did := claimed, authenticated := true }) ∧
    ((authenticate e claimed peer i).2 ≠ "ok" → (authenticate e claimed peer i).1 = peer) := by
  unfold authenticate
  cases hc : i.cert with
  | none => simp
  | some dns =>
    cases he : i.endpoint with
    | none => simp
    | some ep =>
      cases hp : e.parseHost ep with
      | none => simp [hp]
      | some host =>
        cases hv : e.verifyHostname dns host <;> simp [hp, hv]

/-- hence on every node with TLS configured (either strict-mode value) a peer is marked authenticated with a claimed
    DID only if its certificate is valid for the host of the NutsComm endpoint resolved for that DID -/
theorem configured_authn_sound (strict : Bool) (k : AuthKind) (h : configureAuthenticator true strict = .ok k)
    (e : AuthEnv) (claimed : String) (peer : Peer) (i : AuthIn) (hok : (authenticateWith k e claimed peer i).2 = "ok") :
    ∃ dns ep host, i.cert = some dns ∧ i.endpoint = some ep ∧ e.parseHost ep = some host ∧ e.verifyHostname dns host = true := by
  have hk : k = .tls := (dummy_authenticator_only_without_tls true strict k h).1 rfl
  subst hk
  exact (authn_sound e claimed peer i).1.mp hok

/-- the three outcomes of the connection manager's `authenticate`: nothing claimed, nothing done; the claimed DID accepted
    (by the TLS authenticator only with a covering certificate); refused with the zero peer -/
theorem cmAuthenticate_cases (k : AuthKind) (e : AuthEnv) (claimed : String) (peer : Peer) (i : AuthIn) :
    (claimed = "" ∧ cmAuthenticate k e claimed peer i = (peer, false)) ∨
    (claimed ≠ "" ∧ cmAuthenticate k e claimed peer i = ({ peer with did := claimed, authenticated := true }, false) ∧
      (k = .tls → ∃ dns ep host, i.cert = some dns ∧ i.endpoint = some ep ∧ e.parseHost ep = some host ∧
        e.verifyHostname dns host = true)) ∨
    cmAuthenticate k e claimed peer i = ({ key := 0 }, true) := by
  fun_cases cmAuthenticate k e claimed peer i with
  | case1 hc => exact .inl ⟨by simpa using hc, rfl⟩
  | case3 => exact .inr (.inr rfl)
  | case2 hc r hok =>
    refine .inr (.inl ⟨by simpa using hc, ?_⟩)
    cases k with
    | dummy => exact ⟨rfl, nofun⟩
    | tls =>
      have h : (authenticate e claimed peer i).2 = "ok" := beq_iff_eq.mp hok
      obtain ⟨hiff, hpeer, _⟩ := authn_sound e claimed peer i
      exact ⟨congrArg (·, false) (hpeer h), fun _ => hiff.mp h⟩

/-- the connection manager's wrapper: a connection carries an authenticated peer only if a DID was claimed and the
    (TLS) authenticator accepted the certificate for it; otherwise the stream is refused or stays unauthenticated -/
theorem connection_authenticated_only_via_authenticator (e : AuthEnv) (claimed : String) (peer : Peer) (i : AuthIn)
    (hp : peer.authenticated = false) (h : (cmAuthenticate .tls e claimed peer i).1.authenticated = true) :
    claimed ≠ "" ∧ (cmAuthenticate .tls e claimed peer i).1.did = claimed ∧
    ∃ dns ep host, i.cert = some dns ∧ i.endpoint = some ep ∧ e.parseHost ep = some host ∧ e.verifyHostname dns host = true := by
  rcases cmAuthenticate_cases .tls e claimed peer i with ⟨_, hr⟩ | ⟨hne, hr, hcov⟩ | hr <;> rw [hr] at h ⊢
  · rw [hp] at h; cases h
  · exact ⟨hne, rfl, hcov rfl⟩
  · cases h

/-- every call of the connection manager's `authenticate` is followed by an error return (inbound and outbound);
    `extractCertificate` returns exactly `PeerCertificates[0]` (no loop, no selection among the peer's certificates) -/
theorem fact_authenticate_call_sites : Facts.C15.cmAuthenticateCalls = 2 ∧ Facts.C15.cmAuthenticateCallsChecked = 2 ∧
    Facts.C15.cmAuthenticateErrorReturnsZeroPeer = true ∧ Facts.C15.extractCertificateIndex = "0" ∧
    Facts.C15.extractCertificateReturns = ["nil", "tlsInfo.State.PeerCertificates[0]"] ∧ Facts.C15.extractCertificateLoops = 0 := ⟨rfl, rfl, rfl, rfl, rfl, rfl⟩

/-- the authenticated certificate is the proven one: appending certificates (the victim's public certificate, CAs, in
    any position after the first) never changes which certificate is used -/
theorem authenticated_with_proven_certificate {α : Type} (first : α) (appended appended' : List α) :
    peerCertificate (first :: appended) = some first ∧ peerCertificate (first :: appended) = peerCertificate (first :: appended') :=
  ⟨rfl, rfl⟩

/-- **the decrypted list is a function of the node's DID/keys and of the header it is given**: two nodes that agree on
    DID, resolvability and key agreement keys decrypt EVERY header to the same result, whatever their DAG, payload store,
    conversations, gossip queues, peers and clock are — i.e. whatever they handled before. (No earlier transaction,
    query or header can influence the list a header decrypts to.) -/
theorem decryptPAL_depends_only_on_keys_and_header (env : Env) (n n' : Node) (hdr : List Nat)
    (hd : n.did = n'.did) (hr : n.resolvable = n'.resolvable) (hk : n.kaks = n'.kaks) :
    decryptPAL env n hdr = decryptPAL env n' hdr := by
  simp only [decryptPAL, hd, hr, hk]

/-- … and it depends on the WHOLE header, not on a prefix: headers that share their first entry decrypt to different lists -/
theorem header_prefix_does_not_determine_list :
    ∃ (env : Env) (n : Node) (c other other' : Nat),
      decryptPAL env n [c, other] = .pal ["A", "B"] ∧ decryptPAL env n [c, other'] = .pal ["A", "E"] :=
  ⟨{ decode := fun _ _ => .fail, order := id, dec := fun kid c => if kid = "A#k" ∧ c = 1 then .ok [some "A", some "B"]
        else if kid = "A#k" ∧ c = 2 then .ok [some "A", some "E"] else .fail },
   { id := 0, did := "A", kaks := [⟨"A#k", true⟩] }, 0, 1, 2, by decide, by decide⟩

/-- every envelope handed to `Connection.Send` is freshly allocated at the Send site (the connection only queues the pointer and
    marshals it later): no `sync.Pool` in the package; envelope and message are composite literals everywhere -/
theorem fact_sent_envelopes_fresh :
    Facts.C15.v2SyncPools = [] ∧
    Facts.C15.v2SendEnvelopes =
      ["handleTransactionPayloadQuery:&Envelope{}<-&Envelope_TransactionPayload{}", "handleTransactionPayloadQuery:&Envelope{}<-&Envelope_TransactionPayload{}",
       "handleTransactionPayloadQuery:&Envelope{}<-&Envelope_TransactionPayload{}", "handleTransactionPayloadQuery:&Envelope{}<-&Envelope_TransactionPayload{}",
       "handleTransactionPayloadQuery:&Envelope{}<-&Envelope_TransactionPayload{}", "handleTransactionPayloadQuery:&Envelope{}<-&Envelope_TransactionPayload{}",
       "handlePrivateTxRetry:&Envelope{}<-&Envelope_TransactionPayloadQuery{}", "sendGossipMsg:&Envelope{}<-&Envelope_Gossip{}",
       "sendTransactionListQuery:&Envelope{}<-&Envelope_TransactionListQuery{}", "sendTransactionList:&Envelope{}<-&Envelope_TransactionList{}",
       "sendTransactionRangeQuery:&Envelope{}<-&Envelope_TransactionRangeQuery{}", "sendState:&Envelope{}<-&Envelope_State{}",
       "sendTransactionSet:&Envelope{}<-&Envelope_TransactionSet{}", "broadcastDiagnostics:&Envelope{}<-&Envelope_DiagnosticsBroadcast{}"] := ⟨rfl, rfl⟩

/-- `decryptPAL` touches the node DID, the DID resolver and the decrypter only; `protocol` has no cache of decrypted lists -/
theorem fact_decryptPAL_stateless :
    Facts.C15.decryptPALTouches = ["nodeDID", "didResolver", "decrypter"] ∧
    Facts.C15.protocolFields =
      ["cancel func()", "config Config", "state dag.State", "ctx context.Context", "routines *sync.WaitGroup", "didResolver resolver.DIDResolver",
       "privatePayloadReceiver dag.Notifier", "decrypter crypto.Decrypter", "connectionList grpc.ConnectionList", "nodeDID did.DID",
       "connectionManager transport.ConnectionManager", "cMan *conversationManager", "gManager gossip.Manager", "diagnosticsMan *peerDiagnosticsManager",
       "sender messageSender", "listHandler *transactionListHandler", "dagStore stoabs.KVStore"] := ⟨rfl, rfl⟩

theorem encryptCount_ok : ∀ (parts : List KeyRes) (k : Nat), encryptCount parts = .ok k → k = parts.length ∧ ∀ p ∈ parts, p = .ok := by
  intro parts
  fun_induction encryptCount parts with
  | case1 => rintro k ⟨⟩; exact ⟨rfl, fun _ h => nomatch h⟩
  | case2 rest ih =>
    intro k h
    obtain ⟨k', hr, ⟨⟩⟩ := Res.bind_eq_ok.mp h
    exact ⟨congrArg (· + 1) (ih k' hr).1, List.forall_mem_cons.mpr ⟨rfl, (ih k' hr).2⟩⟩
  | case3 => nofun

/-- **a transaction requested WITH participants is never created public**: `CreateTransaction` either fails or produces
    a PAL header with exactly one entry per participant (so `collectTransactionList` never attaches its payload); it
    succeeds only if the node DID is set and every participant's key agreement key resolved -/
theorem created_private_has_full_pal (nodeDIDSet : Bool) (parts : List KeyRes) (hne : parts ≠ []) (k : Nat)
    (h : createPalCount nodeDIDSet parts = .ok k) :
    k = parts.length ∧ 0 < k ∧ nodeDIDSet = true ∧ ∀ p ∈ parts, p = .ok := by
  unfold createPalCount at h
  have he : parts.isEmpty = false := by cases parts with | nil => exact absurd rfl hne | cons _ _ => rfl
  simp only [he, Bool.false_eq_true, if_false] at h
  cases nodeDIDSet with
  | false => simp at h
  | true =>
    simp only [Bool.not_true, Bool.false_eq_true, if_false] at h
    obtain ⟨h1, h2⟩ := encryptCount_ok parts k h
    refine ⟨h1, ?_, rfl, h2⟩
    rw [h1]
    cases parts with
    | nil => exact absurd rfl hne
    | cons _ _ => simp

/-- `PAL.Encrypt` has no `continue` in its loops (no participant is skipped) and both checks of the recipient loop
    return an error; `tlsAuthenticator` is stateless: its only field is the service resolver, `Authenticate` has a value
    receiver, the file declares no package-level variables — the endpoint is resolved on EVERY call -/
theorem fact_encrypt_and_authenticator_stateless :
    Facts.C15.encryptContinues = 0 ∧ Facts.C15.encryptLoopChecks = ["err != nil", "!ok"] ∧ Facts.C15.encryptChecksAllReturnError = true ∧
    Facts.C15.tlsAuthenticatorFields = ["serviceResolver"] ∧ Facts.C15.authenticateReceiver = "tlsAuthenticator" ∧
    Facts.C15.authenticatorPackageVars = [] := ⟨rfl, rfl, rfl, rfl, rfl, rfl⟩

/-- with TLS offloading the certificate used for authentication is the one in the SINGLE header value: any other
    multiplicity (none, or a client-supplied value next to the proxy's) is refused -/
theorem offloaded_certificate_needs_exactly_one_value (vals : List HeaderVal) (owner : String)
    (h : offloadedCertificate vals = some owner) : vals = [.cert owner] := by
  match vals, h with
  | [.cert o], h => simp [offloadedCertificate] at h; rw [h]

theorem fact_offloading_header_checks :
    Facts.C15.offloadHeaderCountCheck = "len(values) != 1" ∧ Facts.C15.offloadCertificateCountCheck = "len(certificates) != 1" ∧
    Facts.C15.offloadValueIndex = ["0", "0"] := ⟨rfl, rfl, rfl⟩

/-- **several streams on one connection (TLS offloading behind a multiplexing proxy)**: whatever the shared `*peer.Peer` of the
    connection holds when a stream arrives (nothing, the certificate of an earlier stream, anything), the certificate the
    stream's handler authenticates with is the one in THIS stream's single header value, or the stream is refused -/
theorem offloaded_identity_is_this_streams_header (shared : Option String) (vals : List HeaderVal) :
    (interceptStream shared vals).2 = offloadedCertificate vals := by
  unfold interceptStream
  cases offloadedCertificate vals <;> rfl

/-- for the whole history of streams of a connection: stream i sees exactly the certificate of its own header — it is
    independent of the earlier streams and of the initial peer info -/
theorem offloaded_streams_independent (shared : Option String) (streams : List (List HeaderVal)) :
    interceptStreams shared streams = streams.map offloadedCertificate := by
  induction streams generalizing shared with
  | nil => rfl
  | cons v rest ih =>
    simp only [interceptStreams, List.map_cons]
    rw [ih, offloaded_identity_is_this_streams_header]

/-- in particular a stream whose header carries the attacker's certificate is never handled with the victim's, although the
    victim's stream came first on the same connection -/
example : interceptStreams none [[.cert "victim.example.org"], [.cert "attacker.example"]]
    = [some "victim.example.org", some "attacker.example"] := by decide

/-- regenerated: `intercept` assigns `peerInfo.AuthInfo` exactly once, as a top-level (unguarded) statement, from the
    certificates parsed from this stream's header -/
theorem fact_offloading_authinfo_overwritten :
    Facts.C15.offloadAuthInfoAssignments = ["depth=0 guard=- PeerCertificates=certificates"] := rfl

/-! ### non-vacuity: a node holding a private transaction for [A, B]; B (listed, authenticated) gets the payload,
    C (unlisted) and an unauthenticated B get the empty response; hypotheses of the theorems are met -/

private def exEnv : Env :=
  { decode := fun _ _ => .fail, order := id,
    dec := fun kid c => if (kid == "A#k" && c == 0) || (kid == "B#k" && c == 1) then .ok [some "A", some "B"] else .fail }
private def exPriv : Tx := { ref := 7, clock := 1, prevs := [1], pal := [0, 1], payloadHash := 70, sigOK := true, size := 10 }
private def exRoot : Tx := { ref := 1, clock := 0, prevs := [], pal := [], payloadHash := 10, sigOK := true, size := 10 }
private def exNode : Node :=
  { id := 0, did := "A", kaks := [⟨"A#k", true⟩], dag := [exPriv, exRoot],
    payloads := [(70, ⟨"secret", 6, 70⟩), (10, ⟨"public", 6, 10⟩)] }

example : (handleTransactionPayloadQuery exEnv exNode { key := 1, authenticated := true, did := "B" } 7).out
    = [(1, .payload 7 (some ⟨"secret", 6, 70⟩))] := by decide
example : (handleTransactionPayloadQuery exEnv exNode { key := 2, authenticated := true, did := "C" } 7).out
    = [(2, .payload 7 none)] := by decide
example : (handleTransactionPayloadQuery exEnv exNode { key := 1, authenticated := false, did := "B" } 7).out
    = [(1, .payload 7 none)] := by decide
private def exCfg : Cfg :=
  { pageSize := 512, maxQueue := 100, rangePages := 2, msgOverhead := 512, txOverhead := 9, maxMsg := 524288, validity := 30,
    blockState := false, blockList := true, blockRange := true, nextOne := (1, 2), nextTwo := (1, 3) }
example : (handleTransactionRangeQuery exCfg exNode { key := 2 } (9, 9) 0 5).out
    = [(2, .txList (9, 9) 1 1 [⟨some exRoot, some ⟨"public", 6, 10⟩⟩, ⟨some exPriv, none⟩])] := by decide
example : StoreOK exNode := storeOK_of_all exNode (by decide)
example : PrivSeparate exNode := by unfold PrivSeparate; decide
example : PrivateBytes exNode ⟨"secret", 6, 70⟩ := ⟨exPriv, by simp [exNode], by decide, rfl⟩
example : HonestPal exEnv (fun d => d ++ "#k") (fun d => if d = "A" then 0 else 1) ["A", "B"] := by
  intro d hd kid
  simp only [List.mem_cons, List.mem_nil_iff, or_false] at hd
  rcases hd with rfl | rfl <;> simp [exEnv]
example : (authenticate { parseHost := fun _ => some "node.example.com", verifyHostname := fun dns h => dns.contains h }
    "did:nuts:x" { key := 1 } { cert := some ["node.example.com"], endpoint := some "grpc://node.example.com:5555" }).1.authenticated = true := by decide

/-! ### how the identity on a connection comes about for inbound streams
    (grpc/util.go readMetadata, connection_manager.go handleInboundStream, connection_list.go getOrRegister, connection.go
    registerStream). The v2 handlers decide on `connection.Peer()`; a stream joins an EXISTING connection when peer ID and node
    DID match. Invariant over ALL histories of stream arrivals and ends: every stream sits on a connection whose identity its own
    set-up (its own headers, its own certificate) established. -/

/-- a stream record whose remembered identity is what ITS OWN set-up established -/
def StreamOK (E : InEnv) (s : StreamRec) : Prop :=
  (cmAuthenticate E.kind E.auth s.claimed { key := 0 } s.auth).2 = false ∧
  s.peer = (cmAuthenticate E.kind E.auth s.claimed { key := 0 } s.auth).1 ∧
  s.auth.endpoint = E.resolve s.claimed

def ConnOK (E : InEnv) (c : Conn) : Prop :=
  (c.peer.authenticated = true ↔ c.peer.did ≠ "") ∧
  ∀ s ∈ c.streams, StreamOK E s ∧ s.peer.did = c.peer.did ∧ s.peer.authenticated = c.peer.authenticated

def ConnsOK (E : InEnv) (cs : List Conn) : Prop := ∀ c ∈ cs, ConnOK E c

theorem cmAuthenticate_wf (k : AuthKind) (e : AuthEnv) (claimed : String) (i : AuthIn)
    (h : (cmAuthenticate k e claimed { key := 0 } i).2 = false) :
    (cmAuthenticate k e claimed { key := 0 } i).1.authenticated = true ↔ (cmAuthenticate k e claimed { key := 0 } i).1.did ≠ "" := by
  rcases cmAuthenticate_cases k e claimed { key := 0 } i with ⟨_, hr⟩ | ⟨hne, hr, _⟩ | hr <;> rw [hr] at h ⊢
  · exact ⟨nofun, fun h => absurd rfl h⟩
  · exact ⟨fun _ => hne, fun _ => rfl⟩
  · cases h

theorem handleInbound_ok (E : InEnv) (cs : List Conn) (s : StreamIn) (h : ConnsOK E cs) :
    ConnsOK E (handleInbound E cs s).1 := by
  rcases handleInbound_cases E cs s with h1 | ⟨pid, claimed, _, hf, h1⟩ <;> rw [h1]
  · exact h
  have hr : StreamOK E (streamRec E claimed s) := ⟨hf, rfl, rfl⟩
  have hwf := cmAuthenticate_wf E.kind E.auth claimed (streamAuthIn E claimed s) hf
  refine attach_forall (ConnOK E) pid _ _ _ ⟨hwf, fun x hx => ?_⟩ (fun c hc hdid => ⟨hc.1, fun x hx => ?_⟩) cs h
  · rw [List.mem_singleton.mp hx]; exact ⟨hr, rfl, rfl⟩
  · rcases List.mem_append.mp hx with hx | hx
    · exact hc.2 x hx
    · rw [List.mem_singleton.mp hx]
      exact ⟨hr, hdid.symm, Bool.eq_iff_iff.mpr (hwf.trans (hdid ▸ hc.1).symm)⟩

/-- **C15, clause 1, connection state.** For every history of inbound streams and stream ends (from the empty connection list),
    every stream attached to a connection passed the connection manager's `authenticate` ITSELF and the identity that
    established (node DID, authenticated flag) is exactly the identity of the connection the v2 handlers will read. -/
theorem inbound_streams_share_connection_identity (E : InEnv) (evs : List Ev) (c : Conn) (hc : c ∈ runEvs E [] evs)
    (s : StreamRec) (hs : s ∈ c.streams) :
    (cmAuthenticate E.kind E.auth s.claimed { key := 0 } s.auth).2 = false ∧
    s.peer = (cmAuthenticate E.kind E.auth s.claimed { key := 0 } s.auth).1 ∧
    s.auth.endpoint = E.resolve s.claimed ∧
    s.peer.did = c.peer.did ∧ s.peer.authenticated = c.peer.authenticated := by
  have hstep : ∀ ev ∈ evs, ∀ cs, ConnsOK E cs → ConnsOK E (stepEv E cs ev) := by
    intro ev _ cs h
    cases ev with
    | open_ s => exact handleInbound_ok E cs s h
    | close sid => exact fun c hc => h c (List.mem_filter.mp hc).1
  obtain ⟨⟨h1, h2, h3⟩, h4, h5⟩ := (foldl_invariant (ConnsOK E) (stepEv E) evs [] hstep (fun _ h => nomatch h) c hc).2 s hs
  exact ⟨h1, h2, h3, h4, h5⟩

/-- a refused stream (bad metadata, failed authentication, protocol already connected) leaves the connection list untouched -/
theorem refused_inbound_stream_changes_nothing (E : InEnv) (cs : List Conn) (s : StreamIn)
    (h : ∀ i, (handleInbound E cs s).2 ≠ .joined i) : (handleInbound E cs s).1 = cs := by
  rcases handleInbound_cases E cs s with h1 | ⟨_, _, i, _, h1⟩
  · exact h1
  · exact absurd (by rw [h1]) (h i)

/-- `readMetadata` accepts only ONE peer ID value (non-empty after trimming) and at most ONE node DID value, which must parse:
    a second header value (e.g. appended by a proxy after a client-supplied one) never selects an identity -/
theorem readMetadata_ok_needs_single_values (pd : String → Option String) (pids dids : List String) (pid d : String)
    (h : readMetadata pd pids dids = .ok (pid, d)) :
    (∃ v, pids = [v] ∧ pid = trimSpace v) ∧ pid ≠ "" ∧
    ((dids = [] ∧ d = "") ∨ ∃ w, dids = [w] ∧ ((trimSpace w = "" ∧ d = "") ∨ (trimSpace w ≠ "" ∧ pd (trimSpace w) = some d))) := by
  obtain ⟨h1, hne, d', h2, hd⟩ := readMetadata_ok h
  refine ⟨?_, hne, ?_⟩
  · rcases headerValue_ok h1 with ⟨_, hr, _⟩ | hv
    · cases hr
    · exact hv
  · rcases headerValue_ok h2 with ⟨hnil, _, rfl⟩ | ⟨w, hw, rfl⟩
    · rcases hd with ⟨_, hd⟩ | ⟨hd, _⟩
      · exact Or.inl ⟨hnil, hd⟩
      · exact absurd rfl hd
    · exact Or.inr ⟨w, hw, hd⟩

/-- the regenerated call site of the inbound connection lookup means what the model's `attach` tests: peer ID AND node DID
    (dropping `ByNodeDID` would let a stream without identity join an authenticated connection announcing its peer ID) -/
theorem fact_inbound_lookup_is_model (c : Conn) (id did : String) :
    connMatches (Facts.C15.inboundConnectionLookup.map LookupKey.ofSource) c id did = (c.id == id && c.peer.did == did) := by
  have : Facts.C15.inboundConnectionLookup.map LookupKey.ofSource = [.peerID, .nodeDID] := by decide
  rw [this]
  simp [connMatches]

/-- `connectionList.get`: a mismatching predicate skips the connection, the first full match is returned; the two identity
    predicates compare `conn.Peer().ID` / `conn.Peer().NodeDID`; `registerStream` refuses a second stream of a protocol -/
theorem fact_connection_get_and_predicates :
    Facts.C15.connectionGetShape = ["if len(query) == 0 { return nil }", "return nil", "if !predicate.Match(curr) { continue outer }", "return curr", "return nil"] ∧
    Facts.C15.identityPredicates = ["nodeDIDPredicate: { return conn.Peer().NodeDID.Equals(predicate.nodeDID) }", "peerIDPredicate: { return conn.Peer().ID == predicate.peerID }"] ∧
    Facts.C15.registerStreamGuard = "mc.streams[methodName] != nil => { return false }" := ⟨rfl, rfl, rfl⟩

/-- `handleInboundStream`: metadata, certificate of THIS stream, authentication, and only then lookup / registration; the peer
    handed to `authenticate` carries no node DID and no authenticated flag of its own -/
theorem fact_inbound_stream_order :
    Facts.C15.inboundStreamCalls = ["readMetadata(md)", "extractCertificate(peerFromCtx)", "s.authenticate(nodeDID, peer)",
      "s.connections.getOrRegister(s.ctx, peer, false)", "connection.registerStream(protocol, wrappedStream)",
      "connection.waitUntilDisconnected()", "s.connections.remove(connection)"] ∧
    Facts.C15.inboundPeerLiteral = ["ID=peerID", "Address=peerFromCtx.Addr.String()", "Certificate=extractCertificate(peerFromCtx)"] := ⟨rfl, rfl⟩

/-- `readMetadata`: peer ID required, node DID optional, more than one value refused, a single value trimmed -/
theorem fact_read_metadata_shape :
    Facts.C15.readMetadataValCalls = ["peerIDHeader,true", "nodeDIDHeader,false"] ∧
    Facts.C15.readMetadataShape = ["if len(values) == 0", "if !required", "ok \"\"", "err", "if len(values) > 1", "err",
      "ok strings.TrimSpace(values[0])", "top-if peerIDStr == \"\"", "top-if nodeDIDStr != \"\""] := ⟨rfl, rfl⟩

def exAuthEnv : AuthEnv := { parseHost := fun ep => some ep, verifyHostname := fun dns h => dns.contains h }
def exE : InEnv := ⟨.tls, exAuthEnv, fun d => some d, fun d => if d = "did:nuts:v" then some "v.example" else none⟩

example : (runEvs exE [] [.open_ ⟨0, ["P1"], ["did:nuts:v"], some ["v.example"], "p1"⟩, .open_ ⟨1, ["P1"], [], some ["x.example"], "p2"⟩,
    .open_ ⟨2, ["P1"], ["did:nuts:v"], some ["x.example"], "p2"⟩, .open_ ⟨3, ["P1"], ["did:nuts:v"], some ["v.example"], "p2"⟩]).map
    (fun c => (c.peer.authenticated, c.streams.map (·.sid))) = [(true, [0, 3]), (false, [1])] := by decide +kernel

/-! ### how the identity on a connection comes about for OUTBOUND connections
    (grpc/connection_manager.go connect / openOutboundStreams / openOutboundStream, connection.go verifyOrSetPeerID / setPeer /
    registerStream / disconnect). The node dials a contact with an EXPECTED node DID; the invariant over all server answers:
    the connection's DID stays the dialled one and is marked authenticated only by a covering certificate. -/

/-- the certificate `cert` is valid for the host of the NutsComm endpoint the DID `d` resolves to -/
def CertCovers (E : InEnv) (d : String) (cert : Option (List String)) : Prop :=
  ∃ dns ep host, cert = some dns ∧ E.resolve d = some ep ∧ E.auth.parseHost ep = some host ∧
    E.auth.verifyHostname dns host = true

/-- the connection manager's `authenticate` with the TLS authenticator, for ANY peer value passed in (on an outbound connection
    it is the connection's current peer): no error for a claimed DID means authenticated as that DID by a covering certificate -/
theorem cmAuthenticate_tls_ok (e : AuthEnv) (claimed : String) (peer : Peer) (i : AuthIn) (hne : claimed ≠ "")
    (h : (cmAuthenticate .tls e claimed peer i).2 = false) :
    (cmAuthenticate .tls e claimed peer i).1 = { peer with did := claimed, authenticated := true } ∧
    ∃ dns ep host, i.cert = some dns ∧ i.endpoint = some ep ∧ e.parseHost ep = some host ∧ e.verifyHostname dns host = true := by
  rcases cmAuthenticate_cases .tls e claimed peer i with ⟨he, _⟩ | ⟨_, hr, hcov⟩ | hr
  · exact absurd he hne
  · exact ⟨by rw [hr], hcov rfl⟩
  · rw [hr] at h; cases h

/-- what holds of an outbound connection dialled for the expected DID `x` at every point of its set-up -/
def OutOK (E : InEnv) (x : String) (c : Conn) : Prop :=
  c.peer.did = x ∧
  (c.peer.authenticated = true → x ≠ "" ∧ CertCovers E x c.cert) ∧
  ∀ s ∈ c.streams, s.peer.did = x ∧ s.claimed = x ∧ s.peer.authenticated = c.peer.authenticated ∧
    (x ≠ "" → s.peer.authenticated = true ∧ CertCovers E x s.auth.cert)

theorem registerOut_ok (E : InEnv) (x : String) (c : Conn) (r : StreamRec) (hc : OutOK E x c)
    (hr : r.peer.did = x ∧ r.claimed = x ∧ r.peer.authenticated = c.peer.authenticated ∧
      (x ≠ "" → r.peer.authenticated = true ∧ CertCovers E x r.auth.cert)) :
    OutOK E x (registerOut c r).1 := by
  unfold registerOut
  split
  · exact hc
  · exact ⟨hc.1, hc.2.1, fun s hs => (List.mem_append.mp hs).elim (hc.2.2 s) fun hs => List.mem_singleton.mp hs ▸ hr⟩

theorem openOutboundStream_ok (E : InEnv) (hk : E.kind = .tls) (x : String) (c : Conn) (s : OutStream)
    (hc : OutOK E x c) : OutOK E x (openOutboundStream E c s).1 := by
  obtain ⟨rfl, hauth, hstr⟩ := hc
  refine openOutboundStream_elim E c s (fun r => OutOK E c.peer.did r.1) (fun _ _ _ => ⟨rfl, hauth, hstr⟩)
    (fun id hd => ?_) (fun id a ha hd hok => ?_)
  · exact registerOut_ok E _ _ _ ⟨rfl, fun ha => absurd hd (hauth ha).1, hstr⟩ ⟨rfl, hd.symm, rfl, fun h => absurd hd h⟩
  · subst ha
    rw [hk] at hok ⊢
    obtain ⟨hp, hcov⟩ := cmAuthenticate_tls_ok E.auth c.peer.did c.peer _ hd hok
    rw [hp]
    refine registerOut_ok E _ _ _ ⟨rfl, fun _ => ⟨hd, hcov⟩, fun t ht => ?_⟩ ⟨rfl, rfl, rfl, fun _ => ⟨rfl, hcov⟩⟩
    exact ⟨(hstr t ht).1, (hstr t ht).2.1, ((hstr t ht).2.2.2 hd).1, (hstr t ht).2.2.2⟩

theorem openOutboundStreams_ok (E : InEnv) (hk : E.kind = .tls) (x : String) (ss : List OutStream) :
    ∀ (c : Conn) (n : Nat), OutOK E x c → OutOK E x (openOutboundStreams E c ss n).1 := by
  induction ss with
  | nil => intro c n h; exact h
  | cons s rest ih =>
    intro c n h
    have hs := openOutboundStream_ok E hk x c s h
    unfold openOutboundStreams
    split
    · exact hs
    · exact ih _ _ hs
    · exact ih _ _ hs

theorem dialled_ok (E : InEnv) (x : String) : OutOK E x (dialled x) :=
  ⟨rfl, fun h => Bool.noConfusion h, fun _ hs => nomatch hs⟩

/-- **C15, clause 1, outbound connections.** With the TLS authenticator, whatever the dialled server answers on whatever
    streams (any number of protocols, any headers, any certificates, any failures): the identity of the connection stays
    the DID this node dialled; it is marked authenticated only if that DID is non-empty and the certificate now on the
    connection covers the NutsComm host of it; and every stream registered on it carries that identity, proved by the
    certificate of ITS OWN set-up. -/
theorem outbound_connection_identity_is_dialled_and_proved (E : InEnv) (hk : E.kind = .tls) (x : String)
    (ss : List OutStream) :
    let c := (openOutboundStreams E (dialled x) ss 0).1
    c.peer.did = x ∧
    (c.peer.authenticated = true → x ≠ "" ∧ CertCovers E x c.cert) ∧
    ∀ s ∈ c.streams, s.peer.did = x ∧ s.claimed = x ∧ s.peer.authenticated = c.peer.authenticated ∧
      (x ≠ "" → s.peer.authenticated = true ∧ CertCovers E x s.auth.cert) :=
  openOutboundStreams_ok E hk x ss _ _ (dialled_ok E x)

/-- with the TLS authenticator a bootstrap connection (no expected DID) is never authenticated, whatever DID the server
    announces -/
theorem bootstrap_connection_never_authenticated (E : InEnv) (hk : E.kind = .tls) (ss : List OutStream) :
    (openOutboundStreams E (dialled "") ss 0).1.peer.authenticated = false ∧
    (openOutboundStreams E (dialled "") ss 0).1.peer.did = "" := by
  have h := openOutboundStreams_ok E hk "" ss _ 0 (dialled_ok E "")
  refine ⟨?_, h.1⟩
  cases ha : (openOutboundStreams E (dialled "") ss 0).1.peer.authenticated with
  | false => rfl
  | true => exact absurd rfl (h.2.1 ha).1

/-- **C15, end to end (dial -> payload release).** With the TLS authenticator: if the node answers a message handled with
    the identity of an outbound connection with the payload of a PAL-bearing transaction, then the DID it DIALLED is on
    the list it decrypts, and the connection's certificate and the certificate of every stream on it cover the NutsComm
    host of that DID. -/
theorem outbound_stream_to_release_sound (E : InEnv) (hk : E.kind = .tls) (x : String) (ss : List OutStream)
    (cfg : Cfg) (env : Env) (n : Node) (key : Nat) (m : Msg) (o : Nat × Msg)
    (ho : o ∈ allOut env (handle cfg env n { (openOutboundStreams E (dialled x) ss 0).1.peer with key := key } m))
    (ref : Ref) (p : Payload) (hpl : o.2 = .payload ref (some p)) :
    ∃ tx, getTx n.dag ref = some tx ∧ readPayload n tx.payloadHash = some p ∧
      (tx.pal ≠ [] →
        (∃ dids, decryptPAL env n tx.pal = .pal dids ∧ x ∈ dids) ∧ x ≠ "" ∧
        CertCovers E x (openOutboundStreams E (dialled x) ss 0).1.cert ∧
        ∀ s ∈ (openOutboundStreams E (dialled x) ss 0).1.streams, CertCovers E x s.auth.cert) := by
  have hinv := openOutboundStreams_ok E hk x ss _ 0 (dialled_ok E x)
  obtain ⟨tx, h1, h2, h3⟩ := release_on_identity cfg env n _ key m o ho ref p hpl hinv.2.1
  refine ⟨tx, h1, h2, fun hpal => ?_⟩
  obtain ⟨⟨dids, hd, hmem⟩, hne, hcov⟩ := h3 hpal
  exact ⟨⟨dids, hd, hinv.1 ▸ hmem⟩, hne, hcov, fun s hs => ((hinv.2.2 s hs).2.2.2 hne).2⟩

/-- a stream that is not opened (any refusal, fatal or not) adds no stream to the connection -/
theorem unopened_outbound_stream_registers_nothing (E : InEnv) (c : Conn) (s : OutStream)
    (h : (openOutboundStream E c s).2 ≠ .opened) : (openOutboundStream E c s).1.streams = c.streams := by
  have hreg : ∀ (c' : Conn) (r : StreamRec), (registerOut c' r).2 ≠ .opened → (registerOut c' r).1.streams = c'.streams := by
    intro c' r
    unfold registerOut
    split
    · exact fun _ => rfl
    · exact fun h => absurd rfl h
  revert h
  exact openOutboundStream_elim E c s (fun r => r.2 ≠ .opened → r.1.streams = c.streams) (fun _ _ _ _ => rfl)
    (fun _ _ => hreg _ _) (fun _ _ _ _ _ => hreg _ _)

/-- every way out of the outbound set-up other than live streams leaves a reset connection: no streams, no DID, not
    authenticated (the deferred `disconnect()` of `connect`) -/
theorem failed_outbound_connection_is_reset (E : InEnv) (x : String) (ss : List OutStream)
    (h : (connectOutbound E x ss).2 ≠ .blocked) :
    (connectOutbound E x ss).1.streams = [] ∧ (connectOutbound E x ss).1.peer.did = "" ∧
    (connectOutbound E x ss).1.peer.authenticated = false ∧ (connectOutbound E x ss).1.id = "" := by
  unfold connectOutbound at h ⊢
  split
  · rename_i hb; simp [hb] at h
  · simp [disconnect]

/-- regenerated: `openOutboundStream` in source order — create, headers (no headers = the only non-fatal exit), metadata, peer ID,
    the connection's peer with THIS stream's certificate, and — under "expected DID non-empty" only — server DID present, equal,
    authenticated (each failure fatal); `setPeer` after all of them; `registerStream` last -/
theorem fact_open_outbound_stream_flow :
    Facts.C15.openOutboundStreamFlow = ["clientStream, err := protocol.CreateClientStream(outgoingContext, grpcConn)", "if err != nil",
      ">return nil, fatalError{error: err}", "peerHeaders, err := clientStream.Header()", "if err != nil",
      ">return nil, fatalError{error: fmt.Errorf(\"failed to read gRPC headers: %w\", err)}",
      "if len(peerHeaders) == 0",
      ">return nil, fmt.Errorf(\"peer didn't send any headers, maybe the protocol version is not supported\")",
      "peerID, nodeDID, err := readMetadata(peerHeaders)", "if err != nil",
      ">return nil, fatalError{error: fmt.Errorf(\"failed to read peer ID header: %w\", err)}",
      "if !connection.verifyOrSetPeerID(peerID)",
      ">return nil, fatalError{error: fmt.Errorf(\"peer sent invalid ID (id=%s)\", peerID)}",
      "peer := connection.Peer()", "peer.Certificate = extractCertificate(peerFromCtx)", "if !peer.NodeDID.Empty()",
      ">if nodeDID.Empty()", ">>return nil, fatalError{ErrNodeDIDAuthFailed}", ">if !peer.NodeDID.Equals(nodeDID)",
      ">>return nil, fatalError{ErrUnexpectedNodeDID}", ">peer, err = s.authenticate(nodeDID, peer)",
      ">if err != nil", ">>return nil, fatalError{err}", "connection.setPeer(peer)",
      "if !connection.registerStream(protocol, wrappedStream)",
      ">return nil, fatalError{error: ErrAlreadyConnected}", "return clientStream, nil"] := rfl

/-- regenerated: the protocol loop gives up on a fatal error, moves on after a non-fatal one, counts opened streams and fails
    when none was opened; `connect` registers the contact's peer as an outbound connection and ALWAYS disconnects + removes it
    when it returns -/
theorem fact_open_outbound_streams_loop_and_connect :
    Facts.C15.openOutboundStreamsFlow = ["md, err := s.constructMetadata(connection.Peer().NodeDID.Empty())", "if err != nil", ">return err",
      "protocolNum := 0", "range s.protocols",
      ">clientStream, err := s.openOutboundStream(connection, protocol, grpcConn, md)", ">if err != nil",
      ">>if errors.As(err, new(fatalError))", ">>>return err", ">>continue", ">protocolNum++", "if protocolNum == 0",
      ">return fmt.Errorf(\"could not use any of the supported protocols to communicate with peer (id=%s)\", connection.Peer())",
      "connection.waitUntilDisconnected()",
      "if st := connection.closeError(); st != nil && st.Code() == codes.Unauthenticated", ">return st.Err()",
      "return nil"] ∧
    Facts.C15.connectFlow = ["connection, isNew := s.connections.getOrRegister(s.ctx, contact.peer, true)", "if !isNew", ">return", "defer",
      ">connection.disconnect()", ">s.connections.remove(connection)",
      "grpcClient, err := s.dialer(dialContext, contact.peer.Address, s.dialOptions...)", "if err != nil",
      ">if isStatusError && errStatus.Code() == codes.Canceled", ">>return", ">return",
      "err = s.openOutboundStreams(connection, grpcClient)", "if err != nil",
      ">if errors.Is(err, ErrUnexpectedNodeDID)", "else"] := ⟨rfl, rfl⟩

/-- regenerated: `verifyOrSetPeerID` sets an empty ID and compares otherwise; `disconnect` drops the streams and resets peer ID,
    node DID and the authenticated flag; `createConnection` stores the peer it is given -/
theorem fact_connection_peer_updates :
    Facts.C15.verifyOrSetPeerIDFlow = ["currentPeer := mc.Peer()", "if len(currentPeer.ID) == 0", ">currentPeer.ID = id", ">mc.setPeer(currentPeer)",
      ">return true", "return currentPeer.ID == id"] ∧
    Facts.C15.disconnectFlow = ["mc.streams = make(map[string]Stream)", "range mc.outboxes", "peer := mc.Peer()", "peer.ID = \"\"",
      "peer.NodeDID = did.DID{}", "peer.Authenticated = false", "mc.setPeer(peer)"] ∧
    Facts.C15.createConnectionFlow = ["result := &conn{streams: make(map[string]Stream), outboxes: make(map[string]chan interface{})}",
      "result.setPeer(peer)", "return result"] ∧
    Facts.C15.outboundConnectionLookups = ["ByAddress(peer.Address) & ByNodeDID(peer.NodeDID)", "ByNodeDID(peer.NodeDID)"] := ⟨rfl, rfl, rfl, rfl⟩

def exOut (pids dids : List String) (cert : Option (List String)) (proto : String) : OutStream :=
  ⟨0, proto, false, false, pids, dids, false, cert⟩

/-- non-vacuity: the dialled DID proved on two protocols; a lying server (other DID / wrong certificate / no DID) is fatal and the
    connection is reset; a bootstrap connection opens unauthenticated whatever DID is announced -/
example : (fun r : Conn × LoopRes => (r.1.peer.authenticated, r.1.peer.did, r.1.streams.length, r.2))
    (connectOutbound exE "did:nuts:v" [exOut ["S"] ["did:nuts:v"] (some ["v.example"]) "p1", exOut ["S"] ["did:nuts:v"] (some ["v.example"]) "p2"])
    = (true, "did:nuts:v", 2, .blocked) := by decide +kernel
example : (fun r : Conn × LoopRes => (r.1.peer.authenticated, r.1.peer.did, r.1.streams.length, r.2))
    (connectOutbound exE "did:nuts:v" [exOut ["S"] ["did:nuts:v"] (some ["v.example"]) "p1", exOut ["S"] ["did:nuts:v"] (some ["x.example"]) "p2"])
    = (false, "", 0, .fatal "auth") := by decide +kernel
example : ((connectOutbound exE "did:nuts:v" [exOut ["S"] ["did:nuts:w"] (some ["v.example"]) "p1"]).2,
    (connectOutbound exE "did:nuts:v" [exOut ["S"] [] (some ["v.example"]) "p1"]).2,
    (connectOutbound exE "did:nuts:v" [exOut ["S"] ["did:nuts:v"] (some ["v.example"]) "p1", exOut ["T"] ["did:nuts:v"] (some ["v.example"]) "p2"]).2)
    = (.fatal "unexpected", .fatal "maintenance", .fatal "peerid") := by decide +kernel
example : (fun r : Conn × LoopRes => (r.1.peer.authenticated, r.1.peer.did, r.1.streams.length, r.2))
    (connectOutbound exE "" [exOut ["S"] ["did:nuts:v"] (some ["v.example"]) "p1"]) = (false, "", 1, .blocked) := by decide
example : CertCovers exE "did:nuts:v" (some ["v.example"]) := ⟨["v.example"], "v.example", "v.example", rfl, rfl, rfl, by decide⟩

/-! ### inbound streams and outbound connections on ONE connection list (the inbound lookup also matches a
    connection this node dialled; `connect` does not dial when a connection with the expected DID exists) -/

/-- what must hold of EVERY connection in the list, whoever created it: marked authenticated only with a DID and a covering
    certificate; every stream on it named the connection's DID in its own set-up and, when there is a DID, proved it with its
    own certificate -/
def Safe (E : InEnv) (c : Conn) : Prop :=
  (c.peer.authenticated = true → c.peer.did ≠ "" ∧ CertCovers E c.peer.did c.cert) ∧
  ∀ s ∈ c.streams, s.claimed = c.peer.did ∧ (c.peer.did ≠ "" → CertCovers E c.peer.did s.auth.cert)

def AllSafe (E : InEnv) (cs : List Conn) : Prop := ∀ c ∈ cs, Safe E c

/-- an inbound stream that passed the TLS authenticator carries the DID it claimed, and proved a non-empty one -/
theorem streamAuth_tls (E : InEnv) (hk : E.kind = .tls) (claimed : String) (s : StreamIn)
    (h : (streamAuth E claimed s).2 = false) :
    (streamAuth E claimed s).1.did = claimed ∧ ((streamAuth E claimed s).1.authenticated = true → claimed ≠ "") ∧
    (claimed ≠ "" → CertCovers E claimed s.cert) := by
  unfold streamAuth at h ⊢
  rw [hk] at h ⊢
  rcases cmAuthenticate_cases .tls E.auth claimed { key := 0 } (streamAuthIn E claimed s) with
    ⟨he, hr⟩ | ⟨hne, hr, hcov⟩ | hr <;> rw [hr] at h ⊢
  · exact ⟨he.symm, nofun, fun h => absurd he h⟩
  · exact ⟨rfl, fun _ => hne, fun _ => hcov rfl⟩
  · cases h

theorem handleInbound_safe (E : InEnv) (hk : E.kind = .tls) (cs : List Conn) (s : StreamIn) (h : AllSafe E cs) :
    AllSafe E (handleInbound E cs s).1 := by
  rcases handleInbound_cases E cs s with h1 | ⟨pid, claimed, _, hf, h1⟩ <;> rw [h1]
  · exact h
  obtain ⟨hd, ha, hcov⟩ := streamAuth_tls E hk claimed s hf
  have hrec : ∀ d, d = claimed → (streamRec E claimed s).claimed = d ∧ (d ≠ "" → CertCovers E d s.cert) := by
    rintro _ rfl; exact ⟨rfl, hcov⟩
  refine attach_forall (Safe E) pid _ _ _ ⟨fun hau => ?_, fun x hx => ?_⟩ (fun c hc hdid => ⟨hc.1, fun x hx => ?_⟩) cs h
  · show (streamAuth E claimed s).1.did ≠ "" ∧ CertCovers E (streamAuth E claimed s).1.did s.cert
    rw [hd]; exact ⟨ha hau, hcov (ha hau)⟩
  · rw [List.mem_singleton.mp hx]; exact hrec _ hd
  · rcases List.mem_append.mp hx with hx | hx
    · exact hc.2 x hx
    · rw [List.mem_singleton.mp hx]; exact hrec _ (hdid.trans hd)

theorem registerOut_safe (E : InEnv) (c : Conn) (r : StreamRec) (hc : Safe E c)
    (hr : r.claimed = c.peer.did ∧ (c.peer.did ≠ "" → CertCovers E c.peer.did r.auth.cert)) :
    Safe E (registerOut c r).1 := by
  unfold registerOut
  split
  · exact hc
  · exact ⟨hc.1, fun s hs => (List.mem_append.mp hs).elim (hc.2 s) fun hs => List.mem_singleton.mp hs ▸ hr⟩

theorem openOutboundStream_safe (E : InEnv) (hk : E.kind = .tls) (c : Conn) (s : OutStream)
    (hc : Safe E c) : Safe E (openOutboundStream E c s).1 := by
  refine openOutboundStream_elim E c s (fun r => Safe E r.1) (fun _ _ _ => hc) (fun id hd => ?_) (fun id a ha hd hok => ?_)
  · exact registerOut_safe E _ _ ⟨fun ha => absurd hd (hc.1 ha).1, hc.2⟩ ⟨hd.symm, fun h => absurd hd h⟩
  · subst ha
    rw [hk] at hok ⊢
    obtain ⟨hp, hcov⟩ := cmAuthenticate_tls_ok E.auth c.peer.did c.peer _ hd hok
    rw [hp]
    exact registerOut_safe E _ _ ⟨fun _ => ⟨hd, hcov⟩, hc.2⟩ ⟨rfl, fun _ => hcov⟩

theorem modifyAt_safe (E : InEnv) (f : Conn → Conn) (hf : ∀ c, Safe E c → Safe E (f c)) :
    ∀ (cs : List Conn) (i : Nat), AllSafe E cs → AllSafe E (modifyAt cs i f)
  | [], _, h => h
  | c :: _, 0, h => List.forall_mem_cons.mpr ⟨hf c (h c List.mem_cons_self), fun x hx => h x (List.mem_cons_of_mem _ hx)⟩
  | c :: rest, i + 1, h => List.forall_mem_cons.mpr
      ⟨h c List.mem_cons_self, modifyAt_safe E f hf rest i fun x hx => h x (List.mem_cons_of_mem _ hx)⟩

theorem stepM_safe (E : InEnv) (hk : E.kind = .tls) (cs : List Conn) (ev : MEv) (h : AllSafe E cs) :
    AllSafe E (stepM E cs ev) := by
  cases ev with
  | inOpen s => exact handleInbound_safe E hk cs s h
  | close sid => intro c hc; exact h c (List.mem_filter.mp hc).1
  | dial a x =>
    show AllSafe E (dialOut cs a x).1
    unfold dialOut
    by_cases hb : (cs.any (fun c => if x == "" then c.addr == a && c.peer.did == "" else c.peer.did == x)) = true
    · rw [if_pos hb]; exact h
    · rw [if_neg hb]
      intro c hc
      rcases List.mem_append.mp hc with hc | hc
      · exact h c hc
      · rw [List.mem_singleton.mp hc]; exact ⟨fun h => Bool.noConfusion h, fun _ hs => nomatch hs⟩
  | outStream i s => exact modifyAt_safe E _ (fun c hc => openOutboundStream_safe E hk c s hc) cs i h
  | outEnd i => intro c hc; exact h c (List.mem_of_mem_eraseIdx hc)

/-- **C15, clause 1, the shared connection list.** With the TLS authenticator, for every interleaving of inbound streams,
    stream ends, dials, outbound stream set-ups and outbound failures (from the empty list): a connection is marked
    authenticated only with a non-empty DID and a certificate covering the NutsComm host of it, and EVERY stream on it —
    also an inbound stream that joined a connection this node dialled, or the other way round — named that DID in its own
    set-up and proved it with its own certificate. -/
theorem connection_list_identity_safe (E : InEnv) (hk : E.kind = .tls) (evs : List MEv) :
    ∀ c ∈ runM E [] evs,
      (c.peer.authenticated = true → c.peer.did ≠ "" ∧ CertCovers E c.peer.did c.cert) ∧
      ∀ s ∈ c.streams, s.claimed = c.peer.did ∧ (c.peer.did ≠ "" → CertCovers E c.peer.did s.auth.cert) :=
  foldl_invariant (AllSafe E) (stepM E) evs [] (fun ev _ cs => stepM_safe E hk cs ev) (fun _ h => nomatch h)

/-- end to end over the shared list, with the TLS authenticator: a private payload leaves on a connection of ANY reachable
    list only if the connection's DID is on the decrypted list and every stream on the connection proved that DID with its
    own certificate -/
theorem connection_list_to_release_sound (E : InEnv) (hk : E.kind = .tls) (evs : List MEv) (c : Conn)
    (hc : c ∈ runM E [] evs) (cfg : Cfg) (env : Env) (n : Node) (key : Nat) (m : Msg)
    (o : Nat × Msg) (ho : o ∈ allOut env (handle cfg env n { c.peer with key := key } m)) (ref : Ref) (p : Payload)
    (hpl : o.2 = .payload ref (some p)) :
    ∃ tx, getTx n.dag ref = some tx ∧ readPayload n tx.payloadHash = some p ∧
      (tx.pal ≠ [] →
        (∃ dids, decryptPAL env n tx.pal = .pal dids ∧ c.peer.did ∈ dids) ∧
        CertCovers E c.peer.did c.cert ∧
        ∀ s ∈ c.streams, s.claimed = c.peer.did ∧ CertCovers E c.peer.did s.auth.cert) :=
  release_on_identity cfg env n c.peer key m o ho ref p hpl fun ha =>
    have hs := connection_list_identity_safe E hk evs c hc
    ⟨(hs.1 ha).2, fun s hs' => ⟨(hs.2 s hs').1, (hs.2 s hs').2 (hs.1 ha).1⟩⟩

/-! ### the inbound-only machine under the TLS authenticator, read off the shared list (`runEvs_eq_runM`) -/

/-- with the TLS authenticator: every stream on an authenticated connection claimed the connection's DID and presented
    ITS OWN certificate valid for the host of the NutsComm endpoint of that DID (no stream rides on another stream's proof) -/
theorem stream_on_authenticated_connection_proved_it (E : InEnv) (hk : E.kind = .tls) (evs : List Ev) (c : Conn)
    (hc : c ∈ runEvs E [] evs) (ha : c.peer.authenticated = true) (s : StreamRec) (hs : s ∈ c.streams) :
    s.claimed = c.peer.did ∧ s.claimed ≠ "" ∧
    ∃ dns ep host, s.auth.cert = some dns ∧ E.resolve c.peer.did = some ep ∧ E.auth.parseHost ep = some host ∧
      E.auth.verifyHostname dns host = true := by
  obtain ⟨hconn, hstr⟩ := connection_list_identity_safe E hk _ c (runEvs_eq_runM E [] evs ▸ hc)
  obtain ⟨hcl, hcov⟩ := hstr s hs
  exact ⟨hcl, hcl ▸ (hconn ha).1, hcov (hconn ha).1⟩

/-- **C15, end to end (stream set-up -> payload release).** Composition of the connection-state invariant with
    `private_payload_release_sound`, with the TLS authenticator: whatever streams arrived and ended, if the node answers a
    message handled with the identity of connection `c` with the payload of a PAL-bearing transaction, then the DID of `c`
    is on the list this node decrypts AND every stream on `c` proved that DID with its own certificate. -/
theorem inbound_stream_to_release_sound (E : InEnv) (hk : E.kind = .tls) (evs : List Ev) (c : Conn)
    (hc : c ∈ runEvs E [] evs) (cfg : Cfg) (env : Env) (n : Node) (key : Nat) (m : Msg)
    (o : Nat × Msg) (ho : o ∈ allOut env (handle cfg env n { c.peer with key := key } m)) (ref : Ref) (p : Payload)
    (hpl : o.2 = .payload ref (some p)) :
    ∃ tx, getTx n.dag ref = some tx ∧ readPayload n tx.payloadHash = some p ∧
      (tx.pal ≠ [] →
        (∃ dids, decryptPAL env n tx.pal = .pal dids ∧ c.peer.did ∈ dids) ∧
        ∀ s ∈ c.streams, s.claimed = c.peer.did ∧
          ∃ dns ep host, s.auth.cert = some dns ∧ E.resolve c.peer.did = some ep ∧ E.auth.parseHost ep = some host ∧
            E.auth.verifyHostname dns host = true) := by
  obtain ⟨tx, h1, h2, h3⟩ := connection_list_to_release_sound E hk _ c (runEvs_eq_runM E [] evs ▸ hc) cfg env n key m o ho ref p hpl
  exact ⟨tx, h1, h2, fun hpal => ⟨(h3 hpal).1, (h3 hpal).2.2⟩⟩

/-- non-vacuity: the node dials v (peer ID S fixed by the first stream, authenticated), then an inbound stream with peer ID S that
    proves v JOINS the dialled connection; one that claims v with another certificate is refused; an anonymous one gets its own
    unauthenticated connection; a second dial of v does nothing -/
example : (runM exE [] [.dial "v.example:5555" "did:nuts:v", .outStream 0 (exOut ["S"] ["did:nuts:v"] (some ["v.example"]) "p1"),
    .inOpen ⟨7, ["S"], ["did:nuts:v"], some ["v.example"], "p2"⟩, .inOpen ⟨8, ["S"], ["did:nuts:v"], some ["x.example"], "p3"⟩,
    .inOpen ⟨9, ["S"], [], some ["x.example"], "p2"⟩, .dial "v.example:5555" "did:nuts:v"]).map
    (fun c => (c.peer.authenticated, c.peer.did, c.streams.map (·.sid))) = [(true, "did:nuts:v", [0, 7]), (false, "", [9])] := by decide +kernel

end Nuts.C15.Props
