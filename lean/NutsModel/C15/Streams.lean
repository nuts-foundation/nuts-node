/-
  C15: how the "peer identity on the connection" comes about for INBOUND streams
  (network/transport/grpc/util.go readMetadata, connection_manager.go handleInboundStream,
  connection_list.go getOrRegister (inbound branch) + get, connection.go registerStream, connectionList.remove).
  The v2 handlers decide on `connection.Peer()`; a stream is attached to an EXISTING connection when peer ID and node DID
  match, so the identity the handlers see for a stream may have been established by ANOTHER stream.
  did.ParseDID, service resolution, url parsing and x509 host name verification are oracles (data from the harness).
-/
import NutsModel.C15.Authn

namespace Nuts.C15
open Nuts.Proto

/-- the ASCII part of `unicode.IsSpace` (gRPC metadata values are printable ASCII) -/
def isSpace (c : Char) : Bool :=
  c == ' ' || c == '\t' || c == '\n' || c == '\r' || c == '\x0b' || c == '\x0c'

def trimChars (l : List Char) : List Char := ((l.dropWhile isSpace).reverse.dropWhile isSpace).reverse

/-- `strings.TrimSpace` -/
def trimSpace (s : String) : String := String.ofList (trimChars s.toList)

/-- `val(key, required)` inside `readMetadata`: exactly one value (none allowed when not required), trimmed -/
def headerValue (vals : List String) (required : Bool) : Nuts.Res String :=
  match vals with
  | [] => if required then .err "peer didn't send header" else .ok ""
  | [v] => .ok (trimSpace v)
  | _ :: _ :: _ => .err "peer sent multiple values for header"

/-- `readMetadata(md)`: peer ID (required, non-empty after trimming) and node DID (optional; must parse when present).
    `parseDID` = `did.ParseDID` (canonical string; none = parse error). Result: (peer ID, node DID or "") -/
def readMetadata (parseDID : String → Option String) (pids dids : List String) : Nuts.Res (String × String) :=
  match headerValue pids true with
  | .ok pid =>
    if pid == "" then .err "peer sent empty peerID header"
    else
      match headerValue dids false with
      | .ok d =>
        if d == "" then .ok (pid, "")
        else
          match parseDID d with
          | none => .err "peer sent invalid node DID"
          | some c => .ok (pid, c)
      | .err e => .err e
      | .panic s => .panic s
  | .err e => .err e
  | .panic s => .panic s

/-- an inbound stream as it reaches `handleInboundStream` -/
structure StreamIn where
  sid : Nat                       -- harness name of the stream
  pids : List String              -- values of the peerID header
  dids : List String              -- values of the nodeDID header
  cert : Option (List String)     -- DNS names of `extractCertificate(peerFromCtx)` (none = no TLS info)
  proto : String                  -- protocol.MethodName()
  deriving Repr

/-- what is remembered of a stream attached to a connection: the identity ITS OWN set-up established -/
structure StreamRec where
  sid : Nat
  proto : String
  claimed : String
  auth : AuthIn
  peer : Peer
  deriving Repr

/-- a `conn` in the connection list: `Peer()` of an inbound connection is set once, by the stream that created it (on an
    outbound one every `openOutboundStream` sets it again, Outbound.lean) -/
structure Conn where
  id : String
  peer : Peer
  cert : Option (List String)
  streams : List StreamRec
  /-- `Peer().Address`: the dialled address of an outbound connection; inbound connections carry the remote ip:port, which is
      never a contact address (left empty here) -/
  addr : String := ""
  deriving Repr

def hasProto (c : Conn) (p : String) : Bool := c.streams.any (fun s => s.proto == p)

/-- `connections.getOrRegister(ctx, peer, false)` (first connection matching ByPeerID ∧ ByNodeDID, else a new one at the
    end) followed by `connection.registerStream` (refused when the protocol already has a stream on that connection).
    none = ErrAlreadyConnected (list unchanged); some i = attached to the connection at index i -/
def attach (id did : String) (r : StreamRec) (fresh : Conn) : List Conn → List Conn × Option Nat
  | [] => ([fresh], some 0)
  | c :: rest =>
    if c.id == id && c.peer.did == did then
      if hasProto c r.proto then (c :: rest, none)
      else ({ c with streams := c.streams ++ [r] } :: rest, some 0)
    else
      let x := attach id did r fresh rest
      (c :: x.1, x.2.map (· + 1))

inductive InRes where
  | errMetadata | errAuth | alreadyConnected
  | joined (i : Nat)
  deriving DecidableEq, Repr, Inhabited

/-- the environment of stream set-up: which authenticator, its oracles, DID parsing and NutsComm resolution -/
structure InEnv where
  kind : AuthKind
  auth : AuthEnv
  parseDID : String → Option String
  resolve : String → Option String

def streamAuthIn (E : InEnv) (claimed : String) (s : StreamIn) : AuthIn := { cert := s.cert, endpoint := E.resolve claimed }

/-- the result of the connection manager's `authenticate` for THIS stream (peer, refused?) -/
def streamAuth (E : InEnv) (claimed : String) (s : StreamIn) : Peer × Bool :=
  cmAuthenticate E.kind E.auth claimed { key := 0 } (streamAuthIn E claimed s)

def streamRec (E : InEnv) (claimed : String) (s : StreamIn) : StreamRec :=
  { sid := s.sid, proto := s.proto, claimed := claimed, auth := streamAuthIn E claimed s, peer := (streamAuth E claimed s).1 }

/-- `createConnection(ctx, peer)`: the connection's `Peer()` is the creating stream's peer -/
def freshConn (E : InEnv) (pid claimed : String) (s : StreamIn) : Conn :=
  { id := pid, peer := (streamAuth E claimed s).1, cert := s.cert, streams := [streamRec E claimed s] }

/-- `handleInboundStream` up to the point where it blocks: metadata, authentication of the claimed DID with THIS stream's
    certificate, connection lookup / creation, stream registration. Every refusal leaves the list unchanged. -/
def handleInbound (E : InEnv) (cs : List Conn) (s : StreamIn) : List Conn × InRes :=
  match readMetadata E.parseDID s.pids s.dids with
  | .ok (pid, claimed) =>
    if (streamAuth E claimed s).2 then (cs, .errAuth)
    else
      let x := attach pid (streamAuth E claimed s).1.did (streamRec E claimed s) (freshConn E pid claimed s) cs
      match x.2 with
      | none => (cs, .alreadyConnected)
      | some i => (x.1, .joined i)
  | _ => (cs, .errMetadata)

/-- a stream of the connection ends: the connection's context is cancelled, every `handleInboundStream` blocked on it
    returns and `connections.remove(connection)` drops it -/
def closeStream (cs : List Conn) (sid : Nat) : List Conn :=
  cs.filter (fun c => !c.streams.any (fun s => s.sid == sid))

inductive Ev where
  | open_ (s : StreamIn)
  | close (sid : Nat)
  deriving Repr

def stepEv (E : InEnv) (cs : List Conn) : Ev → List Conn
  | .open_ s => (handleInbound E cs s).1
  | .close sid => closeStream cs sid

def runEvs (E : InEnv) (cs : List Conn) (evs : List Ev) : List Conn := evs.foldl (stepEv E) cs

/-- a predicate of `connectionList.get(...)` as written at the call site -/
inductive LookupKey where
  | peerID | nodeDID | address
  | unknown_ (src : String)
  deriving DecidableEq, Repr

def LookupKey.ofSource (s : String) : LookupKey :=
  if s == "ByPeerID(peer.ID)" then .peerID
  else if s == "ByNodeDID(peer.NodeDID)" then .nodeDID
  else if s == "ByAddress(peer.Address)" then .address
  else .unknown_ s

/-- `connectionList.get(query...)` on one connection: ALL predicates must match (an unknown predicate matches nothing,
    the address is not part of the inbound model) -/
def connMatches (keys : List LookupKey) (c : Conn) (id did : String) : Bool :=
  !keys.isEmpty && keys.all (fun k => match k with
    | .peerID => c.id == id
    | .nodeDID => c.peer.did == did
    | _ => false)

end Nuts.C15
