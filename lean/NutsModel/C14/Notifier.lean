/-
  C14 — model of network/dag/notifier.go (Save / Notify / notifyNow / retry / Run / Finished /
  GetFailedEvents), network/dag/state.go (Add / WritePayload / saveEvent / notify) and the
  `handleTransactionPayload` call sequence of network/transport/v2 (GetTransaction → WritePayload → Finished).
  Core Lean only.

  Modelling decisions (DESIGN.md §5 C14):
  * a subscriber (persistent notifier) is an index into the registration list; a transaction ref is an
    index into the harness's pool sorted by ref bytes (bbolt iterates a shelf in key order = index order).
  * the subscriber's behaviour is an arbitrary function `beh sub ref attempt# → Outcome`.
  * a bbolt write transaction is atomic: an op that fails before/at commit leaves the durable state unchanged.
  * `AfterCommit` callbacks are the volatile list `pending`; a `retry.Do` goroutine is a `Task` in `running`;
    `crash` drops both.  A timer firing is one atomic `notifyNow`.
  * `sync.Map.Range` order of `state.notify` and the order in which `Network.Start` runs the notifiers are
    explicit arguments (`order`).
  * `admitted` is a ghost list (committed events), `ledger` is the ghost log of receiver calls and of
    `Finished` calls made from outside the notifier (newest first).
  * constants (`maxRetries`, `retriesFailedThreshold`) and "WritePayload skips a payload that is already
    stored" are fields of `Cfg` filled from the regenerated facts.
-/
import NutsModel.Base

namespace Nuts.C14

inductive EvType where
  | tx | payload
  deriving DecidableEq, Repr, Inhabited

/-- last error text class stored in a job (`Event.Error`) -/
inductive JErr where
  | none        -- never attempted
  | incomplete  -- errEventIncomplete
  | generic     -- any other receiver error
  | ctx         -- error text ends in jsonld.ContextURLNotAllowedErr (Run does not replay these)
  | fatal       -- EventFatal
  | storage     -- error of a failed shelf write (only ever in the in-memory copy)
  deriving DecidableEq, Repr, Inhabited

structure Job where
  type : EvType
  retries : Nat
  err : JErr
  deriving DecidableEq, Repr, Inhabited

/-- what one receiver invocation does (subscriber behaviour + injected storage faults + stop) -/
inductive Outcome where
  | done            -- (true, nil); Finished deletes the job
  | doneFinishFail  -- (true, nil) but the shelf write of Finished fails
  | notDone         -- (false, nil)
  | notDoneFin      -- (false, nil), and while the receiver ran another goroutine called Finished() for this job
                    -- (protocol v2: the payload reply - WritePayload, private.Finished - is handled before handlePrivateTxRetry returns)
  | fail            -- (false, err)
  | failCtx         -- (false, err), text ends in ContextURLNotAllowedErr
  | fatal           -- (false, EventFatal{err})
  | crash           -- the node stops inside the receiver
  | readFault       -- notifyNow cannot read the job (transient store fault): the receiver is NOT called; the storage error is returned
  | notDoneWriteFail -- (false, nil) and the write-back of the failure count fails: the storage error is returned
  | failWriteFail   -- (false, err) and the write-back fails: the storage error is returned
  deriving DecidableEq, Repr, Inhabited

/-- one selection filter as written in the source: a conjunction of the three tests that occur -/
structure Filter where
  type : Option EvType := none
  needPAL : Bool := false
  ptype : Option String := none
  deriving DecidableEq, Repr, Inhabited

def Filter.test (f : Filter) (pal : Bool) (pt : String) (ty : EvType) : Bool :=
  (match f.type with | some t => decide (t = ty) | none => true) &&
  (!f.needPAL || pal) &&
  (match f.ptype with | some p => decide (p = pt) | none => true)

structure Cfg where
  nSubs : Nat
  nRefs : Nat
  /-- all filters of subscriber `s` accept event (ref, type) -/
  sel : Nat → Nat → EvType → Bool
  phash : Nat → Nat
  root : Nat → Bool
  beh : Nat → Nat → Nat → Outcome
  maxRetries : Nat
  failedThreshold : Nat
  /-- `State.WritePayload` does nothing when the payload event of THIS transaction was saved before
      (recorded per transaction ref in the write transaction; the payload store itself is keyed by payload hash) -/
  skipPresent : Bool
  /-- the write-back of `notifyNow` does not re-create a job that was removed while the receiver ran -/
  writeBackSkipsGone : Bool
  /-- notifyNow wraps its own storage errors in retry.Unrecoverable, so one of them ends a running retry loop
      (the code before the repair); false: they are returned as they are and the loop goes on -/
  storageFaultEndsLoop : Bool
  /-- `State.WritePayload` runs its AfterCommit notification only when this call saved the event
      (`payloadWritten`); false: it notifies after every commit, also when the payload event had been saved before -/
  notifyGuarded : Bool := true

/-- a running `retry.Do` goroutine -/
structure Task where
  sub : Nat
  ref : Nat
  left : Nat   -- attempts left
  n : Nat      -- attempts made so far in this loop
  base : Nat   -- `initialCount` (delay = retryDelay · 2^base, doubled per attempt)
  deriving DecidableEq, Repr, Inhabited

inductive Entry where
  | call (sub ref : Nat) (type : EvType) (retries : Nat) (out : Outcome)
  | fin (sub ref : Nat)     -- Finished() from outside (handleTransactionPayload, CleanupSubscriberEvents) deleted a job
  deriving DecidableEq, Repr, Inhabited

def Entry.isCallOf (s r : Nat) : Entry → Bool
  | .call s' r' _ _ _ => s' == s && r' == r
  | .fin _ _ => false

/-- the entry records completion of (s, r): the receiver said done and the delete was written, or Finished was called -/
def Entry.completes (s r : Nat) : Entry → Bool
  | .call s' r' _ _ o => s' == s && r' == r && o == .done
  | .fin s' r' => s' == s && r' == r

structure St where
  dag : List Nat := []
  payloads : List Nat := []
  /-- refs whose payload event has been saved (shelf "payloadEvents") -/
  evented : List Nat := []
  shelf : Nat → Nat → Option Job := fun _ _ => none
  running : List Task := []
  pending : List (Nat × EvType) := []
  admitted : List (Nat × EvType) := []
  ledger : List Entry := []

def init : St := {}

def setJob (σ : St) (s r : Nat) (j : Option Job) : St :=
  { σ with shelf := fun s' r' => if s' = s ∧ r' = r then j else σ.shelf s' r' }

def attemptNo (σ : St) (s r : Nat) : Nat := (σ.ledger.filter (Entry.isCallOf s r)).length

/-- result of `notifyNow` as seen by its callers -/
inductive NRes where
  | nil      -- nil: job gone or finished
  | err      -- recoverable error (retry continues)
  | fatal    -- retry.Unrecoverable(EventFatal)
  | crashed
  | unrec    -- storage error of the notifier itself (wrapped in retry.Unrecoverable only before the repair, `Cfg.storageFaultEndsLoop`): NOT an EventFatal
  deriving DecidableEq, Repr

def log (σ : St) (e : Entry) : St := { σ with ledger := e :: σ.ledger }

/-- notifier.notifyNow for a persistent notifier -/
def notifyNow (c : Cfg) (σ : St) (s r : Nat) : St × NRes :=
  match σ.shelf s r with
  | none => (σ, .nil)
  | some j =>
    let o := c.beh s r (attemptNo σ s r)
    let σ1 := log σ (.call s r j.type j.retries o)
    match o with
    | .crash => (σ1, .crashed)
    | .done => (setJob σ1 s r none, .nil)
    | .doneFinishFail => (σ1, .err)
    | .notDone => (setJob σ1 s r (some { j with retries := j.retries + 1, err := .incomplete }), .err)
    | .notDoneFin =>
      -- Finished() deleted the job and is on record; then the write-back runs
      (setJob (log σ1 (.fin s r)) s r
        (if c.writeBackSkipsGone then none else some { j with retries := j.retries + 1, err := .incomplete }), .err)
    | .fail => (setJob σ1 s r (some { j with retries := j.retries + 1, err := .generic }), .err)
    | .failCtx => (setJob σ1 s r (some { j with retries := j.retries + 1, err := .ctx }), .err)
    | .fatal => (setJob σ1 s r (some { j with retries := c.maxRetries + 1, err := .fatal }), .fatal)
    -- the notifier's own storage errors: nothing is recorded on the shelf; the ledger entry is the attempt
    | .readFault => (σ1, .unrec)
    | .notDoneWriteFail => (σ1, .unrec)
    | .failWriteFail => (σ1, .unrec)

/-- notifier.retry: `attempts := maxRetries - uint(event.Retries+1)`; returns when `attempts <= 0 || attempts >= maxRetries`
    (unsigned wrap-around makes the second test catch `Retries+1 > maxRetries`) -/
def retryAttempts (c : Cfg) (retries : Nat) : Option Nat :=
  if retries + 1 < c.maxRetries then some (c.maxRetries - (retries + 1)) else none

def spawn (c : Cfg) (σ : St) (s r retries : Nat) : St :=
  match retryAttempts c retries with
  | some a => { σ with running := σ.running ++ [{ sub := s, ref := r, left := a, n := 0, base := retries + 1 }] }
  | none => σ

/-- notifier.Notify (the event handed in by state.notify always has Retries = 0); returns crashed? -/
def notify (c : Cfg) (σ : St) (s : Nat) (ev : Nat × EvType) : St × Bool :=
  if c.sel s ev.1 ev.2 then
    match notifyNow c σ s ev.1 with
    | (σ', .nil) => (σ', false)
    | (σ', .fatal) => (σ', false)
    | (σ', .err) => (spawn c σ' s ev.1 0, false)
    -- only an EventFatal means "dropped": the notifier's own unrecoverable (storage) errors are rescheduled as well
    | (σ', .unrec) => (spawn c σ' s ev.1 0, false)
    | (σ', .crashed) => (σ', true)
  else (σ, false)

/-- state.notify: Range over the notifiers in `order` -/
def notifyAll (c : Cfg) (ev : Nat × EvType) : List Nat → St → St × Bool
  | [], σ => (σ, false)
  | s :: rest, σ =>
    match notify c σ s ev with
    | (σ', true) => (σ', true)
    | (σ', false) => notifyAll c ev rest σ'

def crashSt (σ : St) : St := { σ with running := [], pending := [] }

/-- run the oldest pending AfterCommit notification -/
def afterCommit (c : Cfg) (σ : St) (order : List Nat) : St :=
  match σ.pending with
  | [] => σ
  | ev :: rest =>
    match notifyAll c ev order { σ with pending := rest } with
    | (σ', true) => crashSt σ'
    | (σ', false) => σ'

/-- notifier.Save inside the write transaction: filters, then "only schedule new events" -/
def save (c : Cfg) (ev : Nat × EvType) (σ : St) (s : Nat) : St :=
  if c.sel s ev.1 ev.2 then
    match σ.shelf s ev.1 with
    | none => setJob σ s ev.1 (some { type := ev.2, retries := 0, err := .none })
    | some _ => σ
  else σ

/-- state.saveEvent -/
def saveEvent (c : Cfg) (σ : St) (ev : Nat × EvType) : St :=
  (List.range c.nSubs).foldl (save c ev) σ

structure AddArgs where
  ref : Nat
  withPayload : Bool := false
  reject : Bool := false       -- a verifier rejects (read phase)
  mismatch : Bool := false     -- payload does not hash to the transaction's payload hash
  commitFail : Bool := false   -- the commit fails / the node stops before commit
  failShelf : Option Nat := none  -- storage fault while writing THIS subscriber's job shelf inside the write transaction
  deriving DecidableEq, Repr, Inhabited

/-- does the storage fault on subscriber `failShelf`'s shelf hit the Save of event (ref, ty)?  (Save touches the shelf
    only after the filters accepted the event) -/
def shelfFaultHits (c : Cfg) (failShelf : Option Nat) (ref : Nat) (ty : EvType) : Bool :=
  match failShelf with
  | some f => decide (f < c.nSubs) && c.sel f ref ty
  | none => false

inductive Status where
  | ok | present | invalid | errVerify | errPayloadHash | errRoot | errCommit | errNotFound | skipped | errShelf
  deriving DecidableEq, Repr

/-- state.Add up to and including the commit; AfterCommit notifications are queued in `pending`.
    The bbolt write transaction is atomic, so every failure inside the closure (payload hash mismatch, second root
    in `graph.add`, failed commit) leaves the state unchanged, and the order of writes to different shelves is not
    observable: the model inserts the ref into the DAG first; the two `saveEvent`s keep their order
    (payload event first, they share the job key). -/
def addTx (c : Cfg) (σ : St) (a : AddArgs) : St × Status :=
  if a.ref ≥ c.nRefs then (σ, .invalid)
  else if a.ref ∈ σ.dag then (σ, .present)
  else if a.reject then (σ, .errVerify)
  else if a.withPayload && a.mismatch then (σ, .errPayloadHash)
  -- state.saveEvent stops at the first Save error and returns it: the whole write transaction is rolled back
  else if a.withPayload && shelfFaultHits c a.failShelf a.ref .payload then (σ, .errShelf)
  else if c.root a.ref && σ.dag.any c.root then (σ, .errRoot)
  else if shelfFaultHits c a.failShelf a.ref .tx then (σ, .errShelf)
  else if a.commitFail then (σ, .errCommit)
  else
    let σ1 := if a.withPayload then
        saveEvent c { σ with dag := a.ref :: σ.dag, payloads := c.phash a.ref :: σ.payloads, evented := a.ref :: σ.evented,
                             admitted := (a.ref, .payload) :: σ.admitted } (a.ref, .payload)
      else { σ with dag := a.ref :: σ.dag }
    let σ2 := saveEvent c { σ1 with admitted := (a.ref, .tx) :: σ1.admitted } (a.ref, .tx)
    ({ σ2 with pending := σ2.pending ++ ((a.ref, EvType.tx) :: (if a.withPayload then [(a.ref, EvType.payload)] else [])) }, .ok)

/-- handleTransactionPayload up to the commit of State.WritePayload: the transaction must be on the DAG;
    (fixed code) nothing happens when the payload event of this transaction was saved before; else save the payload
    event, the marker and the payload
    (one atomic write transaction) -/
def writePayload (c : Cfg) (σ : St) (ref : Nat) (commitFail : Bool) : St × Status :=
  if ref ∉ σ.dag then (σ, .errNotFound)
  else if commitFail then (σ, .errCommit)   -- also: a storage fault on one subscriber's shelf (saveEvent returns the error)
  else if c.skipPresent = true ∧ ref ∈ σ.evented then
    -- nothing is saved; AfterCommit: `if payloadWritten { s.notify(event) }`
    (if c.notifyGuarded then σ else { σ with pending := σ.pending ++ [(ref, EvType.payload)] }, .skipped)
  else
    let σ1 := saveEvent c { σ with payloads := c.phash ref :: σ.payloads, evented := ref :: σ.evented,
                                   admitted := (ref, .payload) :: σ.admitted } (ref, .payload)
    ({ σ1 with pending := σ1.pending ++ [(ref, EvType.payload)] }, .ok)

/-- Notifier.Finished called from outside the notifier; `fail` = the shelf write fails.
    Deleting a missing key changes nothing and is not recorded. -/
def finishedExt (σ : St) (s r : Nat) (fail : Bool) : St :=
  if fail then σ else
  match σ.shelf s r with
  | none => σ
  | some _ => log (setJob σ s r none) (.fin s r)

/-- the jobs Run replays: every job on the shelf, in key order, except those whose error ends in ContextURLNotAllowedErr -/
def runSnapshot (c : Cfg) (σ : St) (s : Nat) : List (Nat × Nat) :=
  (List.range c.nRefs).filterMap fun r =>
    match σ.shelf s r with
    | some j => if j.err = .ctx then none else some (r, j.retries)
    | none => none

/-- first loop of Run: synchronous notifyNow per job; remember failures whose (old) Retries < maxRetries -/
def runCalls (c : Cfg) (s : Nat) : List (Nat × Nat) → St → List (Nat × Nat) → St × List (Nat × Nat) × Bool
  | [], σ, acc => (σ, acc, false)
  | (r, ret) :: rest, σ, acc =>
    match notifyNow c σ s r with
    | (σ', .crashed) => (σ', acc, true)
    | (σ', .nil) => runCalls c s rest σ' acc
    | (σ', _) => runCalls c s rest σ' (if ret < c.maxRetries then acc ++ [(r, ret)] else acc)

def spawnAll (c : Cfg) (s : Nat) (failed : List (Nat × Nat)) (σ : St) : St :=
  failed.foldl (fun σ p => spawn c σ s p.1 p.2) σ

/-- notifier.Run -/
def runSub (c : Cfg) (σ : St) (s : Nat) : St × Bool :=
  match runCalls c s (runSnapshot c σ s) σ [] with
  | (σ1, _, true) => (σ1, true)
  | (σ1, failed, false) => (spawnAll c s failed σ1, false)

def runAll (c : Cfg) : List Nat → St → St × Bool
  | [], σ => (σ, false)
  | s :: rest, σ =>
    match runSub c σ s with
    | (σ', true) => (σ', true)
    | (σ', false) => runAll c rest σ'

/-- Network.Start: Run every notifier, in `order` -/
def restart (c : Cfg) (σ : St) (order : List Nat) : St :=
  match runAll c order σ with
  | (σ', true) => crashSt σ'
  | (σ', false) => σ'

def Task.isFor (s r : Nat) (t : Task) : Bool := t.sub == s && t.ref == r

/-- the timer of the oldest retry goroutine for (s, r) fires: one attempt of `retry.Do` -/
def fire (c : Cfg) (σ : St) (s r : Nat) : St :=
  match σ.running.find? (Task.isFor s r) with
  | none => σ
  | some t =>
    let σ0 := { σ with running := σ.running.erase t }
    match notifyNow c σ0 s r with
    | (σ', .crashed) => crashSt σ'
    | (σ', .nil) => σ'
    | (σ', .fatal) => σ'
    | (σ', .unrec) =>
      -- the notifier's own storage error: (before the repair) retry.Unrecoverable ends the loop; now it is an
      -- ordinary failed attempt
      if c.storageFaultEndsLoop || t.left ≤ 1 then σ'
      else { σ' with running := σ'.running ++ [{ t with left := t.left - 1, n := t.n + 1 }] }
    | (σ', .err) =>
      if t.left ≤ 1 then σ'
      else { σ' with running := σ'.running ++ [{ t with left := t.left - 1, n := t.n + 1 }] }

/-- GetFailedEvents -/
def failedEvents (c : Cfg) (σ : St) (s : Nat) : List Nat :=
  (List.range c.nRefs).filter fun r =>
    match σ.shelf s r with
    | some j => decide (j.retries ≥ c.failedThreshold)
    | none => false

inductive Op where
  | add (a : AddArgs)
  | afterCommit (order : List Nat)
  | writePayload (ref : Nat) (commitFail : Bool)
  | finishedExt (s r : Nat) (fail : Bool)
  | fire (s r : Nat)
  | crash
  | restart (order : List Nat)
  deriving Repr

def step (c : Cfg) (σ : St) : Op → St
  | .add a => (addTx c σ a).1
  | .afterCommit order => afterCommit c σ order
  | .writePayload r cf => (writePayload c σ r cf).1
  | .finishedExt s r f => finishedExt σ s r f
  | .fire s r => fire c σ s r
  | .crash => crashSt σ
  | .restart order => restart c σ order

def run (c : Cfg) (σ : St) (ops : List Op) : St := ops.foldl (step c) σ

/-! ### back-off (notifier.retry + retry-go BackOffDelay, MaxDelay) -/

/-- delay slept after the `n`-th failed attempt (n = 0, 1, …) of a retry loop started with `initialCount = base`,
    without the random jitter (`< retryDelay`): `min maxDelay (retryDelay · 2^base · 2^n)` -/
def backoff (retryDelay maxDelay base n : Nat) : Nat := min maxDelay (retryDelay * 2 ^ base * 2 ^ n)

/-! ### subscriber selection from filters -/

def selOf (subs : List (List Filter)) (pal : Nat → Bool) (ptype : Nat → String) (s r : Nat) (ty : EvType) : Bool :=
  match subs[s]? with
  | some fs => fs.all fun f => f.test (pal r) (ptype r) ty
  | none => false

end Nuts.C14
