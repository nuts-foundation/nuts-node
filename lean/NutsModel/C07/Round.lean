/-
  Loss-free protocol rounds between two connected nodes, built from the handlers: the puller `a` receives the
  gossip of `b` and the two exchange the resulting request/response messages batch by batch (every message of a
  batch is delivered, in the order sent) until nothing is in flight. TransactionPayloadQuery / TransactionPayload
  messages are not part of the reconciliation and stay in flight (delay). A round is a particular fair schedule of
  `World` steps (see `Lemmas/C07LiveSched.lean: pullRound_is_run`).
-/
import NutsModel.C07.Net

namespace Nuts.Proto

/-- messages that drive set reconciliation -/
def driving : Msg → Bool
  | .gossip .. => true | .state .. => true | .txSet .. => true | .listQuery .. => true
  | .rangeQuery .. => true | .txList .. => true
  | _ => false

/-- the driving messages among `out` that go to peer `key` -/
def toPeer (key : Nat) (out : Out) : List Msg :=
  (out.filter (fun o => o.1 == key && driving o.2)).map (·.2)

/-- node `n` handles `msgs` arriving from `p` in order; returns the driving messages it sends back to `p` -/
def absorb (cfg : Cfg) (env : Env) (n : Node) (p : Peer) : List Msg → Node × List Msg
  | [] => (n, [])
  | m :: ms =>
    let r := handle cfg env n p m
    let rest := absorb cfg env r.node p ms
    (rest.1, toPeer p.key r.out ++ rest.2)

/-- `pB` is how `a` sees `b`, `pA` is how `b` sees `a` -/
def pingPong (cfg : Cfg) (env : Env) (pA pB : Peer) : Nat → Node → Node → List Msg → Node × Node
  | 0, a, b, _ => (a, b)
  | fuel + 1, a, b, toB =>
    if toB.isEmpty then (a, b)
    else
      let rb := absorb cfg env b pA toB
      let ra := absorb cfg env a pB rb.2
      pingPong cfg env pA pB fuel ra.1 rb.1 ra.2

/-- one loss-free round started by `b`'s gossip tick: `a` pulls what it misses from `b` -/
def pullRound (cfg : Cfg) (env : Env) (pA pB : Peer) (fuel : Nat) (a b : Node) : Node × Node :=
  let t := gossipTick b pA.key
  let ra := absorb cfg env a pB (toPeer pA.key t.out)
  pingPong cfg env pA pB fuel ra.1 t.node ra.2

/-- "conversations that lost a message eventually expire": enough time passes, the evictor runs -/
def expireAll (n : Node) : Node :=
  evict { n with now := n.now + n.convs.foldl (fun m c => max m c.expiry) 0 }

/-- a fair round pair: stale conversations expire, `a` pulls from `b`, then `b` pulls from `a` -/
def roundPair (cfg : Cfg) (env : Env) (pA pB : Peer) (fuel : Nat) (ab : Node × Node) : Node × Node :=
  let r1 := pullRound cfg env pA pB fuel (expireAll ab.1) (expireAll ab.2)
  let r2 := pullRound cfg env pB pA fuel r1.2 r1.1
  (r2.2, r2.1)

def roundPairs (cfg : Cfg) (env : Env) (pA pB : Peer) (fuel : Nat) : Nat → Node × Node → Node × Node
  | 0, ab => ab
  | k + 1, ab => roundPairs cfg env pA pB fuel k (roundPair cfg env pA pB fuel ab)

end Nuts.Proto
