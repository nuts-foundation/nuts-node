/-
  C07 deepening round 2: the DISPATCHER of network/transport/v2 inside the model.

  Mirrors handlers.go `protocol.Handle` (classification of the error of `handle`: nil and context.Canceled are
  swallowed, an error of `allowedErrors` is returned as is, everything else becomes errInternalError), `protocol.handle`
  (type switch: most envelopes start a goroutine through `handleASync` and return nil; a TransactionList is put on the
  bounded channel `p.listHandler.ch` with a NON-BLOCKING send — `select { case ch <- pe: default: }` — so a full
  channel drops the message; an envelope of no known type returns errMessageNotSupported) and
  transactionlist_handler.go `newTransactionListHandler` (capacity grpc.OutboxHardLimit) / `start` (one goroutine
  takes the lists off the channel one at a time, in channel order, and runs `handleTransactionList`).

  The scheduling of the goroutines inside one node is an explicit event list: `arrive` (the gRPC stream calls Handle),
  `listRun` (one iteration of `start`), `asyncRun i` (the i-th waiting handleASync goroutine runs). Handlers stay
  atomic (`Nuts.Proto.handle`). Core Lean only.
-/
import NutsModel.C07.Handlers

namespace Nuts.Proto.Disp
open Nuts.Proto

/-- where `protocol.handle` sends an envelope -/
inductive Route where
  | async        -- handleASync(p.ctx, connection, envelope, p.handleX)
  | listChan     -- p.listHandler.ch <- pe (non-blocking)
  | unsupported  -- falls out of the switch: errMessageNotSupported
  deriving DecidableEq, Repr, Inhabited

/-- name of the oneof wrapper type of a message (`envelope.Message.(type)`); "" = nil / unknown wrapper -/
def envName : Msg → String
  | .gossip .. => "Envelope_Gossip"
  | .state .. => "Envelope_State"
  | .txSet .. => "Envelope_TransactionSet"
  | .listQuery .. => "Envelope_TransactionListQuery"
  | .rangeQuery .. => "Envelope_TransactionRangeQuery"
  | .txList .. => "Envelope_TransactionList"
  | .payloadQuery .. => "Envelope_TransactionPayloadQuery"
  | .payload .. => "Envelope_TransactionPayload"
  | .diagnostics => "Envelope_DiagnosticsBroadcast"
  | .unsupported => ""

/-- the switch of `protocol.handle` as a table (REGENERATED: Facts.C07.dispatchTable, entries `(Type, target)`, the target
    `channel` is the non-blocking send) -/
def routeName (tbl : List (String × String)) (name : String) : Route :=
  match tbl.find? (fun e => e.1 == name) with
  | none => .unsupported
  | some e => if e.2 == "channel" then .listChan else .async

def routeOf (tbl : List (String × String)) (m : Msg) : Route := routeName tbl (envName m)

/-- the errors `Handle` tells apart (Go variable names) -/
inductive HErr where
  | canceled       -- context.Canceled
  | internal       -- errInternalError
  | notSupported   -- errMessageNotSupported
  | other (what : String)
  deriving DecidableEq, Repr, Inhabited

def HErr.name : HErr → String
  | .canceled => "context.Canceled"
  | .internal => "errInternalError"
  | .notSupported => "errMessageNotSupported"
  | .other w => w

/-- `err == allowedError` for some element of `allowedErrors` (identity of error VALUES: an error that is none of the
    package's named error variables is never identical to an element of the list) -/
def HErr.allowedBy (allowed : List String) : HErr → Bool
  | .other _ => false
  | e => allowed.contains e.name

/-- `protocol.Handle` after `err := p.handle(...)`: `if err != nil && err != context.Canceled { for allowed … return err;
    return errInternalError }; return nil` -/
def handleRet (allowed : List String) : Option HErr → Option HErr
  | none => none
  | some .canceled => none
  | some e => if e.allowedBy allowed then some e else some .internal

/-- one node with its dispatcher state -/
structure DNode where
  node : Node
  /-- `p.listHandler.ch`, oldest first -/
  chan : List (Peer × Msg) := []
  /-- goroutines started by `handleASync` that did not run their handler yet -/
  pending : List (Peer × Msg) := []

/-- `protocol.handle` -/
def dispatchMsg (rt : Msg → Route) (cap : Nat) (d : DNode) (peer : Peer) (m : Msg) : DNode × Option HErr :=
  match rt m with
  | .unsupported => (d, some .notSupported)
  | .listChan =>
    if d.chan.length < cap then ({ d with chan := d.chan ++ [(peer, m)] }, none)
    else (d, none)      -- `default:` "channel full", the list is dropped, nil is returned
  | .async => ({ d with pending := d.pending ++ [(peer, m)] }, none)

/-- `protocol.Handle` -/
def Handle (allowed : List String) (rt : Msg → Route) (cap : Nat) (d : DNode) (peer : Peer) (m : Msg) : DNode × Option HErr :=
  ((dispatchMsg rt cap d peer m).1, handleRet allowed (dispatchMsg rt cap d peer m).2)

inductive Ev where
  | arrive (peer : Peer) (m : Msg)
  | listRun
  | asyncRun (i : Nat)
  deriving Repr, Inhabited

/-- the messages a schedule hands to `Handle`, in order -/
def arrivals : List Ev → List (Peer × Msg)
  | [] => []
  | .arrive p m :: r => (p, m) :: arrivals r
  | _ :: r => arrivals r

structure Params where
  cfg : Cfg
  env : Env
  rt : Msg → Route
  cap : Nat
  allowed : List String

/-- one event; second component = the message whose handler ran (if any) -/
def stepEv (P : Params) (d : DNode) : Ev → DNode × List (Peer × Msg)
  | .arrive p m => ((Handle P.allowed P.rt P.cap d p m).1, [])
  | .listRun =>
    match d.chan with
    | [] => (d, [])
    | x :: rest => ({ d with node := (handle P.cfg P.env d.node x.1 x.2).node, chan := rest }, [x])
  | .asyncRun i =>
    match d.pending[i]? with
    | none => (d, [])
    | some x => ({ d with node := (handle P.cfg P.env d.node x.1 x.2).node, pending := d.pending.eraseIdx i }, [x])

/-- a whole schedule; second component = the handler invocations in the order they ran -/
def run (P : Params) (d : DNode) : List Ev → DNode × List (Peer × Msg)
  | [] => (d, [])
  | e :: r => ((run P (stepEv P d e).1 r).1, (stepEv P d e).2 ++ (run P (stepEv P d e).1 r).2)

/-- running handlers one after the other (what the abstract network layer `World.recv` does per delivery) -/
def foldHandle (cfg : Cfg) (env : Env) (n : Node) : List (Peer × Msg) → Node
  | [] => n
  | x :: r => foldHandle cfg env (handle cfg env n x.1 x.2).node r

end Nuts.Proto.Disp
