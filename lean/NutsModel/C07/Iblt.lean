/-
  C07 deepening (2026-09-28): the IBLT of network/dag/tree/iblt.go INSIDE the model.
  Until now `Env.decode` (Subtract + Decode of `handleTransactionSet`) was an oracle with a measured contract (`DC`).
  This file mirrors the Go code: buckets (count, hashSum, keySum), Insert / Delete over `bucketIndices(hashKey(ref))`,
  Subtract with `validate`, the peeling loop of `Decode` (outer `for`, inner sweep over the buckets IN INDEX ORDER on
  the table being mutated, the `pures` map and ErrDecodeLoop, ErrDecodeNotPossible when a sweep peels nothing and the
  table is not empty), and `bucketIndices` (murmur3 hash chain bounded by ibltMaxChain, then linear probing).
  Third-party murmur3 is a parameter (`Hash`): `hashKey` = murmur3.SeedSum64(hc, ref), `chain0`/`chain` = murmur3.SeedSum32(hk, ·)
  on the 8 bytes of the key hash / the 4 bytes of the previous value. Core Lean only.
-/
import NutsModel.C07.Types

namespace Nuts.Proto.Iblt

/-- `tree.bucket` -/
structure Bucket where
  count : Int
  hashSum : Nat
  keySum : Ref
  deriving DecidableEq, Repr, Inhabited

def Bucket.zero : Bucket := ⟨0, 0, 0⟩
/-- `bucket.insert`: count++, update -/
def Bucket.ins (b : Bucket) (key : Ref) (h : Nat) : Bucket := ⟨b.count + 1, b.hashSum ^^^ h, b.keySum ^^^ key⟩
/-- `bucket.delete`: count--, update -/
def Bucket.del (b : Bucket) (key : Ref) (h : Nat) : Bucket := ⟨b.count - 1, b.hashSum ^^^ h, b.keySum ^^^ key⟩
/-- `bucket.subtract` -/
def Bucket.sub (b o : Bucket) : Bucket := ⟨b.count - o.count, b.hashSum ^^^ o.hashSum, b.keySum ^^^ o.keySum⟩
/-- `bucket.isEmpty` -/
def Bucket.isEmpty (b : Bucket) : Bool := decide (b = Bucket.zero)

/-- murmur3 as data -/
structure Hash where
  /-- `Iblt.hashKey` = murmur3.SeedSum64(hc, key) -/
  hashKey : Ref → Nat
  /-- murmur3.SeedSum32(hk, 8 little-endian bytes of the key hash) -/
  chain0 : Nat → Nat
  /-- murmur3.SeedSum32(hk, 4 little-endian bytes of the previous value) -/
  chain : Nat → Nat

/-- constants of iblt.go (regenerated: Facts/C07.lean `ibltK`, `ibltMaxChain`) -/
structure Par where
  k : Nat
  maxChain : Nat
  deriving Repr

/-! ### bucketIndices -/

/-- first loop of `bucketIndices`: walk the hash chain for at most `steps` steps, collecting unused buckets until `k`
    are found. State = (indices so far, `next`, last `bucketID`). -/
def chainLoop (H : Hash) (n k : Nat) : Nat → List Nat → Nat → Nat → List Nat × Nat
  | 0, acc, _, last => (acc, last)
  | steps + 1, acc, next, last =>
    if acc.length < k then
      let b := next % n
      let acc' := if acc.contains b then acc else acc ++ [b]
      chainLoop H n k steps acc' (H.chain next) b
    else (acc, last)

/-- second loop: linear probing from the last bucket, offsets `off .. n-1` -/
def probeLoop (n k last : Nat) : Nat → Nat → List Nat → List Nat
  | 0, _, acc => acc
  | cnt + 1, off, acc =>
    if acc.length < k then
      let p := (last + off) % n
      probeLoop n k last cnt (off + 1) (if acc.contains p then acc else acc ++ [p])
    else acc

/-- `Iblt.bucketIndices(hash)` for a table of `n` buckets (`n ≥ 1`: NewIblt forces n ≥ k, UnmarshalBinary of 0 buckets never inserts) -/
def bucketIndices (H : Hash) (P : Par) (n : Nat) (hash : Nat) : List Nat :=
  let k := if P.k > n then n else P.k
  let (acc, last) := chainLoop H n k P.maxChain [] (H.chain0 hash) 0
  probeLoop n k last (n - 1) 1 acc

/-! ### the table -/

abbrev Table := List Bucket

def zeroTable (n : Nat) : Table := List.replicate n Bucket.zero

/-- `i.buckets[h].f()`; `h < len(buckets)` always holds in Go (`% numBuckets`), see `bucketIndices_good` -/
def modAt : Table → Nat → (Bucket → Bucket) → Table
  | [], _, _ => []
  | b :: t, 0, f => f b :: t
  | b :: t, i + 1, f => b :: modAt t i f

def insStep (key : Ref) (h : Nat) (t : Table) (i : Nat) : Table := modAt t i (fun b => b.ins key h)
def delStep (key : Ref) (h : Nat) (t : Table) (i : Nat) : Table := modAt t i (fun b => b.del key h)

/-- `Iblt.Insert(ref)` -/
def insert (H : Hash) (P : Par) (t : Table) (ref : Ref) : Table :=
  let kh := H.hashKey ref
  (bucketIndices H P t.length kh).foldl (insStep ref kh) t

/-- `Iblt.Delete(ref)` -/
def delete (H : Hash) (P : Par) (t : Table) (ref : Ref) : Table :=
  let kh := H.hashKey ref
  (bucketIndices H P t.length kh).foldl (delStep ref kh) t

/-- the IBLT of a list of refs (`State.IBLT`: every transaction inserted once) -/
def encode (H : Hash) (P : Par) (n : Nat) (refs : List Ref) : Table := refs.foldl (insert H P) (zeroTable n)

/-- `Iblt.Subtract(other)`: `validate` compares the bucket counts (hc, hk, k are constants after UnmarshalBinary) -/
def subtract (a b : Table) : Option Table :=
  if a.length != b.length then none else some (List.zipWith Bucket.sub a b)

/-- `Iblt.Empty` -/
def isEmpty (t : Table) : Bool := t.all Bucket.isEmpty

/-! ### Decode -/

structure DSt where
  tab : Table
  pures : List Ref
  remaining : List Ref
  missing : List Ref
  updated : Bool
  deriving Repr

/-- the test of the inner loop: count = ±1 and hashKey(keySum) = hashSum -/
def Bucket.pure (H : Hash) (b : Bucket) : Bool := (b.count == 1 || b.count == -1) && H.hashKey b.keySum == b.hashSum

/-- body of `for idx := range i.buckets`; `none` = ErrDecodeLoop -/
def peelAt (H : Hash) (P : Par) (st : DSt) (idx : Nat) : Option DSt :=
  match st.tab[idx]? with
  | none => some st
  | some b =>
    if b.pure H then
      let txRef := b.keySum
      if st.pures.contains txRef then none
      else if b.count == 1 then
        some { st with tab := delete H P st.tab txRef, pures := txRef :: st.pures, remaining := st.remaining ++ [txRef], updated := true }
      else
        some { st with tab := insert H P st.tab txRef, pures := txRef :: st.pures, missing := st.missing ++ [txRef], updated := true }
    else some st

/-- one pass over the buckets in index order, on the table as it is being modified -/
def sweep (H : Hash) (P : Par) : List Nat → DSt → Option DSt
  | [], st => some st
  | i :: is, st =>
    match peelAt H P st i with
    | none => none
    | some st' => sweep H P is st'

inductive DecOut where
  | ok (remaining missing : List Ref)
  | notPossible (remaining missing : List Ref)   -- ErrDecodeNotPossible
  | loop                                          -- ErrDecodeLoop
  | fuel                                          -- the model's bound on outer iterations ran out (never under `Faithful`)
  deriving DecidableEq, Repr, Inhabited

/-- `Iblt.Decode`: the outer `for {}`; every outer iteration but the last adds a new entry to `pures` -/
def decodeLoop (H : Hash) (P : Par) : Nat → Table → List Ref → List Ref → List Ref → DecOut
  | 0, _, _, _, _ => .fuel
  | fuel + 1, tab, pures, rem, mis =>
    match sweep H P (List.range tab.length) { tab := tab, pures := pures, remaining := rem, missing := mis, updated := false } with
    | none => .loop
    | some st =>
      if st.updated then decodeLoop H P fuel st.tab st.pures st.remaining st.missing
      else if isEmpty st.tab then .ok st.remaining st.missing
      else .notPossible st.remaining st.missing

def decode (H : Hash) (P : Par) (fuel : Nat) (t : Table) : DecOut := decodeLoop H P fuel t [] [] []

/-- what `handleTransactionSet` does with the peer's IBLT: `iblt := state.IBLT(minLC); iblt.Subtract(peer); iblt.Decode()`;
    only `missing` is used; ErrDecodeNotPossible = page fallback, any other error is returned -/
def decodeAgainst (H : Hash) (P : Par) (n fuel : Nat) (loc : List Ref) (peer : Table) : DecodeRes :=
  match subtract (encode H P n loc) peer with
  | none => .err
  | some t =>
    match decode H P fuel t with
    | .ok _ mis => .ok mis
    | .notPossible _ _ => .fail
    | .loop => .err
    | .fuel => .err

/-- the oracle `Env.decode` instantiated with the modelled algorithm (peer IBLT = the encoding of the peer's ref list,
    both sides with `n` buckets); at most |loc| + |peer| keys can be peeled, so the bound on outer iterations is never hit
    (`decode_subtract_spec`, under `Faithful`) -/
def envDecode (H : Hash) (P : Par) (n : Nat) (loc : List Ref) : IbltV → DecodeRes
  | .garbage => .err
  | .ofSet peer => decodeAgainst H P n (loc.length + peer.length + 1) loc (encode H P n peer)

end Nuts.Proto.Iblt
