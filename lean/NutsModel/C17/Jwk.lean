/-
  C17 clause (e) "embedded private keys are refused" — the two places where the node looks INTO an embedded `jwk` header:

    crypto/dpop/dpop.go     jwkIsPrivateKey   : probes `jwk.Raw(&x)` for a sequence of Go private-key types, first success = private
    network/dag/parser.go   parseSignatureParams : a type switch over jwx key interfaces that returns an error

  Both were one bit of harness data (`Sig.jwk = .priv`) before. Here the embedded key is the JSON object the attacker wrote
  (kty, crv, is a private member `d` present), `typeOf` is which jwx key type that object parses to, `rawInto` which Go type
  `jwk.Raw` can fill from it (both are jwx behaviour: stated here, run against the real library by the harness ops `dpopj` / `dagtxj`),
  and the probe sequence / the rejected interface list are REGENERATED from the Go source (Facts.C17.dpopPrivateProbes,
  parseSignatureParamsRejectedKeyTypes).
  Core Lean only.
-/
import NutsModel.C17.TokenPolicy

namespace Nuts.C17.Jwk
open Nuts.C17

/-- what of a JWK object decides the jwx key type -/
structure JwkObj where
  kty : String
  crv : String        -- "" when absent
  hasD : Bool         -- a private member (`d`) is present
  deriving Repr, DecidableEq

inductive JwkType where
  | ecPub | ecPriv | rsaPub | rsaPriv | okpPub | okpPriv | sym
  deriving Repr, DecidableEq

/-- jwk.ParseKey: the type is chosen by `kty` and the presence of `d`; another `kty` does not parse (the whole header fails) -/
def typeOf (o : JwkObj) : Option JwkType :=
  if o.kty = "EC" then some (if o.hasD then .ecPriv else .ecPub)
  else if o.kty = "RSA" then some (if o.hasD then .rsaPriv else .rsaPub)
  else if o.kty = "OKP" then some (if o.hasD then .okpPriv else .okpPub)
  else if o.kty = "oct" then some .sym
  else none

/-- the key holds secret material -/
def holdsSecret : JwkType → Bool
  | .ecPriv | .rsaPriv | .okpPriv | .sym => true
  | _ => false

/-- the jwx interfaces a key of this type satisfies (Go interface satisfaction is structural: a private OKP key has all
    methods of jwk.OKPPublicKey, `FromRaw(interface{})` included; the EC / RSA private interfaces differ from the public
    ones in the parameter type of `FromRaw`, so they do not satisfy them) -/
def interfacesOf : JwkType → List String
  | .ecPub => ["jwk.ECDSAPublicKey"]
  | .ecPriv => ["jwk.ECDSAPrivateKey"]
  | .rsaPub => ["jwk.RSAPublicKey"]
  | .rsaPriv => ["jwk.RSAPrivateKey"]
  | .okpPub => ["jwk.OKPPublicKey"]
  | .okpPriv => ["jwk.OKPPrivateKey", "jwk.OKPPublicKey"]
  | .sym => ["jwk.SymmetricKey"]

/-- `var x T; jwk.Raw(&x)` succeeds: the raw key of the JWK is assignable to Go type `T` -/
def rawInto (t : JwkType) (crv : String) (target : String) : Bool :=
  match t with
  | .rsaPriv => target == "rsa.PrivateKey"
  | .ecPriv => target == "ecdsa.PrivateKey"
  | .okpPriv => target == "ed25519.PrivateKey" && crv == "Ed25519"      -- an X25519 key is an x25519.PrivateKey
  | .rsaPub => target == "rsa.PublicKey"
  | .ecPub => target == "ecdsa.PublicKey"
  | .okpPub => target == "ed25519.PublicKey" && crv == "Ed25519"
  -- the raw key of an octet key is a []byte: assignable to EVERY named type whose underlying type is []byte
  | .sym => target == "[]byte" || target == "ed25519.PrivateKey" || target == "ed25519.PublicKey"

/-- dpop.jwkIsPrivateKey: the probes in source order; `dflt` is the final `return` -/
def jwkIsPrivateKey (probes : List String) (dflt : Bool) (t : JwkType) (crv : String) : Bool :=
  if probes.any (rawInto t crv) then true else dflt

/-- dag.parseSignatureParams: the type switch `case <interfaces>: return error` -/
def dagRefusesJwk (rejected : List String) (t : JwkType) : Bool :=
  (interfacesOf t).any rejected.contains

/-- the one bit the consumer models read, now computed: what `Sig.jwk` is for an embedded JWK object under a consumer's
    private test -/
def kindOf (isPrivate : JwkType → String → Bool) : Option JwkObj → Option JwkKind
  | none => some .absent
  | some o =>
    match typeOf o with
    | none => none                                             -- the protected header does not parse
    | some t => some (if isPrivate t o.crv then .priv else if t = .sym then .sym else .pub)

/-- dpop.Parse over the embedded JWK OBJECT (header parse failure = jws.ParseString fails) -/
def dpopParseJ (supported : List String) (typ : String) (probes : List String) (dflt : Bool) (E : Env) (claimsOK : Bool)
    (j : Jws) (o : Option JwkObj) : Outcome :=
  match kindOf (jwkIsPrivateKey probes dflt) o with
  | none => .reject
  | some k => dpopParse supported typ E claimsOK { j with sigs := j.sigs.map (fun s => { s with jwk := k }) }

/-- dag.ParseTransaction + verifier over the embedded JWK OBJECT -/
def dagTxJ (allowed rejected : List String) (strict : Bool) (E : Env) (otherOK framingOK : Bool) (j : Jws) (o : Option JwkObj) : Outcome :=
  match kindOf (fun t _ => dagRefusesJwk rejected t) o with
  | none => .reject
  | some k => dagTx allowed true strict E otherOK framingOK { j with sigs := j.sigs.map (fun s => { s with jwk := k }) }

end Nuts.C17.Jwk
