/-
  C19 — model of http/client/caching.go responseCache: the make-room loop of insert() (the loop that hung before b991549),
  pop(), the ordered insertion, get() and CachingRoundTripper.RoundTrip for GET requests.  The expiry list is `list`
  (h.head … next), `index` is entriesByURL flattened in insertion order (the per-URL slices are its filters; entries are
  identified by `id` = the pointer), `cur` = currentSizeBytes (Go int: Int).  time.Now() is an argument.
  The Go loop `for cond { _ = h.pop() }` is `step` (one iteration; `none` = the loop exits): termination is a theorem about
  `step` (a strictly decreasing measure), not a by-product of the encoding; `makeRoom` is its closed form used by the driver.
-/
import NutsModel.Base
namespace Nuts.C19.HttpCache
open Nuts

structure Cfg where
  /-- the loop condition starts with `h.head != nil &&` -/
  headGuard : Bool
  /-- the comparison is `>` (false: `>=`, the spelling before the repair) -/
  strict : Bool
  deriving Repr, DecidableEq

def Cfg.fixed : Cfg := ⟨true, true⟩
def Cfg.before : Cfg := ⟨false, false⟩

structure Entry where
  id : Nat
  url : String
  size : Nat
  exp : Int
  deriving Repr, DecidableEq

structure St where
  list : List Entry
  index : List Entry
  cur : Int
  max : Int
  deriving Repr, DecidableEq

def St.empty (max : Int) : St := ⟨[], [], 0, max⟩

/-- removal of the entry with this pointer from its entriesByURL slice -/
def removeId (id : Nat) : List Entry → List Entry
  | [] => []
  | e :: rest => if e.id == id then rest else e :: removeId id rest

/-- responseCache.pop: on an empty list it changes NOTHING -/
def pop (s : St) : St :=
  match s.list with
  | [] => s
  | e :: rest => { s with list := rest, index := removeId e.id s.index, cur := s.cur - e.size }

/-- `h.currentSizeBytes+len(entry.responseData) > h.maxBytes` (or `>=`) -/
def over (c : Cfg) (cur len max : Int) : Bool := if c.strict then decide (cur + len > max) else decide (cur + len ≥ max)

def loopCond (c : Cfg) (len : Int) (s : St) : Bool := (!c.headGuard || !s.list.isEmpty) && over c s.cur len s.max

/-- ONE iteration of `for cond { _ = h.pop() }`; `none` = the loop exits -/
def step (c : Cfg) (len : Int) (s : St) : Option St := if loopCond c len s then some (pop s) else none

/-- n iterations; `none` = the loop has exited within n iterations -/
def iter (c : Cfg) (len : Int) : Nat → St → Option St
  | 0, s => some s
  | n + 1, s => match step c len s with
    | none => none
    | some s' => iter c len n s'

inductive Out where
  | done (s : St)
  /-- the loop condition holds and the body changes nothing: the loop spins for ever (with the cache mutex held) -/
  | hang
  deriving Repr, DecidableEq

/-- closed form of the loop, by recursion on the expiry list -/
def makeRoomL (c : Cfg) (len max : Int) : List Entry → List Entry → Int → Out
  | [], idx, cur => if !c.headGuard && over c cur len max then .hang else .done ⟨[], idx, cur, max⟩
  | e :: rest, idx, cur =>
    if over c cur len max then makeRoomL c len max rest (removeId e.id idx) (cur - e.size) else .done ⟨e :: rest, idx, cur, max⟩

def makeRoom (c : Cfg) (len : Int) (s : St) : Out := makeRoomL c len s.max s.list s.index s.cur

/-- the ordered insertion (after the repair): before the head when it expires first, else after the last entry that expires
    before it (entries with the SAME expiry: after the head, before the others — as the Go scan does) -/
def insertAfterHead (e : Entry) : List Entry → List Entry
  | [] => [e]
  | n :: rest => if n.exp < e.exp then n :: insertAfterHead e rest else e :: n :: rest

def insertOrdered (e : Entry) : List Entry → List Entry
  | [] => [e]
  | h :: rest => if e.exp < h.exp then e :: h :: rest else h :: insertAfterHead e rest

/-- responseCache.insert -/
def insert (c : Cfg) (e : Entry) (s : St) : Out :=
  if (e.size : Int) > s.max then .done s else
  match makeRoom c e.size s with
  | .hang => .hang
  | .done s' => .done { s' with list := insertOrdered e s'.list, index := s'.index ++ [e], cur := s'.cur + e.size }

/-- removeExpiredEntries: pops while the head has expired -/
def removeExpired (now : Int) : List Entry → St → St
  | [], s => s
  | e :: rest, s => if e.exp < now then removeExpired now rest (pop s) else s

/-- responseCache.get (method and raw query are part of `url` here: the harness only sends GET) -/
def get (now : Int) (url : String) (s : St) : St × Bool :=
  let s' := removeExpired now s.list s
  (s', s'.index.any (fun e => e.url == url))

/-- RoundTrip of a GET: hit, or fetch and (when cacheable) insert. `fresh = none`: the response is not cacheable -/
def roundTrip (c : Cfg) (now : Int) (url : String) (fresh : Option Entry) (s : St) : Out × Bool :=
  let g := get now url s
  if g.2 then (.done g.1, true) else
  match fresh with
  | none => (.done g.1, false)
  | some e => (insert c e g.1, false)

def sumSizes (l : List Entry) : Int := l.foldr (fun e acc => (e.size : Int) + acc) 0

end Nuts.C19.HttpCache
