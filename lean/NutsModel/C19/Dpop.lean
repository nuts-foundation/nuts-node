/-
  C19 — model of crypto/dpop/dpop.go: Parse, HTU, HTM, Match, strip.
  jwx (jws.ParseString, jwt.ParseString, Thumbprint) and net/url.Parse are third-party: what they returned
  for the input at hand is DATA (`ParseIn`, `UrlParse`) supplied by the harness, never computed here.
  Every partial Go operation is a `Res.panic` site.  `Cfg` says which of the partial operations the source
  performs in the checked form; it is computed from the regenerated partial-operation inventory (Facts.C19).
-/
import NutsModel.C19.J
namespace Nuts.C19.Dpop
open Nuts

structure Cfg where
  /-- `HTU()` uses `s, _ := v.(string)` instead of `v.(string)` -/
  htuChecked : Bool
  /-- `HTM()` likewise -/
  htmChecked : Bool
  /-- `Parse` rejects `htu`/`htm` claims that are not strings -/
  parseTypeChecks : Bool
  /-- `strip` looks at the error of `url.Parse` instead of discarding it -/
  stripChecksErr : Bool
  deriving Repr, DecidableEq

/-- the source as it was before the repair -/
def Cfg.unfixed : Cfg := ⟨false, false, false, false⟩
/-- the source after the repair -/
def Cfg.fixed : Cfg := ⟨true, true, true, true⟩

/-- what jwx reports about the compact/JSON serialisation handed to `Parse` -/
structure ParseIn where
  jwsOk : Bool          -- jws.ParseString err == nil
  nSigs : Nat           -- len(message.Signatures())
  algSupported : Bool   -- slices.Contains(jwx.SupportedAlgorithms, headers.Algorithm())
  typ : String          -- headers.Type()
  hasJwk : Bool         -- headers.JWK() != nil
  jwkPrivate : Bool     -- jwkIsPrivateKey(headers.JWK())
  algFitsKey : Bool := true  -- jwx.AlgorithmFitsKey(headers.Algorithm(), headers.JWK()) (curve / Ed25519 key length)
  jwtOk : Bool          -- jwt.ParseString(s, WithKey(alg, jwk)) err == nil
  iatZero : Bool        -- token.IssuedAt().IsZero()
  htu : Option J        -- token.Get("htu")
  htm : Option J        -- token.Get("htm")
  jtiLen : Nat          -- len(token.JwtID())
  deriving Repr

/-- the parsed token: the two private claims and nothing else matter afterwards -/
structure Token where
  htu : Option J
  htm : Option J
  deriving Repr

def maxJtiLength : Nat := 256

/-- `if v, ok := token.Get(key); !ok || v == ""` (+ the type check of the repaired source) -/
def claimCheck (c : Cfg) (name : String) (v : Option J) : Res Unit :=
  match v with
  | none => .err ("missing " ++ name)
  | some j =>
    if j.isEmptyString then .err ("missing " ++ name)
    else if c.parseTypeChecks then
      match j with
      | .str _ => .ok ()
      | _ => .err ("invalid " ++ name)
    else .ok ()

/-- the checks of Parse on the JWS and its protected header, up to and including signature verification -/
def parseHeader (i : ParseIn) : Res Unit :=
  if !i.jwsOk then .err "jws" else
  if i.nSigs != 1 then .err "nsig" else
  -- message.Signatures()[0]
  if i.nSigs == 0 then .panic "Parse:Signatures()[0]" else
  if !i.algSupported then .err "alg" else
  if i.typ != "dpop+jwt" then .err "typ" else
  if !i.hasJwk then .err "nojwk" else
  if i.jwkPrivate then .err "privjwk" else
  if !i.algFitsKey then .err "algfit" else
  if !i.jwtOk then .err "jwt" else .ok ()

/-- the checks of Parse on the claims -/
def parseClaims (c : Cfg) (i : ParseIn) : Res Token :=
  if i.iatZero then .err "iat" else
  match claimCheck c "htu" i.htu with
  | .err e => .err e
  | .panic s => .panic s
  | .ok () =>
  match claimCheck c "htm" i.htm with
  | .err e => .err e
  | .panic s => .panic s
  | .ok () =>
  if i.jtiLen == 0 then .err "jti" else
  if i.jtiLen > maxJtiLength then .err "jtilong" else
  .ok { htu := i.htu, htm := i.htm }

def parse (c : Cfg) (i : ParseIn) : Res Token :=
  match parseHeader i with
  | .err e => .err e
  | .panic s => .panic s
  | .ok () => parseClaims c i

/-- `if v, ok := t.Token.Get(key); ok { return v.(string) }; return ""` -/
def claimString (checked : Bool) (site : String) (v : Option J) : Res String :=
  match v with
  | none => .ok ""
  | some (.str s) => .ok s
  | some _ => if checked then .ok "" else .panic site

def htu (c : Cfg) (t : Token) : Res String := claimString c.htuChecked "HTU:v.(string)" t.htu
def htm (c : Cfg) (t : Token) : Res String := claimString c.htmChecked "HTM:v.(string)" t.htm

/-- what `net/url.Parse` did with a raw string: `none` = (nil, err); `some s` = the string the rest of
    `strip` produces from the parsed URL (scheme:=https, port dropped, query and fragment dropped) -/
abbrev UrlParse := String → Option String

/-- `strip`: the unrepaired source dereferences the nil `*url.URL` -/
def strip (c : Cfg) (up : UrlParse) (raw : String) : Res String :=
  match up raw with
  | some s => .ok s
  | none => if c.stripChecksErr then .err "url" else .panic "strip:url.Scheme(nil *url.URL)"

/-- `Match(jkt, method, url)`; `tpEq` = (base64(thumbprint(jwk)) == jkt). -/
def matchDpop (c : Cfg) (up : UrlParse) (t : Token) (tpEq : Bool) (method url : String) : Res Bool :=
  if !tpEq then .err "jkt mismatch" else
  match htm c t with
  | .panic s => .panic s
  | .err e => .err e
  | .ok m =>
  if method != m then
    -- the error message evaluates t.HTM() once more
    match htm c t with
    | .panic s => .panic s
    | _ => .err "method mismatch"
  else
  match htu c t with
  | .panic s => .panic s
  | .err e => .err e
  | .ok u =>
  match strip c up u with
  | .panic s => .panic s
  | .err _ => .err "invalid htu"
  | .ok left =>
  match strip c up url with
  | .panic s => .panic s
  | .err _ => .err "invalid url"
  | .ok right => if left != right then .err "url mismatch" else .ok true

/-- the API entry point `ValidateDPoPProof` up to and including `Match`: Parse, then Match on the result. -/
def validate (c : Cfg) (up : UrlParse) (i : ParseIn) (tpEq : Bool) (method url : String) : Res Bool :=
  match parse c i with
  | .err e => .err ("parse:" ++ e)
  | .panic s => .panic s
  | .ok t => matchDpop c up t tpEq method url

/-- the `Res.panic` sites of this file, with the Go expression each one stands for (kind:function:expr, the
    format of the regenerated inventory). -/
def sites : List (String × String) :=
  [ ("index:Parse:message.Signatures()[0]", "Parse:Signatures()[0]"),
    ("assert:HTU:v.(string)", "HTU:v.(string)"),
    ("assert:HTM:v.(string)", "HTM:v.(string)"),
    ("discard:strip:url.Parse()", "strip:url.Scheme(nil *url.URL)") ]

end Nuts.C19.Dpop
