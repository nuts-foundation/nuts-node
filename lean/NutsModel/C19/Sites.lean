/-
  C19 — what the models read from the regenerated facts (NutsModel/Facts/C19.lean, produced by extract/c19.go
  from /repo's current source): which partial operations each modelled Go function contains today, and the
  `Cfg` of each model derived from that inventory.  The EXPECTED inventory (with the disposition of every entry)
  is `expected` below; Props/C19.lean proves `Facts.C19.partialOps = expected…` (by unfolding both sides), so a newly introduced
  unchecked assertion / index / unbounded loop in a modelled function breaks the build.
-/
import NutsModel.Facts.C19
import NutsModel.C19.Dpop
import NutsModel.C19.Resolver
import NutsModel.C19.Bitstring
import NutsModel.C19.Iblt
import NutsModel.C19.Callback
import NutsModel.C19.StatusList
import NutsModel.C19.DidKey
import NutsModel.C19.DidWeb
import NutsModel.C19.Ambassador
import NutsModel.C19.HttpCache
import NutsModel.C19.Cred
import NutsModel.C19.CredMore
import NutsModel.C19.JsonLd
import NutsModel.C19.Jwx
namespace Nuts.C19.Sites
open Nuts

/-- the inventory of one function (`none` if the extractor did not report the function at all) -/
def opsOf? (key : String) : Option (List String) :=
  (Facts.C19.partialOps.find? (fun p => p.1 == key)).map (·.2)

def has (key op : String) : Bool :=
  match opsOf? key with
  | some l => l.contains op
  | none => false

def count (key op : String) : Nat :=
  match opsOf? key with
  | some l => l.count op
  | none => 0

/-- what happens with a partial operation of the source in the model -/
inductive Disp where
  /-- it is the `Res.panic` site with this name -/
  | site (name : String)
  /-- it cannot fail; why -/
  | total (why : String)
  /-- the function is not inside a model: the operation is only SAMPLED, by this harness entry point (crash/timeout oracle) -/
  | sampled (entryPoint : String)
  deriving Repr, DecidableEq

structure Entry where
  go : String
  disp : Disp
  deriving Repr

/-- the EXPECTED inventory: per modelled Go function, its partial operations in source order, each with its disposition -/
def expected : List (String × List Entry) := [
  ("crypto/dpop/dpop.go:Parse", [
    ⟨"lencheck:len(message.Signatures()) != 1", .total "guard of Signatures()[0] (model: nSigs != 1)"⟩,
    ⟨"index:message.Signatures()[0]", .site "Parse:Signatures()[0]"⟩,
    ⟨"nilcheck:headers.JWK() == nil", .total "guard: Match later calls t.Headers.JWK().Thumbprint"⟩,
    ⟨"assertok:v.(string)", .total "checked assertion (Cfg.parseTypeChecks)"⟩,
    ⟨"assertok:v.(string)", .total "checked assertion (Cfg.parseTypeChecks)"⟩,
    ⟨"lencheck:len(token.JwtID()) > maxJtiLength", .total "jti length limit (model: jtiLen > maxJtiLength)"⟩]),
  ("crypto/dpop/dpop.go:DPoP.HTU", [
    ⟨"assertok:v.(string)", .total "checked assertion (Cfg.htuChecked); the unchecked form is site HTU:v.(string)"⟩]),
  ("crypto/dpop/dpop.go:DPoP.HTM", [
    ⟨"assertok:v.(string)", .total "checked assertion (Cfg.htmChecked); the unchecked form is site HTM:v.(string)"⟩]),
  ("crypto/dpop/dpop.go:DPoP.Match", [
    ⟨"discard:t.Headers.JWK().Thumbprint(crypto.SHA256)", .total "JWK() is non-nil for every token Parse returns (nil check in Parse); a Thumbprint error only makes the comparison fail"⟩]),
  ("crypto/dpop/dpop.go:strip", [
    ⟨"index:strings.Split(url.Host, \":\")[0]", .total "strings.Split with a non-empty separator returns at least one element"⟩]),
  ("vdr/resolver/key.go:DIDKeyResolver.ResolveKeyByID", [
    ⟨"range:relationships", .total "bounded loop"⟩,
    ⟨"nilcheck:rel.VerificationMethod == nil", .total "guard (Cfg.nilVMChecked); without it: site ResolveKeyByID:rel.ID(nil *VerificationMethod)"⟩,
    ⟨"nilcheck:baseUrl != nil", .total "guard of *baseUrl"⟩,
    ⟨"deref:*baseUrl", .total "under baseUrl != nil (model: match on Option)"⟩]),
  ("vdr/resolver/key.go:DIDKeyResolver.baseUrl", [
    ⟨"range:context", .total "bounded loop"⟩,
    ⟨"index:context[i]", .total "i ranges over context"⟩,
    ⟨"assert:ctx.(map[string]interface{})", .total "under reflect Kind()==Map; every map kind in a JSON-decoded @context is map[string]interface{} (J.obj)"⟩,
    ⟨"index:m[\"@base\"]", .total "map read"⟩,
    ⟨"assertok:val.(string)", .total "checked assertion (Cfg.baseChecked); the unchecked form is site baseUrl:val.(string)"⟩]),
  ("vdr/resolver/key.go:DIDKeyResolver.ResolveKey", [
    ⟨"range:keys", .total "bounded loop"⟩,
    ⟨"nilcheck:key.VerificationMethod == nil", .total "guard (Cfg.nilVMChecked); without it: site ResolveKey:keys[0].PublicKey()(nil *VerificationMethod)"⟩]),
  ("vdr/resolver/service.go:DIDServiceResolver.Resolve", []),
  ("vdr/resolver/service.go:DIDServiceResolver.ResolveEx", [
    ⟨"index:documentCache[referencedDID.String()]", .total "map read"⟩,
    ⟨"nilcheck:document == nil", .total "cache miss test"⟩,
    ⟨"indexw:documentCache[referencedDID.String()]", .site "ResolveEx:documentCache[k]=v(nil map)"⟩,
    ⟨"range:document.Service", .total "bounded loop; document is non-nil when the resolver returns no error (contract of DIDResolver)"⟩,
    ⟨"nilcheck:service == nil", .total "guard of *service"⟩,
    ⟨"nilcheck:service.UnmarshalServiceEndpoint(&endpointURL) == nil", .total "error test"⟩,
    ⟨"deref:*resolvedEndpointURI", .total "after err == nil of ssi.ParseURI"⟩,
    ⟨"deref:*resolvedEndpointURI", .total "after err == nil of ssi.ParseURI"⟩,
    ⟨"deref:*service", .total "under service != nil"⟩,
    ⟨"rec:s.ResolveEx", .total "recursion with depth+1 under depth < maxDepth: measure maxDepth - depth (service_resolve_terminates)"⟩]),
  ("vcr/revocation/bitstring.go:bitstring.bit", [
    ⟨"lencheck:q >= len(*bs)", .total "guard of (*bs)[q]"⟩,
    ⟨"deref:*bs", .total "receiver is the address of a local value at every call site"⟩,
    ⟨"deref:*bs", .total "receiver is the address of a local value at every call site"⟩,
    ⟨"index:(*bs)[q]", .site "bit:(*bs)[q]"⟩]),
  ("vcr/revocation/bitstring.go:bitstring.setBit", [
    ⟨"lencheck:q >= len(*bs)", .total "guard of (*bs)[q]"⟩,
    ⟨"deref:*bs", .total "receiver is the address of a local value at every call site"⟩,
    ⟨"deref:*bs", .total "receiver is the address of a local value at every call site"⟩,
    ⟨"index:(*bs)[q]", .site "setBit:(*bs)[q]"⟩,
    ⟨"deref:*bs", .total "receiver is the address of a local value at every call site"⟩,
    ⟨"indexw:(*bs)[q]", .site "setBit:(*bs)[q]"⟩]),
  ("vcr/revocation/bitstring.go:isSet", []),
  ("network/dag/tree/iblt.go:Iblt.Insert", [
    ⟨"range:i.bucketIndices(keyHash)", .total "bounded loop over the result of bucketIndices (iblt_bucket_indices_total)"⟩,
    ⟨"index:i.buckets[h]", .site "Insert/Delete:i.buckets[h]"⟩]),
  ("network/dag/tree/iblt.go:Iblt.Delete", [
    ⟨"range:i.bucketIndices(keyHash)", .total "bounded loop over the result of bucketIndices (iblt_bucket_indices_total)"⟩,
    ⟨"index:i.buckets[h]", .site "Insert/Delete:i.buckets[h]"⟩]),
  ("network/dag/tree/iblt.go:Iblt.Subtract", [
    ⟨"range:i.buckets", .total "bounded loop"⟩,
    ⟨"index:i.buckets[idx]", .site "Subtract:i.buckets[idx]"⟩,
    ⟨"index:o.buckets[idx]", .site "Subtract:o.buckets[idx]"⟩]),
  ("network/dag/tree/iblt.go:Iblt.validate", [
    ⟨"assertok:other.(*Iblt)", .total "checked assertion"⟩]),
  ("network/dag/tree/iblt.go:Iblt.Decode", [
    ⟨"for:", .total "UNBOUNDED loop: modelled with fuel, termination is theorem iblt_decode_terminates"⟩,
    ⟨"range:i.buckets", .total "bounded loop"⟩,
    ⟨"index:i.buckets[idx]", .site "Decode:i.buckets[idx]"⟩,
    ⟨"index:i.buckets[idx]", .site "Decode:i.buckets[idx]"⟩,
    ⟨"index:i.buckets[idx]", .site "Decode:i.buckets[idx]"⟩,
    ⟨"index:i.buckets[idx]", .site "Decode:i.buckets[idx]"⟩,
    ⟨"index:i.buckets[idx]", .site "Decode:i.buckets[idx]"⟩,
    ⟨"index:pures[txRef]", .total "map read"⟩,
    ⟨"indexw:pures[txRef]", .total "map write on a map made in the function"⟩,
    ⟨"index:i.buckets[idx]", .site "Decode:i.buckets[idx]"⟩]),
  ("network/dag/tree/iblt.go:Iblt.Empty", [
    ⟨"range:i.buckets", .total "bounded loop"⟩,
    ⟨"index:i.buckets[idx]", .total "idx ranges over i.buckets (model: Array.all)"⟩]),
  ("network/dag/tree/iblt.go:Iblt.bucketIndices", [
    ⟨"for:len(indices) < k && step < ibltMaxChain", .total "bounded by ibltMaxChain (model: recursion on the remaining steps)"⟩,
    ⟨"divmod:next % numBuckets", .site "bucketIndices:next % numBuckets"⟩,
    ⟨"index:bucketUsed[bucketID]", .total "map read"⟩,
    ⟨"indexw:bucketUsed[bucketID]", .total "map write on a map made in the function"⟩,
    ⟨"for:len(indices) < k && off < numBuckets", .total "bounded by numBuckets (model: recursion on the remaining offsets)"⟩,
    ⟨"divmod:(bucketID + off) % numBuckets", .site "bucketIndices:(bucketID + off) % numBuckets"⟩,
    ⟨"index:bucketUsed[probe]", .total "map read"⟩,
    ⟨"indexw:bucketUsed[probe]", .total "map write on a map made in the function"⟩]),
  ("network/dag/tree/iblt.go:Iblt.UnmarshalBinary", [
    ⟨"divmod:len(data) / bucketBytes", .total "bucketBytes is the constant 44"⟩,
    ⟨"lencheck:len(data) != numBuckets * bucketBytes", .total "the only error of UnmarshalBinary; precedes every assignment"⟩,
    ⟨"for:j < i.numBuckets()", .total "bounded loop"⟩,
    ⟨"index:i.buckets[j]", .total "j < len(i.buckets) is the loop condition (model: Array.push)"⟩,
    ⟨"rec:i.buckets[j].UnmarshalBinary", .total "not recursion: the method of bucket"⟩]),
  ("network/dag/tree/iblt.go:bucket.UnmarshalBinary", [
    ⟨"lencheck:len(data) != bucketBytes", .total "guard of the array-pointer conversion"⟩,
    ⟨"conv:(*[bucketBytes]byte)(data)", .site "bucket.UnmarshalBinary:(*[bucketBytes]byte)(data)"⟩,
    ⟨"slice:d[:4]", .total "constant bounds on an array of 44"⟩,
    ⟨"slice:d[4:12]", .total "constant bounds on an array of 44"⟩,
    ⟨"slice:d[12:]", .total "constant bounds on an array of 44"⟩,
    ⟨"conv:(*hash.SHA256Hash)(d[12:])", .total "d[12:] has the 32 elements of the target array"⟩,
    ⟨"deref:*keySum", .total "result of the conversion above, never nil"⟩]),
  ("auth/api/iam/openid4vp.go:withCallbackURI", [
    ⟨"assert:err.(oauth.OAuth2Error)", .site "withCallbackURI:err.(oauth.OAuth2Error)"⟩]),
  ("auth/api/iam/openid4vp.go:Wrapper.handleAuthorizeResponseSubmission", [
    ⟨"nilcheck:request.Body.State == nil", .total "guard of *request.Body.State"⟩,
    ⟨"nilcheck:request.Body.VpToken == nil", .total "guard of *request.Body.VpToken"⟩,
    ⟨"deref:*request.Body.VpToken", .total "under the nil check above"⟩,
    ⟨"lencheck:len(pexEnvelope.Presentations) == 0", .total "GUARD of nonces[0] in validatePresentationNonce (Cfg.envelopeGuard): pe.ParseEnvelope(\"[]\") succeeds with no presentations"⟩,
    ⟨"deref:*request.Body.State", .total "under the nil check above"⟩,
    ⟨"deref:*session.OwnSubject", .total "every OAuthSession the node stores under a client state has OwnSubject set (not input)"⟩,
    ⟨"deref:*session.OwnSubject", .total "every OAuthSession the node stores under a client state has OwnSubject set (not input)"⟩,
    ⟨"nilcheck:request.Body.PresentationSubmission == nil", .total "guard of *request.Body.PresentationSubmission"⟩,
    ⟨"deref:*request.Body.PresentationSubmission", .total "under the nil check above"⟩,
    ⟨"range:pexEnvelope.Presentations", .total "bounded loop"⟩,
    ⟨"deref:*subjectDID", .total "validatePresentationSigner returns a non-nil DID when it returns no error"⟩,
    ⟨"range:pexEnvelope.Presentations", .total "bounded loop"⟩,
    ⟨"deref:*submission", .total "after err == nil of ParsePresentationSubmission"⟩,
    ⟨"deref:*pexEnvelope", .total "after err == nil of ParseEnvelope"⟩,
    ⟨"discard:session.OpenID4VPVerifier.next()", .total "second result unused"⟩,
    ⟨"nilcheck:nextWalletOwnerType != nil", .total "flow control"⟩,
    ⟨"deref:*callbackURI", .total "session.redirectURI() of a stored session"⟩]),
  ("auth/api/iam/openid4vp.go:Wrapper.validatePresentationNonce", [
    ⟨"range:presentations", .total "bounded loop"⟩,
    ⟨"lencheck:len(nonces) > 1", .total "error: differing nonces"⟩,
    ⟨"lencheck:len(errs) > 0", .total "error return"⟩,
    ⟨"range:nonces", .total "bounded loop"⟩,
    ⟨"index:nonces[0]", .site "validatePresentationNonce:nonces[0]"⟩]),
  ("auth/api/iam/openid4vp.go:extractChallenge", [
    ⟨"discard:presentation.JWT().Get(\"nonce\")", .total "missing claim gives nil, then the checked assertion gives \"\""⟩,
    ⟨"assertok:nonceRaw.(string)", .total "checked assertion"⟩,
    ⟨"nilcheck:proof.Challenge != nil", .total "guard of *proof.Challenge"⟩,
    ⟨"deref:*proof.Challenge", .total "under the nil check"⟩,
    ⟨"deref:*proof.Challenge", .total "under the nil check"⟩]),
  ("auth/api/iam/validation.go:Wrapper.validatePresentationAudience", [
    ⟨"nilcheck:proof.Domain != nil", .total "guard of *proof.Domain"⟩,
    ⟨"deref:*proof.Domain", .total "under the nil check"⟩,
    ⟨"range:audience", .total "bounded loop"⟩]),
  ("auth/api/iam/openid4vp.go:Wrapper.getClientMetadataFromRequest", [
    ⟨"nilcheck:metadata == nil", .sampled "iam.handleAuthorizeRequestFromVerifier"⟩]),
  ("auth/api/iam/openid4vp.go:Wrapper.getPresentationDefinitionFromRequest", [
    ⟨"guardcall:pe.ParsePresentationDefinition", .sampled "iam.handleAuthorizeRequestFromVerifier"⟩]),
  ("auth/client/iam/client.go:HTTPClient.PresentationDefinition", [
    ⟨"assertok:err.(oauth.OAuth2Error)", .sampled "iamclient.PresentationDefinition"⟩,
    ⟨"guardcall:checkNoNullEntries", .sampled "iamclient.PresentationDefinition"⟩]),
  ("auth/client/iam/client.go:checkNoNullEntries", [
    ⟨"range:definition.InputDescriptors", .sampled "iamclient.PresentationDefinition"⟩,
    ⟨"nilcheck:descriptor == nil", .sampled "iamclient.PresentationDefinition"⟩,
    ⟨"range:requirements", .sampled "iamclient.PresentationDefinition"⟩,
    ⟨"nilcheck:requirement == nil", .sampled "iamclient.PresentationDefinition"⟩]),
  ("vcr/pe/util.go:ParseEnvelope", [
    ⟨"nilcheck:jsonArray != nil", .sampled "pe.ParseEnvelope (JWT claim combinations) / iam.HandleAuthorizeResponse"⟩,
    ⟨"deref:*presentation", .sampled "pe.ParseEnvelope (JWT claim combinations) / iam.HandleAuthorizeResponse"⟩]),
  ("vcr/pe/util.go:parseJSONArrayEnvelope", [
    ⟨"range:arr", .sampled "pe.ParseEnvelope (JWT claim combinations) / iam.HandleAuthorizeResponse"⟩,
    ⟨"deref:*presentation", .sampled "pe.ParseEnvelope (JWT claim combinations) / iam.HandleAuthorizeResponse"⟩]),
  ("vcr/pe/util.go:parseJSONObjectOrStringEnvelope", [
    ⟨"index:token.PrivateClaims()[\"vp\"]", .sampled "pe.ParseEnvelope (JWT claim combinations) / iam.HandleAuthorizeResponse"⟩,
    ⟨"assertok:token.PrivateClaims()[\"vp\"].(map[string]interface{})", .sampled "pe.ParseEnvelope (JWT claim combinations) / iam.HandleAuthorizeResponse"⟩,
    ⟨"range:innerVPAsMap", .sampled "pe.ParseEnvelope (JWT claim combinations) / iam.HandleAuthorizeResponse"⟩,
    ⟨"indexw:asMap[key]", .sampled "pe.ParseEnvelope (JWT claim combinations) / iam.HandleAuthorizeResponse"⟩,
    ⟨"indexw:asMap[\"id\"]", .sampled "pe.ParseEnvelope (JWT claim combinations) / iam.HandleAuthorizeResponse"⟩]),
  ("vcr/pe/util.go:tryParseJSONArray", [
    ⟨"assertok:asInterface.([]interface{})", .sampled "pe.ParseEnvelope (JWT claim combinations) / iam.HandleAuthorizeResponse"⟩]),
  ("network/transport/v2/conversation.go:conversationManager.check", [
    ⟨"defer:cMan.mutex.RUnlock", .sampled "v2.envelope (reply-type-confusion matrix: every request type × every reply handler, live conversation id)"⟩,
    ⟨"index:cMan.conversations[cid.String()]", .sampled "v2.envelope (reply-type-confusion matrix: every request type × every reply handler, live conversation id)"⟩]),
  ("network/transport/v2/conversation.go:Envelope_TransactionListQuery.checkResponse", [
    ⟨"assertok:other.(*Envelope_TransactionList)", .sampled "v2.envelope (reply-type-confusion matrix: every request type × every reply handler, live conversation id)"⟩,
    ⟨"range:envelope.TransactionListQuery.Refs", .sampled "v2.envelope (reply-type-confusion matrix: every request type × every reply handler, live conversation id)"⟩,
    ⟨"indexw:refs[ref]", .sampled "v2.envelope (reply-type-confusion matrix: every request type × every reply handler, live conversation id)"⟩,
    ⟨"range:txs", .sampled "v2.envelope (reply-type-confusion matrix: every request type × every reply handler, live conversation id)"⟩,
    ⟨"index:refs[tx.Ref()]", .sampled "v2.envelope (reply-type-confusion matrix: every request type × every reply handler, live conversation id)"⟩]),
  ("network/transport/v2/conversation.go:Envelope_TransactionRangeQuery.checkResponse", [
    ⟨"assertok:other.(*Envelope_TransactionList)", .sampled "v2.envelope (reply-type-confusion matrix: every request type × every reply handler, live conversation id)"⟩,
    ⟨"range:txs", .sampled "v2.envelope (reply-type-confusion matrix: every request type × every reply handler, live conversation id)"⟩]),
  ("network/transport/v2/conversation.go:Envelope_State.checkResponse", [
    ⟨"assertok:other.(*Envelope_TransactionSet)", .sampled "v2.envelope (reply-type-confusion matrix: every request type × every reply handler, live conversation id)"⟩]),
  ("network/transport/v2/conversation.go:Envelope_TransactionList.parseTransactions", [
    ⟨"index:data[dataKey]", .sampled "v2.envelope (reply-type-confusion matrix: every request type × every reply handler, live conversation id)"⟩,
    ⟨"assertok:data[dataKey].([]dag.Transaction)", .sampled "v2.envelope (reply-type-confusion matrix: every request type × every reply handler, live conversation id)"⟩,
    ⟨"range:envelope.TransactionList.Transactions", .sampled "v2.envelope (reply-type-confusion matrix: every request type × every reply handler, live conversation id)"⟩,
    ⟨"indexw:data[dataKey]", .sampled "v2.envelope (reply-type-confusion matrix: every request type × every reply handler, live conversation id)"⟩]),
  ("network/transport/v2/transactionlist_handler.go:protocol.handleTransactionList", [
    ⟨"assert:envelope.Message.(*Envelope_TransactionList)", .sampled "v2.envelope"⟩,
    ⟨"range:txs", .sampled "v2.envelope"⟩,
    ⟨"nilcheck:ctx.Err() != nil", .sampled "v2.envelope"⟩,
    ⟨"lencheck:len(tx.PAL()) == 0", .sampled "v2.envelope"⟩,
    ⟨"lencheck:len(msg.Transactions[i].Payload) == 0", .sampled "v2.envelope"⟩,
    ⟨"index:msg.Transactions[i]", .sampled "v2.envelope"⟩,
    ⟨"index:msg.Transactions[i]", .sampled "v2.envelope"⟩]),
  ("vcr/pe/presentation_definition.go:PresentationDefinition.Match", [
    ⟨"guardcall:presentationDefinition.checkNoNilEntries", .sampled "pe.match+validate (parallel-array invariant of Match; the PE model is C12)"⟩,
    ⟨"lencheck:len(presentationDefinition.SubmissionRequirements) > 0", .sampled "pe.match+validate (parallel-array invariant of Match; the PE model is C12)"⟩]),
  ("vcr/pe/presentation_definition.go:PresentationDefinition.matchBasic", [
    ⟨"range:candidates", .sampled "pe.match+validate (parallel-array invariant of Match; the PE model is C12)"⟩,
    ⟨"nilcheck:candidate.VC == nil", .sampled "pe.match+validate (parallel-array invariant of Match; the PE model is C12)"⟩,
    ⟨"lencheck:len(descriptorsNotMatched) > 0", .sampled "pe.match+validate (parallel-array invariant of Match; the PE model is C12)"⟩,
    ⟨"range:candidates", .sampled "pe.match+validate (parallel-array invariant of Match; the PE model is C12)"⟩,
    ⟨"indexw:matchingCredentials[i]", .sampled "pe.match+validate (parallel-array invariant of Match; the PE model is C12)"⟩,
    ⟨"deref:*candidate.VC", .sampled "pe.match+validate (parallel-array invariant of Match; the PE model is C12)"⟩]),
  ("vcr/pe/presentation_definition.go:PresentationDefinition.matchSubmissionRequirements", [
    ⟨"range:presentationDefinition.SubmissionRequirements", .sampled "pe.match+validate (parallel-array invariant of Match; the PE model is C12)"⟩,
    ⟨"range:submissionRequirement.groups()", .sampled "pe.match+validate (parallel-array invariant of Match; the PE model is C12)"⟩,
    ⟨"indexw:availableGroups[group]", .sampled "pe.match+validate (parallel-array invariant of Match; the PE model is C12)"⟩,
    ⟨"range:presentationDefinition.groups()", .sampled "pe.match+validate (parallel-array invariant of Match; the PE model is C12)"⟩,
    ⟨"index:availableGroups[group.Name]", .sampled "pe.match+validate (parallel-array invariant of Match; the PE model is C12)"⟩,
    ⟨"range:candidates", .sampled "pe.match+validate (parallel-array invariant of Match; the PE model is C12)"⟩,
    ⟨"range:match.InputDescriptor.Group", .sampled "pe.match+validate (parallel-array invariant of Match; the PE model is C12)"⟩,
    ⟨"index:availableGroups[group]", .sampled "pe.match+validate (parallel-array invariant of Match; the PE model is C12)"⟩,
    ⟨"indexw:availableGroups[group]", .sampled "pe.match+validate (parallel-array invariant of Match; the PE model is C12)"⟩,
    ⟨"range:presentationDefinition.SubmissionRequirements", .sampled "pe.match+validate (parallel-array invariant of Match; the PE model is C12)"⟩,
    ⟨"label:outer", .sampled "pe.match+validate (parallel-array invariant of Match; the PE model is C12)"⟩,
    ⟨"range:uniqueVCs", .sampled "pe.match+validate (parallel-array invariant of Match; the PE model is C12)"⟩,
    ⟨"range:candidates", .sampled "pe.match+validate (parallel-array invariant of Match; the PE model is C12)"⟩,
    ⟨"nilcheck:candidate.VC != nil", .sampled "pe.match+validate (parallel-array invariant of Match; the PE model is C12)"⟩,
    ⟨"deref:*candidate.VC", .sampled "pe.match+validate (parallel-array invariant of Match; the PE model is C12)"⟩,
    ⟨"branch:continue outer", .sampled "pe.match+validate (parallel-array invariant of Match; the PE model is C12)"⟩]),
  ("vcr/pe/presentation_submission.go:PresentationSubmission.Validate", [
    ⟨"lencheck:len(envelope.Presentations) == 0", .sampled "pe.match+validate"⟩,
    ⟨"range:envelope.Presentations", .sampled "pe.match+validate"⟩,
    ⟨"deref:*signer", .sampled "pe.match+validate"⟩,
    ⟨"range:signInstruction.Mappings", .sampled "pe.match+validate"⟩,
    ⟨"indexw:expectedCredentials[mapping.Id]", .sampled "pe.match+validate"⟩,
    ⟨"index:signInstruction.VerifiableCredentials[i]", .sampled "pe.match+validate"⟩,
    ⟨"lencheck:len(actualCredentials) != len(expectedCredentials)", .sampled "pe.match+validate"⟩,
    ⟨"range:expectedCredentials", .sampled "pe.match+validate"⟩,
    ⟨"index:actualCredentials[inputDescriptorID]", .sampled "pe.match+validate"⟩]),
  ("vcr/pe/presentation_submission.go:PresentationSubmission.Resolve", [
    ⟨"range:s.DescriptorMap", .sampled "pe.match+validate"⟩,
    ⟨"index:result[inputDescriptor.Id]", .sampled "pe.match+validate"⟩,
    ⟨"indexw:result[inputDescriptor.Id]", .sampled "pe.match+validate"⟩,
    ⟨"deref:*resolvedCredential", .sampled "pe.match+validate"⟩]),
  ("vcr/pe/presentation_submission.go:PresentationSubmissionBuilder.Build", [
    ⟨"range:b.wallets", .sampled "pe.match+validate"⟩,
    ⟨"index:b.holders[i]", .sampled "pe.match+validate"⟩,
    ⟨"index:b.holders[i]", .sampled "pe.match+validate"⟩,
    ⟨"nilcheck:selectedDID == nil", .sampled "pe.match+validate"⟩,
    ⟨"index:b.holders[0]", .sampled "pe.match+validate"⟩,
    ⟨"deref:*selectedDID", .sampled "pe.match+validate"⟩,
    ⟨"lencheck:len(signInstruction.Mappings) == 1", .sampled "pe.match+validate"⟩,
    ⟨"index:signInstruction.Mappings[0]", .sampled "pe.match+validate"⟩]),
  ("discovery/module.go:Module.Search", [
    ⟨"index:m.allDefinitions[serviceID]", .sampled "pe.match+validate (the indexing loop of Search is replayed on Match results; the discovery model is C16)"⟩,
    ⟨"range:matchingVPs", .sampled "pe.match+validate (the indexing loop of Search is replayed on Match results; the discovery model is C16)"⟩,
    ⟨"for:i < len(inputDescriptorMappingObjects)", .sampled "pe.match+validate (the indexing loop of Search is replayed on Match results; the discovery model is C16)"⟩,
    ⟨"index:inputDescriptorMappingObjects[i]", .sampled "pe.match+validate (the indexing loop of Search is replayed on Match results; the discovery model is C16)"⟩,
    ⟨"indexw:credentialMap[inputDescriptorMappingObjects[i].Id]", .sampled "pe.match+validate (the indexing loop of Search is replayed on Match results; the discovery model is C16)"⟩,
    ⟨"index:submissionVCs[i]", .sampled "pe.match+validate (the indexing loop of Search is replayed on Match results; the discovery model is C16)"⟩]),
  ("discovery/module.go:Module.Register", [
    ⟨"index:m.serverDefinitions[serviceID]", .sampled "discovery.Register (definitions with optional members absent × registration/retraction presentations with undeterminable signer, missing id/claims)"⟩,
    ⟨"index:m.allDefinitions[serviceID]", .sampled "discovery.Register (definitions with optional members absent × registration/retraction presentations with undeterminable signer, missing id/claims)"⟩,
    ⟨"index:m.allDefinitions[serviceID]", .sampled "discovery.Register (definitions with optional members absent × registration/retraction presentations with undeterminable signer, missing id/claims)"⟩,
    ⟨"deref:*record", .sampled "discovery.Register (definitions with optional members absent × registration/retraction presentations with undeterminable signer, missing id/claims)"⟩,
    ⟨"rec:m.httpClient.Register", .sampled "discovery.Register (definitions with optional members absent × registration/retraction presentations with undeterminable signer, missing id/claims)"⟩]),
  ("discovery/module.go:Module.verifyRegistration", [
    ⟨"nilcheck:presentation.ID == nil", .sampled "discovery.Register (definitions with optional members absent × registration/retraction presentations with undeterminable signer, missing id/claims)"⟩,
    ⟨"lencheck:len(definition.DIDMethods) > 0", .sampled "discovery.Register (definitions with optional members absent × registration/retraction presentations with undeterminable signer, missing id/claims)"⟩]),
  ("discovery/module.go:Module.validateRegistration", [
    ⟨"range:presentation.VerifiableCredential", .sampled "discovery.Register (definitions with optional members absent × registration/retraction presentations with undeterminable signer, missing id/claims)"⟩,
    ⟨"nilcheck:cred.ID == nil", .sampled "discovery.Register (definitions with optional members absent × registration/retraction presentations with undeterminable signer, missing id/claims)"⟩,
    ⟨"range:presentation.VerifiableCredential", .sampled "discovery.Register (definitions with optional members absent × registration/retraction presentations with undeterminable signer, missing id/claims)"⟩,
    ⟨"nilcheck:cred.ExpirationDate != nil", .sampled "discovery.Register (definitions with optional members absent × registration/retraction presentations with undeterminable signer, missing id/claims)"⟩,
    ⟨"deref:*cred.ExpirationDate", .sampled "discovery.Register (definitions with optional members absent × registration/retraction presentations with undeterminable signer, missing id/claims)"⟩,
    ⟨"range:presentation.VerifiableCredential", .sampled "discovery.Register (definitions with optional members absent × registration/retraction presentations with undeterminable signer, missing id/claims)"⟩]),
  ("discovery/module.go:Module.validateRetraction", [
    ⟨"lencheck:len(presentation.VerifiableCredential) > 0", .sampled "discovery.Register (definitions with optional members absent × registration/retraction presentations with undeterminable signer, missing id/claims)"⟩,
    ⟨"discard:presentation.JWT().Get(\"retract_jti\")", .sampled "discovery.Register (definitions with optional members absent × registration/retraction presentations with undeterminable signer, missing id/claims)"⟩,
    ⟨"assertok:retractJTIRaw.(string)", .sampled "discovery.Register (definitions with optional members absent × registration/retraction presentations with undeterminable signer, missing id/claims)"⟩,
    ⟨"discard:credential.PresentationSigner(presentation)", .sampled "discovery.Register (definitions with optional members absent × registration/retraction presentations with undeterminable signer, missing id/claims)"⟩]),
  ("discovery/client.go:clientUpdater.updateService", [
    ⟨"range:presentations", .sampled "discovery.client.updateService (lists a remote Discovery Server returns)"⟩,
    ⟨"nilcheck:presentation.ID == nil", .sampled "discovery.client.updateService (lists a remote Discovery Server returns)"⟩,
    ⟨"deref:*record", .sampled "discovery.client.updateService (lists a remote Discovery Server returns)"⟩]),
  ("discovery/store.go:storePresentation", [
    ⟨"range:presentation.VerifiableCredential", .sampled "discovery.client.updateService / discovery.Register"⟩,
    ⟨"nilcheck:verifiableCredential.ID == nil", .sampled "discovery.client.updateService / discovery.Register"⟩]),
  ("http/client/client.go:StrictHTTPClient.WithRedirectCheck", [
    ⟨"deref:*s.client", .sampled "httpclient.fetch (stalling servers × every constructor and its WithRedirectCheck copy)"⟩]),
  ("http/client/client.go:StrictHTTPClient.Do", [
    ⟨"nilcheck:result.Body != nil", .sampled "httpclient.fetch (stalling servers × every constructor and its WithRedirectCheck copy)"⟩,
    ⟨"rec:s.client.Do", .sampled "httpclient.fetch (stalling servers × every constructor and its WithRedirectCheck copy)"⟩]),
  ("vcr/revocation/statuslist2021_verifier.go:StatusList2021.Verify", [
    ⟨"nilcheck:credentialToVerify.CredentialStatus == nil", .total "no status, nothing to verify"⟩,
    ⟨"range:statuses", .total "bounded loop (model: verifyEntries)"⟩]),
  ("vcr/revocation/statuslist2021_verifier.go:StatusList2021.statusList", [
    ⟨"nilcheck:cr.Expires != nil", .total "guard of *cr.Expires"⟩,
    ⟨"deref:*cr.Expires", .total "under cr.Expires != nil in the same condition"⟩,
    ⟨"nilcheck:cr.Expires != nil", .total "guard of *cr.Expires"⟩,
    ⟨"deref:*cr.Expires", .total "under cr.Expires != nil in the same condition"⟩]),
  ("vcr/revocation/statuslist2021_verifier.go:StatusList2021.update", [
    ⟨"deref:*cred", .total "download returns a non-nil credential when it returns no error"⟩,
    ⟨"nilcheck:cred.ExpirationDate != nil", .total "GUARD of cred.ExpirationDate.IsZero() (Cfg.expirationNilGuard); without it: site update:cred.ExpirationDate.IsZero()(nil)"⟩]),
  ("vcr/revocation/statuslist2021_verifier.go:StatusList2021.download", [
    ⟨"defer:<*ast.FuncLit>", .sampled "revocation.Verify / revocation.statusListCredential"⟩]),
  ("vcr/revocation/statuslist2021_verifier.go:StatusList2021.verify", []),
  ("vcr/revocation/statuslist2021_verifier.go:StatusList2021.validate", [
    ⟨"lencheck:len(cred.Type) > 2", .total "error: other types"⟩,
    ⟨"nilcheck:cred.ID == nil", .total "error: id required"⟩,
    ⟨"nilcheck:cred.Proof == nil", .total "error: proof required"⟩,
    ⟨"nilcheck:cred.CredentialStatus != nil", .total "error: status list credential with a status"⟩,
    ⟨"lencheck:len(target) != 1", .total "GUARD of target[0] (Cfg.singleSubjectGuard)"⟩,
    ⟨"index:target[0]", .site "validate:target[0]"⟩]),
  ("vcr/revocation/bitstring.go:bitstring.Scan", [
    ⟨"nilcheck:value == nil", .sampled "revocation.bitstring.Scan / revocation.statusListCredential"⟩,
    ⟨"deref:*bs", .sampled "revocation.bitstring.Scan / revocation.statusListCredential"⟩,
    ⟨"deref:*bs", .sampled "revocation.bitstring.Scan / revocation.statusListCredential"⟩]),
  ("vcr/revocation/bitstring.go:expand", []),
  ("vdr/didkey/resolver.go:Resolver.Resolve", [
    ⟨"lencheck:len(encodedKey) == 0", .total "GUARD of encodedKey[0] (DidKey.Cfg.emptyGuard)"⟩,
    ⟨"index:encodedKey[0]", .site "Resolve:encodedKey[0]"⟩,
    ⟨"slice:encodedKey[1:]", .total "encodedKey has at least one character here"⟩,
    ⟨"discard:io.ReadAll(reader)", .total "reading from a bytes.Reader does not fail"⟩,
    ⟨"lencheck:keyLength != 32", .total "exact length of X25519 / Ed25519 keys (model: DidKey.codecCheck keyLength != 32); a longer key would be handed to crypto/ed25519, which panics on it"⟩,
    ⟨"lencheck:keyLength != 32", .total "exact length of X25519 / Ed25519 keys (model: DidKey.codecCheck keyLength != 32); a longer key would be handed to crypto/ed25519, which panics on it"⟩,
    ⟨"discard:unmarshalEC(elliptic.P521(), -1, mcBytes)", .total "expectedLen -1: unmarshalEC cannot return an error; invalid points give nil coordinates, which NewVerificationMethod rejects (data vmOk)"⟩]),
  ("vdr/didkey/resolver.go:unmarshalEC", [
    ⟨"lencheck:expectedLen != -1", .total "P-521 is decoded without a length check"⟩,
    ⟨"lencheck:len(pubKeyBytes) != expectedLen", .total "length error (model: keyLength tests)"⟩]),
  ("vdr/didjwk/resolver.go:Resolver.Resolve", [
    ⟨"nilcheck:rawPrivateKey != nil", .sampled "didjwk.Resolve"⟩,
    ⟨"assertok:publicRawKey.(*ecdsa.PublicKey)", .sampled "didjwk.Resolve"⟩,
    ⟨"nilcheck:ecKey.X == nil", .sampled "didjwk.Resolve"⟩,
    ⟨"nilcheck:ecKey.Y == nil", .sampled "didjwk.Resolve"⟩]),
  ("vdr/didweb/web.go:Resolver.Resolve", [
    ⟨"lencheck:len(baseURL.Path) == 0", .total "test (model: DidWeb.requestPath)"⟩,
    ⟨"guardcall:resolver.RejectNullKeyEntries", .total "guard of document.UnmarshalJSON (Cfg.nullGuard); without it: site Resolve>did.Document.UnmarshalJSON (go-did dereferences null key entries)"⟩]),
  ("vcr/credential/util.go:ResolveSubjectDID", [
    ⟨"range:credentials", .total "bounded loop (model: Cred.resolveLoop)"⟩,
    ⟨"deref:*sid", .site "ResolveSubjectDID:*sid"⟩,
    ⟨"deref:*sid", .site "ResolveSubjectDID:*sid"⟩]),
  ("vcr/credential/util.go:PresenterIsCredentialSubject", [
    ⟨"deref:*signerDID", .total "after err == nil of PresentationSigner, which returns a non-nil DID on every ok path (model: Cred.presentationSigner)"⟩]),
  ("vcr/credential/util.go:PresentationIssuanceDate", []),
  ("vcr/credential/util.go:PresentationExpirationDate", [
    ⟨"nilcheck:ldProof.Expires == nil", .total "GUARD of *ldProof.Expires (CredMore.Cfg.expiresNilChecked)"⟩,
    ⟨"deref:*ldProof.Expires", .site "PresentationExpirationDate:*ldProof.Expires"⟩]),
  ("vcr/credential/util.go:AutoCorrectSelfAttestedCredential", [
    ⟨"lencheck:len(credential.Proof) > 0", .total "test: signed credentials are returned untouched (model: CredMore.autoCorrect)"⟩,
    ⟨"nilcheck:credential.ID == nil", .total "test (ACIn.idNil)"⟩,
    ⟨"discard:ssi.ParseURI(uuid.NewString())", .total "own input: a fresh UUID always parses"⟩,
    ⟨"lencheck:len(credentialSubject) == 1", .total "GUARD of credentialSubject[0] (CredMore.Cfg.subjLenExact)"⟩,
    ⟨"nilcheck:credentialSubject[0] == nil", .total "GUARD of the write into credentialSubject[0] (CredMore.Cfg.nilMapGuard): the discarded unmarshal error leaves a nil map for a scalar subject"⟩,
    ⟨"index:credentialSubject[0]", .site "AutoCorrectSelfAttestedCredential:credentialSubject[0]"⟩,
    ⟨"indexw:credentialSubject[0]", .total "same index, under the length guard"⟩,
    ⟨"index:credentialSubject[0]", .total "same index, under the length guard"⟩,
    ⟨"index:credentialSubject[0][\"id\"]", .total "map read (nil map reads are total in Go)"⟩,
    ⟨"index:credentialSubject[0]", .total "same index, under the length guard"⟩,
    ⟨"indexw:credentialSubject[0][\"id\"]", .site "AutoCorrectSelfAttestedCredential:credentialSubject[0][id]=nil-map"⟩,
    ⟨"indexw:credential.CredentialSubject[0]", .site "AutoCorrectSelfAttestedCredential:credential.CredentialSubject[0]"⟩,
    ⟨"index:credentialSubject[0]", .total "same index, under the length guard"⟩]),
  ("vcr/credential/util.go:FilterOnDIDMethod", [
    ⟨"lencheck:len(didMethods) == 0", .total "test: no methods given = no filtering (CredMore.Cfg.emptyMethodsPass)"⟩,
    ⟨"label:outer", .total "label of the credential loop"⟩,
    ⟨"range:credentials", .total "bounded loop (model: CredMore.filterFrom)"⟩,
    ⟨"range:bl", .total "bounded loop (model: CredMore.subjectsPass)"⟩,
    ⟨"branch:continue outer", .total "skips the credential (model: subjectsPass = false)"⟩]),
  ("vcr/credential/resolver.go:PresentationSigner", []),
  ("vcr/credential/resolver.go:ParseLDProof", [
    ⟨"lencheck:len(proofs) != 1", .total "guard of proofs[0] (Cfg.proofCountExact)"⟩,
    ⟨"index:proofs[0]", .site "ParseLDProof:proofs[0]"⟩]),
  ("vcr/credential/validator.go:validateNutsCredentialID", [
    ⟨"nilcheck:credential.ID == nil", .sampled "credential.vc"⟩]),
  ("vcr/verifier/verifier.go:verifier.Verify", [
    ⟨"lencheck:len(credentialToVerify.Type) > 2", .sampled "verifier.Verify / verifier.VerifyVP"⟩,
    ⟨"nilcheck:credentialToVerify.ID != nil", .sampled "verifier.Verify / verifier.VerifyVP"⟩,
    ⟨"deref:*credentialToVerify.ID", .sampled "verifier.Verify / verifier.VerifyVP"⟩,
    ⟨"discard:json.Marshal(credentialToVerify)", .sampled "verifier.Verify / verifier.VerifyVP"⟩,
    ⟨"range:credentialToVerify.Type", .sampled "verifier.Verify / verifier.VerifyVP"⟩,
    ⟨"nilcheck:validAt != nil", .sampled "verifier.Verify / verifier.VerifyVP"⟩,
    ⟨"deref:*validAt", .sampled "verifier.Verify / verifier.VerifyVP"⟩,
    ⟨"deref:*issuerDID", .sampled "verifier.Verify / verifier.VerifyVP"⟩,
    ⟨"rec:v.credentialStatus.Verify", .sampled "verifier.Verify / verifier.VerifyVP"⟩]),
  ("vcr/verifier/verifier.go:verifier.doVerifyVP", [
    ⟨"nilcheck:subjectDID == nil", .sampled "verifier.Verify / verifier.VerifyVP"⟩,
    ⟨"lencheck:len(presentation.VerifiableCredential) > 0", .sampled "verifier.Verify / verifier.VerifyVP"⟩,
    ⟨"nilcheck:subjectDID != nil", .sampled "verifier.Verify / verifier.VerifyVP"⟩,
    ⟨"nilcheck:presentation.Holder != nil", .sampled "verifier.Verify / verifier.VerifyVP"⟩,
    ⟨"range:presentation.VerifiableCredential", .sampled "verifier.Verify / verifier.VerifyVP"⟩,
    ⟨"nilcheck:presentation.Holder != nil", .sampled "verifier.Verify / verifier.VerifyVP"⟩]),
  ("crypto/jwx.go:JWTKidAlg", [
    ⟨"lencheck:len(j.Signatures()) != 1", .total "guard of j.Signatures()[0] (Jwx.Cfg.kidAlgSigGuard)"⟩,
    ⟨"index:j.Signatures()[0]", .site "JWTKidAlg:j.Signatures()[0]"⟩]),
  ("crypto/jwx.go:ParseJWT", []),
  ("crypto/jwx.go:ParseJWS", [
    ⟨"lencheck:len(signatures) != 1", .total "guard of signatures[0] (Jwx.Cfg.jwsSigGuard)"⟩,
    ⟨"index:signatures[0]", .site "ParseJWS:signatures[0]"⟩]),
  ("jsonld/ldutils.go:LDUtil.Canonicalize", [
    ⟨"defer:recoverProcessorPanic", .total "GUARD of the json-gold processor (JsonLd.Cfg.canonicalize, derived from Facts.jsonldProcessorCallers / jsonldRecoverers); without a DIRECT recover: site Canonicalize>ld"⟩,
    ⟨"discard:json.Marshal(input)", .total "a marshal error leaves nil bytes: json.Unmarshal then fails (In.jsonOk = false)"⟩]),
  ("vdr/didnuts/validators.go:verificationMethodValidator.Validate", [
    ⟨"range:document.VerificationMethod", .sampled "didnuts.validate+findKeyByThumbprint"⟩]),
  ("vdr/didnuts/validators.go:verificationMethodValidator.verifyThumbprint", [
    ⟨"nilcheck:keyAsJWK == nil", .sampled "didnuts.validate+findKeyByThumbprint"⟩,
    ⟨"guardcall:checkPublicKey", .sampled "didnuts.validate+findKeyByThumbprint"⟩]),
  ("vdr/didnuts/ambassador.go:ambassador.findKeyByThumbprint", [
    ⟨"range:didDocumentAuthKeys", .sampled "didnuts.accepted-doc-then-findKeyByThumbprint"⟩,
    ⟨"nilcheck:key.VerificationMethod == nil", .sampled "didnuts.accepted-doc-then-findKeyByThumbprint"⟩,
    ⟨"nilcheck:keyAsJWK == nil", .sampled "didnuts.accepted-doc-then-findKeyByThumbprint"⟩,
    ⟨"guardcall:checkPublicKey", .sampled "didnuts.accepted-doc-then-findKeyByThumbprint"⟩]),
  ("vdr/didnuts/ambassador.go:ambassador.callback", [
    ⟨"guardcall:resolver.RejectNullKeyEntries", .sampled "didnuts.validate+findKeyByThumbprint (guard + unmarshal + validator as in callback)"⟩]),
  ("vdr/didnuts/validators.go:nilEntryValidator.Validate", [
    ⟨"range:document.VerificationMethod", .sampled "didnuts.validate+findKeyByThumbprint"⟩,
    ⟨"nilcheck:method == nil", .sampled "didnuts.validate+findKeyByThumbprint"⟩,
    ⟨"range:[]did.VerificationRelationships{}", .sampled "didnuts.validate+findKeyByThumbprint"⟩,
    ⟨"range:relationships", .sampled "didnuts.validate+findKeyByThumbprint"⟩,
    ⟨"nilcheck:relationship.VerificationMethod == nil", .sampled "didnuts.validate+findKeyByThumbprint"⟩]),
  ("vdr/didnuts/validators.go:NetworkDocumentValidator", [
    ⟨"lit:nilEntryValidator{}", .sampled "didnuts.validate+findKeyByThumbprint"⟩,
    ⟨"lit:did.W3CSpecValidator{}", .sampled "didnuts.validate+findKeyByThumbprint"⟩,
    ⟨"lit:verificationMethodValidator{}", .sampled "didnuts.validate+findKeyByThumbprint"⟩,
    ⟨"lit:basicServiceValidator{}", .sampled "didnuts.validate+findKeyByThumbprint"⟩]),
  ("vdr/resolver/nullentries.go:RejectNullKeyEntries", [
    ⟨"for:decoder.More()", .sampled "didweb.Resolve / didnuts.validate+findKeyByThumbprint"⟩,
    ⟨"assertok:nameToken.(string)", .sampled "didweb.Resolve / didnuts.validate+findKeyByThumbprint"⟩,
    ⟨"range:entries", .sampled "didweb.Resolve / didnuts.validate+findKeyByThumbprint"⟩]),
  ("network/transport/v2/handlers.go:protocol.Handle", [
    ⟨"assert:raw.(*Envelope)", .sampled "v2.Handle"⟩,
    ⟨"range:allowedErrors", .sampled "v2.Handle"⟩]),
  ("network/transport/v2/handlers.go:protocol.handle", [
    ⟨"deref:*Envelope_Gossip", .sampled "v2.Handle"⟩,
    ⟨"deref:*Envelope_TransactionList", .sampled "v2.Handle"⟩,
    ⟨"select:", .sampled "v2.Handle"⟩,
    ⟨"send:p.listHandler.ch", .sampled "v2.Handle"⟩,
    ⟨"deref:*Envelope_TransactionListQuery", .sampled "v2.Handle"⟩,
    ⟨"deref:*Envelope_TransactionPayloadQuery", .sampled "v2.Handle"⟩,
    ⟨"deref:*Envelope_TransactionPayload", .sampled "v2.Handle"⟩,
    ⟨"deref:*Envelope_TransactionRangeQuery", .sampled "v2.Handle"⟩,
    ⟨"deref:*Envelope_State", .sampled "v2.Handle"⟩,
    ⟨"deref:*Envelope_TransactionSet", .sampled "v2.Handle"⟩,
    ⟨"deref:*Envelope_DiagnosticsBroadcast", .sampled "v2.Handle"⟩]),
  ("network/transport/v2/handlers.go:protocol.handleTransactionPayload", [
    ⟨"lencheck:len(msg.Data) == 0", .sampled "v2.Handle"⟩,
    ⟨"nilcheck:p.privatePayloadReceiver == nil", .sampled "v2.Handle"⟩]),
  ("network/transport/v2/handlers.go:protocol.handleTransactionPayloadQuery", [
    ⟨"lencheck:len(tx.PAL()) > 0", .sampled "v2.Handle"⟩,
    ⟨"nilcheck:pal == nil", .sampled "v2.Handle"⟩]),
  ("network/transport/v2/handlers.go:protocol.handleTransactionRangeQuery", []),
  ("network/transport/v2/handlers.go:protocol.handleGossip", [
    ⟨"range:msg.Transactions", .sampled "v2.Handle"⟩,
    ⟨"indexw:refs[i]", .sampled "v2.Handle"⟩,
    ⟨"lencheck:len(refs) > 0", .sampled "v2.Handle"⟩,
    ⟨"range:refs", .sampled "v2.Handle"⟩,
    ⟨"indexw:refs[i]", .sampled "v2.Handle"⟩,
    ⟨"slice:refs[:i]", .sampled "v2.Handle"⟩,
    ⟨"lencheck:len(refs) > 0", .sampled "v2.Handle"⟩,
    ⟨"lencheck:len(refs) == 0", .sampled "v2.Handle"⟩]),
  ("network/transport/v2/handlers.go:protocol.handleTransactionListQuery", [
    ⟨"range:msg.Refs", .sampled "v2.Handle"⟩,
    ⟨"indexw:requestedRefs[i]", .sampled "v2.Handle"⟩,
    ⟨"lencheck:len(requestedRefs) == 0", .sampled "v2.Handle"⟩,
    ⟨"range:requestedRefs", .sampled "v2.Handle"⟩,
    ⟨"nilcheck:ctx.Err() != nil", .sampled "v2.Handle"⟩,
    ⟨"index:unsorted[i]", .sampled "v2.Handle"⟩,
    ⟨"index:unsorted[j]", .sampled "v2.Handle"⟩]),
  ("network/transport/v2/handlers.go:protocol.handleState", [
    ⟨"discard:p.state.IBLT(msg.LC)", .sampled "v2.Handle"⟩]),
  ("network/transport/v2/handlers.go:protocol.handleTransactionSet", [
    ⟨"assert:envelope.Message.(*Envelope_TransactionSet)", .sampled "v2.Handle"⟩,
    ⟨"discard:p.state.IBLT(minLC)", .sampled "v2.Handle"⟩,
    ⟨"discard:p.state.XOR(dag.MaxLamportClock)", .sampled "v2.Handle"⟩,
    ⟨"lencheck:len(missing) > 0", .sampled "v2.Handle"⟩]),
  ("vdr/didweb/util.go:DIDToURL", [
    ⟨"slice:id.ID[:subpathIdx]", .total "under subpathIdx != -1, subpathIdx = strings.Index(id.ID, \":\") <= len (model: DidWeb.splitColon)"⟩,
    ⟨"slice:id.ID[subpathIdx:]", .total "under subpathIdx != -1, subpathIdx = strings.Index(id.ID, \":\") <= len (model: DidWeb.splitColon)"⟩,
    ⟨"nilcheck:parsedIP != nil", .total "test of the result of net.ParseIP"⟩]),
  ("vdr/didweb/util.go:percentDecodeString", [
    ⟨"for:i < len(s)", .total "i strictly increases (i++ and i += 2): model recursion on the remaining bytes (didweb_percent_decode_length)"⟩,
    ⟨"lencheck:i + 2 < len(s)", .total "guard of the slice (Cfg.sliceGuard = some 2); weaker or absent: site percentDecodeString:s[i:i+3]"⟩,
    ⟨"index:s[i]", .total "under the loop condition i < len(s)"⟩,
    ⟨"slice:s[i:i + 3]", .site "percentDecodeString:s[i:i+3]"⟩,
    ⟨"index:s[i]", .total "under the loop condition i < len(s)"⟩]),
  ("vdr/didweb/util.go:percentDecodeChar", [
    ⟨"lencheck:len(encoded) != 3", .total "guard of the three index expressions (Cfg.charLenGuard)"⟩,
    ⟨"index:encoded[0]", .site "percentDecodeChar:encoded[0]"⟩,
    ⟨"index:encoded[1]", .site "percentDecodeChar:encoded[1]"⟩,
    ⟨"index:encoded[2]", .site "percentDecodeChar:encoded[2]"⟩]),
  ("vdr/didweb/util.go:isHex", []),
  ("vdr/didweb/util.go:unhex", []),
  ("http/client/caching.go:responseCache.insert", [
    ⟨"lencheck:len(entry.responseData) > h.maxBytes", .total "sanity check (model: HttpCache.insert)"⟩,
    ⟨"defer:h.mux.Unlock", .total "the mutex is released on every return; a loop that does not terminate keeps it for ever"⟩,
    ⟨"for:h.head != nil && h.currentSizeBytes + len(entry.responseData) > h.maxBytes", .total "every iteration pops one entry off a non-empty expiry list: measure = its length (httpcache_make_room_terminates); without `h.head != nil` the loop spins on an empty list (httpcache_unguarded_loop_spins)"⟩,
    ⟨"nilcheck:h.head == nil", .total "test"⟩,
    ⟨"for:current.next != nil && current.next.expirationTime.Before(entry.expirationTime)", .total "walks the acyclic expiry list (model: structural recursion insertAfterHead)"⟩,
    ⟨"indexw:h.entriesByURL[entry.requestURL.String()]", .total "entriesByURL is made by newCache, never nil"⟩,
    ⟨"index:h.entriesByURL[entry.requestURL.String()]", .total "map read"⟩]),
  ("http/client/caching.go:responseCache.pop", [
    ⟨"nilcheck:h.head == nil", .total "guard of h.head.requestURL: pop on an empty list changes nothing (model: HttpCache.pop)"⟩,
    ⟨"index:h.entriesByURL[requestURL]", .total "map read"⟩,
    ⟨"range:entries", .total "bounded loop"⟩,
    ⟨"indexw:h.entriesByURL[requestURL]", .total "entriesByURL is made by newCache, never nil"⟩,
    ⟨"slice:entries[:i]", .total "i ranges over entries"⟩,
    ⟨"slice:entries[i + 1:]", .total "i ranges over entries: i+1 <= len"⟩,
    ⟨"lencheck:len(h.entriesByURL[requestURL]) == 0", .total "test"⟩,
    ⟨"index:h.entriesByURL[requestURL]", .total "map read"⟩]),
  ("http/client/caching.go:responseCache.removeExpiredEntries", [
    ⟨"for:current != nil", .total "every iteration pops the head or breaks (model: structural recursion removeExpired)"⟩]),
  ("http/client/caching.go:responseCache.get", [
    ⟨"defer:h.mux.Unlock", .total "released on return"⟩,
    ⟨"index:h.entriesByURL[httpRequest.URL.String()]", .total "map read"⟩,
    ⟨"range:entries", .total "bounded loop"⟩]),
  ("http/client/caching.go:CachingRoundTripper.RoundTrip", [
    ⟨"nilcheck:response != nil", .total "test"⟩,
    ⟨"rec:r.wrappedTransport.RoundTrip", .total "not a self call: the wrapped transport (same method name)"⟩]),
  ("http/client/caching.go:CachingRoundTripper.cacheResponse", [
    ⟨"lencheck:len(reasons) > 0", .total "test"⟩])]

def expectedOps : List (String × List String) := expected.map fun p => (p.1, p.2.map (·.go))

/-- the panic sites the expected inventory refers to -/
def expectedSites : List String :=
  (expected.flatMap fun p => p.2.filterMap fun e => match e.disp with | .site n => some n | _ => none).eraseDups

/-! ### model configurations as the source stands today -/

def dpopCfg : Dpop.Cfg :=
  { htuChecked := !has "crypto/dpop/dpop.go:DPoP.HTU" "assert:v.(string)"
    htmChecked := !has "crypto/dpop/dpop.go:DPoP.HTM" "assert:v.(string)"
    parseTypeChecks := count "crypto/dpop/dpop.go:Parse" "assertok:v.(string)" == 2
    stripChecksErr := !has "crypto/dpop/dpop.go:strip" "discard:url.Parse(raw)" }

def resolverCfg : Resolver.Cfg :=
  { baseChecked := !has "vdr/resolver/key.go:DIDKeyResolver.baseUrl" "assert:val.(string)"
    nilVMChecked := has "vdr/resolver/key.go:DIDKeyResolver.ResolveKeyByID" "nilcheck:rel.VerificationMethod == nil"
      && has "vdr/resolver/key.go:DIDKeyResolver.ResolveKey" "nilcheck:key.VerificationMethod == nil" }

def callbackCfg : Callback.Cfg :=
  { assertChecked := !has "auth/api/iam/openid4vp.go:withCallbackURI" "assert:err.(oauth.OAuth2Error)"
    envelopeGuard := has "auth/api/iam/openid4vp.go:Wrapper.handleAuthorizeResponseSubmission" "lencheck:len(pexEnvelope.Presentations) == 0" }

def statusListCfg : StatusList.Cfg :=
  { singleSubjectGuard := has "vcr/revocation/statuslist2021_verifier.go:StatusList2021.validate" "lencheck:len(target) != 1"
    expirationNilGuard := has "vcr/revocation/statuslist2021_verifier.go:StatusList2021.update" "nilcheck:cred.ExpirationDate != nil" }

def didKeyCfg : DidKey.Cfg :=
  { emptyGuard := has "vdr/didkey/resolver.go:Resolver.Resolve" "lencheck:len(encodedKey) == 0" }

/-- the guard in front of `s[i : i+3]` as the source spells it today -/
def didWebSliceGuard : Option Nat :=
  match Facts.C19.didwebSliceGuards.head? with
  | some "s[i] == '%' && i + 2 < len(s)" => some 2
  | some "s[i] == '%' && i + 1 < len(s)" => some 1
  | some "s[i] == '%' && i + 3 < len(s)" => some 3
  | some "s[i] == '%' && i < len(s)" => some 0
  | _ => none

def didWebCfg : DidWeb.Cfg :=
  { sliceGuard := didWebSliceGuard
    charLenGuard := has "vdr/didweb/util.go:percentDecodeChar" "lencheck:len(encoded) != 3"
    decodeSet := Facts.C19.didwebDecodeSet
    contentTypes := Facts.C19.didwebContentTypes
    nullGuard := has "vdr/didweb/web.go:Resolver.Resolve" "guardcall:resolver.RejectNullKeyEntries" }

def ambassadorCfg : Ambassador.Cfg :=
  { nullGuard := Facts.C19.didDocUnmarshals.contains
      "vdr/didnuts/ambassador.go:ambassador.callback:json.Unmarshal(payload, &nextDIDDocument):after-RejectNullKeyEntries" }

/-- what is known about every place that unmarshals bytes into a did.Document: `true` = the bytes come from a peer / a remote
    server, the null-entry check MUST precede; `false` = bytes the node (or its operator's CLI) produced itself -/
def docUnmarshalSites : List (String × Bool) := [
  ("storage/orm/did_document.go:DidDocument.ToDIDDocument:json.Unmarshal([]byte(sqlDoc.Raw), &document)", false),
  ("storage/orm/did_document.go:MigrationDocument.ToORMDocument:json.Unmarshal(migration.Raw, doc)", false),
  ("vdr/api/v1/client.go:readDIDDocument:json.Unmarshal(data, &document)", false),
  ("vdr/cmd/cmd.go:updateCmd:json.Unmarshal(bytes, &didDoc)", false),
  ("vdr/didnuts/ambassador.go:ambassador.callback:json.Unmarshal(payload, &nextDIDDocument)", true),
  ("vdr/didnuts/didstore/reader.go:readDocument:json.Unmarshal(documentBytes, &document)", false),
  ("vdr/didweb/web.go:Resolver.Resolve:document.UnmarshalJSON(data)", true)]

def expectedDocUnmarshals : List String :=
  docUnmarshalSites.map fun p => p.1 ++ (if p.2 then ":after-RejectNullKeyEntries" else ":UNGUARDED")

/-- the make-room loop of responseCache.insert as the source spells it today -/
def httpCacheCfg : HttpCache.Cfg :=
  { headGuard := has "http/client/caching.go:responseCache.insert" "for:h.head != nil && h.currentSizeBytes + len(entry.responseData) > h.maxBytes"
      || has "http/client/caching.go:responseCache.insert" "for:h.head != nil && h.currentSizeBytes + len(entry.responseData) >= h.maxBytes"
    strict := has "http/client/caching.go:responseCache.insert" "for:h.head != nil && h.currentSizeBytes + len(entry.responseData) > h.maxBytes"
      || has "http/client/caching.go:responseCache.insert" "for:h.currentSizeBytes + len(entry.responseData) > h.maxBytes" }

def credCfg : Cred.Cfg :=
  { subjectErrChecked := has "vcr/credential/util.go:ResolveSubjectDID" "range:credentials"
      && !has "vcr/credential/util.go:ResolveSubjectDID" "discard:credential.SubjectDID()"
    proofCountExact := has "vcr/credential/resolver.go:ParseLDProof" "lencheck:len(proofs) != 1" }

def credMoreCfg : CredMore.Cfg :=
  { expiresNilChecked := has "vcr/credential/util.go:PresentationExpirationDate" "nilcheck:ldProof.Expires == nil"
    nilMapGuard := has "vcr/credential/util.go:AutoCorrectSelfAttestedCredential" "nilcheck:credentialSubject[0] == nil"
    subjLenExact := has "vcr/credential/util.go:AutoCorrectSelfAttestedCredential" "lencheck:len(credentialSubject) == 1"
    emptyMethodsPass := has "vcr/credential/util.go:FilterOnDIDMethod" "lencheck:len(didMethods) == 0" }

def jsonldGuard (key : String) : JsonLd.Guard :=
  match Facts.C19.jsonldProcessorCallers.find? (fun p => p.1 == key) with
  | some p => JsonLd.guardOf Facts.C19.jsonldRecoverers p.2
  | none => .absent

def jsonldCfg : JsonLd.Cfg :=
  { canonicalize := jsonldGuard "jsonld/ldutils.go:LDUtil.Canonicalize"
    readBytes := jsonldGuard "jsonld/reader.go:Reader.ReadBytes"
    allFieldsDefined := jsonldGuard "jsonld/jsonld.go:AllFieldsDefined"
    noOtherCaller := Facts.C19.jsonldProcessorCallers.map (·.1) ==
      ["jsonld/jsonld.go:AllFieldsDefined", "jsonld/ldutils.go:LDUtil.Canonicalize", "jsonld/reader.go:Reader.ReadBytes"] }

def jwxCfg : Jwx.Cfg :=
  { kidAlgSigGuard := has "crypto/jwx.go:JWTKidAlg" "lencheck:len(j.Signatures()) != 1"
    jwsSigGuard := has "crypto/jwx.go:ParseJWS" "lencheck:len(signatures) != 1" }

def ibltCfg : Iblt.Cfg :=
  { k := Facts.C19.ibltK
    chainBounded := has "network/dag/tree/iblt.go:Iblt.bucketIndices" "for:len(indices) < k && step < ibltMaxChain"
    maxChain := Facts.C19.ibltMaxChain }

end Nuts.C19.Sites
