/-
  C13 — the REQUEST layer of vdr/didsubject/manager.go, on top of the operation model (`Subject.lean`).

  What the callers of `SqlManager` hand in is not an `Op` but a request: `Create(ctx, CreationOptions)` with a LIST of
  options, `AddVerificationMethod(ctx, subject, keyUsage)` with key-usage flags. This file mirrors the code that turns
  such a request into (a) a refusal before anything is written, (b) a refusal INSIDE the first SQL transaction after some
  methods have already generated keys (the transaction is rolled back as a whole), or (c) one operation of `Subject.lean`:

    manager.go  Create            option loop (`switch opt := option.(type)`), `subjectPattern`, the existence check on
                                  the PROVISIONAL name, the generation loop with the key-agreement × did:web refusal,
                                  the final name (v1 naming)
    manager.go  AddVerificationMethod   closure: key-agreement × did:web refusal per DID, after `Latest` of that DID
    manager.go  sortDIDsByMethod / sortDIDDocumentsByMethod   the order in which `ListDIDs`, `List`, `Create` answer

  The character class of `subjectPattern`, the option cases and the refusal guards are REGENERATED from the source
  (`Facts.C13`), the definitions here take them as arguments.
-/
import NutsModel.C13.Subject

namespace Nuts.C13

/-! ### `subjectPattern = ^[…]+$` -/

/-- a character class: inclusive code-point ranges -/
abbrev CharClass := List (Nat × Nat)

def CharClass.has (cls : CharClass) (c : Char) : Bool := cls.any (fun r => r.1 ≤ c.toNat && c.toNat ≤ r.2)

/-- `regexp.MustCompile("^[cls]+$").MatchString(s)` (no flags: `$` is the end of the text, a trailing newline does not match) -/
def matchesPlus (cls : CharClass) (s : String) : Bool := !s.toList.isEmpty && s.toList.all cls.has

/-! ### `Create`: the option loop -/

inductive CreateOpt where
  | subject (s : String)
  | encryptionKey
  | nutsLegacy
  /-- any other option type (`SkipAssertionKeyCreationOption`, …): the `default:` arm -/
  | unknown
  deriving DecidableEq, Repr, Inhabited

structure CreateParams where
  /-- the provisional subject name: a fresh uuid, or the last `SubjectCreationOption` -/
  subject : String
  /-- `keyFlags.Is(orm.KeyAgreementUsage)` -/
  keyAgreement : Bool := false
  legacy : Bool := false
  deriving DecidableEq, Repr

/-- one iteration of `for _, option := range options.All() { switch … }` -/
def applyOpt (cls : CharClass) (p : CreateParams) : CreateOpt → Res CreateParams
  | .subject s => if matchesPlus cls s then .ok { p with subject := s } else .err "validation"
  | .encryptionKey => .ok { p with keyAgreement := true }
  | .nutsLegacy => .ok { p with legacy := true }
  | .unknown => .err "validation"

def applyOpts (cls : CharClass) : List CreateOpt → CreateParams → Res CreateParams
  | [], p => .ok p
  | o :: os, p =>
    match applyOpt cls p o with
    | .ok p' => applyOpts cls os p'
    | r => r

/-- the generation loop inside the first transaction: `for method, manager := range r.MethodManagers` —
    `if keyFlags.Is(orm.KeyAgreementUsage) && method == "web" { return nil, ErrKeyAgreementNotSupported }`, else
    `manager.NewDocument` (generates a key inside the SQL transaction). Returns the number of documents generated. -/
def genLoop (refuseWeb : Bool) (ka : Bool) : List Method → Nat → Res Nat
  | [], n => .ok n
  | m :: ms, n => if refuseWeb && ka && m == .web then .err "keyagreement" else genLoop refuseWeb ka ms (n + 1)

/-- `SqlManager.Create`. `uuid` = the generated default name, `nutsDid` = the did:nuts DID the generation loop comes up
    with, `genOrder` / `order` = the iteration orders of the generation loop and of the Commit loop. -/
def createRequest (cls : CharClass) (refuseWeb : Bool) (cfg : Cfg) (w : World) (opts : List CreateOpt)
    (uuid nutsDid : String) (genOrder order : List Method) (f : Fault) : World × String :=
  match applyOpts cls opts { subject := uuid } with
  | .err e => (w, "err:" ++ e)
  | .panic s => (w, "panic:" ++ s)
  | .ok p =>
    -- first transaction: the existence check looks at the PROVISIONAL name
    if subjectExists w p.subject then (w, "err:exists")
    else
      match genLoop refuseWeb p.keyAgreement genOrder 0 with
      | .err e => (w, "err:" ++ e)          -- the SQL transaction is rolled back, the generated keys with it
      | .panic s => (w, "panic:" ++ s)
      | .ok _ => stepOp cfg w (.create (finalSubject p.legacy genOrder p.subject nutsDid)) order f

/-! ### `AddVerificationMethod`: the per-DID closure -/

/-- `applyToDIDDocuments`' loop over `FindBySubject` up to the first error: `Latest` (record not found), then the closure's
    `if keyUsage.Is(orm.KeyAgreementUsage) && id.Method == "web" { return nil, ErrKeyAgreementNotSupported }` -/
def addKeyCheck (refuseWeb : Bool) (ka : Bool) : List DidRow → Res Unit
  | [] => .ok ()
  | r :: rs =>
    if r.vers.isEmpty then .err "notfound"
    else if refuseWeb && ka && r.method == .web then .err "keyagreement"
    else addKeyCheck refuseWeb ka rs

/-- `SqlManager.AddVerificationMethod(ctx, subject, keyUsage)` -/
def addKeyRequest (refuseWeb : Bool) (cfg : Cfg) (w : World) (s : String) (ka : Bool) (order : List Method) (f : Fault) :
    World × String :=
  let mine := w.dids.filter (fun r => r.subject = s)
  if mine.isEmpty then (w, "err:nosubject")
  else
    match addKeyCheck refuseWeb ka mine with
    | .err e => (w, "err:" ++ e)            -- the SQL transaction is rolled back: also the DIDs visited before
    | .panic p => (w, "panic:" ++ p)
    | .ok _ => stepOp cfg w (.addKey s) order f

/-! ### `transactionHelper`: the clean-up transaction itself fails -/

/-- One operation whose SECOND transaction (delete the change records, or — after a failed Commit — delete the versions)
    fails with a database error: `transactionHelper` returns that error ("give priority to the DB error (critical)"), the
    transaction is rolled back, so versions AND change records stay as the first transaction wrote them; what the Commit
    calls published stays published. `nutsFails`: the did:nuts Commit had failed as well. Without changes (`next == nil`
    for every DID) the clean-up executes no statement and cannot fail. -/
def stepOpCleanupFails (cfg : Cfg) (w : World) (o : Op) (order : List Method) (nutsFails : Bool) : World × String :=
  match tx1 cfg w o with
  | .err e => (w, "err:" ++ e)
  | .panic s => (w, "panic:" ++ s)
  | .ok (w1, chs) =>
    if chs.isEmpty then stepOp cfg w o order .none
    else ({ w1 with pub := (commitLoop (if nutsFails then .failNuts else .none) chs order 0 w1.pub).1 }, "err:db")

/-! ### `FindServices` -/

/-- the services `FindServices` takes from ONE DID: those of its `Latest` document whose type is the requested one.
    `if serviceType != nil && s.Type == *serviceType { append }`: WITHOUT a type nothing is appended (as coded). The
    "seen" map is keyed by the service ID, which starts with the DID: it never hits across DIDs, and within a document
    the join table has every service once (`loadContent`). A service = its label (type `T-<label>`). -/
def servicesOfRow (typ : Option String) (r : DidRow) : List (Nat × String) :=
  match r.vers with
  | v :: _ => ((loadContent v.c).svcs.filter (fun l => typ == some l)).map (fun l => (r.id, l))
  | [] => []

/-- `SqlManager.FindServices(ctx, subject, serviceType)`: (owner DID, service) pairs, in `FindBySubject` order -/
def findServices (w : World) (s : String) (typ : Option String) : Res (List (Nat × String)) :=
  let rows := listDIDs w s
  if rows.isEmpty then .err "nosubject"
  else if rows.any (fun r => r.vers.isEmpty) then .err "notfound"
  else .ok (rows.flatMap (servicesOfRow typ))

/-! ### `sortDIDsByMethod`: the order of `ListDIDs` / `List` / the documents `Create` returns -/

/-- a `did.DID` as the comparator sees it -/
structure DidId where
  method : String
  str : String
  deriving DecidableEq, Repr, Inhabited

/-- `iOrder := -1; for k, v := range methodOrder { if v == m { iOrder = k } }` (the LAST match wins) -/
def methodRankFrom : List String → Nat → String → Int → Int
  | [], _, _, acc => acc
  | v :: vs, k, m, acc => methodRankFrom vs (k + 1) m (if v == m then (k : Int) else acc)

def methodRank (absent : Int) (order : List String) (m : String) : Int := methodRankFrom order 0 m absent

/-- the `less` closure of `sort.Slice` in `sortDIDsByMethod`; `absent` = the value for a method that is not listed (-1) -/
def lessDID (absent : Int) (order : List String) (a b : DidId) : Bool :=
  if a = b then decide (a.str < b.str)
  else
    let i := methodRank absent order a.method
    let j := methodRank absent order b.method
    if i = absent ∧ j = absent then decide (a.method < b.method)
    else decide (i < j)

/-- `sort.Slice` is not stable and its algorithm is unspecified: the model sorts by insertion; for the inputs that occur
    (one DID per method) every sorted permutation is THE SAME list (`list_dids_order_unique`). -/
def sortDIDsByMethod (absent : Int) (order : List String) (l : List DidId) : List DidId := sortBy (lessDID absent order) l

/-- `sortDIDDocumentsByMethod`: sort the IDs, then put at position `i` the FIRST document whose ID is the `i`-th sorted ID
    (a document = its ID and the rest, here a marker) -/
def sortDocsByMethod (absent : Int) (order : List String) (docs : List (DidId × Nat)) : List (DidId × Nat) :=
  (sortDIDsByMethod absent order (docs.map (·.1))).filterMap (fun id => docs.find? (fun d => d.1 = id))

/-- the DIDs of a subject in the order `ListDIDs` answers -/
def didIdOf (r : DidRow) : DidId := { method := r.method.name, str := "did:" ++ r.method.name ++ ":" ++ toString r.id }

end Nuts.C13
