/-
  C13 — the request layer instantiated with what /repo's source says today (regenerated facts). Used by the driver and by
  the `fact_*` obligations in Props/C13Req.lean.
-/
import NutsModel.C13.Request
import NutsModel.Facts.C13

namespace Nuts.C13.Now
open Nuts.C13

/-- the character class of `subjectPattern` as written in manager.go -/
def cls : CharClass := Nuts.Facts.C13.subjectPatternClass

/-- `Create`'s generation loop refuses key agreement on did:web before `NewDocument` -/
def createRefusesWeb : Bool :=
  Nuts.Facts.C13.createKeyAgreementGuards ==
    ["range:r.MethodManagers: keyFlags.Is(orm.KeyAgreementUsage) && method == \"web\" => nil,ErrKeyAgreementNotSupported"]
  && Nuts.Facts.C13.encryptionKeyUsage == "KeyAgreementUsage"

/-- `AddVerificationMethod`'s closure refuses key agreement on a did:web DID -/
def addKeyRefusesWeb : Bool :=
  Nuts.Facts.C13.addKeyKeyAgreementGuards ==
    ["closure: keyUsage.Is(orm.KeyAgreementUsage) && id.Method == \"web\" => nil,ErrKeyAgreementNotSupported"]

/-- the rank `sortDIDsByMethod` gives a method that is not in the preferred order -/
def absent : Int := Nuts.Facts.C13.sortAbsentRank

end Nuts.C13.Now
