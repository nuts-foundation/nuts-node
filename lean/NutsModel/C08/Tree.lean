/-
  C08 — model of network/dag/tree/tree.go (generic over the `Data` held in the nodes).  Core Lean only.

  Modelling decisions (DESIGN.md §5 C08):
  * Go `*node` is `Node`: `nil` (nil pointer), `leaf` (a node whose `left == nil`; such a node never gets a right
    child in tree.go: `getNextNode` returns early for leaves) and `branch`.
  * Go `Data` (interface with in-place mutation + Clone) is a value of an arbitrary type `G` with the operations
    `Ops` (zero = `New()`, add/sub = `Add`/`Subtract`, ins/del = `Insert`/`Delete`, empty = `Empty()`); what the
    proofs need of them is the separate structure `Lawful` (commutative group, insert = add a singleton).
    One proof therefore covers XOR and IBLT.
  * `uint32` clocks are `Nat`. The Go `treeSize *= 2` wraps to 0 at 2^32 (see `reRoot32`/`reRoot_overflow_witness`);
    every statement tying the model to the code assumes clocks `< 2^31`.
  * loops that are not structurally recursive (`for clock >= treeSize`, the descent that creates branches, `Load`'s
    pairing loop, `newBranch`) take fuel; the callers pass fuel that is provably enough (`TInv` gives
    `height < treeSize`), so the fuel-exhausted alternatives are never evaluated on reachable trees.
  * `dirtyLeaves` (map key → *node) is the list of keys; `Updates()` reads the data of those leaves from the tree.
  * marshalling of leaf data to bytes is the identity (contract: MarshalBinary/UnmarshalBinary round-trip; exercised
    by the harness through restart).
-/
import NutsModel.Base

namespace Nuts.C08

/-- the operations of Go's `tree.Data` on values of type `G`, keyed by references of type `R` -/
structure Ops (R G : Type) where
  zero : G
  add : G → G → G
  sub : G → G → G
  ins : G → R → G
  del : G → R → G
  empty : G → Bool

/-- what the proofs use: a commutative group with subtraction, `Insert` adds a singleton -/
structure Lawful {R G : Type} (o : Ops R G) : Prop where
  add_comm : ∀ a b, o.add a b = o.add b a
  add_assoc : ∀ a b c, o.add (o.add a b) c = o.add a (o.add b c)
  add_zero : ∀ a, o.add a o.zero = a
  add_sub : ∀ a b, o.sub (o.add a b) b = a
  ins_eq : ∀ g r, o.ins g r = o.add g (o.ins o.zero r)

inductive Node (G : Type) where
  | nil
  | leaf (split limit : Nat) (data : G)
  | branch (split limit : Nat) (data : G) (left right : Node G)
  deriving Repr, DecidableEq, Inhabited

structure Tree (G : Type) where
  treeSize : Nat
  leafSize : Nat
  root : Node G
  dirty : List Nat := []
  orphaned : List Nat := []
  deriving Repr, DecidableEq

variable {R G : Type}

namespace Node

def isNil : Node G → Bool | nil => true | _ => false

/-- `n.data`; Go dereferences the pointer, so `nil` is never asked on a reachable tree (every use is behind a
    `!= nil` test or on the root, see `TInv`). -/
def data (o : Ops R G) : Node G → G
  | nil => o.zero
  | leaf _ _ d => d
  | branch _ _ d _ _ => d

def limit : Node G → Nat
  | nil => 0
  | leaf _ l _ => l
  | branch _ l _ _ _ => l

def split : Node G → Nat
  | nil => 0
  | leaf s _ _ => s
  | branch s _ _ _ _ => s

/-- the leaves below a node, left to right, as (key = splitLC, data) -/
def leaves : Node G → List (Nat × G)
  | nil => []
  | leaf s _ d => [(s, d)]
  | branch _ _ _ l r => l.leaves ++ r.leaves

/-- `rightmostLeafClock` -/
def rightmost : Node G → Nat
  | nil => 0
  | leaf _ l _ => l - 1
  | branch _ l _ left right =>
    match right with
    | nil => (match left with
              | nil => l - 1
              | _ => left.rightmost)
    | _ => right.rightmost

/-- the loop of `ZeroTo` started at `current = n` with accumulated `data = acc` -/
def zeroTo (o : Ops R G) (clock : Nat) : Node G → G → G × Nat
  | nil, acc => (acc, 0)
  | leaf _ l _, acc => (acc, l - 1)
  | branch s l d left right, acc =>
    if clock < s then
      let acc' := match right with
        | nil => acc
        | _ => o.sub acc (right.data o)
      match left with
      | nil => (acc', (branch s l d left right).rightmost)
      | _ => left.zeroTo o clock acc'
    else
      match right with
      | nil => (acc, (branch s l d left right).rightmost)
      | _ => right.zeroTo o clock acc

/-- `node.rebuild` -/
def rebuild (o : Ops R G) : Node G → Node G
  | nil => nil
  | leaf s l d => leaf s l d
  | branch s l _ left right =>
    let left' := left.rebuild o
    match right with
    | nil => branch s l (left'.data o) left' nil
    | _ =>
      let right' := right.rebuild o
      branch s l (o.add (left'.data o) (right'.data o)) left' right'

end Node

/-- `newBranch(start, stop)`: a string of left nodes down to the first leaf of the range; second component: the keys
    added to `dirtyLeaves`. Fuel: `stop - start` is enough (`newBranch_fuel`). -/
def newBranchF (o : Ops R G) (ls : Nat) : Nat → Nat → Nat → Node G × List Nat
  | 0, start, stop => (.leaf ((stop + start) / 2) stop o.zero, [(stop + start) / 2])
  | fuel + 1, start, stop =>
    let split := (stop + start) / 2
    if stop - start > ls then
      let r := newBranchF o ls fuel start split
      (.branch split stop o.zero r.1 .nil, r.2)
    else (.leaf split stop o.zero, [split])

def newBranch (o : Ops R G) (ls start stop : Nat) : Node G × List Nat :=
  newBranchF o ls (stop - start) start stop

/-- the loop of `updateOrCreatePath` started at `next = n`: apply `f` to the data of every node on the path to the
    leaf holding `clock`, creating missing right branches (`getNextNode`). Second component: keys made dirty. -/
def updateF (o : Ops R G) (ls : Nat) (f : G → G) (clock : Nat) : Nat → Node G → Node G × List Nat
  | 0, n => (n, [])
  | _ + 1, .nil => (.nil, [])
  | _ + 1, .leaf s l d => (.leaf s l (f d), [s])
  | fuel + 1, .branch s l d left right =>
    if clock < s then
      let r := updateF o ls f clock fuel left
      (.branch s l (f d) r.1 right, r.2)
    else
      match right with
      | .nil =>
        let nb := newBranch o ls s l
        let r := updateF o ls f clock fuel nb.1
        (.branch s l (f d) left r.1, nb.2 ++ r.2)
      | _ =>
        let r := updateF o ls f clock fuel right
        (.branch s l (f d) left r.1, r.2)

namespace Tree

/-- `New(prototype, leafSize)` / `resetDefaults` -/
def new (o : Ops R G) (leafSize : Nat) : Tree G :=
  { treeSize := leafSize, leafSize := leafSize, root := .leaf (leafSize / 2) leafSize o.zero,
    dirty := [leafSize / 2], orphaned := [] }

/-- `reRoot` -/
def reRoot (o : Ops R G) (t : Tree G) : Tree G :=
  { t with root := .branch t.treeSize (2 * t.treeSize) (t.root.data o) t.root .nil, treeSize := 2 * t.treeSize }

/-- `for clock >= t.treeSize { t.reRoot() }` -/
def growF (o : Ops R G) (clock : Nat) : Nat → Tree G → Tree G
  | 0, t => t
  | fuel + 1, t => if clock ≥ t.treeSize then growF o clock fuel (reRoot o t) else t

def grow (o : Ops R G) (t : Tree G) (clock : Nat) : Tree G := growF o clock (clock + 1) t

/-- `updateOrCreatePath` -/
def updatePath (o : Ops R G) (t : Tree G) (clock : Nat) (f : G → G) : Tree G :=
  let t1 := grow o t clock
  let r := updateF o t1.leafSize f clock t1.treeSize t1.root
  { t1 with root := r.1, dirty := t1.dirty ++ r.2 }

def insert (o : Ops R G) (t : Tree G) (ref : R) (clock : Nat) : Tree G :=
  updatePath o t clock (fun d => o.ins d ref)

def delete (o : Ops R G) (t : Tree G) (ref : R) (clock : Nat) : Tree G :=
  updatePath o t clock (fun d => o.del d ref)

/-- `Root()` -/
def rootData (o : Ops R G) (t : Tree G) : G := t.root.data o

/-- `ZeroTo(clock)` -/
def zeroTo (o : Ops R G) (t : Tree G) (clock : Nat) : G × Nat :=
  t.root.zeroTo o clock (t.root.data o)

/-- `Updates()` restricted to what the DAG uses: (key, data) of the dirty leaves; `orphaned` is always empty here
    because `DropLeaves` has no caller outside tests (it is modelled apart, in `Drop.lean`, with `persistFull`). -/
def updates (t : Tree G) : List (Nat × G) :=
  t.root.leaves.filter (fun kv => t.dirty.contains kv.1)

def resetUpdates (t : Tree G) : Tree G := { t with dirty := [], orphaned := [] }

end Tree

/-- one level of `Load`'s pairing loop (`halfNode` already doubled) -/
def pairUp (o : Ops R G) (half : Nat) : List (Node G) → List (Node G)
  | [] => []
  | [x] => [.branch x.limit (x.limit + half) (x.data o) x .nil]
  | x :: y :: rest => .branch x.limit (x.limit + half) (o.add (x.data o) (y.data o)) x y :: pairUp o half rest

/-- `for len(nodes) > 1 { halfNode *= 2; … }` -/
def buildF (o : Ops R G) : Nat → Nat → List (Node G) → List (Node G)
  | 0, _, ns => ns
  | fuel + 1, half, ns => if ns.length > 1 then buildF o fuel (half * 2) (pairUp o (half * 2) ns) else ns

namespace Tree

/-- `Load(leaves)`; `kvs` is the content of the map sorted by key (the Go code sorts the keys itself).
    No leaves: the tree is reset to its empty state (the original code returned without touching the tree, which left
    a rolled-back first transaction in the in-memory trees — repaired in /repo, see known_findings.json). -/
def load (o : Ops R G) (loadEmptyResets : Bool) (t : Tree G) (kvs : List (Nat × G)) : Tree G :=
  match kvs with
  | [] => if loadEmptyResets then Tree.new o t.leafSize else t
  | (k0, _) :: _ =>
    match buildF o kvs.length k0 (kvs.map fun kv => Node.leaf kv.1 (kv.1 + k0) kv.2) with
    | [r] => { root := r, leafSize := 2 * k0, treeSize := r.limit, dirty := [], orphaned := [] }
    | _ => t

/-- the descent of `Replace` from `next = n`: creates missing right branches on the way; `some` = the leaf was
    reached and replaced, `none` in the third component = a leaf with `clock >= limitLC` was reached (caller reRoots). -/
def replaceF (o : Ops R G) (ls : Nat) (clock : Nat) (d : G) : Nat → Node G → Node G × List Nat × Bool
  | 0, n => (n, [], false)
  | _ + 1, .nil => (.nil, [], false)
  | _ + 1, .leaf s l old => if clock ≥ l then (.leaf s l old, [], false) else (.leaf s l d, [s], true)
  | fuel + 1, .branch s l bd left right =>
    if clock < s then
      let r := replaceF o ls clock d fuel left
      (.branch s l bd r.1 right, r.2.1, r.2.2)
    else
      match right with
      | .nil =>
        let nb := newBranch o ls s l
        let r := replaceF o ls clock d fuel nb.1
        (.branch s l bd left r.1, nb.2 ++ r.2.1, r.2.2)
      | _ =>
        let r := replaceF o ls clock d fuel right
        (.branch s l bd left r.1, r.2.1, r.2.2)

/-- `Replace(clock, data)`: descend; on a too-small tree reRoot and start again; then `rebuild` -/
def replaceLoop (o : Ops R G) (clock : Nat) (d : G) : Nat → Tree G → Tree G
  | 0, t => t
  | fuel + 1, t =>
    let r := replaceF o t.leafSize clock d (t.treeSize + 1) t.root
    let t1 := { t with root := r.1, dirty := t.dirty ++ r.2.1 }
    if r.2.2 then { t1 with root := t1.root.rebuild o }
    else replaceLoop o clock d fuel (reRoot o t1)

def replace (o : Ops R G) (t : Tree G) (clock : Nat) (d : G) : Tree G :=
  replaceLoop o clock d (clock + 2) t

end Tree

/-- the Go arithmetic of `reRoot` on `uint32`: `treeSize *= 2` -/
def reRoot32 (treeSize : BitVec 32) : BitVec 32 := treeSize * 2

end Nuts.C08
