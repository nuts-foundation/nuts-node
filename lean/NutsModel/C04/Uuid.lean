/-
  C04 (deepening round 2026-09-28) — the grammar of the token id: `uuid.Parse` and `uuid.Validate` of github.com/google/uuid
  v1.6.0; tokenV2 `bestPracticesCheck` applies one of them (regenerated fact `jtiFunction`) to the `jti` claim ("Ensure JTI
  is a UUID").  `uuidParse` mirrors the Go switch on `len(s)`:

      36      xxxxxxxx-xxxx-xxxx-xxxx-xxxxxxxxxxxx
      36 + 9  urn:uuid: (strings.EqualFold) + the 36 form
      36 + 2  `s = s[1:]` then the 36 form — the library checks NEITHER the first NOR the last byte (braces are assumed)
      32      32 hex digits
      other   error

  Strings are byte lists. Core Lean only.
-/
import NutsModel.C04.HttpGuard

namespace Nuts.C04

def dashAt (s : Str) (i : Nat) : Bool := s[i]? = some '-'

/-- `xtob(s[i], s[i+1])` succeeds: both bytes are hex digits (either case) -/
def hexPairAt (s : Str) (i : Nat) : Bool :=
  match s[i]?, s[i + 1]? with
  | some a, some b => isHex a && isHex b
  | _, _ => false

/-- the offsets of the 16 hex pairs in the dashed form -/
def uuidHexOffsets : List Nat := [0, 2, 4, 6, 9, 11, 14, 16, 19, 21, 24, 26, 28, 30, 32, 34]

/-- the tail of `uuid.Parse`: `s` (at least 36 bytes) has dashes at 8, 13, 18, 23 and hex pairs at the 16 offsets.
    Bytes from offset 36 on are not looked at. -/
def parseDashed (s : Str) : Bool :=
  dashAt s 8 && dashAt s 13 && dashAt s 18 && dashAt s 23 && uuidHexOffsets.all (hexPairAt s)

/-- `strings.EqualFold(a, "urn:uuid:")` — none of these letters has a non-ASCII case fold -/
def isUrnPrefix (a : Str) : Bool := a.map toLowerC = "urn:uuid:".toList

def uuidParse (s : Str) : Bool :=
  if s.length = 36 then parseDashed s
  else if s.length = 36 + 9 then isUrnPrefix (s.take 9) && parseDashed (s.drop 9)
  else if s.length = 36 + 2 then parseDashed (s.drop 1)
  else if s.length = 32 then (List.range 16).all (fun i => hexPairAt s (2 * i))
  else false

/-- `uuid.Validate` of the same library: the same grammar, but the 38-byte form must really be `{` … `}` -/
def uuidValidate (s : Str) : Bool :=
  if s.length = 36 then parseDashed s
  else if s.length = 36 + 9 then isUrnPrefix (s.take 9) && parseDashed (s.drop 9)
  else if s.length = 36 + 2 then s.head? = some '{' && s.getLast? = some '}' && parseDashed (s.drop 1)
  else if s.length = 32 then (List.range 16).all (fun i => hexPairAt s (2 * i))
  else false

/-- which library function `bestPracticesCheck` applies to the jti (REGENERATED FACT `jtiFunction`) -/
inductive JtiFn where
  | parse
  | validate
  deriving Repr, DecidableEq

def jtiOK : JtiFn → Str → Bool
  | .parse, s => uuidParse s
  | .validate, s => uuidValidate s

/-- the canonical 36-byte text: five hex groups 8-4-4-4-12 joined by `-` -/
def isCanonicalUuid (s : Str) : Bool := s.length = 36 && parseDashed s

end Nuts.C04
