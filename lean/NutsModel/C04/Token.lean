/-
  C04 / C17 — decision function of /repo/http/tokenV2/middleware.go `checkConnectionAuthorization`
  (after the skipper did not skip), in code order:
    authenticationCredential -> credentialIsSecure -> key loop { jwt.ParseString(WithKeySet) ; jwt.Validate(aud) ;
    bestPracticesCheck ; issuer == key comment } -> accessGranted | unauthorizedError.

  jwx (JWS parsing, signature verification with a key set, claim parsing) and uuid.Validate are NOT modelled: their
  verdicts on the concrete credential are data (`Analysis`), produced by the harness with the real libraries.
  Constants and lists come from the regenerated facts (`Policy`). Core Lean only.
-/
import NutsModel.C04.HttpGuard

namespace Nuts.C04

/-- protected headers of one signature, as read by `credentialIsSecure` -/
structure SigHdr where
  alg : String
  hdrs : List String      -- which of jwk / jku / x5c / x5u are present (non-nil / non-empty)
  deriving Repr, DecidableEq

structure Claims where
  jti : Option Bool             -- present?; verdict of uuid.Validate(tokenJTI(token))
  iat : Option Int              -- present?; unix seconds
  nbf : Option Int
  exp : Option Int
  aud : Option (List String)
  iss : Option String
  sub : Option String
  deriving Repr, DecidableEq

/-- what the real libraries say about the credential string -/
structure Analysis where
  parses : Bool                 -- jws.ParseString(credential) succeeded
  sigs : List SigHdr            -- message.Signatures()
  verifies : List Bool          -- per authorised key (file order): jwt.ParseString(credential, WithKeySet(key set)) succeeded
                                --   and credentialAlgorithmFitsKey (an ECDSA key only with the algorithm of its curve)
  claims : Claims               -- claims of the payload (meaningful when some key verified)
  deriving Repr, DecidableEq

inductive SigRule where
  | atLeastOne                  -- `secureSignatureCount > 0`
  | exactlyOne                  -- `len(message.Signatures()) != 1` is rejected
  deriving Repr, DecidableEq

/-- constants and lists of the source (regenerated) -/
structure Policy where
  maxCredLen : Nat
  acceptableAlgs : List String
  forbiddenHdrs : List String
  sigRule : SigRule
  mandatory : List String
  maxLifetimeMin : Int
  expMustBePositive : Bool      -- bestPracticesCheck rejects `exp.Unix() <= 0` (jwt.Validate skips exp = 0)
  deriving Repr, DecidableEq

structure AuthKey where
  comment : String
  deriving Repr, DecidableEq

/-! ### authenticationCredential -/

def isSpace (c : Char) : Bool := c = ' ' || c = '\t' || c = '\n' || c = '\r' || c.toNat = 0x0b || c.toNat = 0x0c

/-- number of bytes of the white-space character (unicode.IsSpace, UTF-8 encoded) at the head of the byte string, 0 if the
    head is not white space: ASCII space/TAB/LF/VT/FF/CR; U+0085, U+00A0 (C2 85 / C2 A0); U+1680 (E1 9A 80);
    U+2000–U+200A, U+2028, U+2029, U+202F (E2 80 80–8A / A8 / A9 / AF); U+205F (E2 81 9F); U+3000 (E3 80 80) -/
def spaceLen : Str → Nat
  | [] => 0
  | c :: r =>
    if isSpace c then 1
    else match c.toNat, r with
      | 0xC2, d :: _ => if d.toNat = 0x85 || d.toNat = 0xA0 then 2 else 0
      | 0xE1, d :: e :: _ => if d.toNat = 0x9A && e.toNat = 0x80 then 3 else 0
      | 0xE2, d :: e :: _ =>
        if d.toNat = 0x80 && ((0x80 ≤ e.toNat && e.toNat ≤ 0x8A) || e.toNat = 0xA8 || e.toNat = 0xA9 || e.toNat = 0xAF) then 3
        else if d.toNat = 0x81 && e.toNat = 0x9F then 3 else 0
      | 0xE3, d :: e :: _ => if d.toNat = 0x80 && e.toNat = 0x80 then 3 else 0
      | _, _ => 0

/-- `strings.Fields`: split around runs of white space. `skip` = bytes of a multi-byte space still to drop. -/
def fieldsAux : Nat → Str → Str → List Str
  | _, cur, [] => if cur = [] then [] else [cur.reverse]
  | skip + 1, cur, _ :: r => fieldsAux skip cur r
  | 0, cur, c :: r =>
    match spaceLen (c :: r) with
    | 0 => fieldsAux 0 (c :: cur) r
    | n + 1 => if cur = [] then fieldsAux n [] r else cur.reverse :: fieldsAux n [] r

def fields (s : Str) : List Str := fieldsAux 0 [] s

/-- the bearer credential of an `Authorization` header value, `[]` when missing/malformed -/
def authenticationCredential (hdr : Str) : Str :=
  match fields hdr with
  | [scheme, cred] => if scheme.map toLowerC = "bearer".toList then cred else []
  | _ => []

/-! ### credentialIsSecure -/

def sigSecure (P : Policy) (s : SigHdr) : Bool :=
  P.acceptableAlgs.contains s.alg && !(P.forbiddenHdrs.any (fun h => s.hdrs.contains h))

def sigCountOK (P : Policy) (n : Nat) : Bool :=
  match P.sigRule with
  | .atLeastOne => n > 0
  | .exactlyOne => n = 1

def credentialIsSecure (P : Policy) (credLen : Nat) (a : Analysis) : Bool :=
  credLen ≤ P.maxCredLen && a.parses && a.sigs.all (sigSecure P) && sigCountOK P a.sigs.length

/-! ### jwt.Validate(token, WithAudience(aud)) : jwx default validators, truncation 1 s, no skew -/

def timeSet (t : Option Int) : Option Int :=     -- `tv.IsZero() || tv.Unix() == 0` => the check is skipped
  match t with
  | some v => if v = 0 then none else some v
  | none => none

def validate (audience : String) (now : Int) (c : Claims) : Bool :=
  (match timeSet c.iat with | some t => !(now < t) | none => true) &&
  (match timeSet c.exp with | some t => now < t | none => true) &&
  (match timeSet c.nbf with | some t => !(now < t) | none => true) &&
  (match c.aud with | some l => l.contains audience | none => false)

/-! ### bestPracticesCheck -/

def claimPresent (c : Claims) (name : String) : Bool :=
  match name with
  | "jti" => c.jti.isSome | "iat" => c.iat.isSome | "exp" => c.exp.isSome | "nbf" => c.nbf.isSome
  | "aud" => c.aud.isSome | "iss" => c.iss.isSome | "sub" => c.sub.isSome
  | _ => false        -- a mandatory field the model does not know: nothing passes (forces a model update)

def bestPractices (P : Policy) (c : Claims) : Bool :=
  P.mandatory.all (claimPresent c) &&
  (c.jti = some true) &&
  (match c.exp, c.nbf, c.iat with
   | some e, some n, some i =>
     !(e > n + P.maxLifetimeMin * 60) && !(e > i + P.maxLifetimeMin * 60) && !(i > n) &&
     (!P.expMustBePositive || e > 0)
   | _, _, _ => false) &&
  (match c.sub with | some s => s ≠ "" | none => false)

/-! ### the key loop and the decision -/

def keyLoop (P : Policy) (audience : String) (now : Int) (c : Claims) : List (AuthKey × Bool) → Decision
  | [] => .denied
  | (k, v) :: rest =>
    if !v then keyLoop P audience now c rest
    else if !validate audience now c then .denied
    else if !bestPractices P c then .denied
    else match c.iss with
      | some iss => if k.comment = iss then .granted iss else .denied
      | none => .denied

def tokenDecision (P : Policy) (audience : String) (keys : List AuthKey) (now : Int) (hdr : Str) (a : Analysis) : Decision :=
  let cred := authenticationCredential hdr
  if cred = [] then .denied
  else if !credentialIsSecure P cred.length a then .denied
  else keyLoop P audience now a.claims (keys.zip a.verifies)

/-! ### authorized_keys.go : which lines of the file become authorised keys -/

inductive KeyKind where
  | rsa (bits : Nat)
  | ecdsa
  | ed25519
  | other            -- any other ssh key type (ssh-dss, sk-…): keyIsSecure says no
  deriving Repr, DecidableEq

def keyIsSecure (minRSA : Nat) : KeyKind → Bool
  | .rsa bits => bits ≥ minRSA
  | .ecdsa => true
  | .ed25519 => true
  | .other => false

/-- what golang.org/x/crypto/ssh.ParseAuthorizedKey says about the pre-processed text of a line (data) -/
inductive SshVerdict where
  | error                                   -- "no key found" / unparsable: parseAuthorizedKeys fails as a whole
  | key (kind : KeyKind) (comment : String) -- key type and strings.TrimSpace of the comment field
  deriving Repr, DecidableEq

/-- one line of the file: its bytes, and the ssh parser's verdict on `preprocess raw` (meaningful when that is non-empty) -/
structure KeyLine where
  raw : Str
  verdict : SshVerdict
  deriving Repr, DecidableEq

/-- `strings.SplitN(line, "#", 2)[0]` : everything before the first `#` -/
def beforeHash : Str → Str
  | [] => []
  | c :: r => if c = '#' then [] else c :: beforeHash r

def isBlankC (c : Char) : Bool := c = ' ' || c = '\t'

def trimBlankL : Str → Str
  | [] => []
  | c :: r => if isBlankC c then trimBlankL r else c :: r

/-- `strings.TrimLeft(…, " \t")` then `strings.TrimRight(…, " \t")` -/
def trimBlank (s : Str) : Str := (trimBlankL (trimBlankL s).reverse).reverse

/-- the text of a line that is handed to the ssh parser: the part before the first `#`, blanks and tabs trimmed -/
def preprocess (raw : Str) : Str := trimBlank (beforeHash raw)

/-- the authorised keys, in file order: lines whose pre-processed text is non-empty, parses, carries a secure key and a
    non-empty user name; `none` = parseAuthorizedKeys returns an error (some pre-processed text does not parse) -/
def authorizedKeysOf (minRSA : Nat) : List KeyLine → Option (List AuthKey)
  | [] => some []
  | l :: rest =>
    if preprocess l.raw = [] then authorizedKeysOf minRSA rest
    else match l.verdict with
      | .error => none
      | .key kind comment =>
        if !keyIsSecure minRSA kind then authorizedKeysOf minRSA rest
        else if comment = "" then authorizedKeysOf minRSA rest
        else (authorizedKeysOf minRSA rest).map ({ comment := comment } :: ·)

/-! ### engine.go applyAuthMiddleware : what each configured auth type leads to -/

inductive AuthSetup where
  | noAuth        -- `case "":` nothing installed
  | tokenV2       -- middleware installed
  | error         -- Configure fails (unknown type / unreadable or unparsable authorized_keys)
  deriving Repr, DecidableEq

def configureAuth (typ : String) (keysFileOK : Bool) : AuthSetup :=
  if typ = "" then .noAuth
  else if typ = "token_v2" then (if keysFileOK then .tokenV2 else .error)
  else .error

/-! ### the middleware over a HISTORY of requests. `middlewareImpl` holds audience, authorised keys and skipper and nothing
      else (regenerated facts: fields, value receivers, no call on anything it holds): its state never changes. -/

structure TokReq where
  now : Int
  hdr : Str
  a : Analysis

structure MwState where
  audience : String
  keys : List AuthKey
  deriving Repr, DecidableEq

/-- one request: the decision and the state afterwards -/
def mwStep (P : Policy) (s : MwState) (r : TokReq) : MwState × Decision :=
  (s, tokenDecision P s.audience s.keys r.now r.hdr r.a)

/-- a history of requests on one instance: the decisions, in order -/
def mwRun (P : Policy) : MwState → List TokReq → List Decision
  | _, [] => []
  | s, r :: rest => let (s', d) := mwStep P s r; d :: mwRun P s' rest

end Nuts.C04
