/-
  C18 (deepening round) — the STATEFUL core of the node-wide HTTP response cache that did:web resolution goes through
  (http/client/caching.go: responseCache.get / insert / removeExpiredEntries / pop, CachingRoundTripper.RoundTrip /
  cacheResponse), as REPAIRED by /repo commit b991549 (before: `insert` replaced the head of the expiry list whenever its
  scan did not advance, orphaning the old head in `entriesByURL`/`currentSizeBytes` for ever, and the make-room loop
  `for size+len >= max { pop() }` span for ever once the list was empty — `RCacheOld.lean` keeps that code, `Props/C18.lean`
  the witnesses).  The Go control flow is mirrored statement by statement; every loop is a structural recursion over
  the expiry list (the calls terminate).  Pointer identity of `*cacheEntry` = `id` (allocation order).  `entriesByURL` (map URL-string -> slice) is kept flattened in append order: the slice of a key is the
  sub-list with that key, in order.  Time is an `Int` (any unit), `Before` is `<`.  Core Lean only.
-/
import NutsModel.C18.Cache

namespace Nuts.C18

structure CEntry where
  id : Nat
  key : Bytes          -- requestURL.String()
  method : Bytes       -- requestMethod
  query : Bytes        -- requestRawQuery
  size : Nat           -- len(responseData)
  exp : Int            -- expirationTime
  deriving Repr, DecidableEq, Inhabited

structure RCache where
  maxBytes : Int
  size : Int := 0                 -- currentSizeBytes
  list : List CEntry := []        -- head, head.next, ...
  all : List CEntry := []         -- entriesByURL, flattened
  nextId : Nat := 0
  deriving Repr, DecidableEq, Inhabited

/-- `append(entries[:i], entries[i+1:]...)` for the first `entry == h.head` within `entriesByURL[h.head.requestURL.String()]` -/
def eraseEntry (h : CEntry) : List CEntry → List CEntry
  | [] => []
  | e :: es => if e.key = h.key ∧ e.id = h.id then es else e :: eraseEntry h es

/-- `pop` -/
def RCache.pop (c : RCache) : RCache :=
  match c.list with
  | [] => c
  | h :: t => { c with all := eraseEntry h c.all, size := c.size - (h.size : Int), list := t }

/-- `for h.head != nil && cond(h.head, h.currentSizeBytes) { h.pop() }` on the three fields `pop` touches: the shape of
    both loops of the cache (prune expired entries; make room).  Structural in the list: it terminates. -/
def popWhile (p : CEntry → Int → Bool) : List CEntry → List CEntry → Int → List CEntry × List CEntry × Int
  | [], all, size => ([], all, size)
  | h :: t, all, size => if p h size then popWhile p t (eraseEntry h all) (size - (h.size : Int)) else (h :: t, all, size)

def RCache.popWhile (c : RCache) (p : CEntry → Int → Bool) : RCache :=
  let r := Nuts.C18.popWhile p c.list c.all c.size
  { c with list := r.1, all := r.2.1, size := r.2.2 }

/-- `removeExpiredEntries`: `for current != nil { if current.expirationTime.Before(now) { current = h.pop() } else break }` -/
def RCache.removeExpired (c : RCache) (now : Int) : RCache := c.popWhile (fun h _ => h.exp < now)

/-- `get`: prune, then the first entry of the URL's slice with the request's method and raw query -/
def RCache.get (c : RCache) (now : Int) (key method query : Bytes) : RCache × Option CEntry :=
  let c' := c.removeExpired now
  (c', (c'.all.filter (fun e => e.key = key)).find? (fun e => e.method = method ∧ e.query = query))

/-- `for h.head != nil && h.currentSizeBytes+len(entry.responseData) > h.maxBytes { _ = h.pop() }` -/
def RCache.makeRoom (c : RCache) (need : Int) : RCache := c.popWhile (fun _ size => size + need > c.maxBytes)

/-- `for current.next != nil && current.next.expirationTime.Before(entry.expirationTime) { current = current.next }`,
    then `entry.next = current.next; current.next = entry` — the argument is `current.next` -/
def linkAfter (e : CEntry) : List CEntry → List CEntry
  | [] => [e]
  | x :: xs => if x.exp < e.exp then x :: linkAfter e xs else e :: x :: xs

/-- the linked-list part of `insert`: new head when the list is empty or the entry expires before the head -/
def linkIn (e : CEntry) : List CEntry → List CEntry
  | [] => [e]
  | h :: t => if e.exp < h.exp then e :: h :: t else h :: linkAfter e t

/-- `insert` (the entry gets the next pointer identity whether or not it is kept).  A total function: it returns. -/
def RCache.insert (c : RCache) (key method query : Bytes) (size : Nat) (exp : Int) : RCache :=
  let e : CEntry := { id := c.nextId, key := key, method := method, query := query, size := size, exp := exp }
  let c := { c with nextId := c.nextId + 1 }
  if (size : Int) > c.maxBytes then c else
  let c' := c.makeRoom size
  { c' with list := linkIn e c'.list, all := c'.all ++ [e], size := c'.size + (size : Int) }

/-- what the wrapped transport (and `cachecontrol.CachableResponse` on its answer) said: library verdicts -/
inductive Inner where
  | fail                                          -- transport error
  | resp (size : Nat) (cacheable : Option Int)    -- body length; `some t` = no reasons against caching, expiry `t`
  deriving Repr, DecidableEq, Inhabited

inductive RTOut where
  | hit (e : CEntry) | net (stored : Bool) | netErr
  deriving Repr, DecidableEq, Inhabited

def sGET : Bytes := [71, 69, 84]

/-- the miss path of `RoundTrip`: wrapped transport, then `cacheResponse`; `maxCache` = `maxCacheTime` in the caller's time unit -/
def RCache.rtMiss (c1 : RCache) (now maxCache : Int) (key method query : Bytes) (inner : Inner) : RCache × RTOut :=
  match inner with
  | .fail => (c1, .netErr)
  | .resp size cacheable =>
    if method ≠ sGET then (c1, .net false) else
    match cacheable with
    | none => (c1, .net false)
    | some t =>
      let t' := if t > now + maxCache then now + maxCache else t
      let c2 := c1.insert key method query size t'
      (c2, .net (c2.all.any (fun e => e.id = c1.nextId)))

/-- `CachingRoundTripper.RoundTrip` -/
def RCache.roundTrip (c : RCache) (now maxCache : Int) (key method query : Bytes) (inner : Inner) : RCache × RTOut :=
  if method = sGET then
    match c.get now key method query with
    | (c1, some e) => (c1, .hit e)
    | (c1, none) => c1.rtMiss now maxCache key method query inner
  else c.rtMiss now maxCache key method query inner

/-- operations of the cache as the rest of the node can drive it -/
inductive COp where
  | get (now : Int) (key method query : Bytes)
  | insert (key method query : Bytes) (size : Nat) (exp : Int)
  | pop
  | roundTrip (now maxCache : Int) (key method query : Bytes) (inner : Inner)
  deriving Repr, DecidableEq, Inhabited

/-- one operation (every call returns) -/
def RCache.step (c : RCache) : COp → RCache
  | .get now k m q => (c.get now k m q).1
  | .insert k m q s t => c.insert k m q s t
  | .pop => c.pop
  | .roundTrip now mc k m q i => (c.roundTrip now mc k m q i).1

def RCache.run (c : RCache) : List COp → RCache
  | [] => c
  | o :: os => (c.step o).run os

def RCache.new (maxBytes : Int) : RCache := { maxBytes := maxBytes }

def sumSizes (l : List CEntry) : Int := (l.map (fun e => (e.size : Int))).sum

/-- `maxCacheTime` in minutes, from the regenerated source expression -/
def maxCacheMinutes (expr : String) : Option Nat := if expr = "time.Hour" then some 60 else none

end Nuts.C18
