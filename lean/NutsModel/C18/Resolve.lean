/-
  C18 — model of did:web resolution (vdr/didweb/web.go Resolve) through http/client.StrictHTTPClient and
  net/http's redirect loop (Client.do), the method router (vdr/resolver/did.go DIDResolverRouter), the
  local-first chain (vdr/vdr.go, ChainedDIDResolver) and deactivation (vdr/didsubject/resolver.go).
  The server is an arbitrary function of (hop number, request): adversarial.  The redirect policy is a record
  computed from regenerated facts.  Core Lean only.
-/
import NutsModel.C18.DidWeb

namespace Nuts.C18

/-- what the transport is asked to fetch -/
structure Req where
  scheme : Bytes
  host : Bytes
  path : Bytes        -- EscapedPath()
  user : Bool := false
  query : Bytes := []
  deriving Repr, DecidableEq, Inhabited

inductive Body where
  | doc (idStr : Bytes)     -- a JSON object whose "id" member is this string
  | raw (parsedID : Option Bytes)  -- arbitrary JSON text; the id go-did's Document parser reads from it (none = rejected): library verdict
  | badjson | big | empty
  deriving Repr, DecidableEq, Inhabited

structure Resp where
  status : Nat
  mediaType : Option Bytes := none   -- result of mime.ParseMediaType on the Content-Type header (none = error); harness data
  loc : Bytes := []                  -- Location header ("" = absent)
  body : Body := .empty
  deriving Repr, DecidableEq, Inhabited

/-- the redirect policy of the http.Client that did:web resolution uses (from regenerated facts) -/
structure Policy where
  /-- http/client: CheckRedirect refuses a non-https target while StrictMode is on -/
  strictHttpsRedirect : Bool
  /-- vdr/didweb: a redirect to another host (or away from https) is refused -/
  sameOriginRedirect : Bool
  maxRedirects : Nat := 10
  deriving Repr, DecidableEq

def sHttp : Bytes := [104, 116, 116, 112]

def isRedirect (st : Nat) : Bool := st = 301 || st = 302 || st = 303 || st = 307 || st = 308

def hasDotSeg (p : Bytes) : Bool := (splitOn cSlash p).any fun s => s = [cDot] || s = [cDot, cDot]

/-- `req.URL.Parse(loc)` = Parse + ResolveReference, for absolute URLs, scheme-relative and absolute-path references
    without dot segments (what the generator produces; anything else is reported as unmodelled, never guessed) -/
def redirectTarget (cur : Req) (loc : Bytes) : Res Req :=
  match parseURL loc with
  | .err _ => .err "http:location"
  | .panic p => .panic p
  | .ok ref =>
    let p := escapedPath ref
    if hasDotSeg p then .err "unmodelled:dot-segment-location" else
    if ref.opaq ≠ [] then .err "unmodelled:opaque-location" else
    match setPath ref p with
    | .ok r =>
      if ref.scheme ≠ [] || ref.host ≠ [] || ref.hasUser then
        .ok { scheme := if ref.scheme = [] then cur.scheme else ref.scheme, host := ref.host, path := escapedPath r,
              user := ref.hasUser, query := ref.rawQuery }
      else if ref.path = [] then .err "unmodelled:empty-path-location"
      else if !hasPrefix [cSlash] ref.path then .err "unmodelled:relative-path-location"
      else .ok { scheme := cur.scheme, host := cur.host, path := escapedPath r, user := cur.user, query := ref.rawQuery }
    | .err e => .err e
    | .panic p => .panic p

/-- the client's CheckRedirect decision for the next request `nxt`, `first` being the original request and `n` the
    number of requests already made -/
def checkRedirect (pol : Policy) (strict : Bool) (first nxt : Req) (n : Nat) : Res Unit :=
  if pol.strictHttpsRedirect && strict && nxt.scheme ≠ sHttps then .err "http:redirect-refused" else
  if n ≥ pol.maxRedirects then .err "http:too-many-redirects" else
  if pol.sameOriginRedirect && (nxt.scheme ≠ first.scheme || nxt.host ≠ first.host) then .err "http:redirect-refused" else .ok ()

/-- `http.Client.do`: requests made (in order) and the final response -/
def clientLoop (pol : Policy) (strict : Bool) (srv : Nat → Req → Option Resp) (first : Req) :
    Nat → List Req → Req → List Req × Res Resp
  | 0, reqs, _ => (reqs, .err "unmodelled:fuel")
  | fuel + 1, reqs, cur =>
    let reqs' := reqs ++ [cur]
    match srv reqs.length cur with
    | none => (reqs', .err "http:transport")
    | some resp =>
      if !isRedirect resp.status then (reqs', .ok resp) else
      if resp.loc = [] then (reqs', .ok resp) else
      match redirectTarget cur resp.loc with
      | .err e => (reqs', .err e)
      | .panic p => (reqs', .panic p)
      | .ok nxt =>
        match checkRedirect pol strict first nxt reqs'.length with
        | .err e => (reqs', .err e)
        | .panic p => (reqs', .panic p)
        | .ok () => clientLoop pol strict srv first fuel reqs' nxt

/-- `StrictHTTPClient.Do` -/
def strictDo (pol : Policy) (strict : Bool) (srv : Nat → Req → Option Resp) (req : Req) : List Req × Res Resp :=
  if strict && req.scheme ≠ sHttps then ([], .err "http:strict") else
  match clientLoop pol strict srv req (pol.maxRedirects + 2) [] req with
  | (reqs, .ok resp) => if resp.body = .big then (reqs, .err "http:toolarge") else (reqs, .ok resp)
  | r => r

/-- the request `Resolve` builds from the URL `DIDToURL` returned (Path gets "/did.json" or "/.well-known/did.json";
    `String()` then `http.NewRequest` re-parse it) -/
def firstReq (u : URL) : Req :=
  { scheme := u.scheme, host := removeEmptyPort u.host,
    path := escapePath (if u.path = [] then sWellKnown ++ sDidJson else u.path ++ sDidJson),
    user := u.hasUser, query := u.rawQuery }

/-- `didweb.Resolver.Resolve`: requests made, and the returned document's id (as a string) or the error.
    `dec` = percentDecodeChar set, `cts` = accepted media types (both regenerated facts). -/
def resolveWeb (dec : List Nat) (cts : List Bytes) (pol : Policy) (strict : Bool) (d : DID)
    (srv : Nat → Req → Option Resp) : List Req × Res Bytes :=
  if d.method ≠ sWeb then ([], .err "notweb") else
  match didToURL dec d with
  | .err e => ([], .err ("d2u:" ++ e))
  | .panic p => ([], .panic p)
  | .ok u =>
    match strictDo pol strict srv (firstReq u) with
    | (reqs, .err e) => (reqs, .err e)
    | (reqs, .panic p) => (reqs, .panic p)
    | (reqs, .ok resp) =>
      if !(200 ≤ resp.status && resp.status < 300) then (reqs, .err "status") else
      match resp.mediaType with
      | none => (reqs, .err "ct-invalid")
      | some ct =>
        if !cts.contains ct then (reqs, .err "ct-unsupported") else
        match resp.body with
        | .doc idStr =>
          match parseDID idStr with
          | .ok docID => if docID.str = d.str then (reqs, .ok docID.str) else (reqs, .err "id-mismatch")
          | _ => (reqs, .err "json")
        | .raw (some pid) =>
          -- the id compared is the id of the document that is returned (`document.ID`), whatever other members the text has
          if pid = d.str then (reqs, .ok pid) else (reqs, .err "id-mismatch")
        | _ => (reqs, .err "json")

/-! ### method router, local-first chain, deactivation -/

/-- what `didsubject.Resolver` finds in the node's SQL store for a DID -/
inductive LocalState where
  | absent | active | deactivated | dbError
  | noActiveController     -- did:nuts: the document names controllers, none of which resolves to an active document
  deriving Repr, DecidableEq, Inhabited

structure ResolveResult where
  docID : Bytes
  deactivated : Bool := false
  deriving Repr, DecidableEq, Inhabited

/-- SQL store (did_document_version): the latest version decides; a version is active iff it has keys
    (`IsDeactivated`: no controller and no capabilityInvocation). `hist` = versions oldest first, `true` = active. -/
def sqlState (hist : List Bool) : LocalState :=
  match hist.getLast? with
  | none => .absent
  | some true => .active
  | some false => .deactivated

/-- did:nuts store (vdr/didnuts/didstore, modelled in C10): deactivation is permanent (`C10.Props.deactivated_monotone`) -/
def nutsStateOf (hist : List Bool) : LocalState :=
  if hist = [] then .absent else if hist.all id then .active else .deactivated

/-- did:nuts with controllers (vdr/didnuts/resolver.go): `orphanedLast` = the latest version has no key of its own and
    no active controller -/
def nutsStateOf' (hist : List Bool) (orphanedLast : Bool) : LocalState :=
  match nutsStateOf hist with
  | .active => if orphanedLast then .noActiveController else .active
  | s => s

/-- `didsubject.Resolver.Resolve` -/
def resolveLocal (st : LocalState) (allowDeactivated : Bool) (d : DID) : Res ResolveResult :=
  match st with
  | .absent => .err "not-found"
  | .dbError => .err "db"
  | .active => .ok { docID := d.str }
  | .deactivated => if allowDeactivated then .ok { docID := d.str, deactivated := true } else .err "deactivated"
  | .noActiveController => if allowDeactivated then .ok { docID := d.str } else .err "deactivated"   -- ErrNoActiveController

def sJwk : Bytes := [106, 119, 107]
def sKey : Bytes := [107, 101, 121]
def sNuts : Bytes := [110, 117, 116, 115]
def sX509 : Bytes := [120, 53, 48, 57]

/-- the node as far as resolution is concerned -/
structure Node where
  didMethods : List Bytes                 -- config `didmethods`
  localState : DID → LocalState           -- SQL store (did_document_version), by DID
  keyDecodes : DID → Bool                 -- did:jwk / did:key: does the identifier decode to a supported public key (library verdict)
  nutsState : DID → LocalState            -- did:nuts store (C10 models its content; here: present / deactivated)

/-- `Module.Resolver().Resolve(id, &ResolveMetadata{AllowDeactivated})`: DIDResolverRouter, then for did:web the
    chain [owned (SQL), web]; `localFirst` is the regenerated order of that chain (true = local store first). -/
def resolve (dec : List Nat) (cts : List Bytes) (pol : Policy) (localFirst : Bool) (strict : Bool) (n : Node)
    (allowDeactivated : Bool) (d : DID) (srv : Nat → Req → Option Resp) : List Req × Res ResolveResult :=
  let web : List Req × Res ResolveResult :=
    match resolveWeb dec cts pol strict d srv with
    | (reqs, .ok id) => (reqs, .ok { docID := id })
    | (reqs, .err e) => (reqs, .err e)
    | (reqs, .panic p) => (reqs, .panic p)
  if d.method = sWeb then
    if !n.didMethods.contains sWeb then ([], .err "method-not-supported") else
    if localFirst then
      -- ChainedDIDResolver: only ErrNotFound (= the store has no such DID) moves on to the next resolver
      match n.localState d with
      | .absent => web
      | st => ([], resolveLocal st allowDeactivated d)
    else web   -- the web resolver never returns ErrNotFound: a web-first chain would never consult the store
  else if d.method = sJwk || d.method = sKey then
    ([], if n.keyDecodes d then .ok { docID := d.str } else .err "invalid-key")
  else if d.method = sNuts then
    if !n.didMethods.contains sNuts then ([], .err "method-not-supported") else
    ([], resolveLocal (n.nutsState d) allowDeactivated d)
  else if d.method = sX509 then ([], .err "x509")   -- only the path without a certificate chain in the metadata: refused, no I/O
  else ([], .err "method-not-supported")

end Nuts.C18
